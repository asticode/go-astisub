/-!
# Go/Strings — executable models of the `strings`/`unicode` functions the package leans on

Strings are `List Char` (valid UTF-8 text). Each function states which Go function it models.
They are validated against the real functions by the `lib.str` correspondence stream; lemmas
about them live in `Lemmas/StrList.lean` (`splitC`/`trimSpace` on separator-free strings in `Lemmas/Str.lean`).
-/

namespace Astisub
namespace Go

abbrev Str := List Char

/-- `unicode.IsSpace` -/
def isSpace (c : Char) : Bool :=
  let n := c.toNat
  n == 0x20 || (0x09 ≤ n && n ≤ 0x0D) || n == 0x85 || n == 0xA0 || n == 0x1680 ||
  (0x2000 ≤ n && n ≤ 0x200A) || n == 0x2028 || n == 0x2029 || n == 0x202F || n == 0x205F || n == 0x3000

def trimLeft (s : Str) : Str := s.dropWhile isSpace
def trimRight (s : Str) : Str := (s.reverse.dropWhile isSpace).reverse

/-- `strings.TrimSpace` -/
def trimSpace (s : Str) : Str := trimRight (trimLeft s)

/-- `strings.TrimLeftFunc(s, unicode.IsSpace)` -/
def trimLeftSpace (s : Str) : Str := trimLeft s

/-- `strings.Split(s, string(c))` for a one-character separator -/
def splitC (c : Char) : Str → List Str
  | [] => [[]]
  | x :: xs =>
    if x = c then [] :: splitC c xs
    else match splitC c xs with
      | [] => [[x]]
      | h :: t => (x :: h) :: t

/-- `strings.HasPrefix`; returns the rest after the prefix -/
def dropPrefix? : Str → Str → Option Str
  | [], s => some s
  | _ :: _, [] => none
  | p :: ps, x :: xs => if p = x then dropPrefix? ps xs else none

def hasPrefix (p s : Str) : Bool := (dropPrefix? p s).isSome

/-- `strings.TrimPrefix` -/
def trimPrefix (p s : Str) : Str := (dropPrefix? p s).getD s

def hasSuffix (p s : Str) : Bool := hasPrefix p.reverse s.reverse

/-- `strings.Split(s, sep)` for a non-empty separator (`fuel` ≥ length of `s`) -/
def splitOnAux (sep : Str) : Nat → Str → Str → List Str
  | 0, _, acc => [acc.reverse]
  | _ + 1, [], acc => [acc.reverse]
  | fuel + 1, x :: xs, acc =>
    match dropPrefix? sep (x :: xs) with
    | some rest => acc.reverse :: splitOnAux sep fuel rest []
    | none => splitOnAux sep fuel xs (x :: acc)

def splitOn (sep : Str) (s : Str) : List Str :=
  if sep.isEmpty then s.map (fun c => [c]) else splitOnAux sep (s.length + 1) s []

/-- `strings.SplitN(s, sep, 2)` -/
def splitOnce (sep : Str) (s : Str) : List Str :=
  let rec go : Nat → Str → Str → List Str
    | 0, _, acc => [acc.reverse]
    | _ + 1, [], acc => [acc.reverse]
    | fuel + 1, x :: xs, acc =>
      match dropPrefix? sep (x :: xs) with
      | some rest => [acc.reverse, rest]
      | none => go fuel xs (x :: acc)
  if sep.isEmpty then [s] else go (s.length + 1) s []

/-- `strings.Contains` (non-empty needle) -/
def contains (sub s : Str) : Bool :=
  match s with
  | [] => sub.isEmpty
  | x :: xs => hasPrefix sub (x :: xs) || contains sub xs

/-- `strings.Fields` -/
def fieldsAux : Str → Str → List Str
  | [], acc => if acc.isEmpty then [] else [acc.reverse]
  | x :: xs, acc =>
    if isSpace x then (if acc.isEmpty then fieldsAux xs [] else acc.reverse :: fieldsAux xs [])
    else fieldsAux xs (x :: acc)

def fields (s : Str) : List Str := fieldsAux s []

/-- `strings.Join` -/
def join (sep : Str) : List Str → Str
  | [] => []
  | [a] => a
  | a :: b :: rest => a ++ sep ++ join sep (b :: rest)

/-- `strings.ToLower` restricted to ASCII (the package lower-cases section names, extensions and
    tag names; non-ASCII letters are passed through — the harness keeps those inputs ASCII) -/
def toLowerAscii (s : Str) : Str :=
  s.map fun c => if 'A' ≤ c ∧ c ≤ 'Z' then Char.ofNat (c.toNat + 32) else c

/-- `strings.ReplaceAll(s, old, new)` for non-empty `old` -/
def replaceAll (old new : Str) (s : Str) : Str := join new (splitOn old s)

/-- first pair (in argument order) whose pattern is a prefix of `s`: its replacement and the pattern length -/
def matchPair (pairs : List (Str × Str)) (s : Str) : Option (Str × Nat) :=
  pairs.findSome? fun p => if hasPrefix p.1 s then some (p.2, p.1.length) else none

/-- `strings.NewReplacer(pairs…).Replace`: scanning left to right, at each position the first pair
    (in argument order) whose pattern matches is applied and the scan resumes after the match (all
    patterns non-empty). `skip` counts the characters of the current match still to be passed. -/
def replGo (pairs : List (Str × Str)) : Str → Nat → Str
  | [], _ => []
  | _ :: xs, skip + 1 => replGo pairs xs skip
  | x :: xs, 0 =>
    match matchPair pairs (x :: xs) with
    | some (rep, n) => rep ++ replGo pairs xs (n - 1)
    | none => x :: replGo pairs xs 0

def replacer (pairs : List (Str × Str)) (s : Str) : Str := replGo pairs s 0

end Go
end Astisub
