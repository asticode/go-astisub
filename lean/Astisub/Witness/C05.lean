import Astisub.Lemmas.STLFile

/-!
# Witness/C05 — concrete inputs: a text that satisfies the hypotheses of `C05.repertoire_roundtrip`, the known findings
D22 and D23, and the repaired `teleStep` (a run is closed when its box has ended)
-/

namespace Astisub
namespace C05.Witness
open STL C05

/-- "Café ½ Ω" is a sequence of repertoire units: the hypotheses of `repertoire_roundtrip` are satisfiable
    by a text that mixes ASCII, a composed letter and upper-half symbols -/
def cafe : List Unit :=
  [charUnit (0x43, [0x43]), charUnit (0x61, [0x61]), charUnit (0x66, [0x66]), accentUnit 0xC2 0x65,
   charUnit (0x20, [0x20]), charUnit (0xBD, [0xBD]), charUnit (0x20, [0x20]), charUnit (0xE0, [0x3A9])]

theorem cafe_rep : ∀ u ∈ cafe, RepUnit u := by decide +kernel

example : cafe.flatMap (·.text) = [0x43, 0x61, 0x66, 0xE9, 0x20, 0xBD, 0x20, 0x3A9] := by decide +kernel
example : encodeText (cafe.flatMap (·.text)) = [0x43, 0x61, 0x66, 0xC2, 0x65, 0x20, 0xBD, 0x20, 0xE0] :=
  (repertoire_roundtrip cafe cafe_rep).1
example : ∀ u ∈ cafe, goodB u = true := fun u hu => (goodB_iff u).2 (repUnit_good (cafe_rep u hu))

/-- known finding D22 (`$` and `¤` are not carried, see `C05.currency_not_carried`) on a concrete text:
    "5$" is written as `35 24`, which reads back as "5¤" -/
example : decodeAll none (encodeText [0x35, 0x24]) = ([0x35, 0xA4], none) := by decide +kernel

/-- known finding D23 (the writer emits no box codes, so under the teletext display standards the library reads the
    written cues back without text) on a concrete row: without box codes the teletext row parser returns no line at all;
    with a box the text is there -/
example : (teleRow none [0x48, 0x65, 0x6C, 0x6C, 0x6F]).1 = none := by decide +kernel
example : ((teleRow none [0x0B, 0x0B, 0x48, 0x69, 0x0A, 0x0A]).1.map fun l => l.items.map (·.text)) = some [['H', 'i']] := by
  decide +kernel

/-- the repair of the teletext row parser that `Model/STL.lean` mirrors in `teleStep` ("the pending run is closed also
    when the box has ended"), on a concrete row: an attribute code after the end of the box closes the run, so a
    second box on the same row is a run of its own ("a", then "b") -/
example : ((teleRow none [0x0B, 0x61, 0x0A, 0x06, 0x0B, 0x62]).1.map fun l => l.items.map (·.text)) = some [['a'], ['b']] := by
  decide +kernel

end C05.Witness
end Astisub
