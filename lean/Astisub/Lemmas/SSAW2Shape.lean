import Astisub.Lemmas.Bytes
import Astisub.Lemmas.SSAW2Info
import Astisub.Lemmas.SSAW2Styles

/-!
# Lemmas/SSAW2Shape — the written document as the lines the decoder works on, and their grouping into sections, written down
as a `Grouped` (`sections_written`, and the headers along it: `headersOk_written`)
-/

namespace Astisub
namespace SSAW
open Go SSA SSAR List

section
open Spec.SSA (SecKind secKind sectionsAux sections splitLines)

theorem splitLines_unlines (ls : List Str) (h : ∀ l ∈ ls, OneLine l) : splitLines (unlines ls) [] = ls := by
  rw [Spec.SSA.splitLines_eq]
  exact splitLines_lfLines h

end

section
open Spec.SSA (splitLines)

/-- what `Spec.SSA.decode` does to the raw lines -/
def trimFilter (ls : List Str) : List Str := (ls.map trimSpace).filter fun l => !l.isEmpty

theorem trimFilter_append (a b : List Str) : trimFilter (a ++ b) = trimFilter a ++ trimFilter b := by
  unfold trimFilter; rw [map_append, filter_append]

theorem trimFilter_blank (ls : List Str) : trimFilter ([] :: ls) = trimFilter ls := by
  unfold trimFilter
  rw [map_cons, show trimSpace [] = [] by decide]
  rfl

theorem trimFilter_cons (l t : Str) (ls : List Str) (h : trimSpace l = t) (hne : t ≠ []) :
    trimFilter (l :: ls) = t :: trimFilter ls := by
  unfold trimFilter
  rw [map_cons, h]
  cases t with
  | nil => exact absurd rfl hne
  | cons c cs => rfl

theorem trimFilter_map {α} (f g : α → Str) : ∀ (l : List α), (∀ a ∈ l, trimSpace (f a) = g a ∧ g a ≠ []) →
    trimFilter (l.map f) = l.map g := by
  intro l
  induction l with
  | nil => intro _; rfl
  | cons a l ih =>
    intro h
    rw [map_cons, map_cons, trimFilter_cons _ _ _ (h a mem_cons_self).1 (h a mem_cons_self).2,
      ih fun x hx => h x (mem_cons_of_mem _ hx)]

theorem trimFilter_kvLines {α} (hdr : α → Str) (content : α → Str) (l : List α)
    (h : ∀ a ∈ l, HeaderOK (hdr a) ∧ Trimmed (content a)) :
    trimFilter (l.map fun a => kvLine (hdr a) (content a)) = l.map fun a => kvTrim (hdr a) (content a) :=
  trimFilter_map _ _ l fun a ha =>
    ⟨trimSpace_kvLine _ _ (h a ha).1 (h a ha).2, kvTrim_ne_nil _ _⟩

/-- the trimmed lines of the styles block -/
def stylesT (v4plus : Bool) (fs : List Fld) (rows : List Str) : List Str :=
  if rows = [] then [] else
  [if v4plus then "[V4+ Styles]".toList else "[V4 Styles]".toList, kvTrim "Format".toList (join ", ".toList (formatOf fs))]
    ++ rows.map (kvTrim "Style".toList)

/-- the trimmed lines of the events block -/
def eventsT (v4plus : Bool) (es : List Event) : List Str :=
  ["[Events]".toList, kvTrim "Format".toList (join ", ".toList (eventFormat v4plus))]
    ++ es.map fun e => kvTrim "Dialogue".toList (e.row v4plus)

theorem trimFilter_info (b : Info) (hb : InfoDec b) : trimFilter (infoRaw b) = infoBody b := by
  unfold infoRaw infoBody
  rw [trimFilter_append]
  congr 1
  · apply trimFilter_map
    intro c hc
    have ht := hb.comment hc
    exact ⟨trimSpace_commentLine c ht, by simp [commentTrim]⟩
  · apply trimFilter_kvLines (fun p : SI × Val × Str => p.1.header.toList) (fun p => p.2.2)
    rintro ⟨f, v, t⟩ hp
    obtain ⟨_, hget, ht⟩ := mem_infoTriples.mp hp
    have hs : SIOK f v := hb.val hget
    exact ⟨si_headerOK f, (value_text f v t hs (valTimer_of b hb f v hget) ht).1⟩

theorem trimFilter_styles (v4plus : Bool) (fs : List Fld) (rows : List Str) (hr : ∀ r ∈ rows, Trimmed r) :
    trimFilter (stylesBlock v4plus fs rows) = stylesT v4plus fs rows := by
  unfold stylesBlock stylesT
  by_cases h0 : rows = []
  · rw [if_pos h0, if_pos h0]; rfl
  · rw [if_neg h0, if_neg h0, cons_append, trimFilter_blank, cons_append,
      trimFilter_cons _ (if v4plus then "[V4+ Styles]".toList else "[V4 Styles]".toList) _ (by cases v4plus <;> decide_vector)
        (by cases v4plus <;> decide_vector),
      cons_append, nil_append, formatLine_kv,
      trimFilter_cons _ _ _ (trimSpace_kvLine _ _ headerOK_Format (format_cols _ (formatOf_cols fs).1 (formatOf_cols fs).2).2)
        (kvTrim_ne_nil _ _)]
    congr 2
    have : rows.map styleLine = rows.map fun r => kvLine "Style".toList r := by
      apply map_congr_left; intro r _; exact styleLine_kv r
    rw [this]
    exact trimFilter_kvLines (fun _ => "Style".toList) id rows fun r hr' => ⟨headerOK_Style, hr r hr'⟩

theorem trimFilter_events (v4plus : Bool) (es : List Event) (he : ∀ e ∈ es, Trimmed e.text) :
    trimFilter (eventsBlock v4plus es) = eventsT v4plus es := by
  unfold eventsBlock eventsT
  rw [cons_append, trimFilter_blank, cons_append, trimFilter_cons _ "[Events]".toList _ (by decide_vector) (by decide_vector),
    cons_append, nil_append, formatLine_kv,
    trimFilter_cons _ _ _ (trimSpace_kvLine _ _ headerOK_Format
      (format_cols _ (eventFormat_cols v4plus).1 (eventFormat_cols v4plus).2).2) (kvTrim_ne_nil _ _)]
  congr 2
  have : es.map (dialogueLine v4plus) = es.map fun e => kvLine "Dialogue".toList (e.row v4plus) := by
    apply map_congr_left; intro e _; exact dialogueLine_kv v4plus e
  rw [this]
  exact trimFilter_kvLines (fun _ => "Dialogue".toList) (fun e => e.row v4plus) es
    fun e he' => ⟨headerOK_Dialogue, trimmed_event_row e v4plus (he e he')⟩

/-- the lines the decoder works on -/
def docLinesT (s : Subs) (rows : List Str) : List Str :=
  "[Script Info]".toList :: infoBody (infoOfMeta s.metadata)
    ++ stylesT (isV4plus s) (formatFlds (writerStyles s)) rows
    ++ eventsT (isV4plus s) (s.items.map eventOfItem)

theorem trimFilter_doc (s : Subs) (rows : List Str) (hb : InfoDec (infoOfMeta s.metadata)) (hr : ∀ r ∈ rows, Trimmed r)
    (he : ∀ e ∈ s.items.map eventOfItem, Trimmed e.text) :
    trimFilter (docLinesW s rows) = docLinesT s rows := by
  unfold docLinesW docLinesT
  rw [trimFilter_append, trimFilter_append, trimFilter_cons _ "[Script Info]".toList _ (by decide_vector) (by decide_vector),
    trimFilter_info _ hb, trimFilter_styles _ _ _ hr, trimFilter_events _ _ he]

theorem specLines_written (s : Subs) (rows : List Str) (hb : InfoDec (infoOfMeta s.metadata))
    (hr : ∀ r ∈ rows, Trimmed r) (he : ∀ e ∈ s.items.map eventOfItem, Trimmed e.text)
    (hnl : ∀ l ∈ docLinesW s rows, '\n' ∉ l) (hcr : '\r' ∉ unlines (docLinesW s rows)) :
    specLines (unlines (docLinesW s rows)) = docLinesT s rows := by
  have hstrip : stripBom (unlines (docLinesW s rows)) = unlines (docLinesW s rows) := by
    unfold docLinesW
    rw [cons_append, cons_append, unlines_cons]
    rfl
  unfold specLines
  rw [hstrip, splitLines_unlines _ fun l hl => ⟨hnl l hl, fun hc => hcr (mem_unlines_of_mem hl hc)⟩]
  exact trimFilter_doc s rows hb hr he

end

section
open Spec.SSA (SecKind secKind sections stylesOf eventsOf infoOf commentsOf GDoc GStyle GEvent REvent resolve strLe nodup)

theorem secKind_info : secKind "[Script Info]".toList = some .info := by decide_vector

theorem secKind_events : secKind "[Events]".toList = some .events := by decide_vector

theorem secKind_styles (v : Bool) : secKind (if v then "[V4+ Styles]".toList else "[V4 Styles]".toList) = some .styles := by
  cases v <;> decide_vector

theorem decodeSecs_three (bi bs be : List Str) (gi : List (String × Spec.SSA.GVal)) (S : List GStyle) (E : List REvent)
    (hi : infoOf bi = some gi) (hs : stylesOf bs none = some S) (he : eventsOf be none = some E)
    (hn : nodup ((S.map (·.name)).map String.ofList) = true)
    (hstar : (S.map (·.name)).any (fun n => n.head? = some '*') = false) :
    decodeSecs [(.info, bi), (.styles, bs), (.events, be)] =
      some { comments := commentsOf bi ++ (commentsOf bs ++ commentsOf be), info := gi,
             styles := S.mergeSort (fun a b => strLe a.name b.name),
             events := E.map fun r => { r.ev with style := resolve (S.map (·.name)) r.styleName } } := by
  have hn' : nodup (map (String.ofList ∘ fun x : GStyle => x.name) S) = true := by rw [← map_map]; exact hn
  unfold decodeSecs
  simp [Spec.SSA.mapM, hi, hs, he, hn', hstar]

theorem decodeSecs_two (bi be : List Str) (gi : List (String × Spec.SSA.GVal)) (E : List REvent)
    (hi : infoOf bi = some gi) (he : eventsOf be none = some E) :
    decodeSecs [(.info, bi), (.events, be)] =
      some { comments := commentsOf bi ++ commentsOf be, info := gi, styles := [],
             events := E.map fun r => { r.ev with style := resolve [] r.styleName } } := by
  unfold decodeSecs
  simp [Spec.SSA.mapM, hi, he, nodup]

theorem body_kv {α} (hdr content : α → Str) (l : List α) (h : ∀ a ∈ l, HeaderOK (hdr a) ∧ Trimmed (content a)) :
    commentsOf (l.map fun a => kvTrim (hdr a) (content a)) = [] ∧
    ∀ x ∈ l.map (fun a => kvTrim (hdr a) (content a)), secKind x = none := by
  constructor
  · have := (kv_lines (l.map fun a => (hdr a, content a)) (by
      intro p hp
      obtain ⟨a, ha, rfl⟩ := mem_map.mp hp
      exact h a ha)).1
    rw [map_map] at this
    exact this
  · intro x hx
    obtain ⟨a, ha, rfl⟩ := mem_map.mp hx
    exact secKind_kvTrim _ _ (h a ha).1

theorem infoBody_secKind (b : Info) : ∀ x ∈ infoBody b, secKind x = none := by
  intro x hx
  unfold infoBody at hx
  rcases mem_append.mp hx with hx | hx
  · obtain ⟨c, _, rfl⟩ := mem_map.mp hx
    exact secKind_commentTrim c
  · obtain ⟨p, _, rfl⟩ := mem_map.mp hx
    exact secKind_kvTrim _ _ (si_headerOK p.1)

/-- the body of the trimmed styles block -/
def stylesBodyT (fs : List Fld) (rows : List Str) : List Str :=
  kvTrim "Format".toList (join ", ".toList (formatOf fs)) :: rows.map (kvTrim "Style".toList)

/-- the body of the trimmed events block -/
def eventsBodyT (v4plus : Bool) (es : List Event) : List Str :=
  kvTrim "Format".toList (join ", ".toList (eventFormat v4plus)) :: es.map fun e => kvTrim "Dialogue".toList (e.row v4plus)

theorem stylesBodyT_facts (fs : List Fld) (rows : List Str) (hr : ∀ r ∈ rows, Trimmed r) :
    commentsOf (stylesBodyT fs rows) = [] ∧ ∀ x ∈ stylesBodyT fs rows, secKind x = none := by
  have := body_kv (fun p : Str × Str => p.1) (fun p => p.2)
    (("Format".toList, join ", ".toList (formatOf fs)) :: rows.map fun r => ("Style".toList, r)) (by
      intro p hp
      rcases mem_cons.mp hp with rfl | hp
      · exact ⟨headerOK_Format, (format_cols _ (formatOf_cols fs).1 (formatOf_cols fs).2).2⟩
      · obtain ⟨r, hr', rfl⟩ := mem_map.mp hp
        exact ⟨headerOK_Style, hr r hr'⟩)
  rw [map_cons, map_map] at this
  exact this

theorem eventsBodyT_facts (v : Bool) (es : List Event) (he : ∀ e ∈ es, Trimmed e.text) :
    commentsOf (eventsBodyT v es) = [] ∧ ∀ x ∈ eventsBodyT v es, secKind x = none := by
  have := body_kv (fun p : Str × Str => p.1) (fun p => p.2)
    (("Format".toList, join ", ".toList (eventFormat v)) :: es.map fun e => ("Dialogue".toList, e.row v)) (by
      intro p hp
      rcases mem_cons.mp hp with rfl | hp
      · exact ⟨headerOK_Format, (format_cols _ (eventFormat_cols v).1 (eventFormat_cols v).2).2⟩
      · obtain ⟨e, he', rfl⟩ := mem_map.mp hp
        exact ⟨headerOK_Dialogue, trimmed_event_row e v (he e he')⟩)
  rw [map_cons, map_map] at this
  exact this

theorem headersOk_section (h : Str) (body tail : List Str) (hb : ∀ l ∈ body, secKind l = none) (hp : plainName h = true)
    (ht : headersOk tail = true) : headersOk (h :: (body ++ tail)) = true := by
  unfold headersOk at ht ⊢
  rw [all_cons, all_append, ht, Bool.and_true, Bool.and_eq_true, all_eq_true]
  exact ⟨by simpa [plainName] using Or.inr hp, fun l hl => by rw [hb l hl]; rfl⟩

theorem sections_written (s : Subs) (rows : List Str) (hr : ∀ r ∈ rows, Trimmed r)
    (he : ∀ e ∈ s.items.map eventOfItem, Trimmed e.text) :
    sections (docLinesT s rows) =
      some (if rows = [] then
              [(.info, infoBody (infoOfMeta s.metadata)), (.events, eventsBodyT (isV4plus s) (s.items.map eventOfItem))]
            else
              [(.info, infoBody (infoOfMeta s.metadata)), (.styles, stylesBodyT (formatFlds (writerStyles s)) rows),
               (.events, eventsBodyT (isV4plus s) (s.items.map eventOfItem))]) := by
  rw [sections_iff_grouped]
  have hE : Grouped (eventsT (isV4plus s) (s.items.map eventOfItem))
      [(.events, eventsBodyT (isV4plus s) (s.items.map eventOfItem))] :=
    ⟨_, [], (append_nil _).symm, secKind_events, (eventsBodyT_facts _ _ he).2, rfl⟩
  unfold docLinesT stylesT
  by_cases h0 : rows = []
  · rw [if_pos h0, if_pos h0, append_nil]
    exact ⟨_, _, rfl, secKind_info, infoBody_secKind _, hE⟩
  · rw [if_neg h0, if_neg h0, cons_append, cons_append, append_assoc]
    exact ⟨_, _, rfl, secKind_info, infoBody_secKind _,
      _, _, rfl, secKind_styles _, (stylesBodyT_facts _ _ hr).2, hE⟩

/-- no header of the written document has a letter that `strings.ToLower` would turn into ASCII: along the grouping there
    are three literal headers to look at -/
theorem headersOk_written (s : Subs) (rows : List Str) (hr : ∀ r ∈ rows, Trimmed r)
    (he : ∀ e ∈ s.items.map eventOfItem, Trimmed e.text) : headersOk (docLinesT s rows) = true := by
  have hE : headersOk (eventsT (isV4plus s) (s.items.map eventOfItem)) = true :=
    (append_nil (eventsT _ _)) ▸ headersOk_section _ (eventsBodyT (isV4plus s) (s.items.map eventOfItem)) []
      (eventsBodyT_facts _ _ he).2 (by decide_vector) rfl
  unfold docLinesT stylesT
  by_cases h0 : rows = []
  · rw [if_pos h0, append_nil]
    exact headersOk_section _ _ _ (infoBody_secKind _) (by decide_vector) hE
  · rw [if_neg h0, cons_append, cons_append, append_assoc]
    exact headersOk_section _ _ _ (infoBody_secKind _) (by decide_vector)
      (headersOk_section _ (stylesBodyT (formatFlds (writerStyles s)) rows) _
        (stylesBodyT_facts _ _ hr).2 (by cases isV4plus s <;> decide_vector) hE)

end

end SSAW
end Astisub
