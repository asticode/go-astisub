import Astisub.Props.C05

/-!
# Lemmas/STLTti — one TTI block: what the reader makes of the 128 bytes the writer emits

A *repertoire run* (`RRun`) is a sequence of repertoire units
(`C05.RepUnit`: table characters, letters with one floating diacritic) in one style (italics, underline,
boxing on or off): a whole row, or one of the runs of a row.  The writer brackets the text of a run with its style codes,
joins runs with a blank and rows with 0x8A, encodes
and pads with 0x8F; the open-subtitling reader splits at 0x8A and runs the row loop.  `frameInstant` is the instant the
reader assigns to a written timecode: the start of its frame.
-/

namespace Astisub
namespace C05
open Go STL

/-- a control code of the text field as a unit: style on / off (0x80–0x85) and the line break 0x8A -/
def codeUnit (c : Nat) : Unit := ⟨[c], [c]⟩

def ctlCodes : List Nat := [0x80, 0x81, 0x82, 0x83, 0x84, 0x85, 0x8A]

theorem ctlCodes_ok : ∀ c ∈ ctlCodes,
    (!(keyMask Generated.STL.nfd).testBit c && !(keyMask Generated.STL.ccc).testBit c && baseByte c == some c) = true := by
  decide +kernel

theorem codeUnit_encGood (c : Nat) (h : c ∈ ctlCodes) : encGood (codeUnit c) := by
  have := ctlCodes_ok c h
  simp only [Bool.and_eq_true, Bool.not_eq_true', beq_iff_eq] at this
  exact single_encGood (decomp_of_mask this.1.1) (cccOf_of_mask this.1.2) this.2

theorem carried_tableByte : ∀ e ∈ carried, tableByte e.1 :=
  fun e he => table_bytes e (carried_table he)
theorem accents_tableByte : ∀ a ∈ accents, tableByte a := by decide
theorem letters_tableByte : ∀ l ∈ letters, tableByte l := by decide

theorem repUnit_bytes {u : Unit} (h : RepUnit u) : ∀ b ∈ u.bytes, tableByte b := by
  cases h with
  | ch e he =>
    intro b hb
    simp only [charUnit, List.mem_singleton] at hb
    subst hb; exact carried_tableByte e he
  | acc a l ha hl =>
    intro b hb
    simp only [accentUnit, List.mem_cons, List.not_mem_nil, or_false] at hb
    rcases hb with rfl | rfl
    · exact accents_tableByte _ ha
    · exact letters_tableByte _ hl

theorem units_bytes (us : List Unit) (h : ∀ u ∈ us, RepUnit u) : ∀ b ∈ us.flatMap (·.bytes), tableByte b := by
  intro b hb
  obtain ⟨u, hu, hbu⟩ := List.mem_flatMap.mp hb
  exact repUnit_bytes (h u hu) b hbu

theorem openFold_append (st : RowSt) (a b : Bytes) :
    openFold st (a ++ b) = (match openFold st a with | some st' => openFold st' b | none => none) := by
  induction a generalizing st with
  | nil => rfl
  | cons v vs ih =>
    simp only [List.cons_append, openFold]
    cases openStep st v with
    | none => rfl
    | some st' => exact ih st'

theorem decodeAll_pad (k : Nat) (acc : Option Nat) : decodeAll acc (List.replicate k 0x8F) = ([], acc) := by
  induction k with
  | zero => rfl
  | succ k ih =>
    have : decode acc 0x8F = ([], acc) := by
      have : tableGet 0x8F = none := table_no_codes _ (by omega) (by omega)
      simp [decode, this]
    simp [List.replicate_succ, decodeAll, this, ih]

theorem openFold_pad (k : Nat) (st : RowSt) : openFold st (List.replicate k 0x8F) = some st := by
  rw [openFold_text _ (by intro b hb; rw [List.eq_of_mem_replicate hb]; unfold textByte; omega), decodeAll_pad]
  cases st; simp [str]

/-- a style code of the text field: italics, underline, boxing on / off -/
def isCode (v : Nat) : Prop := 0x80 ≤ v ∧ v ≤ 0x85

theorem trimSpace_nil : trimSpace [] = [] := rfl

/-- a run of repertoire text in one style: a whole row, or one of the runs of a row -/
structure RRun where
  units : List Unit
  italics : Bool := false
  underline : Bool := false
  boxing : Bool := false

namespace RRun

def text (r : RRun) : List Nat := r.units.flatMap (·.text)

/-- the run as the writer sees it -/
def toW (r : RRun) : WRun := { text := r.text, italics := r.italics, underline := r.underline, boxing := r.boxing }

def preCodes (r : RRun) : Bytes :=
  (if r.boxing then [0x84] else []) ++ (if r.underline then [0x82] else []) ++ (if r.italics then [0x80] else [])

def postCodes (r : RRun) : Bytes :=
  (if r.italics then [0x81] else []) ++ (if r.underline then [0x83] else []) ++ (if r.boxing then [0x85] else [])

/-- the bytes of the run in the text field: style on, text, style off -/
def bytes (r : RRun) : Bytes := r.preCodes ++ (r.units.flatMap (·.bytes) ++ r.postCodes)

def allUnits (r : RRun) : List Unit := r.preCodes.map codeUnit ++ (r.units ++ r.postCodes.map codeUnit)

/-- the style of the run the reader builds: an attribute is set (to true) iff the writer switched it on -/
def sty (r : RRun) : LSty :=
  { boxing := if r.boxing then some true else none, underline := if r.underline then some true else none,
    italics := if r.italics then some true else none }

/-- the line the reader returns for a row made of this run alone -/
def line (r : RRun) : Line :=
  { items := [{ text := trimSpace (str r.text), attrs := some (mkAttrs (stlAttrs r.sty)) }] }

/-- the run is over the repertoire and not blank -/
def ok (r : RRun) : Prop := (∀ u ∈ r.units, RepUnit u) ∧ trimSpace (str r.text) ≠ []

end RRun

theorem flatMap_codeUnit_text (cs : Bytes) : (cs.map codeUnit).flatMap (·.text) = cs := by
  simp [List.flatMap_map, codeUnit]

theorem flatMap_codeUnit_bytes (cs : Bytes) : (cs.map codeUnit).flatMap (·.bytes) = cs := by
  simp [List.flatMap_map, codeUnit]

theorem RRun.allUnits_bytes (r : RRun) : r.allUnits.flatMap (·.bytes) = r.bytes := by
  unfold RRun.allUnits RRun.bytes
  rw [List.flatMap_append, List.flatMap_append, flatMap_codeUnit_bytes, flatMap_codeUnit_bytes]

theorem RRun.allUnits_text (r : RRun) : r.allUnits.flatMap (·.text) = runString r.toW := by
  unfold RRun.allUnits
  rw [List.flatMap_append, List.flatMap_append, flatMap_codeUnit_text, flatMap_codeUnit_text]
  unfold runString RRun.toW RRun.preCodes RRun.postCodes RRun.text
  cases r.italics <;> cases r.underline <;> cases r.boxing <;> simp

theorem RRun.preCodes_isCode (r : RRun) : ∀ c ∈ r.preCodes, isCode c := by
  unfold RRun.preCodes isCode
  cases r.italics <;> cases r.underline <;> cases r.boxing <;> simp

theorem RRun.postCodes_isCode (r : RRun) : ∀ c ∈ r.postCodes, isCode c := by
  unfold RRun.postCodes isCode
  cases r.italics <;> cases r.underline <;> cases r.boxing <;> simp

theorem isCode_cases {c : Nat} (h : isCode c) : c = 0x80 ∨ c = 0x81 ∨ c = 0x82 ∨ c = 0x83 ∨ c = 0x84 ∨ c = 0x85 := by
  unfold isCode at h; omega

theorem isCode_ctl {c : Nat} (h : isCode c) : c ∈ ctlCodes := by
  rcases isCode_cases h with rfl | rfl | rfl | rfl | rfl | rfl <;> decide

theorem RRun.allUnits_encGood (r : RRun) (h : ∀ u ∈ r.units, RepUnit u) : ∀ u ∈ r.allUnits, encGood u := by
  intro u hu
  unfold RRun.allUnits at hu
  simp only [List.mem_append, List.mem_map] at hu
  rcases hu with ⟨c, hc, rfl⟩ | hu | ⟨c, hc, rfl⟩
  · exact codeUnit_encGood c (isCode_ctl (r.preCodes_isCode c hc))
  · exact good_encGood (repUnit_good (h u hu))
  · exact codeUnit_encGood c (isCode_ctl (r.postCodes_isCode c hc))

theorem RRun.bytes_ne_break (r : RRun) (h : ∀ u ∈ r.units, RepUnit u) : ∀ b ∈ r.bytes, b ≠ 0x8A := by
  intro b hb
  unfold RRun.bytes at hb
  simp only [List.mem_append] at hb
  rcases hb with hb | hb | hb
  · have := r.preCodes_isCode b hb; unfold isCode at this; omega
  · have := units_bytes r.units h b hb; unfold tableByte at this; omega
  · have := r.postCodes_isCode b hb; unfold isCode at this; omega

def joinL {α} (sep : List α) : List (List α) → List α
  | [] => []
  | [a] => a
  | a :: b :: rest => a ++ sep ++ joinL sep (b :: rest)

theorem joinL_flatMap {α} (f : α → List Nat) (sep : List α) (ls : List (List α)) :
    (joinL sep ls).flatMap f = joinN (sep.flatMap f) (ls.map fun l => l.flatMap f) := by
  induction ls with
  | nil => rfl
  | cons a rest ih =>
    cases rest with
    | nil => simp [joinL, joinN]
    | cons b rest' =>
      simp only [joinL, List.map_cons, joinN, List.flatMap_append]
      simp only [List.map_cons] at ih
      rw [ih]

theorem joinL_mem {α} (sep : List α) (ls : List (List α)) (x : α) (h : x ∈ joinL sep ls) :
    x ∈ sep ∨ ∃ l ∈ ls, x ∈ l := by
  induction ls with
  | nil => cases h
  | cons a rest ih =>
    cases rest with
    | nil => exact Or.inr ⟨a, by simp, h⟩
    | cons b rest' =>
      simp only [joinL, List.mem_append] at h
      rcases h with (h | h) | h
      · exact Or.inr ⟨a, by simp, h⟩
      · exact Or.inl h
      · rcases ih h with h | ⟨l, hl, hx⟩
        · exact Or.inl h
        · exact Or.inr ⟨l, by simp [hl], hx⟩

theorem joinN_eq_joinL (sep : List Nat) (ls : List (List Nat)) : joinN sep ls = joinL sep ls := by
  induction ls with
  | nil => rfl
  | cons a rest ih =>
    cases rest with
    | nil => rfl
    | cons b rest' => rw [joinN, joinL, ih]

/-- the blank the writer puts between two runs -/
def spaceU : Unit := charUnit (0x20, [0x20])

theorem spaceU_rep : RepUnit spaceU := RepUnit.ch _ (by decide +kernel)

/-- the bytes of a line in the text field -/
def lineBytes (l : List RRun) : Bytes := joinN [0x20] (l.map RRun.bytes)

/-- the text of a cue whose lines are `rows`, before encoding (`cueString`) -/
def rowsString (rows : List (List RRun)) : List Nat :=
  joinN [0x8A] (rows.map fun l => joinN [0x20] (l.map fun r => runString r.toW))

def lineUnits (l : List RRun) : List Unit := joinL [spaceU] (l.map RRun.allUnits)
def cueUnits (rows : List (List RRun)) : List Unit := joinL [codeUnit 0x8A] (rows.map lineUnits)

theorem lineUnits_bytes (l : List RRun) : (lineUnits l).flatMap (·.bytes) = lineBytes l := by
  unfold lineUnits lineBytes
  rw [joinL_flatMap, List.map_map]
  exact congrArg _ (List.map_congr_left fun r _ => r.allUnits_bytes)

theorem cueUnits_text (rows : List (List RRun)) : (cueUnits rows).flatMap (·.text) = rowsString rows := by
  unfold cueUnits rowsString lineUnits
  rw [joinL_flatMap, List.map_map]
  refine congrArg _ (List.map_congr_left fun l _ => ?_)
  rw [Function.comp, joinL_flatMap, List.map_map]
  exact congrArg _ (List.map_congr_left fun r _ => r.allUnits_text)

theorem cueUnits_bytes (rows : List (List RRun)) :
    (cueUnits rows).flatMap (·.bytes) = joinN [0x8A] (rows.map lineBytes) := by
  unfold cueUnits
  rw [joinL_flatMap, List.map_map]
  exact congrArg _ (List.map_congr_left fun l _ => lineUnits_bytes l)

theorem cueUnits_mem (rows : List (List RRun)) (u : Unit) (h : u ∈ cueUnits rows) :
    u = codeUnit 0x8A ∨ u = spaceU ∨ ∃ l ∈ rows, ∃ r ∈ l, u ∈ r.allUnits := by
  unfold cueUnits at h
  rcases joinL_mem _ _ _ h with h | ⟨lu, hlu, hu⟩
  · exact Or.inl (by simpa using h)
  · obtain ⟨l, hl, rfl⟩ := List.mem_map.mp hlu
    unfold lineUnits at hu
    rcases joinL_mem _ _ _ hu with h | ⟨ru, hru, hu'⟩
    · exact Or.inr (Or.inl (by simpa using h))
    · obtain ⟨r, hr, rfl⟩ := List.mem_map.mp hru
      exact Or.inr (Or.inr ⟨l, hl, r, hr, hu'⟩)

theorem cueUnits_encGood (rows : List (List RRun)) (h : ∀ l ∈ rows, ∀ r ∈ l, ∀ u ∈ r.units, RepUnit u) :
    ∀ u ∈ cueUnits rows, encGood u := by
  intro u hu
  rcases cueUnits_mem rows u hu with rfl | rfl | ⟨l, hl, r, hr, hu'⟩
  · exact codeUnit_encGood _ (by decide)
  · exact good_encGood (repUnit_good spaceU_rep)
  · exact r.allUnits_encGood (h l hl r hr) u hu'

theorem encode_rows (rows : List (List RRun)) (h : ∀ l ∈ rows, ∀ r ∈ l, ∀ u ∈ r.units, RepUnit u) :
    encodeText (rowsString rows) = joinN [0x8A] (rows.map lineBytes) := by
  rw [← cueUnits_text, encodeText_units _ (cueUnits_encGood rows h), cueUnits_bytes]

theorem joinN_single (l : List WRun) (r : WRun) (h : l = [r]) : joinN [0x20] (l.map runString) = runString r := by
  subst h; rfl

/-- the rows with the padding glued to the last one (a field without rows is one row of padding) -/
def appendLast (p : Bytes) : List Bytes → List Bytes
  | [] => [p]
  | [r] => [r ++ p]
  | r :: r2 :: rs => r :: appendLast p (r2 :: rs)

theorem appendLast_length (p : Bytes) (rows : List Bytes) : (appendLast p rows).length = max 1 rows.length := by
  induction rows with
  | nil => rfl
  | cons r rs ih =>
    cases rs with
    | nil => rfl
    | cons r2 rs' => simp only [appendLast, List.length_cons] at ih ⊢; omega

theorem splitRows_join_pad (rows : List Bytes) (p : Bytes) (h : ∀ r ∈ rows, ∀ x ∈ r, x ≠ 0x8A) (hp : ∀ x ∈ p, x ≠ 0x8A) :
    splitRows (joinN [0x8A] rows ++ p) = appendLast p rows := by
  induction rows with
  | nil => simpa [joinN, appendLast] using splitRows_single p hp
  | cons r rs ih =>
    cases rs with
    | nil =>
      simp only [joinN, appendLast]
      apply splitRows_single
      intro x hx
      rcases List.mem_append.mp hx with hx | hx
      · exact h r (by simp) x hx
      · exact hp x hx
    | cons r2 rs' =>
      have : joinN [0x8A] (r :: r2 :: rs') ++ p = r ++ 0x8A :: (joinN [0x8A] (r2 :: rs') ++ p) := by simp [joinN]
      rw [this, splitRows_append r _ (h r (by simp)), ih (fun r' hr' => h r' (by simp [hr']))]
      rfl

theorem rowsFold_of {α} (bytes : α → Bytes) (line : α → Line) (rows : List α) (k : Nat)
    (h : ∀ x ∈ rows, ∀ k, openRow none (bytes x ++ List.replicate k 0x8F) = some (some (line x), none)) :
    rowsFold true none (appendLast (List.replicate k 0x8F) (rows.map bytes)) = some (rows.map line, none) := by
  induction rows with
  | nil =>
    simp only [List.map_nil, appendLast, rowsFold, if_true]
    have : openRow none (List.replicate k 0x8F) = some (none, none) := by
      unfold openRow
      rw [openFold_pad]
      rfl
    rw [this]
    rfl
  | cons r rs ih =>
    cases rs with
    | nil =>
      simp only [List.map_cons, List.map_nil, appendLast, rowsFold, if_true]
      rw [h r (by simp) k]
      rfl
    | cons r2 rs' =>
      have hr := h r (by simp) 0
      simp only [List.replicate_zero, List.append_nil] at hr
      have ih' := ih (fun r' hr' => h r' (by simp [hr']))
      simp only [List.map_cons] at ih'
      simp only [List.map_cons, appendLast, rowsFold, if_true]
      rw [hr]
      simp only
      rw [ih']
      rfl

/-- the instant the reader assigns to the timecode the writer emits for instant `T`: the start of the
    frame `T` lies in (`C05.frameInstant_floor`) -/
def frameInstant (fr : Int) (T : Int) : Int :=
  Duration.parseSTLBytes true (Duration.formatSTLBytes T fr.toNat) fr

theorem framerate_nat {x : Int} (h : x = 25 ∨ x = 30) : ∃ fr : Nat, (fr = 25 ∨ fr = 30) ∧ x = (fr : Int) :=
  h.elim (fun e => ⟨25, Or.inl rfl, e⟩) fun e => ⟨30, Or.inr rfl, e⟩

/-- the cue the reader builds from the block the writer emits for `c` (rows `rows`), `off` being the
    programme start the reader subtracts -/
def ttiCue (G : GSI) (g : WGSI) (off : Int) (c : WCue) (rows : List RRun) : CItem :=
  { startAt := frameInstant g.m.framerate (c.startAt + g.m.tcp) - off,
    endAt := frameInstant g.m.framerate (c.endAt + g.m.tcp) - off,
    attrs := itemAttrs (justCode c.just) (vpByte (c.vp.getD 20) g.m.dsc) (G.m.maxRows.getD 0) (max 1 rows.length),
    lines := rows.map RRun.line }

/-- a 128-byte TTI block `p` by position, `[t0, t1, t2, t3]` and `[u0, u1, u2, u3]` being the two timecodes: the single
    bytes the independent decoder reads (`b3` … `b14`, `rest`), and the slices the library reader takes (`tci`, `tco`,
    `textS`) -/
structure TtiLayout (p : Bytes) (t0 t1 t2 t3 u0 u1 u2 u3 vp jc : Nat) (text : Bytes) : Prop where
  length : p.length = 128
  b3 : p.getD 3 0 = 255
  b5 : p.getD 5 0 = t0
  b6 : p.getD 6 0 = t1
  b7 : p.getD 7 0 = t2
  b8 : p.getD 8 0 = t3
  b9 : p.getD 9 0 = u0
  b10 : p.getD 10 0 = u1
  b11 : p.getD 11 0 = u2
  b12 : p.getD 12 0 = u3
  b13 : p.getD 13 0 = vp
  b14 : p.getD 14 0 = jc
  rest : p.drop 16 = text
  tci : slice p 5 9 = [t0, t1, t2, t3]
  tco : slice p 9 13 = [u0, u1, u2, u3]
  textS : slice p 16 128 = text

theorem ttiBytes_layout (g : WGSI) (idx : Nat) (c : WCue) (t0 t1 t2 t3 u0 u1 u2 u3 : Nat)
    (ht : Duration.formatSTLBytes (c.startAt + g.m.tcp) g.m.framerate.toNat = [t0, t1, t2, t3])
    (hu : Duration.formatSTLBytes (c.endAt + g.m.tcp) g.m.framerate.toNat = [u0, u1, u2, u3]) :
    TtiLayout (ttiBytes g idx c) t0 t1 t2 t3 u0 u1 u2 u3 (vpByte (c.vp.getD 20) g.m.dsc) (justCode c.just)
      (padR 0x8F 112 (encodeText (cueString c))) := by
  have hb : ttiBytes g idx c = [0, idx % 256, idx / 256 % 256, 255, 0] ++ [t0, t1, t2, t3] ++ [u0, u1, u2, u3]
      ++ [vpByte (c.vp.getD 20) g.m.dsc, justCode c.just, 0] ++ padR 0x8F 112 (encodeText (cueString c)) := by
    rw [← ht, ← hu]; rfl
  have hl : (padR 0x8F 112 (encodeText (cueString c))).length = 112 := padR_length _ _ _
  rw [hb]
  generalize padR 0x8F 112 (encodeText (cueString c)) = text at hl
  constructor
  case tci => simp [slice, ← hl]
  case tco => simp [slice, ← hl]
  case textS => simp [slice, ← hl]
  all_goals simp [hl]

theorem ttiItem_of_rows (G : GSI) (g : WGSI) (off : Int) (idx : Nat) (c : WCue) (rows : List Bytes) (lines : List Line)
    (hfr : G.m.framerate = g.m.framerate) (hdsc : G.m.dsc = [0x30])
    (hsplit : splitRows (padR 0x8F 112 (encodeText (cueString c))) = rows)
    (hfold : rowsFold true none rows = some (lines, none)) :
    ttiItem G off none (ttiBytes g idx c) = some (some
      { startAt := frameInstant g.m.framerate (c.startAt + g.m.tcp) - off,
        endAt := frameInstant g.m.framerate (c.endAt + g.m.tcp) - off,
        attrs := itemAttrs (justCode c.just) (vpByte (c.vp.getD 20) g.m.dsc) (G.m.maxRows.getD 0) rows.length,
        lines := lines }, none) := by
  obtain ⟨t0, t1, t2, t3, ht⟩ : ∃ t0 t1 t2 t3, Duration.formatSTLBytes (c.startAt + g.m.tcp) g.m.framerate.toNat = [t0, t1, t2, t3] :=
    ⟨_, _, _, _, rfl⟩
  obtain ⟨u0, u1, u2, u3, hu⟩ : ∃ u0 u1 u2 u3, Duration.formatSTLBytes (c.endAt + g.m.tcp) g.m.framerate.toNat = [u0, u1, u2, u3] :=
    ⟨_, _, _, _, rfl⟩
  have L := ttiBytes_layout g idx c t0 t1 t2 t3 u0 u1 u2 u3 ht hu
  have h255 : ((255 : Nat) == 0xFE) = false := by decide
  have h30 : (([0x30] : Bytes) == [0x30]) = true := by decide
  unfold ttiItem
  simp only [L.b3, L.tci, L.tco, L.b13, L.b14, L.textS, hsplit, hdsc, h255, h30, Bool.false_eq_true, if_false, hfold]
  unfold frameInstant
  rw [ht, hu, hfr]

theorem parse_instant (h m s f fr : Nat) (hfr : 0 < fr) :
    Duration.parseSTLBytes true [h, m, s, f] (fr : Int) = Spec.STL.instant fr h m s f := by
  unfold Duration.parseSTLBytes Spec.STL.instant
  simp only
  rw [C16.framesToNs_nat _ _ hfr]
  unfold Duration.nsPerH Duration.nsPerMin Duration.nsPerS
  have e : f * 1000000000 + fr - 1 = 1000000000 * f + fr - 1 := by omega
  rw [e]
  generalize (1000000000 * f + fr - 1) / fr = K
  omega

/-- the closed form of the frame instant, below 256 h (921600000000000 ns): the hours of a timecode are one byte -/
theorem frameInstant_nat (n fr : Nat) (hfr : fr = 25 ∨ fr = 30) (hn : n < 921600000000000) :
    frameInstant (fr : Int) (n : Int)
      = ((n / 1000000000 * 1000000000 + (n % 1000000000 * fr / 1000000000 * 1000000000 + fr - 1) / fr : Nat) : Int) := by
  have hfrpos : 0 < fr := by rcases hfr with rfl | rfl <;> omega
  have h256 : n / 3600000000000 % 256 = n / 3600000000000 := by omega
  rw [frameInstant, Duration.formatSTLBytes, Int.toNat_natCast, Int.toNat_natCast, parse_instant _ _ _ _ _ hfrpos, h256,
    Spec.STL.instant]
  generalize (n % 1000000000 * fr / 1000000000 * 1000000000 + fr - 1) / fr = K
  omega

theorem frameInstant_floor (T : Int) (fr : Nat) (hfr : fr = 25 ∨ fr = 30) (h0 : 0 ≤ T) (h1 : T < 921600000000000) :
    frameInstant (fr : Int) T ≤ T ∧ T - frameInstant (fr : Int) T ≤ 1000000000 / (fr : Int) := by
  obtain ⟨n, rfl⟩ : ∃ n : Nat, T = (n : Int) := ⟨T.toNat, by omega⟩
  rw [frameInstant_nat n fr hfr (by omega)]
  rcases hfr with rfl | rfl <;> omega

theorem frameInstant_nonneg (T : Int) (fr : Nat) (hfr : fr = 25 ∨ fr = 30) (h0 : 0 ≤ T) (h1 : T < 921600000000000) :
    0 ≤ frameInstant (fr : Int) T := by
  obtain ⟨n, rfl⟩ : ∃ n : Nat, T = (n : Int) := ⟨T.toNat, by omega⟩
  rw [frameInstant_nat n fr hfr (by omega)]
  exact Int.natCast_nonneg _

theorem frameInstant_rewrite (T : Int) (fr : Nat) (hfr : fr = 25 ∨ fr = 30) (h0 : 0 ≤ T) (h1 : T < 86400000000000) :
    Duration.formatSTLBytes (frameInstant (fr : Int) T) fr = Duration.formatSTLBytes T fr := by
  unfold frameInstant
  simp only [Int.toNat_natCast]
  exact (C16.stl_bytes_rewrite T fr hfr h0 h1).1

theorem frameInstant_idem (T : Int) (fr : Nat) (hfr : fr = 25 ∨ fr = 30) (h0 : 0 ≤ T) (h1 : T < 86400000000000) :
    frameInstant (fr : Int) (frameInstant (fr : Int) T) = frameInstant (fr : Int) T := by
  have := frameInstant_rewrite T fr hfr h0 h1
  have e : frameInstant (fr : Int) (frameInstant (fr : Int) T)
      = Duration.parseSTLBytes true (Duration.formatSTLBytes (frameInstant (fr : Int) T) fr) (fr : Int) := rfl
  rw [e, this]
  unfold frameInstant
  simp only [Int.toNat_natCast]

/-- an instant the format carries exactly (decidable) -/
def FrameAligned (fr : Int) (T : Int) : Prop := frameInstant fr T = T

instance (fr T : Int) : Decidable (FrameAligned fr T) := by unfold FrameAligned; infer_instance

/-- at 25 frames per second every multiple of 40 ms is carried exactly -/
theorem aligned_25 (T : Int) (h0 : 0 ≤ T) (h1 : T < 921600000000000) (h : T % 40000000 = 0) : FrameAligned 25 T := by
  obtain ⟨n, rfl⟩ : ∃ n : Nat, T = (n : Int) := ⟨T.toNat, by omega⟩
  unfold FrameAligned
  have := frameInstant_nat n 25 (Or.inl rfl) (by omega)
  have e : ((25 : Nat) : Int) = 25 := rfl
  rw [e] at this
  rw [this]
  omega

/-- at either frame rate every whole second is carried exactly -/
theorem aligned_second (T : Int) (fr : Nat) (hfr : fr = 25 ∨ fr = 30) (h0 : 0 ≤ T) (h1 : T < 921600000000000)
    (h : T % 1000000000 = 0) : FrameAligned (fr : Int) T := by
  obtain ⟨n, rfl⟩ : ∃ n : Nat, T = (n : Int) := ⟨T.toNat, by omega⟩
  unfold FrameAligned
  rw [frameInstant_nat n fr hfr (by omega)]
  rcases hfr with rfl | rfl <;> omega

end C05
end Astisub
