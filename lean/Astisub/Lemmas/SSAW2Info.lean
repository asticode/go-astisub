import Astisub.Lemmas.SSAW2Defs

/-!
# Lemmas/SSAW2Info — the decoder's script-info reader on the written `[Script Info]` block (trimmed comment and key lines)

`infoOf_written`: on the (trimmed) comment and key lines of a good script info `b` (`InfoOK`, `Timer` surviving the
decoder's float reader) the decoder returns the comments of `b` and `infoG b`: every set key, in table order, with
the writer's typed value.
-/

namespace Astisub
namespace SSAW
open Go SSA SSAR List

section
open Spec.SSA (classify secKind)

theorem mem_unlines_of_mem {c : Char} {ls : List Str} {l : Str} (hl : l ∈ ls) (hc : c ∈ l) : c ∈ unlines ls :=
  unlines_lf ls ▸ mem_lfLines.mpr (.inr ⟨l, hl, hc⟩)

theorem classify_commentTrim (c : Str) (hc : Trimmed c) : classify (commentTrim c) = .comment c := by
  unfold commentTrim classify
  simp only
  rw [kvTrim_content c hc]

theorem secKind_commentTrim (c : Str) : secKind (commentTrim c) = none := rfl

end

section
open Spec.SSA (GVal GKind classify infoTable intOf floatOf infoOf commentsOf)

theorem infoTriples_keys_sublist (b : Info) : ∀ fs : List SI, ((infoTriples b fs).map (·.1)).Sublist fs := by
  intro fs
  induction fs with
  | nil => exact Sublist.slnil
  | cons f fs ih =>
    unfold infoTriples at ih ⊢
    rw [filterMap_cons]
    cases htr : tripleOf b f with
    | none => exact Sublist.cons _ ih
    | some p =>
      obtain ⟨g, v, t⟩ := p
      obtain ⟨rfl, _, _⟩ := tripleOf_some.mp htr
      exact Sublist.cons_cons _ ih

theorem value_text (f : SI) (v : Val) (t : Str) (h : SIOK f v) (htm : valTimer v = true) (ht : siText v = some t) :
    Trimmed t ∧
    ((f.kind = .int ∧ ∃ i, v = .i i ∧ intOf t = some i) ∨
     (f.kind = .float ∧ ∃ bits, v = .f bits ∧ floatOf (commaToDot t) = some bits) ∨
     (f.kind = .str ∧ v = .s t ∧ t ≠ [])) := by
  obtain ⟨t', ht', htr, _, _⟩ := parse_written {} f v h
  rw [ht] at ht'
  injection ht' with ht'
  subst ht'
  refine ⟨htr, ?_⟩
  obtain ⟨hk, hv⟩ := h
  cases v with
  | b w => rcases si_kind f with e | e | e <;> rw [e] at hk <;> cases hk
  | c w => rcases si_kind f with e | e | e <;> rw [e] at hk <;> cases hk
  | i i =>
    left
    simp only [siText, Val.canon, Option.some.injEq] at ht
    subst ht
    exact ⟨hk.symm, i, rfl, spec_intOf_itoa i⟩
  | f bits =>
    right; left
    refine ⟨hk.symm, bits, rfl, ?_⟩
    simp only [valTimer, decTimer] at htm
    simp only [siText] at ht
    cases hs : formatFloatShortest bits with
    | none => rw [hs] at ht; cases ht
    | some str =>
      rw [hs] at ht htm
      simp only [Option.map_some, Option.some.injEq] at ht
      subst ht
      rw [← replaceAll_commaToDot, replaceAll_comma_dot str (numChar_not_mem (formatFloatShortest_numChar bits str hs) rfl)]
      simpa using htm
  | s str =>
    right; right
    simp only [siText, Val.canon, Option.some.injEq] at ht
    subst ht
    have hs : str ≠ [] ∧ Trimmed str ∧ '\n' ∉ str := hv
    exact ⟨hk.symm, rfl, hs.1⟩

/-- the (trimmed) lines of the block after its header -/
def infoBody (b : Info) : List Str :=
  b.comments.map commentTrim ++ (infoTriples b SI.all).map fun p => kvTrim p.1.header.toList p.2.2

theorem commentsOf_comments : ∀ cs : List Str, (∀ c ∈ cs, Trimmed c) → commentsOf (cs.map commentTrim) = cs := by
  intro cs
  induction cs with
  | nil => intro _; rfl
  | cons c cs ih =>
    intro h
    rw [map_cons, commentsOf_cons, classify_commentTrim c (h c mem_cons_self), ih fun x hx => h x (mem_cons_of_mem _ hx)]
    rfl

theorem kvsOf_comments : ∀ cs : List Str, (∀ c ∈ cs, Trimmed c) → kvsOf (cs.map commentTrim) = [] := by
  intro cs
  induction cs with
  | nil => intro _; rfl
  | cons c cs ih =>
    intro h
    rw [map_cons, kvsOf_cons, classify_commentTrim c (h c mem_cons_self), ih fun x hx => h x (mem_cons_of_mem _ hx)]
    rfl

theorem kv_lines : ∀ (ps : List (Str × Str)), (∀ p ∈ ps, HeaderOK p.1 ∧ Trimmed p.2) →
    commentsOf (ps.map fun p => kvTrim p.1 p.2) = [] ∧
    kvsOf (ps.map fun p => kvTrim p.1 p.2) = ps.map fun p => (String.ofList p.1, p.2) := by
  intro ps
  induction ps with
  | nil => intro _; exact ⟨rfl, rfl⟩
  | cons p ps ih =>
    intro h
    obtain ⟨h1, h2⟩ := ih fun x hx => h x (mem_cons_of_mem _ hx)
    have hc := classify_kvTrim p.1 p.2 (h p mem_cons_self).1 (h p mem_cons_self).2
    constructor
    · rw [map_cons, commentsOf_cons, hc, h1]; rfl
    · rw [map_cons, kvsOf_cons, hc, h2]; rfl

/-- the decoder's `Key: value` pairs of the block -/
def infoKvs (b : Info) : List (String × Str) := (infoTriples b SI.all).map fun p => (p.1.header, p.2.2)

theorem infoKvs_keys_nodup (b : Info) : ((infoKvs b).map (·.1)).Nodup := by
  have h1 : ((infoTriples b SI.all).map (·.1)).Nodup := (infoTriples_keys_sublist b SI.all).nodup si_all_nodup
  have h2 := h1.map_of_injective fun _ _ => header_injective
  unfold infoKvs
  rw [map_map] at h2 ⊢
  exact h2

theorem infoKvs_lookup_some (b : Info) (f : SI) (v : Val) (t : Str) (hget : b.vals.get f = some v) (ht : siText v = some t) :
    (infoKvs b).reverse.lookup f.header = some t := by
  apply List.lookup_of_mem_of_nodup_keys
  · rw [map_reverse]; exact ((reverse_perm _).nodup_iff).mpr (infoKvs_keys_nodup b)
  · rw [mem_reverse]
    unfold infoKvs
    exact mem_map.mpr ⟨(f, v, t), mem_infoTriples.mpr ⟨C04.si_all_complete f, hget, ht⟩, rfl⟩

theorem infoKvs_lookup_none (b : Info) (f : SI) (hget : b.vals.get f = none) :
    (infoKvs b).reverse.lookup f.header = none := by
  apply lookup_none_of_not_mem
  intro hm
  rw [map_reverse, mem_reverse] at hm
  unfold infoKvs at hm
  rw [map_map] at hm
  obtain ⟨⟨g, v, t⟩, hp, he⟩ := mem_map.mp hm
  have hg : g = f := header_injective he
  subst hg
  have := (mem_infoTriples.mp hp).2.1
  rw [hget] at this
  cases this

/-- a script info the decoder reads back: `InfoOK` and `Timer` surviving the decoder's float reader -/
def InfoDec (b : Info) : Prop := InfoOK b ∧ ∀ v, b.vals.get SI.timer = some v → valTimer v = true

theorem InfoDec.comment {b : Info} (h : InfoDec b) {c : Str} (hc : c ∈ b.comments) : Trimmed c := (h.1.1 c hc).1

theorem InfoDec.val {b : Info} (h : InfoDec b) {f : SI} {v : Val} (hget : b.vals.get f = some v) : SIOK f v :=
  h.1.2 f (C04.si_all_complete f) v hget

theorem valTimer_of (b : Info) (h : InfoDec b) (f : SI) (v : Val) (hget : b.vals.get f = some v) : valTimer v = true := by
  have hs : SIOK f v := h.val hget
  cases v with
  | f bits =>
    have hk : f.kind = .float := hs.1.symm
    have : f = SI.timer := by cases f <;> simp [SI.kind] at hk <;> rfl
    subst this
    exact h.2 _ hget
  | b _ => rfl
  | c _ => rfl
  | i _ => rfl
  | s _ => rfl

theorem infoEntry_written (b : Info) (h : InfoDec b) (f : SI) :
    specInfoEntry (infoKvs b) (f.header, f.key, gk f.kind) = some ((b.vals.get f).map fun v => (f.header, gval v)) := by
  cases hget : b.vals.get f with
  | none =>
    have hl := infoKvs_lookup_none b f hget
    rcases si_kind f with e | e | e <;> rw [e]
    · rw [show gk Kind.int = GKind.int from rfl, specInfoEntry_int, hl]; rfl
    · rw [show gk Kind.float = GKind.float from rfl, specInfoEntry_float, hl]; rfl
    · rw [show gk Kind.str = GKind.str from rfl, specInfoEntry_str, hl]; rfl
  | some v =>
    have hs : SIOK f v := h.val hget
    obtain ⟨t, ht, _⟩ := parse_written {} f v hs
    have hl := infoKvs_lookup_some b f v t hget ht
    obtain ⟨_, hcase⟩ := value_text f v t hs (valTimer_of b h f v hget) ht
    rcases hcase with ⟨e, i, rfl, hi⟩ | ⟨e, bits, rfl, hb⟩ | ⟨e, rfl, hne⟩ <;> rw [e]
    · rw [show gk Kind.int = GKind.int from rfl, specInfoEntry_int, hl]
      simp only [hi, Option.map_some]; rfl
    · rw [show gk Kind.float = GKind.float from rfl, specInfoEntry_float, hl]
      simp only [hb, Option.map_some]; rfl
    · rw [show gk Kind.str = GKind.str from rfl, specInfoEntry_str, hl]
      have : t.isEmpty = false := by cases t with | nil => exact absurd rfl hne | cons _ _ => rfl
      simp only [this, Bool.false_eq_true, ↓reduceIte, Option.map_some]; rfl

theorem infoAllOk_written (b : Info) (h : InfoDec b) : infoAllOk (infoKvs b) = true := by
  unfold infoAllOk
  rw [all_eq_true]
  rintro ⟨k, t⟩ hm
  unfold infoKvs at hm
  obtain ⟨⟨f, v, t'⟩, hp, he⟩ := mem_map.mp hm
  simp only [Prod.mk.injEq] at he
  obtain ⟨rfl, rfl⟩ := he
  obtain ⟨_, hget, ht⟩ := mem_infoTriples.mp hp
  have hs : SIOK f v := h.val hget
  obtain ⟨_, hcase⟩ := value_text f v t' hs (valTimer_of b h f v hget) ht
  have hfl := find_lookup infoTable f.header
  rw [infoTable_lookup] at hfl
  simp only
  cases hf : infoTable.find? (fun (h, _, _) => h = f.header) with
  | none => rfl
  | some e =>
    obtain ⟨h0, key, kind⟩ := e
    rw [hf] at hfl
    simp only [Option.map_some, Option.some.injEq, Prod.mk.injEq] at hfl
    obtain ⟨_, rfl⟩ := hfl
    simp only
    rcases hcase with ⟨e, i, rfl, hi⟩ | ⟨e, bits, rfl, hb⟩ | ⟨e, rfl, hne⟩ <;> rw [e]
    · simp [gk, hi]
    · have : floatOf (t'.map fun c => if c = ',' then '.' else c) = some bits := hb
      simp [gk, this]
    · simp [gk]

theorem infoOf_written (b : Info) (h : InfoDec b) :
    commentsOf (infoBody b) = b.comments ∧ infoOf (infoBody b) = some (infoG b) := by
  have hcom : ∀ c ∈ b.comments, Trimmed c := fun c hc => h.comment hc
  have hps : ∀ p ∈ (infoTriples b SI.all).map (fun p => (p.1.header.toList, p.2.2)), HeaderOK p.1 ∧ Trimmed p.2 := by
    intro p hp
    obtain ⟨⟨f, v, t⟩, hq, rfl⟩ := mem_map.mp hp
    obtain ⟨_, hget, ht⟩ := mem_infoTriples.mp hq
    have hs : SIOK f v := h.val hget
    exact ⟨si_headerOK f, (value_text f v t hs (valTimer_of b h f v hget) ht).1⟩
  obtain ⟨k1, k2⟩ := kv_lines _ hps
  rw [map_map] at k1 k2
  have ebody : infoBody b = b.comments.map commentTrim ++
      (infoTriples b SI.all).map ((fun p : Str × Str => kvTrim p.1 p.2) ∘ fun p => (p.1.header.toList, p.2.2)) := rfl
  have ekvs : kvsOf (infoBody b) = infoKvs b := by
    rw [ebody, kvsOf_append, kvsOf_comments _ hcom, k2, map_map, nil_append]
    unfold infoKvs
    apply map_congr_left
    intro p _
    simp only [Function.comp, String.ofList_toList]
  constructor
  · rw [ebody, commentsOf_append, commentsOf_comments _ hcom, k1, append_nil]
  · rw [infoOf_eq, ekvs, infoAllOk_written b h]
    simp only [Bool.not_true, Bool.false_eq_true, ↓reduceIte]
    have hm : Spec.SSA.mapM id (infoTable.map (specInfoEntry (infoKvs b)))
        = some (SI.all.map fun f => (b.vals.get f).map fun v => (f.header, gval v)) := by
      rw [mapM_id_eq_some, infoTable_eq, map_map, map_map]
      apply map_congr_left
      intro f _
      exact infoEntry_written b h f
    rw [hm]
    simp only [Option.map_some, Option.some.injEq]
    unfold infoG
    rw [filterMap_map]
    rfl

end

end SSAW
end Astisub
