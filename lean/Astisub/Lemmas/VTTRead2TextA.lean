import Astisub.Lemmas.VTTRead2Defs
import Astisub.Lemmas.VTTLine
import Astisub.Lemmas.StrList

/-!
# Lemmas/VTTRead2TextA — cue text, read side: the decoder `Spec.VTT.textLine` piece by piece (chunk of text, tag)

The equations of `textLine` by the first character; `unescapeHTML` by the first character (`unescape_char`,
`unescape_amp`), so that a `<`-free chunk of input is the decoded text joined to the pending text (`textLine_chunk`);
the decoder's action on one tag as a function (`tagStep`, with `textLine_lt` and the inversions `tagStep_close`,
`tagStep_open`); and the equations of the class scan `scanOK` over the same pieces (`scanOK_text`, `scanOK_tag`).
-/

namespace Astisub
namespace VTTRead
open Go Spec.VTT List
open SRT (unescapeHTML unescapePairs)

theorem textLine_nil (f : Nat) (st : TextSt) : textLine (f + 1) [] st = some (flushText st) := rfl

theorem textLine_char (f : Nat) (c : Char) (rest : Str) (st : TextSt) (h1 : c ≠ '<') (h2 : c ≠ '&') :
    textLine (f + 1) (c :: rest) st = textLine f rest { st with acc := c :: st.acc } := by
  rw [textLine]
  · intro a; exact absurd a h1
  · intro a; exact absurd a h2

theorem textLine_amp (f : Nat) (rest : Str) (st : TextSt) :
    textLine (f + 1) ('&' :: rest) st =
      if hasPrefix "amp;".toList rest then textLine f (rest.drop 4) { st with acc := '&' :: st.acc }
      else if hasPrefix "lt;".toList rest then textLine f (rest.drop 3) { st with acc := '<' :: st.acc }
      else if hasPrefix "nbsp;".toList rest then textLine f (rest.drop 5) { st with acc := Char.ofNat 0xA0 :: st.acc }
      else if hasPrefix "gt;".toList rest || hasPrefix "lrm;".toList rest || hasPrefix "rlm;".toList rest then none
      else textLine f rest { st with acc := '&' :: st.acc } := by
  rw [textLine]

theorem replGo_skip (pairs : List (Str × Str)) (xs : Str) (k : Nat) :
    replGo pairs xs k = replGo pairs (xs.drop k) 0 := by
  induction k generalizing xs with
  | zero => rfl
  | succ k ih =>
    cases xs with
    | nil => simp [replGo]
    | cons x xs => simp [replGo, ih]

theorem amp5 : "&amp;".toList = '&' :: "amp;".toList := by rw [String.toList_ofList, String.toList_ofList]
theorem lt4 : "&lt;".toList = '&' :: "lt;".toList := by rw [String.toList_ofList, String.toList_ofList]
theorem nbsp6 : "&nbsp;".toList = '&' :: "nbsp;".toList := by rw [String.toList_ofList, String.toList_ofList]

theorem matchPair_amp (x : Str) :
    matchPair unescapePairs ('&' :: x) =
      if hasPrefix "amp;".toList x then some ("&".toList, 5)
      else if hasPrefix "lt;".toList x then some ("<".toList, 4)
      else if hasPrefix "nbsp;".toList x then some ([Char.ofNat 0xA0], 6)
      else none := by
  unfold matchPair unescapePairs
  rw [amp5, lt4, nbsp6]
  simp only [List.findSome?, hasPrefix_cons]
  cases hasPrefix "amp;".toList x <;> cases hasPrefix "lt;".toList x <;> cases hasPrefix "nbsp;".toList x <;> rfl

theorem matchPair_char (c : Char) (x : Str) (h : c ≠ '&') : matchPair unescapePairs (c :: x) = none := by
  have e : ∀ p : Str, hasPrefix ('&' :: p) (c :: x) = false := by
    intro p; simp [hasPrefix, dropPrefix?, Ne.symm h]
  unfold matchPair unescapePairs
  rw [amp5, lt4, nbsp6]
  simp only [List.findSome?, e]
  rfl

theorem unescape_nil : unescapeHTML [] = [] := rfl

theorem unescape_char (c : Char) (x : Str) (h : c ≠ '&') : unescapeHTML (c :: x) = c :: unescapeHTML x := by
  unfold unescapeHTML replacer
  rw [replGo, matchPair_char c x h]

theorem unescape_amp (x : Str) :
    unescapeHTML ('&' :: x) =
      if hasPrefix "amp;".toList x then '&' :: unescapeHTML (x.drop 4)
      else if hasPrefix "lt;".toList x then '<' :: unescapeHTML (x.drop 3)
      else if hasPrefix "nbsp;".toList x then Char.ofNat 0xA0 :: unescapeHTML (x.drop 5)
      else '&' :: unescapeHTML x := by
  unfold unescapeHTML replacer
  rw [replGo, matchPair_amp]
  cases hasPrefix "amp;".toList x
  · cases hasPrefix "lt;".toList x
    · cases hasPrefix "nbsp;".toList x
      · simp only [Bool.false_eq_true, if_false]
      · simp only [Bool.false_eq_true, if_false, if_true]; rw [replGo_skip]; rfl
    · simp only [Bool.false_eq_true, if_false, if_true]; rw [replGo_skip]; rfl
  · simp only [if_true]; rw [replGo_skip]; rfl

/-- what follows a chunk: the end of the line or a `<` -/
def RestLt (r : Str) : Prop := ∀ c r', r = c :: r' → c = '<'

theorem restLt_nil : RestLt [] := by intro c r' h; cases h
theorem restLt_lt (r : Str) : RestLt ('<' :: r) := by intro c r' h; cases h; rfl

theorem hasPrefix_app (p : Str) (hp : ∀ c ∈ p, c ≠ '<') (r : Str) (hr : RestLt r) :
    ∀ x : Str, hasPrefix p (x ++ r) = hasPrefix p x := by
  induction p with
  | nil => intro x; rw [hasPrefix_nil, hasPrefix_nil]
  | cons a p ih =>
    intro x
    cases x with
    | nil =>
      cases r with
      | nil => rfl
      | cons c r' =>
        have hc := hr c r' rfl
        subst hc
        have : a ≠ '<' := hp a (by simp)
        simp [hasPrefix, dropPrefix?, this]
    | cons b x =>
      by_cases hab : a = b
      · subst hab
        rw [List.cons_append, hasPrefix_cons, hasPrefix_cons]
        exact ih (fun c hc => hp c (by simp [hc])) x
      · simp [hasPrefix, dropPrefix?, hab]

theorem mem_drop_ne {x : Str} (hx : ∀ c ∈ x, c ≠ '<') (k : Nat) : ∀ c ∈ x.drop k, c ≠ '<' :=
  fun c hc => hx c (List.mem_of_mem_drop hc)

theorem textLine_chunk (n : Nat) : ∀ (x : Str), x.length ≤ n → (∀ c ∈ x, c ≠ '<') →
    ∀ (r : Str), RestLt r → ∀ (fuel : Nat) (st fD : TextSt), x.length + r.length + 1 ≤ fuel →
    textLine fuel (x ++ r) st = some fD →
    ∃ fuel', r.length + 1 ≤ fuel' ∧
      textLine fuel' r { st with acc := (unescapeHTML x).reverse ++ st.acc } = some fD := by
  -- on a bound of the length, not on `x`: after `&amp;`, `&lt;`, `&nbsp;` the decoder goes on several characters further
  induction n with
  | zero =>
    intro x hl _ r _ fuel st fD hf h
    have : x = [] := by cases x with | nil => rfl | cons => simp at hl
    subst this
    exact ⟨fuel, by simpa using hf, by simpa [unescape_nil] using h⟩
  | succ n ih =>
    intro x hl hx r hr fuel st fD hf h
    cases x with
    | nil => exact ⟨fuel, by simpa using hf, by simpa [unescape_nil] using h⟩
    | cons c x0 =>
      obtain ⟨f, rfl⟩ : ∃ f, fuel = f + 1 := ⟨fuel - 1, by omega⟩
      have hc : c ≠ '<' := hx c (by simp)
      have hx0 : ∀ d ∈ x0, d ≠ '<' := fun d hd => hx d (by simp [hd])
      simp only [List.length_cons] at hl hf
      have key : ∀ (y : Str) (a : Char), y.length ≤ x0.length → (∀ d ∈ y, d ≠ '<') →
          textLine f (y ++ r) { st with acc := a :: st.acc } = some fD →
          ∃ fuel', r.length + 1 ≤ fuel' ∧
            textLine fuel' r { st with acc := (a :: unescapeHTML y).reverse ++ st.acc } = some fD := by
        intro y a hy hy' hh
        obtain ⟨fuel', h1, h2⟩ := ih y (by omega) hy' r hr f _ fD (by omega) hh
        exact ⟨fuel', h1, by simpa using h2⟩
      rw [List.cons_append] at h
      by_cases hamp : c = '&'
      · subst hamp
        rw [textLine_amp] at h
        rw [hasPrefix_app _ (by decide) r hr, hasPrefix_app _ (by decide) r hr, hasPrefix_app _ (by decide) r hr,
          hasPrefix_app _ (by decide) r hr, hasPrefix_app _ (by decide) r hr, hasPrefix_app _ (by decide) r hr] at h
        rw [unescape_amp]
        cases h1 : hasPrefix "amp;".toList x0 with
        | true =>
          have hlen : 4 ≤ x0.length := hasPrefix_length "amp;".toList x0 h1
          simp only [h1, if_true] at h ⊢
          rw [List.drop_append_of_le_length hlen] at h
          exact key _ _ (by simp) (mem_drop_ne hx0 _) h
        | false =>
          cases h2 : hasPrefix "lt;".toList x0 with
          | true =>
            have hlen : 3 ≤ x0.length := hasPrefix_length "lt;".toList x0 h2
            simp only [h1, h2, Bool.false_eq_true, if_false, if_true] at h ⊢
            rw [List.drop_append_of_le_length hlen] at h
            exact key _ _ (by simp) (mem_drop_ne hx0 _) h
          | false =>
            cases h3 : hasPrefix "nbsp;".toList x0 with
            | true =>
              have hlen : 5 ≤ x0.length := hasPrefix_length "nbsp;".toList x0 h3
              simp only [h1, h2, h3, Bool.false_eq_true, if_false, if_true] at h ⊢
              rw [List.drop_append_of_le_length hlen] at h
              exact key _ _ (by simp) (mem_drop_ne hx0 _) h
            | false =>
              simp only [h1, h2, h3, Bool.false_eq_true, if_false] at h ⊢
              split at h
              · cases h
              · exact key _ _ (Nat.le_refl _) hx0 h
      · rw [textLine_char f c _ st hc hamp] at h
        rw [unescape_char c x0 hamp]
        exact key _ _ (Nat.le_refl _) hx0 h

/-- the decoder's action on a tag `<body>` (state already flushed); `none` = not well-formed -/
def tagStep (body : Str) (st : TextSt) : Option TextSt :=
  match body with
  | '/' :: name =>
    if name = "v".toList then (if st.voice.isSome then some st else none)
    else match st.stack.getLast? with
      | some t => if t.name = name then some { st with stack := st.stack.dropLast } else none
      | none => none
  | c :: _ =>
    if isDigit c then
      match inlineTs body with
      | some t => some { st with pending := some t }
      | none => none
    else if isAlpha c then
      if body.contains '/' then none else
      let head := body.takeWhile (fun ch => !isBlank ch)
      let ann := trimSpace (body.drop head.length)
      match splitC '.' head with
      | name :: classes =>
        if classes.any (·.isEmpty) then none
        else if name = "v".toList then
          (if st.voice.isSome || ann = [] then none else some { st with voice := some ann })
        else some { st with stack := st.stack ++ [{ name := name, classes := classes, annotation := ann }] }
      | [] => none
    else none
  | [] => none

def headOf (body : Str) : Str := body.takeWhile (fun ch => !isBlank ch)
def annOf (body : Str) : Str := trimSpace (body.drop (headOf body).length)

theorem tagStep_cons (c : Char) (tl : Str) (st : TextSt) (hc : c ≠ '/') :
    tagStep (c :: tl) st =
      if isDigit c then
        match inlineTs (c :: tl) with
        | some t => some { st with pending := some t }
        | none => none
      else if isAlpha c then
        if (c :: tl).contains '/' then none else
        match splitC '.' (headOf (c :: tl)) with
        | name :: classes =>
          if classes.any (·.isEmpty) then none
          else if name = "v".toList then
            (if st.voice.isSome || annOf (c :: tl) = [] then none else some { st with voice := some (annOf (c :: tl)) })
          else some { st with stack := st.stack ++ [{ name := name, classes := classes, annotation := annOf (c :: tl) }] }
        | [] => none
      else none := by
  rw [tagStep]
  · rfl
  · exact fun h => hc h

theorem tagStep_nil (st : TextSt) : tagStep [] st = none := rfl

theorem alpha_facts {c : Char} (h : isAlpha c = true) : c ≠ '.' ∧ isBlank c = false ∧ c ≠ '/' := by
  refine ⟨?_, ?_, ?_⟩
  · intro e; subst e; revert h; decide
  · cases hb : isBlank c with
    | false => rfl
    | true =>
      simp only [isBlank, Bool.or_eq_true, decide_eq_true_eq] at hb
      rcases hb with rfl | rfl <;> (revert h; decide)
  · intro e; subst e; revert h; decide

/-- `Spec.VTT.textLine` holds the tag branch inline, with the recursive call in every leaf; `tagStep` is that branch as
    a function of the flushed state.  The two agree leaf by leaf: the proof walks the branch. -/
theorem textLine_lt (f : Nat) (rest : Str) (st : TextSt) :
    textLine (f + 1) ('<' :: rest) st =
      match rest.drop (rest.takeWhile (· != '>')).length with
      | [] => none
      | _ :: after =>
        if (rest.takeWhile (· != '>')).any (fun c => c = '<' || c = '&') then none else
        match tagStep (rest.takeWhile (· != '>')) (flushText st) with
        | some st3 => textLine f after st3
        | none => none := by
  rw [textLine]
  generalize rest.takeWhile (· != '>') = body
  generalize flushText st = st2
  cases rest.drop body.length with
  | nil => rfl
  | cons x after =>
    dsimp only
    by_cases hb : (body.any fun c => decide (c = '<') || decide (c = '&')) = true
    · simp only [hb, if_true]
    · simp only [hb]
      cases body with
      | nil => rfl
      | cons c tl =>
        by_cases hc : c = '/'
        · subst hc
          simp only [tagStep, Bool.false_eq_true, if_false]
          by_cases h1 : tl = "v".toList
          · by_cases h2 : st2.voice.isSome = true
            · simp only [h1, h2, if_true]
            · simp only [h1, h2, if_true, Bool.false_eq_true, if_false]
          · simp only [h1, if_false]
            cases st2.stack.getLast? with
            | none => rfl
            | some t =>
              dsimp only
              by_cases h3 : t.name = tl
              · simp only [h3, if_true]
              · simp only [h3, if_false]
        · rw [tagStep_cons c tl st2 hc]
          unfold annOf headOf
          simp only [Bool.false_eq_true, if_false]
          generalize trimSpace (drop (takeWhile (fun ch => !isBlank ch) (c :: tl)).length (c :: tl)) = ann
          generalize splitC '.' (takeWhile (fun ch => !isBlank ch) (c :: tl)) = parts
          generalize inlineTs (c :: tl) = its
          generalize (c :: tl).contains '/' = hasSl
          generalize isDigit c = dg
          generalize isAlpha c = al
          cases dg with
          | true => simp only [if_true]; cases its <;> rfl
          | false =>
            simp only [Bool.false_eq_true, if_false]
            cases al with
            | false => simp only [Bool.false_eq_true, if_false]
            | true =>
              simp only [if_true]
              cases hasSl with
              | true => simp only [if_true]
              | false =>
                simp only [Bool.false_eq_true, if_false]
                cases parts with
                | nil => rfl
                | cons name classes =>
                  dsimp only
                  cases classes.any (fun x => isEmpty x) with
                  | true => simp only [if_true]
                  | false =>
                    simp only [Bool.false_eq_true, if_false]
                    by_cases hv : name = "v".toList
                    · simp only [hv, if_true]
                      cases (st2.voice.isSome || decide (ann = [])) with
                      | true => simp only [if_true]
                      | false => simp only [Bool.false_eq_true, if_false]
                    · simp only [hv, if_false]

theorem textLine_lt_inv (f : Nat) (rest : Str) (st fD : TextSt) (h : textLine (f + 1) ('<' :: rest) st = some fD) :
    ∃ body after st3, rest = body ++ '>' :: after ∧ (∀ c ∈ body, c ≠ '>' ∧ c ≠ '<' ∧ c ≠ '&') ∧
      tagStep body (flushText st) = some st3 ∧ textLine f after st3 = some fD := by
  rw [textLine_lt] at h
  split at h
  · cases h
  · rename_i x after heq
    obtain ⟨h1, h2⟩ := List.drop_length_takeWhile_eq_cons heq
    have hx : x = '>' := by simpa using h2
    subst hx
    split at h
    · cases h
    · rename_i hb
      split at h
      · rename_i st3 h3
        refine ⟨_, after, st3, h1, ?_, h3, h⟩
        intro c hc
        have h4 := List.mem_takeWhile_imp hc
        simp only [Bool.not_eq_true, List.any_eq_false, Bool.or_eq_false_iff, decide_eq_false_iff_not] at hb
        exact ⟨by simpa using h4, (hb c hc).1, (hb c hc).2⟩
      · cases h

theorem tagStep_close (name : Str) (st st3 : TextSt) (h : tagStep ('/' :: name) st = some st3) :
    (name = "v".toList ∧ st.voice.isSome = true ∧ st3 = st) ∨
    (name ≠ "v".toList ∧ ∃ t, st.stack.getLast? = some t ∧ t.name = name ∧
      st3 = { st with stack := st.stack.dropLast }) := by
  simp only [tagStep] at h
  by_cases h1 : name = "v".toList
  · left
    simp only [h1, if_true] at h
    split at h
    · rename_i h2; cases h; exact ⟨h1, h2, rfl⟩
    · cases h
  · right
    simp only [h1, if_false] at h
    split at h
    · rename_i t ht
      split at h
      · rename_i h3; cases h; exact ⟨h1, t, ht, h3, rfl⟩
      · cases h
    · cases h

theorem tagStep_open (c : Char) (tl : Str) (st st3 : TextSt) (hc : c ≠ '/') (hd : isDigit c = false)
    (h : tagStep (c :: tl) st = some st3) :
    isAlpha c = true ∧ (c :: tl).contains '/' = false ∧
    ∃ name classes, splitC '.' (headOf (c :: tl)) = name :: classes ∧ classes.any (·.isEmpty) = false ∧
      ((name = "v".toList ∧ st.voice = none ∧ annOf (c :: tl) ≠ [] ∧ st3 = { st with voice := some (annOf (c :: tl)) }) ∨
       (name ≠ "v".toList ∧
        st3 = { st with stack := st.stack ++ [{ name := name, classes := classes, annotation := annOf (c :: tl) }] })) := by
  rw [tagStep_cons c tl st hc, if_neg (by rw [hd]; exact Bool.false_ne_true)] at h
  by_cases ha : isAlpha c = true
  · rw [if_pos ha] at h
    by_cases hs : (c :: tl).contains '/' = true
    · rw [if_pos hs] at h; cases h
    · rw [if_neg hs] at h
      refine ⟨ha, by simpa using hs, ?_⟩
      cases hsp : splitC '.' (headOf (c :: tl)) with
      | nil => rw [hsp] at h; cases h
      | cons name classes =>
        rw [hsp] at h
        simp only at h
        by_cases hcl : classes.any (·.isEmpty) = true
        · rw [if_pos hcl] at h; cases h
        · rw [if_neg hcl] at h
          refine ⟨name, classes, rfl, Bool.eq_false_iff.mpr hcl, ?_⟩
          by_cases hv : name = "v".toList
          · rw [if_pos hv] at h
            by_cases hva : (st.voice.isSome || decide (annOf (c :: tl) = [])) = true
            · rw [if_pos hva] at h; cases h
            · rw [if_neg hva] at h
              cases h
              simp only [Bool.or_eq_true, decide_eq_true_eq, not_or] at hva
              refine Or.inl ⟨hv, ?_, hva.2, rfl⟩
              cases hvo : st.voice with
              | none => rfl
              | some v => rw [hvo] at hva; simp at hva
          · rw [if_neg hv] at h; cases h; exact Or.inr ⟨hv, rfl⟩
  · rw [if_neg ha] at h; cases h

def tagCharOK (c : Char) : Bool := !(c = '=' || c = '\x0c' || c = '|' || c = '\n' || c = '\r')

structure TagChar (c : Char) : Prop where
  noEq : c ≠ '='
  noFF : c ≠ '\x0c'
  noBar : c ≠ '|'
  noLF : c ≠ '\n'
  noCR : c ≠ '\r'

theorem tagChar_of_ok {c : Char} (h : tagCharOK c = true) : TagChar c := by
  simp only [tagCharOK, Bool.not_eq_true', Bool.or_eq_false_iff, decide_eq_false_iff_not] at h
  exact ⟨h.1.1.1.1, h.1.1.1.2, h.1.1.2, h.1.2, h.2⟩

theorem scanOK_false_cons (c : Char) (cs : Str) :
    scanOK false (c :: cs) =
      if c = '<' then (match cs with | d :: _ => !isDigit d | [] => true) && scanOK true cs else scanOK false cs := by
  simp only [scanOK]
  cases cs <;> rfl

theorem scanOK_true_cons (c : Char) (cs : Str) :
    scanOK true (c :: cs) =
      if c = '>' then scanOK false cs
      else !(c = '=' || c = '\x0c' || c = '|' || c = '\n' || c = '\r') && scanOK true cs := by
  simp only [scanOK]

theorem scanOK_text (x r : Str) (hx : ∀ c ∈ x, c ≠ '<') : scanOK false (x ++ r) = scanOK false r := by
  induction x with
  | nil => rfl
  | cons c x ih =>
    have hc : c ≠ '<' := hx c (by simp)
    rw [List.cons_append, scanOK_false_cons]
    simp only [hc, if_false]
    exact ih (fun d hd => hx d (by simp [hd]))

theorem scanOK_lt_tx (s : Str) :
    scanOK false ('<' :: s) = ((match s with | d :: _ => !isDigit d | [] => true) && scanOK true s) := by
  rw [scanOK_false_cons]; simp only [if_true]

theorem scanOK_body (body after : Str) (hb : ∀ c ∈ body, c ≠ '>') :
    scanOK true (body ++ '>' :: after) = (body.all tagCharOK && scanOK false after) := by
  induction body with
  | nil => simp [scanOK_true_cons]
  | cons c body ih =>
    have hc : c ≠ '>' := hb c (by simp)
    rw [List.cons_append, scanOK_true_cons]
    simp only [hc, if_false, List.all_cons, ih (fun d hd => hb d (by simp [hd])), tagCharOK, Bool.and_assoc]

theorem scanOK_tag (body after : Str) (hb : ∀ c ∈ body, c ≠ '>') (h : scanOK false ('<' :: (body ++ '>' :: after)) = true) :
    (∀ d tl, body = d :: tl → isDigit d = false) ∧ (∀ c ∈ body, tagCharOK c = true) ∧ scanOK false after = true := by
  rw [scanOK_lt_tx, scanOK_body body after hb] at h
  simp only [Bool.and_eq_true, List.all_eq_true] at h
  refine ⟨?_, h.2.1, h.2.2⟩
  intro d tl e
  subst e
  simpa using h.1

end VTTRead
end Astisub
