import Astisub.Lemmas.SSA2Bytes
import Astisub.Lemmas.ConvView
import Astisub.Lemmas.SSA2Fixpoint

/-!
# Lemmas/ConvSSA — conversion to SSA / ASS (C07, destinations `ssa` and `ass`)

A plain cue list in range (`PlainSSA`) is representable in the sense of `C04doc2.write_read`; the normal
form the reader answers shows its cues at centisecond resolution; the driver's byte-level reader on the
written bytes answers that normal form.
-/

namespace Astisub
namespace Conv2SSA
open Go SSA List Driver ConvView Spec.Conv Conv2

/-- the override block (`SSAEffect`) of a run; empty when unset -/
def runEff (li : LItem) : Str := (SSA.kvGet li.attrs "SSAEffect").getD []

/-- a plain line: no run carries an SSA override block (`SSAEffect` absent or empty); the line's text
    (runs concatenated, however it is cut into runs) is made of the simple characters of `simpleText`
    (so no `{`, `}`, `\`), is not empty and has no blank at either end.  The voice and all other run
    attributes are free. -/
def plainLine (l : Line) : Bool :=
  l.items.all (fun li => runEff li == []) && simpleText l.str && ConvSRT.edgesOk l.str

/-- the cells of the Dialogue row other than the instants and the text survive being cells: the margins
    and the layer the writer reads from the cue's own `SSA…` attributes fit 64 bits; the style name, the
    voice (column `Name`) and the cue's `SSAEffect` contain neither a comma nor a line feed -/
def CueCells (it : CItem) : Prop :=
  let e := eventOfItem it
  Int64 (e.layer.getD 0) ∧ Int64 (e.marginL.getD 0) ∧ Int64 (e.marginR.getD 0) ∧ Int64 (e.marginV.getD 0) ∧
  ',' ∉ e.style ∧ ',' ∉ e.name ∧ ',' ∉ e.effect ∧ '\n' ∉ e.style ∧ '\n' ∉ e.name ∧ '\n' ∉ e.effect

instance (it : CItem) : Decidable (CueCells it) := by unfold CueCells; exact inferInstance

/-- a plain cue: at least one line (a cue without text is read back with one empty line), every line
    plain, good cells -/
def plainCue (it : CItem) : Bool := !it.lines.isEmpty && it.lines.all plainLine && decide (CueCells it)

/-- the SSA-specific tables of the cue list are writable and readable (`Props/C04doc2.lean`): the
    script info read from the metadata (`Title`, `Comments`, `SSA…`) is good, every style's `SSA…`
    attributes are good cells, style names need no trimming, style identifiers are distinct.  Stated on
    the style list as given (the writer sorts it). -/
def tablesOK (s : Subs) : Bool :=
  decide (InfoOK (infoOfMeta s.metadata)) &&
  decide (∀ st ∈ s.styles.map styleOfDef, StyleOK st ∧ StyleTrimmed st ∧ StyleNL st) &&
  decide ((s.styles.map (·.id)).Nodup)

/-- the written document passes the line scanner unharmed: no carriage return anywhere (the scanner
    takes it for a line end) and no line of 64 KiB or more (`bufio.ErrTooLong`) -/
def docFit (s : Subs) : Bool :=
  match SSA.write s with
  | .ok out => out.all (· != '\r') && (splitC '\n' out).all fun l => decide (byteLen l < 65536)
  | _ => false

/-- **Plain cue lists for SSA / ASS.** at least one cue, every cue plain, writable tables, a document
    that passes the scanner.  Free: every attribute of another format on runs, cues, styles, regions
    and in the metadata; inline style references; start offsets; comments; regions; indexes; how a line
    is cut into runs; the cue's own SSA margins / layer / effect / marked flag / style reference; voices. -/
def PlainSSA (s : Subs) : Bool := !s.items.isEmpty && s.items.all plainCue && tablesOK s && docFit s

theorem lineFlat_plain (l : Line) (h : ∀ li ∈ l.items, runEff li = []) :
    (l.items.map fun li => (SSA.kvGet li.attrs "SSAEffect").getD [] ++ li.text).flatten = l.str := by
  unfold Line.str
  congr 1
  apply map_congr_left
  intro li hli
  have := h li hli
  unfold runEff at this
  rw [this, nil_append]

theorem plainLine_runs {l : Line} (h : plainLine l = true) : ∀ li ∈ l.items, runEff li = [] := by
  simp only [plainLine, Bool.and_eq_true, all_eq_true, beq_iff_eq] at h
  exact h.1.1

theorem plainLine_simple {l : Line} (h : plainLine l = true) : ∀ c ∈ l.str, simpleChar c = true := by
  simp only [plainLine, Bool.and_eq_true, simpleText_eq, all_eq_true] at h
  exact h.1.2

theorem plainLine_trimmed {l : Line} (h : plainLine l = true) : Trimmed l.str := by
  have hs := plainLine_simple h
  simp only [plainLine, Bool.and_eq_true] at h
  exact trimmed_of_edges h.2 hs

theorem noPair_of_not_mem (a b : Char) : ∀ (L : Str), a ∉ L → noPair a b L = true := by
  intro L
  induction L with
  | nil => intro _; rfl
  | cons c cs ih =>
    intro h
    simp only [mem_cons, not_or] at h
    have : c ≠ a := fun e => h.1 e.symm
    simp [noPair, this, ih h.2]

theorem lineOK_of_plain {l : Line} (h : plainLine l = true) : LineOK l.str :=
  ⟨noPair_of_not_mem _ _ _ (simple_not_mem (plainLine_simple h) '\\' (by decide)),
   noPair_of_not_mem _ _ _ (simple_not_mem (plainLine_simple h) '\\' (by decide)),
   plainLine_trimmed h⟩

theorem noBrace_of_plain {l : Line} (h : plainLine l = true) : NoBrace l.str :=
  ⟨simple_not_mem (plainLine_simple h) '{' (by decide), simple_not_mem (plainLine_simple h) '}' (by decide)⟩

theorem event_text (it : CItem) (h : ∀ l ∈ it.lines, plainLine l = true) :
    (eventOfItem it).text = join "\\n".toList (it.lines.map Line.str) := by
  unfold eventOfItem
  simp only
  congr 1
  apply map_congr_left
  intro l hl
  exact lineFlat_plain l (plainLine_runs (h l hl))

theorem nl_not_mem_text (it : CItem) (h : ∀ l ∈ it.lines, plainLine l = true) : '\n' ∉ (eventOfItem it).text := by
  rw [event_text it h]
  apply not_mem_join (by decide)
  intro L hL
  obtain ⟨l, hl, rfl⟩ := mem_map.mp hL
  exact simple_not_mem (plainLine_simple (h l hl)) '\n' (by decide)

theorem trimmed_text (it : CItem) (h : ∀ l ∈ it.lines, plainLine l = true) : Trimmed (eventOfItem it).text := by
  rw [event_text it h, sepn]
  apply trimmed_join
  intro L hL
  obtain ⟨l, hl, rfl⟩ := mem_map.mp hL
  exact plainLine_trimmed (h l hl)

theorem plain_parts {s : Subs} (hp : PlainSSA s = true) :
    s.items ≠ [] ∧ (∀ it ∈ s.items, it.lines ≠ [] ∧ (∀ l ∈ it.lines, plainLine l = true) ∧ CueCells it) ∧
    InfoOK (infoOfMeta s.metadata) ∧ (∀ st ∈ s.styles.map styleOfDef, StyleOK st ∧ StyleTrimmed st ∧ StyleNL st) ∧
    (s.styles.map (·.id)).Nodup ∧ docFit s = true := by
  simp only [PlainSSA, tablesOK, Bool.and_eq_true, Bool.not_eq_true', all_eq_true, decide_eq_true_eq] at hp
  obtain ⟨⟨⟨hne, hcues⟩, ⟨hinfo, hst⟩, hnd⟩, hfit⟩ := hp
  refine ⟨by simpa using hne, ?_, hinfo, hst, hnd, hfit⟩
  intro it hit
  have := hcues it hit
  simp only [plainCue, Bool.and_eq_true, Bool.not_eq_true', all_eq_true, decide_eq_true_eq] at this
  exact ⟨by simpa using this.1.1, this.1.2, this.2⟩

theorem repRead_of_plain (s : Subs) (hr : inRange "ssa" s = true) (hp : PlainSSA s = true) : RepRead s := by
  obtain ⟨_, hcues, hinfo, hst, hnd, _⟩ := plain_parts hp
  have hrg := inRange_items (dst := "ssa") (by decide) hr
  refine ⟨hinfo, fun st h => hst st (by obtain ⟨d, hd, rfl⟩ := mem_writerStyles.mp h; exact mem_map_of_mem hd), ?_, (styleIds_perm s).nodup_iff.mpr hnd⟩
  intro e he
  obtain ⟨it, hit, rfl⟩ := mem_map.mp he
  obtain ⟨_, hl, hc⟩ := hcues it hit
  obtain ⟨r1, r2, r3, r4⟩ := hrg it hit
  obtain ⟨c1, c2, c3, c4, c5, c6, c7, c8, c9, c10⟩ := hc
  exact ⟨⟨⟨r1, r2⟩, ⟨r3, r4⟩, c1, c2, c3, c4, c5, c6, c7⟩, trimmed_text it hl, c8, c9, c10, nl_not_mem_text it hl⟩

/-- the lines the SSA reader rebuilds for a plain cue: every line one attribute-free run carrying the
    line's text, voiced with the cue's `Name` -/
theorem lines_norm (ids : List Str) (v : Bool) (it : CItem) (hne : it.lines ≠ [])
    (h : ∀ l ∈ it.lines, plainLine l = true) :
    (eventItem ids ((eventOfItem it).norm "Dialogue".toList v)).lines
      = it.lines.map fun l => { voice := (eventOfItem it).name, items := [{ text := l.str }] } := by
  have ht : ((eventOfItem it).norm "Dialogue".toList v).text = join "\\n".toList (it.lines.map Line.str) := by
    show trimSpace (eventOfItem it).text = _
    rw [trimSpace_of_trimmed (trimmed_text it h), event_text it h]
  show (textLines ((eventOfItem it).norm "Dialogue".toList v).text).map _ = _
  rw [ht, textLines_join _ (by simpa using hne) (by
    intro L hL
    obtain ⟨l, hl, rfl⟩ := mem_map.mp hL
    exact lineOK_of_plain (h l hl)), map_map]
  apply map_congr_left
  intro l hl
  simp only [Function.comp_apply, lineRuns_plain _ (noBrace_of_plain (h l hl))]
  rfl

theorem lineTexts_norm (ids : List Str) (v : Bool) (it : CItem) (hne : it.lines ≠ [])
    (h : ∀ l ∈ it.lines, plainLine l = true) :
    lineTexts (eventItem ids ((eventOfItem it).norm "Dialogue".toList v)) = lineTexts it := by
  simp only [lineTexts, lines_norm ids v it hne h, map_map]
  exact map_congr_left fun l _ => by simp [Line.str]

theorem view_norm (s : Subs) (hp : PlainSSA s = true) : viewOf (SSA.norm s) = truncView 10000000 (viewOf s) := by
  obtain ⟨_, hcues, _⟩ := plain_parts hp
  simp only [viewOf_eq, SSA.norm, truncView, map_map]
  apply map_congr_left
  intro it hit
  obtain ⟨hne, hl, _⟩ := hcues it hit
  exact cueView_trunc 10000000 it _ rfl rfl (lineTexts_norm _ _ it hne hl)

/-- an instant of the check's range, truncated, is below the 2⁶² limit of `SSAD.readBytes` -/
theorem natAbs_trunc_lt (u t : Int) (hu : 0 < u) (h0 : 0 ≤ t) (h1 : t < 360000000000000) :
    (truncTo u t).natAbs < 2 ^ 62 := by
  have := C07.trunc_nonneg u t hu h0
  have := (C07.trunc_le u t hu).1
  have e : (2 : Nat) ^ 62 = 4611686018427387904 := by decide
  rw [e]
  omega

theorem inRange_norm (s : Subs) (hr : inRange "ssa" s = true) : SSAD.inRange (SSA.norm s) = true := by
  have hrg := inRange_items (dst := "ssa") (by decide) hr
  simp only [SSAD.inRange, SSA.norm, all_map, all_eq_true, Function.comp_apply, Bool.and_eq_true, decide_eq_true_eq]
  intro it hit
  obtain ⟨r1, r2, r3, r4⟩ := hrg it hit
  exact ⟨natAbs_trunc_lt 10000000 _ (by decide) r1 r2, natAbs_trunc_lt 10000000 _ (by decide) r3 r4⟩

theorem readBytes_written (s : Subs) (out : Str) (hr : inRange "ssa" s = true) (hp : PlainSSA s = true)
    (hw : SSA.write s = .ok out) : SSAD.readBytes (utf8 out) = some (.ok (SSA.norm s)) := by
  have hrep := repRead_of_plain s hr hp
  obtain ⟨ls, hout, hnl, hsplit⟩ := written_lines s out hrep hw
  obtain ⟨_, _, _, _, _, hfit⟩ := plain_parts hp
  simp only [docFit, hw, Bool.and_eq_true, all_eq_true, bne_iff_ne, ne_eq, decide_eq_true_eq] at hfit
  obtain ⟨hcr, hlen⟩ := hfit
  have hread := SSA.write_read s out hrep hw
  rw [hsplit, read_blank_end] at hread
  rw [hsplit] at hlen
  have hcr' : ∀ l ∈ ls, '\r' ∉ l := by
    intro l hl hm
    apply hcr '\r' _ rfl
    rw [hout]
    unfold SSA.unlines
    exact mem_flatten.mpr ⟨l ++ ['\n'], mem_map_of_mem hl, mem_append_left _ hm⟩
  rw [hout, readBytes_unlines ls (fun l hl => ⟨hnl l hl, hcr' l hl⟩) (fun l hl => hlen l (mem_append_left _ hl)), hread]
  simp only [inRange_norm s hr, if_true]

theorem write_plain (s : Subs) (hr : inRange "ssa" s = true) (hp : PlainSSA s = true) : ∃ out, SSA.write s = .ok out :=
  write_ok_of_rep s (repRead_of_plain s hr hp) (plain_parts hp).1

/-- two cues with foreign attributes everywhere (and the SSA writer's own: a margin, a style reference,
    a voice, an empty `SSAEffect`), several runs per line, a sub-centisecond instant, a comment, a region,
    two styles out of order with SSA and foreign attributes, metadata with a title and a foreign key -/
def exampleForeign : Subs :=
  { items := [
      { startAt := 1234567890, endAt := 3000000000, index := 7, region := some "r".toList, style := some "Top".toList,
        attrs := some [("SSAMarginLeft".toList, "12".toList), ("STLJustificationCode".toList, "2".toList),
                       ("WebVTTAlign".toList, "start".toList)],
        comments := ["seen".toList],
        lines := [ { voice := "Bob".toList,
                     items := [ { text := "Hello, ".toList, attrs := some [("TTMLColor".toList, "#ff0000".toList)] },
                                { text := "".toList, startAt := 5 },
                                { text := "world  42!".toList, style := some "s".toList,
                                  attrs := some [("SRTBold".toList, "true".toList), ("TeletextDoubleHeight".toList, "true".toList),
                                                 ("WebVTTTags".toList, "b|i".toList)] } ] },
                   { items := [ { text := "Is it?".toList, attrs := some [("SSAEffect".toList, [])] } ] } ] },
      { startAt := 359999999999999, endAt := 0, lines := [ { items := [ { text := "x".toList } ] } ] } ],
    regions := [{ id := "r".toList }],
    styles := [{ id := "Top".toList, attrs := some [("SSABold".toList, "true".toList), ("TTMLColor".toList, "red".toList)] },
               { id := "Base".toList, attrs := some [("SSAFontName".toList, "Arial Black".toList)] }],
    metadata := some [("Framerate".toList, "25".toList), ("Title".toList, "t".toList)] }

theorem exampleForeign_styles : writerStyles exampleForeign =
    [styleOfDef (exampleForeign.styles.getD 1 default), styleOfDef (exampleForeign.styles.getD 0 default)] := by
  simp [writerStyles, exampleForeign, mergeSort, strLt]

theorem exampleForeign_fit : docFit exampleForeign = true := by
  unfold docFit
  rw [write_eq]
  unfold writeCore
  rw [exampleForeign_styles]
  decide +kernel

theorem exampleForeign_plain : PlainSSA exampleForeign = true := by
  simp only [PlainSSA, exampleForeign_fit, Bool.and_true]
  decide +kernel

theorem exampleForeign_range : inRange "ssa" exampleForeign = true := by decide +kernel

example : inRange "ssa" exampleForeign = true := exampleForeign_range
-- the predicate excludes something
example : plainLine { items := [{ text := " x".toList }] } = false := by decide +kernel
example : plainLine { items := [{ text := "a{b".toList }] } = false := by decide +kernel
example : plainLine { items := [{ text := "a\\Nb".toList }] } = false := by decide +kernel
example : plainLine { items := [{ text := "x".toList, attrs := some [("SSAEffect".toList, "{\\i1}".toList)] }] } = false := by decide +kernel
example : plainCue { startAt := 0, endAt := 1, lines := [] } = false := by decide +kernel
example : plainCue { startAt := 0, endAt := 1, style := some "a,b".toList, lines := [{ items := [{ text := "x".toList }] }] } = false := by
  decide +kernel

end Conv2SSA
end Astisub
