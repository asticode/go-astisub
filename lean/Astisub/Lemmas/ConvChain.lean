import Astisub.Lemmas.ConvSRT
import Astisub.Lemmas.ConvVTT
import Astisub.Lemmas.ConvSSA
import Astisub.Lemmas.ConvTTML

/-!
# Lemmas/ConvChain — what one destination returns is plain for the next (C07, chained conversions)

For the pairs SubRip → WebVTT / SubRip / SSA / TTML, SSA → SubRip, WebVTT → TTML, and TTML (after SubRip or
WebVTT) → SubRip / SSA: the cue list the first reader answers for a plain cue list is plain
for the second destination — the hypothesis of `Dest.Hop.next`.

## SubRip's answer is plain for WebVTT
-/

namespace Astisub
namespace ConvChain
open Go SRT SRTDoc ConvView Spec.Conv Driver List

theorem runAttrs_plain (li : LItem) (h : plainRun li = true) : runAttrs (styleOf li) = none := by
  have hs : styled (styleOf li) = false := by simpa [plainRun] using h
  unfold styled at hs
  unfold runAttrs
  simp [hs]

theorem norm_merge_line (l : Line) (h : ConvSRT.plainLine l = true) :
    normLine (mergeLine l) = { items := [{ text := l.str }] } := by
  obtain ⟨a, ha1, _, hmerge⟩ := ConvSRT.mergePlain_of_plainLine h
  simp only [normLine, mergeLine, hmerge, List.map_cons, List.map_nil, normRun, ConvSRT.styleOf_text,
    runAttrs_plain a ha1]

theorem vtt_plainLine_one (t : Str) (hs : simpleText t = true) (he : ConvSRT.edgesOk t = true) :
    ConvVTT.plainLine { items := [{ text := t }] } = true := by
  have e : ({ items := [{ text := t }] } : Line).str = t := by simp [Line.str]
  simp only [ConvVTT.plainLine, e, hs, Bool.and_true]
  simpa [ConvVTT.bareLine, ConvVTT.bareRun_text, ConvVTT.edgesOk_eq] using he

theorem srt_plainLine_one (v t : Str) (a : Attrs) (ha : a = none ∨ a = some []) (hs : simpleText t = true)
    (he : ConvSRT.edgesOk t = true) :
    ConvSRT.plainLine { voice := v, items := [{ text := t, startAt := 0, style := none, attrs := a }] } = true := by
  have e : ({ voice := v, items := [{ text := t, startAt := 0, style := none, attrs := a }] } : Line).str = t := by
    simp [Line.str]
  simp only [ConvSRT.plainLine, e, hs, he, Bool.and_true, List.all_cons, List.all_nil]
  rcases ha with rfl | rfl <;> rfl

theorem normItems_mem (items : List CItem) (k : Nat) (x : CItem) (hx : x ∈ normItems k items) :
    ∃ j, ∃ it ∈ items, x = normItem j it := by
  induction items generalizing k with
  | nil => simp [normItems] at hx
  | cons a rest ih =>
    simp only [normItems, List.mem_cons] at hx
    rcases hx with rfl | hx
    · exact ⟨k, a, by simp, rfl⟩
    · obtain ⟨j, it, hit, e⟩ := ih (k + 1) hx
      exact ⟨j, it, by simp [hit], e⟩

theorem norm_mem (s : Subs) (x : CItem) (hx : x ∈ (norm (mergeS s)).items) :
    ∃ j, ∃ it ∈ s.items, x = normItem j (mergeItem it) := by
  obtain ⟨j, it', hit', e⟩ := normItems_mem _ 0 x hx
  obtain ⟨it, hit, rfl⟩ := List.mem_map.mp hit'
  exact ⟨j, it, hit, e⟩

theorem norm_length (s : Subs) : (norm (mergeS s)).items.length = s.items.length := by
  simp [norm, mergeS, normItems_length]

theorem norm_nonempty (s : Subs) (hne : s.items.isEmpty = false) : (norm (mergeS s)).items.isEmpty = false := by
  cases hi : s.items with
  | nil => rw [hi] at hne; cases hne
  | cons a rest => simp [norm, mergeS, hi, normItems]

theorem norm_lines (j : Nat) (it : CItem) (h : ∀ l ∈ it.lines, ConvSRT.plainLine l = true) :
    (normItem j (mergeItem it)).lines = it.lines.map fun l => ({ items := [{ text := l.str }] } : Line) := by
  simp only [normItem, mergeItem, List.map_map]
  exact List.map_congr_left fun l hlm => norm_merge_line l (h l hlm)

theorem plainSRT_norm (s : Subs) (hp : ConvSRT.PlainSRT s = true) : ConvSRT.PlainSRT (norm (mergeS s)) = true := by
  obtain ⟨hne, hlen, hl⟩ := ConvSRT.plainSRT_parts hp
  simp only [ConvSRT.PlainSRT, norm_nonempty s hne, norm_length, hlen, Bool.not_false, decide_true, Bool.true_and,
    List.all_eq_true]
  intro x hx
  obtain ⟨j, it, hit, rfl⟩ := norm_mem s x hx
  rw [norm_lines j it (hl it hit)]
  intro l' hl'
  obtain ⟨l, hlm, rfl⟩ := List.mem_map.mp hl'
  have h0 := ConvSRT.plainLine_text (hl it hit l hlm)
  exact srt_plainLine_one [] _ none (Or.inl rfl) h0.1 h0.2

theorem plainVTT_norm (s : Subs) (hp : ConvSRT.PlainSRT s = true) : ConvVTT.PlainVTT (norm (mergeS s)) = true := by
  obtain ⟨hne, hlen, hl⟩ := ConvSRT.plainSRT_parts hp
  simp only [ConvVTT.PlainVTT, norm_nonempty s hne, norm_length, hlen, Bool.not_false, decide_true, Bool.true_and,
    Bool.and_eq_true, List.all_eq_true]
  refine ⟨⟨⟨rfl, by rw [VTT.styleLines_nil _ rfl]; rfl⟩, rfl⟩, ?_⟩
  intro x hx
  obtain ⟨j, it, hit, rfl⟩ := norm_mem s x hx
  have hset : ∀ k, VTT.cueSetting (norm (mergeS s)) (normItem j (mergeItem it)) k = none := fun _ => rfl
  simp only [ConvVTT.plainCue, hset, VTT.optOk, Bool.and_true, Bool.and_eq_true, List.all_eq_true]
  refine ⟨⟨rfl, rfl⟩, ?_⟩
  rw [norm_lines j it (hl it hit)]
  intro l' hl'
  obtain ⟨l, hlm, rfl⟩ := List.mem_map.mp hl'
  have h0 := ConvSRT.plainLine_text (hl it hit l hlm)
  exact vtt_plainLine_one _ h0.1 h0.2

end ConvChain

/-!
## SubRip's answer is plain for SSA, SSA's answer is plain for SubRip
-/

namespace ConvChain
open Go List Driver ConvView Spec.Conv

theorem foldl_voice_nil (ls : List Line) (h : ∀ l ∈ ls, l.voice = []) :
    ls.foldl (fun (n : Str) l => if l.voice.isEmpty then n else l.voice) [] = [] := by
  induction ls with
  | nil => rfl
  | cons l rest ih =>
    have hl : l.voice = [] := h l (by simp)
    simp only [foldl_cons, hl, isEmpty_nil, if_true]
    exact ih (fun x hx => h x (by simp [hx]))

theorem plainLine_one (v t : Str) (a : Attrs) (ha : a = none ∨ a = some []) (hs : simpleText t = true)
    (he : ConvSRT.edgesOk t = true) :
    Conv2SSA.plainLine { voice := v, items := [{ text := t, startAt := 0, style := none, attrs := a }] } = true := by
  have e : ({ voice := v, items := [{ text := t, startAt := 0, style := none, attrs := a }] } : Line).str = t := by
    simp [Line.str]
  simp only [Conv2SSA.plainLine, e, hs, he, Bool.and_true, all_cons, all_nil]
  rcases ha with rfl | rfl <;> rfl

theorem cueCells_bare (it : CItem) (hs : it.style = none) (ha : it.attrs = none ∨ it.attrs = some [])
    (hv : ∀ l ∈ it.lines, l.voice = []) : Conv2SSA.CueCells it := by
  have hk : ∀ k, SSA.kvGet it.attrs k = none := by
    intro k
    rcases ha with h | h <;> rw [h] <;> rfl
  have e1 : (SSA.eventOfItem it).layer = none := congrArg (Option.map atoiLoose) (hk "SSALayer")
  have e2 : (SSA.eventOfItem it).marginL = none := congrArg (Option.map atoiLoose) (hk "SSAMarginLeft")
  have e3 : (SSA.eventOfItem it).marginR = none := congrArg (Option.map atoiLoose) (hk "SSAMarginRight")
  have e4 : (SSA.eventOfItem it).marginV = none := congrArg (Option.map atoiLoose) (hk "SSAMarginVertical")
  have e5 : (SSA.eventOfItem it).style = [] := congrArg (Option.getD · []) hs
  have e6 : (SSA.eventOfItem it).effect = [] := congrArg (Option.getD · []) (hk "SSAEffect")
  have e7 : (SSA.eventOfItem it).name = [] := foldl_voice_nil it.lines hv
  unfold Conv2SSA.CueCells
  simp only [e1, e2, e3, e4, e5, e6, e7]
  decide

theorem tablesOK_bare (s : Subs) (hm : s.metadata = none ∨ s.metadata = some []) (hs : s.styles = []) :
    Conv2SSA.tablesOK s = true := by
  unfold Conv2SSA.tablesOK
  rcases hm with h | h <;> rw [h, hs] <;> decide

theorem plainSSA_norm_srt (s : Subs) (hp : ConvSRT.PlainSRT s = true) (hl : ∀ it ∈ s.items, it.lines ≠ [])
    (hfit : Conv2SSA.docFit (SRTDoc.norm (SRTDoc.mergeS s)) = true) :
    Conv2SSA.PlainSSA (SRTDoc.norm (SRTDoc.mergeS s)) = true := by
  obtain ⟨hne, _, hpl⟩ := ConvSRT.plainSRT_parts hp
  have htab : Conv2SSA.tablesOK (SRTDoc.norm (SRTDoc.mergeS s)) = true := tablesOK_bare _ (Or.inl rfl) rfl
  simp only [Conv2SSA.PlainSSA, ConvChain.norm_nonempty s hne, htab, hfit, Bool.not_false, Bool.true_and, Bool.and_true,
    all_eq_true]
  intro x hx
  obtain ⟨j, it, hit, rfl⟩ := ConvChain.norm_mem s x hx
  have hlines := ConvChain.norm_lines j it (hpl it hit)
  simp only [Conv2SSA.plainCue, Bool.and_eq_true, Bool.not_eq_true', all_eq_true, decide_eq_true_eq]
  refine ⟨?_, cueCells_bare _ rfl (Or.inl rfl) ?_⟩ <;> rw [hlines]
  · refine ⟨by simpa using hl it hit, ?_⟩
    intro l hlm
    obtain ⟨l0, hl0, rfl⟩ := mem_map.mp hlm
    have h0 := ConvSRT.plainLine_text (hpl it hit l0 hl0)
    exact plainLine_one [] _ none (Or.inl rfl) h0.1 h0.2
  · intro l hlm
    obtain ⟨_, _, rfl⟩ := mem_map.mp hlm
    rfl

theorem plainSRT_norm_ssa (s : Subs) (hp : Conv2SSA.PlainSSA s = true) (hlen : s.items.length ≤ int64Max) :
    ConvSRT.PlainSRT (SSA.norm s) = true := by
  obtain ⟨hne, hcues, _⟩ := Conv2SSA.plain_parts hp
  have hne' : (SSA.norm s).items.isEmpty = false := by
    cases hi : s.items with
    | nil => exact absurd hi hne
    | cons a r => simp [SSA.norm, hi]
  have hlen' : (SSA.norm s).items.length = s.items.length := by simp [SSA.norm]
  simp only [ConvSRT.PlainSRT, hne', hlen', hlen, Bool.not_false, decide_true, Bool.true_and, all_eq_true]
  intro x hx
  simp only [SSA.norm, mem_map] at hx
  obtain ⟨it, hit, rfl⟩ := hx
  obtain ⟨hn, hl, _⟩ := hcues it hit
  rw [Conv2SSA.lines_norm _ _ it hn hl]
  intro l hlm
  obtain ⟨l0, hl0, rfl⟩ := mem_map.mp hlm
  have h0 := hl l0 hl0
  simp only [Conv2SSA.plainLine, Bool.and_eq_true] at h0
  exact ConvChain.srt_plainLine_one _ _ none (Or.inl rfl) h0.1.2 h0.2

end ConvChain

/-!
## through TTML

Cue lists without styles, regions, references and `TTML…` attributes are plain for TTML as soon as their
runs are simple text and every cue has a line; SubRip's and WebVTT's answers are of that kind, and what
TTML returns for them is plain for SubRip resp. SSA.
-/

namespace Conv3Chain
open Go List Driver ConvView Spec.Conv

theorem attrsOk_none : TTMLDoc.attrsOk none = true := by decide
theorem legalAttrs_none : Conv3TTML.legalAttrs none = true := by decide
theorem refOk_none (ids : List Str) : TTMLDoc.refOk ids none = true := rfl
theorem inKV_none : TTMLDoc.inKV none = [] := by decide

theorem styleAttributes_nil : TTML.styleAttributes [] = [] := by
  simp [TTML.styleAttributes, TTML.get, mkAttrs, sortKV, TTML.attrTable]

/-- a `StyleAttributes` value without any `TTML…` attribute -/
def noTTML (a : Attrs) : Prop := ∀ p ∈ TTML.attrTable, TTML.kvGet a ("TTML" ++ p.1) = none

theorem noTTML_none : noTTML none := fun _ _ => rfl
theorem noTTML_nil : noTTML (some []) := fun _ _ => rfl

theorem inKV_noTTML {a : Attrs} (h : noTTML a) : TTMLDoc.inKV a = [] := by
  unfold TTMLDoc.inKV
  rw [filterMap_eq_nil_iff]
  intro p hp
  simp [TTMLDoc.inEntry, h p hp]

theorem outAttrs_noTTML {a : Attrs} (h : noTTML a) : TTML.outAttrs a = [] := by
  unfold TTML.outAttrs
  rw [filterMap_eq_nil_iff]
  intro p hp
  obtain ⟨f, x⟩ := p
  simp [h (f, x) hp]

theorem attrsOk_noTTML {a : Attrs} (h : noTTML a) : TTMLDoc.attrsOk a = true := by
  unfold TTMLDoc.attrsOk
  have : TTML.kvGet a "TTMLZIndex" = none := h ("ZIndex", "zIndex") (by decide)
  rw [this]

theorem legalAttrs_noTTML {a : Attrs} (h : noTTML a) : Conv3TTML.legalAttrs a = true := by
  unfold Conv3TTML.legalAttrs
  rw [outAttrs_noTTML h]
  rfl

/-- what the TTML reader makes of an attribute list without `TTML…` attributes: the empty (non-nil) list -/
theorem readAttrs_noTTML {a : Attrs} (h : noTTML a) : TTML.styleAttributes (TTMLDoc.inKV a) = [] := by
  rw [inKV_noTTML h, styleAttributes_nil]

theorem plainRun_bare (ids : List Str) (li : LItem) (hs : simpleText li.text = true) (hst : li.style = none)
    (ha : noTTML li.attrs) : Conv3TTML.plainRun ids li = true := by
  simp only [Conv3TTML.plainRun, Conv3TTML.ownRun, hs, hst, attrsOk_noTTML ha, legalAttrs_noTTML ha, refOk_none,
    Conv3TTML.legalRef, Bool.and_self]

theorem plainCue_bare (sids rids : List Str) (it : CItem) (hst : it.style = none) (hrg : it.region = none)
    (ha : noTTML it.attrs) (hne : it.lines ≠ [])
    (hl : ∀ l ∈ it.lines, ∀ li ∈ l.items, Conv3TTML.plainRun sids li = true) :
    Conv3TTML.plainCue sids rids it = true := by
  have he : it.lines.isEmpty = false := by
    cases h : it.lines with
    | nil => exact absurd h hne
    | cons a r => rfl
  simp only [Conv3TTML.plainCue, he, hst, hrg, attrsOk_noTTML ha, legalAttrs_noTTML ha, refOk_none, Conv3TTML.legalRef,
    Bool.not_false, Bool.true_and, all_eq_true]
  exact hl

theorem plain_bare (s : Subs) (hs : s.styles = []) (hg : s.regions = [])
    (ht : TTMLDoc.titleOf s = []) (hc : TTMLDoc.copyrightOf s = []) (hne : s.items.isEmpty = false)
    (hcues : ∀ it ∈ s.items, Conv3TTML.plainCue [] [] it = true) : Conv3TTML.PlainTTML s = true := by
  simp only [Conv3TTML.PlainTTML, hs, hg, ht, hc, hne, map_nil, all_nil, Bool.not_false, Bool.true_and, Bool.and_true,
    nodup_nil, decide_true]
  have e : Conv3TTML.legalStr [] = true := rfl
  rw [e, Bool.and_self, Bool.true_and, all_eq_true]
  exact hcues

theorem plainTTML_norm_srt (s : Subs) (hp : ConvSRT.PlainSRT s = true) (hl : ∀ it ∈ s.items, it.lines ≠ []) :
    Conv3TTML.PlainTTML (SRTDoc.norm (SRTDoc.mergeS s)) = true := by
  obtain ⟨hne, _, hpl⟩ := ConvSRT.plainSRT_parts hp
  refine plain_bare _ rfl rfl rfl rfl (ConvChain.norm_nonempty s hne) ?_
  intro x hx
  obtain ⟨j, it, hit, rfl⟩ := ConvChain.norm_mem s x hx
  have hlines := ConvChain.norm_lines j it (hpl it hit)
  apply plainCue_bare [] [] _ rfl rfl noTTML_none
  · rw [hlines]
    simpa using hl it hit
  · rw [hlines]
    intro l hlm li hli
    obtain ⟨l0, hl0, rfl⟩ := mem_map.mp hlm
    simp only [mem_singleton] at hli
    subst hli
    exact plainRun_bare [] _ (ConvSRT.plainLine_text (hpl it hit l0 hl0)).1 rfl noTTML_none

/-- the line TTML returns for a line of one run without reference and `TTML…` attributes: the run's text,
    no voice, an empty (non-nil) attribute list -/
def bareLine (t : Str) : Line := { voice := [], items := [{ text := t, startAt := 0, style := none, attrs := some [] }] }

theorem normLine_one (v : Str) (t : Str) (st : Int) (a : Attrs) (ha : noTTML a) :
    TTMLDoc.normLine { voice := v, items := [{ text := t, startAt := st, style := none, attrs := a }] } = bareLine t := by
  simp only [TTMLDoc.normLine, TTMLDoc.normLItem, map_cons, map_nil, readAttrs_noTTML ha, bareLine]
  rfl

theorem normLines_one (ls : List Line) (hne : ls ≠ []) (v : Line → Str) :
    TTMLDoc.normLines (ls.map fun l => ({ voice := v l, items := [{ text := l.str, startAt := 0, attrs := none }] } : Line))
      = ls.map fun l => bareLine l.str := by
  have he : (ls.map fun l => ({ voice := v l, items := [{ text := l.str, startAt := 0, attrs := none }] } : Line)).isEmpty
      = false := by simpa using hne
  simp only [TTMLDoc.normLines, he, Bool.false_eq_true, if_false, map_map]
  exact map_congr_left fun l _ => normLine_one (v l) l.str 0 none noTTML_none

theorem plainSRT_norm_ttml (s : Subs) (hp : ConvSRT.PlainSRT s = true) (hl : ∀ it ∈ s.items, it.lines ≠ []) :
    ConvSRT.PlainSRT (TTMLDoc.norm (SRTDoc.norm (SRTDoc.mergeS s))) = true := by
  obtain ⟨hne, hlen, hpl⟩ := ConvSRT.plainSRT_parts hp
  have hne2 : (TTMLDoc.norm (SRTDoc.norm (SRTDoc.mergeS s))).items.isEmpty = false := by
    simpa [TTMLDoc.norm] using ConvChain.norm_nonempty s hne
  have hlen2 : (TTMLDoc.norm (SRTDoc.norm (SRTDoc.mergeS s))).items.length = s.items.length := by
    simp [TTMLDoc.norm, ConvChain.norm_length]
  simp only [ConvSRT.PlainSRT, hne2, hlen2, hlen, Bool.not_false, decide_true, Bool.true_and, all_eq_true]
  intro x hx
  simp only [TTMLDoc.norm, mem_map] at hx
  obtain ⟨y, hy, rfl⟩ := hx
  obtain ⟨j, it, hit, rfl⟩ := ConvChain.norm_mem s y hy
  intro l hlm
  simp only [TTMLDoc.normItem, ConvChain.norm_lines j it (hpl it hit)] at hlm
  rw [normLines_one it.lines (hl it hit) fun _ => []] at hlm
  obtain ⟨l0, hl0, rfl⟩ := mem_map.mp hlm
  have h0 := ConvSRT.plainLine_text (hpl it hit l0 hl0)
  exact ConvChain.srt_plainLine_one _ _ _ (Or.inr rfl) h0.1 h0.2

/-- the cue settings the WebVTT reader leaves behind are no `TTML…` attributes: a `TTML…` key begins with `T`,
    a `WebVTT…` key with `W` -/
theorem noTTML_settings (a b c d e : Option Str) :
    noTTML (some (mkAttrs [("WebVTTAlign", a), ("WebVTTLine", b), ("WebVTTPosition", c), ("WebVTTSize", d),
      ("WebVTTVertical", e)])) := by
  intro p _
  refine lookup_mkAttrs (by simp) fun v => ⟨fun hm => ?_, nofun⟩
  have h1 : ("TTML" ++ p.1).toList.head? = some 'T' := by rw [String.toList_append]; rfl
  simp only [mem_cons, Prod.mk.injEq, not_mem_nil, or_false] at hm
  rcases hm with h | h | h | h | h <;> rw [h.1] at h1 <;> exact absurd h1 (by decide)

theorem readItem_bare (t : Str) : VTT.readItem [] { text := t } = { text := t, startAt := 0, attrs := none } := by
  simp [VTT.readItem, VTT.runTags, VTT.tagsOfAttrs, VTT.tagsAttrs, SRT.kvGet, VTT.truncMs_zero]

theorem vtt_read_lines (s : Subs) (k : Nat) (it : CItem) :
    (VTT.readCue (ConvVTT.flatS s) k (ConvVTT.flatItem it)).lines
      = it.lines.map fun l => ({ voice := l.voice, items := [{ text := l.str, startAt := 0, attrs := none }] } : Line) := by
  simp only [VTT.readCue, ConvVTT.flatItem, map_map]
  apply map_congr_left
  intro l _
  simp only [Function.comp_apply, VTT.readLine, ConvVTT.flatLine, map_cons, map_nil, readItem_bare]

theorem readSubs_mem (s : Subs) (x : CItem) (hx : x ∈ (VTT.readSubs (ConvVTT.flatS s)).items) :
    ∃ it ∈ s.items, ∃ k, x = VTT.readCue (ConvVTT.flatS s) k (ConvVTT.flatItem it) := by
  obtain ⟨⟨a, j⟩, ha, rfl⟩ := mem_map.mp hx
  obtain ⟨it, hit, rfl⟩ := mem_map.mp (fst_mem_of_mem_zipIdx ha)
  exact ⟨it, hit, j, rfl⟩

theorem readSubs_nonempty (s : Subs) (hne : s.items.isEmpty = false) :
    (VTT.readSubs (ConvVTT.flatS s)).items.isEmpty = false := by
  cases hi : s.items with
  | nil => rw [hi] at hne; cases hne
  | cons a rest => simp [VTT.readSubs, ConvVTT.flatS, hi, zipIdx_cons]

theorem plainTTML_read_vtt (s : Subs) (hp : ConvVTT.PlainVTT s = true) (hl : ∀ it ∈ s.items, it.lines ≠ []) :
    Conv3TTML.PlainTTML (VTT.readSubs (ConvVTT.flatS s)) = true := by
  have F := ConvVTT.plainVTT_facts hp
  apply plain_bare _ rfl rfl rfl rfl (readSubs_nonempty s F.nonempty)
  intro x hx
  obtain ⟨it, hit, k, rfl⟩ := readSubs_mem s x hx
  apply plainCue_bare [] [] _ rfl rfl (noTTML_settings _ _ _ _ _)
  · rw [vtt_read_lines]
    simpa using hl it hit
  · rw [vtt_read_lines]
    intro l hlm li hli
    obtain ⟨l0, hl0, rfl⟩ := mem_map.mp hlm
    simp only [mem_singleton] at hli
    subst hli
    exact plainRun_bare [] _ ((F.cues it hit).lines l0 hl0).simple rfl noTTML_none

theorem normMeta_none : TTMLDoc.normMeta none = some [] := by
  simp [TTMLDoc.normMeta, mkAttrs, sortKV, TTMLDoc.langIn, TTML.langOut, TTML.kvGet, TTMLDoc.normRef, TTML.languageOf, optStr]

theorem normItem_read_vtt (s : Subs) (k : Nat) (it : CItem) (hne : it.lines ≠ []) :
    TTMLDoc.normItem (VTT.readCue (ConvVTT.flatS s) k (ConvVTT.flatItem it))
      = { index := 0, startAt := TTMLDoc.truncMs (truncTo 1000000 it.startAt),
          endAt := TTMLDoc.truncMs (truncTo 1000000 it.endAt), style := none, region := none, attrs := some [],
          comments := [], lines := it.lines.map fun l => bareLine l.str } := by
  have hl : TTMLDoc.normLines (VTT.readCue (ConvVTT.flatS s) k (ConvVTT.flatItem it)).lines
      = it.lines.map fun l => bareLine l.str := by
    rw [vtt_read_lines]
    exact normLines_one it.lines hne _
  have ha : TTML.styleAttributes (TTMLDoc.inKV (VTT.readCue (ConvVTT.flatS s) k (ConvVTT.flatItem it)).attrs) = [] :=
    readAttrs_noTTML (noTTML_settings _ _ _ _ _)
  unfold TTMLDoc.normItem
  rw [hl, ha]
  rfl

theorem plainSSA_norm_ttml_vtt (s : Subs) (hp : ConvVTT.PlainVTT s = true) (hl : ∀ it ∈ s.items, it.lines ≠ [])
    (hfit : Conv2SSA.docFit (TTMLDoc.norm (VTT.readSubs (ConvVTT.flatS s))) = true) :
    Conv2SSA.PlainSSA (TTMLDoc.norm (VTT.readSubs (ConvVTT.flatS s))) = true := by
  have F := ConvVTT.plainVTT_facts hp
  · have hne2 : (TTMLDoc.norm (VTT.readSubs (ConvVTT.flatS s))).items.isEmpty = false := by
      simpa [TTMLDoc.norm] using readSubs_nonempty s F.nonempty
    have htab : Conv2SSA.tablesOK (TTMLDoc.norm (VTT.readSubs (ConvVTT.flatS s))) = true :=
      ConvChain.tablesOK_bare _ (Or.inr normMeta_none) (by simp [TTMLDoc.norm, VTT.readSubs, TTML.sortDefs])
    simp only [Conv2SSA.PlainSSA, hne2, htab, hfit, Bool.not_false, Bool.true_and, Bool.and_true, all_eq_true]
    intro x hx
    simp only [TTMLDoc.norm, mem_map] at hx
    obtain ⟨y, hy, rfl⟩ := hx
    obtain ⟨it, hit, k, rfl⟩ := readSubs_mem s y hy
    rw [normItem_read_vtt s k it (hl it hit)]
    have hvoice : ∀ l ∈ it.lines.map (fun l => bareLine l.str), l.voice = [] := by
      intro l hlm
      obtain ⟨l0, _, rfl⟩ := mem_map.mp hlm
      rfl
    simp only [Conv2SSA.plainCue, Bool.and_eq_true, Bool.not_eq_true', all_eq_true, decide_eq_true_eq]
    refine ⟨⟨by simpa using hl it hit, ?_⟩, ConvChain.cueCells_bare _ rfl (Or.inr rfl) hvoice⟩
    intro l hlm
    obtain ⟨l0, hl0, rfl⟩ := mem_map.mp hlm
    exact ConvChain.plainLine_one _ _ _ (Or.inr rfl) ((F.cues it hit).lines l0 hl0).simple ((F.cues it hit).lines l0 hl0).edges

end Conv3Chain
end Astisub
