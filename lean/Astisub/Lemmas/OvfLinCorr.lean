import Astisub.Props.C15float
import Astisub.Lemmas.OvfBasic
import Astisub.Lemmas.ListFacts

/-!
# Lemmas/OvfLinCorr — `ApplyLinearCorrection`: the `int64` subtractions and the float → `int64` conversions

Go evaluates `float64(desired2-desired1) / float64(actual2-actual1)` (two `int64` subtractions),
`time.Duration(float64(desired1) - a*float64(actual1))` and `time.Duration(a*float64(t)) + b`
(two float → `int64` conversions, whose result is implementation-defined when the float is out
of range, and one `int64` addition). `apply1W` evaluates exactly that: subtractions and the addition
wrap, a conversion of an out-of-range float has no defined value (`none`).

Under the hypotheses of `C15float.close_exec` (instants within a day, exact slope of magnitude ≤ 2)
and with the two reference differences representable, everything is defined and equals the
unbounded model `LinCorr.apply1`.
-/

namespace Astisub
namespace Ovf
open Go F53

/-- `time.Duration(x)` for a `float64` `x`: defined by the language only when the truncated value is
    representable -/
def toI64 (x : Dy) : Option Int := if fits64 x.trunc then some x.trunc else none

/-- `float64(d2-d1) / float64(a2-a1)` with the subtractions in `int64` -/
def slopeW (a1 d1 a2 d2 : Int) : Dy := Dy.div (Dy.ofInt (wsub d2 d1)) (Dy.ofInt (wsub a2 a1))

/-- `b := time.Duration(float64(d1) - a*float64(a1))` -/
def interceptW (a1 d1 a2 d2 : Int) : Option Int :=
  toI64 (Dy.sub (Dy.ofInt d1) (Dy.mul (slopeW a1 d1 a2 d2) (Dy.ofInt a1)))

/-- `time.Duration(a*float64(t)) + b` -/
def apply1W (a1 d1 a2 d2 : Int) (t : Int) : Option Int :=
  match toI64 (Dy.mul (slopeW a1 d1 a2 d2) (Dy.ofInt t)), interceptW a1 d1 a2 d2 with
  | some x, some b => some (wadd x b)
  | _, _ => none

/-- the whole list; `none` as soon as one conversion is undefined -/
def applyW (a1 d1 a2 d2 : Int) (xs : List Item) : Option (List Item) :=
  xs.mapM fun it =>
    match apply1W a1 d1 a2 d2 it.endAt, apply1W a1 d1 a2 d2 it.startAt with
    | some e, some s => some { it with endAt := e, startAt := s }
    | _, _ => none

/-- the computed slope is within `10u` of an exact slope of magnitude ≤ 2, hence below 3 -/
theorem slope_abs_le (a1 d1 a2 d2 : ℤ) (hs : |((d2 - d1 : ℤ) : ℚ) / ((a2 - a1 : ℤ) : ℚ)| ≤ 2) :
    |(LinCorr.slope a1 d1 a2 d2).val| ≤ 3 := by
  have h := abs_sub_abs_le_abs_sub (LinCorr.slope a1 d1 a2 d2).val (((d2 - d1 : ℤ) : ℚ) / ((a2 - a1 : ℤ) : ℚ))
  linarith [C15float.slope_close a1 d1 a2 d2 hs, C15.u_small]

theorem rnd_abs_le (x B : ℚ) (h : |x| ≤ B) : |rnd x| ≤ B * (1 + C15.u) :=
  C15.fl_abs_le C15float.binary64 x B h

theorem abs_le_of_cast {z B : ℤ} (h : |(z : ℚ)| ≤ (B : ℚ)) : |z| ≤ B := by
  rw [← Int.cast_abs] at h; exact_mod_cast h

/-- **Both floats that Go converts to `int64` are small**: for instants within a day and an exact
    slope of magnitude ≤ 2, `a*float64(t)` truncates to less than 4 days and the intercept to less than
    6 days (in nanoseconds) — nowhere near 2^63 ns ≈ 292 years. -/
theorem trunc_bounds (a1 d1 a2 d2 t : ℤ)
    (ht : |(t : ℚ)| ≤ C15.day) (ha1 : |(a1 : ℚ)| ≤ C15.day) (hd1 : |(d1 : ℚ)| ≤ C15.day)
    (hs : |((d2 - d1 : ℤ) : ℚ) / ((a2 - a1 : ℤ) : ℚ)| ≤ 2) :
    |(Dy.mul (LinCorr.slope a1 d1 a2 d2) (Dy.ofInt t)).trunc| ≤ 345600000000000 ∧
    |LinCorr.intercept a1 d1 a2 d2| ≤ 518400000000000 := by
  obtain ⟨hT3, _, hD5⟩ :=
    C15.operand_bounds C15float.binary64 (slope_abs_le a1 d1 a2 d2 hs) ht ha1 hd1
  replace hD5 : |(d1 : ℚ) - rnd ((LinCorr.slope a1 d1 a2 d2).val * a1)| ≤ 5 * C15.day := hD5
  have hday : C15.day = 86400000000000 := rfl
  constructor
  · rw [trunc_val, mul_val, ofInt_val, rnd_int _ (int_le_of_day ht)]
    apply abs_le_of_cast
    push_cast
    linarith [C15.tr_abs_lt (rnd ((LinCorr.slope a1 d1 a2 d2).val * t)), rnd_abs_le _ _ hT3, C15.day_mul_u]
  · unfold LinCorr.intercept
    rw [trunc_val, sub_val, mul_val, ofInt_val, ofInt_val, rnd_int _ (int_le_of_day ha1),
      rnd_int _ (int_le_of_day hd1)]
    apply abs_le_of_cast
    push_cast
    linarith [C15.tr_abs_lt (rnd ((d1 : ℚ) - rnd ((LinCorr.slope a1 d1 a2 d2).val * a1))),
      rnd_abs_le _ _ hD5, C15.day_mul_u]

theorem fits64_of_abs_le {x B : ℤ} (h : |x| ≤ B) (hB : B < 9223372036854775808) : fits64 x := by
  have := abs_le.mp h
  unfold fits64; omega

/-- **Linear correction never leaves `int64`.** Under the hypotheses of `close_exec`, and with the two
    reference differences representable (true whenever `a2`, `d2` are within a day as well, or
    within ±2^62), the `int64` evaluation is defined — both float → `int64` conversions are in range —
    and equals the unbounded model. -/
theorem apply1W_eq (a1 d1 a2 d2 t : ℤ)
    (ht : |(t : ℚ)| ≤ C15.day) (ha1 : |(a1 : ℚ)| ≤ C15.day) (hd1 : |(d1 : ℚ)| ≤ C15.day)
    (hs : |((d2 - d1 : ℤ) : ℚ) / ((a2 - a1 : ℤ) : ℚ)| ≤ 2)
    (hD : fits64 (d2 - d1)) (hA : fits64 (a2 - a1)) :
    apply1W a1 d1 a2 d2 t = some (LinCorr.apply1 a1 d1 a2 d2 t) := by
  obtain ⟨b1, b2⟩ := trunc_bounds a1 d1 a2 d2 t ht ha1 hd1 hs
  have e : slopeW a1 d1 a2 d2 = LinCorr.slope a1 d1 a2 d2 := by
    unfold slopeW LinCorr.slope; rw [wsub_eq hD, wsub_eq hA]
  have f1 := fits64_of_abs_le b1 (by norm_num)
  have f2 := fits64_of_abs_le b2 (by norm_num)
  have f3 : fits64 ((Dy.mul (LinCorr.slope a1 d1 a2 d2) (Dy.ofInt t)).trunc + LinCorr.intercept a1 d1 a2 d2) := by
    have h1 := abs_le.mp b1
    have h2 := abs_le.mp b2
    unfold fits64; omega
  unfold apply1W interceptW toI64
  rw [e]
  have f2' : fits64 (Dy.sub (Dy.ofInt d1) (Dy.mul (LinCorr.slope a1 d1 a2 d2) (Dy.ofInt a1))).trunc := f2
  rw [if_pos f1, if_pos f2']
  exact congrArg some (wadd_eq f3)

theorem applyW_eq (a1 d1 a2 d2 : ℤ) (xs : List Item)
    (hx : ∀ it ∈ xs, |(it.startAt : ℚ)| ≤ C15.day ∧ |(it.endAt : ℚ)| ≤ C15.day)
    (ha1 : |(a1 : ℚ)| ≤ C15.day) (hd1 : |(d1 : ℚ)| ≤ C15.day)
    (hs : |((d2 - d1 : ℤ) : ℚ) / ((a2 - a1 : ℤ) : ℚ)| ≤ 2)
    (hD : fits64 (d2 - d1)) (hA : fits64 (a2 - a1)) :
    applyW a1 d1 a2 d2 xs = some (LinCorr.apply a1 d1 a2 d2 xs) := by
  unfold applyW LinCorr.apply
  apply List.mapM_some
  intro it hit
  rw [apply1W_eq a1 d1 a2 d2 it.endAt (hx it hit).2 ha1 hd1 hs hD hA,
    apply1W_eq a1 d1 a2 d2 it.startAt (hx it hit).1 ha1 hd1 hs hD hA]

/-- non-vacuity: the +0.1 % correction anchored at 1 s and 1 h of `C15float` -/
example :
    let a1 : ℤ := 1000000000; let d1 : ℤ := 1500000000
    let a2 : ℤ := 3600000000000; let d2 : ℤ := 3604099000000
    fits64 (d2 - d1) ∧ fits64 (a2 - a1) ∧
      apply1W a1 d1 a2 d2 1800000000000 = some (LinCorr.apply1 a1 d1 a2 d2 1800000000000) := by decide

/-- the hypotheses cannot be dropped: with a slope of 2^62 the product `a*float64(4)` is 2^64, which
    no `int64` holds — the Go conversion has no defined value, while the model returns 2^64 -/
example : apply1W 0 0 1 4611686018427387904 4 = none ∧
    LinCorr.apply1 0 0 1 4611686018427387904 4 = 18446744073709551616 := by decide

/-- … and a reference difference that does not fit changes the slope (here its sign) -/
example : (slopeW 0 (-1) 1 9223372036854775807).m < 0 ∧ 0 < (LinCorr.slope 0 (-1) 1 9223372036854775807).m := by
  decide

end Ovf
end Astisub
