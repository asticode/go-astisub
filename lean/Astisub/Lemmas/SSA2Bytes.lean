import Astisub.Driver.SSA
import Astisub.Lemmas.Lines
import Astisub.Lemmas.SSA2Read

/-!
# Lemmas/SSA2Bytes — from the characters of a written SSA document to what `SSAD.readBytes` sees

`Driver.SSAD.readBytes` is the model side of the `ssa.read` / `ssa.write` / `conv.pair` streams: it
refuses (answers `none`) a document with a line of 64 KiB or more (`bufio.ErrTooLong` is outside the
reader model), cuts the bytes into lines with the scanner model, decodes every line as UTF-8, runs
`SSA.read` on the lines and refuses a result with an instant beyond 2⁶².  On the text `SSA.write` answers
for a representable cue list it is `SSA.read` on the written lines (`Conv2.written_lines`, the existential form of
`SSAW.written_lines` that the conversion files use, and `readBytes_unlines`;
a trailing empty line does not matter: `read_blank_end`).
-/

namespace Astisub
namespace Conv2
open Go SSA List Driver

/-- number of bytes of the UTF-8 encoding of a text -/
def byteLen (l : Str) : Nat := (l.map Char.utf8Size).sum

theorem utf8_length (l : Str) : (utf8 l).length = byteLen l := by
  rw [Driver.utf8_eq_flatMap]
  induction l with
  | nil => rfl
  | cons c cs ih =>
    simp only [flatMap_cons, length_append, String.length_utf8EncodeChar, ih, byteLen, map_cons, sum_cons]

theorem allSomeL_map_some {α} (l : List α) : SSAD.allSomeL (l.map some) = some l := by
  induction l with
  | nil => rfl
  | cons a as ih => simp [SSAD.allSomeL, ih]

theorem readBytes_unlines (ls : List Str) (hnl : ∀ l ∈ ls, OneLine l)
    (hlen : ∀ l ∈ ls, byteLen l < 65536) :
    SSAD.readBytes (utf8 (SSA.unlines ls)) =
      match SSA.read ls with
      | .unmodelled => none
      | .ok s => if SSAD.inRange s then some (.ok s) else none
      | .err => some .err := by
  unfold SSAD.readBytes
  have hlong : tooLong (utf8 (SSA.unlines ls)) = false := by
    unfold tooLong
    rw [SSA.unlines_lf, linesOf_lfLines hnl, any_eq_false]
    intro b hb
    obtain ⟨l, hl, rfl⟩ := mem_map.mp hb
    have := hlen l hl
    rw [utf8_length]
    simp only [ge_iff_le, decide_eq_true_eq]
    omega
  rw [hlong, SSA.unlines_lf, docLines_lfLines hnl, allSomeL_map_some]
  rfl

/-- the scanner hands `ReadFromSSA` no token for the empty remainder after the last line feed, whereas
    `splitC '\n'` yields a last empty line: the reader answers the same on both -/
theorem read_blank_end (ls : List Str) : SSA.read (ls ++ [[]]) = SSA.read ls := by
  unfold SSA.read
  rw [run_blank]
  cases run {} ls <;> rfl

theorem written_lines (s : Subs) (out : Str) (hr : RepRead s) (h : write s = .ok out) :
    ∃ ls, out = SSA.unlines ls ∧ (∀ l ∈ ls, '\n' ∉ l) ∧ splitC '\n' out = ls ++ [[]] := by
  obtain ⟨rows, hrows, rfl⟩ := SSAW.written_lines s out h
  exact ⟨_, rfl, SSAW.docLinesW_nl s rows hr hrows, splitC_unlines _ (SSAW.docLinesW_nl s rows hr hrows)⟩

end Conv2
end Astisub
