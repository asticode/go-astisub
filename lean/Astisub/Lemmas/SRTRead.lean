import Astisub.Lemmas.SRTSpecRuns
import Astisub.Lemmas.SRTTiming
import Astisub.Lemmas.Digits
import Astisub.Lemmas.Lines

/-!
# Lemmas/SRTRead — the reader's loop over the lines of a written document

One lemma per kind of line (index line, timing line, text line, empty line), then the block of a
cue, then the fold over the cues.  Empty lines at the end of a document never matter (`read_pad`, for
every document), so the fold ends at the last text line.  Last, the written string as its lines: the first cue block, then
the others each behind a blank line (`linesSep_eq_seg`), every line a `Go.WLine` (`wline_blockLines`), so none contains a
line break (`write_eq_unlines`, `docLinesPad_no_break`).
-/

namespace Astisub
namespace SRTDoc
open Go SRT List

theorem run_append (st : St) (a b : List (Option Str)) :
    run st (a ++ b) = (match run st a with | .ok st' => run st' b | .err => .err | .unmodelled => .unmodelled) := by
  induction a generalizing st with
  | nil => simp [run]
  | cons x xs ih =>
    simp only [List.cons_append, run]
    cases step st x with
    | ok st' => simp [ih]
    | err => rfl
    | unmodelled => rfl

theorem run_append_ok {st st' : St} {a : List (Option Str)} (h : run st a = .ok st') (b : List (Option Str)) :
    run st (a ++ b) = run st' b := by
  rw [run_append, h]

theorem run_cons_ok {st st' : St} {x : Option Str} (h : step st x = .ok st') (b : List (Option Str)) :
    run st (x :: b) = run st' b := by
  simp [run, h]

/-- a trimmed line without `-->`, not the first line of the file: the parsed line is appended to the
    cue being filled -/
theorem step_push (d : List CItem) (c : CItem) (b : Bool) (sa sa' : Run) (n : Nat) (line : Str) (l : Line)
    (hn : 0 < n) (htrim : trimSpace line = line) (harrow : Go.contains arrow line = false)
    (hp : parseText line sa = .ok (sa', l)) (hl : l.items ≠ []) :
    step { done := d, cur := c, curListed := b, sa := sa, lineNum := n } (some line)
      = .ok { done := d, cur := { c with lines := c.lines ++ [l] }, curListed := b, sa := sa', lineNum := n + 1 } := by
  have hn1 : ¬ (n + 1 = 1) := by omega
  have hl' : l.items.isEmpty = false := by cases h : l.items with | nil => exact absurd h hl | cons => rfl
  unfold step
  simp only [htrim, hn1, ↓reduceIte, harrow, Bool.false_eq_true, hp, hl']

theorem step_blank (st : St) :
    step st (some [])
      = .ok { st with cur := { st.cur with lines := st.cur.lines ++ [SRTRead2.blankLine] }, lineNum := st.lineNum + 1 } := by
  have hp : SRTRead2.prepLine st.lineNum [] = [] := by unfold SRTRead2.prepLine; split <;> rfl
  rw [SRTRead2.step_eq, hp, SRTRead2.stepG_blank]

theorem step_text (d : List CItem) (c : CItem) (b : Bool) (n : Nat) (l : Line) (hn : 0 < n) (h : RepLine l = true) :
    step { done := d, cur := c, curListed := b, sa := {}, lineNum := n } (some (lineStr l))
      = .ok { done := d, cur := { c with lines := c.lines ++ [normLine l] }, curListed := b, sa := {}, lineNum := n + 1 } :=
  step_push d c b {} {} n (lineStr l) (normLine l) hn (trimSpace_lineStr l h) (lineStr_no_arrow l h)
    (parseText_lineStr l h) (by simp [normLine, repLine_items_ne h])

theorem run_texts (ls : List Line) (h : ∀ l ∈ ls, RepLine l = true) :
    ∀ (d : List CItem) (c : CItem) (b : Bool) (n : Nat), 0 < n →
      run { done := d, cur := c, curListed := b, sa := {}, lineNum := n } ((ls.map lineStr).map some)
        = .ok { done := d, cur := { c with lines := c.lines ++ ls.map normLine }, curListed := b, sa := {},
                lineNum := n + ls.length } := by
  induction ls with
  | nil => intro d c b n _; simp [run]
  | cons l ls ih =>
    intro d c b n hn
    rw [List.map_cons, List.map_cons, run_cons_ok (step_text d c b n l hn (h l (by simp))),
      ih (fun x hx => h x (by simp [hx])) _ _ _ _ (by omega)]
    simp [Nat.add_assoc, Nat.add_comm 1]

theorem run_blanks (m : Nat) (st : St) :
    run st (List.replicate m (some []))
      = .ok { st with cur := { st.cur with lines := st.cur.lines ++ List.replicate m SRTRead2.blankLine },
                      lineNum := st.lineNum + m } := by
  induction m generalizing st with
  | zero => simp [run]
  | succ m ih =>
    rw [List.replicate_succ, run_cons_ok (step_blank st), ih]
    simp [List.replicate_succ, Nat.add_assoc, Nat.add_comm 1]

/-- **Padding.** any number of empty lines at the end of any document leaves the reader's answer as it is: they
    are appended to the cue being filled, and `stripLines` cuts them off again -/
theorem read_pad (lines : List (Option Str)) (m : Nat) :
    SRT.read (lines ++ List.replicate m (some [])) = SRT.read lines := by
  unfold SRT.read
  rw [run_append]
  cases run {} lines with
  | err => rfl
  | unmodelled => rfl
  | ok st => simp only [run_blanks, SRTRead2.blankLine_eq, C01.stripLines_pad]

/-- the line the reader makes of an index line -/
def idxLine (n : Nat) : Line := { items := [{ text := itoaNat n }] }

theorem escape_id (t : Str) (h : '&' ∉ t ∧ '<' ∉ t ∧ C01.nbsp ∉ t) : escapeHTML t = t := by
  rw [C01.escape_eq_flatMap]
  induction t with
  | nil => rfl
  | cons c t ih =>
    simp only [List.mem_cons, not_or] at h
    rw [List.flatMap_cons, ih ⟨h.1.2, h.2.1.2, h.2.2.2⟩]
    simp [C01.esc1, Ne.symm h.1.1, Ne.symm h.2.1.1, Ne.symm h.2.2.1]

theorem unescape_id (t : Str) (h : '&' ∉ t ∧ '<' ∉ t ∧ C01.nbsp ∉ t) : unescapeHTML t = t := by
  have := C01.unescape_escape t
  rwa [escape_id t h] at this

theorem parseText_digits (s : Str) (hs : DigitStr s) (hne : s ≠ []) :
    parseText s {} = .ok (({} : Run), { items := [{ text := s }] }) := by
  have hplain : ∀ c ∈ s, plainChar c = true := by
    intro c hc
    have h1 : c ≠ '<' := fun e => hs.not_mem_of_not_isDigC (c := '<') rfl (e ▸ hc)
    have h2 : c ≠ '\x00' := fun e => hs.not_mem_of_not_isDigC (c := '\x00') rfl (e ▸ hc)
    simp [plainChar, h1, h2]
  have htrim : trimSpace s = s := trimSpace_id hs.noSpace
  have hun : unescapeHTML s = s :=
    unescape_id s ⟨hs.not_mem_of_not_isDigC rfl, hs.not_mem_of_not_isDigC rfl, hs.not_mem_of_not_isDigC (by decide)⟩
  unfold parseText
  simp only [htrim, hne, ↓reduceIte, tokenize_text s hne hplain, List.foldl_cons, List.foldl_nil, stepTok, ne_eq,
    not_false_eq_true, hun, List.nil_append]
  rfl

theorem digits_no_arrow (s : Str) (hs : DigitStr s) : Go.contains arrow s = false := by
  unfold arrow
  rw [contains_arrow_eq]
  exact scanArrow_zero_no_dash s (hs.not_mem_of_not_isDigC rfl)

theorem step_index (d : List CItem) (c : CItem) (b : Bool) (n k : Nat) (hn : 0 < n) :
    step { done := d, cur := c, curListed := b, sa := {}, lineNum := n } (some (itoaNat k))
      = .ok { done := d, cur := { c with lines := c.lines ++ [idxLine k] }, curListed := b, sa := {}, lineNum := n + 1 } :=
  step_push d c b {} {} n (itoaNat k) (idxLine k) hn (trimSpace_id (digitStr_itoaNat k).noSpace)
    (digits_no_arrow _ (digitStr_itoaNat k)) (parseText_digits _ (digitStr_itoaNat k) (itoaNat_ne_nil k)) (by simp [idxLine])

theorem step_first (k : Nat) :
    step {} (some (bom ++ itoaNat k))
      = .ok { done := [], cur := { startAt := 0, endAt := 0, lines := [idxLine k] }, curListed := false, sa := {}, lineNum := 1 } := by
  have hd := digitStr_itoaNat k
  have htrim : trimSpace (bom ++ itoaNat k) = bom ++ itoaNat k := by
    apply trimSpace_id
    intro c hc
    rcases List.mem_append.mp hc with hc | hc
    · simp [bom] at hc; subst hc; decide
    · exact hd.noSpace c hc
  have hpre : trimPrefix bom (bom ++ itoaNat k) = itoaNat k := by
    simp [trimPrefix, bom, dropPrefix?]
  have harrow : Go.contains arrow (itoaNat k) = false := digits_no_arrow _ hd
  unfold step
  simp only [htrim, Nat.zero_add, ↓reduceIte, hpre, harrow, Bool.false_eq_true,
    parseText_digits _ hd (itoaNat_ne_nil k)]
  rfl

theorem timingStr_eq (it : CItem) : timingStr it = SRTTiming.timingLine it.startAt it.endAt := rfl

theorem repItem_lines {it : CItem} (h : RepItem it = true) : ∀ l ∈ it.lines, RepLine l = true := (repItem_iff.mp h).lines

/-- the timing line after an index line: the cue being filled is closed (its trailing empty lines
    removed), a new one is opened with the index just read -/
theorem step_timing (d : List CItem) (c : CItem) (b : Bool) (n k : Nat) (L : List Line) (it : CItem)
    (hn : 0 < n) (hk : k ≤ int64Max) (hit : RepItem it = true) :
    step { done := d, cur := { c with lines := L ++ [idxLine k] }, curListed := b, sa := {}, lineNum := n }
        (some (timingStr it))
      = .ok { done := if b then d ++ [{ c with lines := stripLines L }] else d,
              cur := { index := (k : Int), startAt := truncMs it.startAt, endAt := truncMs it.endAt, lines := [] },
              curListed := true, sa := {}, lineNum := n + 1 } := by
  have F := repItem_iff.mp hit
  rw [timingStr_eq, SRTTiming.step_timingLine _ _ _ F.start0 F.startLt F.end0 F.endLt hn]
  have hne : itoaNat k ≠ [] := itoaNat_ne_nil k
  simp [SRTTiming.afterTiming, SRTRead2.idxSplit, idxLine, Line.str, hne, atoiLoose_itoaNat k hk, truncMs]

/-- the lines of the normal form are stored text lines: every run has ink -/
theorem solid_normLines (ls : List Line) (h : ∀ l ∈ ls, RepLine l = true) : ∀ l ∈ ls.map normLine, SRTRead2.Solid l := by
  intro l hl
  obtain ⟨l0, hl0, rfl⟩ := List.mem_map.mp hl
  have hr := h l0 hl0
  refine ⟨by simp [normLine, repLine_items_ne hr], ?_⟩
  intro it hit
  obtain ⟨li, hli, rfl⟩ := List.mem_map.mp hit
  have hv := (repRun_facts (repLine_runs hr li hli)).vis
  intro e
  simp [normRun] at e
  rw [e] at hv; simp at hv

theorem run_block_tail (d : List CItem) (n k : Nat) (it : CItem) (hn : 0 < n) (hit : RepItem it = true) :
    run { done := d, cur := { index := ((k + 1 : Nat) : Int), startAt := truncMs it.startAt, endAt := truncMs it.endAt, lines := [] },
          curListed := true, sa := {}, lineNum := n } ((it.lines.map lineStr).map some)
      = .ok { done := d, cur := normItem k it, curListed := true, sa := {}, lineNum := n + it.lines.length } := by
  rw [run_texts it.lines (repItem_lines hit) _ _ _ _ hn]
  simp [normItem]

/-- **A later cue.** index line, timing line, text lines — read behind a cue `c` that may be
    followed by `j` empty lines: `c` is closed and listed, the new cue is being filled -/
theorem run_block (d : List CItem) (c : CItem) (j n k : Nat) (it : CItem) (hn : 0 < n) (hk : k + 1 ≤ int64Max)
    (hit : RepItem it = true) (hc : (∀ l ∈ c.lines, SRTRead2.Solid l)) :
    run { done := d, cur := { c with lines := c.lines ++ List.replicate j SRTRead2.blankLine }, curListed := true, sa := {}, lineNum := n }
        ((blockLines k it).map some)
      = .ok { done := d ++ [c], cur := normItem k it, curListed := true, sa := {}, lineNum := n + 2 + it.lines.length } := by
  unfold blockLines
  rw [List.map_cons, List.map_cons]
  rw [run_cons_ok (step_index d _ true n (k + 1) hn)]
  have h2 := step_timing d { c with lines := c.lines ++ List.replicate j SRTRead2.blankLine } true (n + 1) (k + 1)
    (c.lines ++ List.replicate j SRTRead2.blankLine) it (by omega) hk hit
  rw [run_cons_ok h2]
  simp only [↓reduceIte, SRTRead2.stripLines_blanks c.lines j hc]
  rw [run_block_tail _ _ _ _ (by omega) hit]

theorem run_block_first (it : CItem) (hit : RepItem it = true) :
    run {} (((bom ++ itoaNat 1) :: timingStr it :: it.lines.map lineStr).map some)
      = .ok { done := [], cur := normItem 0 it, curListed := true, sa := {}, lineNum := 2 + it.lines.length } := by
  rw [List.map_cons, List.map_cons]
  rw [run_cons_ok (step_first 1)]
  have h2 := step_timing [] { startAt := 0, endAt := 0, lines := [] } false 1 1 [] it (by omega) (by decide) hit
  rw [List.nil_append] at h2
  rw [run_cons_ok h2]
  simp only [Bool.false_eq_true, ↓reduceIte]
  exact run_block_tail [] 2 0 it (by omega) hit

/-- the blocks of the written document -/
def blockList : Nat → List CItem → List (List Str)
  | _, [] => []
  | k, it :: rest => blockLines k it :: blockList (k + 1) rest

theorem forall_blockList {P : List Str → Prop} : ∀ {items : List CItem} {k : Nat}, (∀ it ∈ items, ∀ j, P (blockLines j it)) →
    ∀ b ∈ blockList k items, P b
  | [], _, _, _, hb => nomatch hb
  | it :: rest, k, h, b, hb => by
    rcases mem_cons.mp hb with rfl | hb
    · exact h it mem_cons_self k
    · exact forall_blockList (fun x hx => h x (mem_cons_of_mem _ hx)) b hb

/-- the blocks of the later cues, each behind the empty line that closes its predecessor -/
def linesSep : Nat → List CItem → List Str
  | _, [] => []
  | k, it :: rest => [] :: blockLines k it ++ linesSep (k + 1) rest

theorem linesSep_eq_seg : ∀ (k : Nat) (rest : List CItem), linesSep k rest = segLines (blockList k rest)
  | _, [] => rfl
  | k, it :: rest => by rw [linesSep, blockList, segLines, linesSep_eq_seg (k + 1) rest]

theorem linesFrom_eq_sep (k : Nat) (it : CItem) (rest : List CItem) :
    linesFrom k (it :: rest) = blockLines k it ++ linesSep (k + 1) rest ++ [[]] := by
  induction rest generalizing k it with
  | nil => simp [linesFrom, linesSep]
  | cons it' r ih =>
    rw [linesFrom, ih (k + 1) it']
    simp [linesSep]

theorem run_rest (rest : List CItem) :
    ∀ (d : List CItem) (c : CItem) (j n k : Nat), 0 < n → k + rest.length ≤ int64Max →
      (∀ it ∈ rest, RepItem it = true) → (∀ l ∈ c.lines, SRTRead2.Solid l) →
      ∃ st', run { done := d, cur := { c with lines := c.lines ++ List.replicate j SRTRead2.blankLine }, curListed := true,
                   sa := {}, lineNum := n } ((linesSep k rest).map some) = .ok st'
        ∧ (SRTRead2.finish st').items = d ++ c :: normItems k rest := by
  induction rest with
  | nil =>
    intro d c j n k hn _ _ hc
    refine ⟨_, rfl, ?_⟩
    simp only [SRTRead2.finish, ↓reduceIte, normItems]
    rw [SRTRead2.stripLines_blanks c.lines j hc]
  | cons it rest ih =>
    intro d c j n k hn hk hrep hc
    have hit := hrep it (by simp)
    simp only [linesSep, List.cons_append, List.map_cons, List.map_append]
    rw [run_cons_ok (step_blank _)]
    have e : (c.lines ++ List.replicate j SRTRead2.blankLine) ++ [SRTRead2.blankLine] = c.lines ++ List.replicate (j + 1) SRTRead2.blankLine := by
      rw [List.append_assoc, List.replicate_succ']
    simp only [e]
    rw [run_append_ok (run_block d c (j + 1) (n + 1) k it (by omega) (by simp at hk; omega) hit hc)]
    have hgood : ∀ l ∈ (normItem k it).lines, SRTRead2.Solid l := solid_normLines it.lines (repItem_lines hit)
    obtain ⟨st', h1, h3⟩ := ih (d ++ [c]) (normItem k it) 0 (n + 1 + 2 + it.lines.length) (k + 1) (by omega)
      (by simp at hk; omega) (fun x hx => hrep x (by simp [hx])) hgood
    refine ⟨st', ?_, ?_⟩
    · rw [← h1]
      simp
    · rw [h3]; simp [normItems]

/-- the lines of the written document, with `m` empty lines at the end (`m = 1`: split at every LF;
    `m = 0`: a final line terminator does not start a new line) -/
def docLinesPad (it0 : CItem) (rest : List CItem) (m : Nat) : List Str :=
  ((bom ++ itoaNat 1) :: timingStr it0 :: it0.lines.map lineStr) ++ linesSep 1 rest ++ List.replicate m []

theorem read_docLinesPad (it0 : CItem) (rest : List CItem) (m : Nat)
    (hrep : ∀ it ∈ it0 :: rest, RepItem it = true) (hlen : (it0 :: rest).length ≤ int64Max) :
    SRT.read ((docLinesPad it0 rest m).map some) = .ok { items := normItems 0 (it0 :: rest) } := by
  have hit0 := hrep it0 (by simp)
  unfold docLinesPad
  rw [List.map_append, List.map_replicate, read_pad, List.map_append]
  have hgood : ∀ l ∈ (normItem 0 it0).lines, SRTRead2.Solid l := solid_normLines it0.lines (repItem_lines hit0)
  obtain ⟨st', h1, h3⟩ := run_rest rest [] (normItem 0 it0) 0 (2 + it0.lines.length) 1 (by omega)
    (by simp at hlen; omega) (fun x hx => hrep x (by simp [hx])) hgood
  have e : ({ (normItem 0 it0) with lines := (normItem 0 it0).lines ++ List.replicate 0 SRTRead2.blankLine } : CItem)
      = normItem 0 it0 := by simp
  rw [e] at h1
  unfold SRT.read
  rw [run_append_ok (run_block_first it0 hit0), h1]
  show Res.ok ({ items := (SRTRead2.finish st').items } : Subs) = _
  rw [h3, List.nil_append]
  rfl

theorem wline_blockLines (k : Nat) (it : CItem) (hit : RepItem it = true) : ∀ l ∈ blockLines k it, WLine l := by
  have F := repItem_iff.mp hit
  have h1 := F.start0; have h2 := F.startLt; have h3 := F.end0; have h4 := F.endLt
  intro l hl
  simp only [blockLines, List.mem_cons, List.mem_map] at hl
  rcases hl with rfl | rfl | ⟨l0, hl0, rfl⟩
  · exact .of_noSpace (itoaNat_ne_nil _) (digitStr_itoaNat _).noSpace
  · rw [timingStr_eq]
    exact ⟨SRTTiming.trimSpace_timingLine _ _ h1 h2 h3 h4, SRTTiming.timingLine_ne_nil _ _ h1 h2,
      SRTTiming.timingLine_no_break _ _ h1 h2 h3 h4 _ (.inl rfl), SRTTiming.timingLine_no_break _ _ h1 h2 h3 h4 _ (.inr rfl)⟩
  · have hr := repItem_lines hit l0 hl0
    exact ⟨trimSpace_lineStr l0 hr, lineStr_ne_nil l0 hr, lineStr_no_break l0 hr _ (.inl rfl), lineStr_no_break l0 hr _ (.inr rfl)⟩

theorem wline_blockList {items : List CItem} (h : ∀ it ∈ items, RepItem it = true) (k : Nat) :
    ∀ b ∈ blockList k items, ∀ l ∈ b, WLine l :=
  forall_blockList (P := fun b => ∀ l ∈ b, WLine l) fun it hit j => wline_blockLines j it (h it hit)

theorem oneLine_docLinesPad (it0 : CItem) (rest : List CItem) (m : Nat) (hrep : ∀ it ∈ it0 :: rest, RepItem it = true) :
    ∀ l ∈ docLinesPad it0 rest m, OneLine l := by
  have h0 := wline_blockLines 0 it0 (hrep it0 mem_cons_self)
  intro l hl
  rw [docLinesPad, linesSep_eq_seg, mem_append, mem_append, mem_cons] at hl
  rcases hl with ((rfl | hl) | hl) | hl
  · exact .append ⟨by decide, by decide⟩ (h0 _ mem_cons_self).one
  · exact (h0 l (mem_cons_of_mem _ hl)).one
  · exact forall_segLines (P := OneLine) .nil
      (fun b hb l hl => (wline_blockList (fun y hy => hrep y (mem_cons_of_mem _ hy)) 1 b hb l hl).one) l hl
  · rw [eq_of_mem_replicate hl]; exact .nil

theorem docLinesPad_no_break (it0 : CItem) (rest : List CItem) (m : Nat) (hrep : ∀ it ∈ it0 :: rest, RepItem it = true)
    (x : Char) (hx : x = '\n' ∨ x = '\r') : ∀ l ∈ docLinesPad it0 rest m, x ∉ l := fun l hl =>
  hx.elim (fun e => e ▸ (oneLine_docLinesPad it0 rest m hrep l hl).1) fun e => e ▸ (oneLine_docLinesPad it0 rest m hrep l hl).2

theorem write_eq_unlines (it0 : CItem) (rest : List CItem) (regions styles : List Def) (md : Attrs) :
    write { items := it0 :: rest, regions := regions, styles := styles, metadata := md }
      = some (unlines (docLinesPad it0 rest 0)) := by
  rw [write_eq_lines _ (by simp)]
  simp only [linesFrom_eq_sep, docLinesPad, List.replicate_zero, List.append_nil]
  rw [unlines_append]
  have : unlines [([] : Str)] = ['\n'] := rfl
  rw [this, List.dropLast_concat]
  simp [blockLines, unlines_cons, unlines_append]

end SRTDoc
end Astisub
