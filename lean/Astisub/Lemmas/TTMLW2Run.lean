import Astisub.Lemmas.TTMLW2Elems

/-!
# Lemmas/TTMLW2Run — the independent decoder's state machine over the pieces of a written document

`Spec.TTML.step` / `run` on: the root element, `head`, `metadata` (title, copyright), `styling` / `layout` with their
definitions, `body`, `div`, and one paragraph (spans and `br`).
-/

namespace Astisub
namespace TTMLW2
open Go TTML List
open Driver.TTMLD (nsTTML nsTTS nsTTM nsXML ttmlAttrsOf)
open Spec.TTML (St PState GDoc GRun GCue GDef step run hasNL attr? ref? styling natAttr denote)
open TTMLR (pRoot pStyle pRegion pTitle pCopy pPara inP)
open TTMLDoc (pHead pMeta pStyling pLayout ctxOf)

/-- decoder state outside a paragraph: nothing finished, no frame / tick rate -/
def mkS (path : List Str) (doc : GDoc) (buf : Str) : St :=
  { path := path, fr := 0, tr := 0, doc := doc, p := none, buf := buf, finished := false }

abbrev pBody : List Str := ['b', 'o', 'd', 'y'] :: pRoot
abbrev pDiv : List Str := ['d', 'i', 'v'] :: pBody

theorem run_append (a b : List Spec.TTML.Tok) (st : St) : run (a ++ b) st = (run a st).bind (run b) := by
  induction a generalizing st with
  | nil => rfl
  | cons t a ih =>
    simp only [List.cons_append, run]
    cases step st t with
    | none => rfl
    | some st' => exact ih st'

theorem run_append_some {a : List Spec.TTML.Tok} {st st' : St} (b : List Spec.TTML.Tok) (h : run a st = some st') :
    run (a ++ b) st = run b st' := by
  rw [run_append, h]; rfl

theorem run_step {t : Spec.TTML.Tok} {st st' : St} (ts : List Spec.TTML.Tok) (h : step st t = some st') : run (t :: ts) st = run ts st' := by
  rw [run, h]

theorem run_one {t : Spec.TTML.Tok} {st st' : St} (h : step st t = some st') : run [t] st = some st' := by
  rw [run, h]; rfl

/-- a run over the concatenation of one token group per list element, each group appending one entry -/
theorem run_groups {α β : Type} (toks : α → List WTok) (g : α → β) (S : List β → St) (l : List α)
    (h : ∀ a ∈ l, ∀ acc, run ((toks a).map sTok) (S acc) = some (S (acc ++ [g a]))) :
    ∀ acc, run (((l.map toks).flatten).map sTok) (S acc) = some (S (acc ++ l.map g)) := by
  induction l with
  | nil => intro acc; simp [run]
  | cons a l ih =>
    intro acc
    rw [map_cons, flatten_cons, map_append, run_append_some _ (h a (by simp) acc), ih fun x hx => h x (by simp [hx])]
    simp

section plain
variable (doc : GDoc) (buf sp : Str)

/-! On a concrete path the place `ctxOf (n :: path)` is computed, so `TTMLR.step_start_ctx` leaves a closed `match`. -/

theorem step_head : step (mkS pRoot doc buf) (.start sp ['h', 'e', 'a', 'd'] []) = some (mkS pHead doc buf) := by
  rw [TTMLR.step_start_ctx _ rfl rfl]; rfl

theorem step_metadata :
    step (mkS pHead doc buf) (.start sp ['m', 'e', 't', 'a', 'd', 'a', 't', 'a'] []) = some (mkS pMeta doc buf) := by
  rw [TTMLR.step_start_ctx _ rfl rfl]; rfl

theorem step_styling :
    step (mkS pHead doc buf) (.start sp ['s', 't', 'y', 'l', 'i', 'n', 'g'] []) = some (mkS pStyling doc buf) := by
  rw [TTMLR.step_start_ctx _ rfl rfl]; rfl

theorem step_layout :
    step (mkS pHead doc buf) (.start sp ['l', 'a', 'y', 'o', 'u', 't'] []) = some (mkS pLayout doc buf) := by
  rw [TTMLR.step_start_ctx _ rfl rfl]; rfl

theorem step_body : step (mkS pRoot doc buf) (.start sp ['b', 'o', 'd', 'y'] []) = some (mkS pBody doc buf) := by
  rw [TTMLR.step_start_ctx _ rfl rfl]; rfl

theorem step_div : step (mkS pBody doc buf) (.start sp ['d', 'i', 'v'] []) = some (mkS pDiv doc buf) := by
  rw [TTMLR.step_start_ctx _ rfl rfl]; rfl

/-- an end tag outside a paragraph that closes neither `title` nor `copyright` -/
theorem step_close (n : Str) (rest : List Str) (h1 : n :: rest ≠ pTitle) (h2 : n :: rest ≠ pCopy) :
    step (mkS (n :: rest) doc buf) .stop = some { mkS rest doc buf with finished := rest.isEmpty } :=
  (TTMLR.step_stop_ctx _ rfl rfl n rest rfl).trans (TTMLR.ctxOf_plain h1 h2 _ _ _)

theorem step_close' (n : Str) (rest : List Str) (hne : rest ≠ []) (h1 : n :: rest ≠ pTitle) (h2 : n :: rest ≠ pCopy) :
    step (mkS (n :: rest) doc buf) .stop = some (mkS rest doc buf) := by
  rw [step_close doc buf n rest h1 h2]
  cases rest with
  | nil => exact absurd rfl hne
  | cons a r => rfl

end plain

theorem step_root (sp : Str) (m : Attrs) :
    step {} (.start sp ['t', 't'] (rootR m)) = some (mkS pRoot { lang := TTMLDoc.langIn m } []) := by
  obtain ⟨h1, h2, h3, h4⟩ := root_fields m
  rw [TTMLR.step_start_ctx _ rfl rfl, show TTMLR.nlAttr (rootR m) = false from h4]
  simp only [Bool.false_eq_true, if_false, show ctxOf (['t', 't'] :: ({} : St).path) = .root from rfl, h1, h2, h3]
  unfold TTMLDoc.langIn
  cases TTMLDoc.normRef (langOut m) <;> rfl

section metaSec
variable (doc : GDoc) (sp : Str)

theorem step_title_open (buf : Str) :
    step (mkS pMeta doc buf) (.start sp ['t', 'i', 't', 'l', 'e'] []) = some (mkS pTitle doc []) := by
  rw [TTMLR.step_start_ctx _ rfl rfl]; rfl

theorem step_copy_open (buf : Str) :
    step (mkS pMeta doc buf) (.start sp ['c', 'o', 'p', 'y', 'r', 'i', 'g', 'h', 't'] []) = some (mkS pCopy doc []) := by
  rw [TTMLR.step_start_ctx _ rfl rfl]; rfl

theorem step_title_text (buf s : Str) : step (mkS pTitle doc buf) (.text s) = some (mkS pTitle doc (buf ++ s)) :=
  TTMLR.step_text_ctx _ rfl rfl s

theorem step_copy_text (buf s : Str) : step (mkS pCopy doc buf) (.text s) = some (mkS pCopy doc (buf ++ s)) :=
  TTMLR.step_text_ctx _ rfl rfl s

theorem step_title_close (buf : Str) :
    step (mkS pTitle doc buf) .stop = some (mkS pMeta { doc with title := buf } buf) :=
  TTMLR.step_stop_ctx _ rfl rfl _ pMeta rfl

theorem step_copy_close (buf : Str) :
    step (mkS pCopy doc buf) .stop = some (mkS pMeta { doc with copyright := buf } buf) :=
  TTMLR.step_stop_ctx _ rfl rfl _ pMeta rfl

end metaSec

theorem step_style (doc : GDoc) (buf sp : Str) (A : List XAttr) (g : GDef) (hg : Spec.TTML.mkDef A = some g)
    (hnl : nlAttr A = false) :
    step (mkS pStyling doc buf) (.start sp ['s', 't', 'y', 'l', 'e'] A)
      = some (mkS pStyle { doc with styles := doc.styles ++ [g] } buf) := by
  rw [TTMLR.step_start_ctx _ rfl rfl, show TTMLR.nlAttr A = false from hnl, hg]; rfl

theorem step_region (doc : GDoc) (buf sp : Str) (A : List XAttr) (g : GDef) (hg : Spec.TTML.mkDef A = some g)
    (hnl : nlAttr A = false) :
    step (mkS pLayout doc buf) (.start sp ['r', 'e', 'g', 'i', 'o', 'n'] A)
      = some (mkS pRegion { doc with regions := doc.regions ++ [g] } buf) := by
  rw [TTMLR.step_start_ctx _ rfl rfl, show TTMLR.nlAttr A = false from hnl, hg]; rfl

theorem step_p (doc : GDoc) (buf sp : Str) (A : List XAttr) (b e : Str) (cb ce : Nat × Nat) (sty reg : Option Str)
    (sa : Spec.TTML.AttrL) (h1 : attr? A "begin" = some (some b)) (h2 : attr? A "end" = some (some e))
    (h3 : ref? A "style" = some sty) (h4 : ref? A "region" = some reg) (h5 : styling A = some sa)
    (h6 : denote b 0 0 = some cb) (h7 : denote e 0 0 = some ce) (hnl : nlAttr A = false) :
    step (mkS pDiv doc buf) (.start sp ['p'] A)
      = some (inP (mkS pPara doc buf) [] { b := cb, e := ce, style := sty, region := reg, attrs := sa }) := by
  rw [TTMLR.step_start_ctx _ rfl rfl, show TTMLR.nlAttr A = false from hnl]
  simp only [Bool.false_eq_true, if_false, show ctxOf (['p'] :: (mkS pDiv doc buf).path) = .para from rfl, h1, h2, h3, h4, h5]
  simp only [mkS, h6, h7]

/-- the state of a paragraph between two children: finished lines, current line -/
def pst (c : PState) (done : List (List GRun)) (cur : List GRun) : PState :=
  { c with done := done, cur := cur, span := none, seg := [], inBr := false }

/-- the run the decoder makes of a written `span` -/
def runG (li : LItem) : GRun := { text := li.text, style := li.style, attrs := ttmlAttrsOf li.attrs }

theorem span_ne_br : (['s', 'p', 'a', 'n'] : Str) ≠ "br".toList := by decide

section para
variable (doc : GDoc) (buf : Str) (c : PState)

theorem base_len : (mkS pPara doc buf).path.length = 4 := rfl
theorem base_ne : (mkS pPara doc buf).path ≠ [] := by simp [mkS]

/-- `<span …>text</span>` appends one run to the current line -/
theorem run_span (li : LItem) (h : runW li = true) (done : List (List GRun)) (cur : List GRun) :
    run ((spanOf li).map sTok) (inP (mkS pPara doc buf) [] (pst c done cur))
      = some (inP (mkS pPara doc buf) [] (pst c done (cur ++ [runG li]))) := by
  obtain ⟨h1, h2, h3⟩ := span_fields li h
  have htxt : hasNL li.text = false := by
    simpa [okStr] using (runW_iff.mp h).text
  have hstart : step (inP (mkS pPara doc buf) [] (pst c done cur)) (.start nsTTML ['s', 'p', 'a', 'n'] (spanAttrs li))
      = some (inP (mkS pPara doc buf) [['s', 'p', 'a', 'n']]
          { pst c done cur with span := some (li.style, ttmlAttrsOf li.attrs), seg := [] }) := by
    rw [TTMLR.step_top_start _ _ rfl rfl (base_len doc buf), show TTMLR.nlAttr (spanAttrs li) = false from h3]
    simp only [Bool.false_eq_true, if_false, if_neg span_ne_br, h1, h2]
    rfl
  have hstop : ∀ seg : Str,
      step (inP (mkS pPara doc buf) [['s', 'p', 'a', 'n']]
          { pst c done cur with span := some (li.style, ttmlAttrsOf li.attrs), seg := seg }) .stop
        = some (inP (mkS pPara doc buf) [] (pst c done (cur ++ [{ text := seg, style := li.style, attrs := ttmlAttrsOf li.attrs }]))) := by
    intro seg
    rw [TTMLR.step_span_stop _ _ _ _ li.style (ttmlAttrsOf li.attrs) rfl rfl (base_ne doc buf)]
    rfl
  unfold spanOf
  by_cases ht : li.text.isEmpty = true
  · have ht' : li.text = [] := by simpa using ht
    simp only [ht, if_true, append_nil, singleton_append, map_cons, map_nil, sTok, el_span]
    change run (Spec.TTML.Tok.start nsTTML ['s', 'p', 'a', 'n'] (spanAttrs li) :: _) _ = _
    rw [run_step _ hstart, run_one (hstop [])]
    simp only [runG, ht']
  · simp only [ht, Bool.false_eq_true, if_false, cons_append, nil_append, map_cons, map_nil, sTok, el_span]
    change run (Spec.TTML.Tok.start nsTTML ['s', 'p', 'a', 'n'] (spanAttrs li) :: _) _ = _
    rw [run_step _ hstart]
    have htext : step (inP (mkS pPara doc buf) [['s', 'p', 'a', 'n']]
          { pst c done cur with span := some (li.style, ttmlAttrsOf li.attrs), seg := [] }) (.text li.text)
        = some (inP (mkS pPara doc buf) [['s', 'p', 'a', 'n']]
          { pst c done cur with span := some (li.style, ttmlAttrsOf li.attrs), seg := li.text }) := by
      rw [TTMLR.step_span_text _ _ _ li.style (ttmlAttrsOf li.attrs) rfl rfl, htxt]
      rfl
    rw [run_step _ htext, run_one (hstop li.text)]
    rfl

/-- `<br></br>` directly inside `<p>` ends the current line -/
theorem run_br (done : List (List GRun)) (cur : List GRun) :
    run (brTok.map sTok) (inP (mkS pPara doc buf) [] (pst c done cur))
      = some (inP (mkS pPara doc buf) [] (pst c (done ++ [cur]) [])) := by
  have hstart : step (inP (mkS pPara doc buf) [] (pst c done cur)) (.start nsTTML ['b', 'r'] [])
      = some (inP (mkS pPara doc buf) [['b', 'r']] { pst c done cur with done := done ++ [cur], cur := [], inBr := true }) := by
    rw [TTMLR.step_top_start _ _ rfl rfl (base_len doc buf)]
    have : TTMLR.nlAttr [] = false := rfl
    rw [this]
    rfl
  have hstop : step (inP (mkS pPara doc buf) [['b', 'r']] { pst c done cur with done := done ++ [cur], cur := [], inBr := true }) .stop
      = some (inP (mkS pPara doc buf) [] (pst c (done ++ [cur]) [])) := by
    rw [TTMLR.step_br_stop _ _ _ _ rfl (base_ne doc buf)]
    rfl
  unfold brTok
  simp only [map_cons, map_nil, sTok, el_br]
  rw [run_step _ hstart, run_one hstop]

theorem run_spans (l : List LItem) (h : ∀ li ∈ l, runW li = true) (done : List (List GRun)) (cur : List GRun) :
    run (((l.map spanOf).flatten).map sTok) (inP (mkS pPara doc buf) [] (pst c done cur))
      = some (inP (mkS pPara doc buf) [] (pst c done (cur ++ l.map runG))) :=
  run_groups spanOf runG (fun acc => inP (mkS pPara doc buf) [] (pst c done acc)) l
    (fun li hli acc => run_span doc buf c li (h li hli) done acc) cur

theorem run_bodyOf (l : Line) (ls : List Line) (h : ∀ l' ∈ l :: ls, ∀ li ∈ l'.items, runW li = true) :
    ∀ done : List (List GRun), ∃ d cu,
      run ((TTMLDoc.bodyOf (l :: ls)).map sTok) (inP (mkS pPara doc buf) [] (pst c done []))
        = some (inP (mkS pPara doc buf) [] (pst c d cu)) ∧
      d ++ [cu] = done ++ (l :: ls).map fun l' => l'.items.map runG := by
  induction ls generalizing l with
  | nil =>
    intro done
    refine ⟨done, l.items.map runG, ?_, by simp⟩
    have := run_spans doc buf c l.items (h l (by simp)) done []
    simpa [TTMLDoc.bodyOf, TTMLDoc.spansW] using this
  | cons l' ls ih =>
    intro done
    obtain ⟨d, cu, hr, hd⟩ := ih l' (fun x hx => h x (by simp [hx])) (done ++ [l.items.map runG])
    refine ⟨d, cu, ?_, by rw [hd]; simp⟩
    rw [TTMLDoc.bodyOf, map_append, map_append, TTMLDoc.spansW, append_assoc,
      run_append_some _ (run_spans doc buf c l.items (h l (by simp)) done []),
      nil_append, run_append_some _ (run_br doc buf c done _), hr]

end para

end TTMLW2
end Astisub
