import Astisub.Lemmas.TTMLDocAttrs

/-!
# Lemmas/TTMLDocElems — the start tags of `style`, `region` and `p` as the decoder fills the `TTMLIn*` structs

First what a written attribute list carries under a local name (`allAttr` of `optAttr`, `outAttrs`, `headerAttrs`,
`pAttrs`): the contract reads its fields off these, and so does the independent decoder (`Lemmas/TTMLW2Attr`,
`vals_written`).
-/

namespace Astisub
namespace TTMLDoc
open Go TTML List

theorem allAttr_append (a b : List (Str × Str)) (nm : String) : allAttr (a ++ b) nm = allAttr a nm ++ allAttr b nm := by
  simp [allAttr]

theorem allAttr_cons (k v : Str) (a : List (Str × Str)) (nm : String) :
    allAttr ((k, v) :: a) nm = (if localName k = nm.toList then [v] else []) ++ allAttr a nm := by
  unfold allAttr
  by_cases h : localName k = nm.toList <;> simp [h]

theorem lastAttr_eq (a : List (Str × Str)) (nm : String) : lastAttr a nm = (allAttr a nm).getLast?.getD [] :=
  List.foldl_ite_getLast (fun kv : Str × Str => localName kv.1 = nm.toList) (·.2) a []

theorem optAttr_norm (k : String) (r : Option Str) :
    optAttr k r = (match normRef r with | some v => [(k.toList, v)] | none => []) := by
  cases r with
  | none => rfl
  | some v =>
    cases v with
    | nil => rfl
    | cons c cs => simp [optAttr, normRef]

theorem allAttr_optAttr (k : String) (r : Option Str) (nm : String) :
    allAttr (optAttr k r) nm = if localName k.toList = nm.toList then (normRef r).toList else [] := by
  rw [optAttr_norm]
  cases normRef r with
  | none => exact (ite_self _).symm
  | some v => rw [allAttr_cons]; exact append_nil _

theorem localName_tts {p : String × String} (hp : p ∈ attrTable) : localName ("tts:" ++ p.2).toList = p.2.toList := by
  unfold localName; rw [splitName_tts p hp]

/-- `nm` is not the local name of a styling attribute -/
def NotRow (nm : String) : Prop := ∀ p ∈ attrTable, p.2.toList ≠ nm.toList

theorem notRow_of {nm : String} {cs : Str} (e : nm.toList = cs) (h : cs ∉ rowNames) : NotRow nm := by
  intro p hp e'
  exact h (e ▸ e' ▸ row_mem hp)

theorem notRow_id : NotRow "id" := notRow_of (cs := ['i', 'd']) rfl (by decide +kernel)
theorem notRow_begin : NotRow "begin" := notRow_of (cs := ['b', 'e', 'g', 'i', 'n']) rfl (by decide +kernel)
theorem notRow_end : NotRow "end" := notRow_of (cs := ['e', 'n', 'd']) rfl (by decide +kernel)
theorem notRow_region : NotRow "region" := notRow_of (cs := ['r', 'e', 'g', 'i', 'o', 'n']) rfl (by decide +kernel)

theorem outAttrs_localName {a : Attrs} {nm : String} (h : NotRow nm) :
    ∀ kv ∈ outAttrs a, localName kv.1 ≠ nm.toList := by
  intro kv hkv
  obtain ⟨p, hp, he⟩ := mem_filterMap.mp hkv
  obtain ⟨v, -, rfl⟩ := Option.map_eq_some_iff.mp he
  rw [localName_tts hp]
  exact h p hp

theorem allAttr_outAttrs (a : Attrs) {nm : String} (h : NotRow nm) : allAttr (outAttrs a) nm = [] := by
  unfold allAttr
  rw [map_eq_nil_iff, filter_eq_nil_iff]
  intro kv hkv
  simpa using outAttrs_localName h kv hkv

theorem allAttr_outAttrs_row (a : Attrs) {p : String × String} (hp : p ∈ attrTable) :
    allAttr (outAttrs a) p.2 = (kvGet a ("TTML" ++ p.1)).toList := by
  have e : outAttrs a = attrTable.filterMap fun q : String × String =>
      (kvGet a ("TTML" ++ q.1)).map fun v => (("tts:" ++ q.2).toList, v) := rfl
  -- the instance is stated in full: rewriting with `filter_filterMap_row` directly makes the unifier unfold `attrTable`
  have h : (attrTable.filterMap fun q : String × String =>
        (kvGet a ("TTML" ++ q.1)).map fun v => (("tts:" ++ q.2).toList, v)).filter
        (fun kv : Str × Str => decide (localName kv.1 = p.2.toList))
      = ((kvGet a ("TTML" ++ p.1)).map fun v => (("tts:" ++ p.2).toList, v)).toList :=
    filter_filterMap_row (fun q : String × String => q.2.toList) _ (fun kv : Str × Str => localName kv.1) attrTable
      (fun q hq b hb => by obtain ⟨v, -, rfl⟩ := Option.map_eq_some_iff.mp hb; exact localName_tts hq)
      rows_nodup hp
  unfold allAttr
  rw [e, h]
  cases kvGet a ("TTML" ++ p.1) <;> rfl

theorem find_none {nm : String} (h : NotRow nm) : attrTable.find? (fun p => p.2.toList = nm.toList) = none := by
  rw [find?_eq_none]
  intro p hp
  simpa using h p hp

theorem itemOfStart_other {nm : String} (hn : NotRow nm) (hs : nm.toList ≠ "style".toList) (name : Str) {k : Str}
    (hk : localName k = nm.toList) (v : Str) (rest : List (Str × Str × Str)) (it : InItem) :
    itemOfStart name (rawAttr (k, v) :: rest) it = itemOfStart name rest it := by
  have hk' : (splitName k).2 = nm.toList := hk
  exact itemOfStart_skip name _ _ v rest it (hk' ▸ hs) (hk' ▸ find_none hn)

theorem itemOfStart_opt {nm : String} (hn : NotRow nm) (hs : nm.toList ≠ "style".toList) (name : Str) {k : String}
    (hk : localName k.toList = nm.toList) (r : Option Str) (rest : List (Str × Str × Str)) (it : InItem) :
    itemOfStart name ((optAttr k r).map rawAttr ++ rest) it = itemOfStart name rest it := by
  rw [optAttr_norm]
  cases normRef r with
  | none => rfl
  | some v => exact itemOfStart_other hn hs name hk v rest it

theorem localName_xmlid : localName "xml:id".toList = "id".toList := by decide
theorem localName_style : localName "style".toList = "style".toList := by decide
theorem localName_begin : localName "begin".toList = "begin".toList := by decide
theorem localName_end : localName "end".toList = "end".toList := by decide
theorem localName_region : localName "region".toList = "region".toList := by decide

/-- the `TTMLInStyle` / `TTMLInRegion` a definition is decoded into -/
def inDef (d : Def) : InDef := { id := d.id, style := (normRef d.ref).getD [], attrs := inKV d.attrs }

/-- the attributes of the header element of `d` -/
def headerAttrs (d : Def) : List (Str × Str) := optAttr "xml:id" (some d.id) ++ optAttr "style" d.ref ++ outAttrs d.attrs

theorem normRef_some_getD (v : Str) : (normRef (some v)).getD [] = v := by
  cases v <;> rfl

theorem toList_getLast (o : Option Str) : o.toList.getLast?.getD [] = o.getD [] := by
  cases o <;> rfl

theorem allAttr_headerAttrs (d : Def) {nm : String} (h : NotRow nm) :
    allAttr (headerAttrs d) nm = (if "id".toList = nm.toList then (normRef (some d.id)).toList else []) ++
      (if "style".toList = nm.toList then (normRef d.ref).toList else []) := by
  rw [headerAttrs, allAttr_append, allAttr_append, allAttr_outAttrs _ h,
    allAttr_optAttr, allAttr_optAttr, localName_xmlid, localName_style, append_nil]

theorem lastAttr_header_id (d : Def) : lastAttr (headerAttrs d) "id" = d.id := by
  rw [lastAttr_eq, allAttr_headerAttrs d notRow_id, if_pos rfl, if_neg (by decide), append_nil, toList_getLast,
    normRef_some_getD]

theorem mkDef_header (d : Def) (hok : attrsOk d.attrs = true) : mkDef (headerAttrs d) = some (inDef d) := by
  unfold mkDef
  rw [lastAttr_header_id, headerAttrs, append_assoc, map_append,
    itemOfStart_opt notRow_id (by decide) [] localName_xmlid, itemOfStart_written [] d.ref d.attrs hok]
  rfl

/-- the attributes of the `<p>` of a cue -/
def pAttrs (it : CItem) : List (Str × Str) :=
  [("begin".toList, Duration.formatTTML it.startAt), ("end".toList, Duration.formatTTML it.endAt)]
    ++ optAttr "region" it.region ++ optAttr "style" it.style ++ outAttrs it.attrs

/-- the `TTMLInSubtitle` of a cue, before its children are read -/
def inSub0 (it : CItem) : InSub :=
  { begins := [Duration.formatTTML it.startAt], ends := [Duration.formatTTML it.endAt], id := [],
    region := (normRef it.region).getD [], style := (normRef it.style).getD [], attrs := inKV it.attrs,
    inner := [], stripped := [], toks := [], toksOk := true }

theorem allAttr_pAttrs (it : CItem) {nm : String} (h : NotRow nm) :
    allAttr (pAttrs it) nm
      = (if "begin".toList = nm.toList then [Duration.formatTTML it.startAt] else []) ++
        ((if "end".toList = nm.toList then [Duration.formatTTML it.endAt] else []) ++
        ((if "region".toList = nm.toList then (normRef it.region).toList else []) ++
         (if "style".toList = nm.toList then (normRef it.style).toList else []))) := by
  rw [pAttrs, allAttr_append, allAttr_append, allAttr_append, allAttr_outAttrs _ h, allAttr_cons, allAttr_cons,
    allAttr_optAttr, allAttr_optAttr, localName_begin, localName_end, localName_region, localName_style]
  simp only [allAttr, filter_nil, map_nil, append_nil, append_assoc]

/-- the part of `<p>`'s attributes in front of the `tts:*` ones holds no styling attribute -/
theorem pHead_plain (it : CItem) : ∀ p ∈ attrTable,
    allAttr ([("begin".toList, Duration.formatTTML it.startAt), ("end".toList, Duration.formatTTML it.endAt)]
      ++ optAttr "region" it.region ++ optAttr "style" it.style) p.2 = [] := by
  intro p hp
  rw [allAttr_append, allAttr_append, allAttr_cons, allAttr_cons,
    allAttr_optAttr, allAttr_optAttr, localName_begin, localName_end,
    localName_region, localName_style,
    if_neg (fun e => notRow_begin p hp e.symm), if_neg (fun e => notRow_end p hp e.symm),
    if_neg (fun e => notRow_region p hp e.symm), if_neg (fun e => row_not_style p hp e.symm)]
  rfl

theorem mkSub_pAttrs (it : CItem) (hok : attrsOk it.attrs = true) : mkSub (pAttrs it) = some (inSub0 it) := by
  have hb : allAttr (pAttrs it) "begin" = [Duration.formatTTML it.startAt] := by
    rw [allAttr_pAttrs it notRow_begin, if_pos rfl, if_neg (by decide), if_neg (by decide), if_neg (by decide)]; rfl
  have he : allAttr (pAttrs it) "end" = [Duration.formatTTML it.endAt] := by
    rw [allAttr_pAttrs it notRow_end, if_neg (by decide), if_pos rfl, if_neg (by decide), if_neg (by decide)]; rfl
  have hi : lastAttr (pAttrs it) "id" = [] := by
    rw [lastAttr_eq, allAttr_pAttrs it notRow_id, if_neg (by decide), if_neg (by decide), if_neg (by decide),
      if_neg (by decide)]; rfl
  have hr : lastAttr (pAttrs it) "region" = (normRef it.region).getD [] := by
    rw [lastAttr_eq, allAttr_pAttrs it notRow_region, if_neg (by decide), if_neg (by decide), if_pos rfl,
      if_neg (by decide), nil_append, nil_append, append_nil, toList_getLast]
  unfold mkSub
  rw [hb, he, hi, hr, pAttrs, append_assoc, append_assoc, map_append, map_cons, map_cons, map_nil, cons_append,
    cons_append, nil_append,
    itemOfStart_other notRow_begin (by decide) [] localName_begin,
    itemOfStart_other notRow_end (by decide) [] localName_end, map_append,
    itemOfStart_opt notRow_region (by decide) [] localName_region,
    itemOfStart_written [] it.style it.attrs hok]
  rfl

end TTMLDoc
end Astisub
