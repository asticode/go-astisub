import Astisub.Lemmas.Lines
import Astisub.Lemmas.VTTRead2Block
import Astisub.Lemmas.VTTRead2Header
import Astisub.Lemmas.VTTRead2View
import Astisub.Lemmas.VTTRead2Run

/-!
# Lemmas/VTTRead2Main — the whole document: the decoder's fold over the blocks against the reader's loop over the lines

`sim_cut` (by induction on `Blocks.Cut`) and `sim_lines` (header metadata first) give `read_rel` for a cue-text layer
`TextLayer2 ok`.  What the decoder's fold keeps (`foldl_F_inv`): CSS lines without line feed and a timestamp map in
64 bits (`ViewFits`), and for `InClass` no inline timestamp (`decode_noTs`).
-/

namespace Astisub
namespace VTTRead
open Go Spec.VTT
open VTT (St step run Block)

/-- the step of the decoder's fold over the blocks (`foldBlocks` starts it at the empty state; the lemmas need it from any) -/
def F (acc : Option DocSt) (b : List Str) : Option DocSt :=
  match acc with | some st => block st b | none => none

theorem foldBlocks_eq (bs : List (List Str)) : foldBlocks bs = bs.foldl F (some {}) := rfl

theorem foldl_F_none (bs : List (List Str)) : bs.foldl F none = none := by
  induction bs with
  | nil => rfl
  | cons b bs ih => simpa [List.foldl, F] using ih

open List in
theorem sim_cut {ok : Str → Bool} (T : TextLayer2 ok) {ls : List Str} {bs : List (List Str)} (hc : Blocks.Cut ls bs) :
    ∀ (ds ds' : DocSt) (ms0 : St), R2 ds ms0 → Between ms0 → (∀ b ∈ bs, blockOKWith ok b = true) →
      bs.foldl F (some ds) = some ds' → GoodRun (run ms0 (ls.map some)) ds' := by
  induction hc with
  | nil => intro ds ds' ms0 hR _ _ h; cases h; exact Or.inr ⟨ms0, rfl, hR⟩
  | blank _ ih =>
    intro ds ds' ms0 hR _ hok h
    obtain ⟨ms1, hs, hR1, hB1⟩ := step_blank_R2 hR [] rfl
    simp only [map_cons, run, hs]
    exact ih ds ds' ms1 hR1 hB1 hok h
  | last _ hb => intro ds ds' ms0 hR hB hok h; exact sim_block T hR hB _ hb (hok _ mem_cons_self) h
  | @group b ls bs _ hb _ ih =>
    intro ds ds' ms0 hR hB hok h
    rw [foldl_cons] at h
    cases hblk : F (some ds) b with
    | none => rw [hblk, foldl_F_none] at h; cases h
    | some ds1 =>
      rw [hblk] at h
      rw [map_append, run_append]
      rcases sim_block T hR hB b hb (hok _ mem_cons_self) hblk with hu | ⟨ms1, hrun, hR1⟩
      · rw [hu]; exact Or.inl rfl
      · obtain ⟨ms2, hs, hR2, hB2⟩ := step_blank_R2 hR1 [] rfl
        simp only [hrun, map_cons, run, hs]
        exact ih ds1 ds' ms2 hR2 hB2 (fun x hx => hok x (mem_cons_of_mem _ hx)) h

open List in
/-- `sim_cut` on the decoder's own lines (the reader trims every line, `run_trim`) -/
theorem sim_blocks {ok : Str → Bool} (T : TextLayer2 ok) (lines : List Str) (ds ds' : DocSt) (ms0 : St) (hR : R2 ds ms0)
    (hB : Between ms0) (hok : ∀ b ∈ blocks lines, blockOKWith ok b = true) (h : (blocks lines).foldl F (some ds) = some ds') :
    GoodRun (run ms0 (lines.map some)) ds' := by
  rw [run_trim]
  rw [Spec.VTT.blocks_eq_srt] at hok h
  exact sim_cut T (Blocks.cut_blocks lines) ds ds' ms0 hR hB hok h

/-- the decoder's CSS lines hold no line feed and its timestamp map fits 64 bits: what the view of the reader's
    result needs to give the styles and the map back (`view_result`) -/
def ViewFits (ds : DocSt) : Prop :=
  (∀ l ∈ ds.styles, '\n' ∉ l) ∧ (∀ l m, ds.tsmap = some (l, m) → Go.Int64 l ∧ Go.Int64 m)

theorem tsmapLine_int64 {l : Str} {m : Int × Int} (h : tsmapLine l = some m)   : Go.Int64 m.1 ∧ Go.Int64 m.2 := by
  obtain ⟨_, _, _, _, _, _, _, lms, mv, ht⟩ := tsmapLine_inv h
  have hl : lms < 3700000000000 := by
    rcases ht.keys with ⟨_, _, ht, _⟩ | ⟨_, _, ht, _⟩ <;> exact timeMs_bound ht
  have hmv := ht.mpegts_lt
  obtain rfl := ht.value
  unfold Go.Int64
  simp only
  have : (2 : Nat) ^ 62 = 4611686018427387904 := by decide
  rw [this] at hmv
  omega

theorem metaStep_viewFits {ds ds1 : DocSt} {l : Str} (hD : ViewFits ds) (h : metaStep (some ds) l = some ds1) : ViewFits ds1 := by
  cases metaStep_inv h with
  | region => exact hD
  | tsmap m _ hm =>
    refine ⟨hD.1, fun a b hab => ?_⟩
    simp only [Option.some.injEq] at hab
    have := tsmapLine_int64 hm
    rw [hab] at this
    exact this

theorem foldl_metaStep_inv (P : DocSt → Prop)
    (hP : ∀ {ds ds1 : DocSt} {l : Str}, P ds → metaStep (some ds) l = some ds1 → P ds1) (b : List Str) :
    ∀ {ds ds' : DocSt}, P ds → b.foldl metaStep (some ds) = some ds' → P ds' := by
  induction b with
  | nil => intro ds ds' hD h; simp only [List.foldl, Option.some.injEq] at h; subst h; exact hD
  | cons l ls ih =>
    intro ds ds' hD h
    simp only [List.foldl] at h
    cases h1 : metaStep (some ds) l with
    | none => rw [h1, foldl_metaStep_none] at h; cases h
    | some ds1 => rw [h1] at h; exact ih (hP hD h1) h

theorem foldl_F_inv (P : DocSt → Prop) (Q : List Str → Prop)
    (hP : ∀ {ds ds' : DocSt} {b : List Str}, P ds → Q b → block ds b = some ds' → P ds') (bs : List (List Str)) :
    ∀ {ds ds' : DocSt}, P ds → (∀ b ∈ bs, Q b) → bs.foldl F (some ds) = some ds' → P ds' := by
  induction bs with
  | nil => intro ds ds' hD _ h; simp only [List.foldl, Option.some.injEq] at h; subst h; exact hD
  | cons b bs ih =>
    intro ds ds' hD hb h
    simp only [List.foldl] at h
    cases h1 : F (some ds) b with
    | none => rw [h1, foldl_F_none] at h; cases h
    | some ds1 =>
      rw [h1] at h
      exact ih (hP hD (hb b (by simp)) h1) (fun x hx => hb x (by simp [hx])) h

theorem block_viewFits {ds ds' : DocSt} {b : List Str} (hD : ViewFits ds) (hb : ∀ l ∈ b, '\n' ∉ l) (h : block ds b = some ds') :
    ViewFits ds' := by
  cases block_eff h with
  | none => exact hD
  | note => exact hD
  | style rest =>
    refine ⟨fun l hl => ?_, hD.2⟩
    rcases List.mem_append.mp hl with e | e
    · exact hD.1 l e
    · exact hb l (List.mem_cons_of_mem _ e)
  | glued _ _ _ _ _ hf => exact foldl_metaStep_inv ViewFits metaStep_viewFits _ hD hf
  | cue _ _ _ _ _ _ _ _ _ hcore =>
    obtain ⟨_, _, _, _, _, _, _, _, hc⟩ := cueCore_inv hcore
    obtain rfl := hc.eq
    exact hD

/-- no cue of the decoder's state has a run with an inline timestamp -/
def DocNoTs (ds : DocSt) : Prop := ∀ c ∈ ds.cues, ∀ l ∈ c.lines, ∀ r ∈ l.runs, r.ts = none

theorem block_noTs {ds ds' : DocSt} {b : List Str} (hD : DocNoTs ds) (hok : blockOK b = true)
    (h : block ds b = some ds') : DocNoTs ds' := by
  cases block_eff h with
  | none => exact hD
  | note => exact hD
  | style => exact hD
  | glued _ _ _ _ _ hf =>
    refine foldl_metaStep_inv DocNoTs (fun hD h => ?_) _ hD hf
    cases metaStep_inv h <;> exact hD
  | cue first rest id timing text _ hn _ htx hcore =>
    obtain ⟨l, r, e, sets, s, en, a, lines, hc⟩ := cueCore_inv hcore
    obtain rfl := hc.eq
    have htext := hc.decoded
    simp only [blockOK, hn, Option.isSome_none, Bool.false_eq_true, if_false, Bool.and_eq_true, List.all_eq_true] at hok
    intro c hc
    have hc' : c ∈ ds.cues ++ [mkCue ds id s en a lines] := hc
    rcases List.mem_append.mp hc' with hc' | hc'
    · exact hD c hc'
    · rw [List.mem_singleton.mp hc']
      exact cueText_noTs text [] lines (htx ▸ hok.2) htext

open List in
theorem blocks_all (P : Str → Prop) (lines : List Str) (h : ∀ x ∈ lines, P (trimSpace x)) :
    ∀ b ∈ blocks lines, ∀ l ∈ b, P l := by
  rw [Spec.VTT.blocks_eq_srt]
  intro b hb l hl
  obtain ⟨x, hx, rfl⟩ := mem_map.mp ((Blocks.cut_blocks lines).mem b hb l hl)
  exact h x hx

def InClassWith (ok : Str → Bool) (doc : Str) : Bool :=
  match docBlocks doc with
  | some bs => bs.all (blockOKWith ok)
  | none => true

theorem InClass_eq (doc : Str) : InClass doc = InClassWith lineOK doc := rfl

theorem blocks_eq (lines : List Str) : blocks lines = blocks.go lines [] := rfl

/-- the blocks of the lines after the `WEBVTT` line, as `docBlocks` cuts them: the metadata glued to the header, then
    the groups between blank lines -/
def bsOf (rest : List Str) : List (List Str) :=
  (if (rest.takeWhile metaLine).isEmpty then [] else [(rest.takeWhile metaLine).map trimSpace]) ++
    blocks (rest.drop (rest.takeWhile metaLine).length)

theorem sim_lines {ok : Str → Bool} (T : TextLayer2 ok) (rest : List Str) (ds' : DocSt)
    (hok : ∀ b ∈ bsOf rest, blockOKWith ok b = true) (h : (bsOf rest).foldl F (some {}) = some ds') :
    GoodRun (run {} (rest.map some)) ds' := by
  unfold bsOf at h hok
  by_cases he : (rest.takeWhile metaLine).isEmpty = true
  · rw [if_pos he] at h hok
    have e0 : rest.takeWhile metaLine = [] := by simpa using he
    rw [e0] at h hok
    simp only [List.nil_append, List.length_nil, List.drop_zero, blocks_eq] at h hok
    have := sim_blocks T rest {} ds' {} R2_init between_init hok h
    simpa using this
  · -- metadata glued to the header is a block of its own, before any blank line: `sim_meta`, then the blocks of the rest
    rw [if_neg he] at h hok
    generalize hhdr : rest.takeWhile metaLine = hdr at h hok he
    have hsplit : hdr ++ rest.drop hdr.length = rest := by rw [← hhdr, List.drop_length_takeWhile, List.takeWhile_append_dropWhile]
    generalize rest.drop hdr.length = rest' at h hok hsplit
    have hmeta : ∀ l ∈ hdr.map trimSpace, metaT l = true := by
      intro l hl
      obtain ⟨x, hx, rfl⟩ := List.mem_map.mp hl
      exact List.mem_takeWhile_imp (p := metaLine) (l := rest) (by rw [hhdr]; exact hx)
    have hbl : ∀ l ∈ hdr.map trimSpace, BLine l := by
      intro l hl
      have hm := hmeta l hl
      obtain ⟨x, _, rfl⟩ := List.mem_map.mp hl
      exact ⟨trimSpace_idem x, (metaLine_of_metaT hm).ne_nil⟩
    cases hB : hdr.map trimSpace with
    | nil =>
      have : hdr = [] := by simpa using hB
      rw [this] at he; simp at he
    | cons first more =>
      rw [hB] at h hok hmeta hbl
      simp only [List.cons_append, List.nil_append, List.foldl] at h
      have hfacts := metaLine_of_metaT (hmeta first (by simp))
      cases hblk : F (some {}) (first :: more) with
      | none => rw [hblk, foldl_F_none] at h; cases h
      | some ds1 =>
        rw [hblk] at h
        simp only [F] at hblk
        rw [block_cases _ first more hfacts.noteLine hfacts.noStyle] at hblk
        have hall : (first :: more).all metaT = true := by
          rw [List.all_eq_true]; exact hmeta
        rw [if_pos hall] at hblk
        have hokb := hok (first :: more) (by simp)
        unfold blockOKWith at hokb
        simp only [hfacts.noteLine, Option.isSome_none, Bool.false_eq_true, if_false, Bool.and_eq_true, List.all_eq_true] at hokb
        have hsim := sim_meta (first :: more) R2_init between_init hbl hokb.1 hmeta hblk
        rw [← hsplit, List.map_append, run_append, run_trim, hB]
        rcases hsim with hu | ⟨ms1, hrun, hR1, hB1⟩
        · rw [hu]; exact Or.inl rfl
        · rw [hrun]
          simp only
          have := sim_blocks T rest' ds1 ds' ms1 hR1 hB1
            (fun b hb => hok b (by simp [hb])) h
          simpa using this

theorem viewFits_init : ViewFits {} := ⟨fun l hl => (by cases hl), fun l m h => (by cases h)⟩

theorem bsOf_no_lf (rest : List Str) (hr : ∀ l ∈ rest, '\n' ∉ l) : ∀ b ∈ bsOf rest, ∀ l ∈ b, '\n' ∉ l := by
  intro b hb l hl
  unfold bsOf at hb
  rcases List.mem_append.mp hb with e | e
  · by_cases he : (rest.takeWhile metaLine).isEmpty = true
    · rw [if_pos he] at e; cases e
    · rw [if_neg he] at e
      simp only [List.mem_singleton] at e
      subst e
      obtain ⟨x, hx, rfl⟩ := List.mem_map.mp hl
      exact trimSpace_no_lf x (hr x ((List.takeWhile_sublist _).mem hx))
  · rw [blocks_eq] at e
    exact blocks_all (fun l => '\n' ∉ l) _ (fun x hx => trimSpace_no_lf x (hr x (List.mem_of_mem_drop hx))) b e l hl

theorem decode_some {text : Str} {g : GDoc} (h : decode text = some g) :
    ∃ bs ds', docBlocks text = some bs ∧ bs.foldl F (some {}) = some ds' ∧ g = docOf ds' := by
  rw [decode_eq] at h
  cases hdb : docBlocks text with
  | none => rw [hdb] at h; cases h
  | some bs =>
    rw [hdb] at h
    simp only at h
    cases hfb : foldBlocks bs with
    | none => rw [hfb] at h; cases h
    | some ds' =>
      rw [hfb] at h
      simp only [Option.map_some, Option.some.injEq] at h
      exact ⟨bs, ds', rfl, by rw [← foldBlocks_eq]; exact hfb, h.symm⟩

theorem read_rel {ok : Str → Bool} (T : TextLayer2 ok) (text : Str) (g : GDoc)
    (hin : InClassWith ok text = true) (h : decode text = some g) :
    ∃ ds', g = docOf ds' ∧ ViewFits ds' ∧
      (VTT.read ((splitLines text []).map some) = .unmodelled ∨
       ∃ ms', VTT.read ((splitLines text []).map some) = .ok (VTT.result ms') ∧ R2 ds' ms') := by
  obtain ⟨bs, ds', hdb, hfb, rfl⟩ := decode_some h
  unfold InClassWith at hin
  rw [hdb] at hin
  simp only at hin
  unfold docBlocks at hdb
  cases hsl : splitLines (stripBom text) [] with
  | nil => rw [hsl] at hdb; cases hdb
  | cons first rest =>
    rw [hsl] at hdb
    simp only at hdb
    cases hoh : okHeader first with
    | false => rw [hoh] at hdb; simp at hdb
    | true =>
      rw [hoh] at hdb
      simp only [Bool.not_true, Bool.false_eq_true, if_false, Option.some.injEq] at hdb
      have hbs : bs = bsOf rest := hdb.symm
      subst hbs
      have hsim := sim_lines T rest ds' (fun b hb => List.all_eq_true.mp hin b hb) hfb
      have hrest : ∀ l ∈ rest, '\n' ∉ l := fun l hl =>
        (splitLines_no_eol (stripBom text) l (by rw [hsl]; simp [hl])).1
      refine ⟨ds', rfl, foldl_F_inv ViewFits (fun b => ∀ l ∈ b, '\n' ∉ l) block_viewFits (bsOf rest) viewFits_init (bsOf_no_lf rest hrest) hfb, ?_⟩
      unfold VTT.read
      rw [skipHeader_of_okHeader text first rest hsl hoh]
      rcases hsim with hu | ⟨ms', hrun, hR⟩
      · left; simp only [hu]
      · right; exact ⟨ms', by simp only [hrun], hR⟩

theorem decode_noTs (text : Str) (g : GDoc) (hin : InClass text = true) (h : decode text = some g) :
    ∀ c ∈ g.cues, ∀ l ∈ c.lines, ∀ r ∈ l.runs, r.ts = none := by
  obtain ⟨bs, ds', hdb, hfb, rfl⟩ := decode_some h
  unfold InClass at hin
  rw [hdb] at hin
  exact foldl_F_inv DocNoTs (fun b => blockOK b = true) block_noTs bs (fun c hc => by cases hc)
    (fun b hb => List.all_eq_true.mp hin b hb) hfb

theorem Good.ne_err {r : SRT.Res Subs} {g : GDoc} (h : Good r g) : r ≠ .err := by
  rintro rfl
  rcases h with h | ⟨_, h, _⟩ <;> cases h

theorem Good.view_of_ok {r : SRT.Res Subs} {g : GDoc} {s : Subs} (h : Good r g) (hr : r = .ok s) :
    (Driver.vttView s).map norm = some (norm g) := by
  subst hr
  rcases h with h | ⟨_, h, hv⟩ <;> cases h
  exact hv

end VTTRead
end Astisub
