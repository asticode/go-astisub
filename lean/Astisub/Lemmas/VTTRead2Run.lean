import Astisub.Lemmas.VTTRead2TextA

/-!
# Lemmas/VTTRead2Run — a successful run of the decoder `Spec.VTT.textLine` as a relation, piece by piece

`Run l st fD`: what `textLine fuel l st = some fD` can have done — `<`-free text, then the end of the line or one tag
`<body>` (`tagStep`) and the rest.  `run_of_textLine` (over `textLine_chunk`) is where the decoder's fuel is spent: a fact
about every accepted line is then an induction on `Run` with one lemma of the class per constructor, with no fuel in it.  The first such
fact is here: a line without `<` + digit gives no run an inline timestamp (`Run.noTs`, `cueText_noTs`), with what a
flush does to a state that has met none (`NoTs`); the simulation by the reader is `Run.sim2` (`Lemmas/VTT3Text`).
-/

namespace Astisub
namespace VTTRead
open Go Spec.VTT List
open SRT (unescapeHTML)

/-- the decoder's state after the `<`-free text `x` -/
def addText (x : Str) (st : TextSt) : TextSt := { st with acc := (unescapeHTML x).reverse ++ st.acc }

theorem addText_of_acc_nil (x : Str) {st : TextSt} (h : st.acc = []) :
    addText x st = { st with acc := (unescapeHTML x).reverse } := by
  unfold addText; rw [h, List.append_nil]

inductive Run : Str → TextSt → TextSt → Prop
  | done (x : Str) (st : TextSt) : (∀ c ∈ x, c ≠ '<') → Run x st (flushText (addText x st))
  | tag (x body after : Str) (st st3 fD : TextSt) : (∀ c ∈ x, c ≠ '<') →
      (∀ c ∈ body, c ≠ '>' ∧ c ≠ '<' ∧ c ≠ '&') → tagStep body (flushText (addText x st)) = some st3 →
      Run after st3 fD → Run (x ++ '<' :: (body ++ '>' :: after)) st fD

theorem chunk_rest (s : Str) : ∃ x r, s = x ++ r ∧ (∀ c ∈ x, c ≠ '<') ∧ RestLt r := by
  refine ⟨s.takeWhile (· != '<'), s.dropWhile (· != '<'), List.takeWhile_append_dropWhile.symm, ?_, ?_⟩
  · intro c hc
    simpa using List.mem_takeWhile_imp hc
  · intro c r' e
    simpa using List.dropWhile_head s c r' e

theorem run_of_textLine (n : Nat) : ∀ (l : Str), l.length < n → ∀ (fuel : Nat) (st fD : TextSt),
    l.length + 1 ≤ fuel → textLine fuel l st = some fD → Run l st fD := by
  induction n with
  | zero => intro l h; omega
  | succ n ih =>
    intro l hl fuel st fD hf h
    obtain ⟨x, r, e, hx, hr⟩ := chunk_rest l
    subst e
    simp only [List.length_append] at hl hf
    obtain ⟨fuel', hf', h'⟩ := textLine_chunk x.length x (Nat.le_refl _) hx r hr fuel st fD hf h
    obtain ⟨k, rfl⟩ : ∃ k, fuel' = k + 1 := ⟨fuel' - 1, by omega⟩
    cases r with
    | nil =>
      rw [textLine_nil] at h'
      cases h'
      rw [List.append_nil]
      exact Run.done x st hx
    | cons c r' =>
      have hc : c = '<' := hr c r' rfl
      subst hc
      obtain ⟨body, after, st3, e, hbody, hstep, hrest⟩ := textLine_lt_inv k r' _ fD h'
      subst e
      simp only [List.length_cons, List.length_append] at hl hf'
      exact Run.tag x body after st st3 fD hx hbody hstep (ih after (by omega) k st3 fD (by omega) hrest)

theorem run_of_line (l : Str) (st fD : TextSt) (h : textLine (l.length + 2) l st = some fD) : Run l st fD :=
  run_of_textLine (l.length + 1) l (Nat.lt_succ_self _) _ st fD (by omega) h

/-- no inline timestamp met so far -/
def NoTs (st : TextSt) : Prop := st.pending = none ∧ ∀ r ∈ st.runs, r.ts = none

theorem flushText_noTs {st : TextSt} (h : NoTs st) : NoTs (flushText st) := by
  obtain ⟨stack, voice, pending, acc, runs⟩ := st
  obtain ⟨hp, hr⟩ := h
  simp only at hp hr
  subst hp
  have hadd : ∀ text : Str, ∀ r ∈ runs ++ [({ text := text, tags := stack, ts := none } : GRun)], r.ts = none := by
    intro text r hm
    rcases List.mem_append.mp hm with hm | hm
    · exact hr r hm
    · rw [List.mem_singleton.mp hm]
  unfold flushText
  simp only [Option.isSome_none, Bool.false_eq_true, if_false]
  split
  · exact ⟨rfl, hr⟩
  · split
    · exact ⟨rfl, hadd _⟩
    · exact ⟨rfl, hadd _⟩

theorem flushText_of_acc_nil (st : TextSt) (h : st.acc = []) : flushText st = st := by
  unfold Spec.VTT.flushText
  rw [h]
  rfl

theorem flushText_eq (st : TextSt) : flushText st =
    if st.acc.isEmpty then st else
    if trimSpace st.acc.reverse = [] then
      (if st.pending.isSome then { st with acc := [] }
       else { st with acc := [], runs := st.runs ++ [{ text := st.acc.reverse, tags := st.stack, ts := none }] })
    else { st with acc := [], pending := none,
                   runs := st.runs ++ [{ text := st.acc.reverse, tags := st.stack, ts := st.pending }] } := rfl

/-- a flush hides no timestamp: a pending one stays pending or goes into the run -/
theorem noTs_of_flush {st : TextSt} (h : NoTs (flushText st)) : NoTs st := by
  rw [flushText_eq] at h
  by_cases h1 : st.acc.isEmpty = true
  · rw [if_pos h1] at h; exact h
  · rw [if_neg h1] at h
    by_cases h2 : trimSpace st.acc.reverse = []
    · rw [if_pos h2] at h
      by_cases h3 : st.pending.isSome = true
      · rw [if_pos h3] at h
        exact ⟨h.1, h.2⟩
      · rw [if_neg h3] at h
        exact ⟨h.1, fun r hr => h.2 r (List.mem_append_left _ hr)⟩
    · rw [if_neg h2] at h
      have hp : st.pending = none := h.2 { text := st.acc.reverse, tags := st.stack, ts := st.pending } (by simp)
      exact ⟨hp, fun r hr => h.2 r (List.mem_append_left _ hr)⟩

theorem flushText_pending_none {st : TextSt} (h : st.pending = none) : (flushText st).pending = none := by
  rw [flushText_eq]
  split
  · exact h
  · split
    · split <;> exact h
    · rfl

theorem flushText_text (st : TextSt) (y : Str) (hy : y ≠ []) (hp : st.pending = none) :
    flushText { st with acc := y.reverse } =
      { st with acc := [], runs := st.runs ++ [{ text := y, tags := st.stack, ts := none }] } := by
  have hne : (y.reverse).isEmpty = false := by
    cases hr : y.reverse with
    | nil => simp at hr; exact absurd hr hy
    | cons => rfl
  cases st with
  | mk stack voice pending acc runs =>
    simp only at hp
    subst hp
    simp only [flushText, hne, Bool.false_eq_true, if_false, List.reverse_reverse, Option.isSome_none]
    split <;> rfl

theorem tagStep_noTs {body : Str} {st st3 : TextSt} (hdig : ∀ d tl, body = d :: tl → isDigit d = false)
    (h : tagStep body st = some st3) (hst : NoTs st) : NoTs st3 := by
  cases body with
  | nil => rw [tagStep_nil] at h; cases h
  | cons c tl =>
    by_cases hc : c = '/'
    · subst hc
      rcases tagStep_close tl st st3 h with ⟨_, _, rfl⟩ | ⟨_, _, _, _, rfl⟩ <;> exact hst
    · obtain ⟨_, _, _, _, _, _, hcase⟩ := tagStep_open c tl st st3 hc (hdig c tl rfl) h
      rcases hcase with ⟨_, _, _, rfl⟩ | ⟨_, rfl⟩ <;> exact hst

theorem Run.noTs {l : Str} {st fD : TextSt} (h : Run l st fD) : scanOK false l = true → NoTs st → NoTs fD := by
  induction h with
  | done x st hx => intro _ hst; exact flushText_noTs (st := addText x st) hst
  | tag x body after st st3 fD hx hbody hstep _ ih =>
    intro hok hst
    rw [scanOK_text x _ hx] at hok
    obtain ⟨hdig, _, hokafter⟩ := scanOK_tag body after (fun c hc => (hbody c hc).1) hok
    exact ih hokafter (tagStep_noTs hdig hstep (flushText_noTs (st := addText x st) hst))

theorem cueText_noTs : ∀ (text : List Str) (stack : List GTag) (glines : List GLine),
    (∀ l ∈ text, lineOK l = true) → cueText text stack = some glines → ∀ g ∈ glines, ∀ r ∈ g.runs, r.ts = none := by
  intro text
  induction text with
  | nil =>
    intro stack glines _ h g hg
    simp only [cueText, Option.some.injEq] at h
    subst h; cases hg
  | cons l ls ih =>
    intro stack glines hok h g hg
    unfold cueText at h
    cases htl : textLine (l.length + 2) l { stack := stack } with
    | none => rw [htl] at h; cases h
    | some tst =>
      rw [htl] at h
      simp only at h
      cases hrest : cueText ls tst.stack with
      | none => rw [hrest] at h; cases h
      | some grest =>
        rw [hrest] at h
        simp only [Option.some.injEq] at h
        subst h
        rcases List.mem_cons.mp hg with e | e
        · subst e
          exact ((run_of_line l _ tst htl).noTs (hok l (by simp)) ⟨rfl, fun r hr => by cases hr⟩).2
        · exact ih tst.stack grest (fun x hx => hok x (by simp [hx])) hrest g e

end VTTRead
end Astisub
