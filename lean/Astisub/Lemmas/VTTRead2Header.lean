import Astisub.Lemmas.Lines
import Astisub.Lemmas.VTTRead2Defs
import Astisub.Lemmas.EvalLit

/-!
# Lemmas/VTTRead2Header — the `WEBVTT` line: the reader's header loop and the decoder's header test,
and the lines of a document (the decoder's `splitLines` is the SubRip one, `Spec.VTT.splitLines_eq`)
-/

namespace Astisub
namespace VTTRead
open Go Spec.VTT

theorem splitLines_no_eol (text : Str) : ∀ l ∈ splitLines text [], OneLine l := by
  rw [splitLines_eq]; exact Spec.SRT.not_mem_of_mem_splitLines List.not_mem_nil List.not_mem_nil

theorem docLines_utf8 (text : Str) : Driver.docLines (Driver.utf8 text) = (splitLines text []).map some := by
  rw [splitLines_eq]; exact Driver.docLines_utf8 text

theorem docLines_of_decodeLine (doc : List UInt8) (text : Str) (h : Driver.decodeLine doc = some text) :
    Driver.docLines doc = (splitLines text []).map some := by
  rw [splitLines_eq]; exact Driver.docLines_of_decodeLine h

/-! a mixed-EOL check: "a⏎(CRLF) b⏎(CR) c⏎(LF) ⏎(LF) d⏎(CR)" is five lines on both sides -/

example : Spec.VTT.splitLines "a\r\nb\rc\n\nd\r".toList [] =
    ["a".toList, "b".toList, "c".toList, [], "d".toList] := by decide_vector

example : linesOf [97, 13, 10, 98, 13, 99, 10, 10, 100, 13] = [[97], [98], [99], [], [100]] := by decide +kernel

/-- and the encoding links the two -/
example : Driver.utf8 "a\r\nb\rc\n\nd\r".toList = [97, 13, 10, 98, 13, 99, 10, 10, 100, 13] := by
  rw [Driver.utf8_eq_flatMap]; decide

theorem lit_webvtt : "WEBVTT".toList = ['W', 'E', 'B', 'V', 'T', 'T'] := by rw [String.toList_ofList]

theorem splitLines_bom (d first : Str) (rest : List Str) (h : splitLines d [] = first :: rest) :
    splitLines (Char.ofNat 0xFEFF :: d) [] = (Char.ofNat 0xFEFF :: first) :: rest := by
  rw [splitLines_eq] at h ⊢
  exact (Go.splitLines_bom d).trans (by rw [h]; rfl)

theorem okHeader_spec (first : Str) (h : okHeader first = true) :
    ∃ tl, first = ['W', 'E', 'B', 'V', 'T', 'T'] ++ tl ∧
      (tl = [] ∨ ∃ c tl', tl = c :: tl' ∧ isBlank c = true) := by
  unfold okHeader at h
  rw [lit_webvtt] at h
  split at h
  · rename_i hd
    exact ⟨[], dropPrefix?_eq_some_iff.mp hd, Or.inl rfl⟩
  · rename_i c tl' hd
    exact ⟨c :: tl', dropPrefix?_eq_some_iff.mp hd, Or.inr ⟨c, tl', rfl, h⟩⟩
  · cases h

theorem webvtt_noSpace : ∀ c ∈ ['W', 'E', 'B', 'V', 'T', 'T'], isSpace c = false := by decide

theorem isSpace_of_isBlank {c : Char} (h : isBlank c = true) : isSpace c = true := by
  unfold isBlank at h
  simp only [Bool.or_eq_true, decide_eq_true_eq] at h
  rcases h with h | h <;> subst h <;> decide

theorem fields_of_okHeader (first : Str) (h : okHeader first = true) :
    ∃ fs, fields first = ['W', 'E', 'B', 'V', 'T', 'T'] :: fs := by
  obtain ⟨tl, rfl, htl⟩ := okHeader_spec first h
  unfold fields
  rw [fieldsAux_word _ _ _ webvtt_noSpace]
  rcases htl with rfl | ⟨c, tl', rfl, hc⟩
  · exact ⟨[], by rw [fieldsAux]; rfl⟩
  · refine ⟨fieldsAux tl' [], ?_⟩
    rw [fieldsAux, if_pos (isSpace_of_isBlank hc)]
    rfl

theorem okHeader_head (first : Str) (h : okHeader first = true) : ∃ tl, first = 'W' :: tl := by
  obtain ⟨tl, rfl, _⟩ := okHeader_spec first h
  exact ⟨_, rfl⟩

theorem skipHeader_hit (l f : Str) (fs : List Str) (ls : List (Option Str))
    (h : fields (trimPrefix VTT.bom l) = f :: fs) (hf : f = "WEBVTT".toList) :
    VTT.skipHeader (some l :: ls) = some ls := by
  rw [VTT.skipHeader, h]
  exact if_pos hf

theorem skipHeader_of_okHeader (doc first : Str) (rest : List Str)
    (h : splitLines (stripBom doc) [] = first :: rest) (hok : okHeader first = true) :
    VTT.skipHeader ((splitLines doc []).map some) = some (rest.map some) := by
  obtain ⟨fs, hfs⟩ := fields_of_okHeader first hok
  obtain ⟨tl, htl⟩ := okHeader_head first hok
  cases doc with
  | nil =>
    have : splitLines (stripBom []) [] = [] := rfl
    rw [this] at h
    cases h
  | cons c d =>
    by_cases hc : c = Char.ofNat 0xFEFF
    · subst hc
      have hs : stripBom (Char.ofNat 0xFEFF :: d) = d := by
        show (if Char.ofNat 0xFEFF = Char.ofNat 0xFEFF then d else Char.ofNat 0xFEFF :: d) = d
        rw [if_pos rfl]
      rw [hs] at h
      rw [splitLines_bom d first rest h, List.map_cons]
      exact skipHeader_hit _ _ fs _ (by rw [show trimPrefix VTT.bom (Char.ofNat 0xFEFF :: first) = first from Go.trimPrefix_bom_cons first]; exact hfs) lit_webvtt.symm
    · have hs : stripBom (c :: d) = c :: d := by
        show (if c = Char.ofNat 0xFEFF then d else c :: d) = c :: d
        rw [if_neg hc]
      rw [hs] at h
      rw [h, List.map_cons]
      refine skipHeader_hit _ _ fs _ ?_ lit_webvtt.symm
      rw [htl, show trimPrefix VTT.bom ('W' :: tl) = 'W' :: tl from
        Go.trimPrefix_bom_of_head (by rw [List.head?_cons]; decide), ← htl]
      exact hfs

theorem trimSpace_no_lf (l : Str) (h : '\n' ∉ l) : '\n' ∉ trimSpace l :=
  fun hm => h (mem_of_mem_trimSpace hm)

theorem trimSpace_no_cr (l : Str) (h : '\r' ∉ l) : '\r' ∉ trimSpace l :=
  fun hm => h (mem_of_mem_trimSpace hm)

end VTTRead
end Astisub
