import Astisub.Lemmas.StrList

/-!
# Lemmas/STL2Str — clean edges: `Edges p x` (non-empty, neither end satisfies `p`), what `trimBoth p` (`Lemmas/StrList`) leaves as it is
-/

namespace Astisub
namespace C05
open Go

def allP {α} (p : α → Bool) (l : List α) : Prop := ∀ c ∈ l, p c = true

/-- the list is not empty and neither its first nor its last element satisfies `p` -/
def Edges {α} (p : α → Bool) (x : List α) : Prop :=
  (∃ c r, x = c :: r ∧ p c = false) ∧ (∃ d r, x.reverse = d :: r ∧ p d = false)

theorem allP_nil {α} (p : α → Bool) : allP p ([] : List α) := by intro c hc; cases hc

theorem allP_append {α} {p : α → Bool} {a b : List α} (ha : allP p a) (hb : allP p b) : allP p (a ++ b) := by
  intro c hc
  rcases List.mem_append.mp hc with h | h
  · exact ha c h
  · exact hb c h

theorem Edges.head {α} {p : α → Bool} {x : List α} (h : Edges p x) (c : α) (hc : x.head? = some c) : p c = false := by
  obtain ⟨⟨d, r, rfl, hp⟩, _⟩ := h; cases hc; exact hp

theorem Edges.last {α} {p : α → Bool} {x : List α} (h : Edges p x) (c : α) (hc : x.getLast? = some c) : p c = false := by
  obtain ⟨_, d, r, hd, hp⟩ := h; rw [List.getLast?_eq_head?_reverse, hd] at hc; cases hc; exact hp

/-- a non-empty fixed point of trimming has clean edges -/
theorem edges_of_fixed {α} (p : α → Bool) (x : List α) (hfix : trimBoth p x = x) (hne : x ≠ []) : Edges p x := by
  refine ⟨?_, ?_⟩
  · cases x with
    | nil => exact absurd rfl hne
    | cons c r => exact ⟨c, r, rfl, head?_trimBoth p (s := c :: r) (by rw [hfix]; rfl)⟩
  · cases hr : x.reverse with
    | nil => exact absurd (List.reverse_eq_nil_iff.mp hr) hne
    | cons d r =>
      exact ⟨d, r, rfl, getLast?_trimBoth p (s := x) (by rw [hfix, List.getLast?_eq_head?_reverse, hr]; rfl)⟩

theorem Edges.ne_nil {α} {p : α → Bool} {x : List α} (h : Edges p x) : x ≠ [] := by
  obtain ⟨⟨c, r, hc, _⟩, _⟩ := h
  rw [hc]; exact List.cons_ne_nil _ _

theorem Edges.append {α} {p : α → Bool} {x y : List α} (hx : Edges p x) (m : List α) (hy : Edges p y) :
    Edges p (x ++ m ++ y) := by
  obtain ⟨⟨c, r, hc, hpc⟩, _⟩ := hx
  obtain ⟨_, ⟨d, r', hd, hpd⟩⟩ := hy
  refine ⟨⟨c, r ++ m ++ y, by rw [hc]; simp, hpc⟩, ⟨d, r' ++ (x ++ m).reverse, ?_, hpd⟩⟩
  rw [List.reverse_append, hd]; rfl

end C05
end Astisub
