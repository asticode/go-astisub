import Astisub.Lemmas.Tot2Duration
import Astisub.Lemmas.TTMLStyleAttrParts

/-!
# Lemmas/Tot2TTML — `ReadFromTTML` (`ttml.go`) with Go's run-time checks explicit

Checked here, on top of `Tot2Duration` (`parseDuration`): first `TTMLInDuration.UnmarshalText` / `duration`, then the reader.

The reader:

* `propagateTTMLAttributes` (`subtitles.go`): `*sa.TTMLTextAlign`, `*sa.TTMLExtent`, `*sa.TTMLOrigin`,
  `*sa.TTMLWritingMode` behind their `!= nil` tests; `dimensions[0]`, `dimensions[1]` behind
  `len(dimensions) > 1`; `coordinates[0]`, `coordinates[1]` behind `len(coordinates) > 1`;
* `TTMLIn.metadata`: the cut `i[:2]` of `astikit.StrPad(t.Lang, ' ', 2, astikit.PadCut)`;
* the map look-ups `o.Styles[id]`, `o.Regions[id]` of the parent links, the regions, the paragraphs and the
  spans: the code tests `_, ok := m[id]` and then stores `m[id]`, a pointer whose `.ID` the writers read —
  here the look-up answers an `Option`, the test is `isNone ⇒ error`, and the identifier is read through
  `deref` (map-miss-then-dereference);
* `ts.Begin` / `ts.End` nil (defect D6: `<p>` without `begin` / `end`): `deref` behind the
  `ts.Begin == nil || ts.End == nil ⇒ error` test;
* the "loop through texts": written as in Go (outer loop over the items, inner loop over
  `strings.Split(tt.Text, "\n")` with `idx > 0 ⇒ new line`) and proved equal to the model's closed form
  with `getLast?` / `dropLast`; the model's `| [] =>` arm for an empty split is dead code.

`encoding/xml` (the token stream, `DecodeElement`) stays a contract: `decodeItems` is used as it is.

Sites of `UnmarshalText`:

* `matches[1]`, `matches[2]`, `matches[3]` of `ttmlRegexpOffsetTime.FindStringSubmatch(text)` (behind `matches != nil`),
  `matches[1][:len(matches[1])-len(matches[2])]` and `matches[2][1:]` (behind `len(matches[2]) > 0`);
* `big.Int.Quo` by `10^len(fraction)` in `ttmlOffsetDuration` (division by zero panics in `math/big`);
* `indexes[0]`, `indexes[1]` of `ttmlRegexpClockTimeFrames.FindStringIndex(text)` (behind `indexes != nil`),
  `text[indexes[0]+1 : indexes[1]]`, `text[:indexes[0]]`;
* `parseDuration` (`Tot.Dur.parseC`).

Sites of `duration` / `ttmlUnitsDuration`: `big.Int.Quo` by `10^len(fraction) * rate` — behind the guards
`d.tickrate > 0`, `d.framerate > 0`; the first is shown necessary (`durationU`, Props/C08tot2).

The model's regular-expression recognisers answer the *parts* (`offsetTime`: integer digits, fraction
digits, metric; `clockFrames`: text before the colon, digits after it).  What the Go code receives is
the submatch slice / index pair; `offsetMatches` and `clockIndexes` rebuild those from the parts
(group 2 is `"." ++ fraction` or empty, group 1 is the integer digits followed by group 2; the match
of `\:[\d]+$` runs from the colon to the end of the text) and the checked code takes them apart again
with Go's index and slice expressions.
-/

namespace Astisub
namespace Tot
namespace TTML
open Go Astisub.TTML

/-- group 2 of `^(\d+(\.\d+)?)(h|m|s|ms|f|t)$` -/
def group2 (fp : Str) : Str := if fp.isEmpty then [] else '.' :: fp

/-- `ttmlRegexpOffsetTime.FindStringSubmatch(text)`: `none` = nil, else whole match and groups 1–3 -/
def offsetMatches (s : Str) : Option (List Str) :=
  (offsetTime s).map fun (ip, fp, m) => [s, ip ++ group2 fp, group2 fp, m]

/-- the head of `UnmarshalText`: integer, fraction and metric out of the submatch slice -/
def offsetPartsC (ms : List Str) : Chk (Str × Str × Str) := do
  let m1 ← idx ms 1
  let m2 ← idx ms 2
  let (integer, fraction) ←
    (if m2.length > 0 then do
      let i ← slcToI m1 ((m1.length : Int) - (m2.length : Int))
      let f ← slcFrom m2 1
      pure (i, f)
    else pure (m1, ([] : Str)) : Chk (Str × Str))
  let metric ← idx ms 3
  pure (integer, fraction, metric)

theorem offsetPartsC_eq (s ip fp m : Str) :
    offsetPartsC [s, ip ++ group2 fp, group2 fp, m] = .ok (ip, fp, m) := by
  unfold offsetPartsC
  simp only [idx, List.getElem?_cons_zero, List.getElem?_cons_succ, ok_bind]
  cases fp with
  | nil => simp [group2]
  | cons c cs =>
    have h2 : group2 (c :: cs) = '.' :: c :: cs := rfl
    rw [h2]
    have hlen : ((ip ++ '.' :: c :: cs).length : Int) - (('.' :: c :: cs).length : Int) = (ip.length : Int) := by
      simp only [List.length_append, List.length_cons]; omega
    rw [if_pos (by simp), hlen, slcToI_ok (by simp), slcFrom_ok (by simp)]
    simp

/-- `ttmlOffsetDuration` with the `big.Int` quotient checked -/
def offsetDurationC (ip fp : Str) (tb : Int) : Chk (Option Int) := do
  let v ← tdivC ((natOfDigits (ip ++ fp) : Int) * tb) ((10 : Int) ^ fp.length)
  pure (if v ≤ 9223372036854775807 then some v else none)

theorem offsetDurationC_eq (ip fp : Str) (tb : Int) (htb : 0 ≤ tb) :
    offsetDurationC ip fp tb = .ok (offsetDuration ip fp tb) := by
  unfold offsetDurationC offsetDuration
  have hp : (0 : Int) < 10 ^ fp.length := Int.pow_pos (by decide)
  rw [tdivC_ok (by omega)]
  simp only [ok_bind, pure_eq]
  rw [Int.tdiv_eq_ediv_of_nonneg (Int.mul_nonneg (Int.natCast_nonneg _) htb)]

theorem timebase_nonneg (m : Str) : 0 ≤ timebase m := by
  unfold timebase
  split
  · decide
  · split
    · decide
    · split <;> decide

/-- `ttmlRegexpClockTimeFrames.FindStringIndex(text)`: `none` = nil, else start and end of the match -/
def clockIndexes (s : Str) : Option (List Nat) :=
  (clockFrames s).map fun (pre, _) => [pre.length, s.length]

theorem clockFrames_split {s pre suf : Str} (h : clockFrames s = some (pre, suf)) : s = pre ++ ':' :: suf := by
  unfold clockFrames at h
  simp only at h
  split at h
  · cases h
  · rename_i x pre' hd
    split at h
    · injection h with h
      injection h with h1 h2
      have hx : (x != ':') = false := by
        have := List.head?_dropWhile_not (fun c => c != ':') s.reverse
        rwa [hd] at this
      have hx' : x = ':' := by simpa using hx
      have hs : s.reverse = s.reverse.takeWhile (fun c => c != ':') ++ s.reverse.dropWhile (fun c => c != ':') :=
        (List.takeWhile_append_dropWhile).symm
      rw [hd] at hs
      have := congrArg List.reverse hs
      rw [List.reverse_reverse, List.reverse_append, List.reverse_cons] at this
      rw [this, h1, h2, hx']
      simp
    · cases h

theorem slc_suffix {α} (pre : List α) (c : α) (suf : List α) :
    ((pre ++ c :: suf).drop (pre.length + 1)).take ((pre ++ c :: suf).length - (pre.length + 1)) = suf := by
  rw [List.drop_length_succ]
  exact List.take_of_length_le (by simp only [List.length_append, List.length_cons]; omega)

/-- the `parseDuration` call at the end of `UnmarshalText` -/
def plainC (text : Str) : Chk (Option InDur) := do
  let d ← Dur.parseC text '.' 3
  pure (d.map fun d => ({ d := d } : InDur))

/-- **`TTMLInDuration.UnmarshalText` with every index / slice expression and the `big.Int` quotient checked** -/
def timeExprC (text : Str) : Chk (Option InDur) :=
  match offsetMatches text with
  | some ms => do
    let (ip, fp, m) ← offsetPartsC ms
    if m = "t".toList then pure ((atoi ip).map fun v => ({ ticks := v, ticksFraction := fp } : InDur))
    else if m = "f".toList then pure ((atoi ip).map fun v => ({ frames := v, framesFraction := fp } : InDur))
    else do
      let v ← offsetDurationC ip fp (timebase m)
      pure (v.map fun v => ({ d := v } : InDur))
  | none =>
    match clockIndexes text with
    | some indexes =>
      if countColons text = 3 then do
        let i0 ← idx indexes 0
        let i1 ← idx indexes 1
        let fr ← slc text (i0 + 1) i1
        match atoi fr with
        | none => pure none
        | some f => do
          let pre ← slcTo text i0
          let d ← Dur.parseC (pre ++ ".000".toList) '.' 3
          pure (d.map fun d => ({ d := d, frames := f } : InDur))
      else plainC text
    | none => plainC text

theorem plainC_eq (text : Str) : plainC text = .ok ((Duration.parse text '.' 3).map fun d => ({ d := d } : InDur)) := by
  unfold plainC; rw [Dur.parseC_eq]; rfl

theorem timeExprC_eq (text : Str) : timeExprC text = .ok (timeExpr text) := by
  unfold timeExprC timeExpr offsetMatches
  cases ho : offsetTime text with
  | some p =>
    obtain ⟨ip, fp, m⟩ := p
    simp only [Option.map_some, offsetPartsC_eq, ok_bind]
    refine ite_ok (fun _ => rfl) fun _ => ite_ok (fun _ => rfl) fun _ => ?_
    rw [offsetDurationC_eq _ _ _ (timebase_nonneg m)]
    rfl
  | none =>
    simp only [Option.map_none]
    unfold clockIndexes
    cases hc : clockFrames text with
    | none =>
      simp only [Option.map_none, plainC_eq, ite_self]
    | some q =>
      obtain ⟨pre, suf⟩ := q
      simp only [Option.map_some]
      by_cases h3 : countColons text = 3
      · rw [if_pos h3, if_pos h3]
        have hs := clockFrames_split hc
        simp only [idx, List.getElem?_cons_zero, List.getElem?_cons_succ, ok_bind]
        have h1 : slc text (pre.length + 1) text.length = .ok suf := by
          rw [slc_ok (by rw [hs]; simp) (Nat.le_refl _)]
          congr 1
          rw [hs]
          exact slc_suffix pre ':' suf
        have h2 : slcTo text pre.length = .ok pre := by
          rw [slcTo_ok (by rw [hs]; simp)]
          congr 1
          rw [hs]; simp
        rw [h1]
        simp only [ok_bind]
        cases atoi suf with
        | none => rfl
        | some f =>
          simp only [h2, ok_bind, Dur.parseC_eq]
          rfl
      · rw [if_neg h3, if_neg h3, plainC_eq]

/-- `ttmlUnitsDuration` with the `big.Int` quotient checked -/
def unitsDurationC (n : Int) (fp : Str) (rate : Int) : Chk Int :=
  tdivC ((n * (10 : Int) ^ fp.length + (natOfDigits fp : Int)) * 1000000000) ((10 : Int) ^ fp.length * rate)

theorem unitsDurationC_eq (n : Int) (fp : Str) (rate : Int) (hr : rate ≠ 0) :
    unitsDurationC n fp rate = .ok (unitsDuration n fp rate) := by
  unfold unitsDurationC unitsDuration
  have hp : (0 : Int) < 10 ^ fp.length := Int.pow_pos (by decide)
  exact tdivC_ok (Int.mul_ne_zero (by omega) hr)

/-- `TTMLInDuration.duration()` -/
def durationC (d : InDur) (framerate tickrate : Int) : Chk Int :=
  if (d.ticks > 0 ∨ d.ticksFraction ≠ []) ∧ tickrate > 0 then unitsDurationC d.ticks d.ticksFraction tickrate
  else if (d.frames > 0 ∨ d.framesFraction ≠ []) ∧ framerate > 0 then do
    let u ← unitsDurationC d.frames d.framesFraction framerate
    pure (d.d + u)
  else pure d.d

theorem durationC_eq (d : InDur) (framerate tickrate : Int) :
    durationC d framerate tickrate = .ok (duration d framerate tickrate) := by
  refine ite_ok (fun h => unitsDurationC_eq _ _ _ (by omega)) fun _ => ite_ok (fun h => ?_) fun _ => rfl
  rw [unitsDurationC_eq _ _ _ (by omega)]
  rfl

/-- the pinned shape without the rate guards: ticks present ⇒ divide by the tick rate -/
def durationU (d : InDur) (tickrate : Int) : Chk Int :=
  if d.ticks > 0 ∨ d.ticksFraction ≠ [] then unitsDurationC d.ticks d.ticksFraction tickrate else pure d.d

example : timeExprC "1.5s".toList = .ok (some { d := 1500000000 }) := by decide_vector
example : timeExprC "00:00:01:12".toList = .ok (some { d := 1000000000, frames := 12 }) := by decide_vector
example : timeExprC "10t".toList = .ok (some { ticks := 10 }) := by decide_vector

/-- `sa.TTMLWritingMode != nil && strings.HasPrefix(*sa.TTMLWritingMode, "tb")` -/
def tbOfC (w : Option Str) : Chk Bool :=
  if w.isSome then do let w ← deref w; pure (hasPrefix "tb".toList w) else pure false

theorem tbOfC_eq (w : Option Str) : tbOfC w = .ok (tbOf w) := by cases w <;> rfl

def alOfC (t : Option Str) : Chk (List (String × Option Str)) :=
  if t.isSome then do let t ← deref t; pure [("WebVTTAlign", optStr t)] else pure []

theorem alOfC_eq (t : Option Str) : alOfC t = .ok (alOf t) := by cases t <;> rfl

/-- the `TTMLExtent` block: `dimensions[0]`, `dimensions[1]` behind `len(dimensions) > 1` -/
def extOfC (tb : Bool) (e : Option Str) : Chk (List (String × Option Str)) :=
  if e.isSome then do
    let e ← deref e
    let dimensions := splitC ' ' e
    if dimensions.length > 1 then do
      let d0 ← idx dimensions 0
      let d1 ← idx dimensions 1
      pure [("WebVTTWidth", optStr d0), ("WebVTTLines", linesOf d1), ("WebVTTSize", optStr (if tb then d0 else d1))]
    else pure []
  else pure []

theorem extOfC_eq (tb : Bool) (e : Option Str) : extOfC tb e = .ok (extOf tb e) := by
  cases e with
  | none => rfl
  | some e =>
    unfold extOfC extOf
    simp only [Option.isSome_some, if_true, deref, ok_bind]
    match splitC ' ' e with
    | [] => rfl
    | [_] => rfl
    | _ :: _ :: _ => rfl

/-- the `TTMLOrigin` block: `coordinates[0]`, `coordinates[1]` behind `len(coordinates) > 1` -/
def orgOfC (tb : Bool) (o : Option Str) : Chk (List (String × Option Str)) :=
  if o.isSome then do
    let o ← deref o
    let coordinates := splitC ' ' o
    let cue ← (if coordinates.length > 1 then do
        let c0 ← idx coordinates 0
        let c1 ← idx coordinates 1
        pure [("WebVTTLine", optStr (if tb then c1 else c0)), ("WebVTTPosition", optStr (if tb then c0 else c1))]
      else pure [] : Chk (List (String × Option Str)))
    pure ([("WebVTTRegionAnchor", some "0%,0%".toList),
           ("WebVTTViewportAnchor", optStr (replaceAll " ".toList ",".toList (trimSpace o))),
           ("WebVTTScroll", some "up".toList)] ++ cue)
  else pure []

theorem orgOfC_eq (tb : Bool) (o : Option Str) : orgOfC tb o = .ok (orgOf tb o) := by
  cases o with
  | none => rfl
  | some o =>
    unfold orgOfC orgOf
    simp only [Option.isSome_some, if_true, deref, ok_bind]
    match splitC ' ' o with
    | [] => rfl
    | [_] => rfl
    | _ :: _ :: _ => rfl

/-- **`TTMLInStyleAttributes.styleAttributes()` with every dereference and index checked** -/
def styleAttributesC (a : KV) : Chk KV := do
  let tb ← tbOfC (get a "WritingMode")
  let al ← alOfC (get a "TextAlign")
  let ext ← extOfC tb (get a "Extent")
  let org ← orgOfC tb (get a "Origin")
  pure (mkAttrs ((attrTable.map fun (f, _) => ("TTML" ++ f, get a f)) ++ al ++ ext ++ org))

theorem styleAttributesC_eq (a : KV) : styleAttributesC a = .ok (styleAttributes a) := by
  unfold styleAttributesC
  rw [tbOfC_eq, styleAttributes_eq]
  simp only [ok_bind, alOfC_eq, extOfC_eq, orgOfC_eq]
  rfl

/-- the extent block without the `len(dimensions) > 1` test -/
def extOfU (e : Str) : Chk (Str × Str) := do
  let dimensions := splitC ' ' e
  let d0 ← idx dimensions 0
  let d1 ← idx dimensions 1
  pure (d0, d1)

example : (splitC ' ' "100%".toList).length ≤ 1 := by decide
example : extOfC false (some "100%".toList) = .ok [] := by rfl
example : extOfC false (some "100% 20%".toList) =
    .ok [("WebVTTWidth", some "100%".toList), ("WebVTTLines", some "4".toList), ("WebVTTSize", some "20%".toList)] := by decide_vector

/-- `astikit.StrPad(lang, ' ', 2, astikit.PadCut)`: cut with `i[:2]`, else pad on the left -/
def pad2C (lang : Str) : Chk Str :=
  if lang.length = 2 then pure lang
  else if lang.length > 2 then slcTo lang 2
  else pure (List.replicate (2 - lang.length) ' ' ++ lang)

def languageOfC (lang : Str) : Chk (Option Str) := do
  let k ← pad2C lang
  pure (languages.lookup k)

theorem lookup_space (c : Char) : languages.lookup [' ', c] = none := by
  simp [languages, List.lookup]

theorem languageOfC_eq (lang : Str) : languageOfC lang = .ok (languageOf lang) := by
  unfold languageOfC pad2C languageOf
  match lang with
  | [] => simp only [List.length_nil]; exact congrArg Except.ok (lookup_space ' ')
  | [c] => simp only [List.length_cons, List.length_nil]; exact congrArg Except.ok (lookup_space c)
  | [a, b] => rfl
  | a :: b :: c :: t =>
    rw [if_neg (by simp), if_pos (by simp), slcTo_ok (by simp)]
    rfl

def metadataOfC (t : TIn) : Chk Attrs := do
  let l ← languageOfC t.lang
  pure (some (mkAttrs [("Framerate", if t.framerate = 0 then none else some (itoa t.framerate)),
                 ("Language", l), ("TTMLCopyright", optStr t.copyright), ("Title", optStr t.title)]))

theorem metadataOfC_eq (t : TIn) : metadataOfC t = .ok (metadataOf t) := by
  unfold metadataOfC metadataOf
  rw [languageOfC_eq]; rfl

/-- `o.Styles[id]` / `o.Regions[id]`: the entry stored last under the identifier, `none` = not in the map -/
def findDef (l : List InDef) (id : Str) : Option InDef := l.reverse.find? (fun d => d.id == id)

theorem findDef_isSome (l : List InDef) (id : Str) : (findDef l id).isSome = (l.map (·.id)).contains id := by
  unfold findDef
  rw [Bool.eq_iff_iff, List.find?_isSome, List.contains_iff_mem, List.mem_map]
  constructor
  · rintro ⟨d, hd, he⟩; exact ⟨d, List.mem_reverse.mp hd, by simpa using he⟩
  · rintro ⟨d, hd, he⟩; exact ⟨d, List.mem_reverse.mpr hd, by simpa using he⟩

theorem findDef_id {l : List InDef} {id : Str} {d : InDef} (h : findDef l id = some d) : d.id = id := by
  unfold findDef at h
  have := List.find?_some h
  simpa using this

/-- `if _, ok := m[id]; !ok { return error }; x = m[id]` and the later `x.ID`; `none` = the error return -/
def resolveC (l : List InDef) (id : Str) : Chk (Option Str) :=
  let p := findDef l id
  if p.isNone then pure none
  else do
    let d ← deref p
    pure (some d.id)

theorem resolveC_eq (l : List InDef) (id : Str) :
    resolveC l id = .ok (if (l.map (·.id)).contains id then some id else none) := by
  unfold resolveC
  have hs := findDef_isSome l id
  cases hf : findDef l id with
  | none =>
    rw [hf] at hs
    simp only [Option.isNone_none, if_true]
    rw [← hs]; rfl
  | some d =>
    rw [hf] at hs
    simp only [Option.isNone_some, deref, ok_bind]
    rw [← hs, findDef_id hf]; rfl

/-- the look-up without the `ok` test -/
def resolveU (l : List InDef) (id : Str) : Chk Str := do
  let d ← deref (findDef l id)
  pure d.id

/-- an optional reference (`len(name) > 0` ⇒ look up): `none` = error, `some none` = no reference -/
def refC (l : List InDef) (name : Str) : Chk (Option (Option Str)) :=
  if name ≠ [] then do
    let r ← resolveC l name
    match r with
    | none => pure none
    | some id => pure (some (some id))
  else pure (some none)

/-- what the model computes for a reference -/
def refOf (ids : List Str) (name : Str) : Option (Option Str) :=
  if name ≠ [] ∧ !ids.contains name then none else some (if name ≠ [] then some name else none)

theorem refC_eq (l : List InDef) (name : Str) : refC l name = .ok (refOf (l.map (·.id)) name) := by
  unfold refC refOf
  by_cases hn : name ≠ []
  · rw [if_pos hn, resolveC_eq]
    simp only [ok_bind]
    cases hc : (l.map (·.id)).contains name <;> simp [hn]
  · rw [if_neg hn]
    simp [hn]

def mkDef (s : InDef) : Def :=
  { id := s.id, ref := if s.style ≠ [] then some s.style else none, attrs := some (styleAttributes s.attrs) }

/-- one style / region: inline style, then the reference to its (parent) style; `none` = error -/
def defC (styles : List InDef) (s : InDef) : Chk (Option Def) := do
  let a ← styleAttributesC s.attrs
  let r ← refC styles s.style
  match r with
  | none => pure none
  | some ref => pure (some { id := s.id, ref := ref, attrs := some a })

def defsC (styles : List InDef) : List InDef → Chk (Option (List Def))
  | [] => pure (some [])
  | s :: rest => do
    let d ← defC styles s
    match d with
    | none => pure none
    | some d => do
      let ds ← defsC styles rest
      match ds with
      | none => pure none
      | some ds => pure (some (d :: ds))

theorem defC_eq (styles : List InDef) (s : InDef) :
    defC styles s = .ok (if s.style ≠ [] ∧ !(styles.map (·.id)).contains s.style then none else some (mkDef s)) := by
  unfold defC
  rw [styleAttributesC_eq, refC_eq]
  simp only [ok_bind, refOf]
  by_cases hb : s.style ≠ [] ∧ !(styles.map (·.id)).contains s.style
  · rw [if_pos hb, if_pos hb]; rfl
  · rw [if_neg hb, if_neg hb]; rfl

theorem defsC_eq (styles : List InDef) : ∀ l : List InDef,
    defsC styles l = .ok (if l.any (fun s => s.style ≠ [] ∧ !(styles.map (·.id)).contains s.style) then none
                          else some (l.map mkDef)) := by
  intro l
  induction l with
  | nil => rfl
  | cons s rest ih =>
    unfold defsC
    rw [defC_eq]
    simp only [ok_bind, List.any_cons, List.map_cons]
    by_cases hb : s.style ≠ [] ∧ !(styles.map (·.id)).contains s.style
    · rw [if_pos hb, decide_eq_true hb, Bool.true_or, if_pos rfl]
      rfl
    · rw [if_neg hb, ih, decide_eq_false hb, Bool.false_or]
      simp only [ok_bind]
      by_cases ha : (rest.any fun s => decide (s.style ≠ [] ∧ !(styles.map (·.id)).contains s.style)) = true
      · rw [if_pos ha, if_pos ha]; rfl
      · rw [if_neg ha, if_neg ha]; rfl

def mkLItem (tt : InItem) (li : Str) : LItem :=
  { text := li, attrs := some (styleAttributes tt.attrs), style := if tt.style ≠ [] then some tt.style else none }

/-- one `LineItem`: inline style, then `o.Styles[tt.Style]` behind its `ok` test; `none` = error -/
def mkLItemC (styles : List InDef) (tt : InItem) (li : Str) : Chk (Option LItem) := do
  let a ← styleAttributesC tt.attrs
  let r ← refC styles tt.style
  match r with
  | none => pure none
  | some st => pure (some { text := li, attrs := some a, style := st })

theorem mkLItemC_eq (styles : List InDef) (tt : InItem) (li : Str) :
    mkLItemC styles tt li =
      .ok (if tt.style ≠ [] ∧ !(styles.map (·.id)).contains tt.style then none else some (mkLItem tt li)) := by
  unfold mkLItemC
  rw [styleAttributesC_eq, refC_eq]
  simp only [ok_bind, refOf]
  by_cases hb : tt.style ≠ [] ∧ !(styles.map (·.id)).contains tt.style
  · rw [if_pos hb, if_pos hb]; rfl
  · rw [if_neg hb, if_neg hb]; rfl

/-- `for idx, li := range strings.Split(tt.Text, "\n")`: `first` = `idx == 0`; state = finished lines, current line -/
def piecesC (styles : List InDef) (tt : InItem) :
    List Str → Bool → List Line → List LItem → Chk (Option (List Line × List LItem))
  | [], _, done, cur => pure (some (done, cur))
  | li :: rest, first, done, cur => do
    let it ← mkLItemC styles tt li
    match it with
    | none => pure none
    | some it =>
      if first then piecesC styles tt rest false done (cur ++ [it])
      else piecesC styles tt rest false (done ++ [{ items := cur }]) [it]

/-- the loop over the items of a paragraph, as in Go -/
def linesLoopC (styles : List InDef) : List InItem → List Line → List LItem → Chk (Option (List Line))
  | [], done, cur => pure (some (done ++ [{ items := cur }]))
  | tt :: rest, done, cur =>
    if isBr tt.name then linesLoopC styles rest (done ++ [{ items := cur }]) []
    else do
      let r ← piecesC styles tt (splitC '\n' tt.text) true done cur
      match r with
      | none => pure none
      | some (done, cur) => linesLoopC styles rest done cur

/-- the inner loop when the style resolves -/
def piecesPure (mk : Str → LItem) : List Str → Bool → List Line → List LItem → List Line × List LItem
  | [], _, done, cur => (done, cur)
  | li :: rest, first, done, cur =>
    if first then piecesPure mk rest false done (cur ++ [mk li])
    else piecesPure mk rest false (done ++ [{ items := cur }]) [mk li]

theorem piecesC_ok (styles : List InDef) (tt : InItem)
    (h : ¬ (tt.style ≠ [] ∧ !(styles.map (·.id)).contains tt.style)) :
    ∀ (ps : List Str) (first : Bool) (done : List Line) (cur : List LItem),
      piecesC styles tt ps first done cur = .ok (some (piecesPure (mkLItem tt) ps first done cur))
  | [], _, _, _ => rfl
  | li :: rest, first, done, cur => by
    unfold piecesC piecesPure
    rw [mkLItemC_eq, if_neg h, ok_bind]
    cases first <;> exact piecesC_ok styles tt h rest _ _ _

theorem piecesC_err (styles : List InDef) (tt : InItem)
    (h : tt.style ≠ [] ∧ !(styles.map (·.id)).contains tt.style)
    (li : Str) (rest : List Str) (first : Bool) (done : List Line) (cur : List LItem) :
    piecesC styles tt (li :: rest) first done cur = .ok none := by
  unfold piecesC
  rw [mkLItemC_eq, if_pos h]
  rfl

theorem piecesPure_false (mk : Str → LItem) : ∀ (more : List Str) (done : List Line) (cur : List LItem),
    piecesPure mk more false done cur =
      (match more.getLast? with
       | none => (done, cur)
       | some last => (done ++ [{ items := cur }] ++ (more.dropLast.map fun li => ({ items := [mk li] } : Line)), [mk last])) := by
  intro more
  induction more with
  | nil => intros; rfl
  | cons x r ih =>
    intro done cur
    unfold piecesPure
    simp only [Bool.false_eq_true, if_false]
    rw [ih]
    cases r with
    | nil => simp
    | cons y r' =>
      simp only [List.getLast?_cons_cons, List.dropLast_cons_cons, List.map_cons]
      cases hl : (y :: r').getLast? with
      | none => simp at hl
      | some last => simp

/-- closed form of the whole inner loop: what the model writes with `getLast?` / `dropLast` -/
theorem piecesPure_true (mk : Str → LItem) (first : Str) (more : List Str) (done : List Line) (cur : List LItem) :
    piecesPure mk (first :: more) true done cur =
      (match more.getLast? with
       | none => (done, cur ++ [mk first])
       | some last =>
         (done ++ [{ items := cur ++ [mk first] }] ++ (more.dropLast.map fun li => ({ items := [mk li] } : Line)), [mk last])) := by
  unfold piecesPure
  simp only [if_true]
  exact piecesPure_false mk more done (cur ++ [mk first])

theorem linesLoopC_eq (styles : List InDef) : ∀ (items : List InItem) (done : List Line) (cur : List LItem),
    linesLoopC styles items done cur = .ok (linesLoop (styles.map (·.id)) items done cur)
  | [], _, _ => rfl
  | tt :: rest, done, cur => by
    unfold linesLoopC linesLoop
    refine ite_ok (fun _ => linesLoopC_eq styles rest _ _) fun _ => ?_
    match hsp : splitC '\n' tt.text with
    | [] => exact absurd hsp (splitC_ne_nil _ _)
    | first :: more =>
      by_cases hs : tt.style ≠ [] ∧ !(styles.map (·.id)).contains tt.style
      · rw [if_pos hs, piecesC_err styles tt hs]
        rfl
      · rw [if_neg hs, piecesC_ok styles tt hs, ok_bind, piecesPure_true]
        simp only
        cases more.getLast? with
        | none => exact linesLoopC_eq styles rest _ _
        | some last => exact linesLoopC_eq styles rest _ _

def parseTimesC : List Str → Option (Option InDur) → Chk (Option (Option InDur))
  | [], acc => pure acc
  | s :: rest, acc =>
    match acc with
    | none => parseTimesC rest none
    | some _ => do
      let d ← timeExprC s
      parseTimesC rest (d.map some)

theorem parseTimesC_eq : ∀ (l : List Str) (acc : Option (Option InDur)),
    parseTimesC l acc = .ok (l.foldl (fun acc s => match acc with
      | none => none
      | some _ => (timeExpr s).map some) acc)
  | [], _ => rfl
  | s :: rest, none => by
    unfold parseTimesC
    exact parseTimesC_eq rest none
  | s :: rest, some a => by
    unfold parseTimesC
    simp only [timeExprC_eq, ok_bind, List.foldl_cons]
    exact parseTimesC_eq rest _

theorem parseTimesC_eq' (l : List Str) : parseTimesC l (some none) = .ok (parseTimes l) :=
  parseTimesC_eq l (some none)

/-- the body of the loop over `ttml.Subtitles` after the `begin` / `end` pointers are known to be set -/
def subBodyC (t : TIn) (ts : InSub) (b e : InDur) : Chk (Res CItem) := do
  let endAt ← durationC e t.framerate t.tickrate
  let a ← styleAttributesC ts.attrs
  let startAt ← durationC b t.framerate t.tickrate
  let region ← refC t.regions ts.region
  match region with
  | none => pure .err
  | some region => do
    let style ← refC t.styles ts.style
    match style with
    | none => pure .err
    | some style =>
      if stripIndent ts.inner ≠ ts.stripped then pure .unmodelled
      else
        match decodeItems ts.toks ts.toksOk with
        | .err => pure .err
        | .unmodelled => pure .unmodelled
        | .ok items => do
          let lines ← linesLoopC t.styles items [] []
          match lines with
          | none => pure .err
          | some lines =>
            pure (.ok { startAt := startAt, endAt := endAt, attrs := some a, region := region, style := style, lines := lines })

/-- one paragraph: `ts.Begin == nil || ts.End == nil ⇒ error` (repair of D6), then the dereferences -/
def readSubC (t : TIn) (ts : InSub) : Chk (Res CItem) := do
  let b? ← parseTimesC ts.begins (some none)
  let e? ← parseTimesC ts.ends (some none)
  match b?, e? with
  | some bp, some ep =>
    if bp.isNone || ep.isNone then pure .err
    else do
      let b ← deref bp
      let e ← deref ep
      subBodyC t ts b e
  | _, _ => pure .err

/-- the model's paragraph body once both instants are there -/
def subBody (t : TIn) (ts : InSub) (b e : InDur) : Res CItem :=
  if ts.region ≠ [] ∧ !(t.regions.map (·.id)).contains ts.region then .err
  else if ts.style ≠ [] ∧ !(t.styles.map (·.id)).contains ts.style then .err
  else if stripIndent ts.inner ≠ ts.stripped then .unmodelled
  else
    match decodeItems ts.toks ts.toksOk with
    | .err => .err
    | .unmodelled => .unmodelled
    | .ok items =>
      match linesLoop (t.styles.map (·.id)) items [] [] with
      | none => .err
      | some lines =>
        .ok { startAt := duration b t.framerate t.tickrate, endAt := duration e t.framerate t.tickrate,
              attrs := some (styleAttributes ts.attrs),
              region := if ts.region ≠ [] then some ts.region else none,
              style := if ts.style ≠ [] then some ts.style else none,
              lines := lines }

theorem readSub_eq (t : TIn) (ts : InSub) :
    readSub t (t.styles.map (·.id)) (t.regions.map (·.id)) ts =
      (match parseTimes ts.begins, parseTimes ts.ends with
       | some (some b), some (some e) => subBody t ts b e
       | _, _ => .err) := by
  unfold readSub subBody
  rfl

theorem subBodyC_eq (t : TIn) (ts : InSub) (b e : InDur) : subBodyC t ts b e = .ok (subBody t ts b e) := by
  unfold subBodyC subBody
  rw [bind_eq_of_ok (durationC_eq ..), bind_eq_of_ok (styleAttributesC_eq _), bind_eq_of_ok (durationC_eq ..),
    bind_eq_of_ok (refC_eq ..)]
  unfold refOf
  by_cases hr : ts.region ≠ [] ∧ !(t.regions.map (·.id)).contains ts.region
  · rw [if_pos hr, if_pos hr]; rfl
  · rw [if_neg hr, if_neg hr]
    simp only [refC_eq, ok_bind, refOf]
    by_cases hs : ts.style ≠ [] ∧ !(t.styles.map (·.id)).contains ts.style
    · rw [if_pos hs, if_pos hs]; rfl
    · rw [if_neg hs, if_neg hs]
      simp only
      refine ite_ok (fun _ => rfl) fun _ => ?_
      cases decodeItems ts.toks ts.toksOk with
      | err => rfl
      | unmodelled => rfl
      | ok items =>
        simp only [linesLoopC_eq, ok_bind]
        cases linesLoop (t.styles.map (·.id)) items [] [] <;> rfl

theorem readSubC_eq (t : TIn) (ts : InSub) :
    readSubC t ts = .ok (readSub t (t.styles.map (·.id)) (t.regions.map (·.id)) ts) := by
  unfold readSubC
  rw [readSub_eq]
  simp only [parseTimesC_eq', ok_bind]
  generalize parseTimes ts.begins = b?
  generalize parseTimes ts.ends = e?
  cases b? with
  | none => rfl
  | some bp =>
    cases e? with
    | none => cases bp <;> rfl
    | some ep =>
      cases bp with
      | none => rfl
      | some b =>
        cases ep with
        | none => rfl
        | some e =>
          simp only [Option.isNone_some, Bool.or_self, Bool.false_eq_true, if_false, deref, ok_bind]
          rw [subBodyC_eq]

/-- the pinned code (before the repair of D6): no nil test in front of `ts.Begin.framerate = …` -/
def readSubU (t : TIn) (ts : InSub) : Chk (Res CItem) := do
  let b? ← parseTimesC ts.begins (some none)
  let e? ← parseTimesC ts.ends (some none)
  match b?, e? with
  | some bp, some ep => do
    let b ← deref bp
    let e ← deref ep
    subBodyC t ts b e
  | _, _ => pure .err

def subsC (t : TIn) : List InSub → Chk (Res (List CItem))
  | [] => pure (.ok [])
  | a :: as => do
    let r ← readSubC t a
    match r with
    | .ok b => do
      let rs ← subsC t as
      match rs with
      | .ok bs => pure (.ok (b :: bs))
      | .err => pure .err
      | .unmodelled => pure .unmodelled
    | .err => pure .err
    | .unmodelled => pure .unmodelled

theorem subsC_eq (t : TIn) : ∀ l : List InSub,
    subsC t l = .ok (mapMRes (readSub t (t.styles.map (·.id)) (t.regions.map (·.id))) l)
  | [] => rfl
  | a :: as => by
    unfold subsC mapMRes
    rw [readSubC_eq, ok_bind]
    cases readSub t (t.styles.map (·.id)) (t.regions.map (·.id)) a with
    | err => rfl
    | unmodelled => rfl
    | ok b =>
      simp only [subsC_eq t as, ok_bind]
      cases mapMRes (readSub t (t.styles.map (·.id)) (t.regions.map (·.id))) as <;> rfl

/-- **`ReadFromTTML` after `xml.Decode`, with every index, slice, quotient, map look-up and pointer checked** -/
def readC (tin : Option TIn) : Chk (Res Subs) :=
  match tin with
  | none => pure .err
  | some t => do
    let md ← metadataOfC t
    let styles ← defsC t.styles t.styles
    match styles with
    | none => pure .err
    | some styles => do
      let regions ← defsC t.styles t.regions
      match regions with
      | none => pure .err
      | some regions => do
        let items ← subsC t t.subs
        match items with
        | .err => pure .err
        | .unmodelled => pure .unmodelled
        | .ok items => pure (.ok { items := items, regions := lastWins regions, styles := lastWins styles, metadata := md })

theorem readC_eq (tin : Option TIn) : readC tin = .ok (TTML.read tin) := by
  unfold readC TTML.read
  cases tin with
  | none => rfl
  | some t =>
    simp only [metadataOfC_eq, defsC_eq, subsC_eq, ok_bind]
    by_cases h1 : (t.styles.any fun s => decide (s.style ≠ [] ∧ !(t.styles.map (·.id)).contains s.style)) = true
    · rw [if_pos h1, if_pos h1]; rfl
    · rw [if_neg h1, if_neg h1]
      simp only
      by_cases h2 : (t.regions.any fun s => decide (s.style ≠ [] ∧ !(t.styles.map (·.id)).contains s.style)) = true
      · rw [if_pos h2, if_pos h2]; rfl
      · rw [if_neg h2, if_neg h2]
        simp only
        cases mapMRes (readSub t (t.styles.map (·.id)) (t.regions.map (·.id))) t.subs <;> rfl

end TTML
end Tot
end Astisub
