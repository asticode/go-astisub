import Astisub.Lemmas.SSARead2Text
import Astisub.Lemmas.SSA2Spec
import Astisub.Lemmas.SSAStyle

/-!
# Lemmas/SSARead2Style — one `Style:` row under any Format line the decoder accepts: model = decoder
-/

namespace Astisub
namespace SSAR
open Go SSA

/-- the model's column kind as the decoder's (the two enumerations have the same five members) -/
def gk : Kind → Spec.SSA.GKind
  | .bool => .bool | .colour => .colour | .float => .float | .int => .int | .str => .str

theorem styleTable_eq : Spec.SSA.styleTable = Fld.all.map (fun f => (f.col, f.key, gk f.kind)) := by rfl

theorem normCol_tertiary : Spec.SSA.normCol "TertiaryColour".toList = "OutlineColour" := by decide

theorem normCol_of_ne {c : Str} (h : c ≠ "TertiaryColour".toList) : Spec.SSA.normCol c = String.ofList c := by
  unfold Spec.SSA.normCol; rw [if_neg h]

theorem col_ne_Name (f : Fld) : f.col ≠ "Name" := by
  intro h; exact col_ne_name f (by rw [h])

theorem colOfName_name_iff (c : Str) : colOfName c = some .name ↔ Spec.SSA.normCol c = "Name" := by
  constructor
  · intro h
    unfold colOfName at h
    by_cases h1 : c = "Name".toList
    · subst h1; decide
    · rw [if_neg h1] at h
      by_cases h2 : c = "TertiaryColour".toList
      · rw [if_pos h2] at h; cases h
      · rw [if_neg h2] at h
        cases hf : Fld.all.find? fun f => f.col.toList = c <;> rw [hf] at h <;> cases h
  · intro h
    by_cases h2 : c = "TertiaryColour".toList
    · subst h2; exact absurd h (by decide)
    · rw [normCol_of_ne h2] at h
      have : c = "Name".toList := by rw [← h, String.toList_ofList]
      subst this; decide

theorem colOfName_fld_iff (c : Str) (f : Fld) : colOfName c = some (.fld f) ↔ Spec.SSA.normCol c = f.col := by
  constructor
  · intro h
    unfold colOfName at h
    by_cases h1 : c = "Name".toList
    · rw [if_pos h1] at h; cases h
    · rw [if_neg h1] at h
      by_cases h2 : c = "TertiaryColour".toList
      · rw [if_pos h2] at h
        have : f = .outlineColour := by injection h with h; injection h with h; exact h.symm
        subst this; subst h2; decide
      · rw [if_neg h2] at h
        rw [normCol_of_ne h2]
        cases hf : Fld.all.find? fun f => f.col.toList = c with
        | none => rw [hf] at h; cases h
        | some g =>
          rw [hf] at h
          have : g = f := by injection h with h; injection h
          subst this
          have := List.find?_some hf
          simp only [decide_eq_true_eq] at this
          rw [← this, String.ofList_toList]
  · intro h
    by_cases h2 : c = "TertiaryColour".toList
    · subst h2
      rw [normCol_tertiary] at h
      have : f = .outlineColour := (C04.col_injective .outlineColour f h).symm
      subst this; decide
    · rw [normCol_of_ne h2] at h
      have : c = f.col.toList := by rw [← h, String.toList_ofList]
      subst this
      exact C04.col_roundtrip f

theorem lookup_filter_ne {κ} [DecidableEq κ] (l : Vals κ) (k k' : κ) :
    (l.filter fun p => p.1 ≠ k).lookup k' = if k' = k then none else l.lookup k' := by
  have := List.lookup_filter_keys l (fun a => decide (a ≠ k)) k'
  by_cases h : k' = k <;> simpa [h] using this

theorem vals_get_set {κ} [DecidableEq κ] (l : Vals κ) (k k' : κ) (v : Val) :
    (l.set k v).get k' = if k' = k then some v else l.get k' := by
  unfold Vals.set Vals.get
  rw [List.lookup_append, lookup_filter_ne]
  by_cases h : k' = k
  · subst h; simp
  · have hb : (k' == k) = false := by simp [h]
    simp [h, hb, List.lookup]

theorem vals_get_erase {κ} [DecidableEq κ] (l : Vals κ) (k k' : κ) :
    (l.erase k).get k' = if k' = k then none else l.get k' :=
  lookup_filter_ne l k k'

/-- `parseVal` as an `Option`: the value on success, `none` on `.err` and on `.unmodelled` alike -/
def pvOpt (k : Kind) (cell : Str) : Option Val := match parseVal k cell with | .ok v => some v | _ => none

theorem parseVal_of_valOf (k : Kind) (cell : Str) (gv : Spec.SSA.GVal) (h : Spec.SSA.valOf (gk k) cell = some gv)
    (h64 : ∀ v, gv = .i v → In64 v = true) :
    ∃ mv, parseVal k cell = .ok mv ∧ Spec.SSA.canonVal (gk k) mv.canon = some gv := by
  cases k with
  | bool =>
    simp only [gk, Spec.SSA.valOf, Option.map_eq_some_iff] at h
    obtain ⟨b, hb, rfl⟩ := h
    refine ⟨.b b, ?_, ?_⟩
    · simp only [parseVal]; rw [atoiLoose_of_boolOf hb]
    · cases b <;> decide
  | colour =>
    simp only [gk, Spec.SSA.valOf, Option.map_eq_some_iff] at h
    obtain ⟨c, hc, rfl⟩ := h
    obtain ⟨hp, hlt⟩ := parseColour_of_colourOf hc
    refine ⟨.c c, ?_, ?_⟩
    · simp only [parseVal, hp]
    · simp only [gk, Spec.SSA.canonVal, Val.canon, hexOf_hex8 c hlt, Option.map_some]
  | float =>
    simp only [gk, Spec.SSA.valOf, Option.map_eq_some_iff] at h
    obtain ⟨b, hb, rfl⟩ := h
    refine ⟨.f b, ?_, ?_⟩
    · simp only [parseVal, parseFloat_of_floatOf hb]
    · simp only [gk, Spec.SSA.canonVal, Val.canon, spec_natOf_itoaNat, Option.map_some]
  | int =>
    simp only [gk, Spec.SSA.valOf, Option.map_eq_some_iff] at h
    obtain ⟨v, hv, rfl⟩ := h
    refine ⟨.i v, ?_, ?_⟩
    · simp only [parseVal, atoi_of_intOf hv (h64 v rfl)]
    · simp only [gk, Spec.SSA.canonVal, Val.canon, spec_intOf_itoa, Option.map_some]
  | str =>
    simp only [gk, Spec.SSA.valOf, Option.some.injEq] at h
    subst h
    exact ⟨.s cell, rfl, rfl⟩

/-- what a (possibly absent, possibly empty) cell does to an attribute -/
def cellUpd {α} (o : Option Str) (old : α) (new : Str → α) : α :=
  match o with | some cell => if cell.isEmpty then old else new cell | none => old

theorem cellUpd_combine {α} (x k : String) (cell : Str) (r : Option Str) (old : α) (new : Str → α) (h : x = k → r = none) :
    cellUpd r (cellUpd (if x = k then some cell else none) old new) new
      = cellUpd (if x = k then some cell else r) old new := by
  by_cases hx : x = k
  · simp only [h hx, if_pos hx]; rfl
  · simp only [if_neg hx]; rfl

theorem styleField_step (st : Style) (c cell : Str)
    (hp : ∀ f : Fld, Spec.SSA.normCol c = f.col → cell.isEmpty = false → ∃ mv, parseVal f.kind cell = .ok mv) :
    ∃ st1, styleField st c cell = .ok st1 ∧
      st1.name = cellUpd (if "Name" = Spec.SSA.normCol c then some cell else none) st.name id ∧
      ∀ f : Fld, st1.vals.get f = cellUpd (if f.col = Spec.SSA.normCol c then some cell else none) (st.vals.get f) (pvOpt f.kind) := by
  unfold styleField
  by_cases he : cell.isEmpty = true
  · rw [if_pos he]
    refine ⟨st, rfl, ?_, ?_⟩
    · by_cases h : "Name" = Spec.SSA.normCol c <;> simp [h, cellUpd, he]
    · intro f
      by_cases h : f.col = Spec.SSA.normCol c <;> simp [h, cellUpd, he]
  · rw [if_neg he]
    have he' : cell.isEmpty = false := by simpa using he
    cases hc : colOfName c with
    | none =>
      refine ⟨st, rfl, ?_, ?_⟩
      · have : ¬ "Name" = Spec.SSA.normCol c := by
          intro h; rw [(colOfName_name_iff c).mpr h.symm] at hc; cases hc
        rw [if_neg this]; rfl
      · intro f
        have : ¬ f.col = Spec.SSA.normCol c := by
          intro h; rw [(colOfName_fld_iff c f).mpr h.symm] at hc; cases hc
        rw [if_neg this]; rfl
    | some col =>
      cases col with
      | name =>
        have hn := (colOfName_name_iff c).mp hc
        refine ⟨{ st with name := cell }, rfl, ?_, ?_⟩
        · rw [if_pos hn.symm]; simp [cellUpd, he']
        · intro f
          have : ¬ f.col = Spec.SSA.normCol c := by rw [hn]; exact col_ne_Name f
          rw [if_neg this]; rfl
      | fld g =>
        have hg := (colOfName_fld_iff c g).mp hc
        obtain ⟨mv, hmv⟩ := hp g hg he'
        dsimp only
        rw [hmv]
        refine ⟨_, rfl, ?_, ?_⟩
        · have : ¬ "Name" = Spec.SSA.normCol c := by rw [hg]; exact fun h => col_ne_Name g h.symm
          rw [if_neg this]; rfl
        · intro f
          simp only [vals_get_set]
          by_cases hfg : f = g
          · subst hfg
            rw [if_pos rfl, if_pos hg.symm]
            simp [cellUpd, he', pvOpt, hmv]
          · have : ¬ f.col = Spec.SSA.normCol c := by rw [hg]; exact fun h => hfg (C04.col_injective _ _ h)
            rw [if_neg hfg, if_neg this]; rfl

/-- the (column, cell) pairs as the decoder sees them -/
def normPairs (ps : List (Str × Str)) : List (String × Str) := ps.map (Prod.map Spec.SSA.normCol id)

theorem normPairs_lookup_none (ps : List (Str × Str)) (k : String)
    (h : (ps.map fun p => Spec.SSA.normCol p.1).contains k = false) : (normPairs ps).lookup k = none := by
  rw [List.lookup_eq_none_iff]
  intro p hp
  obtain ⟨q, hq, rfl⟩ := List.mem_map.mp hp
  simp only [List.contains_eq_mem, List.mem_map, decide_eq_false_iff_not, not_exists, not_and] at h
  simpa [Prod.map] using fun e => h q hq e.symm

theorem styleFields_inv : ∀ (ps : List (Str × Str)) (st : Style),
    Spec.SSA.nodup (ps.map fun p => Spec.SSA.normCol p.1) = true →
    (∀ (f : Fld) (cell : Str), (normPairs ps).lookup f.col = some cell → cell.isEmpty = false →
      ∃ mv, parseVal f.kind cell = .ok mv) →
    ∃ st', styleFields st ps = .ok st' ∧
      st'.name = cellUpd ((normPairs ps).lookup "Name") st.name id ∧
      ∀ f : Fld, st'.vals.get f = cellUpd ((normPairs ps).lookup f.col) (st.vals.get f) (pvOpt f.kind)
  | [], st, _, _ => ⟨st, rfl, rfl, fun _ => rfl⟩
  | (c, cell) :: rest, st, hnd, hp => by
    obtain ⟨hnc, hnd'⟩ : (rest.map fun p => Spec.SSA.normCol p.1).contains (Spec.SSA.normCol c) = false ∧
        Spec.SSA.nodup (rest.map fun p => Spec.SSA.normCol p.1) = true := by simpa [Spec.SSA.nodup] using hnd
    have hk : ∀ x : String, x = Spec.SSA.normCol c → (normPairs rest).lookup x = none := by
      intro x hx; subst hx; exact normPairs_lookup_none rest _ hnc
    have hlk : ∀ x : String, (normPairs ((c, cell) :: rest)).lookup x
        = if x = Spec.SSA.normCol c then some cell else (normPairs rest).lookup x :=
      fun x => List.lookup_cons_ite x _ cell (normPairs rest)
    obtain ⟨st1, h1, hn1, hv1⟩ := styleField_step st c cell
      (fun f hf he => hp f cell (by rw [hlk, if_pos hf.symm]) he)
    obtain ⟨st', h2, hn2, hv2⟩ := styleFields_inv rest st1 hnd' (fun f cell' hl he => hp f cell' (by
      rw [hlk]
      by_cases hx : f.col = Spec.SSA.normCol c
      · rw [hk _ hx] at hl; cases hl
      · rw [if_neg hx]; exact hl) he)
    refine ⟨st', ?_, ?_, ?_⟩
    · simp only [styleFields, h1]; exact h2
    · rw [hn2, hn1, hlk, cellUpd_combine _ _ _ _ _ _ (hk _)]
    · intro f
      rw [hv2, hv1, hlk, cellUpd_combine _ _ _ _ _ _ (hk _)]

/-- the decoder's entry of one table row -/
def specEntry (pairs : List (String × Str)) : String × String × Spec.SSA.GKind → Option (Option (String × Spec.SSA.GVal)) :=
  fun (col, _, kind) =>
    match pairs.lookup col with
    | none => some none
    | some cell => if cell.isEmpty then some none else (Spec.SSA.valOf kind cell).map fun v => some (col, v)

theorem specStyleRow_eq (cols : List String) (v : Str) :
    specStyleRow cols v =
      if (splitC ',' v).length ≠ cols.length then none else
      (Spec.SSA.mapM id (Spec.SSA.styleTable.map (specEntry (cols.zip (splitC ',' v))))).map fun a =>
        { name := ((cols.zip (splitC ',' v)).lookup "Name").getD [], attrs := a.filterMap id } := rfl

/-- the view's entry of one table row -/
def viewEntry (a : Attrs) : String × String × Spec.SSA.GKind → Option (Option (String × Spec.SSA.GVal)) :=
  fun (col, key, kind) =>
    match Spec.SSA.kvGet a key with
    | none => some none
    | some s => (Spec.SSA.canonVal kind s).map fun v => some (col, v)

theorem attrsView_eq (table : List (String × String × Spec.SSA.GKind)) (a : Attrs) :
    Spec.SSA.attrsView table a = (Spec.SSA.mapM id (table.map (viewEntry a))).map fun l => l.filterMap id := rfl

/-- **Style row.** `format` is the model's Format (trimmed column names, distinct after `TertiaryColour ↦ OutlineColour`; a
    column neither side knows is ignored by both).  If the decoder reads the row `v` as the style `gs` and the integers of `gs`
    fit 64 bits, `newSSAStyleFromString` succeeds and `view` maps its result to `gs`. -/
theorem styleRow_spec (format : List Str) (v : Str) (gs : Spec.SSA.GStyle)
    (hnd : Spec.SSA.nodup (format.map Spec.SSA.normCol) = true)
    (hrow : specStyleRow (format.map Spec.SSA.normCol) v = some gs) (h64 : attrs64 gs.attrs = true) :
    ∃ ms, styleRow v format = .ok ms ∧ styleView ms = some gs := by
  rw [specStyleRow_eq] at hrow
  by_cases hlen : (splitC ',' v).length ≠ (format.map Spec.SSA.normCol).length
  · rw [if_pos hlen] at hrow; cases hrow
  rw [if_neg hlen] at hrow
  have hlen' : (splitC ',' v).length = format.length := by simpa using hlen
  obtain ⟨a, hmap, rfl⟩ := Option.map_eq_some_iff.mp hrow
  rw [mapM_id_eq_some] at hmap
  have hpairs : (format.map Spec.SSA.normCol).zip (splitC ',' v) = normPairs (format.zip (splitC ',' v)) :=
    List.zip_map_left
  rw [hpairs] at hmap ⊢
  have h64' : ∀ (col : String) (i : Int), (col, Spec.SSA.GVal.i i) ∈ a.filterMap id → In64 i = true := by
    intro col i hm
    have := List.all_eq_true.mp h64 _ hm
    exact this
  -- what the decoder says of every field
  have hE : ∀ f : Fld, ∃ x, x ∈ a ∧ specEntry (normPairs (format.zip (splitC ',' v))) (f.col, f.key, gk f.kind) = some x := by
    intro f
    have hm : (f.col, f.key, gk f.kind) ∈ Spec.SSA.styleTable := by
      rw [styleTable_eq]; exact List.mem_map.mpr ⟨f, C04.fld_all_complete f, rfl⟩
    have := List.mem_map_of_mem (f := specEntry (normPairs (format.zip (splitC ',' v)))) hm
    rw [hmap] at this
    obtain ⟨x, hx, he⟩ := List.mem_map.mp this
    exact ⟨x, hx, he.symm⟩
  have hcell : ∀ (f : Fld) (cell : Str), (normPairs (format.zip (splitC ',' v))).lookup f.col = some cell →
      cell.isEmpty = false →
      ∃ mv, parseVal f.kind cell = .ok mv ∧
        (Spec.SSA.canonVal (gk f.kind) mv.canon).map (fun v => some (f.col, v))
          = specEntry (normPairs (format.zip (splitC ',' v))) (f.col, f.key, gk f.kind) := by
    intro f cell hl he
    obtain ⟨x, hx, hEx⟩ := hE f
    simp only [specEntry, hl, he, Bool.false_eq_true, ↓reduceIte, Option.map_eq_some_iff] at hEx ⊢
    obtain ⟨gv, hgv, rfl⟩ := hEx
    have hin : (f.col, gv) ∈ a.filterMap id := List.mem_filterMap.mpr ⟨_, hx, rfl⟩
    obtain ⟨mv, hmv, hc⟩ := parseVal_of_valOf f.kind cell gv hgv (fun i hi => h64' f.col i (hi ▸ hin))
    exact ⟨mv, hmv, by rw [hc, hgv]⟩
  -- the model's fold
  have hfst : ((format.zip (splitC ',' v)).map fun p => Spec.SSA.normCol p.1) = format.map Spec.SSA.normCol := by
    rw [show (fun p : Str × Str => Spec.SSA.normCol p.1) = Spec.SSA.normCol ∘ Prod.fst from rfl,
      ← List.map_map, List.map_fst_zip (by omega)]
  obtain ⟨ms, hms, hname, hvals⟩ := styleFields_inv (format.zip (splitC ',' v)) {} (by rw [hfst]; exact hnd)
    (fun f cell hl he => (hcell f cell hl he).imp fun _ h => h.1)
  refine ⟨ms, ?_, ?_⟩
  · unfold styleRow
    simp only [hlen', ne_eq, not_true_eq_false, ↓reduceIte]
    exact hms
  · unfold styleView defView
    rw [attrsView_eq]
    have hv : Spec.SSA.styleTable.map (viewEntry ms.toDef.attrs)
        = Spec.SSA.styleTable.map (specEntry (normPairs (format.zip (splitC ',' v)))) := by
      rw [styleTable_eq, List.map_map, List.map_map]
      apply List.map_congr_left
      intro f _
      have hk : Spec.SSA.kvGet ms.toDef.attrs f.key = (ms.vals.get f).map Val.canon := by
        rw [spec_kvGet_eq, toDef_attrs]
        exact fldTab.kvGet_toAttrs [] _ C04.fld_keys_pairwise f
      simp only [Function.comp, viewEntry, hk, hvals f]
      cases hl : (normPairs (format.zip (splitC ',' v))).lookup f.col with
      | none => simp only [specEntry, hl]; rfl
      | some cell =>
        by_cases he : cell.isEmpty = true
        · simp only [specEntry, hl, cellUpd, he, ↓reduceIte]; rfl
        · have he' : cell.isEmpty = false := by simpa using he
          obtain ⟨mv, hmv, hc⟩ := hcell f cell hl he'
          rw [← hc]
          simp only [cellUpd, he', Bool.false_eq_true, ↓reduceIte, pvOpt, hmv, Option.map_some]
    rw [hv, hmap, (mapM_id_eq_some _ _).mpr rfl]
    simp only [Option.map_some, Option.some.injEq]
    have : ms.toDef.id = ((normPairs (format.zip (splitC ',' v))).lookup "Name").getD [] := by
      show ms.name = _
      rw [hname]
      cases hl : (normPairs (format.zip (splitC ',' v))).lookup "Name" with
      | none => rfl
      | some cell =>
        by_cases he : cell.isEmpty = true
        · simp only [cellUpd, he, ↓reduceIte, Option.getD_some]
          exact (List.isEmpty_iff.mp he).symm
        · simp only [cellUpd, he, Bool.false_eq_true, ↓reduceIte, Option.getD_some, id]
    rw [this]

end SSAR
end Astisub
