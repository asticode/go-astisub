import Astisub.Lemmas.STLRWTti

/-!
# Lemmas/STLRWFile — the whole file written from what was read back

`out` = the file the writer model produces for metadata `m` and cues `cs`; `(m2, items2)` = what the reader model
returns for `out`; `again` = the file the writer model produces for `m2` and `items2.map Driver.STLD.cueOf`.
The two files are compared in the shape `H ++ (M ++ (T ++ B))`: 256 + 8 + 760 bytes of GSI block, then the TTI blocks.
-/

namespace Astisub
namespace C05
open Go STL

/-- bytes 0–255 of the GSI block: code page, disk format code, display standard, character table, language code,
    the six titles / names, reference code, creation and revision date, revision number, the three counts, maximum
    characters / rows, time code status -/
def gsiHead (g : WGSI) : Bytes :=
  [0x38, 0x35, 0x30] ++ padR 0x20 8 ((dfcOf g.m.framerate).getD []) ++ padR 0x20 1 g.m.dsc ++ [0x30, 0x30]
    ++ padR 0x20 2 g.langCode ++ padR 0x20 32 g.m.title ++ padR 0x20 32 g.m.origEpisode ++ padR 0x20 32 g.m.translProgram
    ++ padR 0x20 32 g.m.translEpisode ++ padR 0x20 32 g.m.translName ++ padR 0x20 32 g.m.translContact
    ++ padR 0x20 16 g.m.slr ++ padR 0x20 6 (formatDate (g.m.creation.getD zeroDate))
    ++ padR 0x20 6 (formatDate (g.m.revisionDate.getD zeroDate))
    ++ num 2 g.m.revisionNumber ++ num 5 (g.n : Int) ++ num 5 (g.n : Int) ++ num 3 1 ++ num 2 (g.m.maxChars.getD 0)
    ++ num 2 (g.m.maxRows.getD 0) ++ [0x31]

/-- bytes 256–263: the programme start, `HHMMSSFF` -/
def gsiTcpField (g : WGSI) : Bytes := padR 0x20 8 (ascii (Duration.formatSTL g.m.tcp g.m.framerate.toNat))

/-- bytes 264–1023: first in-cue, number of disks, disk sequence number, country, publisher, editor's name and
    contact, the unused rest -/
def gsiTail (g : WGSI) : Bytes :=
  padR 0x20 8 (ascii (Duration.formatSTL g.tcf g.m.framerate.toNat))
    ++ [0x31, 0x31] ++ padR 0x20 3 g.m.country ++ padR 0x20 32 g.m.publisher ++ padR 0x20 32 g.m.editorName
    ++ padR 0x20 32 g.m.editorContact ++ List.replicate 651 0x20

theorem gsi_split (g : WGSI) : gsiBytes g = gsiHead g ++ (gsiTcpField g ++ gsiTail g) := by
  unfold gsiBytes gsiHead gsiTcpField gsiTail
  simp only [List.append_assoc, List.cons_append, List.nil_append]

theorem gsiHead_length (g : WGSI) : (gsiHead g).length = 256 := by
  unfold gsiHead
  simp only [List.length_append, padR_length, num_length, List.length_cons, List.length_nil]

theorem gsiTcpField_length (g : WGSI) : (gsiTcpField g).length = 8 := padR_length _ _ _

theorem gsiTail_length (g : WGSI) : (gsiTail g).length = 760 := by
  have := gsiBytes_length g
  rw [gsi_split, List.length_append, List.length_append, gsiHead_length, gsiTcpField_length] at this
  omega

theorem lang_stable_table : ∀ e ∈ Generated.STL.languages,
    (languageCodeOf ((languageOf e.2.2).getD [])).getD (lit "0F") = e.2.2 := by decide

/-- the language code the writer chooses is one the reader has a name for, and that name is written as that code -/
theorem lang_stable (name : Bytes) :
    (languageCodeOf ((languageOf ((languageCodeOf name).getD (lit "0F"))).getD [])).getD (lit "0F")
      = (languageCodeOf name).getD (lit "0F") := by
  unfold languageCodeOf
  cases h : Generated.STL.languages.find? fun e => e.2.1 == name with
  | none => decide
  | some e => exact lang_stable_table e (List.mem_of_find?_eq_some h)

/-- what the second GSI block needs of the first: frame rate 25 / 30, open subtitling, options set, and a language
    code that is stable; all true of `newGSI now (some m) cues` for `MetaOK` metadata -/
structure Gsi1 (G : WGSI) : Prop where
  fr : G.m.framerate = 25 ∨ G.m.framerate = 30
  dsc : G.m.dsc = [0x30]
  cd : G.m.creation.isSome
  rd : G.m.revisionDate.isSome
  mc : G.m.maxChars.isSome
  mr : G.m.maxRows.isSome
  lang : (languageCodeOf ((languageOf G.langCode).getD [])).getD (lit "0F") = G.langCode

theorem newGSI_gsi1 (now : Date) (m : Meta) (cues : List WCue) (hm : MetaOK now m (firstStart cues)) :
    Gsi1 (newGSI now (some m) cues) := by
  obtain ⟨hG, hdsc⟩ := newGSI_ok now m cues hm
  exact ⟨hG.1, hdsc, rfl, rfl, rfl, rfl, lang_stable m.language⟩

/-- the second GSI block, field by field: the first, with the language the library knows for the code, the
    programme start the reader returned, and the counts of the cues written again -/
theorem gsi2_eq (G : WGSI) (h : Gsi1 G) (ig : Bool) (now2 : Date) (cues2 : List WCue) :
    newGSI now2 (some (readMeta ig (gsiBack G))) cues2 =
      { m := { G.m with language := (languageOf G.langCode).getD [], tcp := (readMeta ig (gsiBack G)).tcp },
        langCode := G.langCode, n := cues2.length,
        tcf := (match cues2 with | c :: _ => c.startAt | [] => 0) + (readMeta ig (gsiBack G)).tcp } := by
  obtain ⟨hfr, hdsc, hcd, hrd, hmc, hmr, hlang⟩ := h
  obtain ⟨m, lc, n, tcf⟩ := G
  cases m
  simp only at hfr hdsc hcd hrd hmc hmr hlang
  obtain ⟨cd, rfl⟩ := Option.isSome_iff_exists.mp hcd
  obtain ⟨rd, rfl⟩ := Option.isSome_iff_exists.mp hrd
  obtain ⟨mc, rfl⟩ := Option.isSome_iff_exists.mp hmc
  obtain ⟨mr, rfl⟩ := Option.isSome_iff_exists.mp hmr
  subst hdsc
  have d25 : (dfcOf 25).isSome = true := by decide
  have d30 : (dfcOf 30).isSome = true := by decide
  rcases hfr with rfl | rfl <;> cases ig <;> simp [newGSI, readMeta, gsiBack, hlang, d25, d30] <;> rfl

theorem gsi2_framerate (G : WGSI) (h : Gsi1 G) (ig : Bool) (now2 : Date) (cues2 : List WCue) :
    (newGSI now2 (some (readMeta ig (gsiBack G))) cues2).m.framerate = G.m.framerate := by rw [gsi2_eq G h]

theorem gsi2_dsc (G : WGSI) (h : Gsi1 G) (ig : Bool) (now2 : Date) (cues2 : List WCue) :
    (newGSI now2 (some (readMeta ig (gsiBack G))) cues2).m.dsc = G.m.dsc := by rw [gsi2_eq G h]

theorem gsi2_tcp (G : WGSI) (ig : Bool) (now2 : Date) (cues2 : List WCue) :
    (newGSI now2 (some (readMeta ig (gsiBack G))) cues2).m.tcp = (readMeta ig (gsiBack G)).tcp := rfl

theorem gsi2_head (G : WGSI) (h : Gsi1 G) (ig : Bool) (now2 : Date) (cues2 : List WCue) (hn : cues2.length = G.n) :
    gsiHead (newGSI now2 (some (readMeta ig (gsiBack G))) cues2) = gsiHead G := by
  rw [gsi2_eq G h]; unfold gsiHead; simp only [hn]

theorem gsi2_tail (G : WGSI) (h : Gsi1 G) (ig : Bool) (now2 : Date) (cues2 : List WCue)
    (htcf : Duration.formatSTL (newGSI now2 (some (readMeta ig (gsiBack G))) cues2).tcf G.m.framerate.toNat
      = Duration.formatSTL G.tcf G.m.framerate.toNat) :
    gsiTail (newGSI now2 (some (readMeta ig (gsiBack G))) cues2) = gsiTail G := by
  rw [gsi2_eq G h] at htcf ⊢; unfold gsiTail; simp only [htcf]

theorem gsi2_tcpField (G : WGSI) (h : Gsi1 G) (now2 : Date) (cues2 : List WCue) (hday : InDay G.m.tcp) :
    gsiTcpField (newGSI now2 (some (readMeta false (gsiBack G))) cues2) = gsiTcpField G := by
  have hfr := gsi2_framerate G h false now2 cues2
  unfold gsiTcpField
  rw [hfr, gsi2_tcp]
  obtain ⟨fr, hfrN, hfrI⟩ := framerate_nat h.fr
  have e : (readMeta false (gsiBack G)).tcp = frameInstant (fr : Int) G.m.tcp := by
    unfold readMeta gsiBack; simp only [Bool.false_eq_true, if_false, hfrI]
  rw [e, hfrI, Int.toNat_natCast, formatSTL_rewrite _ fr hfrN hday.1 hday.2]

theorem gsi2_tcpField_ignored (G : WGSI) (h : Gsi1 G) (now2 : Date) (cues2 : List WCue) :
    gsiTcpField (newGSI now2 (some (readMeta true (gsiBack G))) cues2) = lit "00000000" := by
  have hfr := gsi2_framerate G h true now2 cues2
  unfold gsiTcpField
  rw [hfr, gsi2_tcp]
  have e : (readMeta true (gsiBack G)).tcp = 0 := rfl
  rw [e]
  rcases h.fr with e' | e' <;> rw [e'] <;> decide

theorem cues2_eq (R : GSI) (G : WGSI) (off : Int) (cs : List MCue) (hok : ∀ c ∈ cs, c.ok) :
    (cs.map fun c => ttiCueM R G off c).map Driver.STLD.cueOf = (cs.map (backCue G off)).map MCue.toW := by
  rw [List.map_map, List.map_map]
  apply List.map_congr_left
  intro c hc
  exact cueOf_ttiCueM R G off c (fun _ hl => (hok c hc).okT hl)

theorem ttiBlocks_back (G G2 : WGSI) (off : Int) (fr : Nat) (cs : List MCue)
    (hfr : fr = 25 ∨ fr = 30) (hg : G.m.framerate = (fr : Int)) (hg2 : G2.m.framerate = (fr : Int))
    (hdsc : G.m.dsc = [0x30]) (hdsc2 : G2.m.dsc = [0x30]) (htcp : G2.m.tcp = off) (hok : ∀ c ∈ cs, c.ok)
    (hday : ∀ c ∈ cs, InDay (c.startAt + G.m.tcp) ∧ InDay (c.endAt + G.m.tcp)) :
    ttiBlocks G2 (cs.map (backCue G off)) = ttiBlocks G cs := by
  unfold ttiBlocks
  rw [List.zipIdx_map, List.map_map]
  apply List.map_congr_left
  intro p hp
  have hc := List.fst_mem_of_mem_zipIdx hp
  exact ttiBytes_back G G2 off fr (p.2 + 1) p.1 hfr hg hg2 hdsc hdsc2 htcp (hok p.1 hc) (hday p.1 hc).1 (hday p.1 hc).2

/-- **the second write.**  `G` the first GSI block (frame rate 25 / 30, display standard 0, options set, stable language
    code; programme start not negative and below 256 h): for the metadata and the cues the reader returned, the writer
    model answers with the second GSI block followed by the TTI blocks of the first file -/
theorem rewrite_file (ig : Bool) (now2 : Date) (G : WGSI) (h1 : Gsi1 G) (htcp : 0 ≤ G.m.tcp) (htcpU : G.m.tcp < 921600000000000)
    (cs : List MCue) (hne : cs ≠ []) (hok : ∀ c ∈ cs, c.ok)
    (hday : ∀ c ∈ cs, InDay (c.startAt + G.m.tcp) ∧ InDay (c.endAt + G.m.tcp)) :
    write now2 (some (readMeta ig (gsiBack G)))
        ((cs.map fun c => ttiCueM (gsiBack G) G (readMeta ig (gsiBack G)).tcp c).map Driver.STLD.cueOf)
      = .ok (gsiBytes (newGSI now2 (some (readMeta ig (gsiBack G)))
              ((cs.map fun c => ttiCueM (gsiBack G) G (readMeta ig (gsiBack G)).tcp c).map Driver.STLD.cueOf))
            ++ (ttiBlocks G cs).flatten) := by
  obtain ⟨fr, hfrN, hfrI⟩ := framerate_nat h1.fr
  have hoff : (readMeta ig (gsiBack G)).tcp = if ig then 0 else frameInstant (fr : Int) G.m.tcp := by
    unfold readMeta gsiBack; cases ig <;> simp [hfrI]
  have hoff0 : 0 ≤ (readMeta ig (gsiBack G)).tcp := by
    rw [hoff]
    cases ig
    · simp only [Bool.false_eq_true, if_false]
      exact frameInstant_nonneg _ fr hfrN htcp htcpU
    · simp
  rw [cues2_eq _ _ _ cs hok]
  have hok2 : ∀ c ∈ cs.map (backCue G (readMeta ig (gsiBack G)).tcp), c.ok := by
    intro c hc
    obtain ⟨c0, hc0, rfl⟩ := List.mem_map.mp hc
    exact backCue_ok G _ c0 (hok c0 hc0)
  have ht2 : ∀ c ∈ cs.map (backCue G (readMeta ig (gsiBack G)).tcp), MTimesOK (readMeta ig (gsiBack G)).tcp c := by
    intro c hc
    obtain ⟨c0, hc0, rfl⟩ := List.mem_map.mp hc
    obtain ⟨⟨s0, s1⟩, ⟨e0, e1⟩⟩ := hday c0 hc0
    have n1 := frameInstant_nonneg _ fr hfrN s0 (by omega)
    have n2 := frameInstant_nonneg _ fr hfrN e0 (by omega)
    unfold MTimesOK backCue
    simp only [hfrI]
    omega
  rw [write_okM now2 _ _ (by simpa using hne) hoff0 hok2 ht2, writeBody_eq]
  generalize hG2d : newGSI now2 (some (readMeta ig (gsiBack G))) ((cs.map (backCue G (readMeta ig (gsiBack G)).tcp)).map MCue.toW) = G2
  have hG2fr : G2.m.framerate = (fr : Int) := by rw [← hG2d, gsi2_framerate G h1, hfrI]
  have hG2dsc : G2.m.dsc = [0x30] := by rw [← hG2d, gsi2_dsc G h1, h1.dsc]
  have hG2tcp : G2.m.tcp = (readMeta ig (gsiBack G)).tcp := by rw [← hG2d]; rfl
  rw [ttiBlocks_back G G2 _ fr cs hfrN hfrI hG2fr h1.dsc hG2dsc hG2tcp hok hday]

theorem gsi2_tcf (ig : Bool) (now2 : Date) (G : WGSI) (h1 : Gsi1 G) (c0 : MCue) (rest : List MCue)
    (htcf : G.tcf = c0.startAt + G.m.tcp) (hday : InDay (c0.startAt + G.m.tcp)) :
    Duration.formatSTL (newGSI now2 (some (readMeta ig (gsiBack G)))
        (((c0 :: rest).map (backCue G (readMeta ig (gsiBack G)).tcp)).map MCue.toW)).tcf G.m.framerate.toNat
      = Duration.formatSTL G.tcf G.m.framerate.toNat := by
  obtain ⟨fr, hfrN, hfrI⟩ := framerate_nat h1.fr
  have e2 : (newGSI now2 (some (readMeta ig (gsiBack G)))
      (((c0 :: rest).map (backCue G (readMeta ig (gsiBack G)).tcp)).map MCue.toW)).tcf
        = frameInstant (fr : Int) (c0.startAt + G.m.tcp) := by
    show (backCue G (readMeta ig (gsiBack G)).tcp c0).startAt + (readMeta ig (gsiBack G)).tcp = _
    simp only [backCue, hfrI]
    omega
  rw [e2, htcf, hfrI, Int.toNat_natCast, formatSTL_rewrite _ fr hfrN hday.1 hday.2]

/-- **the two files side by side**: the first file `out` and the answer `second` of the second write are both
    `H ++ (M ++ (T ++ B))` with the same 256 bytes `H`, the same 760 bytes `T`, the same TTI blocks `B` (`n` cues);
    the eight bytes `M'`, `M` of the programme-start field are equal too when the reader kept the programme start
    `tcp` (and it lies within a day), and `M'` is `00000000` when it was told to ignore it -/
structure Rewritten (ig : Bool) (tcp : Int) (n : Nat) (out : Bytes) (second : Res Bytes) (H M M' T B : Bytes) : Prop where
  again : second = .ok (H ++ (M' ++ (T ++ B)))
  first : out = H ++ (M ++ (T ++ B))
  head : H.length = 256
  tcpF : M.length = 8
  tcpF' : M'.length = 8
  tail : T.length = 760
  blocks : B.length = 128 * n
  same : ig = false → InDay tcp → M' = M
  zero : ig = true → M' = lit "00000000"

/-- `h` is the class `RewriteOK` of `Props/C05rw.lean`, which unfolds to it -/
theorem rewrite_shape (ig : Bool) (now now2 : Date) (m : Meta) (cs : List MCue)
    (h : cs ≠ [] ∧ MetaOK now m (firstStart (cs.map MCue.toW)) ∧ 0 ≤ m.tcp ∧ (∀ c ∈ cs, c.ok) ∧
      ∀ c ∈ cs, InDay (c.startAt + m.tcp) ∧ InDay (c.endAt + m.tcp))
    (out : Bytes) (m2 : Meta) (items2 : List CItem)
    (hw : write now (some m) (cs.map MCue.toW) = .ok out) (hr : STL.read ig out = .ok (m2, items2)) :
    ∃ H M M' T B, Rewritten ig m.tcp cs.length out (write now2 (some m2) (items2.map Driver.STLD.cueOf)) H M M' T B := by
  obtain ⟨hne, hm, htcp, hok, hday⟩ := h
  have hout := write_body_of_ok hw
  obtain ⟨hG, hdsc⟩ := newGSI_ok now m (cs.map MCue.toW) hm
  have hread := read_writeBodyM ig now (some m) cs hG hdsc hok
  rw [← hout, hr] at hread
  have hinj := Res.ok.inj hread
  obtain ⟨hm2, hitems⟩ := Prod.mk.inj hinj
  subst hm2
  subst hitems
  have h1 := newGSI_gsi1 now m (cs.map MCue.toW) hm
  have hw2 := rewrite_file ig now2 _ h1 htcp (by have := hm.tcp_lt; show m.tcp < _; omega) cs hne hok hday
  have hcues : (cs.map fun c => ttiCueM (gsiBack (newGSI now (some m) (cs.map MCue.toW))) (newGSI now (some m) (cs.map MCue.toW))
            (readMeta ig (gsiBack (newGSI now (some m) (cs.map MCue.toW)))).tcp c).map Driver.STLD.cueOf
      = (cs.map (backCue (newGSI now (some m) (cs.map MCue.toW))
          (readMeta ig (gsiBack (newGSI now (some m) (cs.map MCue.toW)))).tcp)).map MCue.toW := by
    exact cues2_eq _ _ _ cs hok
  generalize (cs.map fun c => ttiCueM (gsiBack (newGSI now (some m) (cs.map MCue.toW))) (newGSI now (some m) (cs.map MCue.toW))
            (readMeta ig (gsiBack (newGSI now (some m) (cs.map MCue.toW)))).tcp c).map Driver.STLD.cueOf = cues2 at hw2 hcues ⊢
  have hhead := gsi2_head _ h1 ig now2 cues2 (by rw [hcues]; simp [newGSI])
  have htail := gsi2_tail _ h1 ig now2 cues2 (by
    rw [hcues]
    cases cs with
    | nil => exact absurd rfl hne
    | cons c0 rest => exact gsi2_tcf ig now2 _ h1 c0 rest rfl (hday c0 (by simp)).1)
  have hGtcp : (newGSI now (some m) (cs.map MCue.toW)).m.tcp = m.tcp := rfl
  refine ⟨gsiHead (newGSI now (some m) (cs.map MCue.toW)), gsiTcpField (newGSI now (some m) (cs.map MCue.toW)),
    gsiTcpField (newGSI now2 (some (readMeta ig (gsiBack (newGSI now (some m) (cs.map MCue.toW))))) cues2), gsiTail (newGSI now (some m) (cs.map MCue.toW)),
    (ttiBlocks (newGSI now (some m) (cs.map MCue.toW)) cs).flatten, ⟨?_, ?_, gsiHead_length _, gsiTcpField_length _,
    gsiTcpField_length _, gsiTail_length _, ttiBlocks_flatten_length _ _, ?_, ?_⟩⟩
  · rw [hw2, gsi_split, hhead, htail]
    simp only [List.append_assoc]
  · rw [hout, writeBody_eq, gsi_split]
    simp only [List.append_assoc]
  · intro hig hd
    subst hig
    exact gsi2_tcpField _ h1 now2 _ (by rw [hGtcp]; exact hd)
  · intro hig
    subst hig
    exact gsi2_tcpField_ignored _ h1 now2 _

theorem parseGSI_options (b : Bytes) (g : GSI) (h : parseGSI b = some g) :
    g.m.creation.isSome ∧ g.m.revisionDate.isSome ∧ g.m.maxChars.isSome ∧ g.m.maxRows.isSome := by
  unfold parseGSI at h
  split at h
  · cases h
  · simp only at h
    split at h
    · cases h
    · split at h
      · split at h
        · cases h
          exact ⟨rfl, rfl, rfl, rfl⟩
        · cases h
      · cases h

theorem read_options (ig : Bool) (doc : Bytes) (m2 : Meta) (items : List CItem) (h : STL.read ig doc = .ok (m2, items)) :
    m2.creation.isSome ∧ m2.revisionDate.isSome ∧ m2.maxChars.isSome ∧ m2.maxRows.isSome := by
  unfold STL.read at h
  split at h
  · cases h
  · split at h
    · cases h
    · rename_i g hg
      have := parseGSI_options _ g hg
      simp only at h
      split at h
      · cases h
      · split at h
        · cases h
        · cases h
          cases ig <;> exact this

/-- `WriteToSTL` stamps the creation / revision date with `Now()` only when the metadata has none; what `ReadFromSTL`
    returns always has both, so writing it gives the same bytes on whatever day -/
theorem write_clock (now now' : Date) (m : Meta) (cues : List WCue) (hc : m.creation.isSome) (hr : m.revisionDate.isSome) :
    write now (some m) cues = write now' (some m) cues := by
  unfold write writeBody
  rw [newGSI_clock now now' m cues hc hr]

/-- a list cut in four, `a ++ (b ++ (c ++ d))`: what lies before and after the second and the third cut -/
theorem drop_take_append {α} (a b c : List α) {i n : Nat} (ha : a.length = i) (hb : b.length = n) :
    ((a ++ (b ++ c)).drop i).take n = b := by
  rw [List.drop_left' ha, List.take_left' hb]

theorem drop_append_append {α} (a b c : List α) {j : Nat} (h : a.length + b.length = j) : (a ++ (b ++ c)).drop j = c := by
  rw [← List.append_assoc]
  exact List.drop_left' (by rw [List.length_append, h])

theorem drop_append3 {α} (a b c d : List α) {k : Nat} (h : a.length + b.length + c.length = k) :
    (a ++ (b ++ (c ++ d))).drop k = d := by
  rw [← List.append_assoc, ← List.append_assoc]
  exact List.drop_left' (by rw [List.length_append, List.length_append, h])

theorem take_append3 {α} (a b c d : List α) {k : Nat} (h : a.length + b.length + c.length = k) :
    (a ++ (b ++ (c ++ d))).take k = a ++ (b ++ c) := by
  have e : a ++ (b ++ (c ++ d)) = (a ++ (b ++ c)) ++ d := by simp only [List.append_assoc]
  rw [e]
  exact List.take_left' (by rw [List.length_append, List.length_append, ← Nat.add_assoc, h])

theorem length_append3 {α} (a b c d : List α) {k : Nat} (h : a.length + b.length + c.length = k) :
    (a ++ (b ++ (c ++ d))).length = k + d.length := by
  rw [List.length_append, List.length_append, List.length_append, ← h]; omega

theorem written_parts (now : Date) (md : Option Meta) (cs : List MCue) :
    (writeBody now md (cs.map MCue.toW)).take 256 = gsiHead (newGSI now md (cs.map MCue.toW)) ∧
    ((writeBody now md (cs.map MCue.toW)).drop 256).take 8 = gsiTcpField (newGSI now md (cs.map MCue.toW)) ∧
    ((writeBody now md (cs.map MCue.toW)).drop 264).take 760 = gsiTail (newGSI now md (cs.map MCue.toW)) := by
  rw [writeBody_eq, gsi_split]
  simp only [List.append_assoc]
  refine ⟨List.take_left' (gsiHead_length _), drop_take_append _ _ _ (gsiHead_length _) (gsiTcpField_length _), ?_⟩
  rw [drop_append_append _ _ _ (by rw [gsiHead_length, gsiTcpField_length]), List.take_left' (gsiTail_length _)]

theorem shape_take1024 (H M T B : Bytes) (hH : H.length = 256) (hM : M.length = 8) (hT : T.length = 760) :
    (H ++ (M ++ (T ++ B))).take 1024 = H ++ (M ++ T) :=
  take_append3 H M T B (by rw [hH, hM, hT])

/-- **write, read, write again** as one function: the file written on day `now` for metadata `m` and cues `cues`, and
    the file written on day `now2` from what the reader (not ignoring the programme start) returns for it, through
    the check's view `Driver.STLD.cueOf`; `none` when one of the three steps does not answer -/
def rewriteOf (now now2 : Date) (m : Meta) (cues : List WCue) : Option (Bytes × Bytes) :=
  match write now (some m) cues with
  | .ok out =>
    match STL.read false out with
    | .ok (m2, items2) =>
      match write now2 (some m2) (items2.map Driver.STLD.cueOf) with
      | .ok again => some (out, again)
      | _ => none
    | _ => none
  | _ => none

theorem rewriteOf_eq (now now2 : Date) (m : Meta) (cues : List WCue) (out again : Bytes) (m2 : Meta) (items2 : List CItem)
    (hw : write now (some m) cues = .ok out) (hr : STL.read false out = .ok (m2, items2))
    (hw2 : write now2 (some m2) (items2.map Driver.STLD.cueOf) = .ok again) :
    rewriteOf now now2 m cues = some (out, again) := by
  unfold rewriteOf
  rw [hw]
  simp only [hr, hw2]

end C05
end Astisub
