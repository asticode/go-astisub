import Astisub.Go.Strconv
import Astisub.Lemmas.ListFacts
import Astisub.Lemmas.Fuel

/-! # Lemmas/Str — digit characters and the short decimal renderings

`digitChar` by its code point; `strconv.Itoa` by its one equation (`itoaNat_eq`: fuel and accumulator of `itoaAux` are
looked at there and in `itoaAux_eq`), `itoaNat` below 1000, `padLeft0`, `dd`/`ddd`, `DigitStr`: what the time-stamp proofs of
every format start from, with `splitC` and `trimSpace` on strings free of the separator / of white space.
`Numeral s v` (`parseDigits s = some v`) is the decimal numeral with its value in the model's own terms: `Atoi` reads it
(and nothing but a numeral with a sign: `Numeral.of_atoi`), `Itoa` prints it, and it needs nothing beyond `Go/Strconv`, so it can stand in front of every codec.  The fold
`natOfDigits` and the specifications' `natOf` are identified with it in `Lemmas/Digits`; the other `strings` functions
are in `Lemmas/StrList`. -/

namespace Astisub
namespace Go

theorem digitChar_lt {k : Nat} (h : k < 10) :
    k = 0 ∨ k = 1 ∨ k = 2 ∨ k = 3 ∨ k = 4 ∨ k = 5 ∨ k = 6 ∨ k = 7 ∨ k = 8 ∨ k = 9 := by
  revert k; decide

/-- the ten digits are the code points 48 … 57; every fact "a digit is not `c`" follows from this -/
theorem digitChar_toNat {k : Nat} (h : k < 10) : (digitChar k).toNat = 48 + k := by
  revert k; decide

theorem digitChar_toNat_sub {k : Nat} (h : k < 10) : (digitChar k).toNat - 48 = k := by
  rw [digitChar_toNat h, Nat.add_sub_cancel_left]

theorem digitChar_ne_of_toNat {k : Nat} (h : k < 10) {c : Char} (hc : c.toNat < 48 ∨ 57 < c.toNat) :
    (digitChar k = c) = False :=
  eq_false fun e => by have := digitChar_toNat h; rw [e] at this; omega

theorem digitVal_digitChar {k : Nat} (h : k < 10) : digitVal (digitChar k) = some k := by
  revert k; decide

theorem isSpace_digitChar {k : Nat} (h : k < 10) : isSpace (digitChar k) = false := by
  revert k; decide

theorem digitChar_ne_colon {k : Nat} (h : k < 10) : (digitChar k = ':') = False :=
  digitChar_ne_of_toNat h (by decide)

theorem digitChar_ne_dot {k : Nat} (h : k < 10) : (digitChar k = '.') = False :=
  digitChar_ne_of_toNat h (by decide)

theorem digitChar_ne_minus {k : Nat} (h : k < 10) : (digitChar k = '-') = False :=
  digitChar_ne_of_toNat h (by decide)

theorem digitChar_ne_plus {k : Nat} (h : k < 10) : (digitChar k = '+') = False :=
  digitChar_ne_of_toNat h (by decide)

theorem itoaAux_succ (fuel n : Nat) (acc : Str) :
    itoaAux (fuel + 1) n acc =
      if n < 10 then digitChar n :: acc else itoaAux fuel (n / 10) (digitChar (n % 10) :: acc) := rfl

theorem itoaAux_acc : ∀ (fuel n : Nat) (acc : Str), itoaAux fuel n acc = itoaAux fuel n [] ++ acc
  | 0, _, _ => rfl
  | fuel + 1, n, acc => by
    rw [itoaAux_succ, itoaAux_succ]
    split
    · rfl
    · rw [itoaAux_acc fuel _ (_ :: acc), itoaAux_acc fuel _ [_], List.append_assoc, List.singleton_append]

theorem itoaAux_congr (f g n : Nat) (h : ∀ k, k < n → itoaAux f k = itoaAux g k) : itoaAux (f + 1) n = itoaAux (g + 1) n := by
  funext acc
  rw [itoaAux_succ, itoaAux_succ]
  split
  · rfl
  · rw [h _ (by omega)]

theorem itoaNat_eq (n : Nat) : itoaNat n = if n < 10 then [digitChar n] else itoaNat (n / 10) ++ [digitChar (n % 10)] := by
  rw [itoaNat, itoaAux_succ]
  split
  · rfl
  · rw [itoaAux_acc, itoaNat, Fuel.irrel id itoaAux itoaAux_congr (a := n / 10) (m := n / 10 + 1)] <;> simp <;> omega

theorem itoaAux_eq {fuel n : Nat} (h : n < fuel) (acc : Str) : itoaAux fuel n acc = itoaNat n ++ acc := by
  rw [itoaAux_acc, itoaNat, Fuel.irrel id itoaAux itoaAux_congr (a := n) h (Nat.lt_succ_self _)]
  rfl

theorem itoaNat_lt10 {v : Nat} (h : v < 10) : itoaNat v = [digitChar v] := by
  rw [itoaNat_eq, if_pos h]

theorem itoaNat_lt100 {v : Nat} (h1 : 10 ≤ v) (h2 : v < 100) :
    itoaNat v = [digitChar (v / 10), digitChar (v % 10)] := by
  rw [itoaNat_eq, if_neg (by omega), itoaNat_lt10 (by omega)]; rfl

theorem itoaNat_lt1000 {v : Nat} (h1 : 100 ≤ v) (h2 : v < 1000) :
    itoaNat v = [digitChar (v / 100), digitChar (v / 10 % 10), digitChar (v % 10)] := by
  rw [itoaNat_eq, if_neg (by omega), itoaNat_lt100 (by omega) (by omega), Nat.div_div_eq_div_mul]; rfl

/-- two-digit rendering of a value below 100 -/
def dd (v : Nat) : Str := [digitChar (v / 10), digitChar (v % 10)]
/-- three-digit rendering of a value below 1000 -/
def ddd (v : Nat) : Str := [digitChar (v / 100), digitChar (v / 10 % 10), digitChar (v % 10)]

theorem padLeft0_2 {v : Nat} (h : v < 100) : padLeft0 2 (itoaNat v) = dd v := by
  by_cases h1 : v < 10
  · rw [itoaNat_lt10 h1, dd, Nat.div_eq_of_lt h1, Nat.mod_eq_of_lt h1]; rfl
  · rw [itoaNat_lt100 (by omega) h]; rfl

theorem padLeft0_3 {v : Nat} (h : v < 1000) : padLeft0 3 (itoaNat v) = ddd v := by
  by_cases h2 : v < 100
  · have h0 : v / 100 = 0 := Nat.div_eq_of_lt h2
    by_cases h1 : v < 10
    · rw [itoaNat_lt10 h1, ddd, h0, Nat.div_eq_of_lt h1, Nat.mod_eq_of_lt h1]; rfl
    · rw [itoaNat_lt100 (by omega) h2, ddd, h0, Nat.mod_eq_of_lt (by omega : v / 10 < 10)]; rfl
  · rw [itoaNat_lt1000 (by omega) h]; rfl

open List

theorem splitC_not_mem {c : Char} {s : Str} (h : c ∉ s) : splitC c s = [s] := by
  induction s with
  | nil => rfl
  | cons x xs ih =>
    have hx : ¬ x = c := fun e => h (by simp [e])
    have hxs : c ∉ xs := fun e => h (by simp [e])
    simp [splitC, hx, ih hxs]

theorem splitC_append {c : Char} {a : Str} (b : Str) (h : c ∉ a) :
    splitC c (a ++ c :: b) = a :: splitC c b := by
  induction a with
  | nil => simp [splitC]
  | cons x xs ih =>
    have hx : ¬ x = c := fun e => h (by simp [e])
    have hxs : c ∉ xs := fun e => h (by simp [e])
    simp [splitC, hx, ih hxs]

theorem trimSpace_id {s : Str} (h : ∀ c ∈ s, isSpace c = false) : trimSpace s = s := by
  unfold trimSpace trimRight trimLeft
  rw [dropWhile_eq_self_of_head fun c hc => h c (mem_of_mem_head? hc),
    dropWhile_eq_self_of_head fun c hc => h c (mem_reverse.mp (mem_of_mem_head? hc)), reverse_reverse]

/-- the string consists of decimal digits -/
def DigitStr (s : Str) : Prop := ∀ c ∈ s, ∃ k, k < 10 ∧ c = digitChar k

theorem DigitStr.nil : DigitStr [] := fun _ hc => nomatch hc

theorem DigitStr.cons {k : Nat} (hk : k < 10) {s : Str} (hs : DigitStr s) : DigitStr (digitChar k :: s) :=
  fun c hc => (mem_cons.mp hc).elim (fun e => ⟨k, hk, e⟩) (hs c)

theorem DigitStr.tail {c : Char} {s : Str} (h : DigitStr (c :: s)) : DigitStr s :=
  fun x hx => h x (mem_cons_of_mem _ hx)

theorem DigitStr.append {s t : Str} (hs : DigitStr s) (ht : DigitStr t) : DigitStr (s ++ t) :=
  fun c hc => (mem_append.mp hc).elim (hs c) (ht c)

theorem DigitStr.noSpace {s : Str} (h : DigitStr s) : ∀ c ∈ s, isSpace c = false := by
  intro c hc; obtain ⟨k, hk, rfl⟩ := h c hc; exact isSpace_digitChar hk

theorem DigitStr.not_mem {s : Str} (h : DigitStr s) {c : Char} (hc : c.toNat < 48 ∨ 57 < c.toNat) : c ∉ s := by
  intro hm
  obtain ⟨k, hk, rfl⟩ := h c hm
  exact (digitChar_ne_of_toNat hk hc).mp rfl

theorem digitStr_dd {v : Nat} (h : v < 100) : DigitStr (dd v) :=
  .cons (Nat.div_lt_of_lt_mul h) (.cons (Nat.mod_lt _ (by decide)) .nil)

theorem digitStr_ddd {v : Nat} (h : v < 1000) : DigitStr (ddd v) :=
  .cons (Nat.div_lt_of_lt_mul h) (.cons (Nat.mod_lt _ (by decide)) (.cons (Nat.mod_lt _ (by decide)) .nil))

theorem digitsVal_digit_cons {k : Nat} (h : k < 10) (cs : Str) (acc : Nat) :
    digitsVal (digitChar k :: cs) acc = digitsVal cs (acc * 10 + k) := by
  rw [digitsVal, digitVal_digitChar h]

/-- a string that starts with a digit has no sign: `atoi` parses all of it as digits -/
theorem atoi_digit_cons {k : Nat} (h : k < 10) (cs : Str) :
    atoi (digitChar k :: cs) =
      match parseDigits (digitChar k :: cs) with
      | some v => if v ≤ int64Max then some (v : Int) else none
      | none => none := by
  unfold atoi
  split
  · rename_i heq; exact ((digitChar_ne_minus h).mp (List.cons.inj heq).1).elim
  · rename_i heq; exact ((digitChar_ne_plus h).mp (List.cons.inj heq).1).elim
  · rfl

/-- the three digits of `ddd v` spell `v` -/
theorem ddd_val (v : Nat) : (v / 100 * 10 + v / 10 % 10) * 10 + v % 10 = v := by
  rw [← Nat.div_div_eq_div_mul v 10 10, Nat.div_add_mod', Nat.div_add_mod']

theorem digitVal_some {c : Char} {d : Nat} (h : digitVal c = some d) : d < 10 ∧ c = digitChar d := by
  unfold digitVal at h
  split at h
  · rename_i hc
    have hc' : 48 ≤ c.toNat ∧ c.toNat ≤ 57 := hc
    cases h
    exact ⟨by omega, by rw [digitChar, Nat.add_sub_cancel' hc'.1, Char.ofNat_toNat]⟩
  · cases h

theorem digitsVal_some {s : Str} {acc v : Nat} (h : digitsVal s acc = some v) :
    DigitStr s ∧ v < (acc + 1) * 10 ^ s.length := by
  induction s generalizing acc with
  | nil => cases h; exact ⟨.nil, by simp⟩
  | cons c cs ih =>
    rw [digitsVal] at h
    cases hd : digitVal c with
    | none => rw [hd] at h; cases h
    | some d =>
      rw [hd] at h
      obtain ⟨hk, rfl⟩ := digitVal_some hd
      obtain ⟨h1, h2⟩ := ih h
      refine ⟨.cons hk h1, ?_⟩
      rw [length_cons, Nat.pow_succ]
      calc v < (acc * 10 + d + 1) * 10 ^ cs.length := h2
        _ ≤ (acc + 1) * 10 * 10 ^ cs.length := Nat.mul_le_mul_right _ (by omega)
        _ = (acc + 1) * (10 ^ cs.length * 10) := by rw [Nat.mul_assoc, Nat.mul_comm 10]

theorem digitsVal_append (s t : Str) (a : Nat) :
    digitsVal (s ++ t) a = (digitsVal s a).bind (digitsVal t) := by
  induction s generalizing a with
  | nil => rfl
  | cons c cs ih =>
    rw [cons_append, digitsVal, digitsVal]
    cases digitVal c with
    | none => rfl
    | some d => exact ih _

/-- `s` is a decimal numeral of value `v`: non-empty, digits only — in the terms of the model's own reader of digits,
    so that what `strconv.Atoi`, `strconv.Itoa` and every decoder's `natOf` do to it can be said without a second
    notion of value -/
def Numeral (s : Str) (v : Nat) : Prop := parseDigits s = some v

namespace Numeral
variable {s : Str} {v : Nat}

theorem ne_nil (h : Numeral s v) : s ≠ [] := by
  rintro rfl; cases h

theorem digitsVal (h : Numeral s v) : Go.digitsVal s 0 = some v := by
  cases s with
  | nil => cases h
  | cons c cs => exact h

theorem digitStr (h : Numeral s v) : DigitStr s := (digitsVal_some h.digitsVal).1

theorem lt (h : Numeral s v) : v < 10 ^ s.length := by
  simpa using (digitsVal_some h.digitsVal).2

theorem noSpace (h : Numeral s v) : ∀ c ∈ s, isSpace c = false := h.digitStr.noSpace

theorem trim (h : Numeral s v) : trimSpace s = s := trimSpace_id h.noSpace

theorem atoi (h : Numeral s v) (hv : v ≤ int64Max) : Go.atoi s = some (v : Int) := by
  cases s with
  | nil => cases h
  | cons c cs =>
    obtain ⟨k, hk, rfl⟩ := h.digitStr c mem_cons_self
    rw [atoi_digit_cons hk, show parseDigits (digitChar k :: cs) = some v from h]
    exact if_pos hv

/-- at most 18 digits fit `int64` -/
theorem atoi_short (h : Numeral s v) (hl : s.length ≤ 18) : Go.atoi s = some (v : Int) :=
  h.atoi (by
    have := Nat.lt_of_lt_of_le h.lt (Nat.pow_le_pow_right (by decide) hl)
    unfold int64Max; omega)

theorem of_atoi {s : Str} {x : Int} (h : Go.atoi s = some x) :
    ∃ r v, Numeral r v ∧ ((s = r ∨ s = '+' :: r) ∧ x = (v : Int) ∧ v ≤ int64Max ∨
      s = '-' :: r ∧ x = -(v : Int) ∧ v ≤ int64Max + 1) := by
  have branch : ∀ {o : Option Nat} {b : Nat} {g : Nat → Int}, (match o with
      | some v => if v ≤ b then some (g v) else none
      | none => none) = some x → ∃ v, o = some v ∧ v ≤ b ∧ x = g v := by
    intro o b g h
    cases o with
    | none => cases h
    | some v =>
      simp only at h
      split at h
      · cases h; exact ⟨v, rfl, ‹_›, rfl⟩
      · cases h
  unfold Go.atoi at h
  split at h <;> obtain ⟨v, hp, hv, rfl⟩ := branch h
  · exact ⟨_, v, hp, .inr ⟨rfl, rfl, hv⟩⟩
  · exact ⟨_, v, hp, .inl ⟨.inr rfl, rfl, hv⟩⟩
  · exact ⟨_, v, hp, .inl ⟨.inl rfl, rfl, hv⟩⟩

theorem atoi_append_none (h : Numeral s v) {c : Char} (hc : ∀ k, k < 10 → c ≠ digitChar k) (r : Str) :
    Go.atoi (s ++ c :: r) = none := by
  cases s with
  | nil => cases h
  | cons d ds =>
    obtain ⟨k, hk, rfl⟩ := h.digitStr d mem_cons_self
    have hp : parseDigits (digitChar k :: ds ++ c :: r) = none := by
      cases hv : parseDigits (digitChar k :: ds ++ c :: r) with
      | none => rfl
      | some w =>
        obtain ⟨j, hj, e⟩ := (Numeral.digitStr hv) c (by simp)
        exact absurd e (hc j hj)
    rw [cons_append, atoi_digit_cons hk, ← cons_append, hp]

theorem of_digitStr (h : DigitStr s) (hne : s ≠ []) : ∃ v, Numeral s v := by
  have key : ∀ (t : Str), DigitStr t → ∀ acc, ∃ v, Go.digitsVal t acc = some v := by
    intro t
    induction t with
    | nil => exact fun _ acc => ⟨acc, rfl⟩
    | cons c cs ih =>
      intro ht acc
      obtain ⟨k, hk, rfl⟩ := ht c mem_cons_self
      rw [digitsVal_digit_cons hk]; exact ih ht.tail _
  cases s with
  | nil => exact absurd rfl hne
  | cons c cs => exact key _ h 0

theorem snoc (h : Numeral s v) {k : Nat} (hk : k < 10) : Numeral (s ++ [digitChar k]) (v * 10 + k) := by
  rw [Numeral, parseDigits, if_neg (by simp), digitsVal_append, h.digitsVal, Option.bind_some, digitsVal_digit_cons hk, Go.digitsVal]

protected theorem itoaNat (n : Nat) : Numeral (itoaNat n) n := by
  induction n using Nat.strongRecOn with
  | _ n ih =>
    rw [itoaNat_eq]
    split
    · rename_i h
      rw [Numeral, parseDigits, if_neg (by simp), digitsVal_digit_cons h, Go.digitsVal, Nat.zero_mul, Nat.zero_add]
    · have := (ih (n / 10) (by omega)).snoc (Nat.mod_lt n (by decide : 0 < 10))
      rwa [Nat.div_add_mod'] at this

protected theorem dd {v : Nat} (h : v < 100) : Numeral (dd v) v := by
  have d1 : v / 10 < 10 := Nat.div_lt_of_lt_mul h
  have d2 : v % 10 < 10 := Nat.mod_lt _ (by decide)
  rw [Numeral, Go.dd, parseDigits, if_neg (by simp), digitsVal_digit_cons d1, digitsVal_digit_cons d2, Go.digitsVal,
    Nat.zero_mul, Nat.zero_add, Nat.div_add_mod']

protected theorem ddd {v : Nat} (h : v < 1000) : Numeral (ddd v) v := by
  have d1 : v / 100 < 10 := Nat.div_lt_of_lt_mul h
  have d2 : v / 10 % 10 < 10 := Nat.mod_lt _ (by decide)
  have d3 : v % 10 < 10 := Nat.mod_lt _ (by decide)
  rw [Numeral, Go.ddd, parseDigits, if_neg (by simp), digitsVal_digit_cons d1, digitsVal_digit_cons d2,
    digitsVal_digit_cons d3, Go.digitsVal, Nat.zero_mul, Nat.zero_add, ddd_val]

theorem head (h : Numeral s v) : ∃ k r, k < 10 ∧ s = digitChar k :: r := by
  cases s with
  | nil => cases h
  | cons c cs => obtain ⟨k, hk, rfl⟩ := h.digitStr c mem_cons_self; exact ⟨k, cs, hk, rfl⟩

end Numeral

theorem atoi_dd {v : Nat} (h : v < 100) : atoi (dd v) = some (v : Int) := (Numeral.dd h).atoi_short (Nat.le_of_ble_eq_true rfl)

end Go
end Astisub
