import Astisub.Lemmas.TeleDecode
import Astisub.Driver.Teletext
import Std.Data.String.ToNat
import Astisub.Lemmas.KV

/-!
# Lemmas/TeleFinal — the driver's view of the model's answer is the specification's denotation

`viewItem` (Driver/Teletext.lean) looks the teletext attributes up in the sorted key/value list of a line item: the keys
are distinct, the eight colours are recognised, the flags are the style's, and the blank counts survive `toString` /
`String.toNat?`; so it reads `itemOf r` back as `denote (viewM r)` (`viewItem_itemOf`).  Hence `viewSubs_runPES`: for every
stream in the specification's class, the cues the driver reads out of the model's answer are `Spec.Teletext.decode page pes`.
`readLoop_runPES`: the data loop of `ReadFromTeletext` is `runPES` on the PES packets the driver's `pesOf` selects.
-/

namespace Astisub
namespace Teletext
open Go

theorem kvGet_eq_lookup (k : String) (kv : KV) : Driver.TT.kvGet (some kv) k = kv.lookup k.toList :=
  List.find?_snd_eq_lookup k.toList kv

/-- the optional entries `appendTeletextLineItem` sets: `(itemOf r).attrs` is `mkAttrs` of this list by `rfl`, which is how
    `kvGet_entry` reaches it -/
def entries (r : MRun) : List (String × Option Str) := [
  ("TTMLColor", r.1.color.map fun c => (colorStrings c).2),
  ("TeletextColor", r.1.color.map fun c => (colorStrings c).1),
  ("TeletextDoubleHeight", r.1.dh.map boolStr), ("TeletextDoubleSize", r.1.ds.map boolStr),
  ("TeletextDoubleWidth", r.1.dw.map boolStr),
  ("TeletextSpacesAfter", some (natStr (countLeading r.2.reverse))),
  ("TeletextSpacesBefore", some (natStr (countLeading r.2)))]

theorem entries_keys (r : MRun) : (entries r).Pairwise (fun a b => a.1 ≠ b.1) := by
  rw [List.pairwise_keys_iff_nodup]
  simp only [entries, List.map_cons, List.map_nil]
  decide +kernel

/-- an entry is found under its key; the look-ups below are its seven instances, the entry given by its position -/
theorem kvGet_entry (r : MRun) (j : Nat) (e : String × Option Str) (h : (entries r)[j]? = some e) :
    Driver.TT.kvGet (itemOf r).attrs e.1 = e.2 :=
  (kvGet_eq_lookup e.1 _).trans (lookup_mkAttrs_of_mem (entries_keys r) (List.mem_of_getElem? h))

theorem get_ttml (r : MRun) : Driver.TT.kvGet (itemOf r).attrs "TTMLColor" = r.1.color.map fun c => (colorStrings c).2 :=
  kvGet_entry r 0 ("TTMLColor", _) rfl
theorem get_color (r : MRun) : Driver.TT.kvGet (itemOf r).attrs "TeletextColor" = r.1.color.map fun c => (colorStrings c).1 :=
  kvGet_entry r 1 ("TeletextColor", _) rfl
theorem get_dh (r : MRun) : Driver.TT.kvGet (itemOf r).attrs "TeletextDoubleHeight" = r.1.dh.map boolStr :=
  kvGet_entry r 2 ("TeletextDoubleHeight", _) rfl
theorem get_ds (r : MRun) : Driver.TT.kvGet (itemOf r).attrs "TeletextDoubleSize" = r.1.ds.map boolStr :=
  kvGet_entry r 3 ("TeletextDoubleSize", _) rfl
theorem get_dw (r : MRun) : Driver.TT.kvGet (itemOf r).attrs "TeletextDoubleWidth" = r.1.dw.map boolStr :=
  kvGet_entry r 4 ("TeletextDoubleWidth", _) rfl
theorem get_after (r : MRun) :
    Driver.TT.kvGet (itemOf r).attrs "TeletextSpacesAfter" = some (natStr (countLeading r.2.reverse)) :=
  kvGet_entry r 5 ("TeletextSpacesAfter", _) rfl
theorem get_before (r : MRun) :
    Driver.TT.kvGet (itemOf r).attrs "TeletextSpacesBefore" = some (natStr (countLeading r.2)) :=
  kvGet_entry r 6 ("TeletextSpacesBefore", _) rfl

theorem natStr_toNat (n : Nat) : (String.ofList (natStr n)).toNat? = some n := by
  unfold natStr
  rw [String.ofList_toList]
  exact Nat.toNat?_repr n

theorem flag_eq (o : Option Bool) : (o.map boolStr == some "true".toList) = o.getD false := by
  cases o with
  | none => rfl
  | some b => cases b <;> decide

theorem colour_table : ∀ col, col < 8 →
    Driver.TT.colours.findIdx? (fun e => e.1.toList == (colorStrings col).1) = some col ∧
    (Driver.TT.colours[col]?).map (·.2.toList) = some (colorStrings col).2 := by decide +kernel

theorem viewItem_itemOf (r : MRun) (h : ∀ col, r.1.color = some col → col < 8) :
    Driver.TT.viewItem (itemOf r) =
      some { attr := attrOf r.1, text := trimSpace r.2, before := countLeading r.2, after := countLeading r.2.reverse } := by
  unfold Driver.TT.viewItem
  simp only [get_color, get_ttml, get_dh, get_ds, get_dw, get_after, get_before, Option.bind_some, natStr_toNat, flag_eq]
  cases hcol : r.1.color with
  | none => simp [attrOf, hcol, itemOf]
  | some col =>
    have h8 : col < 8 := h col hcol
    simp only [Option.map_some, (colour_table col h8).1, (colour_table col h8).2, BEq.rfl, if_true]
    simp [attrOf, hcol, itemOf]

open Generated.Teletext
open Spec.Teletext (Packet Inst St Cue VRun)

theorem viewItem_rowRaw (c : Charset) (hs : Solid c) (row : SRow) (hx : CellsOK row.2) :
    ∀ r ∈ rowRaw c row, Driver.TT.viewItem (itemOf r) = some (denote (viewM r)) := by
  intro r hr
  have hm : r ∈ modelRuns c (row.2.map storedCell) := (List.mem_filter.mp hr).1
  rw [viewItem_itemOf r (modelRuns_col c _ hx r hm)]
  obtain ⟨codes, hp, he⟩ := modelRuns_decoded c row.2 hx r hm
  have ht : trimSpace r.2 = Spec.Teletext.stripSpaces r.2 := (item_denote c hs r codes hp he).1
  simp only [denote, viewM, ht]
  rfl

theorem mem_cueRaw (c : Charset) (rows : List SRow) (L : List MRun) (h : L ∈ cueRaw c rows) :
    L.isEmpty = false ∧ ∃ row ∈ rows, L = rowRaw c row := by
  unfold cueRaw at h
  obtain ⟨h1, h2⟩ := List.mem_filter.mp h
  obtain ⟨row, hr, e⟩ := List.mem_map.mp h1
  refine ⟨by simpa using h2, row, (sortedRows_perm rows).subset hr, e.symm⟩

/-- what `Driver.TT.viewSubs` does with one line -/
def viewLine (l : Line) : Option (List VRun) :=
  if !l.voice.isEmpty || l.items.isEmpty then none else Spec.Teletext.mapM Driver.TT.viewItem l.items

theorem viewLine_raw (c : Charset) (hs : Solid c) (rows : List SRow) (hrows : ∀ r ∈ rows, CellsOK r.2) :
    ∀ L ∈ cueRaw c rows, viewLine { items := L.map itemOf } = some ((L.map viewM).map denote) := by
  intro L hL
  obtain ⟨hne, row, hrow, e⟩ := mem_cueRaw c rows L hL
  have h1 : (L.map itemOf).isEmpty = false := by cases L <;> simp_all
  unfold viewLine
  simp only [List.isEmpty_nil, Bool.not_true, h1, Bool.or_self, Bool.false_eq_true, if_false]
  rw [Spec.Teletext.isMapM.map_eq_some_map Driver.TT.viewItem itemOf (fun r => denote (viewM r)) L, List.map_map]
  · rfl
  · intro r hr
    exact viewItem_rowRaw c hs row (hrows row hrow) r (e ▸ hr)

/-- what `Driver.TT.viewSubs` does with one cue (`viewSubs_eq`) -/
def viewCue (it : CItem) : Option Cue :=
  if it.style.isSome || it.region.isSome || it.attrs.isSome || !it.comments.isEmpty || it.index != 0 then none else
  (Spec.Teletext.mapM viewLine it.lines).map fun lines =>
    Spec.Teletext.normCue { startNs := it.startAt, endNs := it.endAt, lines := lines }

theorem viewSubs_eq (s : Subs) :
    Driver.TT.viewSubs s =
      if !s.regions.isEmpty || !s.styles.isEmpty || s.metadata.isSome then none else Spec.Teletext.mapM viewCue s.items := rfl

theorem viewCue_modelOf (key : Nat) (first : Int) (ie : Inst × Int) (hrows : ∀ r ∈ ie.1.rows, CellsOK r.2) :
    viewCue (modelOf key first ie) = some (specOf key first ie) := by
  have hs := computeCharset_solid (key * 1024) ie.1.code
  unfold viewCue
  simp only [modelOf]
  rw [Spec.Teletext.isMapM.map_eq_some_map viewLine _ (fun L => (L.map viewM).map denote) _ (viewLine_raw _ hs ie.1.rows hrows)]
  rfl

theorem viewSubs_runPES {page : Nat} {t0 : Int} {d0 : List Nat} {pes : List (Int × List Nat)} {pk : List (Int × List Packet)}
    (h : InClass page t0 d0 pes pk) :
    Driver.TT.viewSubs (runPES page ((t0, d0) :: pes)) = Spec.Teletext.decode page ((t0, d0) :: pes) := by
  obtain ⟨h1, h2⟩ := stream_agree h
  rw [h1, h2, viewSubs_eq]
  simp only [List.isEmpty_nil, Bool.not_true, Option.isSome_none, Bool.or_self, Bool.false_eq_true, if_false]
  apply Spec.Teletext.isMapM.map_eq_some_map
  intro ie hie
  exact viewCue_modelOf _ _ ie (finalInsts_ok _ _ h.insts ie (List.mem_filter.mp hie).1).2

theorem readLoop_runPES (page pid : Nat) (pass : List Data) :
    readLoop page pid pass true = .ok (runPES page (Driver.TT.pesOf pid pass)) := by
  unfold readLoop runPES Driver.TT.pesOf
  simp only [Bool.not_true, Bool.false_eq_true, if_false]
  congr 2
  generalize ({ buf := newBuf page } : Acc) = a
  induction pass generalizing a with
  | nil => rfl
  | cons d pass ih =>
    simp only [List.foldl_cons, List.filterMap_cons]
    cases d with
    | pes p sid pts pcr payload =>
      have hc : (p != pid % 65536 || sid != some 189) = !(decide (p = pid % 65536) && decide (sid = some 189)) := by
        by_cases h1 : p = pid % 65536 <;> by_cases h2 : sid = some 189 <;> simp [h1, h2]
      simp only [hc]
      cases decide (p = pid % 65536) && decide (sid = some 189)
      · exact ih a
      · cases (pts.orElse fun _ => pcr) with
        | none => exact ih a
        | some t => exact ih _
    | pmt _ => exact ih a
    | other => exact ih a
    | nil => exact ih a

end Teletext
end Astisub
