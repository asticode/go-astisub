import Astisub.Lemmas.TotBase
import Astisub.Model.TTML

/-!
# Lemmas/Tot2TTMLW — `WriteToTTML` (`ttml.go`) with Go's run-time checks explicit

Sites of the writer that the model totalises:

* `s.Metadata != nil` in front of `s.Metadata.Language`, `.TTMLCopyright`, `.Title`;
* `ttmlOutStyleAttributesFromStyleAttributes(s)`: `s == nil ⇒ TTMLOutStyleAttributes{}` in front of the 24 field reads
  (called for every region, style, cue and run);
* `s.Regions[id].Style != nil` / `s.Styles[id].Style != nil` in front of `.Style.ID`; `item.Region != nil`,
  `item.Style != nil`, `lineItem.Style != nil` in front of `.ID`;
* "remove last line break": `ttmlSubtitle.Items[:len(ttmlSubtitle.Items)-1]` behind `len(ttmlSubtitle.Items) > 0` — the
  model works on the flattened token list and writes `items.take (items.length - 2)`, where natural-number
  subtraction would hide a negative bound; here the list of `TTMLOutItem`s is kept, the bound is an `Int`
  (`initC`), and the guard is proved necessary (a cue without lines).

The look-ups `s.Regions[id]` / `s.Styles[id]` by the `ID` *field* of the values, as the pinned writer made them, are
the subject of `Tot.byIdC_safe` (`TotBase`): the model identifies a map key with the `ID` of its value.
-/

namespace Astisub
namespace Tot
namespace TTMLW
open Go Astisub.TTML

/-- `ttmlOutStyleAttributesFromStyleAttributes` as marshalled -/
def outAttrsC (a : Attrs) : Chk (List (Str × Str)) :=
  if a.isNone then pure []
  else do
    let kv ← deref a
    pure (attrTable.filterMap fun (f, x) => (kv.lookup ("TTML" ++ f).toList).map fun v => (("tts:" ++ x).toList, v))

theorem outAttrs_none : outAttrs none = [] := by
  unfold outAttrs
  apply List.filterMap_eq_nil_iff.mpr
  intro p _
  rfl

theorem outAttrsC_eq (a : Attrs) : outAttrsC a = .ok (outAttrs a) := by
  cases a with
  | none => unfold outAttrsC; rw [outAttrs_none]; rfl
  | some kv => rfl

/-- the same without the `s == nil` test -/
def outAttrsU (a : Attrs) : Chk (List (Str × Str)) := do
  let kv ← deref a
  pure (attrTable.filterMap fun (f, x) => (kv.lookup ("TTML" ++ f).toList).map fun v => (("tts:" ++ x).toList, v))

/-- a string field with `,attr,omitempty` -/
def strAttr (name : String) (v : Str) : List (Str × Str) := if v.isEmpty then [] else [(name.toList, v)]

/-- `if x.Style != nil { out.Style = x.Style.ID }` (the zero value is `""`) -/
def refIdC (r : Option Str) : Chk Str := if r.isSome then deref r else pure []

theorem refAttr_eq (name : String) (r : Option Str) :
    (do let v ← refIdC r; pure (strAttr name v) : Chk _) = .ok (optAttr name r) := by
  cases r <;> rfl

theorem refIdU_nil : deref (none : Option Str) = .error .nilDeref := rfl

def headerC (name : String) (d : Def) : Chk (List WTok) := do
  let a ← outAttrsC d.attrs
  let st ← refIdC d.ref
  pure [.start name.toList (strAttr "xml:id" d.id ++ strAttr "style" st ++ a), .stop name.toList]

theorem headerC_eq (name : String) (d : Def) : headerC name d = .ok (header name d) := by
  unfold headerC header
  rw [outAttrsC_eq]
  cases d.ref <;> rfl

/-- language attribute and `<metadata>` element: everything behind `s.Metadata != nil` -/
def metaC (m : Attrs) : Chk (Option Str × List WTok) :=
  if m.isSome then do
    let kv ← deref m
    let lang : Option Str :=
      match kv.lookup "Language".toList with
      | some l => (languages.find? fun p => p.2 = l).map (·.1)
      | none => none
    let title := (kv.lookup "Title".toList).getD []
    let copyright := (kv.lookup "TTMLCopyright".toList).getD []
    let toks : List WTok :=
      if copyright ≠ [] ∨ title ≠ [] then
        [.start "metadata".toList []] ++ elemText "ttm:copyright" copyright ++ elemText "ttm:title" title ++ [.stop "metadata".toList]
      else []
    pure (lang, toks)
  else pure (none, [])

def metaOf (m : Attrs) : Option Str × List WTok :=
  let title := (kvGet m "Title").getD []
  let copyright := (kvGet m "TTMLCopyright").getD []
  (langOut m,
   if m.isSome ∧ (copyright ≠ [] ∨ title ≠ []) then
     [.start "metadata".toList []] ++ elemText "ttm:copyright" copyright ++ elemText "ttm:title" title ++ [.stop "metadata".toList]
   else [])

theorem metaC_eq (m : Attrs) : metaC m = .ok (metaOf m) := by
  cases m with
  | none => rfl
  | some kv =>
    unfold metaC metaOf langOut kvGet
    simp only [Option.isSome_some, if_true, deref, ok_bind, true_and]
    rfl

/-- the pinned shape: no `s.Metadata != nil` -/
def metaU (m : Attrs) : Chk (Option Str) := do
  let kv ← deref m
  pure (match kv.lookup "Language".toList with
        | some l => (languages.find? fun p => p.2 = l).map (·.1)
        | none => none)

/-- one `TTMLOutItem` named `span` -/
def spanC (li : LItem) : Chk (List WTok) := do
  let a ← outAttrsC li.attrs
  let st ← refIdC li.style
  pure ([.start "span".toList (strAttr "style" st ++ a)] ++ (if li.text.isEmpty then [] else [.text li.text]) ++ [.stop "span".toList])

theorem spanC_eq (li : LItem) : spanC li = .ok (spanOf li) := by
  unfold spanC spanOf
  rw [outAttrsC_eq]
  cases li.style <;> rfl

/-- the `TTMLOutItem`s of one line: its spans, then the line break -/
def lineItemsC (l : Line) : Chk (List (List WTok)) := do
  let spans ← mapC spanC l.items
  pure (spans ++ [brTok])

def lineItems (l : Line) : List (List WTok) := l.items.map spanOf ++ [brTok]

theorem lineItemsC_eq (l : Line) : lineItemsC l = .ok (lineItems l) := by
  unfold lineItemsC lineItems
  rw [mapC_eq spanC_eq]; rfl

theorem lineItems_flatten (l : Line) : (lineItems l).flatten = lineToks l := by
  unfold lineItems lineToks
  simp

/-- "Remove last line break": `Items[:len(Items)-1]` behind `len(Items) > 0` -/
def dropBreakC (items : List (List WTok)) : Chk (List (List WTok)) :=
  if items.length > 0 then initC items else pure items

/-- the pinned shape without the length test -/
def dropBreakU (items : List (List WTok)) : Chk (List (List WTok)) := initC items

/-- the length test is necessary: for a cue without lines the bound is `-1` -/
theorem dropBreakU_nil : dropBreakU [] = .error .slice := rfl

theorem lineItems_snoc : ∀ (lines : List Line), lines ≠ [] →
    ∃ X, (lines.map lineItems).flatten = X ++ [brTok]
  | [], h => absurd rfl h
  | [l], _ => ⟨l.items.map spanOf, by simp [lineItems]⟩
  | l :: l' :: ls, _ => by
    obtain ⟨X, hX⟩ := lineItems_snoc (l' :: ls) (by simp)
    refine ⟨lineItems l ++ X, ?_⟩
    rw [List.map_cons, List.flatten_cons, hX, List.append_assoc]

/-- dropping the last item = what the model does on the flattened tokens with `take (length - 2)` -/
theorem dropBreakC_eq (lines : List Line) :
    (do let items ← dropBreakC (lines.map lineItems).flatten; pure items.flatten : Chk _) =
      .ok (((lines.map lineToks).flatten).take ((lines.map lineToks).flatten.length - 2)) := by
  have htoks : (lines.map lineToks).flatten = ((lines.map lineItems).flatten).flatten := by
    rw [List.flatten_flatten, List.map_map]
    congr 1
    apply List.map_congr_left
    intro l _
    exact (lineItems_flatten l).symm
  unfold dropBreakC
  cases lines with
  | nil => rfl
  | cons l ls =>
    obtain ⟨X, hX⟩ := lineItems_snoc (l :: ls) (by simp)
    rw [htoks, hX]
    rw [if_pos (by simp), initC_ok (by simp)]
    simp only [ok_bind, pure_eq, List.dropLast_concat, List.flatten_append, List.flatten_cons, List.flatten_nil,
      List.append_nil, List.length_append]
    congr 1
    have : brTok.length = 2 := rfl
    rw [this, Nat.add_sub_cancel, List.take_left']
    rfl

/-- one `<p>` -/
def subToksC (it : CItem) : Chk (List WTok) := do
  let a ← outAttrsC it.attrs
  let region ← refIdC it.region
  let style ← refIdC it.style
  let perLine ← mapC lineItemsC it.lines
  let items ← dropBreakC perLine.flatten
  pure ([.start "p".toList ([("begin".toList, Duration.formatTTML it.startAt), ("end".toList, Duration.formatTTML it.endAt)]
      ++ strAttr "region" region ++ strAttr "style" style ++ a)]
    ++ items.flatten ++ [.stop "p".toList])

theorem subToksC_eq (it : CItem) : subToksC it = .ok (subToks it) := by
  unfold subToksC subToks
  rw [outAttrsC_eq, mapC_eq lineItemsC_eq]
  simp only [ok_bind]
  have h := dropBreakC_eq it.lines
  cases hd : dropBreakC (it.lines.map lineItems).flatten with
  | error e => rw [hd] at h; cases h
  | ok items =>
    rw [hd] at h
    simp only [ok_bind, pure_eq] at h
    injection h with h
    simp only [ok_bind, h]
    cases it.region <;> cases it.style <;> rfl

/-- the writer with the pinned "remove last line break" -/
def subItemsU (it : CItem) : Chk (List (List WTok)) := do
  let perLine ← mapC lineItemsC it.lines
  dropBreakU perLine.flatten

/-- **`WriteToTTML` (the element tree handed to `xml.Encoder`) with every nil test and the slice bound checked** -/
def writeC (s : Subs) : Chk (Option (List WTok)) :=
  if s.items.isEmpty then pure none
  else do
    let (lang, metaToks) ← metaC s.metadata
    let regions ← mapC (headerC "region") (sortDefs s.regions)
    let styles ← mapC (headerC "style") (sortDefs s.styles)
    let subs ← mapC subToksC s.items
    pure (some (
      [.start "tt".toList ([("xmlns".toList, "http://www.w3.org/ns/ttml".toList)] ++ optAttr "xml:lang" lang ++
          [("xmlns:ttm".toList, "http://www.w3.org/ns/ttml#metadata".toList), ("xmlns:tts".toList, "http://www.w3.org/ns/ttml#styling".toList)]),
       .start "head".toList []] ++ metaToks ++
      [.start "styling".toList []] ++ styles.flatten ++ [.stop "styling".toList] ++
      [.start "layout".toList []] ++ regions.flatten ++ [.stop "layout".toList] ++
      [.stop "head".toList, .start "body".toList [], .start "div".toList []] ++
      subs.flatten ++
      [.stop "div".toList, .stop "body".toList, .stop "tt".toList]))

theorem writeC_eq (s : Subs) : writeC s = .ok (TTML.write s) := by
  refine ite_ok (fun _ => rfl) fun _ => ?_
  rw [metaC_eq, mapC_eq (headerC_eq "region"), mapC_eq (headerC_eq "style"), mapC_eq subToksC_eq]
  rfl

example : writeC { items := [{ startAt := 0, endAt := 1, lines := [] }] } =
    .ok (TTML.write { items := [{ startAt := 0, endAt := 1, lines := [] }] }) := writeC_eq _

end TTMLW
end Tot
end Astisub
