import Astisub.Lemmas.F53Round

/-!
# Lemmas/F53Div — `Dy.div` is correctly rounded (the sticky-bit argument)

`Dy.div` computes `q = ⌊n·2^k / d⌋` with `q ≥ 2⁵⁵`, appends one more bit that is set iff the
remainder is non-zero, and rounds. `sticky` shows that rounding `2q + (1 if r ≠ 0)` gives the same
result as rounding the exact `2q + f` with `0 ≤ f < 2`, `f = 0 ↔ r = 0`: the appended bit sits at
least two positions below the rounding position, so it can neither create nor hide a tie.
-/

namespace Astisub
namespace F53
open Go

theorem abs_between {a w lo hi x : ℚ} (h0 : 0 ≤ a) (hlo : lo ≤ a) (hhi : a + w ≤ hi) (hx0 : a ≤ x)
    (hx : x < a + w) : lo ≤ |x| ∧ |x| < hi := by
  rw [abs_of_nonneg (by linarith)]
  constructor <;> linarith

/-- The odd integer `2q + 1` is within `2h` of the multiple `4hz`, hence (parity) within `2h - 1`,
    so every `x` strictly between `2q` and `2q + 2` is strictly within `2h`: no tie. -/
theorem sticky_core (q h : ℕ) (z : ℤ) (f : ℚ) (hf0 : 0 < f) (hf2 : f < 2)
    (hz : |((2 * q + 1 : ℕ) : ℚ) - z * (4 * (h : ℚ))| ≤ 4 * (h : ℚ) / 2) :
    |2 * (q : ℚ) + f - z * (4 * (h : ℚ))| < 4 * (h : ℚ) / 2 := by
  obtain ⟨t, ht⟩ : ∃ t : ℤ, t = h * z := ⟨_, rfl⟩
  have htq : (z : ℚ) * (4 * (h : ℚ)) = 4 * (t : ℚ) := by rw [ht]; push_cast; ring
  rw [htq] at hz ⊢
  push_cast at hz
  have hi : |2 * (q : ℤ) + 1 - 4 * t| ≤ 2 * h := by
    rw [← Int.cast_le (R := ℚ)]; push_cast; exact hz.trans (by linarith)
  obtain ⟨i1, i2⟩ := abs_le.mp hi
  have hk : |2 * (q : ℤ) + 1 - 4 * t| ≤ 2 * h - 1 := abs_le.mpr ⟨by omega, by omega⟩
  have hkq : |2 * (q : ℚ) + 1 - 4 * t| ≤ 2 * h - 1 := by exact_mod_cast hk
  obtain ⟨j1, j2⟩ := abs_le.mp hkq
  rw [abs_lt]
  constructor <;> linarith

theorem sticky_pos (q : ℕ) (f : ℚ) (hq : 2 ^ 53 ≤ q) (hf0 : 0 < f) (hf2 : f < 2) :
    rnd (2 * (q : ℚ) + f) = rnd (((2 * q + 1 : ℕ) : ℚ)) := by
  -- the common binade: `2q` has `s + 55` bits; with `h = 2^s` the ulp is `4h`
  have hq0 : 2 * q ≠ 0 := by
    have : 0 < 2 ^ 53 := by positivity
    omega
  have lb := bitlen_lb hq0
  have ub := bitlen_ub (2 * q)
  have hbl : ¬ bitlen (2 * q) ≤ 54 := by
    rw [bitlen_le_iff]
    have : 2 ^ 54 = 2 * 2 ^ 53 := by norm_num
    omega
  obtain ⟨s, hs⟩ : ∃ s : ℕ, bitlen (2 * q) = s + 2 + 53 := ⟨bitlen (2 * q) - 55, by omega⟩
  rw [hs] at lb ub
  rw [show s + 2 + 53 - 1 = s + 54 by omega, pow_add] at lb
  rw [show s + 2 + 53 = (s + 54) + 1 by omega, pow_succ, pow_add] at ub
  generalize hh : 2 ^ s = h at lb ub
  have lbq : (h : ℚ) * 2 ^ 54 ≤ 2 * (q : ℚ) := by exact_mod_cast lb
  have ubq : 2 * (q : ℚ) + 2 ≤ 2 * ((h : ℚ) * 2 ^ 54) := by
    exact_mod_cast (show 2 * q + 2 ≤ 2 * (h * 2 ^ 54) by omega)
  have hP : (2 : ℚ) ^ ((s + 2 : ℕ) : ℤ) = 4 * (h : ℚ) := by
    rw [zpow_natCast, pow_add, ← hh]; push_cast; ring
  have hlo : (2 : ℚ) ^ (((s + 2 : ℕ) : ℤ) + 52) = (h : ℚ) * 2 ^ 54 := by
    rw [p2_add, hP]; norm_num; ring
  have hhi : (2 : ℚ) ^ (((s + 2 : ℕ) : ℤ) + 53) = 2 * ((h : ℚ) * 2 ^ 54) := by
    rw [p2_add, hP]; norm_num; ring
  have hq0' : (0 : ℚ) ≤ 2 * (q : ℚ) := by positivity
  rw [← hlo] at lbq
  rw [← hhi] at ubq
  obtain ⟨hW1, hW2⟩ := abs_between (x := ((2 * q + 1 : ℕ) : ℚ)) hq0' lbq ubq
    (by push_cast; linarith) (by push_cast; linarith)
  obtain ⟨hV1, hV2⟩ := abs_between (x := 2 * (q : ℚ) + f) hq0' lbq ubq (by linarith) (by linarith)
  -- the nearest-even integer of `(2q+1) / 4h` is also that of `(2q+f) / 4h`
  have hz := rne_spec (((2 * q + 1 : ℕ) : ℚ) / 2 ^ ((s + 2 : ℕ) : ℤ))
  rw [rnd_eq hW1 hW2 hz]
  apply rnd_eq hV1 hV2
  rw [isRNE_div_iff (p2_pos _), hP] at hz ⊢
  have hlt := sticky_core q h _ f hf0 hf2 hz.1
  exact ⟨le_of_lt hlt, fun h => absurd h (ne_of_lt hlt)⟩

theorem sticky (q : ℕ) (f : ℚ) (hq : 2 ^ 53 ≤ q) (hf0 : 0 ≤ f) (hf2 : f < 2) :
    rnd (2 * (q : ℚ) + f) = rnd (((2 * q + (if f = 0 then 0 else 1) : ℕ) : ℚ)) := by
  by_cases hf : f = 0
  · subst hf; simp
  · rw [if_neg hf]
    exact sticky_pos q f hq (lt_of_le_of_ne hf0 (Ne.symm hf)) hf2

theorem div_q_big (n d : ℕ) (hn : n ≠ 0) (hd : d ≠ 0) :
    2 ^ 55 ≤ n * 2 ^ (56 + bitlen d - bitlen n) / d := by
  have lb := bitlen_lb hn
  have ub := bitlen_ub d
  have hbn := bitlen_ne_zero hn
  rw [Nat.le_div_iff_mul_le (Nat.pos_of_ne_zero hd)]
  obtain ⟨a, ha⟩ : ∃ a, bitlen n = a + 1 := ⟨bitlen n - 1, by omega⟩
  rw [ha] at lb ⊢
  simp only [Nat.add_sub_cancel] at lb
  generalize bitlen d = bd at *
  calc 2 ^ 55 * d ≤ 2 ^ 55 * 2 ^ bd := Nat.mul_le_mul_left _ (le_of_lt ub)
    _ = 2 ^ (55 + bd) := by rw [pow_add]
    _ ≤ 2 ^ (a + (56 + bd - (a + 1))) := Nat.pow_le_pow_right (by norm_num) (by omega)
    _ = 2 ^ a * 2 ^ (56 + bd - (a + 1)) := by rw [pow_add]
    _ ≤ n * 2 ^ (56 + bd - (a + 1)) := Nat.mul_le_mul_right _ lb

theorem val_div_sign (a b : ℤ) :
    (a : ℚ) / (b : ℚ)
      = (if ((decide (a < 0)) != (decide (b < 0))) then -1 else 1) * ((a.natAbs : ℚ) / (b.natAbs : ℚ)) := by
  rw [cast_natAbs_sign a, cast_natAbs_sign b]
  by_cases h1 : a < 0 <;> by_cases h2 : b < 0 <;> simp [h1, h2, div_neg, neg_div]

theorem div_tail {n d k q r : ℕ} (hd : 0 < d) (hdm : d * q + r = n * 2 ^ k) (hr : r < d) :
    0 ≤ 2 * (r : ℚ) / d ∧ 2 * (r : ℚ) / d < 2 ∧ (2 * (r : ℚ) / d = 0 ↔ r = 0) ∧
      (n : ℚ) / d * 2 ^ ((k : ℤ) + 1) = 2 * (q : ℚ) + 2 * (r : ℚ) / d := by
  have hdq : (0 : ℚ) < d := by exact_mod_cast hd
  have hrq : (r : ℚ) < d := by exact_mod_cast hr
  refine ⟨by positivity, by rw [div_lt_iff₀ hdq]; linarith, ⟨fun h => ?_, fun h => by rw [h]; simp⟩, ?_⟩
  · have := (div_eq_zero_iff.mp h).resolve_right hdq.ne'
    exact_mod_cast (by linarith : (r : ℚ) = 0)
  · have : (n : ℚ) * 2 ^ k = d * q + r := by exact_mod_cast hdm.symm
    rw [p2_add, zpow_natCast]
    field_simp
    linarith

/-- **`Dy.div` is correctly rounded**: the value is `rnd` of the exact quotient (0 when the
    divisor is 0, as in ℚ). -/
theorem div_val (x y : Dy) : (Dy.div x y).val = rnd (x.val / y.val) := by
  unfold Dy.div
  by_cases h0 : x.m.natAbs = 0 ∨ y.m.natAbs = 0
  · simp only [h0, ↓reduceIte]
    rcases h0 with h | h <;> simp [Dy.val, Int.natAbs_eq_zero.mp h, rnd_zero]
  · simp only [h0, ↓reduceIte]
    have hn : x.m.natAbs ≠ 0 := fun h => h0 (Or.inl h)
    have hd : y.m.natAbs ≠ 0 := fun h => h0 (Or.inr h)
    rw [round_val]
    have hqb := div_q_big _ _ hn hd
    generalize hk : 56 + bitlen y.m.natAbs - bitlen x.m.natAbs = k at *
    have hdm := Nat.div_add_mod (x.m.natAbs * 2 ^ k) y.m.natAbs
    have hlt := Nat.mod_lt (x.m.natAbs * 2 ^ k) (Nat.pos_of_ne_zero hd)
    generalize hq : x.m.natAbs * 2 ^ k / y.m.natAbs = q at *
    generalize hr : x.m.natAbs * 2 ^ k % y.m.natAbs = r at *
    generalize hnn : x.m.natAbs = n at *
    generalize hdd : y.m.natAbs = d at *
    -- the exact quotient is `±(2q + f) · 2^(x.e - y.e - k - 1)` with `0 ≤ f < 2` (`div_tail`); `sticky` trades `f` for the
    -- sticky bit, and sign and power of two pass through `rnd` (`rnd_neg`, `rnd_scale`)
    obtain ⟨hf0, hf2, hfz, hV⟩ := div_tail (Nat.pos_of_ne_zero hd) hdm hlt
    generalize 2 * (r : ℚ) / d = f at hf0 hf2 hfz hV
    have hst := sticky q f (le_trans (by norm_num) hqb) hf0 hf2
    simp only [hfz] at hst
    have hquot : x.val / y.val
        = (if ((decide (x.m < 0)) != (decide (y.m < 0))) then -1 else 1)
            * (2 * (q : ℚ) + f) * 2 ^ (x.e - y.e - (k : ℤ) - 1) := by
      unfold Dy.val
      have : (x.m : ℚ) * 2 ^ x.e / ((y.m : ℚ) * 2 ^ y.e)
          = (x.m : ℚ) / (y.m : ℚ) * 2 ^ ((k : ℤ) + 1) * 2 ^ (x.e - y.e - (k : ℤ) - 1) := by
        rw [mul_assoc, ← p2_add, show (k : ℤ) + 1 + (x.e - y.e - (k : ℤ) - 1) = x.e + (-y.e) by ring,
          p2_add, zpow_neg]
        field_simp [p2_ne]
      rw [this, val_div_sign _ _, hnn, hdd, mul_assoc _ ((n : ℚ) / d), hV]
    rw [hquot, rnd_scale, val_mk, rnd_scale]
    generalize ((decide (x.m < 0)) != (decide (y.m < 0))) = sg
    generalize (2 : ℚ) ^ (x.e - y.e - (k : ℤ) - 1) = P
    cases sg
    · simp only [Bool.false_eq_true, ↓reduceIte, one_mul, hst, Int.cast_natCast]
    · simp only [↓reduceIte, neg_one_mul, rnd_neg, hst, Int.cast_neg, Int.cast_natCast]

end F53
end Astisub
