import Astisub.Go.Bufio
import Astisub.Lemmas.ListFacts

/-! # Lemmas/Scan — the split function, the end-of-input run and `Scanner.Scan` for every schedule

`splitLine` is read off the shape of the data (`splitLine_noEOL`, `splitLine_eol_last`, `splitLine_eol_next`);
`drain_induct` and `scan_induct` are the induction principles of the two recursions, so that no proof
below repeats their termination arguments.  Then the byte-level meaning: `drainL true` gives the lines before the first
over-long one (`drainL_bytes`); a scan that does not stall (`NoStall`) yields exactly them, whatever the reads were
(`scan_full`, `scan_bytes_gen`, `scan_spec`); bounds on token lengths; and `linesOf` line by line on data whose lines hold
no terminator (`NoEOL`, `linesOf_lf/_crlf/_cr/_noEOL`). -/

namespace Astisub
namespace Go
open List

theorem breakEOL_cons (b : UInt8) (bs : List UInt8) :
    breakEOL (b :: bs) = if isEOL b then ([], b :: bs) else (b :: (breakEOL bs).1, (breakEOL bs).2) := rfl

theorem breakEOL_append (p : List UInt8) : (breakEOL p).1 ++ (breakEOL p).2 = p := by
  induction p with
  | nil => rfl
  | cons c cs ih =>
    rw [breakEOL_cons]; split
    · rfl
    · exact congrArg (c :: ·) ih

theorem breakEOL_len {p a r : List UInt8} (h : breakEOL p = (a, r)) : a.length + r.length = p.length := by
  have := congrArg length (breakEOL_append p)
  rwa [h, length_append] at this

theorem breakEOL_snd_nil {p a : List UInt8} (h : breakEOL p = (a, [])) : a = p := by
  have := breakEOL_append p
  rwa [h, append_nil] at this

theorem breakEOL_fst_len (p : List UInt8) : (breakEOL p).1.length ≤ p.length :=
  Nat.le_of_add_right_le (Nat.le_of_eq (breakEOL_len rfl))

theorem breakEOL_cons_append {p a : List UInt8} {b : UInt8} {r : List UInt8} (x : List UInt8)
    (h : breakEOL p = (a, b :: r)) : breakEOL (p ++ x) = (a, b :: r ++ x) := by
  induction p generalizing a with
  | nil => cases h
  | cons c cs ih =>
    rw [cons_append, breakEOL_cons]
    rw [breakEOL_cons] at h
    split
    · rename_i hc; rw [if_pos hc] at h; cases h; rfl
    · rename_i hc; rw [if_neg hc] at h
      obtain ⟨rfl, h2⟩ := Prod.mk.inj h
      rw [ih (Prod.ext rfl h2)]

theorem breakEOL_fst_append_le (p x : List UInt8) :
    (breakEOL p).1.length ≤ (breakEOL (p ++ x)).1.length := by
  induction p with
  | nil => exact Nat.zero_le _
  | cons c cs ih =>
    rw [cons_append, breakEOL_cons, breakEOL_cons]; split
    · exact Nat.le_refl _
    · exact Nat.succ_le_succ ih

theorem breakEOL_fst_append_of_eol {p : List UInt8} (x : List UInt8) (h : (breakEOL p).2 ≠ []) :
    (breakEOL (p ++ x)).1 = (breakEOL p).1 := by
  obtain ⟨b, r, hr⟩ := exists_cons_of_ne_nil h
  rw [breakEOL_cons_append x (Prod.ext rfl hr)]

theorem lineTooLong_append {p : List UInt8} (x : List UInt8) (h : lineTooLong p = true) :
    lineTooLong (p ++ x) = true :=
  decide_eq_true (Nat.lt_of_lt_of_le (of_decide_eq_true h) (breakEOL_fst_append_le p x))

theorem lineTooLong_append_of_eol {p : List UInt8} (x : List UInt8) (h : (breakEOL p).2 ≠ []) :
    lineTooLong (p ++ x) = lineTooLong p := by
  simp only [lineTooLong, breakEOL_fst_append_of_eol x h]

theorem lineTooLong_nil : lineTooLong [] = false := rfl

/-! ### `splitLine` by the shape of the data: no terminator yet, a terminator as the last byte, a
terminator followed by another byte -/

theorem splitLine_noEOL {p a : List UInt8} (hb : breakEOL p = (a, [])) (f e : Bool) :
    splitLine f p e = if e then (if p.isEmpty then .stop else .tok p.length p) else .more := by
  simp only [splitLine, hb]; cases e <;> rfl

theorem splitLine_eol_last {p a : List UInt8} {b : UInt8} (hb : breakEOL p = (a, [b])) (f e : Bool) :
    splitLine f p e = if b == 10 || !(f && !e) then .tok (a.length + 1) a else .more := by
  have hp : p.isEmpty = false := by cases p; cases hb; rfl
  simp only [splitLine, hb, hp, Bool.and_false]
  cases b == 10 <;> cases f <;> cases e <;> rfl

theorem splitLine_eol_next {p a r : List UInt8} {b c : UInt8} (hb : breakEOL p = (a, b :: c :: r))
    (f e : Bool) : splitLine f p e = .tok (a.length + if b != 10 && c == 10 then 2 else 1) a := by
  have hp : p.isEmpty = false := by cases p; cases hb; rfl
  simp only [splitLine, hb, hp, Bool.and_false]
  cases hb10 : b == 10 <;> cases hc : c == 10 <;> simp only [bne, hb10] <;> rfl

theorem splitLine_eof_nil (f : Bool) : splitLine f [] true = .stop := rfl

theorem splitLine_nil_noeof (f : Bool) : splitLine f [] false = .more := rfl

/-- what a token says about the data it was cut from: it is the bytes before the first CR/LF, it
    consumes at least one byte and no more than there are, and before EOF it ends at a CR/LF -/
theorem splitLine_tok_inv {f : Bool} {p : List UInt8} {e : Bool} {adv : Nat} {t : List UInt8}
    (h : splitLine f p e = .tok adv t) :
    t = (breakEOL p).1 ∧ adv ≠ 0 ∧ adv ≤ p.length ∧ (e = false → (breakEOL p).2 ≠ []) := by
  rcases hb : breakEOL p with ⟨a, _ | ⟨b, _ | ⟨c, r⟩⟩⟩
  · rw [splitLine_noEOL hb] at h
    cases e
    · cases h
    · cases hp : p.isEmpty <;> rw [hp] at h <;> cases h
      exact ⟨(breakEOL_snd_nil hb).symm, fun h0 => (by rw [length_eq_zero_iff.mp h0] at hp; cases hp),
        Nat.le_refl _, fun h0 => by cases h0⟩
  · rw [splitLine_eol_last hb] at h
    split at h <;> cases h
    exact ⟨rfl, Nat.succ_ne_zero _, Nat.le_of_eq (breakEOL_len hb), fun _ => cons_ne_nil _ _⟩
  · rw [splitLine_eol_next hb] at h
    have := breakEOL_len hb
    cases h
    refine ⟨rfl, ?_, ?_, fun _ => cons_ne_nil _ _⟩ <;> split <;> simp only [length_cons] at this <;> omega

theorem tok_adv_pos {f : Bool} {p : List UInt8} {e : Bool} {adv : Nat} {t : List UInt8}
    (h : splitLine f p e = .tok adv t) : adv ≠ 0 := (splitLine_tok_inv h).2.1

theorem splitLine_tok_fst {f : Bool} {p : List UInt8} {e : Bool} {adv : Nat} {t : List UInt8}
    (h : splitLine f p e = .tok adv t) : t = (breakEOL p).1 := (splitLine_tok_inv h).1

theorem tok_noeof_has_eol {f : Bool} {p : List UInt8} {adv : Nat} {t : List UInt8}
    (h : splitLine f p false = .tok adv t) : (breakEOL p).2 ≠ [] := (splitLine_tok_inv h).2.2.2 rfl

theorem splitLine_tok_len {f : Bool} {p : List UInt8} {e : Bool} {adv : Nat} {t : List UInt8}
    (h : splitLine f p e = .tok adv t) : t.length ≤ p.length := by
  rw [splitLine_tok_fst h]; exact breakEOL_fst_len p

/-- the measure of the inner induction: a token consumes at least one byte -/
theorem drop_tok_lt {f : Bool} {p : List UInt8} {e : Bool} {adv : Nat} {t : List UInt8}
    (h : splitLine f p e = .tok adv t) : (p.drop adv).length < p.length := by
  have ⟨_, h0, hle, _⟩ := splitLine_tok_inv h
  rw [length_drop]; omega

theorem splitLine_tok_stable {p : List UInt8} {adv : Nat} {t : List UInt8}
    (h : splitLine true p false = .tok adv t) (x : List UInt8) (e : Bool) :
    splitLine true (p ++ x) e = .tok adv t ∧ adv ≤ p.length := by
  refine ⟨?_, (splitLine_tok_inv h).2.2.1⟩
  rcases hb : breakEOL p with ⟨a, _ | ⟨b, _ | ⟨c, r⟩⟩⟩
  · rw [splitLine_noEOL hb] at h; cases h
  · -- the terminator is the last byte: a token only if it is LF, and then what follows is not looked at
    rw [splitLine_eol_last hb] at h
    cases hb10 : b == 10 <;> rw [hb10] at h
    · cases h
    · rw [← h]
      cases x with
      | nil => rw [append_nil, splitLine_eol_last hb, hb10]; rfl
      | cons c x =>
        have hbx : breakEOL (p ++ c :: x) = (a, b :: c :: x) := breakEOL_cons_append _ hb
        rw [splitLine_eol_next hbx, bne, hb10]; rfl
  · rw [splitLine_eol_next hb] at h
    rw [splitLine_eol_next (breakEOL_cons_append x hb), ← h]

theorem splitLine_noeof_ne_stop (f : Bool) (p : List UInt8) : splitLine f p false ≠ .stop := by
  rcases hb : breakEOL p with ⟨a, _ | ⟨b, _ | ⟨c, r⟩⟩⟩
  · rw [splitLine_noEOL hb]; nofun
  · rw [splitLine_eol_last hb]; split <;> nofun
  · rw [splitLine_eol_next hb]; nofun

theorem splitLine_eof_tok (f : Bool) {p : List UInt8} (hp : p ≠ []) :
    ∃ adv t, splitLine f p true = .tok adv t := by
  rcases hb : breakEOL p with ⟨a, _ | ⟨b, _ | ⟨c, r⟩⟩⟩
  · rw [splitLine_noEOL hb, if_pos rfl, if_neg (by rwa [isEmpty_iff])]; exact ⟨_, _, rfl⟩
  · rw [splitLine_eol_last hb, Bool.not_true, Bool.and_false, Bool.not_false, Bool.or_true, if_pos rfl]
    exact ⟨_, _, rfl⟩
  · exact ⟨_, _, splitLine_eol_next hb f true⟩

/-- **The scanner's own limit is out of reach** (repaired code): when the split function asks for
    more data, at most `maxLineSize + 1` bytes are pending (65535 and a CR) — fewer than the
    `maxLineSize + 2` bytes of the buffer. -/
theorem more_lt_bufSize {p : List UInt8} (hl : lineTooLong p = false)
    (h : splitLine true p false = .more) : p.length < bufSize true := by
  have hl' : ¬ maxLineSize < (breakEOL p).1.length := of_decide_eq_false hl
  show p.length < maxLineSize + 2
  rcases hb : breakEOL p with ⟨a, _ | ⟨b, _ | ⟨c, r⟩⟩⟩ <;> rw [hb] at hl' <;> dsimp only at hl'
  · rw [← breakEOL_snd_nil hb]; omega
  · have := breakEOL_len hb; simp only [length_cons, length_nil] at this; omega
  · rw [splitLine_eol_next hb] at h; cases h

theorem drain_tok {f : Bool} {p : List UInt8} {adv : Nat} {t : List UInt8}
    (h : splitLine f p true = .tok adv t) : drain f p = t :: drain f (p.drop adv) := by
  rw [drain]; split
  · rename_i h'; rw [h] at h'; cases h'; exact if_neg (tok_adv_pos h)
  · rename_i h'; exact (h' _ _ h).elim

theorem drain_nil (f : Bool) : drain f [] = [] := by
  rw [drain]; split
  · rename_i h'; cases h'
  · rfl

theorem drainL_long {p : List UInt8} (h : lineTooLong p = true) : drainL true p = ([], true) := by
  rw [drainL, h]; rfl

theorem drainL_tok {f : Bool} {p : List UInt8} {adv : Nat} {t : List UInt8}
    (hl : (f && lineTooLong p) = false) (h : splitLine f p true = .tok adv t) :
    drainL f p = (t :: (drainL f (p.drop adv)).1, (drainL f (p.drop adv)).2) := by
  rw [drainL, hl, if_neg Bool.false_ne_true]
  split
  · rename_i h'; rw [h] at h'; cases h'; exact if_neg (tok_adv_pos h)
  · rename_i h'; exact (h' _ _ h).elim

theorem drainL_nil (f : Bool) : drainL f [] = ([], false) := by
  rw [drainL, lineTooLong_nil, Bool.and_false, if_neg Bool.false_ne_true]
  split
  · rename_i h'; cases h'
  · rfl

theorem scan_nil (f : Bool) (p : List UInt8) (e : End) (k : Nat) :
    scan f p [] e k = ((drainL f p).1, finalErr e (drainL f p).2) := by
  unfold scan; rfl

theorem scan_long {p c : List UInt8} {cs : List (List UInt8)} {e : End} {k : Nat}
    (hl : lineTooLong p = true) : scan true p (c :: cs) e k = ([], some .tooLong) := by
  rw [scan, hl]; rfl

theorem scan_tok {f : Bool} {p c : List UInt8} {cs : List (List UInt8)} {e : End} {k adv : Nat} {t : List UInt8}
    (hl : (f && lineTooLong p) = false) (h : splitLine f p false = .tok adv t) :
    scan f p (c :: cs) e k = (t :: (scan f (p.drop adv) (c :: cs) e 0).1, (scan f (p.drop adv) (c :: cs) e 0).2) := by
  rw [scan, hl, if_neg Bool.false_ne_true]
  split <;> rename_i h' <;> rw [h] at h' <;> cases h'
  exact if_neg (tok_adv_pos h)

theorem scan_more {f : Bool} {p c : List UInt8} {cs : List (List UInt8)} {e : End} {k : Nat}
    (hl : (f && lineTooLong p) = false) (h : splitLine f p false = .more) :
    scan f p (c :: cs) e k =
      if p.length ≥ bufSize f then ([], some .tooLong)
      else if c.isEmpty then
        (if k + 1 > maxEmptyReads then ((drainL f p).1, some .noProgress) else scan f p cs e (k + 1))
      else if p.length + c.length > bufSize f then ((drainL f p).1, some .badRead)
      else scan f (p ++ c) cs e 0 := by
  rw [scan, hl, if_neg Bool.false_ne_true]
  split <;> rename_i h' <;> rw [h] at h' <;> cases h'

/-- what a scan that asked for more data returns: the scanner's own `ErrTooLong`; the tokens still
    pending and a complaint about the reader; or the rest of the run after an empty read, or after
    a read that fits the buffer -/
theorem scan_more_cases {f : Bool} {p c : List UInt8} {cs : List (List UInt8)} {e : End} {k : Nat}
    (hl : (f && lineTooLong p) = false) (h : splitLine f p false = .more)
    {P : List (List UInt8) × Option ScanErr → Prop} (full : P ([], some .tooLong))
    (stall : ∀ err, P ((drainL f p).1, some err)) (empty : P (scan f p cs e (k + 1)))
    (read : p.length + c.length ≤ bufSize f → P (scan f (p ++ c) cs e 0)) :
    P (scan f p (c :: cs) e k) := by
  rw [scan_more hl h]
  by_cases h1 : p.length ≥ bufSize f
  · rwa [if_pos h1]
  rw [if_neg h1]
  by_cases h2 : c.isEmpty = true
  · rw [if_pos h2]
    by_cases h3 : k + 1 > maxEmptyReads
    · rw [if_pos h3]; exact stall _
    · rwa [if_neg h3]
  rw [if_neg h2]
  by_cases h4 : p.length + c.length > bufSize f
  · rw [if_pos h4]; exact stall _
  · rw [if_neg h4]; exact read (Nat.not_lt.mp h4)

/-- the end-of-input run: no data, or a token and the run on what follows it -/
theorem drain_induct {f : Bool} {motive : List UInt8 → Prop} (nil : motive [])
    (tok : ∀ p adv t, splitLine f p true = .tok adv t → motive (p.drop adv) → motive p)
    (p : List UInt8) : motive p := by
  induction hn : p.length using Nat.strongRecOn generalizing p with
  | _ n ih =>
    by_cases hp : p = []
    · exact hp ▸ nil
    · obtain ⟨adv, t, hs⟩ := splitLine_eof_tok f hp
      exact tok p adv t hs (ih _ (hn ▸ drop_tok_lt hs) _ rfl)

/-- `Scanner.Scan` with reads still to come: the schedule is exhausted; or the split function
    refuses the pending line; or it cuts a token (same schedule, fewer pending bytes); or it asks for
    more (the next read is consumed: an empty one, or its bytes are appended) -/
theorem scan_induct {f : Bool} {motive : List UInt8 → List (List UInt8) → Nat → Prop}
    (nil : ∀ p k, motive p [] k)
    (long : ∀ p c cs k, f = true → lineTooLong p = true → motive p (c :: cs) k)
    (tok : ∀ p c cs k adv t, (f && lineTooLong p) = false → splitLine f p false = .tok adv t →
      motive (p.drop adv) (c :: cs) 0 → motive p (c :: cs) k)
    (more : ∀ p c cs k, (f && lineTooLong p) = false → splitLine f p false = .more →
      motive p cs (k + 1) → motive (p ++ c) cs 0 → motive p (c :: cs) k)
    (p : List UInt8) (cs : List (List UInt8)) (k : Nat) : motive p cs k := by
  induction cs generalizing p k with
  | nil => exact nil p k
  | cons c cs ih =>
    induction hn : p.length using Nat.strongRecOn generalizing p k with
    | _ n ihn =>
      cases hl : (f && lineTooLong p) with
      | true => exact long p c cs k (Bool.and_eq_true_iff.mp hl).1 (Bool.and_eq_true_iff.mp hl).2
      | false =>
        cases hs : splitLine f p false with
        | stop => exact absurd hs (splitLine_noeof_ne_stop f p)
        | more => exact more p c cs k hl hs (ih p (k + 1)) (ih (p ++ c) 0)
        | tok adv t => exact tok p c cs k adv t hl hs (ihn _ (hn ▸ drop_tok_lt hs) _ 0 rfl)

theorem drainL_false (p : List UInt8) : drainL false p = (drain false p, false) := by
  induction p using drain_induct (f := false) with
  | nil => rw [drainL_nil, drain_nil]
  | tok p adv t hs ih => rw [drainL_tok rfl hs, drain_tok hs, ih]

/-! ### the byte-level semantics: `drainL true` is "the lines before the first long one" -/

theorem linesOf_empty : linesOf [] = [] := drain_nil true

theorem linesOf_cons {p : List UInt8} {adv : Nat} {t : List UInt8}
    (h : splitLine true p true = .tok adv t) : linesOf p = (breakEOL p).1 :: linesOf (p.drop adv) := by
  unfold linesOf; rw [drain_tok h, splitLine_tok_fst h]

theorem drainL_bytes (p : List UInt8) : drainL true p = (linesBefore p, firstLong p) := by
  induction p using drain_induct (f := true) with
  | nil => rw [drainL_nil, linesBefore, firstLong, linesOf_empty]; rfl
  | tok p adv t hs ih =>
    unfold linesBefore firstLong
    rw [linesOf_cons hs, takeWhile_cons, any_cons]
    cases hl : lineTooLong p with
    | true =>
      have hlt : maxLineSize < (breakEOL p).1.length := of_decide_eq_true hl
      rw [drainL_long hl, decide_eq_false (Nat.not_le.mpr hlt), decide_eq_true hlt]; rfl
    | false =>
      have hle : ¬ maxLineSize < (breakEOL p).1.length := of_decide_eq_false hl
      rw [drainL_tok (by rw [hl]; rfl) hs, ih, decide_eq_true (Nat.not_lt.mp hle), decide_eq_false hle,
        splitLine_tok_fst hs]; rfl

theorem takeWhile_le_of_not_any_gt (M : Nat) (ls : List (List UInt8))
    (h : (ls.any fun l => decide (l.length > M)) = false) :
    (ls.takeWhile fun l => decide (l.length ≤ M)) = ls :=
  takeWhile_eq_self_of_all _ fun l hl =>
    decide_eq_true (Nat.not_lt.mp fun hlt => any_eq_false.mp h l hl (decide_eq_true hlt))

theorem mem_takeWhile_le (M : Nat) (ls : List (List UInt8)) :
    ∀ t ∈ (ls.takeWhile fun l => decide (l.length ≤ M)), t.length ≤ M :=
  fun t ht => of_decide_eq_true (mem_takeWhile_imp (p := fun l => decide (l.length ≤ M)) (x := t) ht)

theorem linesBefore_eq_of_not_long {bs : List UInt8} (h : firstLong bs = false) :
    linesBefore bs = linesOf bs :=
  takeWhile_le_of_not_any_gt maxLineSize (linesOf bs) h

theorem firstLong_iff (bs : List UInt8) :
    firstLong bs = true ↔ ∃ l ∈ linesOf bs, maxLineSize < l.length := by
  simp [firstLong, List.any_eq_true]

theorem firstLong_of_lineTooLong {bs : List UInt8} (h : lineTooLong bs = true) :
    linesBefore bs = [] ∧ firstLong bs = true := by
  have h1 := drainL_bytes bs
  rw [drainL_long h] at h1
  exact ⟨(congrArg Prod.fst h1).symm, (congrArg Prod.snd h1).symm⟩

/-- the run hit none of the scanner's own limits -/
def LimitFree (r : Option ScanErr) : Prop := r ≠ some .tooLong ∧ r ≠ some .noProgress ∧ r ≠ some .badRead

/-- the reader did not misbehave: the run hit neither the empty-read limit nor a bad read count -/
def NoStall (r : Option ScanErr) : Prop := r ≠ some .noProgress ∧ r ≠ some .badRead

theorem LimitFree.noStall {r : Option ScanErr} (h : LimitFree r) : NoStall r := ⟨h.2.1, h.2.2⟩

theorem noStall_finalErr (e : End) (b : Bool) : NoStall (finalErr e b) := by
  cases e <;> cases b <;> exact ⟨nofun, nofun⟩

theorem noStall_tooLong : NoStall (some .tooLong) := ⟨nofun, nofun⟩

/-- Unless the reader misbehaves (100 empty reads, a bad read
    count), the tokens are those of the end-of-input run over all the bytes — for every schedule —
    and the error is either the one that run gives (`finalErr`), or `bufio.ErrTooLong` reported by
    the split function before the end of the stream was seen (then that run is too long as well). -/
theorem scan_full (p : List UInt8) (cs : List (List UInt8)) (e : End) (k : Nat)
    (hno : NoStall (scan true p cs e k).2) :
    (scan true p cs e k).1 = (drainL true (p ++ cs.flatten)).1 ∧
    ((scan true p cs e k).2 = finalErr e (drainL true (p ++ cs.flatten)).2 ∨
      ((drainL true (p ++ cs.flatten)).2 = true ∧ (scan true p cs e k).2 = some .tooLong)) := by
  induction p, cs, k using scan_induct (f := true) with
  | nil p k => rw [scan_nil, flatten_nil, append_nil]; exact ⟨rfl, .inl rfl⟩
  | long p c cs k _ hl =>
    rw [scan_long hl, drainL_long (lineTooLong_append _ hl)]; exact ⟨rfl, .inr ⟨rfl, rfl⟩⟩
  | tok p c cs k adv t hl hs ih =>
    -- the token and the too-long test are the same on all the bytes as on the pending ones
    have ⟨hst, hle⟩ := splitLine_tok_stable hs (c :: cs).flatten true
    have hl2 : (true && lineTooLong (p ++ (c :: cs).flatten)) = false := by
      rw [lineTooLong_append_of_eol _ (tok_noeof_has_eol hs)]; exact hl
    rw [scan_tok hl hs] at hno ⊢
    rw [drainL_tok hl2 hst, drop_append_of_le_length hle]
    exact ⟨congrArg (t :: ·) (ih hno).1, (ih hno).2⟩
  | more p c cs k hl hs ih1 ih2 =>
    rw [scan_more hl hs, if_neg (Nat.not_le.mpr (more_lt_bufSize hl hs))] at hno ⊢
    cases c with
    | nil =>
      rw [if_pos (show ([] : List UInt8).isEmpty = true from rfl)] at hno ⊢
      split at hno
      · exact absurd rfl hno.1
      · rename_i h3; rw [if_neg h3]; exact ih1 hno
    | cons b c =>
      rw [if_neg nofun] at hno ⊢
      split at hno
      · exact absurd rfl hno.2
      · rename_i h4; rw [if_neg h4, flatten_cons, ← append_assoc]; exact ih2 hno

/-- the result as a function of the bytes, for any way the stream ends (`scan_bytes_eof`: at `io.EOF`) -/
theorem scan_bytes_gen (p : List UInt8) (cs : List (List UInt8)) (e : End) (k : Nat)
    (hno : NoStall (scan true p cs e k).2) :
    (scan true p cs e k).1 = linesBefore (p ++ cs.flatten) ∧
    ((scan true p cs e k).2 = finalErr e (firstLong (p ++ cs.flatten)) ∨
      (firstLong (p ++ cs.flatten) = true ∧ (scan true p cs e k).2 = some .tooLong)) := by
  have := scan_full p cs e k hno
  rwa [drainL_bytes] at this

theorem scan_bytes_eof (p : List UInt8) (cs : List (List UInt8)) (k : Nat)
    (hno : NoStall (scan true p cs .eof k).2) :
    scan true p cs .eof k =
      (linesBefore (p ++ cs.flatten), if firstLong (p ++ cs.flatten) then some .tooLong else none) := by
  obtain ⟨h1, h2⟩ := scan_bytes_gen p cs .eof k hno
  refine Prod.ext h1 ?_
  rcases h2 with h2 | ⟨hl, h2⟩
  · exact h2
  · rw [h2, hl]; rfl

/-- The same under the stronger hypothesis `LimitFree`: if the run hit neither the line-length limit nor the
    empty-read limit nor a bad read count, the error is the stream's own and the tokens are the
    lines of the delivered bytes (all of them when the stream ended with `io.EOF`; when it ended
    with a read error, those before a final over-long line that the read error masks). -/
theorem scan_spec (p : List UInt8) (cs : List (List UInt8)) (e : End) (k : Nat)
    (hno : LimitFree (scan true p cs e k).2) :
    scan true p cs e k = (linesBefore (p ++ cs.flatten), endErr e) := by
  obtain ⟨h1, h2⟩ := scan_bytes_gen p cs e k hno.noStall
  refine Prod.ext h1 ?_
  rcases h2 with h2 | ⟨_, h2⟩
  · cases e with
    | fault => exact h2
    | eof =>
      cases hf : firstLong (p ++ cs.flatten) with
      | false => rw [h2, hf]; rfl
      | true => rw [hf] at h2; exact absurd h2 hno.1
  · exact absurd h2 hno.1

theorem scan_spec_eof (p : List UInt8) (cs : List (List UInt8)) (k : Nat)
    (hno : LimitFree (scan true p cs .eof k).2) :
    scan true p cs .eof k = (drain true (p ++ cs.flatten), none) := by
  have h := scan_bytes_eof p cs k hno.noStall
  cases hf : firstLong (p ++ cs.flatten) with
  | true => rw [h, hf] at hno; exact absurd rfl hno.1
  | false => rw [h, hf, linesBefore_eq_of_not_long hf]; rfl

/-- A stream that ends in an error other than EOF always leaves the
    scanner with a non-nil error — whatever the schedule, the fault offset and the data. -/
theorem scan_fault (f : Bool) (p : List UInt8) (cs : List (List UInt8)) (k : Nat) :
    (scan f p cs .fault k).2 ≠ none := by
  induction p, cs, k using scan_induct (f := f) with
  | nil p k => rw [scan_nil]; nofun
  | long p c cs k hf hl => subst hf; rw [scan_long hl]; nofun
  | tok p c cs k adv t hl hs ih => rw [scan_tok hl hs]; exact ih
  | more p c cs k hl hs ih1 ih2 => exact scan_more_cases (P := fun r => r.2 ≠ none) hl hs nofun (fun _ => nofun) ih1 fun _ => ih2

/-- The split function's own error is never lost: when
    it is reported the scanner's error is not nil — `bufio.ErrTooLong`, or the error latched
    before it (`setErr` keeps the first). Here: a too-long pending line at any point of the run. -/
theorem scan_pending_long (p : List UInt8) (cs : List (List UInt8)) (e : End) (k : Nat)
    (hl : lineTooLong p = true) : (scan true p cs e k).2 = some .tooLong ∨ (e = .fault ∧ cs = []) := by
  cases cs with
  | nil =>
    cases e with
    | fault => right; exact ⟨rfl, rfl⟩
    | eof => left; rw [scan_nil, drainL_long hl]; rfl
  | cons c cs => left; rw [scan_long hl]

theorem drain_tok_len (f : Bool) (p : List UInt8) : ∀ t ∈ drain f p, t.length ≤ p.length := by
  induction p using drain_induct (f := f) with
  | nil => rw [drain_nil]; nofun
  | tok p adv tk hs ih =>
    rw [drain_tok hs]
    intro t ht
    rcases mem_cons.mp ht with rfl | ht
    · exact splitLine_tok_len hs
    · exact Nat.le_trans (ih t ht) (Nat.le_of_lt (drop_tok_lt hs))

/-- the repaired scanner never delivers a line of more than `maxLineSize` bytes — whatever the
    schedule, the pending bytes and the way the stream ends -/
theorem drainL_tok_le (p : List UInt8) : ∀ t ∈ (drainL true p).1, t.length ≤ maxLineSize := by
  rw [drainL_bytes]; exact mem_takeWhile_le maxLineSize (linesOf p)

theorem drainL_tok_len (f : Bool) (p : List UInt8) : ∀ t ∈ (drainL f p).1, t.length ≤ p.length := by
  intro t ht
  cases f with
  | false => rw [drainL_false] at ht; exact drain_tok_len false p t ht
  | true => rw [drainL_bytes] at ht; exact drain_tok_len true p t (takeWhile_subset _ ht)

/-- no token delivered by the scanner exceeds the buffer (pending data never exceeds `bufSize`) -/
theorem scan_tok_len (f : Bool) (p : List UInt8) (cs : List (List UInt8)) (e : End) (k : Nat)
    (hp : p.length ≤ bufSize f) : ∀ t ∈ (scan f p cs e k).1, t.length ≤ bufSize f := by
  have hd : ∀ p : List UInt8, p.length ≤ bufSize f → ∀ t ∈ (drainL f p).1, t.length ≤ bufSize f :=
    fun p hp t ht => Nat.le_trans (drainL_tok_len f p t ht) hp
  induction p, cs, k using scan_induct (f := f) with
  | nil p k => rw [scan_nil]; exact hd p hp
  | long p c cs k hf hl => subst hf; rw [scan_long hl]; nofun
  | tok p c cs k adv tk hl hs ih =>
    rw [scan_tok hl hs]
    intro t ht
    rcases mem_cons.mp ht with rfl | ht
    · exact Nat.le_trans (splitLine_tok_len hs) hp
    · exact ih (Nat.le_trans (Nat.le_of_lt (drop_tok_lt hs)) hp) t ht
  | more p c cs k hl hs ih1 ih2 =>
    exact scan_more_cases (P := fun r => ∀ t ∈ r.1, t.length ≤ bufSize f) hl hs nofun (fun _ => hd p hp)
      (ih1 hp) fun h4 => ih2 (by rwa [length_append])

theorem scan_tok_le (p : List UInt8) (cs : List (List UInt8)) (e : End) (k : Nat) :
    ∀ t ∈ (scan true p cs e k).1, t.length ≤ maxLineSize := by
  induction p, cs, k using scan_induct (f := true) with
  | nil p k => rw [scan_nil]; exact drainL_tok_le p
  | long p c cs k _ hl => rw [scan_long hl]; nofun
  | tok p c cs k adv tk hl hs ih =>
    rw [scan_tok hl hs]
    intro t ht
    rcases mem_cons.mp ht with rfl | ht
    · rw [splitLine_tok_fst hs]; exact Nat.not_lt.mp (of_decide_eq_false hl)
    · exact ih t ht
  | more p c cs k hl hs ih1 ih2 =>
    exact scan_more_cases (P := fun r => ∀ t ∈ r.1, t.length ≤ maxLineSize) hl hs nofun
      (fun _ => drainL_tok_le p) ih1 fun _ => ih2

theorem bufSize_pos (f : Bool) : 0 < bufSize f := by cases f <;> exact Nat.succ_pos _

theorem scan_start (f : Bool) (c : List UInt8) (cs : List (List UInt8)) (e : End) (k : Nat) :
    scan f [] (c :: cs) e k =
      if c.isEmpty then (if k + 1 > maxEmptyReads then ([], some .noProgress) else scan f [] cs e (k + 1))
      else if c.length > bufSize f then ([], some .badRead)
      else scan f c cs e 0 := by
  rw [scan_more (by rw [lineTooLong_nil, Bool.and_false]) (splitLine_nil_noeof f),
    if_neg (Nat.not_le.mpr (bufSize_pos f) : ¬ ([] : List UInt8).length ≥ bufSize f), drainL_nil, length_nil, Nat.zero_add, nil_append]

theorem scan_one_read (f : Bool) {c : List UInt8} (hne : c ≠ []) (hlen : c.length ≤ bufSize f) (e : End) :
    scan f [] [c] e 0 = ((drainL f c).1, finalErr e (drainL f c).2) := by
  rw [scan_start, if_neg (by rwa [isEmpty_iff]), if_neg (Nat.not_lt.mpr hlen), scan_nil]

/-- the end of the stream comes in a `Read` of its own: the bytes are pending when it is asked for -/
theorem scan_read_then_end (f : Bool) {c : List UInt8} (hne : c ≠ []) (hlen : c.length ≤ bufSize f) (e : End) :
    scan f [] [c, []] e 0 = scan f c [[]] e 0 := by
  rw [scan_start, if_neg (by rwa [isEmpty_iff]), if_neg (Nat.not_lt.mpr hlen)]

theorem scan_empty_read {f : Bool} {p : List UInt8} {cs : List (List UInt8)} {e : End} {k : Nat}
    (hl : (f && lineTooLong p) = false) (hs : splitLine f p false = .more) (hlen : p.length < bufSize f)
    (hk : k < maxEmptyReads) : scan f p ([] :: cs) e k = scan f p cs e (k + 1) := by
  rw [scan_more hl hs, if_neg (Nat.not_le.mpr hlen), if_pos (show ([] : List UInt8).isEmpty = true from rfl),
    if_neg (Nat.not_lt.mpr hk)]

/-- a reader that returns one byte per `Read` never runs into the scanner's checks on readers:
    with the repaired buffer of `maxLineSize + 2` bytes there is always room for it -/
theorem noStall_bytewise (p : List UInt8) (cs : List (List UInt8)) (e : End) (k : Nat)
    (h : ∀ c ∈ cs, c.length = 1) : NoStall (scan true p cs e k).2 := by
  induction p, cs, k using scan_induct (f := true) with
  | nil p k => rw [scan_nil]; exact noStall_finalErr _ _
  | long p c cs k _ hl => rw [scan_long hl]; exact noStall_tooLong
  | tok p c cs k adv t hl hs ih => rw [scan_tok hl hs]; exact ih h
  | more p c cs k hl hs _ ih2 =>
    have h1 := more_lt_bufSize hl hs
    have hc : c.length = 1 := h c mem_cons_self
    rw [scan_more hl hs, if_neg (Nat.not_le.mpr h1), if_neg (by rw [isEmpty_iff]; rintro rfl; cases hc),
      if_neg (by omega)]
    exact ih2 fun c' hc' => h c' (mem_cons_of_mem _ hc')

/-- a reader that returns the whole stream (at most the buffer's `maxLineSize + 2` bytes) in one
    `Read` — with or without `io.EOF` in the same call, see the header of `Go/Bufio.lean` -/
theorem noStall_one_read (bs : List UInt8) (e : End) (h : bs.length ≤ bufSize true) :
    NoStall (scan true [] [bs] e 0).2 := by
  rw [scan_start]
  split
  · rw [if_neg (by decide), scan_nil]; exact noStall_finalErr _ _
  · rw [if_neg (Nat.not_lt.mpr h), scan_nil]; exact noStall_finalErr _ _

/-! ### data without a line terminator, and `linesOf` one line at a time -/

def NoEOL (l : List UInt8) : Prop := ∀ b ∈ l, isEOL b = false

theorem noEOL_iff {l : List UInt8} : NoEOL l ↔ ∀ b ∈ l, b ≠ 10 ∧ b ≠ 13 := by
  simp [NoEOL, isEOL]

theorem NoEOL.nil : NoEOL [] := fun _ h => nomatch h

theorem breakEOL_noEOL {l : List UInt8} (h : NoEOL l) : breakEOL l = (l, []) := by
  induction l with
  | nil => rfl
  | cons b bs ih =>
    rw [breakEOL_cons, h b mem_cons_self, if_neg Bool.false_ne_true,
      ih fun c hc => h c (mem_cons_of_mem _ hc)]

theorem lineTooLong_of_noEOL {l : List UInt8} (h : NoEOL l) (hlen : maxLineSize < l.length) :
    lineTooLong l = true := by
  rw [lineTooLong, breakEOL_noEOL h]; exact decide_eq_true hlen

theorem lineTooLong_append_of_noEOL {l : List UInt8} (x : List UInt8) (h : NoEOL l) (hlen : maxLineSize < l.length) :
    lineTooLong (l ++ x) = true :=
  lineTooLong_append x (lineTooLong_of_noEOL h hlen)

theorem noEOL_replicate (n : Nat) {b : UInt8} (hb : isEOL b = false) : NoEOL (List.replicate n b) :=
  fun _ h => List.eq_of_mem_replicate h ▸ hb

theorem splitLine_noEOL_more {l : List UInt8} (f : Bool) (h : NoEOL l) : splitLine f l false = .more := by
  rw [splitLine_noEOL (breakEOL_noEOL h)]; rfl

theorem splitLine_noEOL_eof {l : List UInt8} (f : Bool) (h : NoEOL l) (hne : l ≠ []) :
    splitLine f l true = .tok l.length l := by
  rw [splitLine_noEOL (breakEOL_noEOL h), if_pos rfl, if_neg (by rwa [isEmpty_iff])]

theorem drainL_one_line {l : List UInt8} (f : Bool) (h : NoEOL l) (hne : l ≠ [])
    (hl : (f && lineTooLong l) = false) : drainL f l = ([l], false) := by
  rw [drainL_tok hl (splitLine_noEOL_eof f h hne), drop_length, drainL_nil]

theorem lineTooLong_noEOL_false {l : List UInt8} (h : NoEOL l) (hlen : l.length ≤ maxLineSize) :
    lineTooLong l = false := by
  rw [lineTooLong, breakEOL_noEOL h]; exact decide_eq_false (Nat.not_lt.mpr hlen)

theorem drainL_noEOL {l : List UInt8} (f : Bool) (h : NoEOL l) (hne : l ≠ []) (hlen : l.length ≤ maxLineSize) :
    drainL f l = ([l], false) :=
  drainL_one_line f h hne (by rw [lineTooLong_noEOL_false h hlen, Bool.and_false])

theorem breakEOL_append_eol {p : List UInt8} (hp : NoEOL p) {b : UInt8} (hb : isEOL b = true)
    (rest : List UInt8) : breakEOL (p ++ b :: rest) = (p, b :: rest) := by
  induction p with
  | nil => rw [nil_append, breakEOL_cons, if_pos hb]
  | cons c cs ih =>
    rw [cons_append, breakEOL_cons, hp c mem_cons_self, if_neg Bool.false_ne_true,
      ih fun x hx => hp x (mem_cons_of_mem _ hx)]

/-- the first line ends at the first CR/LF; CR LF counts as one terminator -/
theorem linesOf_append_eol {p : List UInt8} (hp : NoEOL p) {b : UInt8} (hb : isEOL b = true)
    (rest : List UInt8) :
    linesOf (p ++ b :: rest) =
      p :: linesOf (if b = 13 ∧ rest.head? = some 10 then rest.drop 1 else rest) := by
  have hbr := breakEOL_append_eol hp hb rest
  have hs : ∃ adv, splitLine true (p ++ b :: rest) true = .tok adv p ∧
      (p ++ b :: rest).drop adv = if b = 13 ∧ rest.head? = some 10 then rest.drop 1 else rest := by
    have hb' : b = 10 ∨ b = 13 := by simpa [isEOL] using hb
    cases rest with
    | nil =>
      refine ⟨p.length + 1, ?_, by simp⟩
      rw [splitLine_eol_last hbr, Bool.not_true, Bool.and_false, Bool.not_false, Bool.or_true, if_pos rfl]
    | cons c r =>
      refine ⟨_, splitLine_eol_next hbr true true, ?_⟩
      rcases hb' with rfl | rfl
      · simp
      · by_cases hc : c = 10 <;> simp [hc]
  obtain ⟨adv, h1, h2⟩ := hs
  rw [linesOf_cons h1, hbr, h2]

theorem linesOf_lf {p : List UInt8} (hp : NoEOL p) (rest : List UInt8) :
    linesOf (p ++ 10 :: rest) = p :: linesOf rest := by
  rw [linesOf_append_eol hp rfl, if_neg fun e => absurd e.1 (by decide)]

theorem linesOf_crlf {p : List UInt8} (hp : NoEOL p) (rest : List UInt8) :
    linesOf (p ++ 13 :: 10 :: rest) = p :: linesOf rest := by
  rw [linesOf_append_eol hp rfl, if_pos ⟨rfl, rfl⟩]; rfl

theorem linesOf_cr {p : List UInt8} (hp : NoEOL p) {rest : List UInt8} (h : rest.head? ≠ some 10) :
    linesOf (p ++ 13 :: rest) = p :: linesOf rest := by
  rw [linesOf_append_eol hp rfl, if_neg fun e => h e.2]

theorem linesOf_noEOL {p : List UInt8} (hp : NoEOL p) (hne : p ≠ []) : linesOf p = [p] := by
  rw [linesOf_cons (splitLine_noEOL_eof true hp hne), breakEOL_noEOL hp, drop_length, linesOf_empty]

end Go
end Astisub
