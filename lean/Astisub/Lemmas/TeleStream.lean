import Astisub.Lemmas.TelePage
import Astisub.Lemmas.MapMOpt

/-!
# Lemmas/TeleStream — data units, PES packets and whole streams

`unitLoop` (the loop of `teletextPageBuffer.process`) visits exactly the `(id, bytes)` units `Spec.Teletext.dataUnits` cuts out
of a data field, and only subtitle units (id 3, at least 44 bytes, framing code 0xe4) can change the page buffer; so
`process` on a PES payload the specification can cut and decode is `applyPacket` folded over the specification's packets.
Over a whole stream the model's accumulator and the specification's automaton stay related (`ARel`), so `finish` starts
from the specification's instances, time origin and character set designation.
-/

namespace Astisub
namespace Teletext
open Go Generated.Teletext

/-- a data unit as the specification returns it: identifier, bytes -/
abbrev DUnit := Nat × List Nat

/-- the bytes of a data unit in a PES data field: identifier, length, bytes -/
def encodeUnit (u : DUnit) : List Nat := u.1 :: u.2.length :: u.2

def encodeUnits (us : List DUnit) : List Nat := us.flatMap encodeUnit

def feedUnits (t : Int) (b : Buf) (us : List DUnit) : Buf :=
  us.foldl (fun b u => parseDataUnit b u.2 u.1 t) b

/-- a unit the packet parser gets to see: EBU subtitle data (id 3), a whole teletext packet, framing code 0xe4 -/
def isSubtitleUnit (u : DUnit) : Bool := u.1 == 3 && decide (44 ≤ u.2.length) && nth u.2 1 == 0xe4

theorem encodeUnits_cons (u : DUnit) (us : List DUnit) :
    encodeUnits (u :: us) = u.1 :: u.2.length :: (u.2 ++ encodeUnits us) := by
  simp [encodeUnits, encodeUnit]

theorem encodeUnits_length_cons (u : DUnit) (us : List DUnit) :
    (encodeUnits (u :: us)).length = 2 + u.2.length + (encodeUnits us).length := by
  rw [encodeUnits_cons]; simp; omega

theorem dataUnits_encodeUnits : ∀ (us : List DUnit) (fuel : Nat), (encodeUnits us).length ≤ fuel →
    Spec.Teletext.dataUnits fuel (encodeUnits us) = some us
  | [], fuel, _ => by simp [encodeUnits, Spec.Teletext.dataUnits]
  | u :: us, 0, h => by rw [encodeUnits_length_cons] at h; omega
  | u :: us, fuel + 1, h => by
    rw [encodeUnits_length_cons] at h
    rw [encodeUnits_cons, Spec.Teletext.dataUnits]
    have hl : ¬ (u.2 ++ encodeUnits us).length < u.2.length := by simp
    rw [if_neg hl, List.drop_left, dataUnits_encodeUnits us fuel (by omega), List.take_left]
    rfl

theorem dataUnits_spec : ∀ (fuel : Nat) (data : List Nat) (us : List DUnit), Spec.Teletext.dataUnits fuel data = some us →
    data = encodeUnits us ∧ ∀ b t, unitLoop fuel b data t = feedUnits t b us
  | fuel, [], us, h => by
    cases fuel <;> simp [Spec.Teletext.dataUnits] at h <;> subst h <;> exact ⟨rfl, fun _ _ => by simp [unitLoop, feedUnits]⟩
  | 0, _ :: _, us, h => by simp [Spec.Teletext.dataUnits] at h
  | fuel + 1, [_], us, h => by simp [Spec.Teletext.dataUnits] at h
  | fuel + 1, id :: len :: rest, us, h => by
    rw [Spec.Teletext.dataUnits] at h
    by_cases hl : rest.length < len
    · simp [hl] at h
    · rw [if_neg hl] at h
      cases hr : Spec.Teletext.dataUnits fuel (rest.drop len) with
      | none => simp [hr] at h
      | some us' =>
        simp [hr] at h
        subst h
        obtain ⟨ih1, ih2⟩ := dataUnits_spec fuel _ us' hr
        have hlen : (rest.take len).length = len := by simp; omega
        refine ⟨by rw [encodeUnits_cons]; simp only [hlen, ← ih1, List.take_append_drop], fun b t => ?_⟩
        rw [unitLoop, if_neg (by omega), ih2]
        simp [feedUnits]

theorem dataUnits_some (fuel : Nat) (data : List Nat) (us : List DUnit) (h : Spec.Teletext.dataUnits fuel data = some us) :
    data = encodeUnits us := (dataUnits_spec fuel data us h).1

theorem unitLoop_dataUnits (fuel : Nat) (b : Buf) (data : List Nat) (t : Int) (us : List DUnit)
    (h : Spec.Teletext.dataUnits fuel data = some us) : unitLoop fuel b data t = feedUnits t b us :=
  (dataUnits_spec fuel data us h).2 b t

theorem parseDataUnit_not_subtitle (b : Buf) (u : DUnit) (t : Int) (h : isSubtitleUnit u = false) :
    parseDataUnit b u.2 u.1 t = b := by
  by_cases h1 : u.1 = 3
  · by_cases h2 : u.2.length < 44
    · exact C06.C06_unit_short b _ _ t h2
    · have h3 : nth u.2 1 ≠ 0xe4 := by
        intro h3
        simp [isSubtitleUnit, h1, h3] at h
        omega
      exact C06.C06_unit_framing b _ _ t h3
  · exact C06.C06_unit_not_subtitle b _ _ t h1

theorem feedUnits_filter (t : Int) : ∀ (us : List DUnit) (b : Buf),
    feedUnits t b us = feedUnits t b (us.filter isSubtitleUnit)
  | [], b => rfl
  | u :: us, b => by
    cases h : isSubtitleUnit u
    · have := parseDataUnit_not_subtitle b u t h
      simp only [feedUnits, List.foldl_cons, List.filter_cons, h] at *
      rw [this]; exact feedUnits_filter t us b
    · simp only [feedUnits, List.foldl_cons, List.filter_cons, h] at *
      exact feedUnits_filter t us _

theorem feedUnits_append (t : Int) (b : Buf) (us vs : List DUnit) :
    feedUnits t b (us ++ vs) = feedUnits t (feedUnits t b us) vs := by
  simp [feedUnits]

theorem process_dataUnits (b : Buf) (ident : Nat) (rest : List Nat) (t : Int) (us : List DUnit)
    (hid : 0x10 ≤ ident ∧ ident ≤ 0x1f) (h : Spec.Teletext.dataUnits rest.length rest = some us) :
    process b (ident :: rest) t =
      ({ feedUnits t b us with done := [] }, (feedUnits t b us).done) := by
  have : (decide (0x10 ≤ ident) && decide (ident ≤ 0x1f)) = true := by simp [hid.1, hid.2]
  simp only [process, this, Bool.not_true]
  rw [unitLoop_dataUnits _ b rest t us h]
  simp

open Spec.Teletext (Packet Inst St)

theorem mapM_nil {α β} (f : α → Option β) : Spec.Teletext.mapM f [] = some [] := rfl

theorem feedUnits_packets (t : Int) : ∀ (us : List DUnit) (ps : List Packet) (b : Buf),
    (∀ u ∈ us, Bytes u.2) →
    Spec.Teletext.mapM (fun (u : Nat × List Nat) => Spec.Teletext.decodePacket u.2) (us.filter fun u => u.1 == 0x03) = some ps →
    feedUnits t b us = ps.foldl (applyPacket t) b
  | [], ps, b, _, h => by
    simp [mapM_nil] at h; subst h; rfl
  | u :: us, ps, b, hb, h => by
    by_cases h3 : u.1 = 3
    · have hf : (u :: us).filter (fun u => u.1 == 0x03) = u :: us.filter (fun u => u.1 == 0x03) := by
        simp [h3]
      rw [hf] at h
      obtain ⟨p, ps', hp, hps, e⟩ := Spec.Teletext.isMapM.cons_inv h
      subst e
      have hu : parseDataUnit b u.2 u.1 t = applyPacket t b p := by
        rw [h3]; exact parseDataUnit_decodePacket b u.2 t p (hb u (by simp)) hp
      simp only [feedUnits, List.foldl_cons, hu]
      exact feedUnits_packets t us ps' _ (fun v hv => hb v (by simp [hv])) hps
    · have hf : (u :: us).filter (fun u => u.1 == 0x03) = us.filter (fun u => u.1 == 0x03) := by
        simp [h3]
      rw [hf] at h
      have hu : parseDataUnit b u.2 u.1 t = b := C06.C06_unit_not_subtitle b _ _ t h3
      simp only [feedUnits, List.foldl_cons, hu]
      exact feedUnits_packets t us ps b (fun v hv => hb v (by simp [hv])) h

theorem bytes_of_units (us : List DUnit) (h : Bytes (encodeUnits us)) : ∀ u ∈ us, Bytes u.2 :=
  fun u hu x hx => h x (List.mem_flatMap.mpr ⟨u, hu, by simp [encodeUnit, hx]⟩)

theorem process_pesPackets (b : Buf) (payload : List Nat) (t : Int) (ps : List Packet) (hb : Bytes payload)
    (hdone : b.done = [])
    (h : Spec.Teletext.pesPackets payload = some ps) :
    process b payload t = ({ ps.foldl (applyPacket t) b with done := [] }, (ps.foldl (applyPacket t) b).done) := by
  cases payload with
  | nil => simp [Spec.Teletext.pesPackets] at h
  | cons ident rest =>
    simp only [Spec.Teletext.pesPackets] at h
    by_cases hid : ident < 0x10 ∨ ident > 0x1f
    · have : (decide (ident < 0x10) || decide (ident > 0x1f)) = true := by rcases hid with e | e <;> simp [e]
      simp only [this, if_true, Option.some.injEq] at h
      subst h
      rw [C06.C06_not_ebu b ident rest t hid]
      simp only [List.foldl_nil, hdone]
      cases b; simp_all
    · have : (decide (ident < 0x10) || decide (ident > 0x1f)) = false := by simp; omega
      simp only [this, Bool.false_eq_true, if_false] at h
      cases hu : Spec.Teletext.dataUnits rest.length rest with
      | none => simp [hu] at h
      | some us =>
        simp only [hu] at h
        have hrest : Bytes rest := fun x hx => hb x (by simp [hx])
        have henc := dataUnits_some _ _ _ hu
        rw [process_dataUnits b ident rest t us (by omega) hu,
          feedUnits_packets t us ps b (bytes_of_units us (henc ▸ hrest)) h]

theorem pesPackets_mem (payload : List Nat) (ps : List Packet) (h : Spec.Teletext.pesPackets payload = some ps) :
    ∀ p ∈ ps, ∃ f, Spec.Teletext.decodePacket f = some p := by
  cases payload with
  | nil => simp [Spec.Teletext.pesPackets] at h
  | cons ident rest =>
    simp only [Spec.Teletext.pesPackets] at h
    split at h
    · cases h; intro p hp; cases hp
    · split at h
      · cases h
      · intro p hp
        obtain ⟨u, _, hu⟩ := Spec.Teletext.isMapM.mem h hp
        exact ⟨u.2, hu⟩

theorem pesPackets_ok (payload : List Nat) (ps : List Packet) (h : Spec.Teletext.pesPackets payload = some ps) :
    ∀ p ∈ ps, PacketOK p := fun p hp =>
  let ⟨f, hf⟩ := pesPackets_mem payload ps h p hp
  decodePacket_ok f p hf

/-- the model's accumulator after the PES packets (the data loop of `VerifTeletextRun`) -/
def runAcc (a : Acc) (pes : List (Int × List Nat)) : Acc := pes.foldl (fun a p => feed a p.2 p.1) a

def runSpec (s : St) (pk : List (Int × List Packet)) : St :=
  pk.foldl (fun s p => p.2.foldl (Spec.Teletext.step p.1) s) s

/-- model and specification between two PES packets -/
structure ARel (a : Acc) (s : St) : Prop where
  rel : PRel a.pages a.buf s
  done : a.buf.done = []

theorem runSpec_bad (pk : List (Int × List Packet)) (s : St) (h : s.bad = true) : (runSpec s pk).bad = true :=
  foldl_inv (·.bad = true) _ pk s h (fun s p _ hs => foldl_step_bad p.1 p.2 s hs)

theorem ARel.feed {a : Acc} {s : St} (h : ARel a s) (t : Int) (payload : List Nat) (ps : List Packet)
    (hb : Bytes payload) (hp : Spec.Teletext.pesPackets payload = some ps) :
    (ps.foldl (Spec.Teletext.step t) s).bad = true ∨ ARel (feed a payload t) (ps.foldl (Spec.Teletext.step t) s) := by
  rcases PRel.foldl t ps h.rel (pesPackets_ok payload ps hp) with hbad | hr
  · exact Or.inl hbad
  · right
    have hproc := process_pesPackets a.buf payload t ps hb h.done hp
    unfold Teletext.feed
    rw [hproc]
    refine ⟨⟨hr.sel.congr rfl rfl rfl rfl, hr.recv, hr.cur, ?_, hr.keys⟩, rfl⟩
    simp only [List.append_nil]
    exact hr.done

theorem stream_sim : ∀ (pes : List (Int × List Nat)) (pk : List (Int × List Packet)) (a : Acc) (s : St), ARel a s →
    (∀ p ∈ pes, Bytes p.2) →
    Spec.Teletext.mapM (fun (p : Int × List Nat) => (Spec.Teletext.pesPackets p.2).map fun ps => (p.1, ps)) pes = some pk →
    (runSpec s pk).bad = true ∨ ARel (runAcc a pes) (runSpec s pk)
  | [], pk, a, s, h, _, hpk => by
    simp [mapM_nil] at hpk; subst hpk; exact Or.inr h
  | p :: pes, pk, a, s, h, hb, hpk => by
    obtain ⟨q, pk', hq, hpk', e⟩ := Spec.Teletext.isMapM.cons_inv hpk
    subst e
    cases hps : Spec.Teletext.pesPackets p.2 with
    | none => simp [hps] at hq
    | some ps =>
      simp [hps] at hq
      subst hq
      simp only [runSpec, runAcc, List.foldl_cons]
      rcases h.feed p.1 p.2 ps (hb p (by simp)) hps with hbad | hr
      · exact Or.inl (runSpec_bad pk' _ hbad)
      · exact stream_sim pes pk' _ _ hr (fun r hr => hb r (by simp [hr])) hpk'

/-- `newBuf` keeps the magazine modulo 256, so from 25600 on the model selects another page than the specification (25600 itself
    reads as 0, automatic selection) -/
theorem ARel.init (page : Nat) (hp : page < 25600) : ARel { buf := newBuf page } { sel := Spec.Teletext.selOf page } := by
  refine ⟨⟨?_, rfl, rfl, rfl, ?_⟩, rfl⟩
  · by_cases h0 : page = 0
    · subst h0; left; exact ⟨rfl, rfl, rfl, rfl⟩
    · exact Selected.rel (m := page / 100) (pt := page / 10 % 10) (pu := page % 10)
        { sel := by simp [Spec.Teletext.selOf, h0], tens := by omega, units := by omega,
          mag := show page / 100 % 256 = page / 100 by omega,
          page := show page % 100 = page / 10 % 10 * 10 + page % 10 by omega, ne := by omega }
  · unfold KRel
    refine ⟨fun t ht => ?_, fun t ht => ?_, fun h => absurd rfl h⟩
    · exact absurd ht (by simp [newBuf])
    · exact absurd ht (by simp [newBuf])

/-- the pages `finish` hands to the page parser: the finished ones, then the one under construction ending at `last` -/
def finalPages (a : Acc) : List Page :=
  a.pages ++ (match a.buf.current with
    | some p => [{ p with end_ := a.last.getD 0 }]
    | none => [])

/-- the instances the specification turns into cues -/
def finalInsts (s : St) (last : Int) : List (Inst × Int) :=
  s.done ++ (match s.cur with | some i => [(i, last)] | none => [])

theorem finish_eq (a : Acc) :
    finish a = { items := ((finalPages a).foldl (parsePage (tripletOf a.buf.x28 a.buf.m29) (a.first.getD 0)) ({}, [])).2 } := rfl

theorem finish_pages (a : Acc) (s : St) (h : ARel a s) :
    finalPages a = (finalInsts s (a.last.getD 0)).map fun ie => pageOf ie.1 ie.2 := by
  unfold finalPages finalInsts
  have hd := h.rel.done
  rw [h.done, List.append_nil] at hd
  rw [List.map_append, ← hd, h.rel.cur]
  cases s.cur <;> rfl

theorem key_agrees (a : Acc) (s : St) (h : ARel a s) (hk : s.keys.any (· != s.keys.headD 0) = false) :
    keyOf (tripletOf a.buf.x28 a.buf.m29) = s.keys.headD 0 := by
  obtain ⟨k1, k2, k3⟩ := h.rel.keys
  have hall : ∀ k ∈ s.keys, k = s.keys.headD 0 := by
    intro k hkm
    have := List.any_eq_false.mp hk k hkm
    simpa using this
  unfold tripletOf
  cases hx : a.buf.x28 with
  | some t => simp only [Option.orElse, Option.getD]; exact hall _ (k1 t hx)
  | none =>
    cases hm : a.buf.m29 with
    | some t => simp only [Option.orElse, Option.getD]; exact hall _ (k2 t hm)
    | none =>
      have : s.keys = [] := by
        cases hkeys : s.keys with
        | nil => rfl
        | cons k ks =>
          have := k3 (by rw [hkeys]; simp)
          simp [hx, hm] at this
      simp only [Option.orElse, Option.getD, this, List.headD]
      decide

theorem feed_first (a : Acc) (payload : List Nat) (t : Int) :
    (feed a payload t).first = some (match a.first with | none => t | some f => min f t) := by
  unfold feed
  cases a.first with
  | none => rfl
  | some f => simp only [Option.some.injEq, Int.min_def]; split <;> split <;> omega

theorem feed_last (a : Acc) (payload : List Nat) (t : Int) :
    (feed a payload t).last = some (match a.last with | none => t | some f => max f t) := by
  unfold feed
  cases a.last with
  | none => rfl
  | some f => simp only [Option.some.injEq, Int.max_def]; split <;> split <;> omega

theorem runAcc_first_last : ∀ (pes : List (Int × List Nat)) (a : Acc) (f l : Int), a.first = some f → a.last = some l →
    (runAcc a pes).first = some ((pes.map (·.1)).foldl min f) ∧ (runAcc a pes).last = some ((pes.map (·.1)).foldl max l)
  | [], a, f, l, hf, hl => ⟨hf, hl⟩
  | p :: pes, a, f, l, hf, hl => by
    simp only [runAcc, List.foldl_cons, List.map_cons]
    exact runAcc_first_last pes _ (min f p.1) (max l p.1) (by rw [feed_first, hf]) (by rw [feed_last, hl])

theorem first_last (page : Nat) (t0 : Int) (d0 : List Nat) (pes : List (Int × List Nat)) :
    (runAcc { buf := newBuf page } ((t0, d0) :: pes)).first = some ((pes.map (·.1)).foldl min t0) ∧
    (runAcc { buf := newBuf page } ((t0, d0) :: pes)).last = some ((pes.map (·.1)).foldl max t0) := by
  simp only [runAcc, List.foldl_cons]
  exact runAcc_first_last pes _ t0 t0 (by rw [feed_first]) (by rw [feed_last])

theorem runPES_eq (page : Nat) (pes : List (Int × List Nat)) : runPES page pes = finish (runAcc { buf := newBuf page } pes) := rfl

end Teletext
end Astisub
