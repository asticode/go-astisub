import Astisub.Lemmas.SSAStr
import Astisub.Props.C04

/-!
# Lemmas/SSAEvent — one `Dialogue` row: `ssaEvent.string` read back by `newSSAEventFromString`

`eventField` column by column; an event whose cells survive a comma-separated row (`EventCells`: times below 100 h
`TimeOK`, 64-bit integers, comma-free `Style`/`Name`/`Effect`) is read back from its row as `Event.norm` of it, which
is idempotent; no character outside the cells' alphabets is in a cell before `Text` (`Event.pre_not_mem`).
-/

namespace Astisub
namespace SSA
open Go List

theorem eventField_layer (e : Event) (i : Str) :
    eventField e "Layer".toList i = (atoi i).map fun v => { e with layer := some v } := by
  simp [eventField]

theorem eventField_marked (e : Event) (i : Str) :
    eventField e "Marked".toList i = some { e with marked := some (i = "Marked=1".toList) } := by
  simp [eventField]

theorem eventField_start (e : Event) (i : Str) :
    eventField e "Start".toList i = (Duration.parseSSA i).map fun d => { e with startAt := d } := by
  simp [eventField]

theorem eventField_end (e : Event) (i : Str) :
    eventField e "End".toList i = (Duration.parseSSA i).map fun d => { e with endAt := d } := by
  simp [eventField]

theorem eventField_style (e : Event) (i : Str) :
    eventField e "Style".toList i
      = some { e with style := if i = "*Default".toList then "Default".toList else i } := by
  -- `simp [eventField]`, as for the other columns, runs out of heartbeats here: the tests in front of `Style` are decided one by one
  unfold eventField
  rw [if_neg (by decide_vector), if_neg (by decide_vector), if_neg (by decide_vector), if_neg (by decide_vector), if_neg (by decide_vector),
    if_neg (by decide_vector), if_neg (by decide_vector), if_neg (by decide_vector), if_pos rfl]

theorem eventField_name (e : Event) (i : Str) : eventField e "Name".toList i = some { e with name := i } := by
  simp [eventField]

theorem eventField_marginL (e : Event) (i : Str) :
    eventField e "MarginL".toList i = (atoi i).map fun v => { e with marginL := some v } := by
  simp [eventField]

theorem eventField_marginR (e : Event) (i : Str) :
    eventField e "MarginR".toList i = (atoi i).map fun v => { e with marginR := some v } := by
  simp [eventField]

theorem eventField_marginV (e : Event) (i : Str) :
    eventField e "MarginV".toList i = (atoi i).map fun v => { e with marginV := some v } := by
  simp [eventField]

theorem eventField_effect (e : Event) (i : Str) : eventField e "Effect".toList i = some { e with effect := i } := by
  simp [eventField]

theorem eventField_text (e : Event) (i : Str) : eventField e "Text".toList i = some { e with text := trimSpace i } := by
  simp [eventField]

theorem numChar_formatSSA (t : Int) (h0 : 0 ≤ t) (h1 : t < 360000000000000) : ∀ c ∈ Duration.formatSSA t, numChar c = true := by
  obtain ⟨h, m, s, f, hh, hm, hs, hf, hfmt, _⟩ := C16.format_shape2 t '.' h0 h1
  unfold Duration.formatSSA
  rw [hfmt]
  intro c hc
  simp only [C16.canon2, mem_append, mem_cons] at hc
  rcases hc with ((hc | rfl | hc) | rfl | hc) | rfl | hc
  · exact (digitStr_dd hh).numChar c hc
  · decide
  · exact (digitStr_dd (by omega)).numChar c hc
  · decide
  · exact (digitStr_dd (by omega)).numChar c hc
  · decide
  · exact (digitStr_dd hf).numChar c hc

/-- an instant the `HH:MM:SS.cc` layout can hold (below 100 h) -/
def TimeOK (t : Int) : Prop := 0 ≤ t ∧ t < 360000000000000

instance (t : Int) : Decidable (TimeOK t) := inferInstanceAs (Decidable (0 ≤ t ∧ t < 360000000000000))

/-- an event every column of which survives being a cell of a comma-separated row: times below
    100 h, 64-bit integers, no comma in `Style`, `Name`, `Effect` (the last column `Text` may contain any) -/
structure EventCells (e : Event) : Prop where
  start : TimeOK e.startAt
  stop : TimeOK e.endAt
  layer : Int64 (e.layer.getD 0)
  marginL : Int64 (e.marginL.getD 0)
  marginR : Int64 (e.marginR.getD 0)
  marginV : Int64 (e.marginV.getD 0)
  style : ',' ∉ e.style
  name : ',' ∉ e.name
  effect : ',' ∉ e.effect

instance (e : Event) : Decidable (EventCells e) :=
  decidable_of_iff (TimeOK e.startAt ∧ TimeOK e.endAt ∧ Int64 (e.layer.getD 0) ∧ Int64 (e.marginL.getD 0) ∧
      Int64 (e.marginR.getD 0) ∧ Int64 (e.marginV.getD 0) ∧ ',' ∉ e.style ∧ ',' ∉ e.name ∧ ',' ∉ e.effect)
    ⟨fun ⟨a, b, c, d, e', f, g, h, i⟩ => ⟨a, b, c, d, e', f, g, h, i⟩,
     fun ⟨a, b, c, d, e', f, g, h, i⟩ => ⟨a, b, c, d, e', f, g, h, i⟩⟩

/-- what the reader makes of a written event: times truncated to the centisecond, the integer
    columns of the Format made explicit (an unset margin is written — and read — as 0),
    `Layer` only in v4+, `Marked` only in v4, `*Default` renamed, the text trimmed -/
def Event.norm (hdr : Str) (v4plus : Bool) (e : Event) : Event :=
  { category := hdr,
    startAt := e.startAt - e.startAt % 10000000,
    endAt := e.endAt - e.endAt % 10000000,
    layer := if v4plus then some (e.layer.getD 0) else none,
    marked := if v4plus then none else some (e.marked = some true),
    marginL := some (e.marginL.getD 0), marginR := some (e.marginR.getD 0), marginV := some (e.marginV.getD 0),
    name := e.name, effect := e.effect,
    style := if e.style = "*Default".toList then "Default".toList else e.style,
    text := trimSpace e.text }

/-- the cells before `Text` -/
def Event.pre (e : Event) (v4plus : Bool) : List Str :=
  [if v4plus then itoa (e.layer.getD 0) else (if e.marked = some true then "Marked=1".toList else "Marked=0".toList),
   Duration.formatSSA e.startAt, Duration.formatSSA e.endAt, e.style, e.name,
   itoa (e.marginL.getD 0), itoa (e.marginR.getD 0), itoa (e.marginV.getD 0), e.effect]

theorem Event.row_eq (e : Event) (v : Bool) : e.row v = join [','] (e.pre v ++ [e.text]) := rfl

theorem Event.pre_not_mem (e : Event) (v : Bool) (h : EventCells e) {c : Char} (hc : numChar c = false)
    (hm1 : c ∉ "Marked=1".toList) (hm0 : c ∉ "Marked=0".toList) (hs : c ∉ e.style) (hn : c ∉ e.name) (he : c ∉ e.effect) :
    ∀ p ∈ e.pre v, c ∉ p := by
  intro p hp
  simp only [Event.pre, mem_cons, not_mem_nil, or_false] at hp
  rcases hp with rfl | rfl | rfl | rfl | rfl | rfl | rfl | rfl | rfl
  · cases v
    · intro hx
      by_cases hk : e.marked = some true <;> simp only [Bool.false_eq_true, ↓reduceIte, hk] at hx
      · exact hm1 hx
      · exact hm0 hx
    · exact numChar_not_mem (numChar_itoa _) hc
  · exact numChar_not_mem (numChar_formatSSA _ h.start.1 h.start.2) hc
  · exact numChar_not_mem (numChar_formatSSA _ h.stop.1 h.stop.2) hc
  · exact hs
  · exact hn
  · exact numChar_not_mem (numChar_itoa _) hc
  · exact numChar_not_mem (numChar_itoa _) hc
  · exact numChar_not_mem (numChar_itoa _) hc
  · exact he

theorem Event.pre_noComma (e : Event) (v : Bool) (h : EventCells e) : ∀ p ∈ e.pre v, ',' ∉ p :=
  Event.pre_not_mem e v h rfl (by decide_vector) (by decide_vector) h.style h.name h.effect

theorem Event.cells (e : Event) (v : Bool) (h : EventCells e) :
    absorb 10 (splitC ',' (e.row v)) = e.pre v ++ [e.text] ∧ 10 ≤ (splitC ',' (e.row v)).length := by
  have hp := Event.pre_noComma e v h
  constructor
  · exact C04.row_cells (e.pre v) e.text hp
  · rw [Event.row_eq, C04.splitC_row _ _ hp, length_append]
    have : (splitC ',' e.text).length ≠ 0 := fun h0 => Go.splitC_ne_nil _ _ (length_eq_zero_iff.mp h0)
    have : (e.pre v).length = 9 := rfl
    omega

theorem marked_cell (m : Option Bool) :
    decide ((if m = some true then "Marked=1".toList else "Marked=0".toList) = "Marked=1".toList) = decide (m = some true) := by
  by_cases hb : m = some true
  · simp [hb]
  · rw [if_neg hb]; simp only [hb, decide_false]; decide

theorem eventRow_row (e : Event) (v : Bool) (hdr : Str) (h : EventCells e) :
    eventRow hdr (e.row v) (eventFormat v) = some (e.norm hdr v) := by
  obtain ⟨hc, hl⟩ := Event.cells e v h
  unfold eventRow
  rw [show (eventFormat v).length = 10 by cases v <;> rfl, if_neg (by omega), hc]
  cases v <;>
    simp only [eventFormat, Event.pre, Event.norm, cons_append, nil_append, zip_cons_cons, zip_nil_right, eventFields,
      eventField_layer, eventField_marked, eventField_start, eventField_end, eventField_style, eventField_name,
      eventField_marginL, eventField_marginR, eventField_marginV, eventField_effect, eventField_text,
      atoi_itoa _ h.layer, atoi_itoa _ h.marginL, atoi_itoa _ h.marginR, atoi_itoa _ h.marginV,
      C04.event_time _ h.start.1 h.start.2, C04.event_time _ h.stop.1 h.stop.2, Option.map_some, marked_cell,
      Bool.false_eq_true, ↓reduceIte]

theorem event_norm_idem (e : Event) (v4plus : Bool) (hdr : Str) :
    (e.norm hdr v4plus).norm hdr v4plus = e.norm hdr v4plus := by
  have ht : ∀ t : Int, (t - t % 10000000) - (t - t % 10000000) % 10000000 = t - t % 10000000 := by
    intro t; omega
  have hs : (if e.style = "*Default".toList then "Default".toList else e.style) ≠ "*Default".toList := by
    split
    · decide_vector
    · assumption
  cases v4plus
  · simp only [Event.norm, Event.mk.injEq, ht, if_neg hs, trimSpace_idem, Bool.false_eq_true, ↓reduceIte, Option.getD_some, true_and, and_true,
      Option.some.injEq, decide_eq_decide]
    cases e.marked with
    | none => decide
    | some b => cases b <;> decide
  · simp only [Event.norm, ht, if_neg hs, trimSpace_idem, ↓reduceIte, Option.getD_some]

theorem ev_keys_pairwise (a b c d e f : Option Str) :
    ([("SSAEffect", a), ("SSALayer", b), ("SSAMarginLeft", c), ("SSAMarginRight", d), ("SSAMarginVertical", e),
      ("SSAMarked", f)] : List (String × Option Str)).Pairwise (fun x y => x.1 ≠ y.1) := by
  simp [pairwise_cons]

theorem optBool_back (o : Option Bool) : (o.map boolStr).map (fun s => decide (s = "true".toList)) = o := by
  cases o with
  | none => rfl
  | some b => cases b <;> rfl

theorem textLines_ne_nil (t : Str) : textLines t ≠ [] := by
  unfold textLines Go.splitOn
  rw [show ("\\n".toList).isEmpty = false from rfl]
  simp only [Bool.false_eq_true, ↓reduceIte, ne_eq, map_eq_nil_iff]
  exact splitOnAux_ne_nil _ _ _ _

end SSA
end Astisub
