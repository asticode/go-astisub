import Astisub.Lemmas.OPSCut
import Astisub.Lemmas.OpsUnfragment

/-!
# Lemmas/OPSInverse — `Unfragment` re-assembles what `Fragment` cut

* `Run s e a ps`: `ps` are consecutive non-empty pieces with text `s` covering `[a, e)`.
* `cutAt_run`, `cut_run`: the pieces of one cue form a `Run` from its start to its end.
* `absorb_run`: the inner loop of `Unfragment`, started on a cue that ends where a `Run`
  begins, swallows exactly that run (whatever else is interleaved in the ordered list, as long
  as the other same-text cues start after the run's end).
* `unfragLoop_pieces`: the outer loop on any start-ordered arrangement of the pieces of `xs`
  returns one cue per original cue, with the original start, end, text and content.
-/

namespace Astisub
namespace OPS
open Ops Spec List

/-- what the inverse law compares: start, end, text and content (lines + payload), not the identity -/
def cueKey (it : Item) : Int × Int × String × (List (List String) × Nat) :=
  (it.startAt, it.endAt, it.str, it.content)

/-- consecutive non-empty pieces with text `s` covering `[a, e)` -/
def Run (s : String) (e : Int) : Int → List Item → Prop
  | a, [] => a = e
  | a, p :: ps => p.startAt = a ∧ a < p.endAt ∧ p.str = s ∧ Run s e p.endAt ps

theorem Run.le {s : String} {e : Int} : ∀ {a : Int} {ps : List Item}, Run s e a ps → a ≤ e
  | _, [], h => by simp only [Run] at h; omega
  | _, p :: ps, h => by
    obtain ⟨_, h2, _, h4⟩ := h
    have := Run.le h4
    omega

theorem Run.mem {s : String} {e : Int} : ∀ {a : Int} {ps : List Item}, Run s e a ps → ∀ p ∈ ps,
    a ≤ p.startAt ∧ p.startAt < p.endAt ∧ p.endAt ≤ e ∧ p.str = s
  | _, [], _, p, hp => by cases hp
  | a, q :: ps, h, p, hp => by
    obtain ⟨h1, h2, h3, h4⟩ := h
    rcases mem_cons.mp hp with rfl | hp
    · exact ⟨by omega, by omega, Run.le h4, h3⟩
    · have := Run.mem h4 p hp
      exact ⟨by omega, this.2.1, this.2.2.1, this.2.2.2⟩

theorem Run.mem_start_ge {s : String} {e a : Int} {ps : List Item} (h : Run s e a ps) {p : Item} (hp : p ∈ ps) :
    a ≤ p.startAt := (h.mem p hp).1

theorem Run.mem_str {s : String} {e a : Int} {ps : List Item} (h : Run s e a ps) {p : Item} (hp : p ∈ ps) :
    p.str = s := (h.mem p hp).2.2.2

theorem cutAt_run (it : Item) (bs : List Int) (h : Inside it.startAt it.endAt bs)
    (hpos : it.startAt < it.endAt) : Run it.str it.endAt it.startAt (cutAt it bs) := by
  induction bs generalizing it with
  | nil => exact ⟨rfl, hpos, rfl, rfl⟩
  | cons b bs ih =>
    exact ⟨rfl, (h.2 b mem_cons_self).1, rfl, ih { it with startAt := b } h.tail (h.2 b mem_cons_self).2⟩

theorem cut_run (f : Int) (hf : 0 < f) (it : Item) (hpos : it.startAt < it.endAt) :
    Run it.str it.endAt it.startAt (cut f it) := by
  rw [cut_eq_cutAt f hf]; exact cutAt_run it _ (multiplesIn_inside f hf _ _) hpos

/-- The inner loop of `Unfragment` swallows a run.  `cur` ends where the run `ps` begins; the
    ordered tail `T` consists of the run and of other cues `M`, each of which has another text or
    starts after the run's end `E`.  Then `cur` is extended to `E` and exactly `M` is left. -/
theorem absorb_run (s : String) (E : Int) (T : List Item) : ∀ (cur : Item) (ps M : List Item),
    cur.str = s → Run s E cur.endAt ps → StartOrdered T → T ~ ps ++ M →
    (∀ m ∈ M, m.str ≠ s ∨ E < m.startAt) →
    (absorb cur T).1 = { cur with endAt := E } ∧ (absorb cur T).2 ~ M := by
  intro cur
  induction cur, T using absorb_induct with
  | nil cur =>
    intro ps M _ hrun _ hp _
    obtain ⟨rfl, rfl⟩ := append_eq_nil_iff.mp hp.symm.eq_nil
    obtain rfl : cur.endAt = E := hrun
    exact ⟨rfl, Perm.refl _⟩
  | merge cur y T0 h1 h2 ih =>
    -- `y` is the head of the run
    intro ps M hstr hrun hs hp hM
    have hle : cur.endAt ≤ E := hrun.le
    have hyps : y ∈ ps := (mem_append.mp (hp.subset mem_cons_self)).resolve_right fun hm =>
      (hM y hm).elim (fun h => h (by rw [← h1, hstr])) (fun h => by omega)
    cases ps with
    | nil => cases hyps
    | cons p ps' =>
      obtain ⟨hp1, hp2, hp3, hp4⟩ := hrun
      obtain rfl : y = p := (mem_cons.mp hyps).resolve_right fun h => by
        have := hp4.mem_start_ge h; omega
      have hext : extend cur y = { cur with endAt := y.endAt } := by unfold extend; rw [if_pos hp2]
      rw [hext] at ih ⊢
      exact ih ps' M hstr hp4 (pairwise_cons.mp hs).2 (Perm.cons_inv hp) hM
  | stop cur y T0 h2 =>
    -- the run is exhausted
    intro ps M hstr hrun hs hp hM
    cases ps with
    | nil => obtain rfl : cur.endAt = E := hrun; exact ⟨rfl, hp⟩
    | cons p ps' =>
      have := hrun.1
      rcases mem_cons.mp (hp.symm.subset mem_cons_self) with rfl | hpm
      · omega
      · have := (pairwise_cons.mp hs).1 p hpm; omega
  | skip cur y T0 hne h2 ih =>
    intro ps M hstr hrun hs hp hM
    have hyM : y ∈ M := (mem_append.mp (hp.subset mem_cons_self)).resolve_left fun h =>
      hne (by rw [hstr, hrun.mem_str h])
    have hMe : M ~ y :: M.erase y := perm_cons_erase hyM
    have hp' : T0 ~ ps ++ M.erase y :=
      (hp.trans ((Perm.append_left ps hMe).trans perm_middle)).cons_inv
    have := ih ps (M.erase y) hstr hrun (pairwise_cons.mp hs).2 hp' fun m hm => hM m (mem_of_mem_erase hm)
    exact ⟨this.1, (Perm.cons y this.2).trans hMe.symm⟩

theorem not_touch_symm {a b : Item} (h : ¬ Touch a b) : ¬ Touch b a := by
  unfold Touch at *
  rintro ⟨h1, h2, h3⟩
  exact h ⟨h1.symm, h3, h2⟩

/-- hypotheses of the inverse law that do not depend on the order of the list -/
structure Separated (xs : List Item) : Prop where
  /-- every cue has positive length -/
  pos : ∀ it ∈ xs, it.startAt < it.endAt
  /-- no two cues (at distinct positions) have the same text and touching intervals -/
  apart : xs.Pairwise (fun a b => ¬ Touch a b)

theorem Separated.perm {xs ys : List Item} (h : Separated xs) (p : xs ~ ys) : Separated ys :=
  ⟨fun it hit => h.pos it (p.symm.subset hit),
   (Perm.pairwise_iff (fun h => not_touch_symm h) p).mp h.apart⟩

theorem Separated.tail {c : Item} {xs : List Item} (h : Separated (c :: xs)) : Separated xs :=
  ⟨fun it hit => h.pos it (mem_cons_of_mem _ hit), (pairwise_cons.mp h.apart).2⟩

/-- The outer loop of `Unfragment` on any start-ordered arrangement `L` of the pieces of the cues
    `xs`: one cue per original cue, with the original start, end, text and content. -/
theorem unfragLoop_pieces (f : Int) (hf : 0 < f) (L : List Item) : ∀ xs : List Item,
    Separated xs → StartOrdered L → L ~ xs.flatMap (cut f) → (unfragLoop L).map cueKey ~ xs.map cueKey := by
  induction L using unfragLoop_induct with
  | nil =>
    intro xs _ _ hp
    cases xs with
    | nil => rw [unfragLoop_nil]
    | cons c t =>
      have := hp.symm.eq_nil
      rw [flatMap_cons] at this
      exact absurd (append_eq_nil_iff.mp this).1 (cut_ne_nil f hf c)
  | cons x T ih =>
    intro xs hsep hs hp
    have hT : StartOrdered T := (pairwise_cons.mp hs).2
    have hxT : ∀ y ∈ T, x.startAt ≤ y.startAt := (pairwise_cons.mp hs).1
    obtain ⟨c, hc, hxc⟩ := mem_flatMap.mp (hp.subset mem_cons_self)
    have hperm : xs ~ c :: xs.erase c := perm_cons_erase hc
    have hsep' : Separated (c :: xs.erase c) := hsep.perm hperm
    have hp' : x :: T ~ cut f c ++ (xs.erase c).flatMap (cut f) := by
      have := hp.trans (hperm.flatMap_right (cut f))
      rwa [flatMap_cons] at this
    have hcontent := (cut_pieces f hf c).content x hxc
    have hrun := cut_run f hf c (hsep.pos c hc)
    obtain ⟨p, ps, hcut⟩ := exists_cons_of_ne_nil (cut_ne_nil f hf c)
    rw [hcut] at hxc hp' hrun
    obtain ⟨hp1, hp2, hp3, hp4⟩ := hrun
    -- the head of the ordered list is the first piece of `c`
    obtain rfl : x = p := by
      rcases mem_cons.mp hxc with h | h
      · exact h
      · have h5 := hp4.mem_start_ge h
        rcases mem_cons.mp (hp'.symm.subset mem_cons_self) with h6 | h6
        · exact h6.symm
        · have := hxT p h6; omega
    have hTp : T ~ ps ++ (xs.erase c).flatMap (cut f) := Perm.cons_inv hp'
    -- the pieces of the other cues either have another text or start after `c` ended
    have hM : ∀ m ∈ (xs.erase c).flatMap (cut f), m.str ≠ c.str ∨ c.endAt < m.startAt := by
      intro m hm
      obtain ⟨d, hd, hmd⟩ := mem_flatMap.mp hm
      have hd' := cut_run f hf d (hsep'.pos d (mem_cons_of_mem _ hd))
      have hmr := hd'.mem m hmd
      by_cases hstr : d.str = c.str
      · -- same text: `c` and `d` do not touch, and a piece of `d` is at or after the head
        have hnt : ¬ Touch c d := (pairwise_cons.mp hsep'.apart).1 d hd
        have := hxT m (hTp.symm.subset (mem_append_right _ hm))
        refine .inr (Int.not_le.mp fun hle => hnt ⟨hstr.symm, ?_, ?_⟩) <;> omega
      · exact .inl (hd'.mem_str hmd ▸ hstr)
    obtain ⟨ha1, ha2⟩ := absorb_run c.str c.endAt T x ps _ hp3 hp4 hT hTp hM
    have hkey : cueKey (absorb x T).1 = cueKey c := by
      rw [ha1]
      unfold cueKey
      rw [show ({ x with endAt := c.endAt } : Item).str = c.str from hp3,
        show ({ x with endAt := c.endAt } : Item).content = c.content from hcontent]
      simp only [hp1]
    rw [unfragLoop_cons, map_cons, hkey]
    exact (Perm.cons _ (ih _ hsep'.tail (hT.sublist (absorb_sublist x T)) ha2)).trans
      (hperm.map cueKey).symm

end OPS
end Astisub
