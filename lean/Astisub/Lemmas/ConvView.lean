import Astisub.Lemmas.StrList
import Astisub.Driver.Conv
import Astisub.Props.C07

/-!
# Lemmas/ConvView — the view of a cue list and the conversion predicate (C07)

`Spec.Conv.viewOf` looks at a cue only through its two instants and, line by line, the concatenation of
the run texts.  `Driver.convOk` — the predicate the `conv.pair` check evaluates — holds as soon as the
destination read back has exactly the source's view at the destination's resolution (`truncView u`).
`Dest` collects what a destination codec has to provide for the conversion clause; the clause, its reading
on the models' cues, the range of what a destination answers (`Dest.inRange_back`) and chained conversions are
proved once from it.  Last, the facts about `simpleText`
that every plainness predicate uses (`simpleChar`, `simple_not_mem`, `edges`).
-/

namespace Astisub
namespace ConvView
open Go Spec.Conv Driver

/-- the texts of the lines of a cue, runs concatenated -/
def lineTexts (it : CItem) : List Str := it.lines.map fun l => (l.items.map (·.text)).flatten

def cueView (it : CItem) : VCue :=
  let ls := it.lines.map fun l => squash (l.items.map (·.text)).flatten
  { startAt := it.startAt, endAt := it.endAt, lines := ls.filter (· ≠ []), blank := ls.any (· = []) }

theorem viewOf_eq (s : Subs) : viewOf s = s.items.map cueView := rfl

theorem squash_append (a b : Str) : squash (a ++ b) = squash a ++ squash b := by simp [squash]

theorem squash_space (a : Str) : squash (' ' :: a) = squash a := by
  have : isSpace ' ' = true := by decide
  simp [squash, this]

/-- the lines of a cue as the view sees them: runs concatenated, white space disregarded -/
def sqLines (it : CItem) : List Str := it.lines.map fun l => squash (l.items.map (·.text)).flatten

theorem sqLines_eq (it : CItem) : sqLines it = (lineTexts it).map squash := by
  simp [sqLines, lineTexts, List.map_map, Function.comp_def]

theorem cueView_of_sq (a b : CItem) (h : sqLines a = sqLines b) :
    cueView a = { cueView b with startAt := a.startAt, endAt := a.endAt } := by
  unfold sqLines at h
  simp only [cueView, h]

theorem cueView_congr (a b : CItem) (hs : a.startAt = b.startAt) (he : a.endAt = b.endAt)
    (hl : lineTexts a = lineTexts b) : cueView a = cueView b := by
  rw [cueView_of_sq a b (by rw [sqLines_eq, sqLines_eq, hl]), hs, he]
  rfl

/-- a cue seen at resolution `u`: both instants truncated, text untouched -/
def truncCue (u : Int) (c : VCue) : VCue := { c with startAt := truncTo u c.startAt, endAt := truncTo u c.endAt }

theorem cueView_trunc (u : Int) (a b : CItem) (hs : b.startAt = truncTo u a.startAt) (he : b.endAt = truncTo u a.endAt)
    (hl : lineTexts b = lineTexts a) : cueView b = truncCue u (cueView a) :=
  cueView_congr b { a with startAt := truncTo u a.startAt, endAt := truncTo u a.endAt } hs he hl

/-- **The view a destination of resolution `u` returns**: same cues in the same order, instants
    truncated to `u`, same text lines -/
def truncView (u : Int) (v : List VCue) : List VCue := v.map (truncCue u)

theorem truncView_length (u : Int) (v : List VCue) : (truncView u v).length = v.length := by
  simp [truncView]

theorem viewOf_map (f : CItem → CItem) (s t : Subs) (ht : t.items = s.items.map f)
    (h : ∀ it ∈ s.items, (f it).startAt = it.startAt ∧ (f it).endAt = it.endAt ∧ lineTexts (f it) = lineTexts it) :
    viewOf t = viewOf s := by
  rw [viewOf_eq, viewOf_eq, ht, List.map_map]
  exact List.map_congr_left fun it hit => cueView_congr _ _ (h it hit).1 (h it hit).2.1 (h it hit).2.2

theorem truncView_trunc {u w x : Int} (h : ∀ t, truncTo u (truncTo w t) = truncTo x t) (v : List VCue) :
    truncView u (truncView w v) = truncView x v := by
  simp only [truncView, List.map_map]
  exact List.map_congr_left fun c _ => by simp only [Function.comp_apply, truncCue, h]

/-- **Sufficient condition for the conversion predicate.**  For a destination other than STL
    (whose resolution is a frame, not a power of ten), if the destination read back shows exactly
    the source's cues at the destination's resolution then `convOk` holds — in both modes of the
    check (`strict` only matters for STL) -/
theorem convOk_of_view (strict : Bool) (dst : String) (hd : dst ≠ "stl") (s back : Subs)
    (h : viewOf back = truncView (unitOfDst dst) (viewOf s)) : convOk strict dst s back = true := by
  unfold convOk
  simp only [hd, if_false, h, truncView, List.length_map, beq_self_eq_true, Bool.true_and, List.zip_map_all]
  rw [List.all_eq_true]
  intro a _
  simp [truncCue]

theorem view_facts_of (tr : Int → Int) (s back : Subs)
    (h : viewOf back = (viewOf s).map fun c => { c with startAt := tr c.startAt, endAt := tr c.endAt }) :
    back.items.length = s.items.length ∧
    ∀ (k : Nat) (a b : CItem), s.items[k]? = some a → back.items[k]? = some b →
      b.startAt = tr a.startAt ∧ b.endAt = tr a.endAt ∧ (cueView b).lines = (cueView a).lines := by
  constructor
  · have := congrArg List.length h
    simpa [viewOf_eq] using this
  · intro k a b ha hb
    have h1 : (viewOf back)[k]? = some (cueView b) := by simp [viewOf_eq, hb]
    rw [h] at h1
    simp only [viewOf_eq, List.map_map, List.getElem?_map, ha, Option.map_some, Function.comp_apply,
      Option.some.injEq] at h1
    exact ⟨(congrArg VCue.startAt h1).symm, (congrArg VCue.endAt h1).symm, (congrArg VCue.lines h1).symm⟩

/-- the range clause cue by cue; `lim` is 24 h for `stl` and 100 h for every other destination -/
theorem inRange_items_lim {dst : String} {lim : Int}
    (hl : (if dst = "stl" then 86400000000000 else 360000000000000) = lim) {s : Subs} (h : inRange dst s = true) :
    ∀ it ∈ s.items, 0 ≤ it.startAt ∧ it.startAt < lim ∧ 0 ≤ it.endAt ∧ it.endAt < lim := by
  intro it hit
  unfold inRange at h
  simp only [hl, List.all_eq_true] at h
  have := h (cueView it) (by rw [viewOf_eq]; exact List.mem_map_of_mem hit)
  simp [cueView] at this
  omega

theorem inRange_items {dst : String} (hd : dst ≠ "stl") {s : Subs} (h : inRange dst s = true) :
    ∀ it ∈ s.items, 0 ≤ it.startAt ∧ it.startAt < 360000000000000 ∧ 0 ≤ it.endAt ∧ it.endAt < 360000000000000 :=
  inRange_items_lim (if_neg hd) h

theorem inRange_congr {d d' : String} (hd : d ≠ "stl") (hd' : d' ≠ "stl") (s : Subs) : inRange d s = inRange d' s := by
  unfold inRange
  simp only [hd, hd', if_false]

theorem inRange_of_view {d : String} (hd : d ≠ "stl") (u : Int) (hu : 0 < u) (s back : Subs)
    (hr : inRange d s = true) (hv : viewOf back = truncView u (viewOf s)) : inRange d back = true := by
  unfold inRange at hr ⊢
  simp only [hd, if_false] at hr ⊢
  rw [hv]
  simp only [truncView, List.all_map, List.all_eq_true, Function.comp_apply, Bool.and_eq_true,
    decide_eq_true_eq] at hr ⊢
  intro c hc
  obtain ⟨⟨⟨h1, h2⟩, h3⟩, h4⟩ := hr c hc
  have a := C07.trunc_le u c.startAt hu
  have b := C07.trunc_le u c.endAt hu
  exact ⟨⟨⟨C07.trunc_nonneg u _ hu h1, C07.trunc_nonneg u _ hu h2⟩, Int.lt_of_le_of_lt a.1 h3⟩, Int.lt_of_le_of_lt b.1 h4⟩

theorem unitOfDst_pos (dst : String) : 0 < unitOfDst dst := by
  unfold unitOfDst; split <;> decide

/-- **A destination codec, as the conversion clause sees it**: its extension `dst` (any but `stl`, whose
    resolution is a frame), its resolution `unit`, the pipeline `via` the check's model side computes
    (write, bytes, read), the plain cue lists `Plain`, and the cue list `back s` its reader answers for a
    plain cue list in range — which shows the cues of `s` at the destination's resolution -/
structure Dest where
  dst : String
  unit : Int
  via : Subs → Option Subs
  Plain : Subs → Bool
  back : Subs → Subs
  ne_stl : dst ≠ "stl"
  unit_eq : unitOfDst dst = unit
  via_back : ∀ s, inRange dst s = true → Plain s = true → via s = some (back s)
  view_back : ∀ s, inRange dst s = true → Plain s = true → viewOf (back s) = truncView unit (viewOf s)

namespace Dest
variable (D : Dest)

/-- **Every destination answers within every other's range**: truncation moves an instant down, never below 0 -/
theorem inRange_back {d : String} (hd : d ≠ "stl") (s : Subs) (hr : inRange D.dst s = true) (hp : D.Plain s = true) :
    inRange d (D.back s) = true :=
  inRange_of_view hd D.unit (D.unit_eq ▸ unitOfDst_pos D.dst) s _ ((inRange_congr hd D.ne_stl s).trans hr)
    (D.view_back s hr hp)

/-- **One hop of a chain of conversions that started at `s`**: `b` (which is `s` at the first hop, what the
    previous destination answered later) converted to `D`.  The pipeline answers `D.back b`, the check's predicate
    holds on the pair, `D.back b` shows the cues of `s` at resolution `x` (what the truncations so far compose
    to), and it lies in every range but STL's — which is what the next hop asks. -/
structure Hop (strict : Bool) (x : Int) (s b : Subs) : Prop where
  via : D.via b = some (D.back b)
  ok : convOk strict D.dst b (D.back b) = true
  view : viewOf (D.back b) = truncView x (viewOf s)
  range : ∀ {d : String}, d ≠ "stl" → inRange d (D.back b) = true

/-- **The conversion clause for `D`**: the first hop -/
theorem conv (strict : Bool) (s : Subs) (hr : inRange D.dst s = true) (hp : D.Plain s = true) :
    D.Hop strict D.unit s s :=
  have hv := D.view_back s hr hp
  { via := D.via_back s hr hp
    ok := convOk_of_view strict D.dst D.ne_stl s _ (by rw [D.unit_eq]; exact hv)
    view := hv
    range := fun hd => D.inRange_back hd s hr hp }

variable {D}

/-- the hop without its answer named -/
theorem Hop.ex {strict : Bool} {x : Int} {s b : Subs} (h : D.Hop strict x s b) :
    ∃ back, D.via b = some back ∧ convOk strict D.dst b back = true ∧ viewOf back = truncView x (viewOf s) :=
  ⟨_, h.via, h.ok, h.view⟩

/-- **The next hop**: what `D` answered, if plain for `E`, converts to `E`; `x` is the resolution the
    truncations compose to -/
theorem Hop.next {st : Bool} {w x : Int} {s b : Subs} (h : D.Hop st w s b) (strict : Bool) (E : Dest)
    (hx : ∀ t, truncTo E.unit (truncTo w t) = truncTo x t) (hp : E.Plain (D.back b) = true) :
    E.Hop strict x s (D.back b) :=
  have c := E.conv strict _ (h.range E.ne_stl) hp
  { via := c.via, ok := c.ok, range := c.range, view := by rw [c.view, h.view, truncView_trunc hx] }

variable (D)

/-- `v` is what the transformation models computed; `hcorr` is the correspondence clause of the check -/
theorem conv_ops (strict : Bool) (v : List VCue) (s : Subs) (hcorr : v = viewOf s)
    (hr : inRange D.dst s = true) (hp : D.Plain s = true) :
    ∃ back, D.via s = some back ∧ convOk strict D.dst s back = true ∧ viewOf back = truncView D.unit v :=
  hcorr ▸ (D.conv strict s hr hp).ex

end Dest

/-- a character of `simpleText` -/
def simpleChar (c : Char) : Bool :=
  ('a' ≤ c && c ≤ 'z') || ('A' ≤ c && c ≤ 'Z') || ('0' ≤ c && c ≤ '9') || c = ' ' || c = ',' || c = '.' || c = '!' || c = '?'

theorem simpleText_eq (s : Str) : simpleText s = s.all simpleChar := rfl

theorem simpleChar_le {c : Char} (h : simpleChar c = true) : 32 ≤ c.toNat ∧ c.toNat ≤ 122 := by
  simp only [simpleChar, Bool.or_eq_true, Bool.and_eq_true, decide_eq_true_eq] at h
  have hle : ∀ a b : Char, a ≤ b → a.toNat ≤ b.toNat := fun a b hab => hab
  rcases h with ((((((⟨h1, h2⟩ | ⟨h1, h2⟩) | ⟨h1, h2⟩) | h) | h) | h) | h) | h
  · have := hle _ _ h1; have := hle _ _ h2; simp at *; omega
  · have := hle _ _ h1; have := hle _ _ h2; simp at *; omega
  · have := hle _ _ h1; have := hle _ _ h2; simp at *; omega
  all_goals (subst h; decide)

theorem simpleChar_space {c : Char} (h : simpleChar c = true) (hb : c ≠ ' ') : isSpace c = false := by
  have ⟨h1, h2⟩ := simpleChar_le h
  have hne : c.toNat ≠ 32 := by
    intro e
    apply hb
    apply Char.ext
    apply UInt32.toNat_inj.mp
    exact e
  unfold isSpace
  simp only [Bool.or_eq_false_iff, Bool.and_eq_false_iff, beq_eq_false_iff_ne, decide_eq_false_iff_not]
  omega

theorem simpleChar_ne {c d : Char} (h : simpleChar c = true) (hd : simpleChar d = false) : c ≠ d := by
  intro e; subst e; rw [h] at hd; cases hd

theorem simple_not_mem {t : Str} (h : ∀ c ∈ t, simpleChar c = true) (d : Char) (hd : simpleChar d = false) : d ∉ t :=
  fun hm => simpleChar_ne (h d hm) hd rfl

end ConvView

namespace ConvSRT
open Go

/-- a text that survives the readers' trimming: it begins and ends with something else than a blank
    (here, not in `Lemmas/ConvSRT`: SSA asks it of its lines under this name too; WebVTT has its own copy, bridged by
    `ConvVTT.edgesOk_eq`, and STL spells it out inside `Conv2STL.plainRun`) -/
def edgesOk (t : Str) : Bool := t.head?.any (· != ' ') && t.getLast?.any (· != ' ')

end ConvSRT

namespace ConvView
open Go Spec.Conv Driver

theorem edges {t : Str} (he : ConvSRT.edgesOk t = true)
    (hs : ∀ c ∈ t, simpleChar c = true) :
    ∃ c0 c1, t.head? = some c0 ∧ t.getLast? = some c1 ∧ c0 ∈ t ∧ c1 ∈ t ∧ isSpace c0 = false ∧ isSpace c1 = false := by
  unfold ConvSRT.edgesOk at he
  cases h0 : t.head? with
  | none => simp [h0] at he
  | some c0 =>
    cases h1 : t.getLast? with
    | none => simp [h1] at he
    | some c1 =>
      simp only [h0, h1, Option.any_some, Bool.and_eq_true, bne_iff_ne, ne_eq] at he
      have m0 : c0 ∈ t := List.mem_of_mem_head? (by rw [h0]; rfl)
      have m1 : c1 ∈ t := List.mem_of_getLast? h1
      exact ⟨c0, c1, rfl, rfl, m0, m1, simpleChar_space (hs _ m0) he.1, simpleChar_space (hs _ m1) he.2⟩

theorem trimmed_of_edges {t : Str} (he : ConvSRT.edgesOk t = true)
    (hs : ∀ c ∈ t, simpleChar c = true) : Trimmed t := by
  obtain ⟨c0, c1, h0, h1, _, _, s0, s1⟩ := edges he hs
  exact ⟨fun c hc => by rw [h0] at hc; cases hc; exact s0, fun c hc => by rw [h1] at hc; cases hc; exact s1⟩

end ConvView
end Astisub
