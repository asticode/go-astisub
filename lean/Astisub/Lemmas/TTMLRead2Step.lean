import Astisub.Lemmas.TTMLRead2Defs

/-!
# Lemmas/TTMLRead2Step — the independent decoder's step function in closed form

`Spec.TTML.step` is one function over every token and every state.  Here it is cut into the equations the proofs
rewrite with, so that no later file unfolds it: after the root element is closed (`step_fin`); inside a paragraph by
mode — directly in `<p>`, in a `span`, in a `br` — over states written `inP base pre p`; outside a paragraph by the
place of the element.  The decoder finds that place by matching `path.map String.ofList` against lists of string
literals; the equations state it through `TTMLDoc.ctxOf`, the dispatch the `encoding/xml` contract machines use, so
that decoder and contract can be compared case by case (`ctxOf_inv` reads the path back from the place).  At a place
without a name (`.other`) the equation keeps the decoder's own test of which elements may stand there: no proof looks
into it, and on a concrete path it evaluates.
-/

namespace Astisub
namespace TTMLR
open Go TTML
open Spec.TTML (St PState Tok step run GRun hasNL allSpace ref? styling attr? natAttr denote)
open TTMLDoc (ctxOf Ctx)
open Driver.TTMLD (specToks)

def specTok : XTok → Spec.TTML.Tok
  | .start sp n a => .start sp n a
  | .stop _ _ => .stop
  | .text s => .text s
  | .other => .other

theorem specToks_cons (t : XTok) (T : List XTok) : specToks (t :: T) = specTok t :: specToks T := by
  cases t <;> rfl

theorem specToks_start (sp n : Str) (a : List XAttr) (T : List XTok) :
    specToks (.start sp n a :: T) = .start sp n a :: specToks T := specToks_cons _ T
theorem specToks_stop (sp n : Str) (T : List XTok) : specToks (.stop sp n :: T) = .stop :: specToks T := specToks_cons _ T
theorem specToks_text (s : Str) (T : List XTok) : specToks (.text s :: T) = .text s :: specToks T := specToks_cons _ T
theorem specToks_other (T : List XTok) : specToks (.other :: T) = .other :: specToks T := specToks_cons _ T

theorem hasNL_iff (s : Str) : hasNL s = true ↔ '\n' ∈ s := by
  unfold Spec.TTML.hasNL
  simp

theorem run_cons (t : Tok) (ts : List Tok) (st : St) :
    run (t :: ts) st = match step st t with | some st' => run ts st' | none => none := rfl

theorem step_fin (st : St) (hf : st.finished = true) (t : Spec.TTML.Tok) :
    step st t = match t with
      | .other => some st
      | .text s => if allSpace s then some st else none
      | _ => none := by
  unfold step
  rw [if_pos hf]
  rfl

theorem dec_finished (st st' : St) (t : Spec.TTML.Tok) (hf : st.finished = true) (h : step st t = some st') :
    st' = st ∧ (t = .other ∨ ∃ s, t = .text s) := by
  rw [step_fin st hf] at h
  cases t <;> dsimp only at h
  · cases h
  · cases h
  · split at h
    · exact ⟨(Option.some.inj h).symm, .inr ⟨_, rfl⟩⟩
    · cases h
  · exact ⟨(Option.some.inj h).symm, .inl rfl⟩

theorem step_other_any (st : St) : step st .other = some st := by
  unfold step
  cases st.finished <;> rfl

/-- a state inside a paragraph: `base` is the state at `<p>` (its path is the paragraph's), `pre` the elements open
    inside the paragraph -/
def inP (base : St) (pre : List Str) (p : PState) : St :=
  { base with path := pre ++ base.path, p := some p, finished := false }

/-- the state after the end tag of the paragraph, whose lines are `dc.1 ++ [dc.2]` -/
def closeP (base : St) (p : PState) (dc : List (List GRun) × List GRun) : St :=
  { base with
      path := base.path.tail
      finished := base.path.tail.isEmpty
      p := none
      doc := { base.doc with cues := base.doc.cues ++
        [{ b := p.b, e := p.e, style := p.style, region := p.region, attrs := p.attrs, lines := dc.1 ++ [dc.2] }] } }

def mkG (sty : Option Str) (sa : Spec.TTML.AttrL) (s : Str) : GRun := { text := s, style := sty, attrs := sa }

def nlAttr (a : List XAttr) : Bool := a.any (fun x => x.2.2.any fun c => c = '\n')

theorem step_br_text (base : St) (pre : List Str) (p : PState) (hb : p.inBr = true) (s : Str) :
    step (inP base pre p) (.text s) = none := by
  unfold step
  simp [inP, hb]

theorem step_br_start (base : St) (pre : List Str) (p : PState) (hb : p.inBr = true) (sp n : Str) (a : List XAttr) :
    step (inP base pre p) (.start sp n a) = none := by
  unfold step
  simp [inP, hb]

theorem step_br_stop (base : St) (n : Str) (pre : List Str) (p : PState) (hb : p.inBr = true)
    (hne : base.path ≠ []) :
    step (inP base (n :: pre) p) .stop = some (inP base pre { p with inBr := false }) := by
  unfold step
  have : (pre ++ base.path).isEmpty = false := by
    cases pre <;> cases hp : base.path <;> simp_all
  simp [inP, hb, this]

theorem step_top_text (base : St) (p : PState) (hs : p.span = none) (hb : p.inBr = false) (s : Str) :
    step (inP base [] p) (.text s) =
      if allSpace s then (if hasNL s then some (inP base [] p) else none)
      else if hasNL s then none
      else if p.done.isEmpty && p.cur.isEmpty && (s.head?.map isSpace).getD false then none
      else some (inP base [] { p with cur := p.cur ++ [mkTG s] }) := by
  unfold step
  simp only [inP, hs, hb, List.nil_append, Bool.false_eq_true, if_false, mkTG]

theorem step_top_start (base : St) (p : PState) (hs : p.span = none) (hb : p.inBr = false) (hl : base.path.length = 4)
    (sp n : Str) (a : List XAttr) :
    step (inP base [] p) (.start sp n a) =
      if nlAttr a then none
      else if n = "br".toList then some (inP base [n] { p with done := p.done ++ [p.cur], cur := [], inBr := true })
      else if n = "span".toList then
        match ref? a "style", styling a with
        | some sty, some sa => some (inP base [n] { p with span := some (sty, sa), seg := [] })
        | _, _ => none
      else none := by
  unfold step
  simp only [inP, hs, hb, List.nil_append, Bool.false_eq_true, if_false, nlAttr, List.length_cons, hl,
    Option.isNone_none, Bool.and_true, decide_true]
  by_cases h1 : (a.any fun x => x.2.2.any fun c => c = '\n') = true
  · rw [if_pos h1, if_pos h1]
  · rw [if_neg h1, if_neg h1]
    by_cases h2 : n = "br".toList
    · rw [if_pos h2, if_pos h2]; rfl
    · rw [if_neg h2, if_neg h2]
      by_cases h3 : n = "span".toList
      · simp only [h3, decide_true, if_true, List.cons_append, List.nil_append]
        cases ref? a "style" <;> cases styling a <;> rfl
      · simp only [h3, decide_false, Bool.false_eq_true, if_false]

theorem step_top_stop (base : St) (p : PState) (hs : p.span = none) (hb : p.inBr = false) (hl : base.path.length = 4) :
    step (inP base [] p) .stop = some (closeP base p (p.done, p.cur)) := by
  unfold step
  cases hp : base.path with
  | nil => simp [hp] at hl
  | cons n rest =>
    simp [inP, closeP, hp, hs, hb]

theorem step_span_text (base : St) (pre : List Str) (p : PState) (sty : Option Str) (sa : Spec.TTML.AttrL)
    (hs : p.span = some (sty, sa)) (hb : p.inBr = false) (s : Str) :
    step (inP base pre p) (.text s) =
      if hasNL s then none else some (inP base pre { p with seg := p.seg ++ s }) := by
  unfold step
  simp only [inP, hs, hb, Bool.false_eq_true, if_false]

theorem step_span_start (base : St) (pre : List Str) (p : PState) (sty : Option Str) (sa : Spec.TTML.AttrL)
    (hs : p.span = some (sty, sa)) (hb : p.inBr = false) (sp n : Str) (a : List XAttr) :
    step (inP base pre p) (.start sp n a) =
      if nlAttr a then none
      else if n = "br".toList then
        some (inP base (n :: pre) { p with done := p.done ++ [p.cur ++ [mkG sty sa p.seg]], cur := [], seg := [], inBr := true })
      else none := by
  unfold step
  simp only [inP, hs, hb, Bool.false_eq_true, if_false, nlAttr, mkG]
  by_cases h1 : (a.any fun x => x.2.2.any fun c => c = '\n') = true
  · rw [if_pos h1, if_pos h1]
  · rw [if_neg h1, if_neg h1]
    by_cases h2 : n = "br".toList
    · rw [if_pos h2, if_pos h2]; rfl
    · rw [if_neg h2, if_neg h2]
      simp

theorem step_span_stop (base : St) (n : Str) (pre : List Str) (p : PState) (sty : Option Str) (sa : Spec.TTML.AttrL)
    (hs : p.span = some (sty, sa)) (hb : p.inBr = false) (hne : base.path ≠ []) :
    step (inP base (n :: pre) p) .stop =
      some (inP base pre { p with cur := p.cur ++ [mkG sty sa p.seg], span := none, seg := [] }) := by
  unfold step
  have : (pre ++ base.path).isEmpty = false := by
    cases pre <;> cases hp : base.path <;> simp_all
  simp [inP, hs, hb, this, mkG]

abbrev pRoot : List Str := [['t', 't']]
abbrev pStyle : List Str := [['s', 't', 'y', 'l', 'e'], ['s', 't', 'y', 'l', 'i', 'n', 'g'], ['h', 'e', 'a', 'd'], ['t', 't']]
abbrev pRegion : List Str := [['r', 'e', 'g', 'i', 'o', 'n'], ['l', 'a', 'y', 'o', 'u', 't'], ['h', 'e', 'a', 'd'], ['t', 't']]
abbrev pTitle : List Str := [['t', 'i', 't', 'l', 'e'], ['m', 'e', 't', 'a', 'd', 'a', 't', 'a'], ['h', 'e', 'a', 'd'], ['t', 't']]
abbrev pCopy : List Str := [['c', 'o', 'p', 'y', 'r', 'i', 'g', 'h', 't'], ['m', 'e', 't', 'a', 'd', 'a', 't', 'a'], ['h', 'e', 'a', 'd'], ['t', 't']]
abbrev pPara : List Str := [['p'], ['d', 'i', 'v'], ['b', 'o', 'd', 'y'], ['t', 't']]

theorem ctxOf_of_map {path : List Str} {l : List String} {c : Ctx} (h : path.map String.ofList = l)
    (hc : ctxOf (l.map String.toList) = c) : ctxOf path = c := by
  rw [← h, TTMLDoc.toList_map_ofList] at hc; exact hc

theorem ctxOf_other {path : List Str}
    (h1 : path.map String.ofList ≠ ["tt"]) (h2 : path.map String.ofList ≠ ["style", "styling", "head", "tt"])
    (h3 : path.map String.ofList ≠ ["region", "layout", "head", "tt"])
    (h4 : path.map String.ofList ≠ ["title", "metadata", "head", "tt"])
    (h5 : path.map String.ofList ≠ ["copyright", "metadata", "head", "tt"])
    (h6 : path.map String.ofList ≠ ["p", "div", "body", "tt"]) : ctxOf path = .other := by
  unfold ctxOf
  rw [if_neg fun e => h1 (by rw [e]; decide), if_neg fun e => h2 (by rw [e]; decide),
    if_neg fun e => h3 (by rw [e]; decide), if_neg fun e => h4 (by rw [e]; decide),
    if_neg fun e => h5 (by rw [e]; decide), if_neg fun e => h6 (by rw [e]; decide)]

theorem ctxOf_inv (path : List Str) :
    match ctxOf path with
    | .root => path = pRoot | .style => path = pStyle | .region => path = pRegion | .title => path = pTitle
    | .copyright => path = pCopy | .para => path = pPara | .other => True := by
  by_cases h1 : path = pRoot
  · subst h1; exact (rfl : pRoot = pRoot)
  by_cases h2 : path = pStyle
  · subst h2; exact (rfl : pStyle = pStyle)
  by_cases h3 : path = pRegion
  · subst h3; exact (rfl : pRegion = pRegion)
  by_cases h4 : path = pTitle
  · subst h4; exact (rfl : pTitle = pTitle)
  by_cases h5 : path = pCopy
  · subst h5; exact (rfl : pCopy = pCopy)
  by_cases h6 : path = pPara
  · subst h6; exact (rfl : pPara = pPara)
  · unfold ctxOf
    rw [if_neg h1, if_neg h2, if_neg h3, if_neg h4, if_neg h5, if_neg h6]
    trivial

theorem step_start_ctx (st : St) (hp : st.p = none) (hf : st.finished = false) (sp n : Str) (a : List XAttr) :
    step st (.start sp n a) =
      if nlAttr a then none else
      match ctxOf (n :: st.path) with
      | .root =>
        match natAttr a "frameRate", natAttr a "tickRate" with
        | some fr, some tr =>
          match attr? a "lang" with
          | some none => none
          | some (some l) => some { st with path := n :: st.path, fr := fr, tr := tr, doc := { st.doc with lang := l } }
          | none => some { st with path := n :: st.path, fr := fr, tr := tr }
        | _, _ => none
      | .style => (Spec.TTML.mkDef a).map fun d =>
          { st with path := n :: st.path, doc := { st.doc with styles := st.doc.styles ++ [d] } }
      | .region => (Spec.TTML.mkDef a).map fun d =>
          { st with path := n :: st.path, doc := { st.doc with regions := st.doc.regions ++ [d] } }
      | .title => some { st with path := n :: st.path, buf := [] }
      | .copyright => some { st with path := n :: st.path, buf := [] }
      | .para =>
        match attr? a "begin", attr? a "end", ref? a "style", ref? a "region", styling a with
        | some (some b), some (some e), some sty, some reg, some sa =>
          match denote b st.fr st.tr, denote e st.fr st.tr with
          | some cb, some ce =>
            some (inP { st with path := n :: st.path } [] { b := cb, e := ce, style := sty, region := reg, attrs := sa })
          | _, _ => none
        | _, _, _, _, _ => none
      | .other =>
        if (n :: st.path).length = 1 then none
        else if ["p".toList, "div".toList, "span".toList, "br".toList, "style".toList, "region".toList,
            "body".toList, "head".toList, "tt".toList].contains n then
          (if (n :: st.path).map String.ofList ∈ [["head", "tt"], ["body", "tt"], ["div", "body", "tt"]] then
            some { st with path := n :: st.path } else none)
        else some { st with path := n :: st.path } := by
  unfold step nlAttr
  rw [if_neg (hf ▸ Bool.false_ne_true)]
  dsimp only
  rw [hp]
  dsimp only
  by_cases hnl : (a.any fun x => x.2.2.any fun c => c = '\n') = true
  · rw [if_pos hnl, if_pos hnl]
  · rw [if_neg hnl, if_neg hnl]
    split
    · rename_i heq; rw [ctxOf_of_map heq (c := .root) (by decide)]; rfl
    · rename_i heq; rw [ctxOf_of_map heq (c := .style) (by decide)]
    · rename_i heq; rw [ctxOf_of_map heq (c := .region) (by decide)]
    · rename_i heq; rw [ctxOf_of_map heq (c := .title) (by decide)]
    · rename_i heq; rw [ctxOf_of_map heq (c := .copyright) (by decide)]
    · rename_i heq; rw [ctxOf_of_map heq (c := .para) (by decide)]
      simp only [inP, hf, List.nil_append]
      rfl
    · rename_i h1 h2 h3 h4 h5 h6; rw [ctxOf_other h1 h2 h3 h4 h5 h6]

theorem ctxOf_plain {α : Type} {path : List Str} (h1 : path ≠ pTitle) (h2 : path ≠ pCopy) (a b c : α) :
    (match ctxOf path with | .title => a | .copyright => b | _ => c) = c := by
  have hi := ctxOf_inv path
  cases hc : ctxOf path <;> rw [hc] at hi
  case title => exact absurd hi h1
  case copyright => exact absurd hi h2
  all_goals rfl

theorem step_text_ctx (st : St) (hp : st.p = none) (hf : st.finished = false) (s : Str) :
    step st (.text s) =
      match ctxOf st.path with
      | .title => some { st with buf := st.buf ++ s }
      | .copyright => some { st with buf := st.buf ++ s }
      | _ => some st := by
  unfold step
  rw [if_neg (hf ▸ Bool.false_ne_true)]
  simp only [hp]
  split
  · rename_i heq; rw [ctxOf_of_map heq (c := .title) (by decide)]
  · rename_i heq; rw [ctxOf_of_map heq (c := .copyright) (by decide)]
  · rename_i n1 n2
    exact (ctxOf_plain (fun e => n1 (by rw [e]; decide)) (fun e => n2 (by rw [e]; decide)) _ _ _).symm

theorem step_stop_nil (st : St) (hf : st.finished = false) (hpath : st.path = []) :
    step st .stop = none := by
  unfold step
  rw [if_neg (hf ▸ Bool.false_ne_true)]
  simp only [hpath]

theorem step_stop_ctx (st : St) (hp : st.p = none) (hf : st.finished = false) (name : Str) (rest : List Str)
    (hpath : st.path = name :: rest) :
    step st .stop =
      match ctxOf st.path with
      | .title => some { st with path := rest, finished := rest.isEmpty, doc := { st.doc with title := st.buf } }
      | .copyright => some { st with path := rest, finished := rest.isEmpty, doc := { st.doc with copyright := st.buf } }
      | _ => some { st with path := rest, finished := rest.isEmpty } := by
  unfold step
  rw [if_neg (hf ▸ Bool.false_ne_true)]
  simp only [hp, hpath]
  split
  · rename_i heq; rw [ctxOf_of_map heq (c := .title) (by decide)]
  · rename_i heq; rw [ctxOf_of_map heq (c := .copyright) (by decide)]
  · rename_i n1 n2
    exact (ctxOf_plain (fun e => n1 (by rw [e]; decide)) (fun e => n2 (by rw [e]; decide)) _ _ _).symm

end TTMLR
end Astisub
