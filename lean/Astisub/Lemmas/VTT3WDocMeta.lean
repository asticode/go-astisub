import Astisub.Lemmas.VTT3WDocDefs

/-!
# Lemmas/VTT3WDocMeta — the independent decoder on the written header metadata lines
(the `X-TIMESTAMP-MAP` line and the `Region: ` definition lines)
-/

namespace Astisub
namespace VTT3W
open Go Spec.VTT

theorem lit_tsPrefix (r : Str) : "X-TIMESTAMP-MAP".toList ++ '=' :: r = VTTRead.tsPrefix ++ r := by
  rw [VTTRead.tsPrefix_eq, List.append_assoc]; rfl

theorem kvSpec_kv (K k v : Str) (hK : ':' ∉ K) (hk : toLowerAscii (trimSpace K) = k) :
    VTTRead.kvSpec (K ++ ':' :: v) = some (k, v) := by
  unfold VTTRead.kvSpec
  rw [Go.splitOnce_char _ _ hK]
  simp only [hk]

theorem tsCore_local (F m : Str) : VTTRead.tsCore "local".toList F "mpegts".toList m = VTTRead.tsVal F m := by
  unfold VTTRead.tsCore
  simp

theorem comma_not_mem_kv (K v : Str) (hK : ',' ∉ K) (hv : ',' ∉ v) : ',' ∉ K ++ ':' :: v := by
  intro hc
  rcases List.mem_append.mp hc with hc | hc
  · exact hK hc
  · rcases List.mem_cons.mp hc with hc | hc
    · revert hc; decide
    · exact hv hc

theorem tsmapLine_tsLine (F m : Str) (ms n : Nat) (hF : ∀ c ∈ F, VTT.timeChar c = true)
    (ht : timeMs F = some ms) (hm : natOf m = some n) (hn : n < 2 ^ 62) :
    tsmapLine (VTT.tsLine F m) = some ((ms : Int) * 1000000, (n : Int)) := by
  have hmd : ∀ c ∈ m, isDigit c = true := VTTRead.natOf_digits hm
  have hsplit : splitC ',' ("LOCAL".toList ++ ':' :: F ++ ',' :: ("MPEGTS".toList ++ ':' :: m))
      = ["LOCAL".toList ++ ':' :: F, "MPEGTS".toList ++ ':' :: m] := by
    rw [show "LOCAL".toList ++ ':' :: F ++ ',' :: ("MPEGTS".toList ++ ':' :: m)
        = ("LOCAL".toList ++ ':' :: F) ++ ',' :: ("MPEGTS".toList ++ ':' :: m) by simp]
    exact Go.splitC_two_mk
      (comma_not_mem_kv _ F (by decide_vector) (fun hc => (VTT.plainC_spec (VTT.plainC_of_time (hF _ hc))).neComma rfl))
      (comma_not_mem_kv _ m (by decide_vector) (fun hc => absurd (hmd _ hc) (by decide)))
  rw [VTTRead.tsmapLine_eq2, VTT.tsLine_eq, lit_tsPrefix, Go.dropPrefix?_append]
  simp only [hsplit, List.map_cons, List.map_nil, tsCore_local,
    kvSpec_kv "LOCAL".toList "local".toList F (by decide_vector) (by decide_vector),
    kvSpec_kv "MPEGTS".toList "mpegts".toList m (by decide_vector) (by decide_vector)]
  unfold VTTRead.tsVal
  rw [ht, hm]
  simp only [hn, if_true]

theorem tsmapLine_written (lv : Int) (h0 : 0 ≤ lv) (h1 : lv < 360000000000000) (m : Str) (n : Nat)
    (hm : Spec.VTT.natOf m = some n) (hn : n < 2 ^ 62) :
    ∃ v, Spec.VTT.tsmapLine (VTT.tsLine (Duration.formatVTT lv) m) = some v := by
  obtain ⟨ms, hms⟩ := timeMs_format lv h0 h1 [] (Or.inl rfl)
  rw [List.append_nil] at hms
  exact ⟨_, tsmapLine_tsLine _ m ms n (VTT.format_facts lv h0 h1).1 hms hm hn⟩

theorem hasPrefix_tsLine (F m : Str) : hasPrefix "X-TIMESTAMP-MAP".toList (VTT.tsLine F m) = true := by
  rw [VTT.tsLine_eq]; exact hasPrefix_append _ _

theorem not_region_tsLine (F m : Str) : hasPrefix "Region: ".toList (VTT.tsLine F m) = false := by
  rw [VTT.tsLine_eq, VTTRead.lit_tsmap, VTTRead.lit_region]
  exact Go.hasPrefix_cons_ne (by decide) _ _

theorem metaLine_tsLine (F m : Str) (hF : ∀ c ∈ F, VTT.timeChar c = true) (hm : ∀ c ∈ m, VTT.signDig c = true) :
    VTTRead.metaLine (VTT.tsLine F m) = true ∧ trimSpace (VTT.tsLine F m) = VTT.tsLine F m := by
  have ht := (VTT.wline_tsLine F m hF hm).trim
  refine ⟨?_, ht⟩
  unfold VTTRead.metaLine
  rw [ht, hasPrefix_tsLine]
  simp

theorem tsmapLines_shape (s : Subs) (hok : VTT.tsmapOk s = true) (hx : tsmapW2 s = true) :
    VTT.tsmapLines s = [] ∨
    ∃ (lv : Int) (m : Str) (n : Nat), 0 ≤ lv ∧ lv < 360000000000000 ∧ natOf m = some n ∧ n < 2 ^ 62 ∧
      (∀ c ∈ m, VTT.signDig c = true) ∧ VTT.tsmapLines s = [VTT.tsLine (Duration.formatVTT lv) m] := by
  have h := VTT.tsmap_of_parts s
  have h' := tsmapView_of_parts s
  cases hp : VTT.tsmapParts s with
  | none => rw [hp] at h; exact Or.inl h.1
  | some p =>
    obtain ⟨l, m⟩ := p
    rw [hp] at h h'
    obtain ⟨hL, _, hO⟩ := h
    have hW := h'.2
    rw [hO, Bool.and_eq_true] at hok
    rw [hW] at hx
    cases hal : atoi l with
    | none => rw [hal] at hok; cases hok.1
    | some lv =>
      cases hn : natOf m with
      | none => rw [hn] at hx; cases hx
      | some n =>
        rw [hal] at hok hL
        rw [hn] at hx
        simp only [Bool.and_eq_true, decide_eq_true_eq] at hok hx
        exact Or.inr ⟨lv, m, n, hok.1.1, hok.1.2, hn, hx, VTT.atoi_signDig hok.2, hL⟩

/-- the pair a setting contributes -/
def settingPair (K : Str) (o : Option Str) : List (Str × Str) :=
  match o with
  | some v => [(K, v)]
  | none => []

/-- the pairs of a written region definition, over abstract keys -/
def regionPairs (I L A S V W : Str) (id : Str) (li an sc vp wi : Option Str) : List (Str × Str) :=
  (I, id) :: (settingPair L li ++ (settingPair A an ++ (settingPair S sc ++ (settingPair V vp ++ (settingPair W wi ++ [])))))

theorem kvOf_kv (key v : Str) (hk : '=' ∉ key) (hv : '=' ∉ v) :
    VTTRead.kvOf (key ++ '=' :: v) = some (key, v) := by
  unfold VTTRead.kvOf
  rw [Go.splitC_two_mk hk hv]

theorem map_kvOf_word (label : String) (K : Str) (hl : label.toList = K ++ ['=']) (hK : '=' ∉ K)
    (o : Option Str) (ho : VTT.regOptOk o = true) :
    (VTT.word label o).map VTTRead.kvOf = (settingPair K o).map some := by
  cases o with
  | none => rfl
  | some v =>
    simp only [VTT.word, settingPair, List.map_cons, List.map_nil]
    rw [hl, show K ++ ['='] ++ v = K ++ '=' :: v by simp, kvOf_kv K v hK (VTT.regVal_noEq ho)]

theorem map_kvOf_regWords (id : Str) (li an sc vp wi : Option Str) (hid : VTT.regValOk id = true)
    (hli : VTT.regOptOk li = true) (han : VTT.regOptOk an = true) (hsc : VTT.regOptOk sc = true)
    (hvp : VTT.regOptOk vp = true) (hwi : VTT.regOptOk wi = true) :
    (VTT.regWords id li an sc vp wi).map VTTRead.kvOf =
      (regionPairs "id".toList "lines".toList "regionanchor".toList "scroll".toList "viewportanchor".toList
        "width".toList id li an sc vp wi).map some := by
  have h0 : VTTRead.kvOf ("id=".toList ++ id) = some ("id".toList, id) := by
    show VTTRead.kvOf ("id".toList ++ '=' :: id) = _
    exact kvOf_kv _ _ (by decide) (VTT.regVal_noEq hid)
  unfold VTT.regWords regionPairs
  simp only [List.map_cons, List.map_append, List.map_nil, h0,
    map_kvOf_word "lines=" "lines".toList (by decide_vector) (by decide_vector) li hli,
    map_kvOf_word "regionanchor=" "regionanchor".toList (by decide_vector) (by decide_vector) an han,
    map_kvOf_word "scroll=" "scroll".toList (by decide_vector) (by decide_vector) sc hsc,
    map_kvOf_word "viewportanchor=" "viewportanchor".toList (by decide_vector) (by decide_vector) vp hvp,
    map_kvOf_word "width=" "width".toList (by decide_vector) (by decide_vector) wi hwi]

theorem any_isNone_map_some {α : Type} (l : List α) : (l.map some).any (·.isNone) = false := by
  induction l with
  | nil => rfl
  | cons a l ih => simp only [List.map_cons, List.any_cons, Option.isNone_some, Bool.false_or, ih]

def regionOfKvsG (I W L A V S : Str) (kvs : List (Str × Str)) : Option GRegion :=
  let keys := kvs.map (·.1)
  let known := [I, W, L, A, V, S]
  if !(keys.all (known.contains ·)) || !keys.Nodup || !(keys.contains I) || kvs.any (fun kv => kv.2.isEmpty) then none else
  let get (k : Str) : Str := (kvs.lookup k).getD []
  if get L ≠ [] && (natOf (get L)).isNone then none else
  let ln := if (natOf (get L)) = some 0 then [] else
    (get L).dropWhile (· = '0')
  some { id := get I, lines := ln, anchor := get A, scroll := get S, viewport := get V, width := get W }

theorem regionOfKvs_eqG (kvs : List (Str × Str)) :
    VTTRead.regionOfKvs kvs = regionOfKvsG "id".toList "width".toList "lines".toList "regionanchor".toList
      "viewportanchor".toList "scroll".toList kvs := rfl

theorem keys_nodup {I L A S V W : Str} (h : VTTRead.keysDistinct I L A S V W) : [I, L, A, S, V, W].Nodup := by
  obtain ⟨h1, h2, h3, h4, h5, h6, h7, h8, h9, h10, h11, h12, h13, h14, h15⟩ := h
  simp only [List.nodup_cons, List.mem_cons, List.not_mem_nil, or_false, not_or, List.nodup_nil, and_true,
    not_false_eq_true]
  exact ⟨⟨h1, h2, h3, h4, h5⟩, ⟨h6, h7, h8, h9⟩, ⟨h10, h11, h12⟩, ⟨h13, h14⟩, h15⟩

theorem keys_settingPair_sub (K : Str) (o : Option Str) : List.Sublist ((settingPair K o).map (·.1)) [K] := by
  cases o with
  | none => exact List.nil_sublist _
  | some v => exact List.Sublist.refl _

theorem keys_regionPairs_sub (I L A S V W : Str) (id : Str) (li an sc vp wi : Option Str) :
    List.Sublist ((regionPairs I L A S V W id li an sc vp wi).map (·.1)) [I, L, A, S, V, W] := by
  unfold regionPairs
  simp only [List.map_cons, List.map_append, List.map_nil]
  exact List.Sublist.cons_cons I
    ((keys_settingPair_sub L li).append ((keys_settingPair_sub A an).append ((keys_settingPair_sub S sc).append
      ((keys_settingPair_sub V vp).append ((keys_settingPair_sub W wi).append (List.Sublist.refl []))))))

theorem lookup_settingPair_ne {K K' : Str} (h : K ≠ K') (o : Option Str) (rest : List (Str × Str)) :
    (settingPair K' o ++ rest).lookup K = rest.lookup K := by
  cases o with
  | none => rfl
  | some v =>
    have hb : (K == K') = false := by simpa using h
    simp only [settingPair, List.cons_append, List.nil_append, List.lookup_cons, hb]

theorem lookup_settingPair_self (K : Str) (o : Option Str) (rest : List (Str × Str)) (hr : rest.lookup K = none) :
    (settingPair K o ++ rest).lookup K = o := by
  cases o with
  | none => exact hr
  | some v =>
    have hb : (K == K) = true := by simp
    simp only [settingPair, List.cons_append, List.nil_append, List.lookup_cons, hb]

theorem lookupI_regionPairs (I L A S V W : Str) (id : Str) (li an sc vp wi : Option Str) :
    (regionPairs I L A S V W id li an sc vp wi).lookup I = some id := by
  have hb : (I == I) = true := by simp
  simp only [regionPairs, List.lookup_cons, hb]

theorem lookupL_regionPairs {I L A S V W : Str} (h : VTTRead.keysDistinct I L A S V W) (id : Str) (li an sc vp wi : Option Str) :
    (regionPairs I L A S V W id li an sc vp wi).lookup L = li := by
  obtain ⟨h1, _, _, _, _, h6, h7, h8, h9, _⟩ := h
  have hb : (L == I) = false := by simpa using Ne.symm h1
  simp only [regionPairs, List.lookup_cons, hb]
  apply lookup_settingPair_self
  rw [lookup_settingPair_ne h6, lookup_settingPair_ne h7, lookup_settingPair_ne h8, lookup_settingPair_ne h9]
  rfl

theorem mem_settingPair {K : Str} {o : Option Str} {kv : Str × Str} (h : kv ∈ settingPair K o) : kv.1 = K ∧ o = some kv.2 := by
  cases o with
  | none => cases h
  | some v =>
    simp only [settingPair, List.mem_singleton] at h
    subst h
    exact ⟨rfl, rfl⟩

theorem mem_regionPairs {I L A S V W : Str} {id : Str} {li an sc vp wi : Option Str} {kv : Str × Str}
    (h : kv ∈ regionPairs I L A S V W id li an sc vp wi) :
    kv.2 = id ∨ li = some kv.2 ∨ an = some kv.2 ∨ sc = some kv.2 ∨ vp = some kv.2 ∨ wi = some kv.2 := by
  simp only [regionPairs, List.mem_cons, List.mem_append, List.not_mem_nil, or_false] at h
  rcases h with rfl | h | h | h | h | h
  · exact Or.inl rfl
  · exact Or.inr (Or.inl (mem_settingPair h).2)
  · exact Or.inr (Or.inr (Or.inl (mem_settingPair h).2))
  · exact Or.inr (Or.inr (Or.inr (Or.inl (mem_settingPair h).2)))
  · exact Or.inr (Or.inr (Or.inr (Or.inr (Or.inl (mem_settingPair h).2))))
  · exact Or.inr (Or.inr (Or.inr (Or.inr (Or.inr (mem_settingPair h).2))))

/-- a value that is set is not empty -/
def optNe (o : Option Str) : Prop := ∀ v, o = some v → v ≠ []

theorem regionOfKvsG_regionPairs {I L A S V W : Str} (h : VTTRead.keysDistinct I L A S V W) (id : Str) (li an sc vp wi : Option Str)
    (hid : id ≠ []) (hli : optNe li) (han : optNe an) (hsc : optNe sc) (hvp : optNe vp) (hwi : optNe wi)
    (hnat : ∀ v, li = some v → (natOf v).isSome = true) :
    ∃ r : GRegion, regionOfKvsG I W L A V S (regionPairs I L A S V W id li an sc vp wi) = some r ∧ r.id = id ∧
      r.lines.length ≤ (li.getD []).length := by
  have hsub := keys_regionPairs_sub I L A S V W id li an sc vp wi
  have c1 : ((regionPairs I L A S V W id li an sc vp wi).map (·.1)).all ([I, W, L, A, V, S].contains ·) = true := by
    rw [List.all_eq_true]
    intro k hk
    have := hsub.subset hk
    simp only [List.mem_cons, List.not_mem_nil, or_false] at this
    simp only [List.contains_eq_mem, List.mem_cons, List.not_mem_nil, or_false, decide_eq_true_eq]
    rcases this with e | e | e | e | e | e <;> simp [e]
  have c2 : ((regionPairs I L A S V W id li an sc vp wi).map (·.1)).Nodup := hsub.nodup (keys_nodup h)
  have c3 : ((regionPairs I L A S V W id li an sc vp wi).map (·.1)).contains I = true := by
    simp [regionPairs]
  have c4 : (regionPairs I L A S V W id li an sc vp wi).any (fun kv => kv.2.isEmpty) = false := by
    rw [List.any_eq_false]
    intro kv hkv
    have hne : kv.2 ≠ [] := by
      rcases mem_regionPairs hkv with e | e | e | e | e | e
      · rw [e]; exact hid
      · exact hli _ e
      · exact han _ e
      · exact hsc _ e
      · exact hvp _ e
      · exact hwi _ e
    simpa using hne
  have c5 : ((((regionPairs I L A S V W id li an sc vp wi).lookup L).getD [] ≠ [] : Bool) &&
      (natOf (((regionPairs I L A S V W id li an sc vp wi).lookup L).getD [])).isNone) = false := by
    rw [lookupL_regionPairs h]
    cases li with
    | none => simp
    | some v =>
      obtain ⟨n, hn⟩ := Option.isSome_iff_exists.mp (hnat v rfl)
      simp [hn]
  unfold regionOfKvsG
  simp only [c1, c2, c3, c4, c5, decide_true, Bool.not_true, Bool.or_false, Bool.false_eq_true, if_false]
  refine ⟨_, rfl, ?_, ?_⟩
  · simp only [lookupI_regionPairs, Option.getD_some]
  · simp only [lookupL_regionPairs h]
    split
    · exact Nat.zero_le _
    · exact (List.dropWhile_sublist _).length_le

theorem regOpt_optNe {o : Option Str} (h : VTT.regOptOk o = true) : optNe o := by
  intro v e
  subst e
  exact (VTT.regValOk_spec h).1

theorem linesW2_len {li : Option Str} (h : linesW2 li = true) : (li.getD []).length ≤ 18 := by
  cases li with
  | none => exact Nat.zero_le _
  | some v =>
    simp only [linesW2, Bool.and_eq_true, decide_eq_true_eq] at h
    exact h.2

theorem regionLine_regWords (id : Str) (li an sc vp wi : Option Str) (hid : VTT.regValOk id = true)
    (hli : VTT.linesOptOk li = true) (han : VTT.regOptOk an = true) (hsc : VTT.regOptOk sc = true)
    (hvp : VTT.regOptOk vp = true) (hwi : VTT.regOptOk wi = true) (hx : linesW2 li = true) :
    ∃ r : GRegion, regionLine ("Region:".toList ++ VTT.spaced (VTT.regWords id li an sc vp wi)) = some r ∧
      r.id = id ∧ r.lines.length ≤ 18 := by
  have hli' := VTT.linesOpt_reg hli
  have hws := VTT.regWords_ok id li an sc vp wi hid hli han hsc hvp hwi
  have hmap := map_kvOf_regWords id li an sc vp wi hid hli' han hsc hvp hwi
  have hnat : ∀ v, li = some v → (natOf v).isSome = true := by
    intro v e
    subst e
    simp only [linesW2, Bool.and_eq_true, decide_eq_true_eq] at hx
    rw [Spec.VTT.natOf_eq, Spec.SRT.natOf_eq_parseDigits, parseDigits_of_digitStr (digitStr_iff_all_isDigC.mpr hx.1) (VTT.regValOk_spec hli').1]
    rfl
  obtain ⟨r, hr, hrid, hrl⟩ := regionOfKvsG_regionPairs VTTRead.region_keys_distinct id li an sc vp wi (VTT.regValOk_spec hid).1
    (regOpt_optNe hli') (regOpt_optNe han) (regOpt_optNe hsc) (regOpt_optNe hvp) (regOpt_optNe hwi) hnat
  refine ⟨r, ?_, hrid, Nat.le_trans hrl (linesW2_len hx)⟩
  rw [← regionOfKvs_eqG] at hr
  generalize regionPairs "id".toList "lines".toList "regionanchor".toList "scroll".toList "viewportanchor".toList
    "width".toList id li an sc vp wi = kvs at hmap hr
  obtain ⟨w0, W', hW⟩ : ∃ w0 W', VTT.regWords id li an sc vp wi = w0 :: W' := ⟨_, _, rfl⟩
  rw [hW] at hws hmap ⊢
  have hsplit : splitC ' ' (w0 ++ VTT.spaced W') = w0 :: W' :=
    VTT.splitC_spaced W' w0 (Go.not_mem_of_isSpace (by decide) (hws w0 (by simp)).2)
      (fun x hx => Go.not_mem_of_isSpace (by decide) (hws x (by simp [hx])).2)
  rw [VTTRead.regionLine_eq, VTT.region_spaced, Go.dropPrefix?_append]
  simp only [hsplit, hmap, any_isNone_map_some, List.filterMap_id_map, List.filterMap_some, Bool.false_eq_true, if_false]
  exact hr

theorem regionLine_written (s : Subs) (d : Def) (hok : VTT.regionOk s d = true) (hx : regionW2 s d = true) :
    ∃ r : GRegion, Spec.VTT.regionLine (VTT.regionLine s d) = some r ∧ r.id = d.id ∧ r.lines.length ≤ 18 := by
  have F := VTT.regionOk_facts hok
  rw [VTT.regionLine_eq]
  exact regionLine_regWords d.id _ _ _ _ _ F.id F.lines F.anchor F.scroll F.viewport F.width hx

theorem hasPrefix_regionLine (s : Subs) (d : Def) : hasPrefix "Region: ".toList (VTT.regionLine s d) = true := by
  rw [VTT.regionLine_eq]
  obtain ⟨w0, W', hW⟩ : ∃ w0 W', VTT.regWords d.id (VTT.regSetting s d "WebVTTLines")
      (VTT.regSetting s d "WebVTTRegionAnchor") (VTT.regSetting s d "WebVTTScroll")
      (VTT.regSetting s d "WebVTTViewportAnchor") (VTT.regSetting s d "WebVTTWidth") = w0 :: W' := ⟨_, _, rfl⟩
  rw [hW, VTT.region_spaced]
  unfold hasPrefix
  rw [Go.dropPrefix?_append]
  rfl

theorem regionOK_written (s : Subs) (d : Def) (hok : VTT.regionOk s d = true) (hx : regionW2 s d = true) :
    VTTRead.regionOK (VTT.regionLine s d) = true := by
  obtain ⟨r, hr, _, hl⟩ := regionLine_written s d hok hx
  unfold VTTRead.regionOK
  rw [hr]
  simpa using hl

theorem metaStep_region (s : Subs) (d : Def) (hok : VTT.regionOk s d = true) (hx : regionW2 s d = true)
    (st : DocSt) (hfresh : st.regions.any (·.id = d.id) = false) :
    ∃ r : GRegion, r.id = d.id ∧
      VTTRead.metaStep (some st) (VTT.regionLine s d) = some { st with regions := st.regions ++ [r] } := by
  obtain ⟨r, hr, hid, _⟩ := regionLine_written s d hok hx
  refine ⟨r, hid, ?_⟩
  unfold VTTRead.metaStep
  simp only [hasPrefix_regionLine, if_true, hr, hid, hfresh, Bool.false_eq_true, if_false]

theorem foldl_metaStep_regions (s : Subs) (ds : List Def) (hok : ∀ d ∈ ds, VTT.regionOk s d = true)
    (hx : ∀ d ∈ ds, regionW2 s d = true) :
    ∀ (st : DocSt), (ds.map (·.id)).Nodup → (∀ d ∈ ds, st.regions.any (·.id = d.id) = false) →
      ∃ rs : List GRegion, rs.map (·.id) = ds.map (·.id) ∧
        (ds.map (VTT.regionLine s)).foldl VTTRead.metaStep (some st) = some { st with regions := st.regions ++ rs } := by
  induction ds with
  | nil =>
    intro st _ _
    exact ⟨[], rfl, by simp⟩
  | cons d ds ih =>
    intro st hnd hfresh
    simp only [List.map_cons, List.nodup_cons] at hnd
    obtain ⟨r, hrid, hstep⟩ := metaStep_region s d (hok d (by simp)) (hx d (by simp)) st (hfresh d (by simp))
    have hfresh' : ∀ e ∈ ds, ({ st with regions := st.regions ++ [r] } : DocSt).regions.any (·.id = e.id) = false := by
      intro e he
      have h1 := hfresh e (by simp [he])
      have h2 : ¬ r.id = e.id := by
        rw [hrid]
        intro heq
        exact hnd.1 (by rw [heq]; exact List.mem_map_of_mem he)
      simp only [List.any_append, h1, List.any_cons, List.any_nil, Bool.or_false, Bool.false_or, decide_eq_false_iff_not]
      exact h2
    obtain ⟨rs, hrs, hfold⟩ := ih (fun e he => hok e (by simp [he])) (fun e he => hx e (by simp [he]))
      { st with regions := st.regions ++ [r] } hnd.2 hfresh'
    refine ⟨r :: rs, by simp only [List.map_cons, hrid, hrs], ?_⟩
    rw [List.map_cons, List.foldl_cons, hstep, hfold]
    simp only [List.append_assoc, List.singleton_append]

end VTT3W
end Astisub
