import Astisub.Lemmas.EvalLit
import Astisub.Model.SRT
import Astisub.Props.C01
import Astisub.Lemmas.Lines

/-!
# Lemmas/SRTDoc — vocabulary of the SubRip document-level round trip

`styleOf`: what the writer looks at in a run's attributes.  `Rep`: the cue lists SubRip can carry (decidable).
`norm`: what the format forces on a cue list (instants truncated to the millisecond, cues renumbered, attributes
rebuilt from the four SubRip markers, everything else dropped).  `linesFrom`: the lines of the written document
(`write_eq_lines`: `SRT.write` is these lines, each ended by LF, behind a BOM, without the very last LF).
-/

namespace Astisub
namespace SRTDoc
open Go SRT List

/-- the style `LineItem.srtBytes` renders: bold / italics / underline when the attribute is set,
    a colour when `SRTColor` is set and not empty -/
def styleOf (li : LItem) : Run :=
  { bold := (kvGet li.attrs "SRTBold").isSome
    italics := (kvGet li.attrs "SRTItalics").isSome
    underline := (kvGet li.attrs "SRTUnderline").isSome
    color := match kvGet li.attrs "SRTColor" with
      | some c => if c ≠ [] then some c else none
      | none => none }

/-- does the writer put any tag around the run? (same test as in `runAttrs`) -/
def styled (r : Run) : Bool := r.bold || r.color.isSome || r.italics || r.underline

def nbsp : Char := Char.ofNat 0xA0

theorem nbsp_eq : nbsp = C01.nbsp := rfl

/-- a character that is still there after `strings.TrimSpace` of the written line: anything that
    is not white space, and the no-break space (written as `&nbsp;`) -/
def visible (c : Char) : Bool := !isSpace c || c == nbsp

/-- a colour value that survives: no `"` (ends the attribute), no `&` (entity decoding: outside the
    tokenizer model), no `>` (rejected by the independent decoder, and could complete a `-->`),
    no line break, no NUL -/
def colorRep (c : Str) : Bool :=
  c.all fun ch => ch != '"' && ch != '&' && ch != '>' && ch != '\n' && ch != '\r' && ch != '\x00'

/-- a run SubRip can carry -/
def RepRun (li : LItem) : Bool :=
  li.text.any visible                                                   -- some ink: blank runs are dropped by the reader
  && li.text.all (fun c => c != '\n' && c != '\r' && c != '\x00')      -- no line break inside a run; NUL: outside the tokenizer model
  && !contains arrow li.text                                            -- a line containing "-->" is a timing line
  && ((kvGet li.attrs "SRTPosition").getD [] == [])                     -- `{\an8}` is not read back
  && (match (styleOf li).color with | some c => colorRep c | none => true)

/-- no `SRTPosition` to write: the writer emits no `{\\an…}` in front of the run's text -/
abbrev NoPos (li : LItem) : Prop := (kvGet li.attrs "SRTPosition").getD [] = []

def plainRun (li : LItem) : Bool := !styled (styleOf li)

/-- no two unstyled runs next to each other (they would be written without anything between them
    and read back as one run) -/
def noAdjPlain : List LItem → Bool
  | a :: b :: r => !(plainRun a && plainRun b) && noAdjPlain (b :: r)
  | _ => true

/-- a line SubRip can carry: at least one run, every run representable, no two adjacent unstyled
    runs; the line does not begin or end with white space that `strings.TrimSpace` would remove
    (only possible when the first / last run is unstyled) -/
def RepLine (l : Line) : Bool :=
  !l.items.isEmpty && l.items.all RepRun && noAdjPlain l.items
  && (match l.items.head? with | some li => styled (styleOf li) || (li.text.head?.any visible) | none => false)
  && (match l.items.getLast? with | some li => styled (styleOf li) || (li.text.getLast?.any visible) | none => false)

def hundredHours : Int := 360000000000000

/-- a cue SubRip can carry: both instants in `[0, 100 h)`, every line representable -/
def RepItem (it : CItem) : Bool :=
  decide (0 ≤ it.startAt) && decide (it.startAt < hundredHours) && decide (0 ≤ it.endAt) && decide (it.endAt < hundredHours)
  && it.lines.all RepLine

/-- **Representable cue lists.** at least one cue (the writer refuses an empty list), no more cues
    than an `int` counts (the index is read back through `strconv.Atoi`), every cue representable -/
def Rep (s : Subs) : Bool :=
  !s.items.isEmpty && decide (s.items.length ≤ int64Max) && s.items.all RepItem

/-- the clauses of `RepRun`, named -/
structure RepRunFacts (li : LItem) : Prop where
  vis : li.text.any visible = true
  chars : ∀ c ∈ li.text, c ≠ '\n' ∧ c ≠ '\r' ∧ c ≠ '\x00'
  noArrow : contains arrow li.text = false
  noPos : NoPos li
  color : ∀ c, (styleOf li).color = some c → colorRep c = true

theorem repRun_facts {li : LItem} (h : RepRun li = true) : RepRunFacts li := by
  simp only [RepRun, Bool.and_eq_true] at h
  obtain ⟨⟨⟨⟨h1, h2⟩, h3⟩, h4⟩, h5⟩ := h
  exact { vis := h1, noArrow := by simpa using h3, noPos := by simpa using h4,
          chars := fun c hc => by simpa [and_assoc] using List.all_eq_true.mp h2 c hc,
          color := fun c hc => by rw [hc] at h5; exact h5 }

/-- the clauses of `RepLine`, named (`head`, `last`: the line does not begin / end with white space to trim) -/
structure RepLineFacts (l : Line) : Prop where
  ne : l.items ≠ []
  runs : ∀ li ∈ l.items, RepRun li = true
  noAdj : noAdjPlain l.items = true
  head : (match l.items.head? with | some li => styled (styleOf li) || (li.text.head?.any visible) | none => false) = true
  last : (match l.items.getLast? with | some li => styled (styleOf li) || (li.text.getLast?.any visible) | none => false) = true

theorem repLine_iff {l : Line} : RepLine l = true ↔ RepLineFacts l := by
  simp only [RepLine, Bool.and_eq_true, Bool.not_eq_true', List.isEmpty_eq_false_iff, List.all_eq_true]
  exact ⟨fun ⟨⟨⟨⟨a, b⟩, c⟩, d⟩, e⟩ => ⟨a, b, c, d, e⟩, fun h => ⟨⟨⟨⟨h.ne, h.runs⟩, h.noAdj⟩, h.head⟩, h.last⟩⟩

/-- the clauses of `RepItem`, named -/
structure RepItemFacts (it : CItem) : Prop where
  start0 : 0 ≤ it.startAt
  startLt : it.startAt < hundredHours
  end0 : 0 ≤ it.endAt
  endLt : it.endAt < hundredHours
  lines : ∀ l ∈ it.lines, RepLine l = true

theorem repItem_iff {it : CItem} : RepItem it = true ↔ RepItemFacts it := by
  simp only [RepItem, Bool.and_eq_true, decide_eq_true_eq, List.all_eq_true]
  exact ⟨fun ⟨⟨⟨⟨a, b⟩, c⟩, d⟩, e⟩ => ⟨a, b, c, d, e⟩, fun h => ⟨⟨⟨⟨h.start0, h.startLt⟩, h.end0⟩, h.endLt⟩, h.lines⟩⟩

/-- the clauses of `Rep`, named -/
structure RepFacts (s : Subs) : Prop where
  ne : s.items ≠ []
  count : s.items.length ≤ int64Max
  items : ∀ it ∈ s.items, RepItem it = true

theorem rep_iff {s : Subs} : Rep s = true ↔ RepFacts s := by
  simp only [Rep, Bool.and_eq_true, Bool.not_eq_true', List.isEmpty_eq_false_iff, decide_eq_true_eq, List.all_eq_true]
  exact ⟨fun ⟨⟨a, b⟩, c⟩ => ⟨a, b, c⟩, fun h => ⟨⟨h.ne, h.count⟩, h.items⟩⟩

/-- two cues; styled and unstyled runs on one line, a colour, text with `<`, `&`, `->`, a no-break
    space, an instant with a sub-millisecond part, the last representable instant, things SubRip
    drops (voice, inline style reference, a style table) -/
def exampleSubs : Subs :=
  { items := [
      { startAt := 1234567890, endAt := 3000000000, index := 7,
        lines := [ { items := [ { text := "Hello ".toList },
                                { text := "a < b & c".toList,
                                  attrs := some [("SRTBold".toList, "true".toList), ("SRTColor".toList, "#ff0000".toList)] },
                                { text := " tail".toList } ] },
                   { items := [ { text := "second -> line".toList,
                                  attrs := some [("SRTItalics".toList, "true".toList), ("SRTUnderline".toList, "true".toList)] } ] } ] },
      { startAt := 359999999999999, endAt := 4000000000,
        lines := [ { voice := "v".toList, items := [ { text := [Char.ofNat 0xA0], style := some "s".toList } ] } ] } ],
    styles := [ { id := "s".toList } ] }

example : Rep exampleSubs = true := by unfold exampleSubs; decide_vector
example : RepItem { startAt := 0, endAt := 1, lines := [] } = true := by decide +kernel          -- a cue without text is fine for the library
example : RepLine { items := [{ text := "x y".toList }] } = true := by decide +kernel
example : RepRun { text := " ".toList, attrs := some [("SRTBold".toList, "true".toList)] } = false := by decide +kernel  -- no ink
example : RepLine { items := [{ text := " x".toList }] } = false := by decide +kernel             -- leading blank: trimmed by the reader
example : RepLine { items := [{ text := "a".toList }, { text := "b".toList }] } = false := by decide +kernel  -- read back as one run
example : RepRun { text := "a --> b".toList } = false := by decide +kernel
example : RepRun { text := "a".toList, attrs := some [("SRTPosition".toList, "8".toList)] } = false := by decide +kernel
example : RepRun { text := "a".toList, attrs := some [("SRTColor".toList, "\"".toList)] } = false := by decide +kernel
example : RepRun { text := "a".toList, attrs := some [("SRTColor".toList, [])] } = true := by decide +kernel    -- an empty colour is not written
example : Rep { items := [] } = false := by decide +kernel

def truncMs (t : Int) : Int := t - t % 1000000

/-- the run as it comes back: same text; the attributes are the ones the reader derives from the
    four SubRip markers (`SRTBold`, `SRTColor`, `SRTItalics`, `SRTUnderline` and the propagated
    `TTMLColor`, `WebVTTBold`, `WebVTTItalics`, `WebVTTUnderline`, `WebVTTTags`); anything else
    (inline style reference, start offset, other attributes) is not carried by the format -/
def normRun (li : LItem) : LItem := { text := li.text, attrs := runAttrs (styleOf li) }

def normLine (l : Line) : Line := { items := l.items.map normRun }

/-- the `k`-th cue (0-based) as it comes back: numbered `k+1`, instants truncated to the millisecond -/
def normItem (k : Nat) (it : CItem) : CItem :=
  { index := (k : Int) + 1, startAt := truncMs it.startAt, endAt := truncMs it.endAt, lines := it.lines.map normLine }

def normItems : Nat → List CItem → List CItem
  | _, [] => []
  | k, it :: rest => normItem k it :: normItems (k + 1) rest

/-- **Normal form.** what a SubRip file keeps of a cue list -/
def norm (s : Subs) : Subs := { items := normItems 0 s.items }

def lineStr (l : Line) : Str := (l.items.map runBytes).flatten

def timingStr (it : CItem) : Str := Duration.formatSRT it.startAt ++ " --> ".toList ++ Duration.formatSRT it.endAt

/-- index line, timing line, text lines -/
def blockLines (k : Nat) (it : CItem) : List Str := itoaNat (k + 1) :: timingStr it :: it.lines.map lineStr

/-- the blocks of the cues numbered from `k+1` on, each followed by one empty line -/
def linesFrom : Nat → List CItem → List Str
  | _, [] => []
  | k, it :: rest => blockLines k it ++ [] :: linesFrom (k + 1) rest

def unlines (ls : List Str) : Str := ls.flatMap fun l => l ++ ['\n']

theorem unlines_lf (ls : List Str) : unlines ls = lfLines ls := rfl

theorem unlines_append (a b : List Str) : unlines (a ++ b) = unlines a ++ unlines b := lfLines_append a b

theorem unlines_cons (a : Str) (b : List Str) : unlines (a :: b) = a ++ '\n' :: unlines b := lfLines_cons a b

theorem itemBytes_eq (k : Nat) (it : CItem) : itemBytes k it = unlines (blockLines k it ++ [[]]) := by
  unfold itemBytes blockLines timingStr lineBytes lineStr
  simp [unlines, List.flatMap_def, Function.comp_def]

theorem items_bytes_eq (items : List CItem) (k : Nat) :
    ((items.zipIdx k).map fun (it, k) => itemBytes k it).flatten = unlines (linesFrom k items) := by
  induction items generalizing k with
  | nil => rfl
  | cons it rest ih =>
    rw [List.zipIdx_cons, List.map_cons, List.flatten_cons, ih (k + 1)]
    show itemBytes k it ++ _ = _
    rw [itemBytes_eq]
    simp [linesFrom, unlines_append, unlines_cons]
    rfl

theorem linesFrom_ne_nil (k : Nat) (it : CItem) (rest : List CItem) : linesFrom k (it :: rest) ≠ [] := by
  simp [linesFrom, blockLines]

theorem write_eq_lines (s : Subs) (h : s.items ≠ []) :
    write s = some (bom ++ (unlines (linesFrom 0 s.items)).dropLast) := by
  unfold write
  have : s.items.isEmpty = false := by cases hs : s.items with | nil => exact absurd hs h | cons => rfl
  simp only [this, Bool.false_eq_true, ↓reduceIte]
  rw [items_bytes_eq]

/-- the drivers' "has a line the scanner refuses" is the byte-level predicate of the repaired
    scanner: a line of more than `maxLineSize = 65535` bytes, whatever ends it -/
theorem tooLong_eq_firstLong (doc : List UInt8) : Driver.tooLong doc = Go.firstLong doc := by
  unfold Driver.tooLong Go.firstLong Go.maxLineSize
  congr 1

end SRTDoc
end Astisub
