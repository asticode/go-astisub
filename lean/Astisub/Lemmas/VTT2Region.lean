import Astisub.Lemmas.VTT2Blocks
import Astisub.Lemmas.SSAStr

/-!
# Lemmas/VTT2Region — a written region definition line through the reader: `step_region` (under `regionOk` the
line defines exactly `readRegion`)
-/

namespace Astisub
namespace VTT
open Go List

/-- a value of a region definition that survives: non-empty, no white space, no `=` -/
def regValOk (v : Str) : Bool := v != [] && v.all fun c => !(isSpace c || c == '=')
def regOptOk (o : Option Str) : Bool := match o with | none => true | some v => regValOk v

/-- the `lines=` value is the canonical decimal of a non-zero `int` (the Go field is an `int`,
    0 meaning unset) -/
def linesOptOk (o : Option Str) : Bool :=
  match o with
  | none => true
  | some v => match atoi v with
    | some n => n != 0 && itoa n == v
    | none => false

example : regValOk "10%,90%".toList = true ∧ linesOptOk (some "3".toList) = true ∧ linesOptOk (some "03".toList) = false := by decide_vector

theorem regValOk_spec {v : Str} (h : regValOk v = true) : v ≠ [] ∧ ∀ c ∈ v, isSpace c = false ∧ c ≠ '=' := by
  simp only [regValOk, Bool.and_eq_true, bne_iff_ne, ne_eq, List.all_eq_true, Bool.not_eq_true',
    Bool.or_eq_false_iff, beq_eq_false_iff_ne] at h
  exact ⟨h.1, fun c hc => h.2 c hc⟩

theorem numChar_ne_eq {c : Char} (h : numChar c = true) : c ≠ '=' := by
  intro e; subst e; exact absurd h (by decide)

theorem linesOptOk_spec {v : Str} (h : linesOptOk (some v) = true) :
    ∃ n : Int, atoi v = some n ∧ n ≠ 0 ∧ itoa n = v ∧ regValOk v = true := by
  simp only [linesOptOk] at h
  cases ha : atoi v with
  | none => rw [ha] at h; cases h
  | some n =>
    rw [ha] at h
    simp only [Bool.and_eq_true, bne_iff_ne, ne_eq, beq_iff_eq] at h
    refine ⟨n, rfl, h.1, h.2, ?_⟩
    rw [← h.2]
    simp only [regValOk, Bool.and_eq_true, bne_iff_ne, ne_eq, List.all_eq_true, Bool.not_eq_true',
      Bool.or_eq_false_iff, beq_eq_false_iff_ne]
    exact ⟨itoa_ne_nil n, fun c hc => ⟨numChar_not_space (numChar_itoa n c hc), numChar_ne_eq (numChar_itoa n c hc)⟩⟩

/-- a region setting as the writer resolves it -/
def regSetting (s : Subs) (d : Def) (k : String) : Option Str := fallback d.attrs (styleAttrs s d.ref) k

/-- a region definition that is read back exactly -/
def regionOk (s : Subs) (d : Def) : Bool :=
  regValOk d.id && linesOptOk (regSetting s d "WebVTTLines") && regOptOk (regSetting s d "WebVTTRegionAnchor") &&
  regOptOk (regSetting s d "WebVTTScroll") && regOptOk (regSetting s d "WebVTTViewportAnchor") &&
  regOptOk (regSetting s d "WebVTTWidth")

/-- the region the reader builds from the written definition -/
def readRegion (s : Subs) (d : Def) : Def :=
  { id := d.id,
    attrs := some (mkAttrs [("WebVTTLines", regSetting s d "WebVTTLines"), ("WebVTTRegionAnchor", regSetting s d "WebVTTRegionAnchor"),
      ("WebVTTScroll", regSetting s d "WebVTTScroll"), ("WebVTTViewportAnchor", regSetting s d "WebVTTViewportAnchor"),
      ("WebVTTWidth", regSetting s d "WebVTTWidth")]) }

theorem splitC_spaced (ws : List Str) : ∀ (w : Str), ' ' ∉ w → (∀ x ∈ ws, ' ' ∉ x) →
    splitC ' ' (w ++ spaced ws) = w :: ws := by
  induction ws with
  | nil => intro w hw _; simp [spaced_nil, splitC_not_mem hw]
  | cons x xs ih =>
    intro w hw hws
    rw [spaced_cons, show w ++ (' ' :: x ++ spaced xs) = w ++ ' ' :: (x ++ spaced xs) by simp,
      splitC_append _ hw, ih x (hws x (by simp)) (fun y hy => hws y (by simp [hy]))]

theorem regVal_noEq {v : Str} (h : regValOk v = true) : '=' ∉ v :=
  fun hc => ((regValOk_spec h).2 _ hc).2 rfl

theorem regionParts_id (v : Str) (hv : regValOk v = true) (ps : List Str) (r : RegAcc) :
    regionParts (("id=".toList ++ v) :: ps) r = regionParts ps { r with id := v } := by
  rw [show "id=".toList ++ v = "id".toList ++ '=' :: v by repeat rw [String.toList_ofList]; rfl,
    regionParts_split _ "id".toList v [] _ _ (splitC_two_mk (by decide_vector) (regVal_noEq hv))]
  rfl

/-- the number the reader holds for a `lines=` value -/
def linesVal (o : Option Str) (dflt : Int) : Int :=
  match o with
  | some v => (atoi v).getD 0
  | none => dflt

/-- an optional written word `label v` (`label` = key and `=`) whose key sets the field `get`/`set` -/
theorem regionParts_word {β : Type} (label : String) (k : Str) (get : RegAcc → β) (set : β → RegAcc → RegAcc)
    (inj : Str → β) (hget : ∀ r, set (get r) r = r)
    (hl : label.toList = k ++ ['=']) (hk : '=' ∉ k) (o : Option Str) (ho : regOptOk o = true)
    (hf : ∀ v r, o = some v → setR k v r = some (set (inj v) r)) (ps : List Str) (r : RegAcc) :
    regionParts (word label o ++ ps) r = regionParts ps (set ((o.map inj).getD (get r)) r) := by
  cases o with
  | none => rw [Option.map_none, Option.getD_none, hget]; rfl
  | some v =>
    rw [word_some _ k '=' v hl, singleton_append,
      regionParts_split _ k v [] _ _ (splitC_two_mk hk (regVal_noEq ho)), hf v r rfl]
    rfl

theorem linesOpt_reg {o : Option Str} (h : linesOptOk o = true) : regOptOk o = true := by
  cases o with
  | none => rfl
  | some v => obtain ⟨_, _, _, _, hv⟩ := linesOptOk_spec h; exact hv

/-- the words of a region definition after `Region:` -/
def regWords (id : Str) (li an sc vp wi : Option Str) : List Str :=
  ("id=".toList ++ id) :: (word "lines=" li ++ (word "regionanchor=" an ++ (word "scroll=" sc
    ++ (word "viewportanchor=" vp ++ (word "width=" wi ++ [])))))

theorem regionParts_all (id : Str) (li an sc vp wi : Option Str) (hid : regValOk id = true)
    (hli : linesOptOk li = true) (han : regOptOk an = true) (hsc : regOptOk sc = true)
    (hvp : regOptOk vp = true) (hwi : regOptOk wi = true) :
    regionParts (regWords id li an sc vp wi) {}
      = some { id := id, lines := linesVal li 0, anchor := an.getD [],
               scroll := sc.getD [], viewport := vp.getD [], width := wi.getD [] } := by
  unfold regWords
  rw [regionParts_id _ hid,
    regionParts_word "lines=" "lines".toList (·.lines) (fun n r => { r with lines := n }) (fun v => (atoi v).getD 0)
      (fun _ => rfl) (by decide_vector) (by decide_vector) _ (linesOpt_reg hli)
      (fun v r e => by obtain ⟨n, hn, _⟩ := linesOptOk_spec (e ▸ hli); simp [setR, hn]),
    regionParts_word "regionanchor=" "regionanchor".toList (·.anchor) (fun v r => { r with anchor := v }) (fun v => v)
      (fun _ => rfl) (by decide_vector) (by decide_vector) _ han (fun _ _ _ => by simp [setR]),
    regionParts_word "scroll=" "scroll".toList (·.scroll) (fun v r => { r with scroll := v }) (fun v => v)
      (fun _ => rfl) (by decide_vector) (by decide_vector) _ hsc (fun _ _ _ => by simp [setR]),
    regionParts_word "viewportanchor=" "viewportanchor".toList (·.viewport) (fun v r => { r with viewport := v })
      (fun v => v) (fun _ => rfl) (by decide_vector) (by decide_vector) _ hvp (fun _ _ _ => by simp [setR]),
    regionParts_word "width=" "width".toList (·.width) (fun v r => { r with width := v }) (fun v => v)
      (fun _ => rfl) (by decide_vector) (by decide_vector) _ hwi (fun _ _ _ => by simp [setR])]
  simp only [Option.map_id']
  cases li <;> rfl

theorem regionLine_eq (s : Subs) (d : Def) :
    regionLine s d = "Region:".toList ++ spaced (regWords d.id (regSetting s d "WebVTTLines")
      (regSetting s d "WebVTTRegionAnchor") (regSetting s d "WebVTTScroll") (regSetting s d "WebVTTViewportAnchor")
      (regSetting s d "WebVTTWidth")) := by
  unfold regionLine regWords regSetting
  repeat rw [String.toList_ofList]
  simp only [setting_eq, spaced_cons, spaced_append, List.append_assoc, List.cons_append, List.nil_append,
    List.append_nil]

theorem regWord_ok (label : String) (hl : labelOk label = true) (o : Option Str) (ho : regOptOk o = true) :
    ∀ w ∈ word label o, WordOk w :=
  word_wordOk label hl o fun v e => by
    subst e; exact ⟨(regValOk_spec ho).1, fun c hc => ((regValOk_spec ho).2 c hc).1⟩

theorem regWords_ok (id : Str) (li an sc vp wi : Option Str) (hid : regValOk id = true)
    (hli : linesOptOk li = true) (han : regOptOk an = true) (hsc : regOptOk sc = true)
    (hvp : regOptOk vp = true) (hwi : regOptOk wi = true) :
    ∀ w ∈ regWords id li an sc vp wi, WordOk w := by
  intro w hw
  simp only [regWords, List.mem_cons, List.mem_append, List.not_mem_nil, or_false] at hw
  rcases hw with rfl | hw | hw | hw | hw | hw
  · obtain ⟨hne, hv⟩ := regValOk_spec hid
    refine ⟨by simp, ?_⟩
    intro c hc
    rcases List.mem_append.mp hc with hc | hc
    · exact (show ∀ c ∈ "id=".toList, isSpace c = false by decide_vector) c hc
    · exact (hv c hc).1
  · exact regWord_ok _ (by unfold labelOk; decide_vector) _ (linesOpt_reg hli) w hw
  · exact regWord_ok _ (by unfold labelOk; decide_vector) _ han w hw
  · exact regWord_ok _ (by unfold labelOk; decide_vector) _ hsc w hw
  · exact regWord_ok _ (by unfold labelOk; decide_vector) _ hvp w hw
  · exact regWord_ok _ (by unfold labelOk; decide_vector) _ hwi w hw

theorem regOptOk_ne {o : Option Str} (ho : regOptOk o = true) : o ≠ some [] := fun e => by subst e; cases ho

theorem lines_back (o : Option Str) (ho : linesOptOk o = true) :
    (if linesVal o 0 = 0 then none else some (itoa (linesVal o 0))) = o := by
  cases o with
  | none => rfl
  | some v =>
    obtain ⟨n, hn, hn0, hit, _⟩ := linesOptOk_spec ho
    simp [linesVal, hn, hn0, hit]

/-- the conjuncts of `regionOk`, by name -/
structure RegionFacts (s : Subs) (d : Def) : Prop where
  id : regValOk d.id = true
  lines : linesOptOk (regSetting s d "WebVTTLines") = true
  anchor : regOptOk (regSetting s d "WebVTTRegionAnchor") = true
  scroll : regOptOk (regSetting s d "WebVTTScroll") = true
  viewport : regOptOk (regSetting s d "WebVTTViewportAnchor") = true
  width : regOptOk (regSetting s d "WebVTTWidth") = true

theorem regionOk_facts {s : Subs} {d : Def} (h : regionOk s d = true) : RegionFacts s d := by
  simp only [regionOk, Bool.and_eq_true] at h
  obtain ⟨⟨⟨⟨⟨hid, hli⟩, han⟩, hsc⟩, hvp⟩, hwi⟩ := h
  exact ⟨hid, hli, han, hsc, hvp, hwi⟩

theorem wline_regionLine (s : Subs) (d : Def) (hok : regionOk s d = true) : WLine (regionLine s d) := by
  obtain ⟨hid, hli, han, hsc, hvp, hwi⟩ := regionOk_facts hok
  rw [regionLine_eq]
  exact wline_words 'R' "egion:".toList _ (by decide) (noBreak_of_B (by decide_vector)) (by simp [regWords])
    (regWords_ok d.id _ _ _ _ _ hid hli han hsc hvp hwi)

theorem region_spaced (w : Str) (ws : List Str) :
    "Region:".toList ++ spaced (w :: ws) = "Region: ".toList ++ (w ++ spaced ws) := by
  rw [spaced_cons]
  repeat rw [String.toList_ofList]
  simp

theorem step_region (s : Subs) (d : Def) (hok : regionOk s d = true) (st : St) (hb : st.block = .none) :
    step st (some (regionLine s d)) = .ok { st with regions := setDef st.regions (readRegion s d) } := by
  have hw := wline_regionLine s d hok
  obtain ⟨hid, hli, han, hsc, hvp, hwi⟩ := regionOk_facts hok
  have hws := regWords_ok d.id _ _ _ _ _ hid hli han hsc hvp hwi
  have hparts := regionParts_all d.id _ _ _ _ _ hid hli han hsc hvp hwi
  rw [regionLine_eq] at hw ⊢
  unfold regWords at hws hparts hw ⊢
  generalize "id=".toList ++ d.id = w0 at hws hparts hw ⊢
  generalize word "lines=" (regSetting s d "WebVTTLines") ++ _ = W' at hws hparts hw ⊢
  rw [region_spaced] at hw ⊢
  rw [VTTRead.step_region st _ hw.trim hw.ne hb (by rw [VTTRead.lit_region]; exact noteTest_head (by decide) _)
    (hasPrefix_append _ _), trimPrefix, dropPrefix?_append, Option.getD_some,
    splitC_spaced W' w0 (not_mem_of_isSpace (by decide) (hws w0 mem_cons_self).2)
      (fun x hx => not_mem_of_isSpace (by decide) (hws x (mem_cons_of_mem _ hx)).2), hparts]
  simp only [regionDef, readRegion, lines_back _ hli, optStr_getD_of_ne (regOptOk_ne han),
    optStr_getD_of_ne (regOptOk_ne hsc), optStr_getD_of_ne (regOptOk_ne hvp), optStr_getD_of_ne (regOptOk_ne hwi)]

end VTT
end Astisub
