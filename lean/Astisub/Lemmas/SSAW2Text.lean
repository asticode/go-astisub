import Astisub.Lemmas.SSAW2Defs

/-!
# Lemmas/SSAW2Text — the decoder's event-text scanner on what the writer emits
-/

namespace Astisub
namespace SSAW
open Go SSA SSAR List
open Spec.SSA (GVal GStyle GRun GEvent GDoc REvent)

/-- plain characters are pushed on the accumulator, one unit of fuel each -/
theorem runsOf_plain : ∀ (t s : Str) (fuel : Nat) (eff : Option Str) (acc : Str) (out : List GRun), NoBrace t →
    Spec.SSA.runsOf (fuel + t.length) (t ++ s) eff acc out = Spec.SSA.runsOf fuel s eff (t.reverse ++ acc) out := by
  intro t
  induction t with
  | nil => intro s fuel eff acc out _; rfl
  | cons c cs ih =>
    intro s fuel eff acc out h
    have h1 : c ≠ '{' := fun e => h.1 (by simp [e])
    have h2 : c ≠ '}' := fun e => h.2 (by simp [e])
    have hcs : NoBrace cs := ⟨fun e => h.1 (by simp [e]), fun e => h.2 (by simp [e])⟩
    have e : fuel + (c :: cs).length = (fuel + cs.length) + 1 := by simp; omega
    rw [e, cons_append, runsOf_other _ c _ eff acc out h1 h2, ih s fuel eff (c :: acc) out hcs]
    simp

theorem innerOf_block (inner after : Str) (h : NoBrace inner) : innerOf (inner ++ '}' :: after) = inner := by
  unfold innerOf
  induction inner with
  | nil => simp
  | cons c cs ih =>
    have h1 : c ≠ '{' := fun e => h.1 (by simp [e])
    have h2 : c ≠ '}' := fun e => h.2 (by simp [e])
    have hcs : NoBrace cs := ⟨fun e => h.1 (by simp [e]), fun e => h.2 (by simp [e])⟩
    rw [cons_append, takeWhile_cons]
    simp only [ne_eq, h2, not_false_eq_true, decide_true, h1, Bool.and_self, ↓reduceIte]
    rw [ih hcs]

theorem runsOf_block (fuel : Nat) (inner after : Str) (eff : Option Str) (acc : Str) (out : List GRun)
    (hi : inner ≠ []) (hn : NoBrace inner) :
    Spec.SSA.runsOf (fuel + 1) (('{' :: inner ++ ['}']) ++ after) eff acc out =
      Spec.SSA.runsOf fuel after (some ('{' :: inner ++ ['}'])) []
        (if eff.isNone && acc.isEmpty then out else out ++ [{ effect := eff, text := acc.reverse }]) := by
  have e : ('{' :: inner ++ ['}']) ++ after = '{' :: (inner ++ '}' :: after) := by simp
  have hin := innerOf_block inner after hn
  have hd : (inner ++ '}' :: after).drop (innerOf (inner ++ '}' :: after)).length = '}' :: after := by
    rw [hin]; simp
  rw [e, runsOf_open_some fuel _ after eff acc out hd, hin]
  have : inner.isEmpty = false := by cases inner with | nil => exact absurd rfl hi | cons _ _ => rfl
  simp [this]

theorem lineStr_cons_some (e t : Str) (rs : List Run) :
    SSA.lineStr ((some e, t) :: rs) = e ++ (t ++ SSA.lineStr rs) := by
  simp [SSA.lineStr, runStr]

theorem lineStr_cons_none (t : Str) (rs : List Run) :
    SSA.lineStr ((none, t) :: rs) = t ++ SSA.lineStr rs := by
  simp [SSA.lineStr, runStr]

/-- the scanner on block runs only (pending run `(eff, acc.reverse)`) -/
theorem runsOf_blocks : ∀ (rest : List Run) (fuel : Nat) (eff : Option Str) (acc : Str) (out : List GRun),
    (∀ r ∈ rest, BlockRun r) → (SSA.lineStr rest).length < fuel →
    Spec.SSA.runsOf fuel (SSA.lineStr rest) eff acc out = some (out ++ tailRuns eff acc.reverse rest) := by
  intro rest
  induction rest with
  | nil =>
    intro fuel eff acc out _ hf
    obtain ⟨f, rfl⟩ : ∃ f, fuel = f + 1 := ⟨fuel - 1, by omega⟩
    simp [SSA.lineStr, Spec.SSA.runsOf, tailRuns]
  | cons r rs ih =>
    intro fuel eff acc out h hf
    obtain ⟨hb, htx⟩ := h r (by simp)
    obtain ⟨eo, t⟩ := r
    cases eo with
    | none => exact absurd hb id
    | some e =>
      have hb' : IsBlock e := hb
      have htx' : NoBrace t := htx
      have he : e = '{' :: blockInner e ++ ['}'] := hb'.1
      have hrest : ∀ r ∈ rs, BlockRun r := fun r hr => h r (by simp [hr])
      rw [lineStr_cons_some] at hf ⊢
      have hle : e.length = (blockInner e).length + 2 := by
        conv => lhs; rw [he]
        simp
      simp only [length_append] at hf
      obtain ⟨f, rfl⟩ : ∃ f, fuel = (f + t.length) + 1 := ⟨fuel - t.length - 1, by omega⟩
      conv => lhs; rw [he]
      rw [runsOf_block _ (blockInner e) _ eff acc out hb'.2.1 hb'.2.2, runsOf_plain t _ f _ _ _ htx',
        ih f _ _ _ hrest (by omega), ← he, tailRuns_some]
      simp only [append_nil, reverse_reverse, tailRuns, map_cons, grun]
      cases eff <;> cases acc <;> simp

/-- plain text, then block runs: the decoder's scanner returns the pending run completed with the plain text
    (dropped when it has neither override block nor text and blocks follow), then one run per block -/
theorem runsOf_written : ∀ (rest : List Run) (t : Str) (fuel : Nat) (eff : Option Str) (acc : Str) (out : List GRun),
    NoBrace t → (∀ r ∈ rest, BlockRun r) → (t ++ SSA.lineStr rest).length < fuel →
    Spec.SSA.runsOf fuel (t ++ SSA.lineStr rest) eff acc out = some (out ++ tailRuns eff (acc.reverse ++ t) rest) := by
  intro rest t fuel eff acc out ht hr hf
  simp only [length_append] at hf
  obtain ⟨f, rfl⟩ : ∃ f, fuel = f + t.length := ⟨fuel - t.length, by omega⟩
  rw [runsOf_plain t _ f eff acc out ht, runsOf_blocks rest f eff _ out hr (by omega)]
  simp

theorem runsOf_goodLine (runs : List Run) (h : GoodLine runs) :
    Spec.SSA.runsOf ((SSA.lineStr runs).length + 2) (SSA.lineStr runs) none [] [] = some (runs.map grun) := by
  cases runs with
  | nil => exact absurd h id
  | cons r0 rest =>
    obtain ⟨eo, t⟩ := r0
    cases eo with
    | none =>
      cases rest with
      | nil =>
        have h' : NoBrace t := h
        have := runsOf_written [] t ((SSA.lineStr [(none, t)]).length + 2) none [] [] h' (by simp)
          (by simp [SSA.lineStr, runStr])
        rw [lineStr_cons_none]
        rw [lineStr_cons_none] at this
        rw [this]
        simp [tailRuns, grun]
      | cons r rs =>
        have h' : t ≠ [] ∧ NoBrace t ∧ ∀ x ∈ r :: rs, BlockRun x := h
        obtain ⟨h1, h2, h3⟩ := h'
        rw [lineStr_cons_none]
        rw [runsOf_written (r :: rs) t _ none [] [] h2 h3 (by omega)]
        have he : t.isEmpty = false := by cases t with | nil => exact absurd rfl h1 | cons _ _ => rfl
        simp [tailRuns, grun, he]
    | some e =>
      have h' : ∀ x ∈ (some e, t) :: rest, BlockRun x := h
      have := runsOf_written ((some e, t) :: rest) [] ((SSA.lineStr ((some e, t) :: rest)).length + 2) none [] []
        ⟨by simp, by simp⟩ h' (by simp)
      simp only [nil_append] at this
      rw [this]
      simp [tailRuns, grun]

theorem cutLines_join (ls : List Str) (hne : ls ≠ []) (h : ∀ L ∈ ls, LineOK L) :
    Spec.SSA.cutLines (join "\\n".toList ls) [] = ls := by
  rw [← splitOn_replaceAll, sepn, sepN, replaceAll_noPair _ _ _ _ (noPair_join ls fun L hL => (h L hL).N),
    splitOn_join2 _ _ (by decide) ls hne fun L hL => (h L hL).n]

theorem textOf_written (ls : List (List Run)) (hne : ls ≠ []) (hg : ∀ l ∈ ls, GoodLine l) (hl : ∀ l ∈ ls, LineOK (SSA.lineStr l)) :
    Spec.SSA.textOf (join "\\n".toList (ls.map SSA.lineStr)) = some (ls.map fun l => l.map grun) := by
  have hl' : ∀ L ∈ ls.map SSA.lineStr, LineOK L := by
    intro L hL
    obtain ⟨l, hlm, rfl⟩ := mem_map.1 hL
    exact hl l hlm
  have htr : Trimmed (join "\\n".toList (ls.map SSA.lineStr)) := by
    rw [sepn]
    exact trimmed_join _ fun L hL => (hl' L hL).trimmed
  unfold Spec.SSA.textOf
  rw [trimSpace_of_trimmed htr, cutLines_join _ (by simpa using hne) hl']
  apply Spec.SSA.isMapM.map_eq_some_map
  intro l hlm
  simp only
  rw [trimSpace_of_trimmed (hl l hlm).trimmed]
  exact runsOf_goodLine l (hg l hlm)

end SSAW
end Astisub
