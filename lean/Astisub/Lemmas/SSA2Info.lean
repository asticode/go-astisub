import Astisub.Lemmas.SSADoc

/-!
# Lemmas/SSA2Info — the `[Script Info]` block of a written document under the reader's scan loop

The scan loop leaves `first = false`; `strings.ReplaceAll` with one-character pattern and replacement is a
character map, so `,` → `.` undoes `.` → `,` on a number (`Timer`); every `Header: value` line
`ssaScriptInfo.bytes` emits is parsed back into the same typed value.  `ssaScriptInfo.bytes` in closed form
(`bytes_closed`, `bytes_lines`): the header line, the comment lines and one line per set key (`SSAW.infoRaw`), or no
answer when a float cannot be written (`Writable`); the scan loop on these lines (`run_infoRaw`).  The closed form is in
namespace `SSAW`: the decoder-side files `SSAW2…` go on with the same lines.
-/

namespace Astisub
namespace SSA
open Go List

theorem eventsLine_first (st st' : St) (h c : Str) (he : eventsLine st h c = .ok st') : st'.first = st.first := by
  unfold eventsLine at he
  repeat' split at he
  all_goals (cases he <;> rfl)

theorem stylesLine_first (st st' : St) (h c : Str) (he : stylesLine st h c = .ok st') : st'.first = st.first := by
  unfold stylesLine at he
  repeat' split at he
  all_goals (cases he <;> rfl)

theorem step_first (st st' : St) (l : Str) (h : step st l = .ok st') : st'.first = false := by
  revert h
  unfold step
  extract_lets line0 line st0 n src split header content
  have h0 : st0.first = false := rfl
  clear_value st0 line n src split header content
  -- `step` is a cascade of `if`s; every leaf is `.ok` of `st0` with fields other than `first` updated, or
  -- the answer of a section handler: the property is pushed through the cascade, which is not split.
  let P : Res St → Prop := fun r => r = .ok st' → st'.first = false
  have ok : ∀ s : St, s.first = false → P (.ok s) := fun s hs h => by cases h; exact hs
  have ite : ∀ (c : Prop) [Decidable c] (a b : Res St), P a → P b → P (if c then a else b) :=
    fun c _ a b ha hb => by split <;> assumption
  refine ite _ _ _ (ok _ h0) (ite _ _ _ ?header (ite _ _ _ (ok _ h0) (ite _ _ _ (ok _ h0) (ite _ _ _ (ok _ h0) ?line))))
  case header => exact ite _ _ _ (ok _ h0) (ite _ _ _ (ok _ h0) (ite _ _ _ (ok _ h0) (ok _ h0)))
  case line =>
    show P _
    split
    · split
      · exact ok _ h0
      · exact fun h => by cases h
      · exact fun h => by cases h
    · exact fun h => (eventsLine_first _ _ _ _ h).trans h0
    · exact fun h => (stylesLine_first _ _ _ _ h).trans h0
    · exact ok _ h0

theorem run_first : ∀ (ls : List Str) (st st' : St), run st ls = .ok st' → ls ≠ [] → st'.first = false := by
  intro ls
  induction ls with
  | nil => intro _ _ _ h; exact absurd rfl h
  | cons l ls ih =>
    intro st st' h _
    simp only [run] at h
    cases hs : step st l with
    | ok s1 =>
      rw [hs] at h
      have h1 := step_first st s1 l hs
      cases ls with
      | nil => simp only [run, Res.ok.injEq] at h; subst h; exact h1
      | cons l2 ls2 => exact ih s1 st' h (by simp)
    | err => rw [hs] at h; cases h
    | unmodelled => rw [hs] at h; cases h

theorem replaceAll_swap (a b : Char) (s : Str) (h : b ∉ s) : replaceAll [b] [a] (replaceAll [a] [b] s) = s := by
  rw [replaceAll_char, replaceAll_char, map_map]
  conv => rhs; rw [← map_id s]
  apply map_congr_left
  intro c hc
  have hne : c ≠ b := fun e => h (e ▸ hc)
  by_cases hd : c = a
  · simp [Function.comp, hd]
  · simp [Function.comp, hd, hne]

theorem replaceAll_comma_dot (s : Str) (h : ',' ∉ s) : replaceAll [','] ['.'] (replaceAll ['.'] [','] s) = s :=
  replaceAll_swap '.' ',' s h

theorem mem_replaceAll_single {a b c : Char} {s : Str} (h : c ∈ replaceAll [a] [b] s) : c ∈ s ∨ c = b := by
  rw [replaceAll_char] at h
  obtain ⟨x, hx, rfl⟩ := mem_map.mp h
  by_cases hxa : x = a
  · right; simp [hxa]
  · left; simpa [hxa] using hx

theorem getD_mem_or (l : Str) (n : Nat) (d : Char) : l.getD n d ∈ l ∨ l.getD n d = d := by
  rw [getD_eq_getElem?_getD]
  cases h : l[n]? with
  | none => right; rfl
  | some x => left; simpa using mem_of_getElem? h

theorem fmtF_numChar (ds : Str) (dp : Int) (prec : Nat) (hds : DigitStr ds) : ∀ c ∈ fmtF ds dp prec, numChar c = true := by
  have h0 : numChar '0' = true := by decide
  have hip : ∀ c ∈ (if dp > 0 then (ds.take dp.toNat) ++ List.replicate (dp.toNat - ds.length) '0' else ['0']), numChar c = true := by
    intro c hc
    split at hc
    · rcases mem_append.mp hc with h | h
      · exact hds.numChar c (mem_of_mem_take h)
      · rw [(mem_replicate.mp h).2]; exact h0
    · simp at hc; subst hc; exact h0
  have hfp : ∀ c ∈ ((List.range prec).map fun (i : Nat) =>
      let j : Int := dp + (i : Int)
      if 0 ≤ j ∧ j < (ds.length : Int) then ds.getD j.toNat '0' else '0'), numChar c = true := by
    intro c hc
    obtain ⟨i, _, rfl⟩ := mem_map.mp hc
    simp only
    split
    · rcases getD_mem_or ds (dp + (i : Int)).toNat '0' with h | h
      · exact hds.numChar _ h
      · rw [h]; exact h0
    · exact h0
  intro c hc
  unfold fmtF at hc
  simp only at hc
  split at hc
  · rcases mem_append.mp hc with h | h
    · exact hip c h
    · rcases mem_cons.mp h with rfl | h
      · decide
      · exact hfp c h
  · exact hip c hc

theorem formatFloatShortest_numChar (bits : Nat) (str : Str) (h : formatFloatShortest bits = some str) :
    ∀ c ∈ str, numChar c = true := by
  have hm : numChar '-' = true := by decide
  have hsign : ∀ (neg : Bool) c, c ∈ (if neg = true then ['-'] else ([] : Str)) → numChar c = true := by
    intro neg c hc
    cases neg
    · simp at hc
    · simp at hc; subst hc; exact hm
  unfold formatFloatShortest at h
  split at h
  · cases h
  · rename_i neg m e _
    simp only at h
    split at h
    · simp only [Option.some.injEq] at h
      subst h
      intro c hc
      rcases mem_append.mp hc with h | h
      · exact hsign neg c h
      · simp at h; subst h; decide
    · split at h
      · cases h
      · rename_i d n dp _
        simp only [Option.some.injEq] at h
        subst h
        intro c hc
        rcases mem_append.mp hc with h | h
        · exact hsign neg c h
        · exact fmtF_numChar _ _ _ (digitStr_itoaNat d) c h

/-- the double survives `FormatFloat(·,'f',-1,64)` followed by `ParseFloat` (as the `Numconv` model computes them) -/
def timerOK (bits : Nat) : Bool :=
  match formatFloatShortest bits with
  | some str => parseFloat str == .ok bits
  | none => false

/-- the text `ssaScriptInfo.bytes` writes after `Header: ` -/
def siText : Val → Option Str
  | .f bits => (formatFloatShortest bits).map (replaceAll ['.'] [','])
  | v => some v.canon

/-- a value that can be written to the script info and read back: of the key's type; a 64-bit integer;
    a double that survives shortest formatting; a string that is not empty (an empty value is read as
    "unset"), needs no trimming and has no line feed -/
def SIOK (f : SI) (v : Val) : Prop :=
  v.kind = f.kind ∧
  match v with
  | .i i => Int64 i
  | .f bits => timerOK bits = true
  | .s str => str ≠ [] ∧ Trimmed str ∧ '\n' ∉ str
  | _ => True

instance (f : SI) : (v : Val) → Decidable (SIOK f v)
  | .b w => inferInstanceAs (Decidable ((Val.b w).kind = f.kind ∧ True))
  | .c c => inferInstanceAs (Decidable ((Val.c c).kind = f.kind ∧ True))
  | .f bits => inferInstanceAs (Decidable ((Val.f bits).kind = f.kind ∧ timerOK bits = true))
  | .i i => inferInstanceAs (Decidable ((Val.i i).kind = f.kind ∧ Int64 i))
  | .s str => inferInstanceAs (Decidable ((Val.s str).kind = f.kind ∧ str ≠ [] ∧ Trimmed str ∧ '\n' ∉ str))

theorem si_header_shape (f : SI) : HeaderOK f.header.toList ∧ ∀ x ∈ f.header.toList, isSpace x = false ∨ x = ' ' :=
  (by decide +kernel : ∀ f ∈ SI.all, HeaderOK f.header.toList ∧ ∀ x ∈ f.header.toList, isSpace x = false ∨ x = ' ')
    f (C04.si_all_complete f)

theorem si_headerOK (f : SI) : HeaderOK f.header.toList := (si_header_shape f).1

theorem fieldLine_not_mem {c : Char} (hc : LineBreak c) (f : SI) {t : Str} (ht : c ∉ t) :
    c ∉ kvLine f.header.toList t := fun hm => by
  rcases mem_append.mp hm with hm | hm
  · rcases mem_append.mp hm with hm | hm
    · exact hc.not_mem_plain (si_header_shape f).2 hm
    · exact hc.not_mem_plain (by decide_vector) hm
  · exact ht hm

theorem si_kind (f : SI) : f.kind = .int ∨ f.kind = .float ∨ f.kind = .str := by cases f <;> simp [SI.kind]

theorem siText_noSpace (v : Val) (t : Str) (h : siText v = some t) : v = .s t ∨ ∀ x ∈ t, isSpace x = false := by
  cases v with
  | s str => exact Or.inl (congrArg Val.s (Option.some.inj h))
  | b w => right; cases h; cases w <;> decide_vector
  | c w => right; cases h; exact fun x hx => (hex8_chars w x hx).1
  | i i => right; cases h; exact fun x hx => numChar_not_space (numChar_itoa i x hx)
  | f bits =>
    right
    cases hs : formatFloatShortest bits with
    | none => simp [siText, hs] at h
    | some str =>
      simp only [siText, hs, Option.map_some, Option.some.injEq] at h
      subst h
      intro x hx
      rcases mem_replaceAll_single hx with h | rfl
      · exact numChar_not_space (formatFloatShortest_numChar bits str hs x h)
      · decide

theorem parse_written (b : Info) (f : SI) (v : Val) (h : SIOK f v) :
    ∃ t, siText v = some t ∧ Trimmed t ∧ '\n' ∉ t ∧
      b.parse f.header.toList t = .ok { b with vals := b.vals.set f v } := by
  obtain ⟨hk, hv⟩ := h
  cases v with
  | b w => rcases si_kind f with e | e | e <;> rw [e] at hk <;> cases hk
  | c w => rcases si_kind f with e | e | e <;> rw [e] at hk <;> cases hk
  | i i =>
    have hi : Int64 i := hv
    refine ⟨itoa i, rfl, trimmed_itoa i, numChar_not_mem (numChar_itoa i) rfl, ?_⟩
    have hk' : f.kind = .int := hk.symm
    simp only [Info.parse, C04.info_roundtrip, hk', atoi_itoa i hi]
  | f bits =>
    have hf : timerOK bits = true := hv
    unfold timerOK at hf
    cases hs : formatFloatShortest bits with
    | none => rw [hs] at hf; cases hf
    | some str =>
      rw [hs] at hf
      have hp : parseFloat str = .ok bits := by simpa using hf
      have hnum := formatFloatShortest_numChar bits str hs
      have hnum' := (siText_noSpace (.f bits) (replaceAll ['.'] [','] str) (by simp [siText, hs])).resolve_left (by simp)
      refine ⟨replaceAll ['.'] [','] str, by simp [siText, hs], trimmed_of_noSpace hnum', ?_, ?_⟩
      · intro hm
        exact absurd (hnum' _ hm) (by decide)
      · have hk' : f.kind = .float := hk.symm
        simp only [Info.parse, C04.info_roundtrip, hk', replaceAll_comma_dot str (numChar_not_mem hnum rfl), hp]
  | s str =>
    have hs : str ≠ [] ∧ Trimmed str ∧ '\n' ∉ str := hv
    refine ⟨str, rfl, hs.2.1, hs.2.2, ?_⟩
    have hk' : f.kind = .str := hk.symm
    have hne : str.isEmpty = false := by
      cases str with
      | nil => exact absurd rfl hs.1
      | cons _ _ => rfl
    simp only [Info.parse, C04.info_roundtrip, hk', hne, Bool.false_eq_true, ↓reduceIte]

theorem trimSpace_commentLine (c : Str) (hc : Trimmed c) :
    trimSpace ("; ".toList ++ c) = ';' :: (if c = [] then [] else ' ' :: c) := by
  rw [String.toList_ofList]
  exact trimSpace_sepLine [] c ';' (by decide) (fun _ h => nomatch h) hc

theorem step_comment (st : St) (c : Str) (hf : st.first = false) (hsec : st.sec = .scriptInfo) (hc : Trimmed c) :
    step st ("; ".toList ++ c) = .ok { st with info := { st.info with comments := st.info.comments ++ [c] } } := by
  rw [step_of_not_first st _ hf, trimSpace_commentLine c hc, SSAR.stepL_body st _ rfl (cons_ne_nil _ _) hf, if_neg (by rw [hsec]; decide)]
  unfold Spec.SSA.classify
  simp only [kvTrim_content c hc]

theorem run_comments : ∀ (cs : List Str) (st : St), st.first = false → st.sec = .scriptInfo → (∀ c ∈ cs, Trimmed c) →
    run st (cs.map fun c => "; ".toList ++ c)
      = .ok { st with info := { st.info with comments := st.info.comments ++ cs } } := by
  intro cs
  induction cs with
  | nil => intro st _ _ _; simp [run]
  | cons c cs ih =>
    intro st hf hsec h
    simp only [map_cons, run, step_comment st c hf hsec (h c (by simp))]
    have := ih { st with info := { st.info with comments := st.info.comments ++ [c] } } hf hsec
      (fun c' hc' => h c' (by simp [hc']))
    simpa using this

/-- the lines `ssaScriptInfo.bytes` writes for key `f` -/
def fieldLine (b : Info) (f : SI) : Option (List Str) :=
  match b.vals.get f with
  | none => some []
  | some v => (siText v).map fun t => [kvLine f.header.toList t]

theorem bytes_eq (b : Info) :
    b.bytes = (Info.bytes.go (fieldLine b) SI.all).map fun ls =>
      unlines ("[Script Info]".toList :: b.comments.map (fun c => "; ".toList ++ c) ++ ls) := by
  have : fieldLine b = fun f =>
      match b.vals.get f with
      | none => some []
      | some (Val.f bits) =>
        Option.map (fun s => [f.header.toList ++ ": ".toList ++ replaceAll ['.'] [','] s]) (formatFloatShortest bits)
      | some v => some [f.header.toList ++ ": ".toList ++ v.canon] := by
    funext f
    unfold fieldLine
    cases b.vals.get f with
    | none => rfl
    | some v =>
      cases v <;> simp [siText, kvLine] <;> rfl
  rw [this]
  rfl

theorem step_field (st : St) (f : SI) (v : Val) (t : Str) (hf : st.first = false) (hsec : st.sec = .scriptInfo)
    (ht : Trimmed t) (hp : st.info.parse f.header.toList t = .ok { st.info with vals := st.info.vals.set f v }) :
    step st (kvLine f.header.toList t) = .ok { st with info := { st.info with vals := st.info.vals.set f v } } := by
  rw [step_kv st _ _ hf (si_headerOK f) ht, SSAR.kvStep_info st _ _ hsec, hp]

/-- the table of the values of the keys `fs` -/
def tabulate (b : Info) (fs : List SI) : Vals SI := fs.filterMap fun f => (b.vals.get f).map fun v => (f, v)

theorem tabulate_eq (b : Info) (fs : List SI) : tabulate b fs = Tab.pick b.vals fs := rfl

/-- a script info that can be written and read back: comments need no trimming, values are good -/
def InfoOK (b : Info) : Prop :=
  (∀ c ∈ b.comments, Trimmed c ∧ '\n' ∉ c) ∧ ∀ f ∈ SI.all, ∀ v, b.vals.get f = some v → SIOK f v

instance (b : Info) : Decidable (InfoOK b) :=
  inferInstanceAs (Decidable ((∀ c ∈ b.comments, Trimmed c ∧ '\n' ∉ c) ∧ ∀ f ∈ SI.all, ∀ v, b.vals.get f = some v → SIOK f v))

theorem InfoOK.comment {b : Info} (h : InfoOK b) {c : Str} (hc : c ∈ b.comments) : Trimmed c ∧ '\n' ∉ c := h.1 c hc

theorem InfoOK.value {b : Info} (h : InfoOK b) {f : SI} {v : Val} (hv : b.vals.get f = some v) : SIOK f v :=
  h.2 f (C04.si_all_complete f) v hv

end SSA

namespace SSAW
open Go SSA List

/-- the triple of one key, if it is set -/
def tripleOf (b : Info) (f : SI) : Option (SI × Val × Str) :=
  (b.vals.get f).bind fun v => (siText v).map fun t => (f, v, t)

/-- the set keys among `fs` with their value and the text written for it -/
def infoTriples (b : Info) (fs : List SI) : List (SI × Val × Str) := fs.filterMap (tripleOf b)

theorem tripleOf_some {b : Info} {g f : SI} {v : Val} {t : Str} :
    tripleOf b g = some (f, v, t) ↔ g = f ∧ b.vals.get f = some v ∧ siText v = some t := by
  unfold tripleOf
  rw [Option.bind_eq_some_iff]
  constructor
  · rintro ⟨w, hget, h⟩
    rw [Option.map_eq_some_iff] at h
    obtain ⟨u, hu, he⟩ := h
    simp only [Prod.mk.injEq] at he
    obtain ⟨rfl, rfl, rfl⟩ := he
    exact ⟨rfl, hget, hu⟩
  · rintro ⟨rfl, hget, ht⟩
    exact ⟨v, hget, by rw [ht]; rfl⟩

theorem mem_infoTriples {b : Info} {fs : List SI} {f : SI} {v : Val} {t : Str} :
    (f, v, t) ∈ infoTriples b fs ↔ f ∈ fs ∧ b.vals.get f = some v ∧ siText v = some t := by
  unfold infoTriples
  rw [mem_filterMap]
  constructor
  · rintro ⟨g, hg, h⟩
    obtain ⟨rfl, h2, h3⟩ := tripleOf_some.mp h
    exact ⟨hg, h2, h3⟩
  · rintro ⟨hf, hget, ht⟩
    exact ⟨f, hf, tripleOf_some.mpr ⟨rfl, hget, ht⟩⟩

theorem infoTriples_cons (b : Info) (f : SI) (fs : List SI) :
    infoTriples b (f :: fs) = (tripleOf b f).toList ++ infoTriples b fs := by
  unfold infoTriples
  rw [filterMap_cons]
  cases tripleOf b f <;> rfl

/-- every set key among `fs` has a text (`siText` fails only on a float outside the model) -/
def Writable (b : Info) (fs : List SI) : Prop := ∀ f ∈ fs, ∀ v, b.vals.get f = some v → ∃ t, siText v = some t

theorem go_fieldLine (b : Info) : ∀ fs : List SI,
    (Writable b fs → Info.bytes.go (fieldLine b) fs = some ((infoTriples b fs).map fun p => kvLine p.1.header.toList p.2.2))
    ∧ (¬ Writable b fs → Info.bytes.go (fieldLine b) fs = none) := by
  intro fs
  induction fs with
  | nil => exact ⟨fun _ => rfl, fun h => absurd (fun _ hf => nomatch hf) h⟩
  | cons f fs ih =>
    have hW : Writable b (f :: fs) ↔ (∀ v, b.vals.get f = some v → ∃ t, siText v = some t) ∧ Writable b fs := by
      unfold Writable; simp
    rw [hW, infoTriples_cons]
    simp only [Info.bytes.go, fieldLine]
    cases hget : b.vals.get f with
    | none =>
      have htr : tripleOf b f = none := by unfold tripleOf; rw [hget]; rfl
      by_cases hw : Writable b fs
      · simp [htr, ih.1 hw, hw]
      · simp [ih.2 hw, hw]
    | some v =>
      cases ht : siText v with
      | none => simp [ht]
      | some t =>
        have htr : tripleOf b f = some (f, v, t) := tripleOf_some.mpr ⟨rfl, hget, ht⟩
        by_cases hw : Writable b fs
        · simp [htr, ih.1 hw, hw, ht]
        · simp [ih.2 hw, hw, ht]

/-- the raw lines of the script-info block after its header -/
def infoRaw (b : Info) : List Str :=
  b.comments.map (fun c => "; ".toList ++ c) ++ (infoTriples b SI.all).map fun p => kvLine p.1.header.toList p.2.2

theorem bytes_closed (b : Info) (h : Writable b SI.all) :
    b.bytes = some (unlines ("[Script Info]".toList :: infoRaw b)) := by
  rw [bytes_eq, (go_fieldLine b SI.all).1 h]; rfl

theorem bytes_none (b : Info) (h : ¬ Writable b SI.all) : b.bytes = none := by
  rw [bytes_eq, (go_fieldLine b SI.all).2 h]; rfl

theorem bytes_some (b : Info) (hb : InfoOK b) : ∃ txt, b.bytes = some txt :=
  ⟨_, bytes_closed b fun f _ v hv => (parse_written b f v (hb.value hv)).imp fun _ h => h.1⟩

theorem bytes_lines (b : Info) (txt : Str) (h : b.bytes = some txt) : txt = unlines ("[Script Info]".toList :: infoRaw b) := by
  by_cases hw : Writable b SI.all
  · rw [bytes_closed b hw] at h; exact (Option.some.inj h).symm
  · rw [bytes_none b hw] at h; cases h

theorem infoRaw_not_mem {c : Char} (hc : LineBreak c) (b : Info) (hcom : ∀ x ∈ b.comments, c ∉ x)
    (hv : ∀ f str, b.vals.get f = some (.s str) → c ∉ str) : ∀ l ∈ infoRaw b, c ∉ l := by
  intro l hl
  rcases mem_append.mp hl with hl | hl
  · obtain ⟨x, hx, rfl⟩ := mem_map.mp hl
    intro hm
    rcases mem_append.mp hm with hm | hm
    · exact hc.not_mem_plain (by decide_vector) hm
    · exact hcom x hx hm
  · obtain ⟨⟨f, v, t⟩, hp, rfl⟩ := mem_map.mp hl
    obtain ⟨_, hget, ht⟩ := mem_infoTriples.mp hp
    refine fieldLine_not_mem hc f ?_
    rcases siText_noSpace v t ht with rfl | hs
    · exact hv f t hget
    · exact hc.not_mem_noSpace hs

theorem run_triples (b : Info) (hb : ∀ f v, b.vals.get f = some v → SIOK f v) :
    ∀ (fs : List SI) (st : St), fs.Nodup → st.first = false → st.sec = .scriptInfo → (∀ p ∈ st.info.vals, p.1 ∉ fs) →
      run st ((infoTriples b fs).map fun p => kvLine p.1.header.toList p.2.2)
        = .ok { st with info := { st.info with vals := st.info.vals ++ tabulate b fs } } := by
  -- as in `styleFields_cells`: a key still to come is not yet set, so each line's `Vals.set` appends and the values come out tabulated
  intro fs
  induction fs with
  | nil => intro st _ _ _ _; simp [run, tabulate, infoTriples]
  | cons f fs ih =>
    intro st hnd hf hsec hfresh
    rw [nodup_cons] at hnd
    rw [infoTriples_cons]
    cases hget : b.vals.get f with
    | none =>
      have htr : tripleOf b f = none := by unfold tripleOf; rw [hget]; rfl
      have := ih st hnd.2 hf hsec (fun p hp hm => hfresh p hp (mem_cons_of_mem _ hm))
      simpa [tabulate, hget, htr] using this
    | some v =>
      obtain ⟨t, ht, htr, _, hparse⟩ := parse_written st.info f v (hb f v hget)
      have htrip : tripleOf b f = some (f, v, t) := tripleOf_some.mpr ⟨rfl, hget, ht⟩
      have hset : st.info.vals.set f v = st.info.vals ++ [(f, v)] :=
        vals_set_fresh _ _ _ (fun p hp e => hfresh p hp (e ▸ mem_cons_self))
      have hstep := step_field st f v t hf hsec htr hparse
      rw [hset] at hstep
      have h1 := ih { st with info := { st.info with vals := st.info.vals ++ [(f, v)] } } hnd.2 hf hsec (by
        intro p hp hm
        rcases mem_append.mp hp with hp | hp
        · exact hfresh p hp (mem_cons_of_mem _ hm)
        · simp at hp; subst hp; exact hnd.1 hm)
      simp only [htrip, Option.toList_some, cons_append, nil_append, map_cons, run, hstep, h1]
      simp [tabulate, hget]

theorem run_infoRaw (b : Info) (hb : InfoOK b) :
    run {} ("[Script Info]".toList :: infoRaw b)
      = .ok { sec := .scriptInfo, first := false, info := { comments := b.comments, vals := tabulate b SI.all } } := by
  have hrun := run_triples b (fun _ _ hv => hb.value hv) SI.all
    { sec := .scriptInfo, first := false, info := { comments := [] ++ b.comments } } si_all_nodup rfl rfl
    (by intro p hp; cases hp)
  unfold infoRaw
  simp only [run, step_info_header]
  rw [run_append_ok (run_comments b.comments { sec := .scriptInfo, first := false } rfl rfl (fun _ hc => (hb.comment hc).1))]
  simpa using hrun

end SSAW
end Astisub
