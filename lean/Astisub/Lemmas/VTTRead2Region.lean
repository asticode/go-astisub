import Astisub.Lemmas.VTTRead2Time

/-!
# Lemmas/VTTRead2Region — a `Region: ` line of the decoder's class, read by the model

`regionParts_of_regionLine`: when the decoder `Spec.VTT.regionLine` accepts a line (and its
canonical `lines` value has at most 18 digits, so that it fits the library's `int`), the reader's
loop `VTT.regionParts` over the same parts succeeds, and the region it defines, seen through
`regionView`, is the decoder's region.
-/

namespace Astisub
namespace VTTRead
open Go Spec.VTT List

/-- the decoder's reading of a part -/
def kvOf (p : Str) : Option (Str × Str) := match splitC '=' p with | [k, v] => some (k, v) | _ => none

theorem kvOf_some {p k v : Str} (h : kvOf p = some (k, v)) : splitC '=' p = [k, v] := by
  unfold kvOf at h
  split at h
  · rename_i k' v' heq
    simp only [Option.some.injEq, Prod.mk.injEq] at h
    rw [heq, h.1, h.2]
  · exact absurd h (by simp)

/-- what one part does to the reader's accumulator -/
def upd (k v : Str) (r : VTT.RegAcc) : VTT.RegAcc :=
  if k = "id".toList then { r with id := v }
  else if k = "lines".toList then { r with lines := (atoi v).getD 0 }
  else if k = "regionanchor".toList then { r with anchor := v }
  else if k = "scroll".toList then { r with scroll := v }
  else if k = "viewportanchor".toList then { r with viewport := v }
  else if k = "width".toList then { r with width := v }
  else r

def keysDistinct (A L P S V R : Str) : Prop :=
  A ≠ L ∧ A ≠ P ∧ A ≠ S ∧ A ≠ V ∧ A ≠ R ∧ L ≠ P ∧ L ≠ S ∧ L ≠ V ∧ L ≠ R ∧ P ≠ S ∧ P ≠ V ∧ P ≠ R ∧ S ≠ V ∧ S ≠ R ∧ V ≠ R

theorem region_keys_distinct :
    keysDistinct "id".toList "lines".toList "regionanchor".toList "scroll".toList "viewportanchor".toList "width".toList := by
  unfold keysDistinct; decide_vector

theorem regionParts_step (p k v : Str) (ps : List Str) (r : VTT.RegAcc) (hp : kvOf p = some (k, v))
    (hl : k = "lines".toList → (atoi v).isSome = true) :
    VTT.regionParts (p :: ps) r = VTT.regionParts ps (upd k v r) := by
  rw [VTT.regionParts, kvOf_some hp]
  unfold upd
  by_cases c0 : k = "id".toList
  · simp only [if_pos c0]
  · by_cases c1 : k = "lines".toList
    · obtain ⟨n, hn⟩ := Option.isSome_iff_exists.mp (hl c1)
      simp only [if_neg c0, if_pos c1, hn, Option.getD_some]
    · simp only [if_neg c0, if_neg c1, apply_ite (VTT.regionParts ps)]

theorem regionParts_kvs : ∀ (kvs : List (Str × Str)) (ps : List Str) (r : VTT.RegAcc),
    ps.map kvOf = kvs.map some → (∀ v, ("lines".toList, v) ∈ kvs → (atoi v).isSome = true) →
    VTT.regionParts ps r = some (kvs.foldl (fun r kv => upd kv.1 kv.2 r) r) := by
  intro kvs
  induction kvs with
  | nil =>
    intro ps r h _
    cases ps with
    | nil => rfl
    | cons p ps => simp at h
  | cons kv kvs ih =>
    intro ps r h hl
    cases ps with
    | nil => simp at h
    | cons p ps =>
      obtain ⟨k, v⟩ := kv
      simp only [map_cons, cons.injEq] at h
      rw [regionParts_step p k v ps r h.1 (fun hk => hl v (by simp [hk])),
        ih ps _ h.2 (fun v hv => hl v (mem_cons_of_mem _ hv))]
      rfl

/-- a field written by exactly one key: after the loop it holds the (only) value listed for the key -/
theorem foldl_upd_field {α : Type} (f : VTT.RegAcc → α) (key : Str) (g : Str → α)
    (hf : ∀ k v r, f (upd k v r) = if k = key then g v else f r) :
    ∀ (kvs : List (Str × Str)) (r : VTT.RegAcc), (kvs.map (·.1)).Nodup →
      f (kvs.foldl (fun r kv => upd kv.1 kv.2 r) r) = ((kvs.lookup key).map g).getD (f r) := by
  intro kvs
  induction kvs with
  | nil => intro r _; rfl
  | cons kv kvs ih =>
    intro r hnd
    obtain ⟨k, v⟩ := kv
    simp only [map_cons, nodup_cons] at hnd
    rw [foldl_cons, ih _ hnd.2, hf, lookup_cons]
    by_cases hk : k = key
    · subst hk
      have : kvs.lookup k = none := by
        rw [lookup_eq_none_iff]
        intro a ha
        simp only [bne_iff_ne, ne_eq]
        intro hka
        apply hnd.1
        rw [hka]
        exact mem_map_of_mem ha
      simp [this]
    · have : (key == k) = false := by simpa using fun e => hk e.symm
      simp [this, hk]

/-- each field of the accumulator is written by exactly one key -/
structure UpdFields (k v : Str) (r : VTT.RegAcc) : Prop where
  id : (upd k v r).id = (if k = "id".toList then v else r.id)
  lines : (upd k v r).lines = (if k = "lines".toList then (atoi v).getD 0 else r.lines)
  anchor : (upd k v r).anchor = (if k = "regionanchor".toList then v else r.anchor)
  scroll : (upd k v r).scroll = (if k = "scroll".toList then v else r.scroll)
  viewport : (upd k v r).viewport = (if k = "viewportanchor".toList then v else r.viewport)
  width : (upd k v r).width = (if k = "width".toList then v else r.width)

theorem upd_fields (k v : Str) (r : VTT.RegAcc) : UpdFields k v r := by
  suffices h : (upd k v r).id = (if k = "id".toList then v else r.id) ∧
      (upd k v r).lines = (if k = "lines".toList then (atoi v).getD 0 else r.lines) ∧
      (upd k v r).anchor = (if k = "regionanchor".toList then v else r.anchor) ∧
      (upd k v r).scroll = (if k = "scroll".toList then v else r.scroll) ∧
      (upd k v r).viewport = (if k = "viewportanchor".toList then v else r.viewport) ∧
      (upd k v r).width = (if k = "width".toList then v else r.width) from
    let ⟨a, b, c, d, e, f⟩ := h; ⟨a, b, c, d, e, f⟩
  have hk := region_keys_distinct
  unfold upd
  generalize "id".toList = A at *
  generalize "lines".toList = L at *
  generalize "regionanchor".toList = P at *
  generalize "scroll".toList = S at *
  generalize "viewportanchor".toList = V at *
  generalize "width".toList = W at *
  obtain ⟨h1, h2, h3, h4, h5, h6, h7, h8, h9, h10, h11, h12, h13, h14, h15⟩ := hk
  by_cases c0 : k = A
  · subst c0; simp only [if_true, h1, h2, h3, h4, h5, if_false, and_self]
  by_cases c1 : k = L
  · subst c1; simp only [c0, if_true, h6, h7, h8, h9, if_false, and_self]
  by_cases c2 : k = P
  · subst c2; simp only [c0, c1, if_true, h10, h11, h12, if_false, and_self]
  by_cases c3 : k = S
  · subst c3; simp only [c0, c1, c2, if_true, h13, h14, if_false, and_self]
  by_cases c4 : k = V
  · subst c4; simp only [c0, c1, c2, c3, if_true, h15, if_false, and_self]
  by_cases c5 : k = W
  · subst c5; simp only [c0, c1, c2, c3, c4, if_true, if_false, and_self]
  · simp only [c0, c1, c2, c3, c4, c5, if_false, and_self]

theorem reg_keys_pairwise (a b c d e : Option Str) :
    ([("WebVTTLines", a), ("WebVTTRegionAnchor", b), ("WebVTTScroll", c), ("WebVTTViewportAnchor", d),
      ("WebVTTWidth", e)] : List (String × Option Str)).Pairwise (fun x y => x.1 ≠ y.1) := by
  simp [pairwise_cons]

theorem regionView_regionDef (acc : VTT.RegAcc) :
    regionView (VTT.regionDef acc) =
      { id := acc.id, lines := if acc.lines = 0 then [] else itoa acc.lines, anchor := acc.anchor,
        scroll := acc.scroll, viewport := acc.viewport, width := acc.width } := by
  unfold regionView VTT.regionDef Driver.attrStr
  rw [SRT.kvGet_mkAttrs_of_mem (reg_keys_pairwise _ _ _ _ _) (.head _),
    SRT.kvGet_mkAttrs_of_mem (reg_keys_pairwise _ _ _ _ _) (.tail _ (.head _)),
    SRT.kvGet_mkAttrs_of_mem (reg_keys_pairwise _ _ _ _ _) (.tail _ (.tail _ (.head _))),
    SRT.kvGet_mkAttrs_of_mem (reg_keys_pairwise _ _ _ _ _) (.tail _ (.tail _ (.tail _ (.head _)))),
    SRT.kvGet_mkAttrs_of_mem (reg_keys_pairwise _ _ _ _ _) (.tail _ (.tail _ (.tail _ (.tail _ (.head _)))))]
  simp only [optStr_getD]
  congr 1
  split <;> rfl

/-- `regionLine` after the parts are read as `key=value` pairs -/
def regionOfKvs (kvs : List (Str × Str)) : Option GRegion :=
  let keys := kvs.map (·.1)
  let known := ["id", "width", "lines", "regionanchor", "viewportanchor", "scroll"].map String.toList
  if !(keys.all (known.contains ·)) || !keys.Nodup || !(keys.contains "id".toList) || kvs.any (fun kv => kv.2.isEmpty) then none else
  let get (k : String) : Str := (kvs.lookup k.toList).getD []
  if get "lines" ≠ [] && (natOf (get "lines")).isNone then none else
  let ln := if (natOf (get "lines")) = some 0 then [] else
    (get "lines").dropWhile (· = '0')
  some { id := get "id", lines := ln, anchor := get "regionanchor", scroll := get "scroll", viewport := get "viewportanchor", width := get "width" }

theorem regionLine_eq (l : Str) :
    regionLine l = match dropPrefix? "Region: ".toList l with
      | none => none
      | some rest =>
        if ((splitC ' ' rest).map kvOf).any (·.isNone) then none
        else regionOfKvs (((splitC ' ' rest).map kvOf).filterMap id) := rfl

theorem map_some_filterMap {α : Type} : ∀ (l : List (Option α)), l.any (·.isNone) = false →
    l = (l.filterMap id).map some := by
  intro l
  induction l with
  | nil => intro _; rfl
  | cons a l ih =>
    intro h
    simp only [any_cons, Bool.or_eq_false_iff] at h
    cases a with
    | none => simp at h
    | some x =>
      rw [filterMap_cons_some (by rfl : id (some x) = some x), map_cons, ← ih h.2]

theorem regionOfKvs_some {kvs : List (Str × Str)} {r : GRegion} (h : regionOfKvs kvs = some r) :
    (kvs.map (·.1)).Nodup ∧ (∀ kv ∈ kvs, kv.2 ≠ []) ∧
    ((kvs.lookup "lines".toList).getD [] = [] ∨ (natOf ((kvs.lookup "lines".toList).getD [])).isSome = true) ∧
    r = { id := (kvs.lookup "id".toList).getD [],
          lines := if natOf ((kvs.lookup "lines".toList).getD []) = some 0 then []
                   else ((kvs.lookup "lines".toList).getD []).dropWhile (· = '0'),
          anchor := (kvs.lookup "regionanchor".toList).getD [], scroll := (kvs.lookup "scroll".toList).getD [],
          viewport := (kvs.lookup "viewportanchor".toList).getD [], width := (kvs.lookup "width".toList).getD [] } := by
  unfold regionOfKvs at h
  simp only at h
  split at h
  · exact absurd h (by simp)
  · rename_i h1
    split at h
    · exact absurd h (by simp)
    · rename_i h2
      simp only [Bool.or_eq_true, Bool.not_eq_true', not_or, Bool.not_eq_false, decide_eq_false_iff_not,
        Decidable.not_not, any_eq_true, not_exists, not_and] at h1
      simp only [Bool.and_eq_true, decide_eq_true_eq, not_and, Bool.not_eq_true, Option.isNone_eq_false_iff] at h2
      refine ⟨h1.1.1.2, ?_, ?_, ?_⟩
      · intro kv hkv e
        exact h1.2 kv hkv (by simp [e])
      · by_cases hL : (kvs.lookup "lines".toList).getD [] = []
        · exact Or.inl hL
        · exact Or.inr (by simpa using h2 hL)
      · simp only [Option.some.injEq] at h
        exact h.symm

theorem pow18_le : 10 ^ 18 ≤ int64Max := by decide

theorem lines_some (v : Str) (n : Nat) (hn : natOf v = some n)
    (hb : (if natOf v = some 0 then [] else v.dropWhile (· = '0')).length ≤ 18) :
    atoi v = some (n : Int) ∧
    (if (n : Int) = 0 then [] else itoa (n : Int)) = if natOf v = some 0 then [] else v.dropWhile (· = '0') := by
  obtain ⟨hne, hd, hv⟩ := Spec.SRT.natOf_eq_some_iff.mp hn
  rw [hn] at hb ⊢
  by_cases h0 : n = 0
  · subst h0
    exact ⟨(Spec.SRT.natOf_iff_numeral.mp hn).atoi (by decide), by simp⟩
  · have hs : (some n = some 0) = False := by simp [h0]
    simp only [hs, if_false] at hb ⊢
    have hlt := natOfDigits_lt (digitStr_dropZeros hd)
    rw [natOfDigits_dropZeros, hv] at hlt
    have hle : n ≤ int64Max := by
      have h1 : 10 ^ (v.dropWhile (· = '0')).length ≤ 10 ^ 18 := Nat.pow_le_pow_right (by decide) hb
      have h2 := pow18_le
      omega
    refine ⟨?_, ?_⟩
    · exact (Spec.SRT.natOf_iff_numeral.mp hn).atoi hle
    · have hi : ¬ ((n : Int) = 0) := by omega
      rw [if_neg hi]
      unfold itoa
      rw [if_neg (by omega), Int.toNat_natCast, ← hv]
      exact itoaNat_dropZeros hd (by rw [hv]; exact h0)

theorem regionParts_of_regionLine (l : Str) (r : GRegion) (h : regionLine l = some r)
    (hb : r.lines.length ≤ 18) :
    ∃ acc, VTT.regionParts (splitC ' ' (trimPrefix "Region: ".toList l)) {} = some acc ∧
           regionView (VTT.regionDef acc) = r := by
  rw [regionLine_eq] at h
  split at h
  · exact absurd h (by simp)
  · rename_i rest hrest
    have htp : trimPrefix "Region: ".toList l = rest := by
      unfold trimPrefix; rw [hrest]; rfl
    rw [htp]
    split at h
    · exact absurd h (by simp)
    · rename_i hany
      have hmap := map_some_filterMap _ (Bool.eq_false_iff.mpr hany)
      generalize ((splitC ' ' rest).map kvOf).filterMap id = kvs at h hmap
      obtain ⟨hnd, hval, hnat, hr⟩ := regionOfKvs_some h
      have hpw : kvs.Pairwise (fun a b => a.1 ≠ b.1) := pairwise_map.mp hnd
      -- the `lines` value, if any
      have hlines : ∀ v, kvs.lookup "lines".toList = some v →
          atoi v = some ((natOfDigits v : Nat) : Int) ∧
          (if ((natOfDigits v : Nat) : Int) = 0 then [] else itoa ((natOfDigits v : Nat) : Int)) = r.lines := by
        intro v hv
        have hmem : ("lines".toList, v) ∈ kvs := (List.lookup_eq_some_iff_of_pairwise hpw).mp hv
        have hvne : v ≠ [] := hval _ hmem
        rw [hv, Option.getD_some] at hnat
        rcases hnat with e | hs
        · exact absurd e hvne
        · obtain ⟨n, hn⟩ := Option.isSome_iff_exists.mp hs
          have hrl : r.lines = if natOf v = some 0 then [] else v.dropWhile (· = '0') := by
            rw [hr, hv, Option.getD_some]
          rw [hrl] at hb ⊢
          have := lines_some v n hn hb
          rwa [← (Spec.SRT.natOf_eq_some_iff.mp hn).2.2] at this
      refine ⟨_, regionParts_kvs kvs _ {} hmap ?_, ?_⟩
      · intro v hv
        rw [(hlines v ((List.lookup_eq_some_iff_of_pairwise hpw).mpr hv)).1]; rfl
      · rw [regionView_regionDef,
          foldl_upd_field (·.id) _ (fun v => v) (fun k v r => (upd_fields k v r).id) kvs {} hnd,
          foldl_upd_field (·.lines) _ _ (fun k v r => (upd_fields k v r).lines) kvs {} hnd,
          foldl_upd_field (·.anchor) _ (fun v => v) (fun k v r => (upd_fields k v r).anchor) kvs {} hnd,
          foldl_upd_field (·.scroll) _ (fun v => v) (fun k v r => (upd_fields k v r).scroll) kvs {} hnd,
          foldl_upd_field (·.viewport) _ (fun v => v) (fun k v r => (upd_fields k v r).viewport) kvs {} hnd,
          foldl_upd_field (·.width) _ (fun v => v) (fun k v r => (upd_fields k v r).width) kvs {} hnd]
        have hl : (if ((kvs.lookup "lines".toList).map fun v => (atoi v).getD 0).getD (0 : Int) = 0 then []
            else itoa (((kvs.lookup "lines".toList).map fun v => (atoi v).getD 0).getD 0)) = r.lines := by
          cases hv : kvs.lookup "lines".toList with
          | none =>
            rw [hr, hv]
            rfl
          | some v =>
            obtain ⟨h1, h2⟩ := hlines v hv
            simp only [Option.map_some, Option.getD_some, h1]
            exact h2
        rw [hl, hr]
        simp only [Option.map_id_fun', id_eq]

/-- non-vacuity: the decoder accepts such a line -/
example : (regionLine "Region: id=a lines=3 width=40%".toList).isSome = true := by decide_vector

example : regionLine "Region: id=a lines=007 width=40%".toList =
    some { id := "a".toList, lines := "7".toList, anchor := [], scroll := [], viewport := [], width := "40%".toList } := by
  decide_vector

end VTTRead
end Astisub
