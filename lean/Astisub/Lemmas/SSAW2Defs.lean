import Astisub.Lemmas.SSARead2Final
import Astisub.Lemmas.SSA2Fixpoint

/-!
# Lemmas/SSAW2Defs — vocabulary of "the independent decoder accepts what the writer produces" (C04, W2)

Only definitions (all executable; every predicate is decidable):

* `gval`, `infoG`, `styleG`, `eventR`, `itemRuns`, `itemLinesG`, `eventG`, `docG` — the document the decoder is
  expected to return on the written text, spelled out from the writer's *typed* values (`infoOfMeta`,
  `writerStyles`, `eventOfItem`);
* `decFloat3`, `decTimer` — the double survives `FormatFloat(·,'f',3)` / `FormatFloat(·,'f',-1)` followed by the
  *decoder's* float reader (`Spec.SSA.floatOf`: plain decimals of at most 40 characters);
* `wantInts64`, `lineWhole`, `Extra` — the explicit hypotheses the theorem needs on top of `Spec.SSA.denote s = some want`
  and `SSA.RepRead s` (`Props/C04w2.lean` has a counterexample for each of them except `floats`);
* `commentTrim` — a written comment line after `TrimSpace`.
-/

namespace Astisub
namespace SSAW
open Go SSA SSAR
open Spec.SSA (GVal GStyle GRun GEvent GDoc REvent)

/-- a typed value of the model as a value of the decoder's domain -/
def gval : Val → GVal
  | .b v => .b v
  | .c v => .c v
  | .f v => .f v
  | .i v => .i v
  | .s v => .s v

/-- the script info the decoder is expected to return: the set keys in table order -/
def infoG (b : Info) : List (String × GVal) :=
  SI.all.filterMap fun f => (b.vals.get f).map fun v => (f.header, gval v)

/-- the style the decoder is expected to return for a written style: its name, its set attributes in table order -/
def styleG (st : Style) : GStyle :=
  { name := st.name, attrs := Fld.all.filterMap fun f => (st.vals.get f).map fun v => (f.col, gval v) }

/-- the raw event the decoder is expected to return for a written `Dialogue:` row (style not yet resolved) -/
def eventR (v4plus : Bool) (e : Event) (lines : List (List GRun)) : REvent :=
  { ev := { startCs := e.startAt / 10000000, endCs := e.endAt / 10000000,
            layer := if v4plus then some (e.layer.getD 0) else none,
            marked := if v4plus then none else some (decide (e.marked = some true)),
            marginL := some (e.marginL.getD 0), marginR := some (e.marginR.getD 0), marginV := some (e.marginV.getD 0),
            effect := e.effect, name := e.name, style := none, lines := lines },
    styleName := e.style }

/-- the runs of the lines of a cue: override block (if any) and text of every `LineItem` -/
def itemRuns (it : CItem) : List (List Run) :=
  it.lines.map fun l => l.items.map fun li => (SSA.kvGet li.attrs "SSAEffect", li.text)

/-- the same, in the decoder's domain -/
def itemLinesG (it : CItem) : List (List GRun) := (itemRuns it).map fun l => l.map grun

/-- the event the decoder is expected to return for a cue -/
def eventG (v4plus : Bool) (ids : List Str) (it : CItem) : GEvent :=
  { (eventR v4plus (eventOfItem it) (itemLinesG it)).ev with style := Spec.SSA.resolve ids (eventOfItem it).style }

/-- the document the decoder is expected to return on `write s` -/
def docG (s : Subs) : GDoc :=
  { comments := (infoOfMeta s.metadata).comments,
    info := infoG (infoOfMeta s.metadata),
    styles := ((writerStyles s).map styleG).mergeSort fun a b => Spec.SSA.strLe a.name b.name,
    events := s.items.map (eventG (isV4plus s) (styleIds s)) }

/-- the double survives `FormatFloat(·,'f',3,64)` followed by the decoder's float reader -/
def decFloat3 (bits : Nat) : Bool :=
  match formatFloat3 bits with
  | some str => Spec.SSA.floatOf str == some bits
  | none => false

/-- the double survives `FormatFloat(·,'f',-1,64)` followed by the decoder's float reader -/
def decTimer (bits : Nat) : Bool :=
  match formatFloatShortest bits with
  | some str => Spec.SSA.floatOf str == some bits
  | none => false

/-- a float value of a style survives three decimals and the decoder (other values: nothing asked) -/
def valFloat3 : Val → Bool
  | .f bits => decFloat3 bits
  | _ => true

/-- a float value of the script info (`Timer`) survives shortest formatting and the decoder -/
def valTimer : Val → Bool
  | .f bits => decTimer bits
  | _ => true

/-- every integer of the denotation fits 64 bits (script info, style attributes, layer, margins, hour fields) -/
def wantInts64 (g : GDoc) : Bool := attrs64 g.info && ints64 g

/-- the text the writer emits for one line of a cue -/
def lineWhole (l : Line) : Str := (l.items.map fun li => (SSA.kvGet li.attrs "SSAEffect").getD [] ++ li.text).flatten

/-- **The hypotheses on top of `denote s = some want` and `RepRead s`.**
    * `ints`: the integers of the denotation fit Go's `int` (the decoder and `denote` count in unbounded arithmetic);
    * `timer`: `Timer` survives shortest formatting *and the decoder's 40-character limit on floats*;
    * `floats`: every float attribute of a style survives three decimals and the decoder;
    * `breaks`: no `\n` / `\N` inside a line — *override blocks included* (`denote` only checks the texts);
    * `cr`: no carriage return inside a line — *override blocks included* (`denote` only checks the texts);
    * `styleRef`: no cue refers to a style whose identifier is the empty string. -/
structure Extra (s : Subs) (want : GDoc) : Prop where
  ints : wantInts64 want = true
  timer : ∀ v, (infoOfMeta s.metadata).vals.get SI.timer = some v → valTimer v = true
  floats : ∀ st ∈ writerStyles s, ∀ f ∈ Fld.all, ∀ v, st.vals.get f = some v → valFloat3 v = true
  breaks : ∀ it ∈ s.items, ∀ l ∈ it.lines, Spec.SSA.hasBreak (lineWhole l) = false
  cr : ∀ it ∈ s.items, ∀ l ∈ it.lines, '\r' ∉ lineWhole l
  styleRef : ∀ it ∈ s.items, it.style ≠ some []

instance (s : Subs) (want : GDoc) : Decidable (Extra s want) :=
  decidable_of_iff
    (wantInts64 want = true ∧
     (∀ v, (infoOfMeta s.metadata).vals.get SI.timer = some v → valTimer v = true) ∧
     (∀ st ∈ writerStyles s, ∀ f ∈ Fld.all, ∀ v, st.vals.get f = some v → valFloat3 v = true) ∧
     (∀ it ∈ s.items, ∀ l ∈ it.lines, Spec.SSA.hasBreak (lineWhole l) = false) ∧
     (∀ it ∈ s.items, ∀ l ∈ it.lines, '\r' ∉ lineWhole l) ∧
     (∀ it ∈ s.items, it.style ≠ some []))
    ⟨fun ⟨a, b, c, d, e, f⟩ => ⟨a, b, c, d, e, f⟩, fun ⟨a, b, c, d, e, f⟩ => ⟨a, b, c, d, e, f⟩⟩

/-- a written comment line `; c` after `TrimSpace` -/
def commentTrim (c : Str) : Str := ';' :: (if c = [] then [] else ' ' :: c)

end SSAW
end Astisub
