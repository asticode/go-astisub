import Astisub.Props.C05

/-!
# Lemmas/STLGsi — the GSI block: the parts of `gsiBytes` and the slice that holds each field
-/

namespace Astisub
namespace C05
open Go STL

theorem slice_mid (a x c : Bytes) (lo hi : Nat) (hlo : a.length = lo) (hhi : lo + x.length = hi) :
    slice (a ++ (x ++ c)) lo hi = x := by
  unfold slice
  subst hlo
  rw [List.drop_left]
  have : hi - a.length = x.length := by omega
  rw [this, List.take_left]

theorem getD_of_slice (b : Bytes) (i x : Nat) (h : slice b i (i + 1) = [x]) : b.getD i 0 = x := by
  unfold slice at h
  have h1 : i + 1 - i = 1 := by omega
  rw [h1] at h
  cases hd : b.drop i with
  | nil => rw [hd] at h; simp at h
  | cons y ys =>
    rw [hd] at h
    simp at h
    have : (b.drop i)[0]? = some y := by rw [hd]; rfl
    rw [List.getElem?_drop] at this
    simp only [Nat.add_zero] at this
    rw [List.getD_eq_getElem?_getD, this, ← h]
    rfl

def gsiParts (g : WGSI) : List Bytes :=
  let m := g.m
  let fr := m.framerate.toNat
  [ [0x38, 0x35, 0x30], padR 0x20 8 ((dfcOf m.framerate).getD []), padR 0x20 1 m.dsc, [0x30], [0x30],
    padR 0x20 2 g.langCode, padR 0x20 32 m.title, padR 0x20 32 m.origEpisode, padR 0x20 32 m.translProgram,
    padR 0x20 32 m.translEpisode, padR 0x20 32 m.translName, padR 0x20 32 m.translContact,
    padR 0x20 16 m.slr, padR 0x20 6 (formatDate (m.creation.getD zeroDate)), padR 0x20 6 (formatDate (m.revisionDate.getD zeroDate)),
    num 2 m.revisionNumber, num 5 (g.n : Int), num 5 (g.n : Int), num 3 1, num 2 (m.maxChars.getD 0), num 2 (m.maxRows.getD 0),
    [0x31], padR 0x20 8 (ascii (Duration.formatSTL m.tcp fr)), padR 0x20 8 (ascii (Duration.formatSTL g.tcf fr)),
    [0x31], [0x31], padR 0x20 3 m.country, padR 0x20 32 m.publisher, padR 0x20 32 m.editorName,
    padR 0x20 32 m.editorContact, List.replicate 651 0x20 ]

theorem gsiBytes_parts (g : WGSI) : gsiBytes g = (gsiParts g).flatten := by
  unfold gsiBytes gsiParts
  simp only [List.flatten_cons, List.flatten_nil, List.append_assoc, List.append_nil, List.cons_append, List.nil_append]

def gsiLens : List Nat :=
  [3, 8, 1, 1, 1, 2, 32, 32, 32, 32, 32, 32, 16, 6, 6, 2, 5, 5, 3, 2, 2, 1, 8, 8, 1, 1, 3, 32, 32, 32, 651]

theorem gsiParts_lens (g : WGSI) : (gsiParts g).map List.length = gsiLens := by
  unfold gsiParts gsiLens
  simp only [List.map_cons, List.map_nil, padR_length, num_length, List.length_replicate, List.length_cons, List.length_nil]

theorem slice_flatten_range (parts : List Bytes) (k j lo hi : Nat)
    (hlo : ((parts.take k).map List.length).sum = lo)
    (hhi : lo + (((parts.drop k).take j).map List.length).sum = hi) :
    slice parts.flatten lo hi = ((parts.drop k).take j).flatten := by
  have hsplit : parts = parts.take k ++ ((parts.drop k).take j ++ (parts.drop k).drop j) := by
    rw [List.take_append_drop, List.take_append_drop]
  have hf : parts.flatten = (parts.take k).flatten ++ (((parts.drop k).take j).flatten ++ ((parts.drop k).drop j).flatten) := by
    conv => lhs; rw [hsplit]
    rw [List.flatten_append, List.flatten_append]
  rw [hf]
  exact slice_mid _ _ _ lo hi (by rw [List.length_flatten]; exact hlo) (by rw [List.length_flatten]; exact hhi)

theorem gsi_slice_range (g : WGSI) (k j lo hi : Nat)
    (hlo : (gsiLens.take k).sum = lo) (hhi : lo + ((gsiLens.drop k).take j).sum = hi) :
    slice (gsiBytes g) lo hi = (((gsiParts g).drop k).take j).flatten := by
  rw [gsiBytes_parts]
  apply slice_flatten_range
  · rw [List.map_take, gsiParts_lens]; exact hlo
  · rw [List.map_take, List.map_drop, gsiParts_lens]; exact hhi

macro "gsi_part" k:num lo:num hi:num : tactic =>
  `(tactic| (rw [gsi_slice_range _ $k 1 $lo $hi (by decide) (by decide)]; exact List.append_nil _))

theorem gsi_dfc (g : WGSI) : slice (gsiBytes g) 3 11 = padR 0x20 8 ((dfcOf g.m.framerate).getD []) := by gsi_part 1 3 11
theorem gsi_dsc (g : WGSI) : slice (gsiBytes g) 11 12 = padR 0x20 1 g.m.dsc := by gsi_part 2 11 12
theorem gsi_cct0 (g : WGSI) : slice (gsiBytes g) 12 13 = [0x30] := by gsi_part 3 12 13
theorem gsi_cct1 (g : WGSI) : slice (gsiBytes g) 13 14 = [0x30] := by gsi_part 4 13 14
theorem gsi_lang (g : WGSI) : slice (gsiBytes g) 14 16 = padR 0x20 2 g.langCode := by gsi_part 5 14 16
theorem gsi_title (g : WGSI) : slice (gsiBytes g) 16 48 = padR 0x20 32 g.m.title := by gsi_part 6 16 48
theorem gsi_origEpisode (g : WGSI) : slice (gsiBytes g) 48 80 = padR 0x20 32 g.m.origEpisode := by gsi_part 7 48 80
theorem gsi_translProgram (g : WGSI) : slice (gsiBytes g) 80 112 = padR 0x20 32 g.m.translProgram := by gsi_part 8 80 112
theorem gsi_translEpisode (g : WGSI) : slice (gsiBytes g) 112 144 = padR 0x20 32 g.m.translEpisode := by gsi_part 9 112 144
theorem gsi_translName (g : WGSI) : slice (gsiBytes g) 144 176 = padR 0x20 32 g.m.translName := by gsi_part 10 144 176
theorem gsi_translContact (g : WGSI) : slice (gsiBytes g) 176 208 = padR 0x20 32 g.m.translContact := by gsi_part 11 176 208
theorem gsi_slr (g : WGSI) : slice (gsiBytes g) 208 224 = padR 0x20 16 g.m.slr := by gsi_part 12 208 224
theorem gsi_creation (g : WGSI) : slice (gsiBytes g) 224 230 = padR 0x20 6 (formatDate (g.m.creation.getD zeroDate)) := by gsi_part 13 224 230
theorem gsi_revisionDate (g : WGSI) : slice (gsiBytes g) 230 236 = padR 0x20 6 (formatDate (g.m.revisionDate.getD zeroDate)) := by gsi_part 14 230 236
theorem gsi_revisionNumber (g : WGSI) : slice (gsiBytes g) 236 238 = num 2 g.m.revisionNumber := by gsi_part 15 236 238
theorem gsi_tnb (g : WGSI) : slice (gsiBytes g) 238 243 = num 5 (g.n : Int) := by gsi_part 16 238 243
theorem gsi_tns (g : WGSI) : slice (gsiBytes g) 243 248 = num 5 (g.n : Int) := by gsi_part 17 243 248
theorem gsi_tng (g : WGSI) : slice (gsiBytes g) 248 251 = num 3 1 := by gsi_part 18 248 251
theorem gsi_maxChars (g : WGSI) : slice (gsiBytes g) 251 253 = num 2 (g.m.maxChars.getD 0) := by gsi_part 19 251 253
theorem gsi_maxRows (g : WGSI) : slice (gsiBytes g) 253 255 = num 2 (g.m.maxRows.getD 0) := by gsi_part 20 253 255
theorem gsi_tcp (g : WGSI) : slice (gsiBytes g) 256 264 = padR 0x20 8 (ascii (Duration.formatSTL g.m.tcp g.m.framerate.toNat)) := by gsi_part 22 256 264
theorem gsi_tcf (g : WGSI) : slice (gsiBytes g) 264 272 = padR 0x20 8 (ascii (Duration.formatSTL g.tcf g.m.framerate.toNat)) := by gsi_part 23 264 272
theorem gsi_tnd (g : WGSI) : slice (gsiBytes g) 272 273 = [0x31] := by gsi_part 24 272 273
theorem gsi_dsn (g : WGSI) : slice (gsiBytes g) 273 274 = [0x31] := by gsi_part 25 273 274
theorem gsi_country (g : WGSI) : slice (gsiBytes g) 274 277 = padR 0x20 3 g.m.country := by gsi_part 26 274 277
theorem gsi_publisher (g : WGSI) : slice (gsiBytes g) 277 309 = padR 0x20 32 g.m.publisher := by gsi_part 27 277 309
theorem gsi_editorName (g : WGSI) : slice (gsiBytes g) 309 341 = padR 0x20 32 g.m.editorName := by gsi_part 28 309 341
theorem gsi_editorContact (g : WGSI) : slice (gsiBytes g) 341 373 = padR 0x20 32 g.m.editorContact := by gsi_part 29 341 373

theorem gsi_get12 (g : WGSI) : (gsiBytes g).getD 12 0 = 0x30 := getD_of_slice _ _ _ (gsi_cct0 g)
theorem gsi_get13 (g : WGSI) : (gsiBytes g).getD 13 0 = 0x30 := getD_of_slice _ _ _ (gsi_cct1 g)
theorem gsi_get272 (g : WGSI) : (gsiBytes g).getD 272 0 = 0x31 := getD_of_slice _ _ _ (gsi_tnd g)
theorem gsi_get273 (g : WGSI) : (gsiBytes g).getD 273 0 = 0x31 := getD_of_slice _ _ _ (gsi_dsn g)

theorem gsi_head (g : WGSI) : slice (gsiBytes g) 0 3 = [0x38, 0x35, 0x30] := by
  rw [gsi_slice_range g 0 1 0 3 (by decide) (by decide)]; rfl

theorem gsi_cct (g : WGSI) : slice (gsiBytes g) 12 14 = [0x30, 0x30] := by
  rw [gsi_slice_range g 3 2 12 14 (by decide) (by decide)]; rfl

theorem gsi_tcs (g : WGSI) : slice (gsiBytes g) 255 256 = [0x31] := by
  rw [gsi_slice_range g 21 1 255 256 (by decide) (by decide)]; rfl

theorem gsi_get255 (g : WGSI) : (gsiBytes g).getD 255 0 = 0x31 := getD_of_slice _ _ _ (gsi_tcs g)

end C05
end Astisub
