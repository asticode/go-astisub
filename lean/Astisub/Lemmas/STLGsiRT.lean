import Astisub.Lemmas.STLFields
import Astisub.Lemmas.STLGsi
import Astisub.Lemmas.STLTti

/-!
# Lemmas/STLGsiRT — `parseGSI (gsiBytes g)`: the textual timecode, the fixed fields, and the assembly; the caller's
metadata (`MetaOK`) gives a block the format can carry (`GsiOK`)
-/

namespace Astisub
namespace C05
open Go STL

theorem formatSTL_dd (t : Int) (fr : Nat) (hfr : fr = 25 ∨ fr = 30) (h1 : t < 360000000000000) :
    Duration.formatSTL t fr = dd (t.toNat / 3600000000000) ++ dd (t.toNat % 3600000000000 / 60000000000)
      ++ dd (t.toNat % 60000000000 / 1000000000) ++ dd (t.toNat % 1000000000 * fr / 1000000000) := by
  unfold Duration.formatSTL
  simp only
  have hf : t.toNat % 1000000000 * fr / 1000000000 < 100 := by rcases hfr with rfl | rfl <;> omega
  rw [C16.pad2_eq_dd (by omega), C16.pad2_eq_dd (by omega), C16.pad2_eq_dd (by omega), C16.pad2_eq_dd hf]

theorem parseSTL_dd (H M S F : Nat) (hH : H < 100) (hM : M < 100) (hS : S < 100) (hF : F < 100) (fr : Int) :
    Duration.parseSTL true (dd H ++ dd M ++ dd S ++ dd F) fr
      = some ((H : Int) * Duration.nsPerH + (M : Int) * Duration.nsPerMin + (S : Int) * Duration.nsPerS
          + Duration.framesToNs true (F : Int) fr) := by
  have e1 : (dd H ++ dd M ++ dd S ++ dd F).take 2 = dd H := rfl
  have e2 : ((dd H ++ dd M ++ dd S ++ dd F).drop 2).take 2 = dd M := rfl
  have e3 : ((dd H ++ dd M ++ dd S ++ dd F).drop 4).take 2 = dd S := rfl
  have e4 : ((dd H ++ dd M ++ dd S ++ dd F).drop 6).take 2 = dd F := rfl
  unfold Duration.parseSTL
  rw [e1, e2, e3, e4, atoi_dd hH, atoi_dd hM, atoi_dd hS, atoi_dd hF]

theorem dd_digitStr4 (H M S F : Nat) (hH : H < 100) (hM : M < 100) (hS : S < 100) (hF : F < 100) :
    DigitStr (dd H ++ dd M ++ dd S ++ dd F) := by
  intro c hc
  simp only [List.mem_append] at hc
  rcases hc with ((hc | hc) | hc) | hc
  · exact digitStr_dd hH c hc
  · exact digitStr_dd hM c hc
  · exact digitStr_dd hS c hc
  · exact digitStr_dd hF c hc

/-- **GSI timecodes** (TCP, TCF): the eight digits the writer emits for an instant below 100 h are read as
    the instant of the frame, the same value the binary timecode of a TTI block gives -/
theorem gsiTimecode_format (t : Int) (fr : Nat) (hfr : fr = 25 ∨ fr = 30) (h1 : t < 360000000000000) :
    gsiTimecode (trimB (padR 0x20 8 (ascii (Duration.formatSTL t fr)))) (fr : Int) = some (frameInstant (fr : Int) t) := by
  have hf : t.toNat % 1000000000 * fr / 1000000000 < 100 := by rcases hfr with rfl | rfl <;> omega
  have hH : t.toNat / 3600000000000 < 100 := by omega
  have hM : t.toNat % 3600000000000 / 60000000000 < 100 := by omega
  have hS : t.toNat % 60000000000 / 1000000000 < 100 := by omega
  rw [formatSTL_dd t fr hfr h1]
  generalize hHd : t.toNat / 3600000000000 = H at hH
  generalize hMd : t.toNat % 3600000000000 / 60000000000 = M at hM
  generalize hSd : t.toNat % 60000000000 / 1000000000 = S at hS
  generalize hFd : t.toNat % 1000000000 * fr / 1000000000 = F at hf
  have hlen : (ascii (dd H ++ dd M ++ dd S ++ dd F)).length = 8 := rfl
  have hp : padR 0x20 8 (ascii (dd H ++ dd M ++ dd S ++ dd F)) = ascii (dd H ++ dd M ++ dd S ++ dd F) := by
    rw [padR_fit _ _ _ (by rw [hlen]; omega), hlen]; simp
  rw [hp, trimB_digits _ (ascii_digitStr _ (dd_digitStr4 H M S F hH hM hS hf))]
  unfold gsiTimecode
  have he : (ascii (dd H ++ dd M ++ dd S ++ dd F)).isEmpty = false := rfl
  rw [he, hlen, chars_ascii, parseSTL_dd H M S F hH hM hS hf]
  simp only [Bool.false_eq_true, if_false, Nat.lt_irrefl]
  unfold frameInstant Duration.formatSTLBytes Duration.parseSTLBytes
  simp only [Int.toNat_natCast]
  have h256 : H % 256 = H := by omega
  rw [hHd, hMd, hSd, hFd, h256]

theorem formatSTL_rewrite (T : Int) (fr : Nat) (hfr : fr = 25 ∨ fr = 30) (h0 : 0 ≤ T) (h1 : T < 86400000000000) :
    Duration.formatSTL (frameInstant (fr : Int) T) fr = Duration.formatSTL T fr := by
  obtain ⟨hle, _⟩ := frameInstant_floor T fr hfr h0 (by omega)
  have hb := frameInstant_rewrite T fr hfr h0 h1
  have hnn := frameInstant_nonneg T fr hfr h0 (by omega)
  rw [formatSTL_dd _ fr hfr (by omega), formatSTL_dd T fr hfr (by omega)]
  unfold Duration.formatSTLBytes at hb
  simp only [List.cons.injEq, and_true] at hb
  obtain ⟨e1, e2, e3, e4⟩ := hb
  have a1 : (frameInstant (fr : Int) T).toNat / 3600000000000 = T.toNat / 3600000000000 := by omega
  rw [a1, e2, e3, e4]

theorem dfc_roundtrip (fr : Nat) (hfr : fr = 25 ∨ fr = 30) :
    framerateOf (padR 0x20 8 ((dfcOf (fr : Int)).getD [])) = some fr := by
  rcases hfr with rfl | rfl <;> decide

theorem cct_ok : (!Generated.STL.cctNumbers.contains (0x30 * 256 + 0x30)) = false := by decide

theorem atoiByte_1 : atoiByte 0x31 = some (some 1) := by decide

theorem tng_ok : atoiField (trimB (num 3 1)) = some (some 1) := by decide

/-- **what the GSI block can carry** (decidable): frame rate 25 or 30; display standard, language code and
    the eleven text values fit their fields and start and end with a graphic ASCII character; the dates exist;
    revision number, maximum characters and maximum rows are within 0–99; the two timecodes are below 100 h -/
def GsiOK (g : WGSI) : Prop :=
  (g.m.framerate = 25 ∨ g.m.framerate = 30) ∧
  fieldOK 1 g.m.dsc = true ∧ fieldOK 2 g.langCode = true ∧ fieldOK 32 g.m.title = true ∧
  fieldOK 32 g.m.origEpisode = true ∧ fieldOK 32 g.m.translProgram = true ∧ fieldOK 32 g.m.translEpisode = true ∧
  fieldOK 32 g.m.translName = true ∧ fieldOK 32 g.m.translContact = true ∧ fieldOK 16 g.m.slr = true ∧
  fieldOK 3 g.m.country = true ∧ fieldOK 32 g.m.publisher = true ∧ fieldOK 32 g.m.editorName = true ∧
  fieldOK 32 g.m.editorContact = true ∧
  dateOK (g.m.creation.getD zeroDate) = true ∧ dateOK (g.m.revisionDate.getD zeroDate) = true ∧
  (0 ≤ g.m.revisionNumber ∧ g.m.revisionNumber < 100) ∧
  (0 ≤ g.m.maxChars.getD 0 ∧ g.m.maxChars.getD 0 < 100) ∧
  (0 ≤ g.m.maxRows.getD 0 ∧ g.m.maxRows.getD 0 < 100) ∧
  g.m.tcp < 360000000000000 ∧ g.tcf < 360000000000000

instance (g : WGSI) : Decidable (GsiOK g) := by unfold GsiOK; infer_instance

theorem GsiOK.tcp_lt {g : WGSI} (h : GsiOK g) : g.m.tcp < 360000000000000 := by
  obtain ⟨_, _, _, _, _, _, _, _, _, _, _, _, _, _, _, _, _, _, _, h, _⟩ := h
  exact h

/-- what the reader returns for the block written from `g`: everything as given, except that the language
    is the name of the language code, the unset options show their written defaults, and the programme
    start is the instant of its frame -/
def gsiBack (g : WGSI) : GSI :=
  { cct := 12336, langCode := g.langCode, tcpFull := frameInstant g.m.framerate g.m.tcp,
    m := { g.m with language := (languageOf g.langCode).getD [],
                    creation := some (g.m.creation.getD zeroDate), revisionDate := some (g.m.revisionDate.getD zeroDate),
                    maxChars := some (g.m.maxChars.getD 0), maxRows := some (g.m.maxRows.getD 0),
                    tcp := frameInstant g.m.framerate g.m.tcp } }

theorem field_padR {b : Bytes} {lo hi n : Nat} {v : Bytes} (hs : slice b lo hi = padR 0x20 n v) (hv : fieldOK n v = true) :
    field b lo hi = v := by
  unfold field; rw [hs]; exact fieldOK_trim _ _ hv

theorem parseGSI_gsiBytes (g : WGSI) (h : GsiOK g) : parseGSI (gsiBytes g) = some (gsiBack g) := by
  obtain ⟨hfr, hdsc, hlang, htitle, horig, htp, hte, htn, htc, hslr, hcountry, hpub, hen, hec, hcd, hrd,
    ⟨hrn0, hrn1⟩, ⟨hmc0, hmc1⟩, ⟨hmr0, hmr1⟩, htcp, htcf⟩ := h
  obtain ⟨fr, hfrN, hfrI⟩ := framerate_nat hfr
  have hfrT : g.m.framerate.toNat = fr := by rw [hfrI]; rfl
  obtain ⟨v1, hv1⟩ := num_field_parses 5 g.n (by omega) (by omega)
  -- one fact per field `parseGSI` reads, in its order; the last `simp only` runs them through its cascade of matches
  have e_dfc : framerateOf (slice (gsiBytes g) 3 11) = some fr := by rw [gsi_dfc, hfrI]; exact dfc_roundtrip fr hfrN
  have e_cd : dateField (field (gsiBytes g) 224 230) = some (g.m.creation.getD zeroDate) := by
    unfold field; rw [gsi_creation]; exact date_roundtrip _ hcd
  have e_rd : dateField (field (gsiBytes g) 230 236) = some (g.m.revisionDate.getD zeroDate) := by
    unfold field; rw [gsi_revisionDate]; exact date_roundtrip _ hrd
  have e_rn : atoiField (field (gsiBytes g) 236 238) = some (some g.m.revisionNumber) := by
    unfold field; rw [gsi_revisionNumber]; exact num2_int _ hrn0 hrn1
  have e_tnb : atoiField (field (gsiBytes g) 238 243) = some (some (v1 : Int)) := by
    unfold field; rw [gsi_tnb]; exact hv1
  have e_tns : atoiField (field (gsiBytes g) 243 248) = some (some (v1 : Int)) := by
    unfold field; rw [gsi_tns]; exact hv1
  have e_tng : atoiField (field (gsiBytes g) 248 251) = some (some 1) := by
    unfold field; rw [gsi_tng]; exact tng_ok
  have e_mc : atoiField (field (gsiBytes g) 251 253) = some (some (g.m.maxChars.getD 0)) := by
    unfold field; rw [gsi_maxChars]; exact num2_int _ hmc0 hmc1
  have e_mr : atoiField (field (gsiBytes g) 253 255) = some (some (g.m.maxRows.getD 0)) := by
    unfold field; rw [gsi_maxRows]; exact num2_int _ hmr0 hmr1
  have e_tcp : gsiTimecode (field (gsiBytes g) 256 264) (fr : Int) = some (frameInstant (fr : Int) g.m.tcp) := by
    unfold field; rw [gsi_tcp, hfrT]; exact gsiTimecode_format _ fr hfrN htcp
  have e_tcf : gsiTimecode (field (gsiBytes g) 264 272) (fr : Int) = some (frameInstant (fr : Int) g.tcf) := by
    unfold field; rw [gsi_tcf, hfrT]; exact gsiTimecode_format _ fr hfrN htcf
  have f_dsc := field_padR (gsi_dsc g) hdsc
  have f_lang := field_padR (gsi_lang g) hlang
  have f_title := field_padR (gsi_title g) htitle
  have f_orig := field_padR (gsi_origEpisode g) horig
  have f_tp := field_padR (gsi_translProgram g) htp
  have f_te := field_padR (gsi_translEpisode g) hte
  have f_tn := field_padR (gsi_translName g) htn
  have f_tc := field_padR (gsi_translContact g) htc
  have f_slr := field_padR (gsi_slr g) hslr
  have f_country := field_padR (gsi_country g) hcountry
  have f_pub := field_padR (gsi_publisher g) hpub
  have f_en := field_padR (gsi_editorName g) hen
  have f_ec := field_padR (gsi_editorContact g) hec
  unfold parseGSI
  simp only [e_dfc, gsi_get12, gsi_get13, cct_ok, Bool.false_eq_true, if_false, e_cd, e_rd, e_rn, e_tnb, e_tns, e_tng,
    e_mc, e_mr, e_tcp, e_tcf, gsi_get272, gsi_get273, atoiByte_1, f_dsc, f_lang, f_title, f_orig, f_tp, f_te, f_tn, f_tc,
    f_slr, f_country, f_pub, f_en, f_ec, Option.getD_some]
  unfold gsiBack
  simp only [hfrI]

def firstStart (cues : List WCue) : Int := match cues with | c :: _ => c.startAt | [] => 0

/-- **metadata the format can carry under display standard 0** (decidable), for a document written on day `now`
    whose first cue starts at `first`: frame rate 25 or 30, open subtitling, the eleven text values fit their
    fields and start and end with a graphic ASCII character, the dates (or `now` in their place) exist, the
    numbers (or the writer's defaults 40 and 23) are within 0–99, programme start and first cue below 100 h -/
def MetaOK (now : Date) (m : Meta) (first : Int) : Prop :=
  (m.framerate = 25 ∨ m.framerate = 30) ∧ m.dsc = [0x30] ∧ fieldOK 32 m.title = true ∧
  fieldOK 32 m.origEpisode = true ∧ fieldOK 32 m.translProgram = true ∧ fieldOK 32 m.translEpisode = true ∧
  fieldOK 32 m.translName = true ∧ fieldOK 32 m.translContact = true ∧ fieldOK 16 m.slr = true ∧
  fieldOK 3 m.country = true ∧ fieldOK 32 m.publisher = true ∧ fieldOK 32 m.editorName = true ∧
  fieldOK 32 m.editorContact = true ∧
  dateOK (m.creation.getD now) = true ∧ dateOK (m.revisionDate.getD now) = true ∧
  (0 ≤ m.revisionNumber ∧ m.revisionNumber < 100) ∧
  (0 ≤ m.maxChars.getD 40 ∧ m.maxChars.getD 40 < 100) ∧
  (0 ≤ m.maxRows.getD 23 ∧ m.maxRows.getD 23 < 100) ∧
  m.tcp < 360000000000000 ∧ first + m.tcp < 360000000000000

instance (now : Date) (m : Meta) (first : Int) : Decidable (MetaOK now m first) := by unfold MetaOK; infer_instance

theorem MetaOK.tcp_lt {now : Date} {m : Meta} {first : Int} (h : MetaOK now m first) : m.tcp < 360000000000000 := by
  obtain ⟨_, _, _, _, _, _, _, _, _, _, _, _, _, _, _, _, _, _, h, _⟩ := h
  exact h

theorem langCodes_ok : ∀ e ∈ Generated.STL.languages, fieldOK 2 e.2.2 = true := by decide

theorem langCode_ok (name : Bytes) : fieldOK 2 ((languageCodeOf name).getD (lit "0F")) = true := by
  unfold languageCodeOf
  cases h : Generated.STL.languages.find? fun e => e.2.1 == name with
  | none => decide
  | some e => exact langCodes_ok e (List.mem_of_find?_eq_some h)

theorem newGSI_framerate (now : Date) (m : Meta) (cues : List WCue) (h : m.framerate = 25 ∨ m.framerate = 30) :
    (newGSI now (some m) cues).m.framerate = m.framerate := by
  have hdfc : (dfcOf m.framerate).isSome = true := by rcases h with e | e <;> rw [e] <;> decide
  unfold newGSI; simp only [hdfc, if_true]

theorem newGSI_ok (now : Date) (m : Meta) (cues : List WCue) (h : MetaOK now m (firstStart cues)) :
    GsiOK (newGSI now (some m) cues) ∧ (newGSI now (some m) cues).m.dsc = [0x30] := by
  obtain ⟨hfr, hdsc, htitle, horig, htp, hte, htn, htc, hslr, hcountry, hpub, hen, hec, hcd, hrd, hrn, hmc, hmr, htcp, htcf⟩ := h
  have hdfc : (dfcOf m.framerate).isSome = true := by rcases hfr with e | e <;> rw [e] <;> decide
  have hd : (if m.dsc.isEmpty = true then (defaultMeta now).dsc else m.dsc) = [0x30] := by rw [hdsc]; rfl
  refine ⟨?_, ?_⟩
  · unfold GsiOK newGSI
    simp only [hdfc, if_true, hd, Option.getD_some]
    exact ⟨hfr, by decide, langCode_ok _, htitle, horig, htp, hte, htn, htc, hslr, hcountry, hpub, hen, hec, hcd, hrd, hrn,
      hmc, hmr, htcp, htcf⟩
  · unfold newGSI
    exact hd

theorem newGSI_clock (now now' : Date) (m : Meta) (cues : List WCue) (hc : m.creation.isSome) (hr : m.revisionDate.isSome) :
    newGSI now (some m) cues = newGSI now' (some m) cues := by
  unfold newGSI
  cases hcd : m.creation with
  | none => rw [hcd] at hc; cases hc
  | some cd =>
    cases hrd : m.revisionDate with
    | none => rw [hrd] at hr; cases hr
    | some rd => simp only [hcd, hrd, Option.getD_some, defaultMeta]

end C05
end Astisub
