import Astisub.Props.C06

/-!
# Lemmas/TelePacket — one subtitle data unit: the model's `parseDataUnit` and the specification's `decodePacket`

`applyPacket` says what the model's page buffer does with a packet *as the specification decodes it*
(`Spec.Teletext.Packet`); `parseDataUnit_decodePacket` proves that this is what `parseDataUnit` does with the
44 bytes, for every byte string the specification accepts.
-/

namespace Astisub
namespace Teletext
open Go Generated.Teletext

theorem foldl_inv {α β} (I : β → Prop) (f : β → α → β) : ∀ (l : List α) (b : β), I b → (∀ b, ∀ a ∈ l, I b → I (f b a)) →
    I (l.foldl f b)
  | [], _, h, _ => h
  | a :: l, b, h, hs => foldl_inv I f l _ (hs b a (by simp) h) (fun b x hx => hs b x (by simp [hx]))

def Bytes (l : List Nat) : Prop := ∀ x ∈ l, x < 256

instance (l : List Nat) : Decidable (Bytes l) := by unfold Bytes; infer_instance

theorem nth_lt_256 (l : List Nat) (h : Bytes l) (k : Nat) : nth l k < 256 := by
  unfold nth
  rw [List.getD_eq_getElem?_getD]
  by_cases hk : k < l.length
  · rw [List.getElem?_eq_getElem hk]; exact h _ (List.getElem_mem hk)
  · rw [List.getElem?_eq_none (by omega)]; decide

theorem Bytes.drop {l : List Nat} (h : Bytes l) (n : Nat) : Bytes (l.drop n) :=
  fun x hx => h x (List.mem_of_mem_drop hx)

theorem nth_drop (l : List Nat) (n k : Nat) : nth (l.drop n) k = nth l (n + k) := by
  simp [nth, List.getD_eq_getElem?_getD]

theorem hammingExact_lt (b n : Nat) (h : Spec.Teletext.hammingExact b = some n) : n < 16 := by
  unfold Spec.Teletext.hammingExact at h
  simp only at h
  split at h
  · simp at h
    rw [← h]
    simp only [Spec.Teletext.bit]
    omega
  · simp at h

theorem hamming_of_exact (l : List Nat) (hb : Bytes l) (k n : Nat)
    (h : Spec.Teletext.hammingExact (l.getD k 0) = some n) : hammingDecode (nth l k) = some n :=
  C06.C06_hamming_extends _ (nth_lt_256 l hb k) n h

/-- magazine and packet number as `parseDataUnit` computes them from the two decoded address nibbles -/
def modelAddress (h1 h2 : Nat) : Nat × Nat :=
  let h := (h2 * 16 ||| h1) % 256
  (if h &&& 7 = 0 then 8 else h &&& 7, h >>> 3)

/-- magazine and packet number as the specification computes them -/
def specAddress (a b : Nat) : Nat × Nat := (if a % 8 = 0 then 8 else a % 8, a / 8 + b * 2)

theorem address_eq (a b : Nat) (ha : a < 16) (hb : b < 16) : modelAddress a b = specAddress a b := by
  have h : b * 16 ||| a = b * 16 + a := by
    rw [Nat.mul_comm, show (16 : Nat) = 2 ^ 4 from rfl, Nat.two_pow_add_eq_or_of_lt ha]
  simp only [modelAddress, specAddress, h, show (7 : Nat) = 2 ^ 3 - 1 from rfl, Nat.and_two_pow_sub_one_eq_mod,
    Nat.shiftRight_eq_div_pow]
  have : (b * 16 + a) % 256 % 2 ^ 3 = a % 8 := by omega
  have h2 : (b * 16 + a) % 256 / 2 ^ 3 = a / 8 + b * 2 := by omega
  rw [this, h2]

theorem specAddress_y_le (a b : Nat) (ha : a < 16) (hb : b < 16) : (specAddress a b).2 ≤ 31 := by
  simp only [specAddress]; omega

theorem specAddress_mag (a b : Nat) : 1 ≤ (specAddress a b).1 ∧ (specAddress a b).1 ≤ 8 := by
  simp only [specAddress]; split <;> omega

theorem parseDataUnit_address (b : Buf) (f : List Nat) (t : Int) (h1 h2 : Nat)
    (hlen : 44 ≤ f.length) (hfc : nth f 1 = 0xe4)
    (ha : hammingDecode (nth f 2) = some h1) (hb : hammingDecode (nth f 3) = some h2) :
    parseDataUnit b f 3 t = parsePacket b (f.drop 4) (modelAddress h1 h2).1 (modelAddress h1 h2).2 t := by
  have : ¬ f.length < 44 := by omega
  simp [parseDataUnit, this, hfc, ha, hb, modelAddress]

/-- what `parsePacketHeader` does once a page is selected, written on the decoded fields of the header:
    a header of another page ends the reception (serial mode: any magazine; parallel mode: same magazine); a header of
    the selected page closes the page under construction at `t` and starts a new one -/
def headerCore (b : Buf) (t : Int) (mag : Nat) (pn : Option Nat) (serial : Bool) (code : Nat) : Buf :=
  let other := pn != some b.page
  if b.receiving && ((serial && (other || mag != b.mag)) || (!serial && other && mag = b.mag)) then { b with receiving := false }
  else if other || mag != b.mag then b
  else
    let done := match b.current with
      | some p => b.done ++ [{ p with end_ := t }]
      | none => b.done
    { b with done := done, receiving := true, current := some { charsetCode := code, start := t } }

/-- automatic page selection: with no page selected, a decimal page whose header has the subtitle flag is selected -/
def autoSelect (b : Buf) (mag : Nat) (pn : Option Nat) (subtitle : Bool) : Buf :=
  if b.mag = 0 && b.page = 0 then
    match pn with
    | some p => if subtitle then { b with mag := mag, page := p } else b
    | none => b
  else b

/-- the page number of a header: two decimal digits, or none -/
def pageNo (tens units : Nat) : Option Nat := if tens > 9 || units > 9 then none else some (tens * 10 + units)

def headerStep (b : Buf) (t : Int) (mag tens units : Nat) (subtitle serial : Bool) (code : Nat) : Buf :=
  if tens = 15 && units = 15 then b else
  headerCore (autoSelect b mag (pageNo tens units) subtitle) t mag (pageNo tens units) serial code

/-- the buffer after a header of the selected page at `t`: the page under construction is finished with end `t`, a new
    one with the header's code starts at `t` -/
def openHeader (b : Buf) (t : Int) (code : Nat) : Buf :=
  { b with done := (match b.current with | some p => b.done ++ [{ p with end_ := t }] | none => b.done),
           receiving := true, current := some { charsetCode := code, start := t } }

theorem headerCore_open (b : Buf) (t : Int) (serial : Bool) (code : Nat) :
    headerCore b t b.mag (some b.page) serial code = openHeader b t code := by
  simp only [headerCore, openHeader, bne_self_eq_false, Bool.or_self, Bool.and_false, Bool.false_and,
    Bool.false_eq_true, if_false]

theorem c5_bit (c : Nat) : decide (c &&& 8 > 0) = decide (c / 8 % 2 = 1) := by
  have h1 : (c &&& 8) / 2 ^ 3 = c / 2 ^ 3 % 2 := by
    rw [← Nat.shiftRight_eq_div_pow, Nat.shiftRight_and_distrib, show (8 : Nat) >>> 3 = 1 from rfl, Nat.and_one_is_mod,
      Nat.shiftRight_eq_div_pow]
  have h2 : (c &&& 8) % 2 ^ 3 = 0 := by
    rw [← Nat.and_two_pow_sub_one_eq_mod, Nat.and_assoc, show (8 : Nat) &&& 2 ^ 3 - 1 = 0 from rfl, Nat.and_zero]
  exact decide_eq_decide.mpr (by omega)

theorem c7_bit (c : Nat) : decide (c &&& 1 > 0) = decide (c % 2 = 1) := by
  rw [Nat.and_one_is_mod]; exact decide_eq_decide.mpr (by omega)

theorem parseHeader_eq (b : Buf) (i : List Nat) (mag : Nat) (t : Int) (u tn c5 c7 : Nat)
    (h0 : hammingDecode (nth i 0) = some u) (h1 : hammingDecode (nth i 1) = some tn)
    (h5 : hammingDecode (nth i 5) = some c5) (h7 : hammingDecode (nth i 7) = some c7) :
    parseHeader b i mag t = headerStep b t mag tn u (decide (c5 / 8 % 2 = 1)) (decide (c7 % 2 = 1)) (c7 / 2) := by
  unfold parseHeader headerStep
  rw [h0, h1]
  simp only [h5, h7]
  have hsh : c7 >>> 1 = c7 / 2 := by rw [Nat.shiftRight_eq_div_pow]
  rw [← c5_bit c5, ← c7_bit c7, hsh]
  by_cases hff : (decide (tn = 15) && decide (u = 15)) = true
  · simp only [hff, if_true]
  · simp only [hff]
    unfold autoSelect pageNo
    by_cases hsel : (decide (b.mag = 0) && decide (b.page = 0)) = true
    · simp only [hsel, if_true]
      cases hpn : (if (decide (tn > 9) || decide (u > 9)) = true then (none : Option Nat) else some (tn * 10 + u)) with
      | none => rfl
      | some p =>
        simp only []
        by_cases hs : c5 &&& 8 > 0
        · simp [hs, headerCore]
          cases b.current <;> rfl
        · simp [hs, headerCore]
          cases b.current <;> rfl
    · simp only [hsel]; rfl

/-- the value `parsePacketData` stores for a received cell -/
def storedCell : Option Nat → Nat
  | some c => c
  | none => invalidChar

/-- `parsePacketData` with the stored row given -/
def storeRow (b : Buf) (y : Nat) (row : List Nat) : Buf :=
  match b.current with
  | none => b
  | some p => { b with current := some { p with data := setData p.data y row, rows := p.rows ++ [y] } }

theorem map_range_getD (g : Nat → Nat) : ∀ (l : List Nat) (n : Nat), l.length = n →
    (List.range n).map (fun k => g (nth l k)) = l.map g := by
  intro l n hn
  apply List.ext_getElem
  · simp [hn]
  · intro k h1 h2
    simp at h1 h2
    simp [nth, List.getD_eq_getElem?_getD, h2]

theorem storeChar_eq (x : Nat) : storeChar x = storedCell (Spec.Teletext.parityDecode x) := by
  rw [C06.storeChar_parityDecode]
  cases Spec.Teletext.parityDecode x <;> rfl

theorem parseData_eq (b : Buf) (d : List Nat) (y : Nat) (hl : d.length = 40) :
    parseData b d y = storeRow b y ((d.map Spec.Teletext.parityDecode).map storedCell) := by
  unfold parseData storeRow
  rw [map_range_getD storeChar d 40 hl, funext storeChar_eq, List.map_map]
  rfl

/-- what `parsePacket28And29` does, written on the specification's `.desig` fields -/
def desigStep (b : Buf) (mag y dc raw : Nat) : Buf :=
  if mag = b.mag && (dc = 0 || dc = 4) then
    if y = 28 then (if b.receiving && raw % 16 = 0 then { b with x28 := some raw } else b)
    else if y = 29 then { b with m29 := some raw }
    else b
  else b

/-- the model's page buffer after a packet, as a function of the packet the specification decodes -/
def applyPacket (t : Int) (b : Buf) : Spec.Teletext.Packet → Buf
  | .header mag tens units subtitle serial code => headerStep b t mag tens units subtitle serial code
  | .row mag y cells => if b.receiving && mag = b.mag then storeRow b y (cells.map storedCell) else b
  | .desig mag y dc raw => desigStep b mag y dc raw
  | .other => b

theorem parsePacket_desig (b : Buf) (d : List Nat) (mag y dc : Nat) (t : Int) (hy : y = 28 ∨ y = 29)
    (h0 : hammingDecode (nth d 0) = some dc) :
    parsePacket b d mag y t = desigStep b mag y dc (d.getD 1 0 + d.getD 2 0 * 256 + d.getD 3 0 * 65536) := by
  have hraw : nth (d.drop 1) 2 * 65536 + nth (d.drop 1) 1 * 256 + nth (d.drop 1) 0
      = d.getD 1 0 + d.getD 2 0 * 256 + d.getD 3 0 * 65536 := by
    rw [nth_drop, nth_drop, nth_drop]; simp only [nth, Nat.reduceAdd]; omega
  unfold parsePacket desigStep parse2829
  rw [h0, hraw]
  simp only [show ∀ t : Nat, t &&& 0xf = t % 16 from fun t => Nat.and_two_pow_sub_one_eq_mod t 4]
  generalize d.getD 1 0 + d.getD 2 0 * 256 + d.getD 3 0 * 65536 = raw
  by_cases hm : mag = b.mag
  · by_cases hd : dc = 0 ∨ dc = 4
    · have hd' : (dc != 0 && dc != 4) = false := by rcases hd with h | h <;> simp [h]
      have hd'' : (decide (dc = 0) || decide (dc = 4)) = true := by rcases hd with h | h <;> simp [h]
      rcases hy with rfl | rfl
      · cases b.receiving <;> by_cases hz : raw % 16 = 0 <;> simp [hm, hd', hd'', hz] <;> omega
      · cases b.receiving <;> simp [hm, hd', hd'']
    · have hd' : (dc != 0 && dc != 4) = true := by simp; omega
      have hd'' : (decide (dc = 0) || decide (dc = 4)) = false := by simp; omega
      rcases hy with rfl | rfl <;> cases b.receiving <;> simp [hm, hd', hd'']
  · rcases hy with rfl | rfl <;> simp [hm]

theorem parsePacket_other (b : Buf) (d : List Nat) (mag y : Nat) (t : Int)
    (hy : 26 ≤ y) (h28 : y ≠ 28) (h29 : y ≠ 29) : parsePacket b d mag y t = b := by
  have : y ≠ 0 ∧ ¬ y ≤ 25 := by omega
  cases h : hammingDecode (nth d 0) <;> simp [parsePacket, this, h28, h29, h]

theorem parsePacket_row (b : Buf) (d : List Nat) (mag y : Nat) (t : Int) (h1 : 1 ≤ y) (h25 : y ≤ 25) :
    parsePacket b d mag y t = if b.receiving && mag = b.mag then parseData b d y else b := by
  have : y ≠ 0 ∧ y ≠ 26 ∧ y ≠ 28 ∧ y ≠ 29 := by omega
  cases h : hammingDecode (nth d 0) <;> cases hr : b.receiving <;> by_cases hm : mag = b.mag <;>
    simp [parsePacket, this, h1, h25, h, hr, hm]

open Spec.Teletext (Packet hammingExact parityDecode) in
/-- the packet the specification reads in the 40 bytes `d` after the address (magazine `mag`, packet number `y`), by kind -/
inductive PacketAt (d : List Nat) (mag y : Nat) : Packet → Prop
  | header (u tn c5 c7 : Nat) (hy : y = 0) (units : hammingExact (d.getD 0 0) = some u) (tens : hammingExact (d.getD 1 0) = some tn)
      (ctl5 : hammingExact (d.getD 5 0) = some c5) (ctl7 : hammingExact (d.getD 7 0) = some c7) :
      PacketAt d mag y (.header mag tn u (c5 / 8 % 2 = 1) (c7 % 2 = 1) (c7 / 2))
  | row (h1 : 1 ≤ y) (h25 : y ≤ 25) : PacketAt d mag y (.row mag y (d.map parityDecode))
  | desig (dc : Nat) (hy : y = 28 ∨ y = 29) (code : hammingExact (d.getD 0 0) = some dc) :
      PacketAt d mag y (.desig mag y dc (d.getD 1 0 + d.getD 2 0 * 256 + d.getD 3 0 * 65536))
  | other (h26 : 26 ≤ y) (h28 : y ≠ 28) (h29 : y ≠ 29) : PacketAt d mag y .other

open Spec.Teletext (Packet hammingExact) in
/-- what the specification reads in a 44-byte data field `f`: without the framing code a packet of no interest; with it the two
    address bytes decode and the 40 bytes after them are read by kind -/
inductive Decoded (f : List Nat) : Packet → Prop
  | unframed (hfc : f.getD 1 0 ≠ 0xe4) : Decoded f .other
  | framed {p : Packet} (a b : Nat) (hfc : f.getD 1 0 = 0xe4) (ha : hammingExact (f.getD 2 0) = some a)
      (hb : hammingExact (f.getD 3 0) = some b) (body : PacketAt (f.drop 4) (specAddress a b).1 (specAddress a b).2 p) : Decoded f p

open Spec.Teletext (Packet hammingExact) in
theorem decodePacket_some {f : List Nat} {p : Packet} (h : Spec.Teletext.decodePacket f = some p) :
    f.length = 44 ∧ Decoded f p := by
  unfold Spec.Teletext.decodePacket at h
  by_cases hlen : f.length = 44
  · refine ⟨hlen, ?_⟩
    simp only [hlen, bne_self_eq_false, Bool.false_eq_true, if_false] at h
    by_cases hfc : f.getD 1 0 = 0xe4
    · simp only [hfc, bne_self_eq_false, Bool.false_eq_true, if_false] at h
      cases ha : hammingExact (f.getD 2 0) with
      | none => rw [ha] at h; cases h
      | some a =>
        cases hb : hammingExact (f.getD 3 0) with
        | none => rw [ha, hb] at h; cases h
        | some b =>
          refine .framed a b hfc ha hb ?_
          simp only [ha, hb] at h
          unfold specAddress
          split at h
          · rename_i hy
            split at h
            · rename_i u tn c5 c7 e0 e1 e5 e7
              cases h; exact .header u tn c5 c7 hy e0 e1 e5 e7
            · cases h
          · rename_i hy
            split at h
            · cases h; exact .row (by omega) (by assumption)
            · split at h
              · rename_i hyy
                split at h
                · rename_i dc e0; cases h; exact .desig dc (by simpa using hyy) e0
                · cases h
              · rename_i h25 hyy
                simp only [Bool.or_eq_true, decide_eq_true_eq, not_or] at hyy
                cases h; exact .other (by omega) hyy.1 hyy.2
    · have hfc' : (f.getD 1 0 != 0xe4) = true := bne_iff_ne.mpr hfc
      simp only [hfc', if_true, Option.some.injEq] at h
      exact h ▸ .unframed hfc
  · have : (f.length != 44) = true := by simp [hlen]
    simp [this] at h

theorem parseDataUnit_decodePacket (b : Buf) (f : List Nat) (t : Int) (p : Spec.Teletext.Packet)
    (hb : Bytes f) (h : Spec.Teletext.decodePacket f = some p) :
    parseDataUnit b f 3 t = applyPacket t b p := by
  obtain ⟨hlen, hd⟩ := decodePacket_some h
  cases hd with
  | unframed hfc => exact C06.C06_unit_framing b f 3 t hfc
  | framed a b2 hfc ha hbb hbody =>
    rw [parseDataUnit_address b f t a b2 (by omega) hfc (hamming_of_exact f hb 2 a ha) (hamming_of_exact f hb 3 b2 hbb),
      address_eq a b2 (hammingExact_lt _ _ ha) (hammingExact_lt _ _ hbb)]
    have hd : Bytes (f.drop 4) := hb.drop 4
    cases hbody with
    | header u tn c5 c7 hy e0 e1 e5 e7 =>
      rw [hy]
      simp only [parsePacket, if_true, applyPacket]
      exact parseHeader_eq b _ _ t u tn c5 c7 (hamming_of_exact _ hd 0 u e0) (hamming_of_exact _ hd 1 tn e1)
        (hamming_of_exact _ hd 5 c5 e5) (hamming_of_exact _ hd 7 c7 e7)
    | row h1 h25 => rw [parsePacket_row b _ _ _ t h1 h25, parseData_eq b _ _ (by simp [hlen])]; rfl
    | desig dc hy e0 => exact parsePacket_desig b _ _ _ dc t hy (hamming_of_exact _ hd 0 dc e0)
    | other h26 h28 h29 => exact parsePacket_other b _ _ _ t h26 h28 h29

end Teletext
end Astisub
