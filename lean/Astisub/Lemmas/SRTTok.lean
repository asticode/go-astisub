import Astisub.Lemmas.ListFacts
import Astisub.Lemmas.HTMLTok

/-!
# Lemmas/SRTTok — the tokenizer model on the tags the SubRip writer emits

Each of the writer's eight tags is one token in every context (`WriterTok.tagTok`, over `Go.TagTok` of
`Lemmas/HTMLTok`); writer-shaped markup is therefore an instance of `tokenize_lexes` (`tokenize_writerToks`).
-/

namespace Astisub
namespace Go
open List

/-- the pending text is emitted in front of the next tag (the `flush` of `tokLoop`) -/
def flushText (acc : Str) (out : List Tok) : List Tok := if acc.isEmpty then out else .text acc.reverse :: out

theorem flushText_eq_flush : flushText = Tok.flush := rfl

/-- a character the tokenizer just accumulates -/
def plainChar (c : Char) : Bool := c != '<' && c != '\x00'

def nameCh (c : Char) : Prop := ('a' ≤ c ∧ c ≤ 'z') ∨ ('A' ≤ c ∧ c ≤ 'Z')

instance (c : Char) : Decidable (nameCh c) := by unfold nameCh; exact inferInstance

theorem nameCh_ne {x : Char} (h : nameCh x) (c : Char) (hc : ¬ nameCh c) : x ≠ c := by
  intro e; subst e; exact hc h

theorem nameCh_isLetter {x : Char} (h : nameCh x) : isLetter x = true := by
  unfold nameCh at h
  simp only [isLetter, Bool.or_eq_true, Bool.and_eq_true, decide_eq_true_eq]
  exact h

theorem nameCh_isTagWS {x : Char} (h : nameCh x) : isTagWS x = false := by
  have h1 := nameCh_ne h ' ' (by decide)
  have h2 := nameCh_ne h '\n' (by decide)
  have h3 := nameCh_ne h '\r' (by decide)
  have h4 := nameCh_ne h '\t' (by decide)
  have h5 := nameCh_ne h '\x0c' (by decide)
  simp [isTagWS, h1, h2, h3, h4, h5]

theorem nameCh_tagNameCh {x : Char} (h : nameCh x) : tagNameCh x = true := by
  unfold tagNameCh
  have h1 := nameCh_isTagWS h
  have h2 := nameCh_ne h '/' (by decide)
  have h3 := nameCh_ne h '>' (by decide)
  simp [h1, h2, h3]

theorem nameCh_keyStop {x : Char} (h : nameCh x) : (!(isTagWS x || x == '/' || x == '=' || x == '>')) = true := by
  have h1 := nameCh_isTagWS h
  have h2 := nameCh_ne h '/' (by decide)
  have h3 := nameCh_ne h '>' (by decide)
  have h4 := nameCh_ne h '=' (by decide)
  simp [h1, h2, h3, h4]

theorem readAttrs_kv (n : Nat) (k : Char) (ks v after : Str) (hk : nameCh k) (hks : ∀ x ∈ ks, nameCh x)
    (hv : ∀ ch ∈ v, ch ≠ '"') :
    readAttrs (n + 2) (k :: (ks ++ '=' :: '"' :: (v ++ '"' :: '>' :: after))) []
      = some ([(k :: ks, v)], after) := by
  have hkey : (k :: (ks ++ '=' :: '"' :: (v ++ '"' :: '>' :: after))).takeWhile
      (fun c => !(isTagWS c || c == '/' || c == '=' || c == '>')) = k :: ks := by
    have := List.takeWhile_append_stop (p := fun c => !(isTagWS c || c == '/' || c == '=' || c == '>'))
      (a := k :: ks) (c := '=') ('"' :: (v ++ '"' :: '>' :: after))
      (by
        intro x hx
        rcases List.mem_cons.mp hx with e | e
        · subst e; exact nameCh_keyStop hk
        · exact nameCh_keyStop (hks x e))
      (by simp)
    simpa using this
  have hval : (v ++ '"' :: '>' :: after).takeWhile (· != '"') = v :=
    List.takeWhile_append_stop _ (by intro ch h; simpa using hv ch h) (by simp)
  have hgt := nameCh_ne hk '>' (by decide)
  rw [readAttrs]
  · simp only [hkey]
    simp [isTagWS, hval, readAttrs]
  · simp
  · intro r; simp [hgt]

/-- `name key="v">`: a name of letters, one space, one double-quoted attribute -/
theorem readTag_kv (nm : Str) (k : Char) (ks v after : Str) (hnm : ∀ x ∈ nm, nameCh x) (hk : nameCh k)
    (hks : ∀ x ∈ ks, nameCh x) (hv : ∀ ch ∈ v, ch ≠ '"') :
    readTag (nm ++ ' ' :: k :: (ks ++ '=' :: '"' :: (v ++ '"' :: '>' :: after)))
      = some (nm, [(k :: ks, v)], after) := by
  have hws : ∀ z, (' ' :: k :: z).dropWhile isTagWS = k :: z := by
    intro z
    have h1 : isTagWS ' ' = true := by decide
    simp [h1, nameCh_isTagWS hk]
  rw [readTag_eq nm _ (fun x hx => nameCh_tagNameCh (hnm x hx)) (by intro c t e; cases e; decide), hws,
    show (k :: (ks ++ '=' :: '"' :: (v ++ '"' :: '>' :: after))).length + 1 = (ks ++ '=' :: '"' :: (v ++ '"' :: '>' :: after)).length + 2
      from rfl, readAttrs_kv _ k ks v after hk hks hv]
  rfl

def tokB : Tok := .startTag "<b>".toList "b".toList []
def tokI : Tok := .startTag "<i>".toList "i".toList []
def tokU : Tok := .startTag "<u>".toList "u".toList []
def tokEB : Tok := .endTag "</b>".toList "b".toList
def tokEI : Tok := .endTag "</i>".toList "i".toList
def tokEU : Tok := .endTag "</u>".toList "u".toList
def tokEFont : Tok := .endTag "</font>".toList "font".toList
def tokFont (c : Str) : Tok :=
  .startTag ("<font color=\"".toList ++ c ++ "\">".toList) "font".toList [("color".toList, c)]

/-- a colour value that the tokenizer model hands back as it is: no `"` (ends the value), no `&`
    (entity decoding is outside the model), no NUL -/
def colorOK (c : Str) : Bool := c.all fun ch => ch != '"' && ch != '&' && ch != '\x00'

theorem readTag_font (c rest : Str) (hc : ∀ ch ∈ c, ch ≠ '"') :
    readTag ("font color=\"".toList ++ c ++ '"' :: '>' :: rest) = some ("font".toList, [("color".toList, c)], rest) := by
  simpa using readTag_kv ['f', 'o', 'n', 't'] 'c' ['o', 'l', 'o', 'r'] c rest (by decide) (by decide) (by decide) hc

theorem font_tagTok (c : Str) (hc : colorOK c = true) :
    TagTok ("<font color=\"".toList ++ c ++ "\">".toList) (tokFont c) := by
  have hall := List.all_eq_true.mp hc
  have hq : ∀ ch ∈ c, ch ≠ '"' := by
    intro ch h; have := hall ch h; simp at this; exact this.1.1
  have ha : '&' ∉ c := by
    intro hh; have := hall '&' hh; simp at this
  have := TagTok.start (d := 'f') (tl := "ont color=\"".toList ++ c ++ "\">".toList) (name := "font".toList)
    (attrs := [("color".toList, c)]) (by decide) (fun rest => by simpa using readTag_font c rest hq) (by decide)
    (by simp [ha])
    (by
      rw [show ('<' :: 'f' :: ("ont color=\"".toList ++ c ++ "\">".toList)) = ("<font color=\"".toList ++ c ++ ['"']) ++ ['>'] by simp,
        List.dropLast_concat, List.getLast?_concat]
      decide)
  simpa [tokFont, lowerKV, toLowerAscii] using this

theorem tokenize_text (t : Str) (hne : t ≠ []) (ht : ∀ c ∈ t, plainChar c = true) :
    tokenize t = .ok [Tok.text t] := by
  have h := tokFrom_text (t := t) (fun c hc => by simpa [plainChar] using ht c hc) [] []
  rw [tokenize_eq_tokFrom, ← List.append_nil t, h, tokFrom_nil]
  cases t with
  | nil => exact absurd rfl hne
  | cons c t => simp [Tok.flush]

theorem tokB_raw : tokB.raw = "<b>".toList := rfl
theorem tokI_raw : tokI.raw = "<i>".toList := rfl
theorem tokU_raw : tokU.raw = "<u>".toList := rfl
theorem tokEB_raw : tokEB.raw = "</b>".toList := rfl
theorem tokEI_raw : tokEI.raw = "</i>".toList := rfl
theorem tokEU_raw : tokEU.raw = "</u>".toList := rfl
theorem tokEFont_raw : tokEFont.raw = "</font>".toList := rfl
theorem tokFont_raw (c : Str) : (tokFont c).raw = "<font color=\"".toList ++ c ++ "\">".toList := rfl

/-- the tokens the SubRip writer's output is made of: a non-empty text without `<` and NUL, or one
    of the writer's eight tags -/
inductive WriterTok : Tok → Prop
  | text (t : Str) (hne : t ≠ []) (ht : ∀ c ∈ t, plainChar c = true) : WriterTok (.text t)
  | b : WriterTok tokB
  | i : WriterTok tokI
  | u : WriterTok tokU
  | eb : WriterTok tokEB
  | ei : WriterTok tokEI
  | eu : WriterTok tokEU
  | efont : WriterTok tokEFont
  | font (c : Str) (hc : colorOK c = true) : WriterTok (tokFont c)

theorem WriterTok.tagTok {t : Tok} (hw : WriterTok t) (hnt : t.isText = false) : TagTok t.raw t := by
  cases hw with
  | text t _ _ => simp [Tok.isText] at hnt
  | b => exact TagTok.startName (d := 'b') (nm := []) (by decide) (by decide) (by decide)
  | i => exact TagTok.startName (d := 'i') (nm := []) (by decide) (by decide) (by decide)
  | u => exact TagTok.startName (d := 'u') (nm := []) (by decide) (by decide) (by decide)
  | eb => exact TagTok.endName (e := 'b') (nm := []) (by decide) (by decide)
  | ei => exact TagTok.endName (e := 'i') (nm := []) (by decide) (by decide)
  | eu => exact TagTok.endName (e := 'u') (nm := []) (by decide) (by decide)
  | efont => exact TagTok.endName (e := 'f') (nm := "ont".toList) (by decide) (by decide)
  | font c hc => exact font_tagTok c hc

theorem WriterTok.lexes {t : Tok} (hw : WriterTok t) : t.Lexes := by
  cases hw with
  | text t hne ht => exact ⟨hne, fun c hc => by simpa [plainChar] using ht c hc⟩
  | b => exact WriterTok.b.tagTok rfl
  | i => exact WriterTok.i.tagTok rfl
  | u => exact WriterTok.u.tagTok rfl
  | eb => exact WriterTok.eb.tagTok rfl
  | ei => exact WriterTok.ei.tagTok rfl
  | eu => exact WriterTok.eu.tagTok rfl
  | efont => exact WriterTok.efont.tagTok rfl
  | font c hc => exact font_tagTok c hc

theorem tokenize_writerToks (ts : List Tok) (hw : ∀ t ∈ ts, WriterTok t) (hadj : noAdjText ts = true) :
    tokenize (ts.flatMap Tok.raw) = .ok ts :=
  tokenize_lexes ts (fun t ht => (hw t ht).lexes) hadj

theorem tokenize_b (rest : Str) : tokenize ("<b>".toList ++ rest) = (tokenize rest).prepend [tokB] :=
  (WriterTok.b.tagTok rfl).tokenize rest
theorem tokenize_i (rest : Str) : tokenize ("<i>".toList ++ rest) = (tokenize rest).prepend [tokI] :=
  (WriterTok.i.tagTok rfl).tokenize rest
theorem tokenize_u (rest : Str) : tokenize ("<u>".toList ++ rest) = (tokenize rest).prepend [tokU] :=
  (WriterTok.u.tagTok rfl).tokenize rest
theorem tokenize_eb (rest : Str) : tokenize ("</b>".toList ++ rest) = (tokenize rest).prepend [tokEB] :=
  (WriterTok.eb.tagTok rfl).tokenize rest
theorem tokenize_ei (rest : Str) : tokenize ("</i>".toList ++ rest) = (tokenize rest).prepend [tokEI] :=
  (WriterTok.ei.tagTok rfl).tokenize rest
theorem tokenize_eu (rest : Str) : tokenize ("</u>".toList ++ rest) = (tokenize rest).prepend [tokEU] :=
  (WriterTok.eu.tagTok rfl).tokenize rest
theorem tokenize_efont (rest : Str) : tokenize ("</font>".toList ++ rest) = (tokenize rest).prepend [tokEFont] :=
  (WriterTok.efont.tagTok rfl).tokenize rest
theorem tokenize_font (c rest : Str) (hc : colorOK c = true) :
    tokenize ("<font color=\"".toList ++ c ++ "\">".toList ++ rest) = (tokenize rest).prepend [tokFont c] :=
  (font_tagTok c hc).tokenize rest

end Go
end Astisub
