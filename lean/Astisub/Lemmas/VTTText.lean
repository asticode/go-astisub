import Astisub.Lemmas.VTTTiming
import Astisub.Lemmas.VTTInlineTs

/-!
# Lemmas/VTTText — the text tokens of a written WebVTT line

A text token of a written line is `pre ++ <ts₁>x₁ ++ <ts₂>x₂ …` (escaped texts, hence `<`-free,
separated by inline timestamps): the text token `rawTok` of `Lemmas/VTTInlineTs` at the rendered instants
(`segsBytes_eq_rawTok`), so `textToken` turns it into the runs with the timestamps truncated to the millisecond
(`textToken_segsBytes`, from `textToken_rawTok`).
-/

namespace Astisub
namespace VTT
open Go List VTTRead
open SRT (escapeHTML unescapeHTML)

/-- the inline timestamp as `runBytes` writes it -/
def tsText (t : Int) : Str := '<' :: Duration.formatVTT t ++ ['>']

theorem format_chars (t : Int) (h0 : 0 ≤ t) (h1 : t < 360000000000000) :
    ∀ c ∈ Duration.formatVTT t, c ≠ '<' ∧ c ≠ '\x00' := fun c hc => by
  have := (format_facts t h0 h1).1 c hc
  constructor <;> (rintro rfl; exact absurd this (by decide))

/-- one segment: an inline timestamp and the `<`-free text after it -/
def segBytes (p : Int × Str) : Str := tsText p.1 ++ p.2

/-- a written text token: `<`-free text, then segments -/
def segsBytes (pre : Str) (segs : List (Int × Str)) : Str := pre ++ (segs.map segBytes).flatten

/-- the instants are in the writer's range and the texts contain no `<` -/
def SegsOk (segs : List (Int × Str)) : Prop :=
  ∀ p ∈ segs, 0 ≤ p.1 ∧ p.1 < 360000000000000 ∧ '<' ∉ p.2

def truncMs (t : Int) : Int := t - t % 1000000

def rendered (p : Int × Str) : Str × Str := (Duration.formatVTT p.1, p.2)

/-- the runs and the pending instant a written text token yields: `tokVal` at the rendered instants -/
def ttVal (attrs : Attrs) (pre : Str) (segs : List (Int × Str)) (pending : Int) : List LItem × Int :=
  tokVal attrs pre (segs.map rendered) pending

theorem ttVal_snoc (attrs : Attrs) (pre : Str) (segs : List (Int × Str)) (pending : Int) (p : Int × Str) :
    ttVal attrs pre (segs ++ [p]) pending = segStep attrs (ttVal attrs pre segs pending) (rendered p) := by
  simp [ttVal, tokVal_snoc]

theorem segsBytes_eq_rawTok (pre : Str) (segs : List (Int × Str)) : segsBytes pre segs = rawTok pre (segs.map rendered) := by
  simp only [segsBytes, rawTok, map_map]
  congr 3
  funext p
  simp [segBytes, segRaw, rendered, tsText]

theorem segOK_rendered {segs : List (Int × Str)} (hs : SegsOk segs) : ∀ p ∈ segs.map rendered, SegOK p := by
  intro p hp
  obtain ⟨q, hq, rfl⟩ := mem_map.mp hp
  obtain ⟨h0, h1, hlt⟩ := hs q hq
  exact ⟨⟨_, VTT3W.inlineTs_format q.1 h0 h1⟩, fun c hc e => hlt (e ▸ hc)⟩

theorem textToken_segsBytes (attrs : Attrs) (pre : Str) (segs : List (Int × Str)) (pending : Int)
    (hpre : '<' ∉ pre) (hs : SegsOk segs) (hgood : pre = [] ∨ trimSpace pre ≠ [])
    (hne : pre ≠ [] ∨ segs ≠ []) :
    textToken attrs (segsBytes pre segs) pending = some (ttVal attrs pre segs pending) := by
  rw [segsBytes_eq_rawTok, textToken_rawTok attrs pre _ pending (fun c hc e => hpre (e ▸ hc)) (segOK_rendered hs)]
  have hact : ¬ (segs.map rendered = [] ∧ trimSpace pre = []) := by
    rintro ⟨h1, h2⟩
    rcases hgood with rfl | h
    · exact hne.elim (fun h => h rfl) (fun h => h (map_eq_nil_iff.mp h1))
    · exact h h2
  rw [tokAct, if_neg hact]
  rfl

end VTT
end Astisub
