import Astisub.Model.VTT
import Astisub.Lemmas.StrList
import Astisub.Lemmas.EvalLit

/-!
# Lemmas/VTTRead2Step — one iteration of the reader's loop, by the kind of line

Every lemma is for an arbitrary reader state and an arbitrary line satisfying the stated tests
(the tests the Go `switch` makes, in its order).  At the end, one iteration of the loops over the cue settings and over
the parts of a `Region: ` line, as functions of key and value (`setS`, `setR`).
-/

namespace Astisub
namespace VTTRead
open Go
open VTT (St step run Block)

theorem trimSpace_idem (s : Str) : trimSpace (trimSpace s) = trimSpace s :=
  Go.trimSpace_idem s

theorem step_trim (st : St) (raw : Str) : step st (some raw) = step st (some (trimSpace raw)) := by
  simp only [step, trimSpace_idem]

theorem run_trim (st : St) (ls : List Str) : run st (ls.map some) = run st ((ls.map trimSpace).map some) := by
  induction ls generalizing st with
  | nil => rfl
  | cons l ls ih =>
    simp only [List.map_cons, run]
    rw [step_trim]
    cases step st (some (trimSpace l)) with
    | ok st' => exact ih st'
    | err => rfl
    | unmodelled => rfl

theorem run_append (st : St) (a b : List (Option Str)) :
    run st (a ++ b) = match run st a with
      | .ok st' => run st' b
      | .err => .err
      | .unmodelled => .unmodelled := by
  induction a generalizing st with
  | nil => rfl
  | cons x a ih =>
    simp only [List.cons_append, run]
    cases step st x with
    | ok st' => exact ih st'
    | err => rfl
    | unmodelled => rfl

theorem lit_note : "NOTE".toList = ['N', 'O', 'T', 'E'] := by rw [String.toList_ofList]
theorem lit_note_sp : "NOTE ".toList = ['N', 'O', 'T', 'E', ' '] := by rw [String.toList_ofList]
theorem lit_region : "Region: ".toList = ['R', 'e', 'g', 'i', 'o', 'n', ':', ' '] := by rw [String.toList_ofList]
theorem lit_style : "STYLE".toList = ['S', 'T', 'Y', 'L', 'E'] := by rw [String.toList_ofList]
theorem lit_tsmap : "X-TIMESTAMP-MAP".toList = ['X', '-', 'T', 'I', 'M', 'E', 'S', 'T', 'A', 'M', 'P', '-', 'M', 'A', 'P'] := by rw [String.toList_ofList]

/-- the test the loop makes for a comment line -/
def noteTest (l : Str) : Bool := l = "NOTE".toList || hasPrefix "NOTE ".toList l

theorem step_blank (st : St) (raw : Str) (h : trimSpace raw = []) :
    step st (some raw) =
      .ok { st with block := if (st.block = .style && !st.styles.isEmpty && !(hasSuffix ['}'] (st.styles.getLast?.getD []))) then st.block else .none,
                    tags := [] } := by
  have e1 : (([] : Str) = "NOTE".toList) = False := by decide_vector
  have e2 : hasPrefix "NOTE ".toList [] = false := by decide_vector
  simp only [step, h, e1, e2, decide_false, Bool.or_false, Bool.and_false, Bool.false_eq_true, if_false, if_true]

theorem step_text (st : St) (l : Str) (ht : trimSpace l = l) (hne : l ≠ []) (hb : st.block = .text)
    (ha : contains VTT.arrow l = false) :
    step st (some l) =
      match VTT.parseText l st.tags with
      | .ok (tags, ln) =>
        .ok { st with tags := tags, cur := if ln.items.isEmpty then st.cur else { st.cur with lines := st.cur.lines ++ [ln] } }
      | .err => .err
      | .unmodelled => .unmodelled := by
  simp only [step, ht, hb, hne, ha, ne_eq, not_true_eq_false, decide_false, Bool.false_and, Bool.false_eq_true, if_false]
  rfl

theorem step_id (st : St) (l : Str) (ht : trimSpace l = l) (hne : l ≠ []) (hb : st.block = .none)
    (hn : noteTest l = false) (hr : hasPrefix "Region: ".toList l = false) (hs : hasPrefix "STYLE".toList l = false)
    (hx : hasPrefix "X-TIMESTAMP-MAP".toList l = false) (ha : contains VTT.arrow l = false) :
    step st (some l) = .ok { st with index := atoiLoose l } := by
  unfold noteTest at hn
  simp only [step, ht, hb, hn, hne, hr, hs, hx, ha, Bool.and_false, Bool.false_eq_true, if_false]

theorem step_note (st : St) (l : Str) (ht : trimSpace l = l) (hb : st.block ≠ .text) (hn : noteTest l = true) :
    step st (some l) =
      .ok { st with block := .comment,
                    comments := if l = "NOTE".toList then st.comments else st.comments ++ [trimPrefix "NOTE ".toList l] } := by
  unfold noteTest at hn
  simp only [step, ht, hb, hn, ne_eq, not_false_eq_true, decide_true, Bool.and_true, if_true]

theorem step_comment (st : St) (l : Str) (ht : trimSpace l = l) (hne : l ≠ []) (hb : st.block = .comment)
    (hn : noteTest l = false) (ha : contains VTT.arrow l = false) :
    step st (some l) = .ok { st with comments := st.comments ++ [l] } := by
  unfold noteTest at hn
  simp only [step, ht, hb, hn, hne, ha, ne_eq, not_true_eq_false, decide_false, Bool.and_false, Bool.false_and,
    Bool.false_eq_true, if_false]

theorem step_style (st : St) (l : Str) (ht : trimSpace l = l) (hne : l ≠ []) (hb : st.block = .none)
    (hn : noteTest l = false) (hr : hasPrefix "Region: ".toList l = false) (hs : hasPrefix "STYLE".toList l = true) :
    step st (some l) =
      if st.styleSeen then .ok { st with block := .style }
      else .ok { st with block := .style, styleSeen := true, tags := [], styles := [] } := by
  unfold noteTest at hn
  simp only [step, ht, hb, hn, hne, hr, hs, ne_eq, reduceCtorEq, not_false_eq_true, decide_true, Bool.and_false,
    Bool.and_true, Bool.false_eq_true, if_false, if_true]

theorem step_css (st : St) (l : Str) (ht : trimSpace l = l) (hne : l ≠ []) (hb : st.block = .style)
    (hn : noteTest l = false) (hr : hasPrefix "Region: ".toList l = false) (hs : hasPrefix "STYLE".toList l = false)
    (hx : hasPrefix "X-TIMESTAMP-MAP".toList l = false) (ha : contains VTT.arrow l = false) :
    step st (some l) = .ok { st with styles := st.styles ++ [l] } := by
  unfold noteTest at hn
  simp only [step, ht, hb, hn, hne, hr, hs, hx, ha, Bool.and_false, Bool.false_eq_true, if_false]

theorem step_region (st : St) (l : Str) (ht : trimSpace l = l) (hne : l ≠ []) (hb : st.block = .none)
    (hn : noteTest l = false) (hr : hasPrefix "Region: ".toList l = true) :
    step st (some l) =
      match VTT.regionParts (splitC ' ' (trimPrefix "Region: ".toList l)) {} with
      | some r => .ok { st with regions := VTT.setDef st.regions (VTT.regionDef r) }
      | none => .err := by
  unfold noteTest at hn
  simp only [step, ht, hb, hn, hne, hr, ne_eq, reduceCtorEq, not_false_eq_true, decide_true, Bool.and_false,
    Bool.and_true, Bool.false_eq_true, if_false, if_true]
  rfl

theorem step_tsmap (st : St) (l : Str) (ht : trimSpace l = l) (hne : l ≠ []) (hb : st.block = .none)
    (hn : noteTest l = false) (hr : hasPrefix "Region: ".toList l = false) (hs : hasPrefix "STYLE".toList l = false)
    (ha : contains VTT.arrow l = false) (hx : hasPrefix "X-TIMESTAMP-MAP".toList l = true)
    (hl : st.cur.lines = []) :
    step st (some l) =
      match VTT.parseTsMap l with
      | .ok m => .ok { st with tsmap := some m }
      | .err => .err
      | .unmodelled => .unmodelled := by
  unfold noteTest at hn
  simp only [step, ht, hb, hn, hne, hr, hs, ha, hx, hl, ne_eq, reduceCtorEq, not_false_eq_true, decide_true,
    Bool.and_false, Bool.and_true, List.isEmpty_nil, Bool.not_true, Bool.false_eq_true, if_false, if_true]
  rfl

theorem step_timing (st : St) (l left right endTok : Str) (rest : List Str) (tl : List Str)
    (ht : trimSpace l = l) (hne : l ≠ []) (hn : noteTest l = false)
    (hr : hasPrefix "Region: ".toList l = false) (hs : hasPrefix "STYLE".toList l = false)
    (ha : contains VTT.arrow l = true)
    (hsp : splitOn VTT.arrow l = left :: right :: tl) (hf : fields right = endTok :: rest) :
    step st (some l) =
      if !VTT.smallNumbers left || !VTT.smallNumbers endTok then .unmodelled else
      match Duration.parseVTT left, Duration.parseVTT endTok with
      | some s, some e =>
        match VTT.settings st.regions rest {} with
        | none => .err
        | some a =>
          .ok { st with done := VTT.flush st,
                        cur := { index := st.index, startAt := s, endAt := e, region := a.region,
                                 comments := st.comments, lines := [],
                                 attrs := some (mkAttrs [("WebVTTAlign", optStr a.align), ("WebVTTLine", optStr a.line),
                                   ("WebVTTPosition", optStr a.position), ("WebVTTSize", optStr a.size),
                                   ("WebVTTVertical", optStr a.vertical)]) },
                        curListed := true, block := .text, index := 0, comments := [] }
      | _, _ => .err := by
  unfold noteTest at hn
  simp only [step, ht, hn, hne, hr, hs, ha, hsp, hf, Bool.and_false, Bool.false_eq_true, if_false, if_true]
  rfl

end VTTRead

namespace VTT
open Go

/-- what the part `k:v` does to the cue settings read so far; `none` = error (the region is not defined) -/
def setS (regions : List Def) (k v : Str) (a : SetAcc) : Option SetAcc :=
  if k = "align".toList then some { a with align := v }
  else if k = "line".toList then some { a with line := v }
  else if k = "position".toList then some { a with position := v }
  else if k = "region".toList then (if regions.any (·.id = v) then some { a with region := some v } else none)
  else if k = "size".toList then some { a with size := v }
  else if k = "vertical".toList then some { a with vertical := v }
  else some a

theorem settings_split (regions : List Def) (p k v : Str) (tl ps : List Str) (a : SetAcc)
    (h : splitC ':' p = k :: v :: tl) :
    settings regions (p :: ps) a = (setS regions k v a).bind (settings regions ps) := by
  rw [settings, h]
  unfold setS
  simp only [apply_ite (fun o : Option SetAcc => o.bind (settings regions ps)), Option.bind_some, Option.bind_none]

/-- what the part `k=v` does to the region under construction; `none` = error (`lines` is not a number) -/
def setR (k v : Str) (r : RegAcc) : Option RegAcc :=
  if k = "id".toList then some { r with id := v }
  else if k = "lines".toList then (atoi v).map fun n => { r with lines := n }
  else if k = "regionanchor".toList then some { r with anchor := v }
  else if k = "scroll".toList then some { r with scroll := v }
  else if k = "viewportanchor".toList then some { r with viewport := v }
  else if k = "width".toList then some { r with width := v }
  else some r

theorem regionParts_split (p k v : Str) (tl ps : List Str) (r : RegAcc) (h : splitC '=' p = k :: v :: tl) :
    regionParts (p :: ps) r = (setR k v r).bind (regionParts ps) := by
  rw [regionParts, h]
  unfold setR
  simp only [apply_ite (fun o : Option RegAcc => o.bind (regionParts ps)), Option.bind_some]
  cases atoi v <;> rfl

end VTT
end Astisub
