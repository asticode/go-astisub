import Astisub.Lemmas.STL2View

/-!
# Lemmas/STLRWRow — a row after one read, as runs of repertoire units again

`Lemmas/STL2Row.lean` describes what reading does to the runs of a row on the level of texts (`mergePlain`: adjacent
unstyled runs are joined, the texts separated by one blank).  Here the same is done on the level of repertoire
units: `backRow l` is the row the reader returns, as a list of `RRun`s — a joined run has the units of its parts
with the blank unit `spaceU` in between.
-/

namespace Astisub
namespace C05
open Go STL

/-- `body`: the units of the unstyled runs collected so far (empty = none) -/
def mrAux (body : List Unit) : List RRun → List RRun
  | [] => if body.isEmpty then [] else [{ units := body }]
  | x :: rest =>
    if x.flags = plain3 then mrAux (if body.isEmpty then x.units else body ++ spaceU :: x.units) rest
    else (if body.isEmpty then [] else [{ units := body }]) ++ x :: mrAux [] rest

/-- **the row after one read**: every stretch of adjacent unstyled runs is one run (units joined by the blank
    unit), styled runs are kept -/
def backRow (l : List RRun) : List RRun := mrAux [] l

theorem str_nil_iff (t : List Nat) : str t = [] ↔ t = [] := by
  unfold str; simp

theorem str_space : str spaceU.text = [' '] := rfl

theorem units_ne_nil (r : RRun) (h : str r.text ≠ []) : r.units ≠ [] := by
  intro e
  apply h
  unfold RRun.text
  rw [e]; rfl

theorem str_join (body us : List Unit) :
    str ((body ++ spaceU :: us).flatMap (·.text)) = str (body.flatMap (·.text)) ++ [' '] ++ str (us.flatMap (·.text)) := by
  rw [List.flatMap_append, List.flatMap_cons, str_append, str_append, str_space]
  simp

theorem plainRun_wv (body : List Unit) : wv { units := body } = (str (body.flatMap (·.text)), plain3) := rfl

theorem mrAux_wv (l : List RRun) (hne : ∀ r ∈ l, str r.text ≠ []) (body : List Unit)
    (hb : body = [] ∨ str (body.flatMap (·.text)) ≠ []) :
    (mrAux body l).map wv = mpAux (str (body.flatMap (·.text))) (l.map wv) := by
  have emp : ∀ body : List Unit, (body = [] ∨ str (body.flatMap (·.text)) ≠ []) → ∀ {β} (a b : β),
      (if body.isEmpty then a else b) = if str (body.flatMap (·.text)) = [] then a else b := by
    intro body hb β a b
    rcases hb with rfl | hb
    · rfl
    · rw [if_neg hb, if_neg]
      intro e; rw [List.isEmpty_iff.mp e] at hb; exact hb rfl
  induction l generalizing body with
  | nil =>
    rw [mrAux, emp body hb]
    split <;> simp [mpAux, *, plainRun_wv]
  | cons x rest ih =>
    have hx := hne x (by simp)
    have hrest : ∀ r ∈ rest, str r.text ≠ [] := fun r hr => hne r (by simp [hr])
    rw [List.map_cons, mrAux, mpAux, emp body hb, emp body hb]
    have hw : (wv x).2 = x.flags := rfl
    rw [hw]
    split
    · split
      · exact ih hrest x.units (Or.inr hx)
      · rw [ih hrest _ (Or.inr (by rw [str_join]; simp)), str_join]
        simp [wv, RRun.text]
    · rw [List.map_append, List.map_cons, ih hrest [] (Or.inl rfl)]
      split <;> simp [plainRun_wv] <;> rfl

theorem backRow_wv (l : List RRun) (hne : ∀ r ∈ l, str r.text ≠ []) : (backRow l).map wv = mergePlain (l.map wv) := by
  unfold backRow mergePlain
  exact mrAux_wv l hne [] (Or.inl rfl)

theorem backRow_ne_nil (l : List RRun) (hl : l ≠ []) (hne : ∀ r ∈ l, str r.text ≠ []) : backRow l ≠ [] := by
  intro e
  have h := backRow_wv l hne
  rw [e] at h
  exact mergePlain_wv_ne_nil l hl hne h.symm

/-- every run preceded by the blank the writer puts between runs -/
def sepB (l : List RRun) : Bytes := l.flatMap fun r => 0x20 :: r.bytes

theorem lineBytes_tail (l : List RRun) : lineBytes l = (sepB l).tail := by
  cases l with
  | nil => rfl
  | cons r rs =>
    unfold lineBytes sepB
    rw [List.map_cons, joinN_cons, List.flatMap_cons, List.flatMap_map]
    rfl

theorem plainRun_bytes (body : List Unit) : RRun.bytes { units := body } = body.flatMap (·.bytes) := by
  unfold RRun.bytes RRun.preCodes RRun.postCodes
  simp

theorem plain_bytes (r : RRun) (h : r.flags = plain3) : r.bytes = r.units.flatMap (·.bytes) := by
  obtain ⟨e1, e2⟩ := plain_codes r h
  unfold RRun.bytes
  rw [e1, e2]; simp

theorem spaceU_bytes : spaceU.bytes = [0x20] := rfl

theorem mrAux_sepB (l : List RRun) (hne : ∀ r ∈ l, r.units ≠ []) (body : List Unit) :
    sepB (mrAux body l) = (if body.isEmpty then [] else 0x20 :: body.flatMap (·.bytes)) ++ sepB l := by
  have pend : ∀ body : List Unit, sepB (if body.isEmpty then [] else [({ units := body } : RRun)])
      = if body.isEmpty then [] else 0x20 :: body.flatMap (·.bytes) := by
    intro body
    cases body with
    | nil => rfl
    | cons b bs => simp [sepB, plainRun_bytes]
  induction l generalizing body with
  | nil => rw [mrAux, pend]; simp [sepB]
  | cons x rest ih =>
    have hcons : ∀ r, sepB (x :: r) = 0x20 :: x.bytes ++ sepB r := fun r => by unfold sepB; rw [List.flatMap_cons]
    rw [mrAux, hcons rest]
    split
    · rename_i hp
      rw [ih (fun r hr => hne r (by simp [hr])), plain_bytes x hp]
      cases body with
      | nil => simp [List.isEmpty_eq_false_iff.mpr (hne x (by simp))]
      | cons b bs => simp [spaceU_bytes]
    · have e : ∀ a b : List RRun, sepB (a ++ b) = sepB a ++ sepB b := fun a b => List.flatMap_append
      rw [e, pend, hcons, ih (fun r hr => hne r (by simp [hr])) []]
      simp

theorem backRow_bytes (l : List RRun) (hne : ∀ r ∈ l, str r.text ≠ []) : lineBytes (backRow l) = lineBytes l := by
  rw [lineBytes_tail, lineBytes_tail]
  unfold backRow
  rw [mrAux_sepB l (fun r hr => units_ne_nil r (hne r hr)) []]
  rfl

theorem okT_of_tr (us : List Unit) (hu : ∀ u ∈ us, RepUnit u) (ht : Tr (str (us.flatMap (·.text)))) :
    RRun.okT { units := us } :=
  ⟨hu, ht.ne_nil, trimSpace_eq_self ht.head ht.last⟩

theorem okT_join {a b : List Unit} (ha : RRun.okT { units := a }) (hb : RRun.okT { units := b }) :
    RRun.okT { units := a ++ spaceU :: b } := by
  refine okT_of_tr _ (fun u hu => ?_) ?_
  · rcases List.mem_append.mp hu with hu | hu
    · exact ha.1 u hu
    · rcases List.mem_cons.mp hu with rfl | hu
      · exact spaceU_rep
      · exact hb.1 u hu
  · rw [str_join]; exact Edges.append ha.tr [' '] hb.tr

theorem mrAux_okT (l : List RRun) (h : ∀ r ∈ l, r.okT) (body : List Unit)
    (hb : body ≠ [] → RRun.okT { units := body }) : ∀ r ∈ mrAux body l, r.okT := by
  have pend : ∀ body : List Unit, (body ≠ [] → RRun.okT { units := body }) →
      ∀ r ∈ (if body.isEmpty then [] else [({ units := body } : RRun)]), r.okT := by
    intro body hb r hr
    cases body with
    | nil => cases hr
    | cons b bs => rw [List.mem_singleton.mp hr]; exact hb (List.cons_ne_nil _ _)
  induction l generalizing body with
  | nil => exact pend body hb
  | cons x rest ih =>
    have hx : RRun.okT { units := x.units } := h x (by simp)
    have hrest : ∀ r ∈ rest, r.okT := fun r hr => h r (by simp [hr])
    intro r hr
    rw [mrAux] at hr
    split at hr
    · refine ih hrest _ (fun _ => ?_) r hr
      cases body with
      | nil => exact hx
      | cons b bs => exact okT_join (hb (List.cons_ne_nil _ _)) hx
    · rcases List.mem_append.mp hr with hr | hr
      · exact pend body hb r hr
      · rcases List.mem_cons.mp hr with rfl | hr
        · exact h _ (by simp)
        · exact ih hrest [] (fun e => absurd rfl e) r hr

theorem backRow_okT (l : List RRun) (h : ∀ r ∈ l, r.okT) : ∀ r ∈ backRow l, r.okT :=
  mrAux_okT l h [] (fun e => absurd rfl e)

end C05
end Astisub
