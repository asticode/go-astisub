import Astisub.Lemmas.TotBase
import Astisub.Model.SRT

/-!
# Lemmas/Tot2SRT — `WriteToSRT`, `Line.srtBytes`, `LineItem.srtBytes` (`srt.go`) with Go's run-time checks explicit

Sites of the writer that the model totalises:

* `LineItem.srtBytes`: `li.InlineStyle != nil` in front of `li.InlineStyle.SRTColor`, `.SRTBold`, `.SRTItalics`,
  `.SRTUnderline`, `.SRTPosition` (five tests), and `li.InlineStyle.SRTColor != nil` in front of `*li.InlineStyle.SRTColor`
  (the model reads all of them through `kvGet`, which answers `none` on a nil attribute set);
* `WriteToSRT`: "remove last new line" `c[:len(c)-1]` (the model: `dropLast`) — in range because the buffer starts with
  the byte order mark.
-/

namespace Astisub
namespace Tot
namespace SRTW
open Go Astisub.SRT

/-- a boolean / byte field of the inline style behind `li.InlineStyle != nil` (present in the
    canonical attribute list = set) -/
def flagC (a : Attrs) (k : String) : Chk Bool :=
  if a.isSome then do
    let kv ← deref a
    pure (kv.lookup k.toList).isSome
  else pure false

theorem flagC_eq (a : Attrs) (k : String) : flagC a k = .ok (kvGet a k).isSome := by cases a <;> rfl

/-- a string behind a pointer field of the inline style: `li.InlineStyle != nil && li.InlineStyle.X != nil`, then `*li.InlineStyle.X` -/
def strC (a : Attrs) (k : String) : Chk Str :=
  if a.isSome then do
    let kv ← deref a
    let p := kv.lookup k.toList
    if p.isSome then deref p else pure []
  else pure []

theorem strC_eq (a : Attrs) (k : String) : strC a k = .ok ((kvGet a k).getD []) := by
  cases a with
  | none => rfl
  | some kv =>
    unfold strC kvGet
    simp only [Option.isSome_some, if_true, deref, ok_bind]
    cases kv.lookup k.toList <;> rfl

/-- the pinned shape: the field is read without the nil test on the inline style -/
def strU (a : Attrs) (k : String) : Chk Str := do
  let kv ← deref a
  let p := kv.lookup k.toList
  if p.isSome then deref p else pure []

/-- … and so is the test on the colour pointer -/
def strU2 (a : Attrs) (k : String) : Chk Str := do
  let kv ← deref a
  deref (kv.lookup k.toList)

theorem strU2_unset (kv : KV) (k : String) (h : kv.lookup k.toList = none) : strU2 (some kv) k = .error .nilDeref := by
  unfold strU2
  simp only [deref, ok_bind, h]

/-- `LineItem.srtBytes` -/
def runBytesC (li : LItem) : Chk Str := do
  let color ← strC li.attrs "SRTColor"
  let b ← flagC li.attrs "SRTBold"
  let i ← flagC li.attrs "SRTItalics"
  let u ← flagC li.attrs "SRTUnderline"
  let pos ← strC li.attrs "SRTPosition"
  pure ((if color ≠ [] then "<font color=\"".toList ++ color ++ "\">".toList else [])
    ++ (if b then "<b>".toList else []) ++ (if i then "<i>".toList else []) ++ (if u then "<u>".toList else [])
    ++ (if pos ≠ [] then "{\\an".toList ++ pos ++ "}".toList else [])
    ++ escapeHTML li.text
    ++ (if u then "</u>".toList else []) ++ (if i then "</i>".toList else []) ++ (if b then "</b>".toList else [])
    ++ (if color ≠ [] then "</font>".toList else []))

theorem runBytesC_eq (li : LItem) : runBytesC li = .ok (runBytes li) := by
  unfold runBytesC runBytes
  simp only [strC_eq, flagC_eq, ok_bind]
  rfl

/-- `Line.srtBytes` -/
def lineBytesC (l : Line) : Chk Str := do
  let rs ← mapC runBytesC l.items
  pure (rs.flatten ++ ['\n'])

theorem lineBytesC_eq (l : Line) : lineBytesC l = .ok (lineBytes l) := by
  unfold lineBytesC lineBytes
  rw [mapC_eq runBytesC_eq]; rfl

def itemBytesC (p : CItem × Nat) : Chk Str := do
  let ls ← mapC lineBytesC p.1.lines
  pure (itoaNat (p.2 + 1) ++ ['\n'] ++ Duration.formatSRT p.1.startAt ++ " --> ".toList ++ Duration.formatSRT p.1.endAt ++ ['\n']
    ++ ls.flatten ++ ['\n'])

theorem itemBytesC_eq (p : CItem × Nat) : itemBytesC p = .ok (itemBytes p.2 p.1) := by
  unfold itemBytesC itemBytes
  rw [mapC_eq lineBytesC_eq]; rfl

theorem itemBytes_ne_nil (k : Nat) (it : CItem) : itemBytes k it ≠ [] := by
  unfold itemBytes
  simp

theorem body_ne_nil (items : List CItem) (h : items ≠ []) :
    ((items.zipIdx.map fun (it, k) => itemBytes k it).flatten) ≠ [] := by
  cases items with
  | nil => exact absurd rfl h
  | cons it rest =>
    simp only [List.zipIdx_cons, List.map_cons, List.flatten_cons]
    intro hc
    exact itemBytes_ne_nil _ _ (List.append_eq_nil_iff.mp hc).1

/-- **`WriteToSRT` with every nil test and the final slice checked** -/
def writeC (s : Subs) : Chk (Option Str) :=
  if s.items.isEmpty then pure none
  else do
    let items ← mapC itemBytesC s.items.zipIdx
    let c ← initC (bom ++ items.flatten)
    pure (some c)

theorem writeC_eq (s : Subs) : writeC s = .ok (SRT.write s) := by
  refine ite_ok (fun _ => rfl) fun he => ?_
  have hne : s.items ≠ [] := fun e => he (by rw [e]; rfl)
  rw [mapC_eq itemBytesC_eq, ok_bind, initC_ok (by simp [bom]),
    List.dropLast_append_of_ne_nil (body_ne_nil s.items hne)]
  rfl

example : writeC { items := [{ startAt := 0, endAt := 1000000000, lines := [{ items := [{ text := [] }] }, { items := [] }] }] } =
    .ok (SRT.write { items := [{ startAt := 0, endAt := 1000000000, lines := [{ items := [{ text := [] }] }, { items := [] }] }] }) :=
  writeC_eq _

end SRTW
end Tot
end Astisub
