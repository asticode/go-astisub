import Astisub.Lemmas.VTTRead2Main
import Astisub.Lemmas.EvalLit

/-!
# Lemmas/VTT3Defs — vocabulary of the WebVTT read clause with inline timestamps (C02read2)

`lineOK2` / `InClass2`: the class of `Props/C02read.lean` **without** the wholesale exclusion of inline
timestamps (`<` + digit).  One real difference lives among the lines with inline timestamps and is kept
out explicitly: a line that holds an inline timestamp *and* a piece of text that is white space with `&nbsp;`
(the library decides "is this text blank?" on the raw text, the decoder on the decoded text; witness in
`Props/C02read2.lean`).
-/

namespace Astisub
namespace VTTRead
open Go Spec.VTT

/-- as `scanOK`, without the exclusion of `<` + digit.  The flag says whether the scan is between a `<` and
    the next `>` (a tag or an inline timestamp). -/
def scanOK2 : Bool → Str → Bool
  | _, [] => true
  | false, c :: cs => if c = '<' then scanOK2 true cs else scanOK2 false cs
  | true, c :: cs =>
    if c = '>' then scanOK2 false cs
    else !(c = '=' || c = '\x0c' || c = '|' || c = '\n' || c = '\r') && scanOK2 true cs

/-- the scan for inline timestamps: a `<` directly followed by a digit, outside a tag (the flag as in `scanOK2`) -/
def tsScan : Bool → Str → Bool
  | _, [] => false
  | false, c :: cs =>
    if c = '<' then (match cs with | d :: _ => isDigit d | [] => false) || tsScan true cs else tsScan false cs
  | true, c :: cs => if c = '>' then tsScan false cs else tsScan true cs

def hasTs (l : Str) : Bool := tsScan false l

/-- the character reference `&nbsp;` does not occur -/
def noNbsp : Str → Bool
  | [] => true
  | c :: cs => !hasPrefix "&nbsp;".toList (c :: cs) && noNbsp cs

/-- a `<`-free piece of raw text is blank before decoding the character references iff it is blank after
    (false exactly for white space with at least one `&nbsp;`: not blank for `strings.TrimSpace`, but decoded to
    U+00A0, which is) -/
def chunkOK (x : Str) : Bool :=
  decide (trimSpace (SRT.unescapeHTML x) = []) == decide (trimSpace x = [])

/-- every piece of text of the line (between `<…>`s, before the first, after the last) is `chunkOK`; the flag as
    in `scanOK2`, `acc` is the piece read so far (reversed) -/
def chunksOK : Bool → Str → Str → Bool
  | _, [], acc => chunkOK acc.reverse
  | false, c :: cs, acc => if c = '<' then chunkOK acc.reverse && chunksOK true cs [] else chunksOK false cs (c :: acc)
  | true, c :: cs, _ => if c = '>' then chunksOK false cs [] else chunksOK true cs []

/-- cue text of the wider class: inside a tag none of `=`, form feed, `|`, CR, LF (as `lineOK`); inline
    timestamps anywhere — but then no piece of text that is blank only after decoding (white space with
    `&nbsp;`); in particular any line without `&nbsp;` (`lineOK2_of_noNbsp`) -/
def lineOK2 (l : Str) : Bool := scanOK2 false l && (!hasTs l || chunksOK false l [])

/-- the documents of the theorem (inside the decoder's class) -/
def InClass2 (doc : Str) : Bool := InClassWith lineOK2 doc

example : lineOK2 "<c.a x>a &amp; <00:01.000>b</c> <00:00:02.500> <i>c</i>".toList = true := by decide_vector
example : lineOK2 "&nbsp;<b>x</b>".toList = true := by decide_vector
example : lineOK2 "a&nbsp;b<00:01.000>&nbsp;c<b>x</b>".toList = true := by decide_vector
example : lineOK2 "<00:01.000>&nbsp;<b>x</b>".toList = false := by decide_vector

theorem scanOK2_false_cons (c : Char) (cs : Str) :
    scanOK2 false (c :: cs) = if c = '<' then scanOK2 true cs else scanOK2 false cs := by
  simp only [scanOK2]

theorem scanOK2_true_cons (c : Char) (cs : Str) :
    scanOK2 true (c :: cs) =
      if c = '>' then scanOK2 false cs
      else !(c = '=' || c = '\x0c' || c = '|' || c = '\n' || c = '\r') && scanOK2 true cs := by
  simp only [scanOK2]

theorem scanOK2_text (x r : Str) (hx : ∀ c ∈ x, c ≠ '<') : scanOK2 false (x ++ r) = scanOK2 false r := by
  induction x with
  | nil => rfl
  | cons c x ih =>
    have hc : c ≠ '<' := hx c (by simp)
    rw [List.cons_append, scanOK2_false_cons]
    simp only [hc, if_false]
    exact ih (fun d hd => hx d (by simp [hd]))

theorem scanOK2_body (body after : Str) (hb : ∀ c ∈ body, c ≠ '>') :
    scanOK2 true (body ++ '>' :: after) = (body.all tagCharOK && scanOK2 false after) := by
  induction body with
  | nil => simp [scanOK2_true_cons]
  | cons c body ih =>
    have hc : c ≠ '>' := hb c (by simp)
    rw [List.cons_append, scanOK2_true_cons]
    simp only [hc, if_false, List.all_cons, ih (fun d hd => hb d (by simp [hd])), tagCharOK, Bool.and_assoc]

theorem scanOK2_tag (body after : Str) (hb : ∀ c ∈ body, c ≠ '>') :
    scanOK2 false ('<' :: (body ++ '>' :: after)) = true ↔
      (∀ c ∈ body, tagCharOK c = true) ∧ scanOK2 false after = true := by
  rw [scanOK2_false_cons, if_pos rfl, scanOK2_body body after hb]
  simp only [Bool.and_eq_true, List.all_eq_true]

theorem tsScan_false_cons (c : Char) (cs : Str) :
    tsScan false (c :: cs) =
      if c = '<' then (match cs with | d :: _ => isDigit d | [] => false) || tsScan true cs else tsScan false cs := by
  simp only [tsScan]
  cases cs <;> rfl

theorem tsScan_true_cons (c : Char) (cs : Str) :
    tsScan true (c :: cs) = if c = '>' then tsScan false cs else tsScan true cs := by
  simp only [tsScan]

theorem tsScan_text (x r : Str) (hx : ∀ c ∈ x, c ≠ '<') : tsScan false (x ++ r) = tsScan false r := by
  induction x with
  | nil => rfl
  | cons c x ih =>
    rw [List.cons_append, tsScan_false_cons, if_neg (hx c (by simp))]
    exact ih (fun d hd => hx d (by simp [hd]))

theorem tsScan_body (body after : Str) (hb : ∀ c ∈ body, c ≠ '>') :
    tsScan true (body ++ '>' :: after) = tsScan false after := by
  induction body with
  | nil => rw [List.nil_append, tsScan_true_cons, if_pos rfl]
  | cons c body ih =>
    rw [List.cons_append, tsScan_true_cons, if_neg (hb c (by simp))]
    exact ih (fun d hd => hb d (by simp [hd]))

theorem noNbsp_cons (c : Char) (cs : Str) :
    noNbsp (c :: cs) = (!hasPrefix "&nbsp;".toList (c :: cs) && noNbsp cs) := rfl

theorem chunkOK_nil : chunkOK [] = true := by decide

theorem chunksOK_nil (b : Bool) (acc : Str) : chunksOK b [] acc = chunkOK acc.reverse := by
  cases b <;> rfl

theorem chunksOK_false_cons (c : Char) (cs acc : Str) :
    chunksOK false (c :: cs) acc =
      if c = '<' then chunkOK acc.reverse && chunksOK true cs [] else chunksOK false cs (c :: acc) := by
  simp only [chunksOK]

theorem chunksOK_true_cons (c : Char) (cs acc : Str) :
    chunksOK true (c :: cs) acc = if c = '>' then chunksOK false cs [] else chunksOK true cs [] := by
  simp only [chunksOK]

theorem chunksOK_text (x : Str) (hx : ∀ c ∈ x, c ≠ '<') : ∀ (r acc : Str),
    chunksOK false (x ++ r) acc = chunksOK false r (x.reverse ++ acc) := by
  induction x with
  | nil => intro r acc; rfl
  | cons c x ih =>
    intro r acc
    have hc : c ≠ '<' := hx c (by simp)
    rw [List.cons_append, chunksOK_false_cons, if_neg hc, ih (fun d hd => hx d (by simp [hd]))]
    simp

theorem chunksOK_body (body : Str) (hb : ∀ c ∈ body, c ≠ '>') : ∀ (after acc : Str),
    chunksOK true (body ++ '>' :: after) acc = chunksOK false after [] := by
  induction body with
  | nil => intro after acc; rw [List.nil_append, chunksOK_true_cons, if_pos rfl]
  | cons c body ih =>
    intro after acc
    have hc : c ≠ '>' := hb c (by simp)
    rw [List.cons_append, chunksOK_true_cons, if_neg hc, ih (fun d hd => hb d (by simp [hd]))]

theorem chunksOK_tag (body after acc : Str) (hb : ∀ c ∈ body, c ≠ '>') :
    chunksOK false ('<' :: (body ++ '>' :: after)) acc = (chunkOK acc.reverse && chunksOK false after []) := by
  rw [chunksOK_false_cons, if_pos rfl, chunksOK_body body hb]

end VTTRead
end Astisub
