import Astisub.Model.TTML
import Astisub.Lemmas.EvalLit

/-!
# Lemmas/TTMLDocXml — the ASSUMED CONTRACT of `encoding/xml` between `TTML.write` and `TTML.read`

The writer model ends at the element tree handed to `xml.Encoder` (`TTML.write : Subs → Option (List WTok)`,
names as written in the struct tags: `tts:color`, `xml:id`, `ttm:title`).  The reader model starts at
what `xml.Decoder.Decode(&TTMLIn)` produced (`TTML.read : Option TIn → Res Subs`): the fields of
`TTMLIn`, and for every `<p>` the token list of `"<p>" + stripIndent(innerxml) + "</p>"`.
So the two models do not meet at a token list; they meet at `encoding/xml` used in both
directions.  `unmarshal` below is that composition — `Marshal` (with any indentation) followed by
`Decode` into `TTMLIn` — as a function of the writer's token sequence.  **It is an assumption about
`encoding/xml`, not a theorem**; it is kept structural:

* element and attribute names are matched by their local name only (the struct tags of `TTMLIn`
  carry no name space): `localName "tts:color" = "color"`; the fields are found by their path
  `tt`, `head>metadata>title|copyright`, `head>styling>style`, `head>layout>region`, `body>div>p`;
* a string field takes the value of the last attribute with its name (`""` when absent), an `int`
  field is parsed (`parseIntAttr`), `begin` / `end` collect every value (one `UnmarshalText` call
  each), the embedded `TTMLInStyleAttributes` and `style` are filled exactly as the reader model
  fills a `TTMLInItem` (`TTML.itemOfStart`, which is the model of the same `encoding/xml` code path);
* character data of `title` / `copyright` is concatenated; all other character data outside `<p>`
  is ignored (so is the white space `Encoder.Indent` adds);
* the inner XML of a `<p>` is a byte string that is **not modelled**: it is `ix toks` for an
  arbitrary function `ix` of the paragraph's tokens (every theorem is for all `ix`); the harness
  computes `stripped = stripIndent inner`, and the contract is that tokenising
  `"<p>" + stripped + "</p>"` yields `<p>`, the paragraph's own tokens without indentation and with
  the prefixes unresolved (no name-space declaration is in scope: `Space` = the prefix, `xml` ↦ its
  URI), `</p>` — `rawTok`.  Character data is delivered unchanged; this is true of XML-legal
  characters only (`Encoder.EscapeText` replaces the others by U+FFFD), see `TTMLDoc.xmlCarries`.

The read clause states the same `Decode(&TTMLIn)` a second time, over the decoder's own tokens (`TTMLR.ustep`,
`TTMLR.unmarshal` in `Lemmas/TTMLRead2Defs`, with the attribute fields in closed form instead of through
`TTML.itemOfStart`); no lemma relates the two machines, and on attribute lists that are not in table order they list
the set fields in different orders (the writer's lists are in table order).

What the harness checks of this on every run: the `ttml.write` stream compares the document-level
token list of the written bytes with `Driver.TTMLD.resolve (TTML.write s)` (same tokens as here, with
resolved name spaces), and feeds the `TTMLIn` view of the same bytes to `TTML.read`.
-/

namespace Astisub
namespace TTMLDoc
open Go TTML

/-- `prefix:local` ↦ (`prefix`, `local`); no colon: no prefix -/
def splitName (n : Str) : Str × Str :=
  match splitC ':' n with
  | [p, l] => (p, l)
  | _ => ([], n)

def localName (n : Str) : Str := (splitName n).2

def nsXML : Str := "http://www.w3.org/XML/1998/namespace".toList

/-- the `Space` of a name whose prefix is not declared in the text being tokenised -/
def rawSpace (p : Str) : Str := if p = "xml".toList then nsXML else p

def rawAttr (kv : Str × Str) : Str × Str × Str := (rawSpace (splitName kv.1).1, (splitName kv.1).2, kv.2)

/-- a token of the writer's tree as `xml.Decoder.Token()` reports it when no declaration is in scope -/
def rawTok : WTok → XTok
  | .start n a => .start (rawSpace (splitName n).1) (splitName n).2 (a.map rawAttr)
  | .stop n => .stop (rawSpace (splitName n).1) (splitName n).2
  | .text s => .text s

/-- a string field: every attribute with this local name is copied into it in turn (the last one stays);
    `""` when there is none -/
def lastAttr (a : List (Str × Str)) (name : String) : Str :=
  a.foldl (fun acc kv => if localName kv.1 = name.toList then kv.2 else acc) []

/-- every value of the attributes with this local name, in order -/
def allAttr (a : List (Str × Str)) (name : String) : List Str :=
  (a.filter fun kv => localName kv.1 = name.toList).map (·.2)

/-- `TTMLInStyle` / `TTMLInRegion` of a start tag; `none` = `zIndex` is not an integer (decoding fails) -/
def mkDef (a : List (Str × Str)) : Option InDef :=
  (itemOfStart [] (a.map rawAttr) {}).map fun it => { id := lastAttr a "id", style := it.style, attrs := it.attrs }

/-- `TTMLInSubtitle` of a `<p>` start tag, its tokens still to come -/
def mkSub (a : List (Str × Str)) : Option InSub :=
  (itemOfStart [] (a.map rawAttr) {}).map fun it =>
    { begins := allAttr a "begin", ends := allAttr a "end", id := lastAttr a "id", region := lastAttr a "region",
      style := it.style, attrs := it.attrs, inner := [], stripped := [], toks := [], toksOk := true }

inductive Ctx where
  | root | style | region | title | copyright | para | other
  deriving DecidableEq, Repr

/-- which field of `TTMLIn` the element with this path (local names, innermost first) goes to:
    `tt`, `head>styling>style`, `head>layout>region`, `head>metadata>title`, `head>metadata>copyright`, `body>div>p`
    (the names are spelt as character lists) -/
def ctxOf (path : List Str) : Ctx :=
  if path = [['t', 't']] then .root
  else if path = [['s', 't', 'y', 'l', 'e'], ['s', 't', 'y', 'l', 'i', 'n', 'g'], ['h', 'e', 'a', 'd'], ['t', 't']] then .style
  else if path = [['r', 'e', 'g', 'i', 'o', 'n'], ['l', 'a', 'y', 'o', 'u', 't'], ['h', 'e', 'a', 'd'], ['t', 't']] then .region
  else if path = [['t', 'i', 't', 'l', 'e'], ['m', 'e', 't', 'a', 'd', 'a', 't', 'a'], ['h', 'e', 'a', 'd'], ['t', 't']] then .title
  else if path = [['c', 'o', 'p', 'y', 'r', 'i', 'g', 'h', 't'], ['m', 'e', 't', 'a', 'd', 'a', 't', 'a'], ['h', 'e', 'a', 'd'], ['t', 't']] then .copyright
  else if path = [['p'], ['d', 'i', 'v'], ['b', 'o', 'd', 'y'], ['t', 't']] then .para
  else .other

example : ctxOf ["style".toList, "styling".toList, "head".toList, "tt".toList] = .style := by decide_vector
example : ctxOf ["copyright".toList, "metadata".toList, "head".toList, "tt".toList] = .copyright := by decide_vector
example : ctxOf ["p".toList, "div".toList, "body".toList, "tt".toList] = .para := by decide_vector

/-- the state of the contract's `Decode(&TTMLIn)` over the writer's tokens (not of `Spec.TTML`) -/
structure DSt where
  path : List Str := []
  finished : Bool := false
  framerate : Int := 0
  tickrate : Int := 0
  lang : Str := []
  title : Str := []
  copyright : Str := []
  regions : List InDef := []
  styles : List InDef := []
  subs : List InSub := []
  buf : Str := []
  cur : Option InSub := none
  deriving Inhabited

def pStart : XTok := .start [] "p".toList []
def pStop : XTok := .stop [] "p".toList

/-- one token of the tree; `ix` = the (unmodelled) inner XML bytes of a paragraph as a function of its tokens -/
def step (ix : List XTok → Str) (st : DSt) (t : WTok) : Option DSt :=
  if st.finished then some st else
  match st.cur with
  | some p =>
    match t with
    | .start n _ => some { st with path := localName n :: st.path, cur := some { p with toks := p.toks ++ [rawTok t] } }
    | .text _ => some { st with cur := some { p with toks := p.toks ++ [rawTok t] } }
    | .stop _ =>
      if st.path.length = 4 then
        some { st with path := st.path.tail, cur := none,
                       subs := st.subs ++ [{ p with inner := ix p.toks, stripped := stripIndent (ix p.toks),
                                                    toks := pStart :: p.toks ++ [pStop] }] }
      else some { st with path := st.path.tail, cur := some { p with toks := p.toks ++ [rawTok t] } }
  | none =>
    match t with
    | .start n a =>
      let path := localName n :: st.path
      match ctxOf path with
      | .root =>
        match parseIntAttr (lastAttr a "frameRate"), parseIntAttr (lastAttr a "tickRate") with
        | some fr, some tr => some { st with path := path, framerate := fr, tickrate := tr, lang := lastAttr a "lang" }
        | _, _ => none
      | .style => (mkDef a).map fun d => { st with path := path, styles := st.styles ++ [d] }
      | .region => (mkDef a).map fun d => { st with path := path, regions := st.regions ++ [d] }
      | .title => some { st with path := path, buf := [] }
      | .copyright => some { st with path := path, buf := [] }
      | .para => (mkSub a).map fun p => { st with path := path, cur := some p }
      | .other => if st.path.isEmpty then none else some { st with path := path }
    | .text s =>
      match ctxOf st.path with
      | .title => some { st with buf := st.buf ++ s }
      | .copyright => some { st with buf := st.buf ++ s }
      | _ => some st
    | .stop _ =>
      match st.path with
      | [] => none
      | _ :: rest =>
        match ctxOf st.path with
        | .title => some { st with path := rest, title := st.buf }
        | .copyright => some { st with path := rest, copyright := st.buf }
        | _ => some { st with path := rest, finished := rest.isEmpty }

def run (ix : List XTok → Str) : List WTok → DSt → Option DSt
  | [], st => some st
  | t :: ts, st =>
    match step ix st t with
    | some st' => run ix ts st'
    | none => none

def tinOf (st : DSt) : TIn :=
  { framerate := st.framerate, tickrate := st.tickrate, lang := st.lang, title := st.title, copyright := st.copyright,
    regions := st.regions, styles := st.styles, subs := st.subs }

/-- **The contract.** `xml.NewDecoder(bytes of Marshal(tree)).Decode(&TTMLIn)`; `none` = the decoder
    returns an error -/
def unmarshal (ix : List XTok → Str) (w : List WTok) : Option TIn :=
  match run ix w {} with
  | some st => if st.finished then some (tinOf st) else none
  | none => none

/-- a string literal is, by definition, `String.ofList` of its characters -/
theorem toList_map_ofList (l : List Str) : (l.map String.ofList).map String.toList = l := by
  induction l with
  | nil => rfl
  | cons a l ih => rw [List.map_cons, List.map_cons, String.toList_ofList, ih]

theorem run_append (ix : List XTok → Str) (a b : List WTok) (st : DSt) :
    run ix (a ++ b) st = (run ix a st).bind (run ix b) := by
  induction a generalizing st with
  | nil => rfl
  | cons t a ih =>
    simp only [List.cons_append, run]
    cases step ix st t with
    | none => rfl
    | some st' => exact ih st'

theorem run_append_some {ix : List XTok → Str} {a : List WTok} {st st' : DSt} (b : List WTok)
    (h : run ix a st = some st') : run ix (a ++ b) st = run ix b st' := by
  rw [run_append, h]; rfl

/-- XML-legal characters (`Char` of XML 1.0): what `Encoder.EscapeText` passes (escaped or not) -/
def xmlLegal (c : Char) : Bool :=
  let n := c.toNat
  n == 9 || n == 10 || n == 13 || (0x20 ≤ n && n ≤ 0xD7FF) || (0xE000 ≤ n && n ≤ 0xFFFD) || (0x10000 ≤ n && n ≤ 0x10FFFF)

end TTMLDoc
end Astisub
