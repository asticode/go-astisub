import Astisub.Lemmas.VTT3WDocBlocks
import Astisub.Lemmas.VTT3WDocCue
import Astisub.Lemmas.VTT3WDocMeta

/-!
# Lemmas/VTT3WDoc — the independent decoder accepts every written `DocOk` document (document part)

Under `DocOk s` and the extra proviso `docW2 s` the decoder accepts the written document (`decode_docLines2`) and the
document lies in the class `InClassWith ok` (`inClass_docLines2`) — given `metaTextW2 ok s`: `ok` must also hold for the
lines which `blockOKWith` takes for "cue text" in the `STYLE` block and in the region block (`cueTextOf` = everything
after the second line of a block whose first line has no `-->`); without it the statement is false
(`inClass_needs_metaText`, at the end, with the non-vacuity examples `exDocW_ok`, `exDocW_w2`, `decode_exDocW` and the
reasons for the conjuncts of `docW2`).
-/

namespace Astisub
namespace VTT3W
open Go Spec.VTT VTTRead

theorem metaT_of_X {l : Str} (h : hasPrefix "X-TIMESTAMP-MAP".toList l = true) : metaT l = true := by
  unfold metaT; rw [h, Bool.or_true]

theorem metaT_of_R {l : Str} (h : hasPrefix "Region: ".toList l = true) : metaT l = true := by
  unfold metaT; rw [h, Bool.true_or]

theorem block_tsLine (lv : Int) (h0 : 0 ≤ lv) (h1 : lv < 360000000000000) (m : Str) (n : Nat)
    (hm : natOf m = some n) (hn : n < 2 ^ 62) :
    ∃ v, block {} [VTT.tsLine (Duration.formatVTT lv) m] = some { tsmap := some v } := by
  obtain ⟨v, hv⟩ := tsmapLine_written lv h0 h1 m n hm hn
  have hp := hasPrefix_tsLine (Duration.formatVTT lv) m
  have hr := not_region_tsLine (Duration.formatVTT lv) m
  refine ⟨v, ?_⟩
  rw [block_cases _ _ _ (prefix_tests_X hp).noteLine (prefix_tests_X hp).noStyle]
  have hall : [VTT.tsLine (Duration.formatVTT lv) m].all metaT = true := by
    simp only [List.all_cons, List.all_nil, metaT_of_X hp, Bool.and_self]
  rw [if_pos hall]
  simp only [List.foldl, metaStep, hr, hv]
  rfl

theorem block_regionLines (s : Subs) (ds : List Def) (d0 : Def) (st : DocSt)
    (hok : ∀ d ∈ d0 :: ds, VTT.regionOk s d = true) (hx : ∀ d ∈ d0 :: ds, regionW2 s d = true)
    (hnd : ((d0 :: ds).map (·.id)).Nodup) (hst : st.regions = []) :
    ∃ rs : List GRegion, rs.map (·.id) = (d0 :: ds).map (·.id) ∧
      block st ((d0 :: ds).map (VTT.regionLine s)) = some { st with regions := rs } := by
  obtain ⟨rs, hrs, hfold⟩ := foldl_metaStep_regions s (d0 :: ds) hok hx st hnd (by intro d _; rw [hst]; rfl)
  refine ⟨rs, hrs, ?_⟩
  have t := prefix_tests_R (hasPrefix_regionLine s d0)
  rw [List.map_cons, block_cases _ _ _ t.noteLine t.noStyle]
  have hall : (VTT.regionLine s d0 :: ds.map (VTT.regionLine s)).all metaT = true := by
    rw [List.all_eq_true]
    intro l hl
    have hl' : l ∈ (d0 :: ds).map (VTT.regionLine s) := hl
    obtain ⟨d, _, rfl⟩ := List.mem_map.mp hl'
    exact metaT_of_R (hasPrefix_regionLine s d)
  rw [if_pos hall]
  rw [List.map_cons] at hfold
  rw [hfold, hst]
  rfl

theorem fold_noteBlock (ds : DocSt) (cs : List Str) (hok : VTT.commentsOk cs = true) (hx : commentsW2 cs = true) :
    ∃ ds1, (noteBlock cs).foldl F (some ds) = some ds1 ∧ ds1.regions = ds.regions ∧ ds1.cues = ds.cues := by
  cases cs with
  | nil => exact ⟨ds, rfl, rfl, rfl⟩
  | cons c cs =>
    refine ⟨{ ds with comments := ds.comments ++ (c :: cs) }, ?_, rfl, rfl⟩
    simp only [noteBlock, List.foldl, F]
    exact block_comment ds c cs hok hx

theorem fold_cues (s : Subs) (items : List CItem) :
    ∀ (k : Nat) (ds : DocSt), (∀ it ∈ items, VTT.cueOk2 s it = true) → (∀ it ∈ items, cueW2 it = true) →
      k + items.length < 2 ^ 62 →
      (∀ it ∈ items, ∀ r, it.region = some r → ds.regions.any (·.id = r) = true) →
      (∀ it ∈ items, (cueText (it.lines.map VTT.lineBody) []).isSome = true) →
      ∃ ds', (cueBlocks s k items).foldl F (some ds) = some ds' ∧
        ds'.cues.map (·.lines) = ds.cues.map (·.lines) ++ items.map glOf := by
  induction items with
  | nil => intro k ds _ _ _ _ _; exact ⟨ds, rfl, by simp⟩
  | cons it rest ih =>
    intro k ds hok hw hk hreg ht
    simp only [List.length_cons] at hk
    have hw1 := hw it (by simp)
    simp only [cueW2, Bool.and_eq_true] at hw1
    obtain ⟨ds1, hf1, hr1, hc1⟩ := fold_noteBlock ds it.comments (VTT.cueOk2_iff.mp (hok it (by simp))).comments hw1.1
    obtain ⟨c, hcl, hblk⟩ := cueBlock_written ds1 s k it (hok it (by simp)) (by omega)
      (by intro r hr; rw [hr1]; exact hreg it (by simp) r hr) (ht it (by simp))
    obtain ⟨ds', hf3, hcues⟩ := ih (k + 1) { ds1 with comments := [], cues := ds1.cues ++ [c] }
      (fun x hx => hok x (by simp [hx])) (fun x hx => hw x (by simp [hx])) (by omega)
      (fun x hx r hr => by
        show ds1.regions.any _ = true
        rw [hr1]; exact hreg x (by simp [hx]) r hr)
      (fun x hx => ht x (by simp [hx]))
    refine ⟨ds', ?_, ?_⟩
    · rw [cueBlocks, List.foldl_append, List.foldl_append, hf1]
      simp only [List.foldl, F]
      rw [hblk]
      exact hf3
    · rw [hcues]
      simp [hc1, hcl]

theorem fold_styleBlocks (s : Subs) (hF : VTT.DocFacts s) (hW : W2Facts s) (ds : DocSt) :
    ∃ ds', (styleBlocks s).foldl F (some ds) = some ds' ∧ ds'.regions = ds.regions ∧ ds'.cues = ds.cues := by
  unfold styleBlocks
  by_cases he : (VTT.styleLines s).isEmpty = true
  · rw [if_pos he]; exact ⟨ds, rfl, rfl, rfl⟩
  · rw [if_neg he]
    have hne : VTT.styleLines s ≠ [] := by intro e; rw [e] at he; exact he rfl
    refine ⟨{ ds with styles := ds.styles ++ VTT.styleLines s }, ?_, rfl, rfl⟩
    simp only [List.foldl, F]
    apply block_style ds _ hne hF.sty hW.sty
    have := hF.styEnd
    unfold VTT.styleEndOk at this
    intro e
    rw [e] at this
    exact absurd this (by decide)

theorem fold_regionBlocks (s : Subs) (hF : VTT.DocFacts s) (hW : W2Facts s) (ds : DocSt) (hds : ds.regions = []) :
    ∃ ds', (regionBlocks s).foldl F (some ds) = some ds' ∧ ds'.cues = ds.cues ∧
      (∀ r, s.regions.any (·.id = r) = true → ds'.regions.any (·.id = r) = true) := by
  unfold regionBlocks
  by_cases he : s.regions.isEmpty = true
  · rw [if_pos he]
    refine ⟨ds, rfl, rfl, ?_⟩
    intro r hr
    have : s.regions = [] := by simpa using he
    rw [this] at hr
    cases hr
  · rw [if_neg he]
    have hne : s.regions ≠ [] := by intro e; rw [e] at he; exact he rfl
    have hperm : (VTT.sortDefs s.regions).Perm s.regions := Proto.sortDefs_perm _
    cases hsd : VTT.sortDefs s.regions with
    | nil => exact absurd hsd (sortDefs_ne hne)
    | cons d0 ds0 =>
      have hmem : ∀ d ∈ d0 :: ds0, d ∈ s.regions := by
        intro d hd; rw [← hsd] at hd; exact Proto.mem_sortDefs.mp hd
      have hnd : ((d0 :: ds0).map (·.id)).Nodup := by
        rw [← hsd]; exact (hperm.map _).nodup_iff.mpr hF.nodup
      obtain ⟨rs, hrs, hblk⟩ := block_regionLines s ds0 d0 ds (fun d hd => hF.regs d (hmem d hd))
        (fun d hd => hW.regs d (hmem d hd)) hnd hds
      refine ⟨{ ds with regions := rs }, ?_, rfl, ?_⟩
      · simp only [List.foldl, F, regionLines, hsd]
        exact hblk
      · intro r hr
        simp only [List.any_eq_true, decide_eq_true_eq] at hr ⊢
        obtain ⟨d, hd, hid⟩ := hr
        have hd' : d ∈ d0 :: ds0 := by rw [← hsd]; exact hperm.mem_iff.mpr hd
        have : r ∈ rs.map (·.id) := by
          rw [hrs, ← hid]; exact List.mem_map_of_mem hd'
        obtain ⟨g, hg, hgid⟩ := List.mem_map.mp this
        exact ⟨g, hg, hgid⟩

/-- the header block list: the timestamp map line, if any -/
def hdrBlocks (s : Subs) : List (List Str) := if (VTT.tsmapLines s).isEmpty then [] else [VTT.tsmapLines s]

theorem fold_hdrBlocks (s : Subs) (hF : VTT.DocFacts s) (hW : W2Facts s) :
    ∃ ds', (hdrBlocks s).foldl F (some {}) = some ds' ∧ ds'.regions = [] ∧ ds'.cues = [] := by
  unfold hdrBlocks
  rcases tsmapLines_shape s hF.ts hW.ts with h | ⟨lv, m, n, h0, h1, hm, hn, _, h⟩
  · rw [h]; exact ⟨{}, rfl, rfl, rfl⟩
  · rw [h]
    obtain ⟨v, hv⟩ := block_tsLine lv h0 h1 m n hm hn
    refine ⟨{ tsmap := some v }, ?_, rfl, rfl⟩
    simp only [List.isEmpty_cons, Bool.false_eq_true, if_false, List.foldl, F]
    exact hv

theorem fold_doc (s : Subs) (hok : VTT.DocOk s = true) (hx : docW2 s = true)
    (ht : ∀ it ∈ s.items, (cueText (it.lines.map VTT.lineBody) []).isSome = true) :
    ∃ ds', foldBlocks (hdrBlocks s ++ restBlocks s) = some ds' ∧ ds'.cues.map (·.lines) = s.items.map glOf := by
  have hF := VTT.docOk_facts hok
  have hW := docW2_facts hx
  obtain ⟨ds1, f1, r1, c1⟩ := fold_hdrBlocks s hF hW
  obtain ⟨ds2, f2, r2, c2⟩ := fold_styleBlocks s hF hW ds1
  obtain ⟨ds3, f3, c3, r3⟩ := fold_regionBlocks s hF hW ds2 (by rw [r2, r1])
  obtain ⟨ds4, f4, c4⟩ := fold_cues s s.items 0 ds3 hF.cues hW.cues (by have := hW.len; omega)
    (fun it hit r hr => r3 r (VTT.region_of_cueOk2 (hF.cues it hit) r hr)) ht
  refine ⟨ds4, ?_, ?_⟩
  · rw [foldBlocks_eq, restBlocks, List.foldl_append, List.foldl_append, List.foldl_append, f1, f2, f3, f4]
  · rw [c4, c3, c2, c1]; rfl

theorem hdr_facts (s : Subs) (hF : VTT.DocFacts s) (hW : W2Facts s) :
    ∀ l ∈ VTT.tsmapLines s, metaLine l = true ∧ trimSpace l = l := by
  rcases tsmapLines_shape s hF.ts hW.ts with h | ⟨lv, m, n, h0, h1, _, _, hm, h⟩
  · rw [h]; intro l hl; cases hl
  · rw [h]
    intro l hl
    simp only [List.mem_singleton] at hl
    subst hl
    exact metaLine_tsLine _ m (VTT.format_facts lv h0 h1).1 hm

theorem docBlocks_docLines2 (s : Subs) (hok : VTT.DocOk s = true) (hx : docW2 s = true) :
    docBlocks (VTT.unlines (VTT.docLines2 s)) = some (hdrBlocks s ++ restBlocks s) := by
  have hF := VTT.docOk_facts hok
  have hW := docW2_facts hx
  have hnb := VTT.noBreak_docLines2 s hok
  have hsh := VTT.restBlocks_wline s hok
  have hh := hdr_facts s hF hW
  rw [docLines2_seg] at hnb ⊢
  exact docBlocks_written (VTT.tsmapLines s) (restBlocks s) (restBlocks_ne s hF.ne)
    (fun l hl => (hh l hl).1) (fun l hl => (hh l hl).2) (fun b hb => (hsh b hb).1)
    (fun b hb l hl => ((hsh b hb).2 l hl).bline) hnb

theorem decode_docLines2 (s : Subs) (hok : VTT.DocOk s = true) (hx : docW2 s = true)
    (ht : ∀ it ∈ s.items, (Spec.VTT.cueText (it.lines.map VTT.lineBody) []).isSome = true) :
    ∃ g, Spec.VTT.decode (VTT.unlines (VTT.docLines2 s)) = some g ∧ g.cues.map (·.lines) = s.items.map glOf := by
  obtain ⟨ds', hfold, hcues⟩ := fold_doc s hok hx ht
  refine ⟨docOf ds', ?_, hcues⟩
  rw [decode_eq, docBlocks_docLines2 s hok hx]
  simp only [hfold, Option.map_some]

/-- what `blockOKWith ok` asks of the `STYLE` block and of the region block beyond `regionOK`: `ok` of the
    lines it takes for cue text (the CSS lines after the first; the region lines after the second, or after
    the first when the first contains `-->`) -/
def metaTextW2 (ok : Str → Bool) (s : Subs) : Bool :=
  (cueTextOf ("STYLE".toList :: VTT.styleLines s)).all ok && (cueTextOf (regionLines s)).all ok

theorem cueTextOf_cons (a : Str) (rest : List Str) :
    cueTextOf (a :: rest) = if contains Spec.VTT.arrow a = true then rest else rest.drop 1 := by
  cases rest with
  | nil => unfold cueTextOf; simp
  | cons b r => rfl

theorem regionOK_of_not_region {l : Str} (h : hasPrefix "Region: ".toList l = false) : regionOK l = true := by
  have hd : dropPrefix? "Region: ".toList l = none := by
    unfold hasPrefix at h
    cases hd : dropPrefix? "Region: ".toList l with
    | none => rfl
    | some r => rw [hd] at h; cases h
  unfold regionOK
  rw [regionLine_eq, hd]

theorem blockOKWith_plain (ok : Str → Bool) (first : Str) (rest : List Str) (hn : noteLine first = none)
    (h1 : ∀ l ∈ first :: rest, regionOK l = true) (h2 : ∀ l ∈ cueTextOf (first :: rest), ok l = true) :
    blockOKWith ok (first :: rest) = true := by
  unfold blockOKWith
  simp only [hn, Option.isSome_none, Bool.false_eq_true, if_false, Bool.and_eq_true]
  exact ⟨List.all_eq_true.mpr h1, List.all_eq_true.mpr h2⟩

theorem not_region_cueTiming (s : Subs) (it : CItem) (hok : VTT.cueOk2 s it = true) :
    hasPrefix "Region: ".toList (VTT.cueTiming s it) = false := by
  have C := VTT.cueOk2_iff.mp hok
  obtain ⟨k, r, hk, hfmt⟩ := VTT.format_head it.startAt C.s0 C.s1
  unfold VTT.cueTiming
  rw [VTT.timingLine_eq, hfmt]
  rw [VTTRead.lit_region]
  exact hasPrefix_cons_ne (digitChar_ne_of_not_isDigC hk (by decide)).symm _ _

theorem blockOK_cueCore (ok : Str → Bool) (s : Subs) (k : Nat) (it : CItem) (hok : VTT.cueOk2 s it = true)
    (hw : cueW2 it = true) (hl : ∀ l ∈ it.lines, ok (VTT.lineBody l) = true) :
    blockOKWith ok (VTT.cueCore s k it) = true := by
  simp only [cueW2, Bool.and_eq_true, List.all_eq_true] at hw
  have hnum : hasPrefix "Region: ".toList (itoaNat (k + 1)) = false := by
    have := metaT_itoaNat (k + 1)
    unfold metaT at this
    exact (Bool.or_eq_false_iff.mp this).1
  rw [cueCore_eq]
  apply blockOKWith_plain ok _ _ (noteLine_itoaNat (k + 1))
  · intro l hl'
    rcases List.mem_cons.mp hl' with h | hl'
    · rw [h]; exact regionOK_of_not_region hnum
    · rcases List.mem_cons.mp hl' with h | hl'
      · rw [h]; exact regionOK_of_not_region (not_region_cueTiming s it hok)
      · obtain ⟨x, hx, h⟩ := List.mem_map.mp hl'
        rw [← h]; exact hw.2 x hx
  · intro l hl'
    rw [cueTextOf_cons, no_arrow_itoaNat] at hl'
    simp only [Bool.false_eq_true, if_false, List.drop_succ_cons, List.drop_zero] at hl'
    obtain ⟨x, hx, h⟩ := List.mem_map.mp hl'
    rw [← h]; exact hl x hx

theorem blockOK_noteBlock (ok : Str → Bool) (cs : List Str) (hok : VTT.commentsOk cs = true) (hx : commentsW2 cs = true) :
    ∀ b ∈ noteBlock cs, blockOKWith ok b = true := by
  cases cs with
  | nil => intro b hb; cases hb
  | cons c cs =>
    intro b hb
    simp only [noteBlock, List.mem_singleton] at hb
    subst hb
    have hct := (firstComment_spec (by
      simp only [VTT.commentsOk, Bool.and_eq_true] at hok; exact hok.1)).2
    unfold blockOKWith
    simp only [noteLine_first c hct, Option.isSome_some, if_true]
    exact List.all_eq_true.mpr (noteOK_comment c cs hok hx)

theorem blockOK_hdrBlocks (ok : Str → Bool) (s : Subs) (hF : VTT.DocFacts s) (hW : W2Facts s) :
    ∀ b ∈ hdrBlocks s, blockOKWith ok b = true := by
  unfold hdrBlocks
  rcases tsmapLines_shape s hF.ts hW.ts with h | ⟨lv, m, n, _, _, _, _, _, h⟩
  · rw [h]; intro b hb; cases hb
  · rw [h]
    intro b hb
    simp only [List.isEmpty_cons, Bool.false_eq_true, if_false, List.mem_singleton] at hb
    subst hb
    have hp := hasPrefix_tsLine (Duration.formatVTT lv) m
    have t3 := (prefix_tests_X hp).noteLine
    apply blockOKWith_plain ok _ _ t3
    · intro l hl
      simp only [List.mem_singleton] at hl
      subst hl
      exact regionOK_of_not_region (not_region_tsLine _ m)
    · intro l hl
      rw [cueTextOf_cons] at hl
      split at hl <;> cases hl

theorem blockOK_styleBlock (ok : Str → Bool) (s : Subs) (hF : VTT.DocFacts s)
    (hm : ∀ l ∈ cueTextOf ("STYLE".toList :: VTT.styleLines s), ok l = true) :
    blockOKWith ok ("STYLE".toList :: VTT.styleLines s) = true := by
  apply blockOKWith_plain ok _ _ noteLine_style _ hm
  intro l hl
  rcases List.mem_cons.mp hl with rfl | hl
  · exact regionOK_of_not_region (by decide)
  · exact regionOK_of_not_region (VTT.styleLineOk_facts (hF.sty l hl)).region

theorem blockOK_regionBlock (ok : Str → Bool) (s : Subs) (hF : VTT.DocFacts s) (hW : W2Facts s)
    (hm : ∀ l ∈ cueTextOf (regionLines s), ok l = true) :
    blockOKWith ok (regionLines s) = true := by
  have hreg : ∀ l ∈ regionLines s, regionOK l = true := by
    intro l hl
    obtain ⟨d, hd, rfl⟩ := List.mem_map.mp hl
    exact regionOK_written s d (hF.regs d (Proto.mem_sortDefs.mp hd)) (hW.regs d (Proto.mem_sortDefs.mp hd))
  cases hrl : regionLines s with
  | nil => rfl
  | cons first rest =>
    rw [hrl] at hreg hm
    have hfirst : first ∈ regionLines s := by rw [hrl]; simp
    obtain ⟨d, _, hd⟩ := List.mem_map.mp hfirst
    have t3 := (prefix_tests_R (hasPrefix_regionLine s d)).noteLine
    rw [hd] at t3
    exact blockOKWith_plain ok first rest t3 hreg hm

theorem inClass_docLines2 (ok : Str → Bool) (s : Subs) (hok : VTT.DocOk s = true) (hx : docW2 s = true)
    (hl : ∀ it ∈ s.items, ∀ l ∈ it.lines, ok (VTT.lineBody l) = true)
    (hm : metaTextW2 ok s = true) :
    VTTRead.InClassWith ok (VTT.unlines (VTT.docLines2 s)) = true := by
  have hF := VTT.docOk_facts hok
  have hW := docW2_facts hx
  simp only [metaTextW2, Bool.and_eq_true, List.all_eq_true] at hm
  unfold InClassWith
  rw [docBlocks_docLines2 s hok hx]
  simp only
  rw [List.all_eq_true]
  intro b hb
  rcases List.mem_append.mp hb with hb | hb
  · exact blockOK_hdrBlocks ok s hF hW b hb
  · refine forall_restBlocks s (blockOKWith ok · = true) (fun _ => blockOK_styleBlock ok s hF hm.1) (fun _ => blockOK_regionBlock ok s hF hW hm.2)
      (fun it hit c cs hc => ?_) (fun it hit k => blockOK_cueCore ok s k it (hF.cues it hit) (hW.cues it hit) (hl it hit))
      b hb
    have hco := (VTT.cueOk2_iff.mp (hF.cues it hit)).comments
    have hcw := hW.cues it hit
    simp only [cueW2, Bool.and_eq_true] at hcw
    rw [hc] at hco hcw
    exact blockOK_noteBlock ok (c :: cs) hco hcw.1 _ (List.mem_singleton.mpr rfl)

/-- a case without the hypothesis `metaTextW2`: at most one CSS line and at most two regions (then
    `blockOKWith` takes no line of the `STYLE` / region block for cue text, unless the first region line
    contains `-->`, which `regionArrowFree` excludes) -/
def regionArrowFree (s : Subs) : Bool := (regionLines s).all fun l => !contains Spec.VTT.arrow l

theorem cueTextOf_short (a : Str) (l : List Str) (h : l.length ≤ 1) (ha : contains Spec.VTT.arrow a = false) :
    cueTextOf (a :: l) = [] := by
  rw [cueTextOf_cons, ha]
  match l, h with
  | [], _ => rfl
  | [_], _ => rfl

theorem cueTextOf_regionLines (s : Subs) (h2 : s.regions.length ≤ 2) (h3 : regionArrowFree s = true) :
    cueTextOf (regionLines s) = [] := by
  have hlen : (regionLines s).length ≤ 2 := by
    have hp : (VTT.sortDefs s.regions).Perm s.regions := Proto.sortDefs_perm _
    unfold regionLines
    rw [List.length_map, hp.length_eq]
    exact h2
  simp only [regionArrowFree, List.all_eq_true, Bool.not_eq_true'] at h3
  cases hr : regionLines s with
  | nil => rfl
  | cons a l =>
    rw [hr] at hlen h3
    exact cueTextOf_short a l (by simpa using hlen) (h3 a (by simp))

theorem metaTextW2_small (ok : Str → Bool) (s : Subs) (h1 : (VTT.styleLines s).length ≤ 1)
    (h2 : s.regions.length ≤ 2) (h3 : regionArrowFree s = true) : metaTextW2 ok s = true := by
  unfold metaTextW2
  rw [cueTextOf_short _ _ h1 (by decide), cueTextOf_regionLines s h2 h3]
  rfl

/-- the statement without `metaTextW2`; it is false (`inClass_needs_metaText`) -/
def inClass_docLines2_Statement : Prop :=
  ∀ (ok : Str → Bool) (s : Subs), VTT.DocOk s = true → docW2 s = true →
    (∀ it ∈ s.items, ∀ l ∈ it.lines, ok (VTT.lineBody l) = true) →
    VTTRead.InClassWith ok (VTT.unlines (VTT.docLines2 s)) = true

theorem exDocW_styleLines :
    VTT.styleLines exDocW = ["::cue(b) {".toList, "color: red".toList, "}".toList] :=
  (styleLines_congr (s := exDocW) (t := VTT.exDoc) rfl).trans VTT.exDoc_styleLines

theorem exDocW_cue : VTT.cueOk2 VTT.exDoc exCueW = true := by decide_vector

theorem exDocW_ok : VTT.DocOk exDocW = true := by
  refine docOk_transfer VTT.exDoc_ok rfl rfl (List.cons_ne_nil _ _) (by decide) ?_ (by decide)
  intro it hit
  rcases List.mem_cons.mp hit with rfl | hit
  · exact exDocW_cue
  · exact (VTT.docOk_facts VTT.exDoc_ok).cues it (List.mem_cons_of_mem _ hit)

theorem exDocW_w2 : docW2 exDocW = true :=
  docW2_of_facts ⟨by decide, List.all_eq_true.mp (by decide_vector), by rw [exDocW_styleLines]; decide_vector,
    List.all_eq_true.mp (by decide_vector), by decide_vector⟩

theorem decode_exDocW :
    ∃ g, Spec.VTT.decode (VTT.unlines (VTT.docLines2 exDocW)) = some g ∧ g.cues.map (·.lines) = exDocW.items.map glOf := by
  apply decode_docLines2 exDocW exDocW_ok exDocW_w2
  intro it hit
  have : it = exCueW ∨ it = VTT.exCue2 := by simpa [exDocW] using hit
  rcases this with rfl | rfl <;> decide_vector

/-- one cue, the CSS block of `exDoc`, no region -/
def exDocM : Subs := { items := [VTT.exCue2], styles := VTT.exDoc.styles }

theorem exDocM_regionLines : regionLines exDocM = [] := by
  show (VTT.sortDefs []).map _ = []
  rw [VTT.sortDefs_nil]; rfl

example : metaTextW2 lineOK2 exDocM = true := by
  unfold metaTextW2
  rw [exDocM_regionLines, (styleLines_congr (s := exDocM) (t := VTT.exDoc) rfl).trans VTT.exDoc_styleLines]
  decide

example : regionArrowFree exDocM = true := by
  unfold regionArrowFree; rw [exDocM_regionLines]; rfl

/-- a cue without text lines -/
def exCue0 : CItem := { startAt := 0, endAt := 1000000000, lines := [] }

/-- one cue without text, the three CSS lines of `exDoc` -/
def exDoc0 : Subs := { items := [exCue0], styles := VTT.exDoc.styles }

theorem exDoc0_styleLines :
    VTT.styleLines exDoc0 = ["::cue(b) {".toList, "color: red".toList, "}".toList] :=
  (styleLines_congr (s := exDoc0) (t := VTT.exDoc) rfl).trans VTT.exDoc_styleLines

theorem exDoc0_ok : VTT.DocOk exDoc0 = true :=
  VTT.docOk_iff.mpr ⟨List.cons_ne_nil _ _, List.all_eq_true.mp (by decide_vector), by decide, (fun d hd => nomatch hd),
    List.nodup_nil, by rw [exDoc0_styleLines]; decide_vector,
    by unfold VTT.styleEndOk; rw [exDoc0_styleLines]; decide_vector, by decide⟩

theorem exDoc0_w2 : docW2 exDoc0 = true :=
  docW2_of_facts ⟨by decide, List.all_eq_true.mp (by decide_vector), by rw [exDoc0_styleLines]; decide_vector,
    (fun d hd => nomatch hd), by decide⟩

theorem mem_styleBlocks (s : Subs) (h : VTT.styleLines s ≠ []) :
    ("STYLE".toList :: VTT.styleLines s) ∈ styleBlocks s := by
  unfold styleBlocks
  have : (VTT.styleLines s).isEmpty = false := by
    cases hs : VTT.styleLines s with
    | nil => exact absurd hs h
    | cons a b => rfl
  rw [this]
  simp

theorem blockOK_style_false (a b : Str) (rest : List Str) :
    blockOKWith (fun _ => false) ("STYLE".toList :: a :: b :: rest) = false := by
  unfold blockOKWith
  simp only [noteLine_style, Option.isSome_none, Bool.false_eq_true, if_false]
  rw [cueTextOf_cons, if_neg (by decide)]
  simp

/-- with `ok := fun _ => false`: no text line at all, yet the written `exDoc0` is outside `InClassWith ok`,
    because `blockOKWith` asks `ok` of the second and third CSS line -/
theorem exDoc0_outside : InClassWith (fun _ => false) (VTT.unlines (VTT.docLines2 exDoc0)) = false := by
  unfold InClassWith
  rw [docBlocks_docLines2 exDoc0 exDoc0_ok exDoc0_w2]
  simp only
  rw [List.all_eq_false]
  refine ⟨"STYLE".toList :: VTT.styleLines exDoc0, ?_, ?_⟩
  · apply List.mem_append_right
    unfold restBlocks
    apply List.mem_append_left
    apply List.mem_append_left
    apply mem_styleBlocks
    rw [exDoc0_styleLines]
    exact List.cons_ne_nil _ _
  · rw [exDoc0_styleLines, blockOK_style_false]
    exact Bool.false_ne_true

theorem inClass_needs_metaText : ¬ inClass_docLines2_Statement := by
  intro h
  have := h (fun _ => false) exDoc0 exDoc0_ok exDoc0_w2 (by
    intro it hit l hl
    have : it = exCue0 := by simpa [exDoc0] using hit
    subst this
    cases hl)
  rw [exDoc0_outside] at this
  cases this

/-!
Why each conjunct of `docW2` is asked.  Of the hypotheses of `DocW2` beyond `DocOk` only `metaTextW2` (no conjunct of
`docW2`: it depends on the line class) has a machine-checked witness (`inClass_needs_metaText`);
for the others no theorem or `example` of this development shows that they are needed.

* `tsmapW2` — the decoder's `natOf` takes no sign and `tsmapLine` asks MPEGTS below 2^62.
* `commentsW2` — the decoder rejects any comment line with `-->` (`commentsOk` allows it in the first line); a later
  line starting with `NOTE<tab>` is outside the class `noteOK`.
* `regionW2` — `natOf` again (no sign), and the class `regionOK` asks at most 18 digits.
* `styleW2` — a CSS line starting with `NOTE<tab>` is an `opener` for the decoder inside a `STYLE` block.
* `cueW2`, text lines — `blockOKWith` asks `regionOK` of every line of a cue block.
* `items.length < 2^62` — `Spec.VTT.cueId` answers `none` for a number ≥ 2^62.
-/

end VTT3W
end Astisub
