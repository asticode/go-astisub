import Astisub.Lemmas.TTMLRead2Main
import Astisub.Lemmas.TTMLDocRead

/-!
# Lemmas/TTMLW2Defs — the writer's tokens as the independent decoder is fed them (C03, W2)

The `ttml.write` case of `Driver.handleTTML` prints the model's answer as `resolve w` (`w = TTML.write s`, the element
tree with the names of the struct tags) and compares it with the name-space-resolved tokens of the written bytes; the
specification predicate runs `Spec.TTML.decode ∘ specToks` on those tokens.  Here: `specToks (resolve w)` token by
token (`sTok`, `rAttr`) and the resolved names of the elements the writer emits.  "W2" is the clause "an independent
decoder reads what the writer wrote"; the class `repW` on which it is proved is in `Lemmas/TTMLW2Doc.lean`.
-/

namespace Astisub
namespace TTMLW2
open Go TTML List
open Driver.TTMLD (specToks resolve resolveEl resolveAttr nsTTML nsTTS nsTTM nsXML)

/-- an attribute of the writer's tree, name space resolved -/
def rAttr (kv : Str × Str) : XAttr := ((resolveAttr kv.1).1, (resolveAttr kv.1).2, kv.2)

/-- a token of the writer's tree as the decoder sees it -/
def sTok : WTok → Spec.TTML.Tok
  | .start n a => .start (resolveEl n).1 (resolveEl n).2 (a.map rAttr)
  | .stop _ => .stop
  | .text s => .text s

theorem specToks_resolve (w : List WTok) : specToks (resolve w) = w.map sTok := by
  unfold specToks resolve
  rw [map_map]
  apply map_congr_left
  intro t _
  cases t with
  | start n a =>
    simp only [Function.comp, sTok]
    congr 1
  | stop n => rfl
  | text s => rfl

/-! A string literal is `String.ofList` of its characters by definition (`String.toList_ofList`); the names below are
resolved on character lists. -/

theorem splitName_eq (n : Str) : Driver.TTMLD.splitName n = TTMLDoc.splitName n := rfl

theorem resolveEl_plain {n : Str} (h : ':' ∉ n) : resolveEl n = (nsTTML, n) := by
  unfold resolveEl
  rw [splitName_eq, TTMLDoc.splitName_plain h]
  exact if_neg (by decide)

theorem resolveEl_ttm {l : Str} (h : ':' ∉ l) : resolveEl ('t' :: 't' :: 'm' :: ':' :: l) = (nsTTM, l) := by
  unfold resolveEl
  rw [splitName_eq, show 't' :: 't' :: 'm' :: ':' :: l = ['t', 't', 'm'] ++ ':' :: l from rfl,
    TTMLDoc.splitName_pre (by decide) h]
  exact if_pos String.toList_ofList.symm

theorem el_tt : resolveEl "tt".toList = (nsTTML, ['t', 't']) :=
  String.toList_ofList ▸ resolveEl_plain (by decide)
theorem el_head : resolveEl "head".toList = (nsTTML, ['h', 'e', 'a', 'd']) :=
  String.toList_ofList ▸ resolveEl_plain (by decide)
theorem el_metadata : resolveEl "metadata".toList = (nsTTML, ['m', 'e', 't', 'a', 'd', 'a', 't', 'a']) :=
  String.toList_ofList ▸ resolveEl_plain (by decide)
theorem el_copyright : resolveEl "ttm:copyright".toList = (nsTTM, ['c', 'o', 'p', 'y', 'r', 'i', 'g', 'h', 't']) :=
  String.toList_ofList ▸ resolveEl_ttm (by decide)
theorem el_title : resolveEl "ttm:title".toList = (nsTTM, ['t', 'i', 't', 'l', 'e']) :=
  String.toList_ofList ▸ resolveEl_ttm (by decide)
theorem el_styling : resolveEl "styling".toList = (nsTTML, ['s', 't', 'y', 'l', 'i', 'n', 'g']) :=
  String.toList_ofList ▸ resolveEl_plain (by decide)
theorem el_style : resolveEl "style".toList = (nsTTML, ['s', 't', 'y', 'l', 'e']) :=
  String.toList_ofList ▸ resolveEl_plain (by decide)
theorem el_layout : resolveEl "layout".toList = (nsTTML, ['l', 'a', 'y', 'o', 'u', 't']) :=
  String.toList_ofList ▸ resolveEl_plain (by decide)
theorem el_region : resolveEl "region".toList = (nsTTML, ['r', 'e', 'g', 'i', 'o', 'n']) :=
  String.toList_ofList ▸ resolveEl_plain (by decide)
theorem el_body : resolveEl "body".toList = (nsTTML, ['b', 'o', 'd', 'y']) :=
  String.toList_ofList ▸ resolveEl_plain (by decide)
theorem el_div : resolveEl "div".toList = (nsTTML, ['d', 'i', 'v']) :=
  String.toList_ofList ▸ resolveEl_plain (by decide)
theorem el_p : resolveEl "p".toList = (nsTTML, ['p']) :=
  String.toList_ofList ▸ resolveEl_plain (by decide)
theorem el_span : resolveEl "span".toList = (nsTTML, ['s', 'p', 'a', 'n']) :=
  String.toList_ofList ▸ resolveEl_plain (by decide)
theorem el_br : resolveEl "br".toList = (nsTTML, ['b', 'r']) :=
  String.toList_ofList ▸ resolveEl_plain (by decide)

end TTMLW2
end Astisub
