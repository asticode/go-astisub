import Astisub.Lemmas.SRTLine

/-!
# Lemmas/SRTMerge — adjacent unstyled runs

The writer puts nothing between two adjacent runs that carry no SubRip markup, so they are read
back as one run.  `mergeS` performs that merge on the cue list; the written text does not change.
-/

namespace Astisub
namespace SRTDoc
open Go SRT List

/-- merge every maximal group of adjacent unstyled runs into one run (texts concatenated; the
    attributes of the first are kept — they carry no SubRip markup) -/
def mergePlain : List LItem → List LItem
  | [] => []
  | a :: rest =>
    match mergePlain rest with
    | b :: r => if plainRun a && plainRun b then { a with text := a.text ++ b.text } :: r else a :: b :: r
    | [] => [a]

def mergeLine (l : Line) : Line := { l with items := mergePlain l.items }
def mergeItem (it : CItem) : CItem := { it with lines := it.lines.map mergeLine }
def mergeS (s : Subs) : Subs := { s with items := s.items.map mergeItem }

/-- no run asks for a position tag -/
def noPosition (s : Subs) : Bool :=
  s.items.all fun it => it.lines.all fun l => l.items.all fun li => (kvGet li.attrs "SRTPosition").getD [] == []

theorem mergePlain_attrs (items : List LItem) : ∀ x ∈ mergePlain items, ∃ y ∈ items, x.attrs = y.attrs := by
  induction items with
  | nil => intro x hx; simp [mergePlain] at hx
  | cons a rest ih =>
    intro x hx
    simp only [mergePlain] at hx
    split at hx
    · rename_i b r hb
      split at hx
      · rcases List.mem_cons.mp hx with rfl | hx
        · exact ⟨a, by simp, rfl⟩
        · obtain ⟨y, hy, e⟩ := ih x (by rw [hb]; simp [hx])
          exact ⟨y, by simp [hy], e⟩
      · rcases List.mem_cons.mp hx with rfl | hx
        · exact ⟨x, by simp, rfl⟩
        · obtain ⟨y, hy, e⟩ := ih x (by rw [hb]; exact hx)
          exact ⟨y, by simp [hy], e⟩
    · simp at hx; subst hx; exact ⟨x, by simp, rfl⟩

theorem bytes_mergePlain (items : List LItem) (hpos : ∀ li ∈ items, NoPos li) :
    ((mergePlain items).map runBytes).flatten = (items.map runBytes).flatten := by
  induction items with
  | nil => rfl
  | cons a rest ih =>
    have ih' := ih (fun li hli => hpos li (by simp [hli]))
    have ha := hpos a (by simp)
    simp only [List.map_cons, List.flatten_cons]
    rw [← ih']
    cases hb : mergePlain rest with
    | nil => simp [mergePlain, hb]
    | cons b r =>
      by_cases hp : (plainRun a && plainRun b) = true
      · simp only [mergePlain, hb, hp, ↓reduceIte, List.map_cons, List.flatten_cons]
        simp only [Bool.and_eq_true] at hp
        have hb' : NoPos b := by
          obtain ⟨y, hy, e⟩ := mergePlain_attrs rest b (by rw [hb]; simp)
          unfold NoPos; rw [e]; exact hpos y (by simp [hy])
        have e1 : runBytes { a with text := a.text ++ b.text } = escapeHTML (a.text ++ b.text) :=
          runBytes_plain { a with text := a.text ++ b.text } ha hp.1
        rw [e1, runBytes_plain a ha hp.1, runBytes_plain b hb' hp.2, escape_append]
        simp
      · simp [mergePlain, hb, hp]

theorem itemBytes_merge (k : Nat) (it : CItem)
    (h : ∀ l ∈ it.lines, ∀ li ∈ l.items, NoPos li) :
    itemBytes k (mergeItem it) = itemBytes k it := by
  unfold itemBytes mergeItem
  simp only [List.map_map]
  have : it.lines.map (lineBytes ∘ mergeLine) = it.lines.map lineBytes := by
    apply List.map_congr_left
    intro l hl
    simp only [Function.comp, lineBytes, mergeLine]
    rw [bytes_mergePlain l.items (h l hl)]
  rw [this]

theorem write_mergeS (s : Subs) (h : noPosition s = true) : write (mergeS s) = write s := by
  have hpos : ∀ it ∈ s.items, ∀ l ∈ it.lines, ∀ li ∈ l.items, NoPos li := by
    intro it hit l hl li hli
    have := List.all_eq_true.mp (List.all_eq_true.mp (List.all_eq_true.mp h it hit) l hl) li hli
    simpa using this
  unfold write mergeS
  simp only [List.isEmpty_map]
  rw [List.zipIdx_map_congr mergeItem (fun x => itemBytes x.2 x.1) (fun x => itemBytes x.2 x.1) s.items 0
    (fun it hit k => itemBytes_merge k it (hpos it hit))]

end SRTDoc
end Astisub
