import Astisub.Lemmas.VTT3WTextA
import Astisub.Lemmas.VTTRead2TagView
import Astisub.Lemmas.SRTStr

/-!
# Lemmas/VTT3WText — W2, text part: a written cue-text line lies in the class `lineOK2`

For a line `l` with `VTT.lineFit l` and the proviso `lineW2 l` (`Lemmas/VTT3WTextA.lean`): `scanOK2_lineBody`,
`chunksOK_lineBody`, `lineOK2_lineBody` — the line lies in the class `VTTRead.lineOK2` of the read theorem (by its
`chunksOK` half: whether the line holds a timestamp is not asked); extras: `noNbsp_lineBody` (under `nbspFree l`),
`hasTs_lineBody` (under `tsFree l`).  Each scan is a property of strings that every piece the writer emits preserves; the generic
walk `lineBody_tags` carries it to the line, given what the scan needs of the bodies of the written tags.

The TTMLColor wrapper `<c.color>` does not occur: `runOk` (part of `lineOk`, hence of `lineFit`) asks
`runColor li = []`.

Why the proviso (witnesses in `Lemmas/VTT3WTextWitness.lean`):
* an inline instant in (0, 1 ms) is written `<00:00:00.000>`; the decoder reads the timestamp 0;
* a `|` or a form feed in a voice, a form feed in an annotation stands between `<` and `>`: `lineOK2`
  is false.  (A `|` cannot occur in the tags of a run: `tags_noBar`.)
The writer escapes U+00A0 as `&nbsp;`; a written piece of text is never blank (`runOk`), so it is `chunkOK`.
-/

namespace Astisub
namespace VTT3W
open Go Spec.VTT List
open VTT (runTags runOk runColor runBytesPN tsPart opensBytes closesBytes sharedWith itemsBytes lineBody)
open VTTRead (scanOK2 tsScan hasTs noNbsp lineOK2 tagCharOK chunkOK chunksOK scanOK2_false_cons scanOK2_text scanOK2_tag
  scanOK2_body tsScan_false_cons tsScan_true_cons tsScan_text tsScan_body noNbsp_cons chunkOK_nil chunksOK_nil chunksOK_text chunksOK_tag)
open SRT (escapeHTML unescapeHTML)

/-- a property of strings that every piece preserves holds for the runs of a line (`items_walk`, the open tags not
    looked at) -/
theorem items_closed (Q : Str → Prop) (WT : VTT.Tag → Prop) (WI : LItem → Prop)
    (hopen : ∀ t r, WT t → Q r → Q (VTT.Tag.startTag t ++ r))
    (hclose : ∀ t r, WT t → Q r → Q (VTT.Tag.endTag t ++ r))
    (hts : ∀ li r, WI li → Q r → Q (tsPart li ++ r))
    (htext : ∀ li r, WI li → Q r → Q (escapeHTML li.text ++ r)) (r : Str) (hr : Q r) :
    ∀ (items : List LItem) (prev : Option LItem),
      (∀ li ∈ items, runColor li = [] ∧ WI li ∧ ∀ t ∈ runTags li, WT t) → Q (itemsBytes prev items ++ r)
  | [], _, _ => by simpa [itemsBytes] using hr
  | li :: rest, prev, h =>
    items_walk (fun _ => Q) WT WI (fun t _ => hopen t) (fun t _ => hclose t) (fun li _ => hts li)
      (fun li _ => htext li) r hr rest li prev h

def NoBreak (s : Str) : Prop := ∀ c ∈ s, c ≠ '\n' ∧ c ≠ '\r'

theorem noBreak_left {a b : Str} (h : NoBreak (a ++ b)) : NoBreak a := fun c hc => h c (by simp [hc])
theorem noBreak_right {a b : Str} (h : NoBreak (a ++ b)) : NoBreak b := fun c hc => h c (by simp [hc])

/-- the `scanOK2` property of a rest of the line -/
def ScanOKRest (r : Str) : Prop := NoBreak r → scanOK2 false r = true

theorem tagCharOK_iff (c : Char) :
    tagCharOK c = true ↔ c ≠ '=' ∧ c ≠ '\x0c' ∧ c ≠ '|' ∧ c ≠ '\n' ∧ c ≠ '\r' := by
  simp [tagCharOK, and_assoc]

theorem alnum_tagCharOK {c : Char} (h : Char.isAlphanum c = true) : tagCharOK c = true := by
  rw [tagCharOK_iff]
  refine ⟨?_, ?_, ?_, ?_, ?_⟩ <;> (intro e; subst e; revert h; decide)

theorem okc_iff (c : Char) : okc c = true ↔ c ≠ '|' ∧ c ≠ '\x0c' := by
  simp [okc]

/-- no `|` in the classes and the annotation -/
def NoBar (t : VTT.Tag) : Prop := '|' ∉ t.annotation ∧ ∀ c ∈ t.classes, '|' ∉ c

/-- the tags of a run hold no `|`: the library splits the attribute at `|` -/
theorem tags_noBar (a : Attrs) : ∀ t ∈ VTT.tagsOfAttrs a, NoBar t := fun t ht =>
  have h := VTTRead.tagCanon_tagsOfAttrs a t ht
  ⟨fun hm => h.ann _ hm rfl, fun c hc hm => (h.cls c hc _ hm).2.2 rfl⟩

/-- what the scans need of a tag: well-formed, no form feed in the annotation, no `|` -/
def WT (t : VTT.Tag) : Prop := t.wf = true ∧ tagW2 t = true ∧ NoBar t

theorem WT.wf {t : VTT.Tag} (h : WT t) : t.wf = true := h.1
theorem WT.noFF {t : VTT.Tag} (h : WT t) : tagW2 t = true := h.2.1
theorem WT.noBar {t : VTT.Tag} (h : WT t) : NoBar t := h.2.2

theorem isTagWS_ff {c : Char} (h : isTagWS c = false) : c ≠ '\x0c' := by
  intro e; subst e; revert h; decide

theorem startBody_tagCharOK (t : VTT.Tag) (h : WT t) (c : Char) (hc : c ∈ startBody t)
    (hnb : c ≠ '\n' ∧ c ≠ '\r') : tagCharOK c = true := by
  have w := VTT.wf_facts h.wf
  have h2 := h.noFF
  have hbar := h.noBar
  simp only [tagW2, all_eq_true, bne_iff_ne, ne_eq] at h2
  unfold startBody at hc
  rcases mem_append.mp hc with hc | hc
  · rcases mem_append.mp hc with hc | hc
    · exact alnum_tagCharOK (w.alnum c hc)
    · unfold VTT.clsPart at hc
      split at hc
      · simp at hc
      · have hdot : tagCharOK '.' = true := by decide
        rcases mem_cons.mp hc with e | hc
        · subst e; exact hdot
        · rcases VTT.join_mem _ c hc with e | ⟨cl, hcl, hxc⟩
          · subst e; exact hdot
          · have hcc := (w.cls cl hcl).2 c hxc
            simp only [VTT.classChar, Bool.not_eq_true', Bool.or_eq_false_iff] at hcc
            have hm := (markup_safe hcc.1.1).2
            rw [tagCharOK_iff]
            exact ⟨hm, isTagWS_ff hcc.2, fun e => hbar.2 cl hcl (e ▸ hxc), hnb.1, hnb.2⟩
  · unfold VTT.annPart at hc
    split at hc
    · simp at hc
    · rcases mem_cons.mp hc with e | hc
      · subst e; decide
      · have hm := (markup_safe ((VTT.annOk_facts w.ann).2 c hc)).2
        rw [tagCharOK_iff]
        exact ⟨hm, h2 c hc, fun e => hbar.1 (e ▸ hc), hnb.1, hnb.2⟩

/-- what `scanOK2` needs of the body of a tag: no `>`, and every character but a line break is `tagCharOK` -/
def ScanBody (body : Str) : Prop :=
  (∀ c ∈ body, c ≠ '>') ∧ ∀ c ∈ body, c ≠ '\n' ∧ c ≠ '\r' → tagCharOK c = true

theorem scanOKRest_tag (body r : Str) (hb : ScanBody body) (hr : ScanOKRest r) : ScanOKRest ('<' :: (body ++ '>' :: r)) := by
  intro hnb
  have hnb2 : NoBreak (body ++ '>' :: r) := fun c hc => hnb c (mem_cons_of_mem _ hc)
  exact (scanOK2_tag _ _ hb.1).mpr ⟨fun c hc => hb.2 c hc (noBreak_left hnb2 c hc),
    hr (fun c hc => noBreak_right hnb2 c (mem_cons_of_mem _ hc))⟩

theorem scanBody_end (t : VTT.Tag) (w : VTT.WF t) : ScanBody ('/' :: t.name) := by
  refine ⟨fun c hc => (endBody_chars t w c hc).1, ?_⟩
  intro c hc _
  rcases mem_cons.mp hc with e | hc
  · subst e; decide
  · exact alnum_tagCharOK (w.alnum c hc)

/-- what the scans need of a run -/
def WI (li : LItem) : Prop := 0 ≤ li.startAt ∧ li.startAt < 360000000000000

theorem WI.lo {li : LItem} (h : WI li) : 0 ≤ li.startAt := h.1
theorem WI.hi {li : LItem} (h : WI li) : li.startAt < 360000000000000 := h.2

theorem scanBody_ts (li : LItem) (h : WI li) : ScanBody (Duration.formatVTT li.startAt) := by
  refine ⟨fun c hc => (tsBody_chars _ h.lo h.hi c hc).1, ?_⟩
  intro c hc _
  have hch := (VTT.format_facts li.startAt h.lo h.hi).1 c hc
  rw [tagCharOK_iff]
  exact ⟨timeChar_ne hch '=' (by decide), timeChar_ne hch '\x0c' (by decide), timeChar_ne hch '|' (by decide),
    timeChar_ne hch '\n' (by decide), timeChar_ne hch '\r' (by decide)⟩

theorem scanOKRest_text (t r : Str) (hr : ScanOKRest r) : ScanOKRest (escapeHTML t ++ r) := by
  intro hnb
  rw [scanOK2_text _ _ (fun c hc e => C01.escape_no_lt t (e ▸ hc))]
  exact hr (noBreak_right hnb)

theorem tsScan_tag (b : Char) (tl after : Str) (hb : isDigit b = false) (h : ∀ c ∈ b :: tl, c ≠ '>') :
    tsScan false ('<' :: ((b :: tl) ++ '>' :: after)) = tsScan false after := by
  rw [tsScan_false_cons, if_pos rfl, cons_append]
  simp only [hb, Bool.false_or]
  rw [← cons_append, tsScan_body _ _ h]

/-- the rest of the line holds no inline timestamp -/
def NoTsRest (r : Str) : Prop := tsScan false r = false

/-- what `tsScan` needs of the body of a tag: it starts with a character that is no digit, and holds no `>` -/
def NoTsBody (body : Str) : Prop := ∃ b tl, body = b :: tl ∧ isDigit b = false ∧ ∀ c ∈ b :: tl, c ≠ '>'

theorem noTsRest_tag (body r : Str) (hb : NoTsBody body) (hr : NoTsRest r) : NoTsRest ('<' :: (body ++ '>' :: r)) := by
  obtain ⟨b, tl, e, hd, hgt⟩ := hb
  unfold NoTsRest
  rw [e, tsScan_tag b tl r hd hgt]
  exact hr

theorem noTsBody_start (t : VTT.Tag) (w : VTT.WF t) : NoTsBody (startBody t) := by
  obtain ⟨x, xs, e, hx⟩ := w.head
  have hb : startBody t = x :: (xs ++ VTT.clsPart t.classes ++ VTT.annPart t.annotation) := by
    simp [startBody, e]
  exact ⟨x, _, hb, (isLetter_alpha hx).2.1, fun c hc => (startBody_chars t w c (hb ▸ hc)).gt⟩

theorem noTsRest_text (t r : Str) (hr : NoTsRest r) : NoTsRest (escapeHTML t ++ r) := by
  unfold NoTsRest
  rw [tsScan_text _ _ (fun c hc e => C01.escape_no_lt t (e ▸ hc))]
  exact hr

theorem noNbsp_skip1 (c : Char) (cs : Str) (h : c ≠ '&') : noNbsp (c :: cs) = noNbsp cs := by
  rw [noNbsp_cons, litNbsp6, Go.hasPrefix_cons_ne (fun e => h e.symm) _ _]
  rfl

theorem noNbsp_skip (x r : Str) (hx : ∀ c ∈ x, c ≠ '&') : noNbsp (x ++ r) = noNbsp r := by
  induction x with
  | nil => rfl
  | cons c x ih =>
    rw [cons_append, noNbsp_skip1 _ _ (hx c (by simp))]
    exact ih (fun d hd => hx d (by simp [hd]))

theorem noNbsp_amp (b : Char) (cs : Str) (h : b ≠ 'n') : noNbsp ('&' :: b :: cs) = noNbsp (b :: cs) := by
  rw [noNbsp_cons, litNbsp6, hasPrefix_cons, Go.hasPrefix_cons_ne (fun e => h e.symm) _ _]
  rfl

theorem noNbsp_esc1 (c : Char) (r : Str) (h : c ≠ C01.nbsp) : noNbsp (C01.esc1 c ++ r) = noNbsp r := by
  unfold C01.esc1
  by_cases h1 : c = '&'
  · rw [if_pos h1, litAmp5]
    simp only [cons_append, nil_append]
    rw [noNbsp_amp _ _ (by decide)]
    exact noNbsp_skip ['a', 'm', 'p', ';'] r (by decide)
  · rw [if_neg h1]
    by_cases h2 : c = '<'
    · rw [if_pos h2, litLt4]
      simp only [cons_append, nil_append]
      rw [noNbsp_amp _ _ (by decide)]
      exact noNbsp_skip ['l', 't', ';'] r (by decide)
    · rw [if_neg h2, if_neg h]
      exact noNbsp_skip [c] r (by intro d hd; simp at hd; subst hd; exact h1)

theorem noNbsp_esc (t r : Str) (h : C01.nbsp ∉ t) : noNbsp (escapeHTML t ++ r) = noNbsp r := by
  rw [C01.escape_eq_flatMap]
  induction t with
  | nil => rfl
  | cons c t ih =>
    rw [flatMap_cons, append_assoc, noNbsp_esc1 c _ (fun e => h (by simp [e]))]
    exact ih (fun hm => h (by simp [hm]))

/-- the rest of the line holds no `&nbsp;` -/
def NoNbspRest (r : Str) : Prop := noNbsp r = true

theorem noNbspRest_tag (body r : Str) (hb : ∀ c ∈ body, c ≠ '>' ∧ c ≠ '<' ∧ c ≠ '&') (hr : NoNbspRest r) :
    NoNbspRest ('<' :: (body ++ '>' :: r)) := by
  unfold NoNbspRest
  rw [noNbsp_skip1 _ _ (by decide), noNbsp_skip body _ (fun c hc => (hb c hc).2.2), noNbsp_skip1 _ _ (by decide)]
  exact hr

theorem noNbspRest_text (t r : Str) (h : C01.nbsp ∉ t) (hr : NoNbspRest r) : NoNbspRest (escapeHTML t ++ r) := by
  unfold NoNbspRest
  rw [noNbsp_esc t r h]
  exact hr

/-- empty or visible -/
def GoodU (u : Str) : Prop := u = [] ∨ trimSpace u ≠ []

theorem chunkOK_esc (u : Str) (h : GoodU u) : chunkOK (escapeHTML u) = true := by
  rcases h with h | h
  · subst h; rw [escape_nil]; exact chunkOK_nil
  · unfold chunkOK
    rw [C01.unescape_escape, decide_eq_false h, decide_eq_false (VTT.escape_nonblank h)]
    rfl

theorem goodU_append (u t : Str) (h : trimSpace t ≠ []) : GoodU (u ++ t) := by
  right
  obtain ⟨c, hc, hs⟩ := VTT.exists_nonspace h
  exact Go.trimSpace_ne_nil_of_mem (c := c) (by simp [hc]) hs

/-- the `chunksOK` property of a rest of the line: from any piece `escapeHTML u` read so far -/
def ChunksOKRest (r : Str) : Prop := ∀ u, GoodU u → chunksOK false r (escapeHTML u).reverse = true

theorem chunksOKRest_nil : ChunksOKRest [] := by
  intro u hu
  rw [chunksOK_nil, reverse_reverse]
  exact chunkOK_esc u hu

theorem chunksOKRest_tag (body r : Str) (hb : ∀ c ∈ body, c ≠ '>') (hr : ChunksOKRest r) : ChunksOKRest ('<' :: (body ++ '>' :: r)) := by
  intro u hu
  rw [chunksOK_tag body r _ hb, reverse_reverse, chunkOK_esc u hu, Bool.true_and]
  have := hr [] (Or.inl rfl)
  rw [escape_nil] at this
  exact this

theorem chunksOKRest_text (t r : Str) (h : trimSpace t ≠ []) (hr : ChunksOKRest r) : ChunksOKRest (escapeHTML t ++ r) := by
  intro u hu
  rw [chunksOK_text _ (fun c hc e => C01.escape_no_lt t (e ▸ hc)), ← reverse_append, ← escape_append]
  exact hr (u ++ t) (goodU_append u t h)

theorem line_closed (Q : Str → Prop) (l : Line)
    (hvoice : l.voice ≠ [] → ∀ r, Q r → Q (("<v ".toList ++ l.voice ++ ['>']) ++ r))
    (hitems : Q (itemsBytes none l.items)) : Q (lineBody l) := by
  unfold lineBody
  by_cases hvn : l.voice = []
  · rw [if_neg (by simpa using hvn), nil_append]; exact hitems
  · rw [if_pos hvn]; exact hvoice hvn _ hitems

structure LineFacts (l : Line) : Prop where
  voice : l.voice ≠ [] → VTT.voiceOk l.voice = true
  voiceC : l.voice.all okc = true
  runs : ∀ li ∈ l.items, runColor li = [] ∧ WI li ∧ ∀ t ∈ runTags li, WT t
  noBreak : NoBreak (lineBody l)
  visible : ∀ li ∈ l.items, trimSpace li.text ≠ []

theorem lineFacts {l : Line} (hfit : VTT.lineFit l = true) (hx : lineW2 l = true) : LineFacts l := by
  have hok := (VTT.lineFit_facts hfit).ok
  simp only [VTT.lineOk, Bool.and_eq_true, Bool.or_eq_true, beq_iff_eq, all_eq_true] at hok
  obtain ⟨⟨hv, hruns⟩, _⟩ := hok
  have hbr := (VTT.lineFit_facts hfit).one
  simp only [lineW2, Bool.and_eq_true, all_eq_true, runW2] at hx
  obtain ⟨hvc, hw⟩ := hx
  refine ⟨?_, all_eq_true.mpr hvc, ?_, fun c hc => ⟨fun e => hbr.1 (e ▸ hc), fun e => hbr.2 (e ▸ hc)⟩, ?_⟩
  · intro hne
    rcases hv with h | h
    · exact absurd h hne
    · exact h
  · intro li hm
    have F := VTT.runOk_facts (hruns li hm)
    exact ⟨F.col, ⟨F.t0, F.t1⟩, fun t ht => ⟨F.wf t ht, (hw li hm).2 t ht, tags_noBar li.attrs t ht⟩⟩
  · intro li hm
    exact (VTT.runOk_facts (hruns li hm)).nb

/-- a property of strings that the run texts (with `P`) preserve and that every tag `<body>` with `B body` preserves
    holds for the written line, when `B` holds of the bodies of the tags the writer emits -/
theorem lineBody_tags (Q : Str → Prop) (B : Str → Prop) (P : LItem → Prop) (l : Line) (F : LineFacts l)
    (hP : ∀ li ∈ l.items, P li) (hnil : Q [])
    (htag : ∀ body r, B body → Q r → Q ('<' :: (body ++ '>' :: r)))
    (htext : ∀ li r, P li → Q r → Q (escapeHTML li.text ++ r))
    (bstart : ∀ t, WT t → B (startBody t)) (bend : ∀ t, WT t → B ('/' :: t.name))
    (bts : ∀ li, WI li → P li → tsPart li = [] ∨ B (Duration.formatVTT li.startAt))
    (bvoice : l.voice ≠ [] → B ('v' :: ' ' :: l.voice)) : Q (lineBody l) := by
  apply line_closed Q l (fun hne r hr => by rw [voice_tag_eq]; exact htag _ r (bvoice hne) hr)
  have := items_closed Q WT (fun li => WI li ∧ P li)
    (fun t r h hr => by rw [startTag_append t (VTT.wf_facts h.wf).name_ne]; exact htag _ r (bstart t h) hr)
    (fun t r h hr => by rw [endTag_append t (VTT.wf_facts h.wf).name_ne]; exact htag _ r (bend t h) hr)
    (fun li r h hr => by
      rcases bts li h.1 h.2 with e | hb
      · rw [e]; exact hr
      · unfold tsPart
        split
        · rw [tsText_append]; exact htag _ r hb hr
        · simpa using hr)
    (fun li r h hr => htext li r h.2 hr) [] hnil l.items none
    (fun li hm => ⟨(F.runs li hm).1, ⟨(F.runs li hm).2.1, hP li hm⟩, (F.runs li hm).2.2⟩)
  simpa using this

/-- the case of a property that only needs tag bodies free of `<`, `>`, `&` -/
theorem lineBody_safeTags (Q : Str → Prop) (P : LItem → Prop) (l : Line) (F : LineFacts l) (hP : ∀ li ∈ l.items, P li)
    (hnil : Q [])
    (htag : ∀ body r, (∀ c ∈ body, c ≠ '>' ∧ c ≠ '<' ∧ c ≠ '&') → Q r → Q ('<' :: (body ++ '>' :: r)))
    (htext : ∀ li r, P li → Q r → Q (escapeHTML li.text ++ r)) : Q (lineBody l) :=
  lineBody_tags Q _ P l F hP hnil htag htext
    (fun t h c hc => safe3 (startBody_chars t (VTT.wf_facts h.wf) c hc)) (fun t h => endBody_chars t (VTT.wf_facts h.wf))
    (fun _ h _ => Or.inr (tsBody_chars _ h.lo h.hi)) (fun hne => voice_chars l.voice (F.voice hne))

theorem scanOK2_lineBody (l : Line) (hfit : VTT.lineFit l = true) (hx : lineW2 l = true) :
    VTTRead.scanOK2 false (VTT.lineBody l) = true := by
  have F := lineFacts hfit hx
  have hv : l.voice ≠ [] → ScanBody ('v' :: ' ' :: l.voice) := by
    intro hne
    have hv2 := F.voice hne
    simp only [VTT.voiceOk, Bool.and_eq_true, bne_iff_ne, ne_eq] at hv2
    refine ⟨fun c hc => (voice_chars l.voice (F.voice hne) c hc).1, ?_⟩
    intro c hm hb
    rcases mem_cons.mp hm with e | hm
    · subst e; decide
    · rcases mem_cons.mp hm with e | hm
      · subst e; decide
      · have ho := (okc_iff c).mp (all_eq_true.mp F.voiceC c hm)
        rw [tagCharOK_iff]
        exact ⟨(markup_safe ((VTT.annOk_facts hv2.2).2 c hm)).2, ho.2, ho.1, hb.1, hb.2⟩
  have h1 : ScanOKRest (lineBody l) := lineBody_tags ScanOKRest ScanBody (fun _ => True) l F (fun _ _ => trivial) (fun _ => rfl) scanOKRest_tag
    (fun li r _ hr => scanOKRest_text li.text r hr)
    (fun t h => ⟨fun c hc => (startBody_chars t (VTT.wf_facts h.wf) c hc).gt, startBody_tagCharOK t h⟩)
    (fun t h => scanBody_end t (VTT.wf_facts h.wf)) (fun li h _ => Or.inr (scanBody_ts li h)) hv
  exact h1 F.noBreak

/-- without U+00A0 in the texts, `&nbsp;` does not occur in the written line
    (`hx` is not needed for this: it is asked because `lineFacts` takes it) -/
theorem noNbsp_lineBody (l : Line) (hfit : VTT.lineFit l = true) (hx : lineW2 l = true)
    (hn : nbspFree l = true) : VTTRead.noNbsp (VTT.lineBody l) = true := by
  have F := lineFacts hfit hx
  simp only [nbspFree, all_eq_true, Bool.not_eq_true'] at hn
  have hn' : ∀ li ∈ l.items, C01.nbsp ∉ li.text := by
    intro li hm hc
    have := hn li hm
    rw [contains_eq_mem, decide_eq_false_iff_not] at this
    exact this hc
  exact lineBody_safeTags NoNbspRest (fun li => C01.nbsp ∉ li.text) l F hn' rfl noNbspRest_tag (fun li r h hr => noNbspRest_text li.text r h hr)

theorem hasTs_lineBody (l : Line) (hfit : VTT.lineFit l = true) (hx : lineW2 l = true)
    (hz : tsFree l = true) : VTTRead.hasTs (VTT.lineBody l) = false := by
  have F := lineFacts hfit hx
  simp only [tsFree, all_eq_true, beq_iff_eq] at hz
  have h2 : NoTsRest (lineBody l) := lineBody_tags NoTsRest NoTsBody (fun li => li.startAt = 0) l F hz rfl noTsRest_tag
    (fun li r _ hr => noTsRest_text li.text r hr) (fun t h => noTsBody_start t (VTT.wf_facts h.wf))
    (fun t h => ⟨'/', t.name, rfl, by decide, fun c hc => (endBody_chars t (VTT.wf_facts h.wf) c hc).1⟩)
    (fun li _ h => Or.inl (by unfold tsPart; rw [h]; rfl))
    (fun hne => ⟨'v', ' ' :: l.voice, rfl, by decide, fun c hc => (voice_chars l.voice (F.voice hne) c hc).1⟩)
  exact h2

theorem chunksOK_lineBody (l : Line) (hfit : VTT.lineFit l = true) (hx : lineW2 l = true) :
    VTTRead.chunksOK false (VTT.lineBody l) [] = true := by
  have F := lineFacts hfit hx
  have h4 : ChunksOKRest (lineBody l) := lineBody_safeTags ChunksOKRest (fun li => trimSpace li.text ≠ []) l F F.visible chunksOKRest_nil
    (fun body r hb hr => chunksOKRest_tag body r (fun c hc => (hb c hc).1) hr) (fun li r h hr => chunksOKRest_text li.text r h hr)
  have := h4 [] (Or.inl rfl)
  rw [escape_nil] at this
  exact this

theorem lineOK2_lineBody (l : Line) (hfit : VTT.lineFit l = true) (hx : lineW2 l = true) :
    VTTRead.lineOK2 (VTT.lineBody l) = true := by
  unfold VTTRead.lineOK2
  rw [scanOK2_lineBody l hfit hx, chunksOK_lineBody l hfit hx, Bool.or_true]
  rfl

end VTT3W
end Astisub
