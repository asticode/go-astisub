import Astisub.Model.TTML
import Astisub.Props.C16

/-!
# Lemmas/TTMLTime — the TTML time-expression recognisers on digit fields, and the shapes of a time expression

`TTML.offsetTime`, `clockFrames`, `countColons` on strings made of digit fields; then `timeExpr` / `instant` once per
shape of a time expression (offset `I[.F]<metric>`, clock text, clock text with fraction, clock text with frames), on
fields of any width: `Props/C03` (two-digit fields) and the read clause (`Lemmas/TTMLRead2Time`, the shapes
`Spec.TTML.denote` accepts) are instances.  The digit facts are stated on `TTML.natOfDigits` / `TTML.isDigit` because
`Props/C03` states its theorems on them (with `Go.natOfDigits` of `Lemmas/Digits` in scope its bare `natOfDigits` would
be ambiguous).  `TTML.natOfDigits` has the body of `Go.natOfDigits` (`Go/Numconv`), which for that reason cannot be
imported here; so the facts `Lemmas/Digits` has for the one are proved here for the other (`TTML.isDigit` is identified
there, `TTML.isDigit_eq`, for the files behind `Props/C03`).  Values and `atoi` come from the numerals of `Lemmas/Str` through
`numeral_of_digits`, `Duration.parse` on a clock text (`Clock.HMS`) from `Ovf.parse_clock(_frac)` of `Props/C16`.
-/

namespace Astisub
namespace TTML
open Go Duration List C16

theorem isDigit_digitChar {k : Nat} (h : k < 10) : isDigit (digitChar k) = true := by
  rcases digitChar_lt h with h|h|h|h|h|h|h|h|h|h <;> subst h <;> decide

theorem _root_.Astisub.Go.DigitStr.isDigit {s : Str} (h : DigitStr s) : ∀ c ∈ s, TTML.isDigit c = true := by
  intro c hc; obtain ⟨k, hk, rfl⟩ := h c hc; exact isDigit_digitChar hk

theorem _root_.Astisub.Go.DigitStr.ne_colon {s : Str} (h : DigitStr s) : ∀ c ∈ s, (c != ':') = true := by
  intro c hc; obtain ⟨k, hk, rfl⟩ := h c hc
  have := digitChar_ne_colon hk
  simp [this]

theorem natOfDigits_append (a b : Str) :
    natOfDigits (a ++ b) = b.foldl (fun x c => x * 10 + (c.toNat - 48)) (natOfDigits a) := by
  simp [natOfDigits, foldl_append]

theorem digitsVal_digits {s : Str} (h : DigitStr s) (acc : Nat) :
    digitsVal s acc = some (s.foldl (fun a c => a * 10 + (c.toNat - 48)) acc) := by
  induction s generalizing acc with
  | nil => rfl
  | cons c cs ih =>
    obtain ⟨k, hk, hc⟩ := h c (by simp)
    subst hc
    simp only [digitsVal, digitVal_digitChar hk, foldl_cons, digitChar_toNat_sub hk]
    exact ih h.tail _

theorem numeral_of_digits {s : Str} (h : DigitStr s) (hne : s ≠ []) : Numeral s (natOfDigits s) := by
  cases s with
  | nil => exact absurd rfl hne
  | cons c cs => exact digitsVal_digits h 0

theorem atoi_digits {s : Str} (h : DigitStr s) (hne : s ≠ [])
    (hle : natOfDigits s ≤ 9223372036854775807) : atoi s = some (natOfDigits s : Int) :=
  (numeral_of_digits h hne).atoi hle

theorem natOfDigits_lt {s : Str} (h : DigitStr s) : natOfDigits s < 10 ^ s.length := by
  cases s with
  | nil => decide
  | cons c cs => exact (numeral_of_digits h (cons_ne_nil _ _)).lt

theorem isEmpty_false {s : Str} (h : s ≠ []) : s.isEmpty = false := by
  cases s with
  | nil => exact absurd rfl h
  | cons _ _ => rfl

theorem offsetTime_plain {ip : Str} (hip : DigitStr ip) (hne : ip ≠ []) {c : Char} (r : Str)
    (hc : isDigit c = false) (hdot : c ≠ '.') :
    offsetTime (ip ++ c :: r) = if metrics.contains (c :: r) then some (ip, [], c :: r) else none := by
  unfold offsetTime
  rw [takeWhile_append_stop r hip.isDigit hc, dropWhile_append_stop r hip.isDigit hc]
  simp only [isEmpty_false hne, Bool.false_eq_true, ↓reduceIte]
  split
  · rename_i r' heq
    simp at heq
    exact absurd heq.1 hdot
  · rfl

theorem offsetTime_frac {ip fp : Str} (hip : DigitStr ip) (hne : ip ≠ []) (hfp : DigitStr fp)
    (hfne : fp ≠ []) {c : Char} (r : Str) (hc : isDigit c = false) :
    offsetTime (ip ++ '.' :: (fp ++ c :: r))
      = if metrics.contains (c :: r) then some (ip, fp, c :: r) else none := by
  unfold offsetTime
  rw [takeWhile_append_stop _ hip.isDigit (by decide), dropWhile_append_stop _ hip.isDigit (by decide)]
  simp only [isEmpty_false hne, Bool.false_eq_true, ↓reduceIte]
  rw [takeWhile_append_stop r hfp.isDigit hc, dropWhile_append_stop r hfp.isDigit hc]
  simp only [isEmpty_false hfne, Bool.false_eq_true, ↓reduceIte]

theorem offsetTime_colon {ip : Str} (hip : DigitStr ip) (r : Str) :
    offsetTime (ip ++ ':' :: r) = none := by
  by_cases hne : ip = []
  · subst hne
    simp [offsetTime, show isDigit ':' = false by decide]
  · rw [offsetTime_plain hip hne r (by decide) (by decide), if_neg (by simp [metrics])]

theorem countColons_digits {s : Str} (h : DigitStr s) : countColons s = 0 := by
  unfold countColons
  rw [length_eq_zero_iff, filter_eq_nil_iff]
  intro c hc
  have := h.ne_colon c hc
  simpa using this

theorem countColons_append (a b : Str) : countColons (a ++ b) = countColons a + countColons b := by
  simp [countColons]

theorem countColons_colon (b : Str) : countColons (':' :: b) = 1 + countColons b := by
  simp [countColons]; omega

theorem clockFrames_digits (pre : Str) {suf : Str} (h : DigitStr suf) (hne : suf ≠ []) :
    clockFrames (pre ++ ':' :: suf) = some (pre, suf) := by
  have hrev : ∀ x ∈ suf.reverse, (fun c : Char => c != ':') x = true := by
    intro x hx; exact h.ne_colon x (by simpa using hx)
  have e : (pre ++ ':' :: suf).reverse = suf.reverse ++ ':' :: pre.reverse := by simp
  unfold clockFrames
  rw [e, takeWhile_append_stop _ hrev (by decide), dropWhile_append_stop _ hrev (by decide)]
  have hall : suf.all isDigit = true := by
    rw [all_eq_true]; exact h.isDigit
  simp [isEmpty_false hne, hall]

theorem natOfDigits_dd {v : Nat} (h : v < 100) : natOfDigits (dd v) = v :=
  Option.some.inj ((numeral_of_digits (digitStr_dd h) (cons_ne_nil _ _)).symm.trans (Numeral.dd h))

theorem natOfDigits_ddd {v : Nat} (h : v < 1000) : natOfDigits (ddd v) = v :=
  Option.some.inj ((numeral_of_digits (digitStr_ddd h) (cons_ne_nil _ _)).symm.trans (Numeral.ddd h))

/-! ## the shapes of a time expression

`I[.F]<metric>` (offset; metric a time unit, or `f` / `t`), a clock text `[H:]M:S` (`Clock.HMS`), a clock text with
fraction `….F`, and `H:M:S:FF` (frames): `timeExpr` / `instant` once per shape, on fields of any width. -/

/-- `I[.F]`: integer digits, and the fraction digits behind a dot when there are any -/
def decText (ip fp : Str) : Str := if fp = [] then ip else ip ++ '.' :: fp

theorem metrics_chars : metrics = [['h'], ['m'], ['s'], ['m', 's'], ['f'], ['t']] := by simp [metrics]

theorem mem_metrics {m : Str} (hm : m ∈ metrics) : ∃ c r, m = c :: r ∧ isDigit c = false ∧ c ≠ '.' := by
  rw [metrics_chars] at hm
  simp only [mem_cons, not_mem_nil, or_false] at hm
  rcases hm with rfl | rfl | rfl | rfl | rfl | rfl <;> exact ⟨_, _, rfl, by decide, by decide⟩

theorem offsetTime_decText {ip fp m : Str} (hip : DigitStr ip) (hne : ip ≠ []) (hfp : DigitStr fp) (hm : m ∈ metrics) :
    offsetTime (decText ip fp ++ m) = some (ip, fp, m) := by
  obtain ⟨c, r, rfl, hc, hdot⟩ := mem_metrics hm
  have hc' : metrics.contains (c :: r) = true := by simpa using hm
  unfold decText
  by_cases hf : fp = []
  · rw [if_pos hf, hf, offsetTime_plain hip hne r hc hdot, if_pos hc']
  · rw [if_neg hf, append_assoc, cons_append, offsetTime_frac hip hne hfp hf r hc, if_pos hc']

theorem unitsDuration_num (n : Nat) (fp : Str) :
    ((n : Int) * (10 : Int) ^ fp.length + (natOfDigits fp : Int)) * 1000000000
      = (((n * 10 ^ fp.length + natOfDigits fp) * 1000000000 : Nat) : Int) := by
  simp only [Int.natCast_mul, Int.natCast_add, Int.natCast_pow]; rfl

theorem unitsDuration_den (rate : Nat) (fp : Str) :
    (10 : Int) ^ fp.length * (rate : Int) = ((10 ^ fp.length * rate : Nat) : Int) := by
  simp only [Int.natCast_mul, Int.natCast_pow]; rfl

theorem unitsDuration_floor (n rate : Nat) (fp : Str) :
    unitsDuration (n : Int) fp (rate : Int)
      = (((n * 10 ^ fp.length + natOfDigits fp) * 1000000000 / (10 ^ fp.length * rate) : Nat) : Int) := by
  unfold unitsDuration
  rw [unitsDuration_num, unitsDuration_den, Int.tdiv_eq_ediv_of_nonneg (Int.natCast_nonneg _)]
  exact (Int.natCast_ediv _ _).symm

theorem unitsDuration_zero (rate : Int) : unitsDuration 0 [] rate = 0 := by
  simp [unitsDuration, natOfDigits]

/-- the test `n > 0 ∨ fraction ≠ ""` of `duration()` fails at a positive rate: nothing was counted -/
theorem count_zero {N : Nat} {fp : Str} {rate : Int} (hr : 0 < rate) (h : ¬ (((N : Int) > 0 ∨ fp ≠ []) ∧ rate > 0)) :
    N = 0 ∧ fp = [] := by
  have : ¬ ((N : Int) > 0 ∨ fp ≠ []) := fun x => h ⟨x, hr⟩
  simp only [not_or, Decidable.not_not] at this
  exact ⟨by omega, this.2⟩

/-- a count of frames (no ticks) at a positive frame rate is added to the clock value; a zero count adds zero, which
    is also what `duration()` answers when it skips the frames -/
theorem duration_frameCount (D : Int) (F : Nat) (fp : Str) (fr tr : Int) (hfr : 0 < fr) :
    duration { d := D, frames := F, framesFraction := fp } fr tr = D + unitsDuration F fp fr := by
  unfold duration
  rw [if_neg (by simp)]
  by_cases h : ((F : Int) > 0 ∨ fp ≠ []) ∧ fr > 0
  · rw [if_pos h]
  · rw [if_neg h]
    rw [(count_zero hfr h).1, (count_zero hfr h).2]
    show D = D + unitsDuration 0 [] fr
    rw [unitsDuration_zero]; omega

theorem duration_tickCount (T : Nat) (fp : Str) (fr tr : Int) (htr : 0 < tr) :
    duration { ticks := T, ticksFraction := fp } fr tr = unitsDuration T fp tr := by
  unfold duration
  by_cases h : ((T : Int) > 0 ∨ fp ≠ []) ∧ tr > 0
  · rw [if_pos h]
  · rw [if_neg h, if_neg (by simp)]
    rw [(count_zero htr h).1, (count_zero htr h).2]
    exact (unitsDuration_zero tr).symm

/-- **Offset in frames or ticks.** `I[.F]u`, `u` = `t` at tick rate `R` (any frame rate) or `f` at frame rate `R` (any
    tick rate), resolves to `⌊(I·10^k + F)·10⁹ / (10^k·R)⌋` ns, `k = |F|` -/
theorem instant_units {ip fp u : Str} (hip : DigitStr ip) (hne : ip ≠ []) (hfp : DigitStr fp)
    (hmax : natOfDigits ip ≤ 9223372036854775807) (fr tr : Int) (R : Nat) (hR : 0 < R)
    (hu : (u = "t".toList ∧ tr = R) ∨ (u = "f".toList ∧ fr = R)) :
    instant (decText ip fp ++ u) fr tr
      = some (((natOfDigits ip * 10 ^ fp.length + natOfDigits fp) * 1000000000 / (10 ^ fp.length * R) : Nat) : Int) := by
  have hft : ¬ ("f".toList = "t".toList) := by decide
  unfold instant timeExpr
  rcases hu with ⟨rfl, rfl⟩ | ⟨rfl, rfl⟩
  · rw [offsetTime_decText hip hne hfp (by simp [metrics])]
    simp only [↓reduceIte, atoi_digits hip hne hmax, Option.map_some]
    rw [duration_tickCount _ _ _ _ (by omega), unitsDuration_floor]
  · rw [offsetTime_decText hip hne hfp (by simp [metrics])]
    simp only [hft, ↓reduceIte, atoi_digits hip hne hmax, Option.map_some]
    rw [duration_frameCount _ _ _ _ _ (by omega), unitsDuration_floor, Int.zero_add]

theorem timeExpr_offset {ip fp m : Str} (hip : DigitStr ip) (hne : ip ≠ []) (hfp : DigitStr fp)
    (hm : m ∈ metrics) (ht : m ≠ "t".toList) (hf : m ≠ "f".toList)
    (hV : (natOfDigits (ip ++ fp) : Int) * timebase m / (10 : Int) ^ fp.length ≤ 9223372036854775807) :
    timeExpr (decText ip fp ++ m)
      = some { d := (natOfDigits (ip ++ fp) : Int) * timebase m / (10 : Int) ^ fp.length } := by
  unfold timeExpr
  rw [offsetTime_decText hip hne hfp hm]
  simp only [ht, hf, ↓reduceIte, offsetDuration, hV, Option.map_some]

theorem timeExpr_parse {text : Str} (hoff : offsetTime text = none) (hcc : countColons text ≠ 3) :
    timeExpr text = (parse text '.' 3).map fun d => { d := d } := by
  unfold timeExpr
  rw [hoff]
  simp only [hcc, ↓reduceIte]

section clock
open Clock (HMS)
variable {x : Str} {H M S : Nat}

/-- a clock text is no offset time, whatever follows it: its first digits are followed by `:` -/
theorem clock_offsetTime (hx : HMS x H M S) (tail : Str) : offsetTime (x ++ tail) = none := by
  cases hx with
  | three hh _ _ => rw [append_assoc, cons_append]; exact offsetTime_colon hh.digitStr _
  | two hm _ => rw [append_assoc, cons_append]; exact offsetTime_colon hm.digitStr _

theorem colons_three {h m s : Str} (hh : Numeral h H) (hm : Numeral m M) (hs : Numeral s S) :
    countColons (h ++ ':' :: (m ++ ':' :: s)) = 2 := by
  simp only [countColons_append, countColons_colon, countColons_digits hh.digitStr, countColons_digits hm.digitStr,
    countColons_digits hs.digitStr]

theorem clock_colons (hx : HMS x H M S) : countColons x ≤ 2 := by
  cases hx with
  | three hh hm hs => exact Nat.le_of_eq (colons_three hh hm hs)
  | two hm hs =>
    simp only [countColons_append, countColons_colon, countColons_digits hm.digitStr, countColons_digits hs.digitStr]
    decide

theorem countColons_dotDigits {f : Str} (hf : DigitStr f) : countColons ('.' :: f) = 0 := by
  rw [show countColons ('.' :: f) = countColons f by simp [countColons], countColons_digits hf]

theorem timeExpr_frac_parse (hx : HMS x H M S) {f : Str} (hf : DigitStr f) :
    timeExpr (x ++ '.' :: f) = (parse (x ++ '.' :: f) '.' 3).map fun d => { d := d } := by
  have := clock_colons hx
  exact timeExpr_parse (clock_offsetTime hx _) (by rw [countColons_append, countColons_dotDigits hf]; omega)

variable (hx : HMS x H M S) (hH : H ≤ int64Max) (hM : M ≤ int64Max) (hS : S ≤ int64Max)
include hx hH hM hS

/-- **`[H:]M:S`** — at most three fields are never frames (D8) -/
theorem timeExpr_hms :
    timeExpr x = some { d := (S : Int) * nsPerS + (M : Int) * nsPerMin + (H : Int) * nsPerH } := by
  have hp := Ovf.parse_clock (w1 := []) (w2 := []) (.inl rfl) hx hH hM hS (fun _ h => nomatch h) (fun _ h => nomatch h) 3
  rw [nil_append, append_nil] at hp
  have hoff := clock_offsetTime hx []
  rw [append_nil] at hoff
  rw [timeExpr_parse hoff (by have := clock_colons hx; omega), hp]
  rfl

theorem timeExpr_hms_frac {f : Str} {F : Nat} (hf : Numeral f F) (hl : f.length ≤ 3) :
    timeExpr (x ++ '.' :: f)
      = some { d := (F : Int) * (10 : Int) ^ (3 - f.length) * nsPerMs + (S : Int) * nsPerS + (M : Int) * nsPerMin
                    + (H : Int) * nsPerH } := by
  have hp := Ovf.parse_clock_frac (w1 := []) (w2 := []) (.inl rfl) hx hH hM hS hf hl (fun _ h => nomatch h)
    (fun _ h => nomatch h) 3
  rw [nil_append, append_nil] at hp
  rw [timeExpr_frac_parse hx hf.digitStr, hp]
  rfl

theorem timeExpr_hms_frames (hc : countColons x = 2) {ff : Str} {F : Nat} (hf : Numeral ff F) (hF : F ≤ int64Max) :
    timeExpr (x ++ ':' :: ff)
      = some { d := (S : Int) * nsPerS + (M : Int) * nsPerMin + (H : Int) * nsPerH, frames := (F : Int) } := by
  have hcc : countColons (x ++ ':' :: ff) = 3 := by
    rw [countColons_append, countColons_colon, countColons_digits hf.digitStr, hc]
  have hz : ".000".toList = '.' :: ddd 0 := by decide
  have hp := Ovf.parse_clock_frac (w1 := []) (w2 := []) (.inl rfl) hx hH hM hS (Numeral.ddd (v := 0) (by decide))
    (Nat.le_refl 3) (fun _ h => nomatch h) (fun _ h => nomatch h) 3
  rw [nil_append, append_nil] at hp
  unfold timeExpr
  rw [clock_offsetTime hx _]
  simp only [hcc, ↓reduceIte]
  rw [clockFrames_digits _ hf.digitStr hf.ne_nil]
  simp only [hf.atoi hF, hz, hp, Option.map_some]
  simp

end clock

end TTML
end Astisub
