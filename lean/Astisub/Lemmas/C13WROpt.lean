import Astisub.Model.Subs
import Astisub.Props.C13
import Astisub.Lemmas.ListFacts

/-!
# Lemmas/C13WROpt — `Optimize` and `RemoveStyling` on the cue model `Subs`, and the bridge to the graph model of C13

(`C13WR`: the write → read part of C13, `Props/C13doc.lean`.)

## the pointer chain behind a style reference of a `Subs`

In `Subs` (`Model/Subs.lean`) a reference to a style is an identifier; the definition it names
(the first one of `styles` with that identifier) may itself refer to a parent style.  The graph model
of C13 (`Model/Graph.lean`) sees a reference as the list of identifiers read along the pointer chain,
"a cyclic chain being cut where it first revisits an object".  `chain` computes exactly that list:
it follows `parentRef`, remembers what it visited (`seen`) and carries fuel.  `Walk` says the same without
fuel, as a relation; with fuel above the number of definitions `chain` computes the walk (`walk_chain`, a
pigeonhole argument — the one place where fuel is spoken of), a walk is unique, and everything else (no
repetition, parent-closedness, what follows an identifier, deleting definitions off the chain) is an
induction on `Walk`.
-/

namespace Astisub
namespace C13WR
open Go List

/-- the definition an identifier names: the first one carrying it -/
def findDef (st : List Def) (id : Str) : Option Def := st.find? (fun d => d.id = id)

/-- the parent reference of the style an identifier names (`none`: no such style, or no parent) -/
def parentRef (st : List Def) (id : Str) : Option Str := (findDef st id).bind (·.ref)

/-- identifiers along the pointer chain of reference `x`: `x.ID, x.Style.ID, …`, cut where it first
    revisits an identifier (`seen`) — or when the fuel is spent -/
def chain (st : List Def) : Nat → List Str → Option Str → List Str
  | _, _, none => []
  | 0, _, some _ => []
  | n + 1, seen, some id => if id ∈ seen then [] else id :: chain st n (id :: seen) (parentRef st id)

/-- the chain of a reference, as the graph model sees it (fuel: one more than there are definitions) -/
def chainOf (st : List Def) (x : Option Str) : List Str := chain st (st.length + 1) [] x

theorem chain_none (st : List Def) (n : Nat) (seen : List Str) : chain st n seen none = [] := by
  cases n <;> rfl

theorem chain_succ (st : List Def) (n : Nat) (seen : List Str) (id : Str) :
    chain st (n + 1) seen (some id)
      = if id ∈ seen then [] else id :: chain st n (id :: seen) (parentRef st id) := rfl

theorem findDef_some {st : List Def} {id : Str} {d : Def} (h : findDef st id = some d) : d ∈ st ∧ d.id = id := by
  unfold findDef at h
  exact ⟨mem_of_find?_eq_some h, by simpa using find?_some h⟩

theorem findDef_none {st : List Def} {id : Str} (h : findDef st id = none) : ∀ d ∈ st, d.id ≠ id := by
  unfold findDef at h
  intro d hd
  simpa using (find?_eq_none.mp h) d hd

theorem findDef_of_mem {st : List Def} (hnd : (st.map (·.id)).Nodup) {d : Def} (hd : d ∈ st) :
    findDef st d.id = some d := by
  induction st with
  | nil => cases hd
  | cons a rest ih =>
    simp only [map_cons, nodup_cons] at hnd
    unfold findDef
    rw [find?_cons]
    by_cases ha : a.id = d.id
    · simp only [ha, decide_true]
      rcases mem_cons.mp hd with rfl | hd'
      · rfl
      · exact absurd (ha ▸ mem_map.mpr ⟨d, hd', rfl⟩) hnd.1
    · simp only [ha, decide_false]
      rcases mem_cons.mp hd with rfl | hd'
      · exact absurd rfl ha
      · exact ih hnd.2 hd'

theorem parentRef_of_mem {st : List Def} (hnd : (st.map (·.id)).Nodup) {d : Def} (hd : d ∈ st) :
    parentRef st d.id = d.ref := by
  unfold parentRef
  rw [findDef_of_mem hnd hd]
  rfl

/-- how many definitions carry an identifier not visited yet -/
def unseen (st : List Def) (seen : List Str) : Nat := (st.filter (fun d => decide (d.id ∉ seen))).length

theorem unseen_nil (st : List Def) : unseen st [] = st.length := by simp [unseen]

theorem chainOf_none (st : List Def) : chainOf st none = [] := chain_none _ _ _

theorem chainOf_some (st : List Def) (id : Str) :
    chainOf st (some id) = id :: chain st st.length [id] (parentRef st id) := by
  unfold chainOf; rw [chain_succ]; simp

theorem head_mem_chainOf (st : List Def) (id : Str) : id ∈ chainOf st (some id) := by
  rw [chainOf_some]; simp

/-- what is read along the pointer chain of `x`, cut where it comes back to `seen` or to itself -/
inductive Walk (st : List Def) : List Str → Option Str → List Str → Prop
  | none (seen : List Str) : Walk st seen none []
  | back {seen : List Str} {id : Str} : id ∈ seen → Walk st seen (some id) []
  | step {seen : List Str} {id : Str} {c : List Str} :
      id ∉ seen → Walk st (id :: seen) (parentRef st id) c → Walk st seen (some id) (id :: c)

/-- **pigeonhole**: every step that goes on visits a definition not visited before, so fuel above the number
    of unvisited definitions is never spent and `chain` computes the walk -/
theorem walk_chain (st : List Def) : ∀ (n : Nat) (seen : List Str) (x : Option Str),
    unseen st seen < n → Walk st seen x (chain st n seen x) := by
  intro n
  induction n with
  | zero => intro seen x h; omega
  | succ n ih =>
    intro seen x h
    cases x with
    | none => exact .none seen
    | some id =>
      rw [chain_succ]
      by_cases hs : id ∈ seen
      · rw [if_pos hs]; exact .back hs
      · rw [if_neg hs]
        refine .step hs ?_
        cases hf : findDef st id with
        | none => simp only [parentRef, hf, Option.bind_none, chain_none]; exact .none _
        | some d =>
          obtain ⟨hd, hid⟩ := findDef_some hf
          apply ih
          have : unseen st (id :: seen) < unseen st seen := by
            unfold unseen
            have e : (st.filter fun d => decide (d.id ∉ id :: seen))
                = (st.filter fun d => decide (d.id ∉ seen)).filter fun d => decide (d.id ≠ id) := by
              rw [filter_filter]
              exact filter_congr fun e _ => by simp [not_or]
            rw [e]
            exact length_filter_lt_length_iff_exists.mpr ⟨d, mem_filter.mpr ⟨hd, by simp [hid, hs]⟩, by simp [hid]⟩
          omega

theorem walk_chainOf (st : List Def) (x : Option Str) : Walk st [] x (chainOf st x) :=
  walk_chain st _ _ _ (by rw [unseen_nil]; omega)

namespace Walk
variable {st : List Def} {seen : List Str} {x : Option Str} {c : List Str}

theorem unique {c' : List Str} (h : Walk st seen x c) (h' : Walk st seen x c') : c = c' := by
  induction h generalizing c' with
  | none => cases h'; rfl
  | back hs =>
    cases h' with
    | back _ => rfl
    | step hn _ => exact absurd hs hn
  | step hn _ ih =>
    cases h' with
    | back hs => exact absurd hs hn
    | step _ hw => rw [ih hw]

theorem nodup (h : Walk st seen x c) : c.Nodup ∧ ∀ y ∈ c, y ∉ seen := by
  induction h with
  | none => simp
  | back => simp
  | step hn _ ih =>
    obtain ⟨h1, h2⟩ := ih
    refine ⟨nodup_cons.mpr ⟨fun h => h2 _ h (by simp), h1⟩, ?_⟩
    intro y hy
    rcases mem_cons.mp hy with rfl | hy
    · exact hn
    · exact fun h => h2 y hy (mem_cons_of_mem _ h)

theorem subset_closed (U : Str → Prop) (hU : ∀ id p, U id → parentRef st id = some p → U p)
    (h : Walk st seen x c) (hx : ∀ p, x = some p → U p) : ∀ y ∈ c, U y := by
  induction h with
  | none => intro y hy; cases hy
  | back => intro y hy; cases hy
  | step _ _ ih =>
    intro y hy
    rcases mem_cons.mp hy with rfl | hy
    · exact hx _ rfl
    · exact ih (fun p hp => hU _ p (hx _ rfl) hp) y hy

theorem parent (h : Walk st seen x c) :
    ∀ id ∈ c, ∀ p, parentRef st id = some p → p ∈ seen ∨ p ∈ c := by
  induction h with
  | none => intro id hid; cases hid
  | back => intro id hid; cases hid
  | step _ hw ih =>
    intro id hid p hp
    rcases mem_cons.mp hid with rfl | hid
    · -- the head: its parent is where the walk goes next
      rw [hp] at hw
      cases hw with
      | back hps =>
        rcases mem_cons.mp hps with rfl | h
        · exact Or.inr (by simp)
        · exact Or.inl h
      | step _ _ => exact Or.inr (by simp)
    · rcases ih id hid p hp with h | h
      · rcases mem_cons.mp h with rfl | h
        · exact Or.inr (by simp)
        · exact Or.inl h
      · exact Or.inr (mem_cons_of_mem _ h)

theorem suffix (h : Walk st seen x c) {id : Str} {r : List Str} (hs : (id :: r) <:+ c) :
    ∃ seen', Walk st seen' (parentRef st id) r := by
  induction h with
  | none => simp at hs
  | back => simp at hs
  | step _ hw ih =>
    rcases suffix_cons_iff.mp hs with h | h
    · cases h; exact ⟨_, hw⟩
    · exact ih h

end Walk

theorem chainOf_parent (st : List Def) (x : Option Str) (id : Str) (hid : id ∈ chainOf st x) (p : Str)
    (hp : parentRef st id = some p) : p ∈ chainOf st x := by
  rcases (walk_chainOf st x).parent id hid p hp with h | h
  · cases h
  · exact h

theorem findDef_filter (st : List Def) (k : Str → Bool) (id : Str) (h : k id = true) :
    findDef (st.filter (fun d => k d.id)) id = findDef st id := by
  unfold findDef
  induction st with
  | nil => rfl
  | cons a rest ih =>
    by_cases ha : a.id = id
    · simp [ha, h]
    · cases hk : k a.id with
      | true => simp [hk, ha, ih]
      | false => simp [hk, ha, ih]

theorem Walk.filter {st : List Def} {seen : List Str} {x : Option Str} {c : List Str} (k : Str → Bool)
    (h : Walk st seen x c) (hk : ∀ y ∈ c, k y = true) : Walk (st.filter (fun d => k d.id)) seen x c := by
  induction h with
  | none => exact .none _
  | back hs => exact .back hs
  | step hn _ ih =>
    refine .step hn ?_
    rw [show parentRef (st.filter (fun d => k d.id)) _ = parentRef st _ by
      unfold parentRef; rw [findDef_filter st k _ (hk _ (by simp))]]
    exact ih (fun y hy => hk y (mem_cons_of_mem _ hy))

theorem chainOf_filter (st : List Def) (k : Str → Bool) (x : Option Str)
    (h : ∀ y ∈ chainOf st x, k y = true) : chainOf (st.filter (fun d => k d.id)) x = chainOf st x :=
  (walk_chainOf _ x).unique ((walk_chainOf st x).filter k h)

end C13WR

/-!
## `optimizeSubs`, `graphOf` and the commuting square

`optimizeSubs` is `Subtitles.Optimize` stated on `Subs` (`Model/Subs.lean`); `graphOf` is the abstraction the
`ops.optimize` stream implicitly uses (`observeGraph`, a Go function of the harness, `/verif/harness/graph.go`): every reference becomes the identifier chain
read through it, definitions become map entries keyed by their identifier, attributes are forgotten.  The
square commutes (`optimize_graphOf`) for pairwise distinct style identifiers — dangling references and cyclic
parent links included: the marking loop with early exit is analysed directly against the parent function
of `s` (`markChain_gchain`), with no `Consistent` hypothesis.
-/

namespace C13WR
open Go List Graph

/-- the style references of the runs of a cue, line by line -/
def runRefs (it : CItem) : List (Option Str) := it.lines.flatMap fun l => l.items.map (·.style)

/-- the style references a cue makes itself: its own, then those of its runs -/
def itemRefs (it : CItem) : List (Option Str) := it.style :: runRefs it

/-- identifiers of the regions some cue refers to -/
def usedRegionIds (s : Subs) : List Str := s.items.filterMap (·.region)

/-- the region definitions some cue refers to -/
def keptRegions (s : Subs) : List Def := s.regions.filter fun d => decide (d.id ∈ usedRegionIds s)

/-- every style reference that gives access to styles: of the cues, of their runs, of the kept regions -/
def rootRefs (s : Subs) : List (Option Str) := s.items.flatMap itemRefs ++ (keptRegions s).map (·.ref)

/-- identifiers of the reachable styles: everything on the chain of a root reference -/
def usedStyleIds (s : Subs) : List Str := (rootRefs s).flatMap (chainOf s.styles)

/-- **`Subtitles.Optimize` on `Subs`** -/
def optimizeSubs (s : Subs) : Subs :=
  if s.items.isEmpty then s else
  { s with regions := keptRegions s,
           styles := s.styles.filter fun d => decide (d.id ∈ usedStyleIds s) }

def sid (x : Str) : String := String.ofList x

theorem sid_inj {a b : Str} (h : sid a = sid b) : a = b := String.ofList_injective h

theorem sid_mem_map {a : Str} {l : List Str} : sid a ∈ l.map sid ↔ a ∈ l := by
  constructor
  · intro h
    obtain ⟨b, hb, hab⟩ := mem_map.mp h
    exact sid_inj hab ▸ hb
  · exact fun h => mem_map.mpr ⟨a, h, rfl⟩

/-- the identifier chain read through a reference -/
def gchain (st : List Def) (r : Option Str) : IdChain := (chainOf st r).map sid

def gItem (st : List Def) (it : CItem) : GItem :=
  { style := gchain st it.style, region := it.region.map sid, runs := (runRefs it).map (gchain st) }

def gRegion (st : List Def) (d : Def) : String × RegionDef :=
  (sid d.id, { id := sid d.id, style := gchain st d.ref, tag := 0 })

def gStyle (st : List Def) (d : Def) : String × StyleDef :=
  (sid d.id, { id := sid d.id, parent := gchain st d.ref, tag := 0 })

/-- **the reference graph of a cue list** -/
def graphOf (s : Subs) : Graph :=
  { items := s.items.map (gItem s.styles), regions := s.regions.map (gRegion s.styles),
    styles := s.styles.map (gStyle s.styles) }

/-- `acc` holds, with every identifier, the parent of the style it names -/
def ClosedG (st : List Def) (acc : List String) : Prop :=
  ∀ id p, sid id ∈ acc → parentRef st id = some p → sid p ∈ acc

theorem suffix_map_cons {α β : Type} {f : α → β} {l : List α} {y : β} {r : List β} (h : (y :: r) <:+ l.map f) :
    ∃ i t, (i :: t) <:+ l ∧ y = f i ∧ r = t.map f := by
  obtain ⟨p, hp⟩ := h
  obtain ⟨a, b, rfl, -, hb⟩ := map_eq_append_iff.mp hp.symm
  obtain ⟨i, t, rfl, rfl, rfl⟩ := map_eq_cons_iff.mp hb
  exact ⟨i, t, suffix_append a _, rfl, rfl⟩

/-- **the early exit is harmless on the chains of a cue list**: from a parent-closed set, walking the chain of
    a reference marks the whole chain (`Graph.markChain_iff`: what follows a marked identifier on the chain
    is reached from it through parents) and the result is parent-closed (`chainOf_parent`) -/
theorem markChain_gchain (st : List Def) (acc : List String) (hcl : ClosedG st acc) (r : Option Str) :
    (∀ y, y ∈ markChain acc (gchain st r) ↔ y ∈ acc ∨ y ∈ gchain st r) ∧
    ClosedG st (markChain acc (gchain st r)) := by
  have hmem : ∀ y, y ∈ markChain acc (gchain st r) ↔ y ∈ acc ∨ y ∈ gchain st r := by
    refine markChain_iff _ acc (Pairwise.map sid (fun a b h e => h (sid_inj e)) (walk_chainOf st r).nodup.1) ?_
    intro y t hs hy z hz
    obtain ⟨i, t', hs', rfl, rfl⟩ := suffix_map_cons hs
    obtain ⟨seen', hw'⟩ := (walk_chainOf st r).suffix hs'
    obtain ⟨w, hw, rfl⟩ := mem_map.mp hz
    exact hw'.subset_closed (fun v => sid v ∈ acc) hcl (fun p hp => hcl i p hy hp) w hw
  refine ⟨hmem, ?_⟩
  intro id p hid hp
  rw [hmem] at hid ⊢
  rcases hid with h | h
  · exact Or.inl (hcl id p h hp)
  · exact Or.inr (sid_mem_map.mpr (chainOf_parent st r id (sid_mem_map.mp h) p hp))

theorem mem_usedStyleIds {s : Subs} {y : Str} : y ∈ usedStyleIds s ↔ ∃ r ∈ rootRefs s, y ∈ chainOf s.styles r := by
  simp [usedStyleIds, mem_flatMap]

theorem usedStyleIds_closed (s : Subs) (id p : Str) (hid : id ∈ usedStyleIds s)
    (hp : parentRef s.styles id = some p) : p ∈ usedStyleIds s := by
  obtain ⟨r, hr, h⟩ := mem_usedStyleIds.mp hid
  exact mem_usedStyleIds.mpr ⟨r, hr, chainOf_parent _ _ _ h _ hp⟩

theorem root_mem_used (s : Subs) (v : Str) (h : some v ∈ rootRefs s) : v ∈ usedStyleIds s :=
  mem_usedStyleIds.mpr ⟨_, h, head_mem_chainOf _ _⟩

theorem style_chain_used (s : Subs) (hnd : (s.styles.map (·.id)).Nodup) (d : Def) (hd : d ∈ s.styles)
    (hu : d.id ∈ usedStyleIds s) : ∀ y ∈ chainOf s.styles d.ref, y ∈ usedStyleIds s := by
  apply (walk_chainOf s.styles d.ref).subset_closed (fun z => z ∈ usedStyleIds s) (usedStyleIds_closed s)
  intro p hp
  exact usedStyleIds_closed s d.id p hu ((parentRef_of_mem hnd hd).trans hp)

/-- the filter `optimizeSubs` applies to the styles -/
def keepStyle (s : Subs) (id : Str) : Bool := decide (id ∈ usedStyleIds s)

def keptStyles (s : Subs) : List Def := s.styles.filter fun d => keepStyle s d.id

theorem chainOf_kept_root (s : Subs) (r : Option Str) (h : r ∈ rootRefs s) :
    chainOf (keptStyles s) r = chainOf s.styles r :=
  chainOf_filter s.styles (keepStyle s) r (fun y hy => by simpa [keepStyle] using mem_usedStyleIds.mpr ⟨r, h, hy⟩)

theorem chainOf_kept_style (s : Subs) (hnd : (s.styles.map (·.id)).Nodup) (d : Def) (hd : d ∈ keptStyles s) :
    chainOf (keptStyles s) d.ref = chainOf s.styles d.ref := by
  obtain ⟨hd1, hd2⟩ := mem_filter.mp hd
  exact chainOf_filter s.styles (keepStyle s) d.ref
    (fun y hy => by simpa [keepStyle] using style_chain_used s hnd d hd1 (by simpa [keepStyle] using hd2) y hy)

theorem optimizeSubs_of_ne (s : Subs) (h : s.items.isEmpty = false) :
    optimizeSubs s = { s with regions := keptRegions s, styles := keptStyles s } := by
  simp [optimizeSubs, h, keptStyles, keepStyle]

theorem itemRefs_root (s : Subs) (it : CItem) (hit : it ∈ s.items) (r : Option Str) (hr : r ∈ itemRefs it) :
    r ∈ rootRefs s :=
  mem_append_left _ (mem_flatMap.mpr ⟨it, hit, hr⟩)

theorem regionRef_root (s : Subs) (d : Def) (hd : d ∈ keptRegions s) : d.ref ∈ rootRefs s :=
  mem_append_right _ (mem_map.mpr ⟨d, hd, rfl⟩)

theorem graphOf_usedRegions (s : Subs) :
    (graphOf s).items.filterMap (·.region) = (usedRegionIds s).map sid := by
  simp only [graphOf, usedRegionIds, filterMap_map, map_filterMap]
  rfl

theorem graphOf_itemChains (s : Subs) :
    C13.itemChains (graphOf s).items = (s.items.flatMap itemRefs).map (gchain s.styles) := by
  simp only [C13.itemChains, graphOf, flatMap_map, map_flatMap]
  rfl

theorem spec_usedRegions_graphOf (s : Subs) : Spec.usedRegions (graphOf s) = (keptRegions s).map (gRegion s.styles) := by
  unfold Spec.usedRegions
  rw [show Spec.usedRegionIds (graphOf s) = _ from graphOf_usedRegions s]
  simp only [graphOf, filter_map, keptRegions]
  congr 1
  apply filter_congr
  intro d _
  simp only [Function.comp, gRegion, sid_mem_map]

theorem spec_roots_graphOf (s : Subs) : Spec.roots (graphOf s) = (rootRefs s).map (gchain s.styles) := by
  unfold Spec.roots
  rw [spec_usedRegions_graphOf]
  have := graphOf_itemChains s
  unfold C13.itemChains at this
  rw [this]
  simp [rootRefs, gRegion, Function.comp_def]

theorem spec_reach_graphOf (s : Subs) (y : Str) : Spec.Reach (graphOf s) (sid y) ↔ y ∈ usedStyleIds s := by
  unfold Spec.Reach
  rw [spec_roots_graphOf, mem_usedStyleIds]
  constructor
  · rintro ⟨c, hc, hy⟩
    obtain ⟨r, hr, rfl⟩ := mem_map.mp hc
    exact ⟨r, hr, sid_mem_map.mp hy⟩
  · rintro ⟨r, hr, hy⟩
    exact ⟨_, mem_map.mpr ⟨r, hr, rfl⟩, sid_mem_map.mpr hy⟩

theorem mem_allChains_graphOf {s : Subs} {c : IdChain} (h : c ∈ Spec.allChains (graphOf s)) :
    ∃ r, c = gchain s.styles r := by
  unfold Spec.allChains at h
  rw [show (graphOf s).items.flatMap (fun it => it.style :: it.runs) = _ from graphOf_itemChains s] at h
  rcases mem_append.mp h with h | h
  · obtain ⟨r, _, rfl⟩ := mem_map.mp h; exact ⟨r, rfl⟩
  · obtain ⟨kr, hkr, rfl⟩ := mem_map.mp h
    obtain ⟨d, _, rfl⟩ := mem_map.mp (show kr ∈ s.regions.map (gRegion s.styles) from hkr)
    exact ⟨d.ref, rfl⟩

/-- **On the image of `graphOf` the loop model equals the declarative specification** — with no
    `Consistent` hypothesis: cyclic parent links (where the chains of `graphOf s` are *not*
    consistent) and duplicate identifiers included.  The invariant is parent-closedness in `s`. -/
theorem optimize_spec_graphOf (s : Subs) : Graph.optimize (graphOf s) = Spec.optimizeSpec (graphOf s) :=
  C13.optimize_spec_of (graphOf s) (ClosedG s.styles) (fun _ _ h => nomatch h) fun used hcl c hc => by
    obtain ⟨r, rfl⟩ := mem_allChains_graphOf hc
    exact markChain_gchain s.styles used hcl r

/-- what the graph model returns on `graphOf s` (at least one cue): the kept definitions, their chains still
    computed in `s` and not yet in the optimized list -/
theorem optimize_graphOf_raw (s : Subs) (he : s.items.isEmpty = false) :
    Graph.optimize (graphOf s)
      = { graphOf s with regions := (keptRegions s).map (gRegion s.styles),
                         styles := (keptStyles s).map (gStyle s.styles) } := by
  have h2 : (graphOf s).items.isEmpty = false := by simpa [graphOf] using he
  rw [optimize_spec_graphOf]
  unfold Spec.optimizeSpec
  simp only [h2, Bool.false_eq_true, if_false]
  rw [spec_usedRegions_graphOf]
  congr 1
  simp only [graphOf, filter_map, keptStyles]
  congr 1
  apply filter_congr
  intro d _
  simp only [Function.comp, gStyle, keepStyle]
  have := spec_reach_graphOf s d.id
  simp only [graphOf] at this
  simp only [this]

theorem optimize_graphOf (s : Subs) (hnd : (s.styles.map (·.id)).Nodup) :
    Graph.optimize (graphOf s) = graphOf (optimizeSubs s) := by
  by_cases he : s.items.isEmpty
  · have h1 : optimizeSubs s = s := by simp [optimizeSubs, he]
    have h2 : (graphOf s).items.isEmpty = true := by simpa [graphOf] using he
    rw [h1]; unfold Graph.optimize; simp [h2]
  · have he' : s.items.isEmpty = false := by simpa using he
    rw [optimize_graphOf_raw s he', optimizeSubs_of_ne s he']
    -- the chains are the same in the optimized list
    simp only [graphOf]
    congr 1
    · apply map_congr_left
      intro it hit
      simp only [gItem, gchain]
      rw [chainOf_kept_root s it.style (itemRefs_root s it hit _ (by simp [itemRefs]))]
      congr 1
      apply map_congr_left
      intro r hr
      simp only [gchain]
      rw [chainOf_kept_root s r (itemRefs_root s it hit _ (by simp [itemRefs, hr]))]
    · apply map_congr_left
      intro d hd
      simp only [gRegion, gchain]
      rw [chainOf_kept_root s d.ref (regionRef_root s d hd)]
    · apply map_congr_left
      intro d hd
      simp only [gStyle, gchain]
      rw [chainOf_kept_style s hnd d hd]

end C13WR

/-!
## what `optimizeSubs` keeps

Cues and metadata untouched; kept definitions are definitions of the input; a definition goes exactly when it
is not referred to / not reachable; references that resolved still resolve (`refsOk`); idempotence.
-/

namespace C13WR
open Go List

theorem optimizeSubs_of_empty (s : Subs) (h : s.items.isEmpty = true) : optimizeSubs s = s := by
  simp [optimizeSubs, h]

theorem optimizeSubs_items (s : Subs) : (optimizeSubs s).items = s.items := by
  unfold optimizeSubs; split <;> rfl

theorem optimizeSubs_metadata (s : Subs) : (optimizeSubs s).metadata = s.metadata := by
  unfold optimizeSubs; split <;> rfl

theorem optimizeSubs_styles_sublist (s : Subs) : (optimizeSubs s).styles <+ s.styles := by
  unfold optimizeSubs; split
  · exact Sublist.refl _
  · exact filter_sublist

theorem optimizeSubs_regions_sublist (s : Subs) : (optimizeSubs s).regions <+ s.regions := by
  unfold optimizeSubs; split
  · exact Sublist.refl _
  · exact filter_sublist

theorem mem_optimizeSubs_styles (s : Subs) (hne : s.items.isEmpty = false) (d : Def) :
    d ∈ (optimizeSubs s).styles ↔ d ∈ s.styles ∧ d.id ∈ usedStyleIds s := by
  rw [optimizeSubs_of_ne s hne]; simp [keptStyles, keepStyle]

theorem mem_optimizeSubs_regions (s : Subs) (hne : s.items.isEmpty = false) (d : Def) :
    d ∈ (optimizeSubs s).regions ↔ d ∈ s.regions ∧ d.id ∈ usedRegionIds s := by
  rw [optimizeSubs_of_ne s hne]; simp [keptRegions]

theorem styleId_kept (s : Subs) (v : Str) (hv : v ∈ s.styles.map (·.id))
    (hu : s.items.isEmpty = false → v ∈ usedStyleIds s) : v ∈ (optimizeSubs s).styles.map (·.id) := by
  cases he : s.items.isEmpty with
  | true => rw [optimizeSubs_of_empty s he]; exact hv
  | false =>
    obtain ⟨d, hd, rfl⟩ := mem_map.mp hv
    exact mem_map.mpr ⟨d, (mem_optimizeSubs_styles s he d).mpr ⟨hd, hu he⟩, rfl⟩

theorem regionId_kept (s : Subs) (v : Str) (hv : v ∈ s.regions.map (·.id))
    (hu : s.items.isEmpty = false → v ∈ usedRegionIds s) : v ∈ (optimizeSubs s).regions.map (·.id) := by
  cases he : s.items.isEmpty with
  | true => rw [optimizeSubs_of_empty s he]; exact hv
  | false =>
    obtain ⟨d, hd, rfl⟩ := mem_map.mp hv
    exact mem_map.mpr ⟨d, (mem_optimizeSubs_regions s he d).mpr ⟨hd, hu he⟩, rfl⟩

theorem itemRef_kept (s : Subs) (it : CItem) (hit : it ∈ s.items) (v : Str) (hr : some v ∈ itemRefs it)
    (hv : v ∈ s.styles.map (·.id)) : v ∈ (optimizeSubs s).styles.map (·.id) :=
  styleId_kept s v hv (fun _ => root_mem_used s v (itemRefs_root s it hit _ hr))

theorem itemRegion_kept (s : Subs) (it : CItem) (hit : it ∈ s.items) (v : Str) (hr : it.region = some v)
    (hv : v ∈ s.regions.map (·.id)) : v ∈ (optimizeSubs s).regions.map (·.id) :=
  regionId_kept s v hv (fun _ => by
    unfold usedRegionIds
    exact mem_filterMap.mpr ⟨it, hit, hr⟩)

theorem regionRef_kept (s : Subs) (d : Def) (hd : d ∈ (optimizeSubs s).regions) (v : Str) (hr : d.ref = some v)
    (hv : v ∈ s.styles.map (·.id)) : v ∈ (optimizeSubs s).styles.map (·.id) :=
  styleId_kept s v hv (fun he => by
    have hd' : d ∈ keptRegions s := by rw [optimizeSubs_of_ne s he] at hd; exact hd
    exact root_mem_used s v (hr ▸ regionRef_root s d hd'))

theorem styleRef_kept (s : Subs) (hnd : (s.styles.map (·.id)).Nodup) (d : Def) (hd : d ∈ (optimizeSubs s).styles)
    (v : Str) (hr : d.ref = some v) (hv : v ∈ s.styles.map (·.id)) : v ∈ (optimizeSubs s).styles.map (·.id) :=
  styleId_kept s v hv (fun he => by
    obtain ⟨hd1, hd2⟩ := (mem_optimizeSubs_styles s he d).mp hd
    exact usedStyleIds_closed s d.id v hd2 ((parentRef_of_mem hnd hd1).trans hr))

/-- an optional reference is absent or names one of `ids` -/
def refIn (ids : List Str) (r : Option Str) : Bool :=
  match r with
  | none => true
  | some v => ids.contains v

/-- **every reference made anywhere in the list resolves** (decidable): the style of every cue and of
    every run, the region of every cue, the style of every region and the parent of every style are
    absent or defined -/
def refsOk (s : Subs) : Bool :=
  s.items.all (fun it => (itemRefs it).all (refIn (s.styles.map (·.id))) && refIn (s.regions.map (·.id)) it.region) &&
  s.regions.all (fun d => refIn (s.styles.map (·.id)) d.ref) &&
  s.styles.all (fun d => refIn (s.styles.map (·.id)) d.ref)

/-- style identifiers are pairwise distinct (they are map keys in Go) -/
def styleIdsDistinct (s : Subs) : Bool := decide (s.styles.map (·.id)).Nodup

theorem refIn_iff {ids : List Str} {r : Option Str} : refIn ids r = true ↔ ∀ v, r = some v → v ∈ ids := by
  cases r with
  | none => simp [refIn]
  | some v => simp [refIn]

theorem refsOk_optimizeSubs (s : Subs) (hnd : styleIdsDistinct s = true) (h : refsOk s = true) :
    refsOk (optimizeSubs s) = true := by
  simp only [styleIdsDistinct, decide_eq_true_eq] at hnd
  simp only [refsOk, Bool.and_eq_true, all_eq_true, refIn_iff] at h ⊢
  obtain ⟨⟨hi, hr⟩, hs⟩ := h
  refine ⟨⟨?_, ?_⟩, ?_⟩
  · intro it hit
    rw [optimizeSubs_items] at hit
    obtain ⟨h1, h2⟩ := hi it hit
    refine ⟨fun r hr v hv => ?_, fun v hv => ?_⟩
    · subst hv; exact itemRef_kept s it hit v hr (h1 _ hr v rfl)
    · exact itemRegion_kept s it hit v hv (h2 v hv)
  · intro d hd v hv
    exact regionRef_kept s d hd v hv (hr d ((optimizeSubs_regions_sublist s).subset hd) v hv)
  · intro d hd v hv
    exact styleRef_kept s hnd d hd v hv (hs d ((optimizeSubs_styles_sublist s).subset hd) v hv)

theorem usedRegionIds_optimizeSubs (s : Subs) : usedRegionIds (optimizeSubs s) = usedRegionIds s := by
  unfold usedRegionIds; rw [optimizeSubs_items]

theorem keptRegions_optimizeSubs (s : Subs) : keptRegions (optimizeSubs s) = keptRegions s := by
  cases he : s.items.isEmpty with
  | true => rw [optimizeSubs_of_empty s he]
  | false =>
    unfold keptRegions
    rw [usedRegionIds_optimizeSubs]
    rw [optimizeSubs_of_ne s he]
    simp only [keptRegions, filter_filter, Bool.and_self]

theorem rootRefs_optimizeSubs (s : Subs) : rootRefs (optimizeSubs s) = rootRefs s := by
  unfold rootRefs; rw [keptRegions_optimizeSubs, optimizeSubs_items]

theorem usedStyleIds_optimizeSubs (s : Subs) : usedStyleIds (optimizeSubs s) = usedStyleIds s := by
  cases he : s.items.isEmpty with
  | true => rw [optimizeSubs_of_empty s he]
  | false =>
    unfold usedStyleIds
    rw [rootRefs_optimizeSubs]
    apply List.flatMap_congr_mem
    intro r hr
    rw [optimizeSubs_of_ne s he]
    exact chainOf_kept_root s r hr

theorem optimizeSubs_idem (s : Subs) : optimizeSubs (optimizeSubs s) = optimizeSubs s := by
  cases he : s.items.isEmpty with
  | true => rw [optimizeSubs_of_empty s he, optimizeSubs_of_empty s he]
  | false =>
    have he' : (optimizeSubs s).items.isEmpty = false := by rw [optimizeSubs_items]; exact he
    rw [optimizeSubs_of_ne _ he']
    have hk : keptStyles (optimizeSubs s) = (optimizeSubs s).styles := by
      unfold keptStyles keepStyle
      rw [usedStyleIds_optimizeSubs]
      rw [optimizeSubs_of_ne s he]
      simp only [keptStyles, keepStyle, filter_filter, Bool.and_self]
    rw [hk, keptRegions_optimizeSubs]
    rw [optimizeSubs_of_ne s he]

end C13WR

/-!
## `RemoveStyling` on the cue model `Subs`, and its square

`removeStylingSubs`: the definition lists are emptied; every cue loses its style reference, region
reference and inline attributes; every run loses its style reference and inline attributes.
Nothing else is addressed (numbers, instants, comments, voices, texts, in-cue instants, metadata).
-/

namespace C13WR
open Go List

def stripRun (li : LItem) : LItem := { li with style := none, attrs := none }

def stripLine (l : Line) : Line := { l with items := l.items.map stripRun }

def stripItem (it : CItem) : CItem :=
  { it with style := none, region := none, attrs := none, lines := it.lines.map stripLine }

/-- **`Subtitles.RemoveStyling` on `Subs`** -/
def removeStylingSubs (s : Subs) : Subs :=
  { s with items := s.items.map stripItem, regions := [], styles := [] }

theorem runRefs_stripItem (it : CItem) : runRefs (stripItem it) = (runRefs it).map fun _ => none := by
  simp [runRefs, stripItem, stripLine, stripRun, map_flatMap, flatMap_map, Function.comp_def]

theorem removeStyling_graphOf (s : Subs) : Graph.removeStyling (graphOf s) = graphOf (removeStylingSubs s) := by
  simp only [Graph.removeStyling, graphOf, removeStylingSubs, map_map, map_nil]
  congr 1
  apply map_congr_left
  intro it _
  simp only [Function.comp, gItem, runRefs_stripItem, map_map]
  have h1 : gchain [] (stripItem it).style = [] := rfl
  have h2 : (stripItem it).region = none := rfl
  rw [h1, h2]
  congr 1

end C13WR
end Astisub
