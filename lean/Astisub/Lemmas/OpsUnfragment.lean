import Astisub.Model.Ops

/-! # Lemmas/OpsUnfragment — the two loops of `Subtitles.Unfragment`

The inner loop `Ops.absorb` only extends `cur` (`Ext`), deletes from the tail, leaves nothing that could still be
merged (`Sep`) and keeps every text on screen at the same instants (`vis`). Both loops are reasoned about through
their induction principles: `absorb_induct` (an iteration merges the head, stops, or skips it) and `unfragLoop_induct`. -/

namespace Astisub
open Ops List

/-- `it` shows text `s` at instant `t` -/
def vis (it : Item) (s : String) (t : Int) : Prop := it.str = s ∧ it.startAt ≤ t ∧ t < it.endAt

/-- `y` cannot be merged into `cur`: other text, or it starts after `cur` ended -/
def Sep (cur y : Item) : Prop := cur.str ≠ y.str ∨ cur.endAt < y.startAt

/-- `z` is `y` with a possibly later end (what the outer loop may do to a kept cue) -/
structure Ext (y z : Item) : Prop where
  uid : z.uid = y.uid
  startAt : z.startAt = y.startAt
  lines : z.lines = y.lines
  pay : z.pay = y.pay
  endAt_le : y.endAt ≤ z.endAt

theorem Ext.str {y z : Item} (h : Ext y z) : z.str = y.str := by
  unfold Item.str; rw [h.lines]

theorem Ext.refl (y : Item) : Ext y y := ⟨rfl, rfl, rfl, rfl, Int.le_refl _⟩

theorem Ext.trans {a b c : Item} (h1 : Ext a b) (h2 : Ext b c) : Ext a c :=
  ⟨h2.uid.trans h1.uid, h2.startAt.trans h1.startAt, h2.lines.trans h1.lines, h2.pay.trans h1.pay,
   Int.le_trans h1.endAt_le h2.endAt_le⟩

def extend (cur x : Item) : Item := if cur.endAt < x.endAt then { cur with endAt := x.endAt } else cur

theorem ext_extend (cur x : Item) : Ext cur (extend cur x) := by
  unfold extend; split
  · exact ⟨rfl, rfl, rfl, rfl, by simp only; omega⟩
  · exact Ext.refl _

theorem absorb_cons (cur x : Item) (rest : List Item) :
    absorb cur (x :: rest) =
      if cur.str = x.str ∧ cur.endAt ≥ x.startAt then absorb (extend cur x) rest
      else if cur.endAt < x.startAt then (cur, x :: rest)
      else ((absorb cur rest).1, x :: (absorb cur rest).2) := by
  rw [absorb]; rfl

/-- What one iteration of the inner loop can do: the loop is over when the tail is empty or its head
    starts after `cur` ended (`stop`); otherwise the head has the text of `cur` and is merged into it
    (`merge`), or has another text and stays (`skip`). The motive sees the result. -/
theorem absorb_induct {motive : Item → List Item → Item × List Item → Prop}
    (nil : ∀ cur, motive cur [] (cur, []))
    (merge : ∀ cur x rest, cur.str = x.str → x.startAt ≤ cur.endAt →
      motive (extend cur x) rest (absorb (extend cur x) rest) →
      motive cur (x :: rest) (absorb (extend cur x) rest))
    (stop : ∀ cur x rest, cur.endAt < x.startAt → motive cur (x :: rest) (cur, x :: rest))
    (skip : ∀ cur x rest, cur.str ≠ x.str → x.startAt ≤ cur.endAt → motive cur rest (absorb cur rest) →
      motive cur (x :: rest) ((absorb cur rest).1, x :: (absorb cur rest).2))
    (cur : Item) (l : List Item) : motive cur l (absorb cur l) := by
  induction l generalizing cur with
  | nil => exact nil cur
  | cons x rest ih =>
    rw [absorb_cons]
    split
    · rename_i h; exact merge cur x rest h.1 h.2 (ih _)
    · rename_i h
      split
      · rename_i h2; exact stop cur x rest h2
      · rename_i h2; exact skip cur x rest (fun e => h ⟨e, by omega⟩) (by omega) (ih cur)

theorem absorb_ext (cur : Item) (l : List Item) : Ext cur (absorb cur l).1 :=
  absorb_induct (motive := fun cur _ r => Ext cur r.1) Ext.refl
    (fun cur x _ _ _ ih => (ext_extend cur x).trans ih) (fun cur _ _ _ => Ext.refl cur)
    (fun _ _ _ _ _ ih => ih) cur l

theorem absorb_sublist (cur : Item) (l : List Item) : (absorb cur l).2 <+ l :=
  absorb_induct (motive := fun _ l r => r.2 <+ l) (fun _ => Sublist.refl _)
    (fun _ _ _ _ _ ih => ih.cons _) (fun _ _ _ _ => Sublist.refl _) (fun _ _ _ _ _ ih => ih.cons_cons _) cur l

theorem absorb_sep (cur : Item) (l : List Item)
    (hs : l.Pairwise (fun a b => a.startAt ≤ b.startAt)) :
    ∀ y ∈ (absorb cur l).2, Sep (absorb cur l).1 y := by
  induction cur, l using absorb_induct with
  | nil cur => nofun
  | merge cur x rest _ _ ih => exact ih (pairwise_cons.mp hs).2
  | stop cur x rest h =>
    -- everything in the tail starts after `cur` ended
    exact forall_mem_cons.mpr ⟨.inr h, fun y hy => .inr (Int.lt_of_lt_of_le h ((pairwise_cons.mp hs).1 y hy))⟩
  | skip cur x rest hne _ ih =>
    -- `cur` may still be extended later, its text stays
    exact forall_mem_cons.mpr ⟨.inl ((absorb_ext cur rest).str ▸ hne), ih (pairwise_cons.mp hs).2⟩

theorem exists_mem_cons_iff {α : Type} {p : α → Prop} {a : α} {l : List α} :
    (∃ x ∈ a :: l, p x) ↔ p a ∨ ∃ x ∈ l, p x := by
  simp only [mem_cons, exists_eq_or_imp]

theorem vis_extend {cur x : Item} (h : cur.str = x.str ∧ cur.endAt ≥ x.startAt)
    (hs : cur.startAt ≤ x.startAt) (s : String) (t : Int) :
    vis (extend cur x) s t ↔ vis cur s t ∨ vis x s t := by
  have he : (extend cur x).endAt = if cur.endAt < x.endAt then x.endAt else cur.endAt := by
    unfold extend; split <;> rfl
  unfold vis
  rw [(ext_extend cur x).str, (ext_extend cur x).startAt, ← h.1, he]
  constructor
  · rintro ⟨a, b, c⟩
    by_cases hh : t < cur.endAt
    · exact .inl ⟨a, b, hh⟩
    · exact .inr ⟨a, by omega, by split at c <;> omega⟩
  · rintro (⟨a, b, c⟩ | ⟨a, b, c⟩) <;> exact ⟨a, by omega, by split <;> omega⟩

theorem absorb_vis (cur : Item) (l : List Item) (hc : ∀ y ∈ l, cur.startAt ≤ y.startAt)
    (s : String) (t : Int) :
    (∃ it ∈ cur :: l, vis it s t) ↔ (∃ it ∈ (absorb cur l).1 :: (absorb cur l).2, vis it s t) := by
  induction cur, l using absorb_induct with
  | nil cur => exact Iff.rfl
  | stop cur x rest _ => exact Iff.rfl
  | merge cur x rest h1 h2 ih =>
    have hc' := forall_mem_cons.mp hc
    rw [← ih (by rw [(ext_extend cur x).startAt]; exact hc'.2), exists_mem_cons_iff, exists_mem_cons_iff,
      exists_mem_cons_iff, vis_extend ⟨h1, h2⟩ hc'.1, or_assoc]
  | skip cur x rest _ _ ih =>
    -- `x` stays where it is; the rest is the induction hypothesis with `x` carried along
    have ih' := ih (forall_mem_cons.mp hc).2
    rw [exists_mem_cons_iff, exists_mem_cons_iff] at ih'
    rw [exists_mem_cons_iff, exists_mem_cons_iff, exists_mem_cons_iff, exists_mem_cons_iff,
      or_left_comm, ih', or_left_comm]

/-- element-wise relation between two lists of the same length -/
inductive All2 {α β : Type} (r : α → β → Prop) : List α → List β → Prop
  | nil : All2 r [] []
  | cons {a b as bs} : r a b → All2 r as bs → All2 r (a :: as) (b :: bs)

theorem All2.mem_right {α β : Type} {r : α → β → Prop} {as : List α} {bs : List β}
    (h : All2 r as bs) : ∀ b ∈ bs, ∃ a ∈ as, r a b := by
  induction h with
  | nil => intro b hb; cases hb
  | cons hr _ ih =>
    intro b hb
    rcases mem_cons.mp hb with rfl | hb
    · exact ⟨_, by simp, hr⟩
    · obtain ⟨a, ha, hra⟩ := ih b hb
      exact ⟨a, by simp [ha], hra⟩

theorem All2.map_eq {α β γ : Type} {r : α → β → Prop} {as : List α} {bs : List β} (f : α → γ) (g : β → γ)
    (h : All2 r as bs) (hfg : ∀ a b, r a b → f a = g b) : as.map f = bs.map g := by
  induction h with
  | nil => rfl
  | cons hr _ ih => simp [hfg _ _ hr, ih]

theorem unfragLoop_nil : unfragLoop [] = [] := by rw [unfragLoop]

theorem unfragLoop_cons (x : Item) (xs : List Item) :
    unfragLoop (x :: xs) = (absorb x xs).1 :: unfragLoop (absorb x xs).2 := by rw [unfragLoop]

/-- the outer loop as an induction principle: it recurses on what the inner loop leaves of the tail -/
theorem unfragLoop_induct {motive : List Item → Prop} (nil : motive [])
    (cons : ∀ x xs, motive (absorb x xs).2 → motive (x :: xs)) (l : List Item) : motive l := by
  induction hn : l.length using Nat.strongRecOn generalizing l with
  | _ n ih =>
    cases l with
    | nil => exact nil
    | cons x xs =>
      exact cons x xs (ih _ (hn ▸ Nat.lt_succ_of_le (absorb_length x xs)) _ rfl)

/-- the outer loop: every cue of the result is a cue of the input, possibly extended, and the
    results come in the input's order: a sub-sequence of the input, related to the result cue by cue (`All2 Ext`) -/
theorem unfragLoop_ext (l : List Item) :
    ∃ sub, sub <+ l ∧ All2 Ext sub (unfragLoop l) := by
  induction l using unfragLoop_induct with
  | nil => exact ⟨[], Sublist.refl _, by rw [unfragLoop_nil]; exact .nil⟩
  | cons x xs ih =>
    obtain ⟨sub, hsub, hf⟩ := ih
    rw [unfragLoop_cons]
    exact ⟨x :: sub, (hsub.trans (absorb_sublist x xs)).cons_cons x, .cons (absorb_ext x xs) hf⟩

end Astisub
