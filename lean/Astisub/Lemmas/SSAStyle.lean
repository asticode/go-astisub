import Astisub.Lemmas.SSATab

/-!
# Lemmas/SSAStyle — one `Style:` row: `ssaStyle.string` read back by `newSSAStyleFromString`,
for the Format `ssaStyle.updateFormat` builds

A value that can be a cell (`CellOK`, `StyleOK`) is written to a non-empty comma-free text that parses back to it
(`cell_roundtrip`); `allSome` (all cells / all rows exist) by its three laws; for a Format `Name, <distinct columns>`
(`formatOf fs`) the row is the name and the cells (`row_formatOf`) and reads back as the name and `pick s fs`
(`styleRow_row`); the Format the writer builds is `formatOf (formatFlds styles)`, without repetition and covering every
attribute in use.
-/

namespace Astisub
namespace SSA
open Go List

/-- the double survives `FormatFloat(·, 'f', 3, 64)` followed by `ParseFloat` (as the `Numconv` model computes them) -/
def floatOK (bits : Nat) : Bool :=
  match formatFloat3 bits with
  | some str => parseFloat str == .ok bits
  | none => false

/-- a value that can be a cell of column `f`: of the column's type; a 32-bit colour; a 64-bit
    integer; a double that survives three decimals; a non-empty string without comma -/
def CellOK (f : Fld) (v : Val) : Prop :=
  v.kind = f.kind ∧
  match v with
  | .b _ => True
  | .c c => c < 4294967296
  | .f bits => floatOK bits = true
  | .i i => Int64 i
  | .s str => str ≠ [] ∧ ',' ∉ str

instance (f : Fld) : (v : Val) → Decidable (CellOK f v)
  | .b w => inferInstanceAs (Decidable ((Val.b w).kind = f.kind ∧ True))
  | .c c => inferInstanceAs (Decidable ((Val.c c).kind = f.kind ∧ c < 4294967296))
  | .f bits => inferInstanceAs (Decidable ((Val.f bits).kind = f.kind ∧ floatOK bits = true))
  | .i i => inferInstanceAs (Decidable ((Val.i i).kind = f.kind ∧ Int64 i))
  | .s str => inferInstanceAs (Decidable ((Val.s str).kind = f.kind ∧ str ≠ [] ∧ ',' ∉ str))

theorem hex8_chars (c : Nat) : ∀ x ∈ hex8 c, isSpace x = false ∧ x ≠ ',' := by
  intro x h
  simp only [hex8, mem_cons, not_mem_nil, or_false] at h
  rcases h with rfl | rfl | rfl | rfl | rfl | rfl | rfl | rfl <;>
    exact (by decide : ∀ d : Fin 16, isSpace (hexDigitLower d.val) = false ∧ hexDigitLower d.val ≠ ',') ⟨_ % 16, C04.mod16_lt _⟩

theorem numChar_padLeft0 (w n : Nat) : ∀ c ∈ padLeft0 w (itoaNat n), numChar c = true := by
  intro c hc
  rcases mem_append.mp hc with h | h
  · rw [(mem_replicate.mp h).2]; decide
  · exact (digitStr_itoaNat n).numChar c h

theorem formatFloat3_chars (bits : Nat) (str : Str) (h : formatFloat3 bits = some str) :
    str ≠ [] ∧ ∀ c ∈ str, numChar c = true := by
  unfold formatFloat3 at h
  split at h
  · cases h
  · rename_i neg m e _
    cases h
    refine ⟨by simp, fun c hc => ?_⟩
    simp only [mem_append, mem_cons] at hc
    rcases hc with (hc | hc) | rfl | hc
    · cases neg
      · cases hc
      · rw [mem_singleton.mp hc]; decide
    · exact (digitStr_itoaNat _).numChar c hc
    · decide
    · exact numChar_padLeft0 _ _ c hc

theorem cell_roundtrip (f : Fld) (v : Val) (h : CellOK f v) :
    ∃ cell, v.ssa = some cell ∧ cell ≠ [] ∧ ',' ∉ cell ∧ parseVal f.kind cell = .ok v := by
  obtain ⟨hk, hv⟩ := h
  rw [← hk]
  cases v with
  | b b =>
    refine ⟨if b then ['1'] else ['0'], rfl, ?_, ?_, ?_⟩ <;> cases b <;> decide
  | c c =>
    have hc : c < 4294967296 := hv
    refine ⟨colourString c, rfl, by simp [colourString], fun hm => ?_, ?_⟩
    · rcases mem_append.mp hm with h | h
      · revert h; decide_vector
      · exact (hex8_chars c _ h).2 rfl
    · simp only [Val.kind, parseVal, C04.colour_roundtrip c hc]
  | f bits =>
    have hf : floatOK bits = true := hv
    unfold floatOK at hf
    cases hs : formatFloat3 bits with
    | none => rw [hs] at hf; cases hf
    | some str =>
      rw [hs] at hf
      have hp : parseFloat str = .ok bits := by simpa using hf
      obtain ⟨h1, h2⟩ := formatFloat3_chars bits str hs
      exact ⟨str, hs, h1, numChar_not_mem h2 rfl, by simp only [Val.kind, parseVal, hp]⟩
  | i i =>
    have hi : Int64 i := hv
    exact ⟨itoa i, rfl, itoa_ne_nil i, numChar_not_mem (numChar_itoa i) rfl, by simp only [Val.kind, parseVal, atoi_itoa i hi]⟩
  | s str =>
    have hs : str ≠ [] ∧ ',' ∉ str := hv
    exact ⟨str, rfl, hs.1, hs.2, rfl⟩

theorem cell_noSpace (v : Val) (cell : Str) (h : v.ssa = some cell) : v = .s cell ∨ ∀ x ∈ cell, isSpace x = false := by
  cases v with
  | s str => exact Or.inl (congrArg Val.s (Option.some.inj h))
  | b b => right; cases b <;> (cases h; decide)
  | c c =>
    right; cases h
    intro x hx
    rcases mem_append.mp hx with hx | hx
    · exact (by decide_vector : ∀ x ∈ "&H".toList, isSpace x = false) x hx
    · exact (hex8_chars c x hx).1
  | f bits => exact Or.inr fun x hx => numChar_not_space ((formatFloat3_chars bits cell h).2 x hx)
  | i i => right; cases h; exact fun x hx => numChar_not_space (numChar_itoa i x hx)

/-- the Format line for the attribute columns `fs` -/
def formatOf (fs : List Fld) : List Str := "Name".toList :: fs.map fun f => f.col.toList

/-- the reader inverts `Fld.col`, so a column name is neither of the two special names -/
theorem col_ne_name (f : Fld) : f.col.toList ≠ "Name".toList := fun e => by
  have := C04.col_roundtrip f
  rw [e, C04.name_col] at this
  cases this

theorem col_ne_tertiary (f : Fld) : f.col.toList ≠ "TertiaryColour".toList := fun e => by
  have := C04.col_roundtrip f
  have ho : colOfName "OutlineColour".toList = some (.fld .outlineColour) := C04.col_roundtrip .outlineColour
  rw [e, C04.tertiary_is_outline, ho] at this
  cases this
  revert e; decide_vector

/-- the text of the cell of column `f` -/
def cellOf (s : Style) (f : Fld) : Option Str :=
  match s.vals.get f with
  | some v => v.ssa
  | none => some []

theorem allSome_cons_some {α} {a : Option α} {as : List (Option α)} {ys : List α} (h : allSome (a :: as) = some ys) :
    ∃ y ys', a = some y ∧ allSome as = some ys' ∧ ys = y :: ys' := by
  cases a with
  | none => simp [allSome] at h
  | some y =>
    cases hr : allSome as with
    | none => simp [allSome, hr] at h
    | some ys' =>
      simp only [allSome, hr, Option.some.injEq] at h
      exact ⟨y, ys', rfl, rfl, h.symm⟩

theorem allSome_map_forall {α β} {f : α → Option β} {P : β → Prop} : ∀ {l : List α} {ys : List β},
    allSome (l.map f) = some ys → (∀ x ∈ l, ∀ y, f x = some y → P y) → ∀ y ∈ ys, P y
  | [], _, h, _ => by cases h; intro y hy; cases hy
  | a :: l, _, h, hp => by
    obtain ⟨y, ys', hy, hr, rfl⟩ := allSome_cons_some h
    intro z hz
    rcases mem_cons.mp hz with rfl | hz
    · exact hp a (by simp) _ hy
    · exact allSome_map_forall hr (fun x hx => hp x (by simp [hx])) z hz

theorem cells_forall (s : Style) {P : Str → Prop} (hnil : P [])
    (hcell : ∀ f v c, s.vals.get f = some v → v.ssa = some c → P c)
    {fs : List Fld} {cs : List Str} (h : allSome (fs.map (cellOf s)) = some cs) : ∀ c ∈ cs, P c :=
  allSome_map_forall h fun f _ c hc => by
    unfold cellOf at hc
    cases hget : s.vals.get f with
    | none => rw [hget] at hc; cases hc; exact hnil
    | some v => rw [hget] at hc; exact hcell f v c hget hc

theorem allSome_some {α β} (f : α → Option β) : ∀ (l : List α), (∀ x ∈ l, ∃ y, f x = some y) →
    ∃ ys, allSome (l.map f) = some ys
  | [], _ => ⟨[], rfl⟩
  | a :: as, h => by
    obtain ⟨y, hy⟩ := h a (by simp)
    obtain ⟨ys, hys⟩ := allSome_some f as (fun x hx => h x (by simp [hx]))
    exact ⟨y :: ys, by simp only [map_cons, allSome, hy, hys]⟩

theorem allSome_map_some {α} (l : List (Option α)) :
    allSome (l.map fun o => o.map some) = (allSome l).map fun cs => cs.map some := by
  induction l with
  | nil => rfl
  | cons a as ih =>
    cases a with
    | none => simp [allSome]
    | some x =>
      simp only [map_cons, Option.map_some, allSome, ih]
      cases allSome as <;> simp

theorem filterMap_id_map_some {α} (l : List α) : (l.map some).filterMap id = l :=
  (List.filterMap_id_map_some id l).trans (List.map_id l)

theorem allSome_cells {α} (n : Str) (l : List α) (F : Str → Option (Option Str)) (c : α → Str) (G : α → Option Str)
    (h : ∀ a, F (c a) = (G a).map some) :
    (allSome (some none :: l.map (F ∘ c))).map (fun cs => join [','] (n :: cs.filterMap id))
      = (allSome (l.map G)).map fun cs => join [','] (n :: cs) := by
  have e : l.map (F ∘ c) = (l.map G).map fun o => o.map some := by
    rw [map_map]
    exact map_congr_left fun a _ => h a
  rw [e]
  simp only [allSome, allSome_map_some]
  cases allSome (l.map G) with
  | none => rfl
  | some cs => simp

theorem row_formatOf (s : Style) (fs : List Fld) :
    s.row (formatOf fs) = (allSome (fs.map (cellOf s))).map fun cs => join [','] (s.name :: cs) := by
  unfold Style.row formatOf
  simp only [map_cons, C04.name_col, map_map]
  refine allSome_cells s.name fs _ _ (cellOf s) ?_
  intro f
  simp only [C04.col_roundtrip, col_ne_tertiary, ↓reduceIte, cellOf]
  cases s.vals.get f <;> rfl

theorem row_some {s : Style} {fs : List Fld} {row : Str} (h : s.row (formatOf fs) = some row) :
    ∃ cs, allSome (fs.map (cellOf s)) = some cs ∧ row = join [','] (s.name :: cs) := by
  rw [row_formatOf] at h
  cases hcs : allSome (fs.map (cellOf s)) with
  | none => rw [hcs] at h; cases h
  | some cs => rw [hcs] at h; cases h; exact ⟨cs, rfl, rfl⟩

/-- the attributes of `s` in the columns `fs`, in column order -/
def pick (s : Style) (fs : List Fld) : Vals Fld := fs.filterMap fun f => (s.vals.get f).map fun v => (f, v)

theorem pick_eq (s : Style) (fs : List Fld) : pick s fs = Tab.pick s.vals fs := rfl

/-- a style all of whose attributes can be cells -/
def StyleOK (s : Style) : Prop := ',' ∉ s.name ∧ ∀ f ∈ Fld.all, ∀ v, s.vals.get f = some v → CellOK f v

instance decOptAll {α} {P : α → Prop} [DecidablePred P] : (o : Option α) → Decidable (∀ v, o = some v → P v)
  | none => isTrue (by intro v h; cases h)
  | some w => decidable_of_iff (P w) ⟨fun h v hv => by cases hv; exact h, fun h => h w rfl⟩

instance (s : Style) : Decidable (StyleOK s) :=
  inferInstanceAs (Decidable (',' ∉ s.name ∧ ∀ f ∈ Fld.all, ∀ v, s.vals.get f = some v → CellOK f v))

theorem StyleOK.cell {s : Style} (h : StyleOK s) {f : Fld} {v : Val} (hv : s.vals.get f = some v) : CellOK f v :=
  h.2 f (C04.fld_all_complete f) v hv

theorem allSome_map_length {α β} {f : α → Option β} : ∀ {l : List α} {ys : List β},
    allSome (l.map f) = some ys → ys.length = l.length
  | [], _, h => by cases h; rfl
  | _ :: _, _, h => by
    obtain ⟨_, _, _, hr, rfl⟩ := allSome_cons_some h
    rw [length_cons, length_cons, allSome_map_length hr]

theorem cells_length {s : Style} {fs : List Fld} {cs : List Str} (h : allSome (fs.map (cellOf s)) = some cs) :
    cs.length = fs.length := allSome_map_length h

theorem cells_noComma (s : Style) (hs : StyleOK s) {fs : List Fld} {cs : List Str}
    (h : allSome (fs.map (cellOf s)) = some cs) : ∀ c ∈ cs, ',' ∉ c :=
  cells_forall s (P := fun c => ',' ∉ c) (by simp) (fun f v c hg hc => by
    obtain ⟨cell, e1, _, e3, _⟩ := cell_roundtrip f v (hs.cell hg)
    rw [← Option.some.inj (e1.symm.trans hc)]; exact e3) h

theorem styleFields_cells (s : Style) (hs : StyleOK s) : ∀ (fs : List Fld) (cs : List Str) (st : Style),
    fs.Nodup → (∀ p ∈ st.vals, p.1 ∉ fs) → allSome (fs.map (cellOf s)) = some cs →
    styleFields st ((fs.map fun f => f.col.toList).zip cs) = .ok { st with vals := st.vals ++ pick s fs } := by
  -- invariant: the values read so far, then `pick s` of the columns done; a column still to come is not yet a key of
  -- `st.vals` (second hypothesis), so every `Vals.set` appends
  intro fs
  induction fs with
  | nil =>
    intro cs st _ _ hc
    cases hc
    simp [styleFields, pick]
  | cons f fs ih =>
    intro cs st hnd hfresh hc
    obtain ⟨c, cs', hcell, hrest, rfl⟩ := allSome_cons_some hc
    obtain ⟨hf, hnd'⟩ := nodup_cons.mp hnd
    simp only [map_cons, zip_cons_cons, styleFields]
    unfold cellOf at hcell
    cases hget : s.vals.get f with
    | none =>
      rw [hget] at hcell
      cases hcell
      have h1 := ih cs' st hnd' (fun p hp hm => hfresh p hp (mem_cons_of_mem _ hm)) hrest
      simp only [C04.empty_field_unset]
      rw [h1]; simp [pick, hget]
    | some v =>
      obtain ⟨cell, e1, e2, _, e4⟩ := cell_roundtrip f v (hs.cell hget)
      rw [hget] at hcell
      have hcc : cell = c := Option.some.inj (e1.symm.trans hcell)
      subst hcc
      have hne : cell.isEmpty = false := by cases cell with | nil => exact absurd rfl e2 | cons _ _ => rfl
      have hset : st.vals.set f v = st.vals ++ [(f, v)] :=
        vals_set_fresh st.vals f v (fun p hp e => hfresh p hp (e ▸ mem_cons_self))
      have hsf : styleField st f.col.toList cell = .ok { st with vals := st.vals ++ [(f, v)] } := by
        unfold styleField
        simp only [hne, Bool.false_eq_true, ↓reduceIte, C04.col_roundtrip, e4, hset]
      have h1 := ih cs' { st with vals := st.vals ++ [(f, v)] } hnd' (by
        intro p hp hm
        rcases mem_append.mp hp with hp | hp
        · exact hfresh p hp (mem_cons_of_mem _ hm)
        · rw [mem_singleton.mp hp] at hm; exact hf hm) hrest
      simp only [hsf]
      rw [h1]; simp [pick, hget]

theorem styleRow_row (s : Style) (fs : List Fld) (hs : StyleOK s) (hnd : fs.Nodup) (row : Str)
    (hrow : s.row (formatOf fs) = some row) :
    styleRow row (formatOf fs) = .ok { name := s.name, vals := pick s fs } := by
  obtain ⟨cs, hcs, rfl⟩ := row_some hrow
  have hname : styleField {} "Name".toList s.name = .ok { name := s.name } := by
    unfold styleField
    by_cases he : s.name.isEmpty
    · have : s.name = [] := by cases hn : s.name with | nil => rfl | cons _ _ => rw [hn] at he; cases he
      simp [this]
    · simp only [he, Bool.false_eq_true, ↓reduceIte, C04.name_col]
  have h1 := styleFields_cells s hs fs cs { name := s.name } hnd (by intro p hp; cases hp) hcs
  have h2 := cells_length hcs
  have h3 := cells_noComma s hs hcs
  unfold styleRow
  rw [splitC_join (cs := s.name :: cs) (by simp) (by
    intro p hp
    rcases mem_cons.mp hp with rfl | hp
    · exact hs.1
    · exact h3 p hp)]
  have hlen : ¬ (s.name :: cs).length ≠ (formatOf fs).length := by simp [formatOf, h2]
  simp only [hlen, ↓reduceIte]
  unfold formatOf
  simp only [zip_cons_cons, styleFields, hname]
  rw [h1]
  simp

theorem row_exists (s : Style) (fs : List Fld) (hs : StyleOK s) : ∃ row, s.row (formatOf fs) = some row := by
  rw [row_formatOf]
  obtain ⟨cs, hcs⟩ := allSome_some (cellOf s) fs fun f _ => by
    unfold cellOf
    cases hget : s.vals.get f with
    | none => exact ⟨[], rfl⟩
    | some v =>
      obtain ⟨cell, e1, _⟩ := cell_roundtrip f v (hs.cell hget)
      exact ⟨cell, e1⟩
  exact ⟨_, by rw [hcs]; rfl⟩

/-- `ssaStyle.updateFormat` on the attribute columns -/
def updateFlds (s : Style) (fs : List Fld) : List Fld :=
  Fld.all.foldl (fun fs f => if (s.vals.get f).isSome && !fs.contains f then fs ++ [f] else fs) fs

theorem contains_formatOf (fs : List Fld) (f : Fld) : (formatOf fs).contains f.col.toList = fs.contains f := by
  unfold formatOf
  rw [Bool.eq_iff_iff]
  simp only [contains_iff_mem, mem_cons, mem_map]
  constructor
  · rintro (h | ⟨g, hg, he⟩)
    · exact absurd h (col_ne_name f)
    · rw [C04.col_injective g f (String.toList_injective he)] at hg; exact hg
  · intro h; exact Or.inr ⟨f, h, rfl⟩

theorem updateFormat_step (s : Style) : ∀ (L fs : List Fld),
    L.foldl (fun fmt f => if (s.vals.get f).isSome && !fmt.contains f.col.toList then fmt ++ [f.col.toList] else fmt) (formatOf fs)
      = formatOf (L.foldl (fun fs f => if (s.vals.get f).isSome && !fs.contains f then fs ++ [f] else fs) fs) := by
  intro L
  induction L with
  | nil => intro fs; rfl
  | cons f L ih =>
    intro fs
    simp only [foldl_cons, contains_formatOf]
    by_cases hc : ((s.vals.get f).isSome && !fs.contains f) = true
    · rw [if_pos hc, if_pos hc]
      have : formatOf fs ++ [f.col.toList] = formatOf (fs ++ [f]) := by simp [formatOf]
      rw [this, ih]
    · rw [if_neg hc, if_neg hc, ih]

theorem updateFormat_formatOf (s : Style) (fs : List Fld) :
    updateFormat s (formatOf fs) = formatOf (updateFlds s fs) := updateFormat_step s Fld.all fs

theorem updateFlds_props (s : Style) : ∀ (L fs : List Fld), fs.Nodup →
    let r := L.foldl (fun fs f => if (s.vals.get f).isSome && !fs.contains f then fs ++ [f] else fs) fs
    r.Nodup ∧ (∀ f ∈ fs, f ∈ r) ∧ (∀ f ∈ L, (s.vals.get f).isSome → f ∈ r) := by
  intro L
  induction L with
  | nil => intro fs h; exact ⟨h, fun f hf => hf, by simp⟩
  | cons g L ih =>
    intro fs hnd
    simp only [foldl_cons, mem_cons, forall_eq_or_imp]
    split
    · rename_i hc
      simp only [Bool.and_eq_true, Bool.not_eq_eq_eq_not, Bool.not_true, contains_eq_mem, decide_eq_false_iff_not] at hc
      obtain ⟨h1, h2, h3⟩ := ih (fs ++ [g]) (by simpa [nodup_append, hnd] using fun a ha (e : a = g) => hc.2 (e ▸ ha))
      exact ⟨h1, fun f hf => h2 f (by simp [hf]), fun _ => h2 g (by simp), h3⟩
    · rename_i hc
      obtain ⟨h1, h2, h3⟩ := ih fs hnd
      refine ⟨h1, h2, fun hs => h2 g ?_, h3⟩
      simpa [hs] using hc

/-- the attribute columns of the Format the writer builds for a list of styles -/
def formatFlds (styles : List Style) : List Fld := styles.foldl (fun fs st => updateFlds st fs) []

theorem foldl_updateFormat (styles : List Style) (fs : List Fld) :
    styles.foldl (fun fmt st => updateFormat st fmt) (formatOf fs)
      = formatOf (styles.foldl (fun fs st => updateFlds st fs) fs) := by
  induction styles generalizing fs with
  | nil => rfl
  | cons s ss ih => simp only [foldl_cons, updateFormat_formatOf, ih]

theorem writer_format (styles : List Style) :
    styles.foldl (fun fmt st => updateFormat st fmt) ["Name".toList] = formatOf (formatFlds styles) :=
  foldl_updateFormat styles []

theorem foldl_updateFlds_props (styles : List Style) : ∀ fs : List Fld, fs.Nodup →
    let r := styles.foldl (fun fs st => updateFlds st fs) fs
    r.Nodup ∧ (∀ f ∈ fs, f ∈ r) ∧ ∀ st ∈ styles, ∀ f, (st.vals.get f).isSome → f ∈ r := by
  induction styles with
  | nil => intro fs h; exact ⟨h, fun f hf => hf, by simp⟩
  | cons s ss ih =>
    intro fs hnd
    simp only [foldl_cons]
    obtain ⟨a1, a2, a3⟩ := updateFlds_props s Fld.all fs hnd
    obtain ⟨b1, b2, b3⟩ := ih (updateFlds s fs) a1
    refine ⟨b1, fun f hf => b2 f (a2 f hf), ?_⟩
    intro st hst f hf
    rcases mem_cons.mp hst with rfl | hst
    · exact b2 f (a3 f (C04.fld_all_complete f) hf)
    · exact b3 st hst f hf

theorem formatFlds_nodup (styles : List Style) : (formatFlds styles).Nodup :=
  (foldl_updateFlds_props styles [] nodup_nil).1

theorem formatFlds_covering (styles : List Style) (st : Style) (h : st ∈ styles) (f : Fld)
    (hf : (st.vals.get f).isSome) : f ∈ formatFlds styles :=
  (foldl_updateFlds_props styles [] nodup_nil).2.2 st h f hf

end SSA
end Astisub
