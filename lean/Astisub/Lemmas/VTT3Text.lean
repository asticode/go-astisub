import Astisub.Lemmas.VTT3Tok
import Astisub.Lemmas.VTTRead2TextB
import Astisub.Lemmas.VTTRead2TagView

/-!
# Lemmas/VTT3Text — one cue-text line: the reader model simulates the decoder (class `lineOK2`)

`parseText2_of_textLine`: on a line whose tags are in the class (`scanOK2`), whose pieces of text are `chunkOK` or which
holds no inline timestamp, and that the decoder `Spec.VTT.textLine` accepts, the reader model `VTT.parseText` — unless
the tokenizer model does not cover the line — leaves the same stack, finds the same voice, and its items are
`rs.map runItem2` for a run list `rs` that has the decoder's runs-with-text.

The proof is a simulation along the decoder's run (`Run`: chunk, `<…>`, chunk, `<…>` …; `Run.sim2`).  An inline
timestamp does not end the reader's text token: `Rel2` relates the decoder's state with the reader's state at the
START of the open text token and the pieces `pre`, `segs` of the token read so far (`rel2_pre`, `rel2_seg`,
`rel2_close`); `RelB` is the relation at a token boundary; a tag that is no timestamp is one step for both sides and
touches stack and voice only (`tag_frame`).  As long as the decoder has met no inline timestamp (`NoTs`) the items are
its runs one by one (`RelB.exact`): on the class `lineOK` that is the whole line (`Lemmas/VTT3Layer`).
-/

namespace Astisub
namespace VTTRead
open Go Spec.VTT List
open VTT (PT stepTok foldToks flushSt)
open SRT (unescapeHTML)

theorem scanOK_eq : ∀ (l : Str) (b : Bool), scanOK b l = (scanOK2 b l && !tsScan b l) := by
  intro l
  induction l with
  | nil => intro b; cases b <;> rfl
  | cons c cs ih =>
    intro b
    cases b with
    | false =>
      rw [scanOK_false_cons, scanOK2_false_cons, tsScan_false_cons]
      by_cases hc : c = '<'
      · simp only [hc, if_true, ih true]
        cases cs with
        | nil => simp
        | cons d ds =>
          simp only
          cases isDigit d <;> cases scanOK2 true (d :: ds) <;> cases tsScan true (d :: ds) <;> rfl
      · simp only [hc, if_false, ih false]
    | true =>
      rw [scanOK_true_cons, scanOK2_true_cons, tsScan_true_cons]
      by_cases hc : c = '>'
      · simp only [hc, if_true, ih false]
      · simp only [hc, if_false, ih true, Bool.and_assoc]

theorem lineOK2_of_lineOK {l : Str} (h : lineOK l = true) : lineOK2 l = true := by
  unfold lineOK at h
  rw [scanOK_eq] at h
  simp only [Bool.and_eq_true, Bool.not_eq_true'] at h
  unfold lineOK2 hasTs
  rw [h.1, h.2]
  rfl

theorem chunkOK_iff {x : Str} (h : chunkOK x = true) : trimSpace (unescapeHTML x) = [] ↔ trimSpace x = [] := by
  simp only [chunkOK, beq_iff_eq, decide_eq_decide] at h
  exact h

theorem chunkOK_of_noNbsp {x : Str} (h : noNbsp x = true) : chunkOK x = true := by
  simp only [chunkOK, beq_iff_eq, decide_eq_decide]
  exact blank_unescape x h

theorem chunksOK_noGt (s : Str) (hs : ∀ c ∈ s, c ≠ '>') : chunksOK true s [] = true := by
  induction s with
  | nil => rw [chunksOK_nil]; exact chunkOK_nil
  | cons c s ih =>
    rw [chunksOK_true_cons, if_neg (hs c (by simp))]
    exact ih (fun d hd => hs d (by simp [hd]))

theorem chunksOK_restLt (r acc : Str) (hr : RestLt r) :
    chunksOK false r acc = (chunkOK acc.reverse && chunksOK false r []) := by
  cases r with
  | nil => rw [chunksOK_nil, chunksOK_nil]; simp [chunkOK_nil]
  | cons c cs =>
    have hc : c = '<' := hr c cs rfl
    subst hc
    rw [chunksOK_false_cons, if_pos rfl, chunksOK_false_cons, if_pos rfl]
    simp [chunkOK_nil]

theorem chunksOK_split (x r : Str) (hx : ∀ c ∈ x, c ≠ '<') (hr : RestLt r) :
    chunksOK false (x ++ r) [] = (chunkOK x && chunksOK false r []) := by
  rw [chunksOK_text x hx, chunksOK_restLt r _ hr]
  simp

theorem flushText_acc (st : TextSt) : (flushText st).acc = [] := by
  unfold Spec.VTT.flushText
  split
  · rename_i h; simpa using h
  · simp only
    split
    · split <;> rfl
    · rfl

theorem flushText_idem (st : TextSt) : flushText (flushText st) = flushText st :=
  flushText_of_acc_nil _ (flushText_acc st)

theorem flushText_voice (st : TextSt) : (flushText st).voice = st.voice := by
  unfold Spec.VTT.flushText
  split
  · rfl
  · simp only
    split
    · split <;> rfl
    · rfl

theorem rev_isEmpty_false {y : Str} (hy : y ≠ []) : (y.reverse).isEmpty = false := by
  cases hr : y.reverse with
  | nil => simp at hr; exact absurd hr hy
  | cons => rfl

/-- flush of white space: dropped while an instant is pending, otherwise a run that `norm` drops -/
theorem flushText_blank (st : TextSt) (y : Str) (hb : trimSpace y = []) :
    (flushText { st with acc := y.reverse }).runs.filter nb = st.runs.filter nb ∧
    (flushText { st with acc := y.reverse }).pending = st.pending := by
  by_cases hy : y = []
  · subst hy
    rw [List.reverse_nil, flushText_of_acc_nil _ rfl]
    exact ⟨rfl, rfl⟩
  · unfold Spec.VTT.flushText
    cases hp : st.pending with
    | some t =>
      simp only [rev_isEmpty_false hy, Bool.false_eq_true, if_false, List.reverse_reverse, hb, if_true,
        Option.isSome_some]
      simp
    | none =>
      simp only [rev_isEmpty_false hy, Bool.false_eq_true, if_false, List.reverse_reverse, hb, if_true,
        Option.isSome_none]
      simp [List.filter_append, nb, hb]

theorem flushText_nonblank (st : TextSt) (y : Str) (hb : trimSpace y ≠ []) :
    (flushText { st with acc := y.reverse }).runs = st.runs ++ [{ text := y, tags := st.stack, ts := st.pending }] ∧
    (flushText { st with acc := y.reverse }).pending = none := by
  have hy : y ≠ [] := by
    intro e; subst e
    exact hb (by simp [trimSpace, trimLeft, trimRight])
  unfold Spec.VTT.flushText
  simp only [rev_isEmpty_false hy, Bool.false_eq_true, if_false, List.reverse_reverse, hb]
  simp

/-- the pending instant in nanoseconds, none = 0 -/
def pendOf (o : Option Nat) : Int := ((o.getD 0 : Nat) : Int) * 1000000

theorem pendOf_none : pendOf none = 0 := by simp [pendOf]

/-- the part of the two states a tag step looks at and changes: stack and voice -/
structure RelT (stD : TextSt) (stM : PT) : Prop where
  voiceNe : ∀ v, stD.voice = some v → v ≠ []
  good : ∀ t ∈ stD.stack, goodName t.name = true
  tags : stM.tags = stD.stack.map modelTag
  voice : stM.voice = stD.voice.getD []

/-- `RelT`, and under the premise `K` (what the view of the items needs) the open tags are `tagOK`: at `K := False`
    nothing but `goodName` is asked of a stack.  This is all of the relations below that looks at stack and voice. -/
structure RelS (K : Prop) (stD : TextSt) (stM : PT) : Prop extends RelT stD stM where
  tagok : K → ∀ t ∈ stD.stack, tagOK t = true

/-- a step that keeps stack and voice of the decoder, tags and voice of the reader (a flush, a piece of text, a
    timestamp) keeps `RelS` -/
theorem RelS.of_eq {K : Prop} {st st' : TextSt} {m m' : PT} (R : RelS K st m) (hs : st'.stack = st.stack)
    (hv : st'.voice = st.voice) (ht : m'.tags = m.tags) (hw : m'.voice = m.voice) : RelS K st' m' :=
  ⟨⟨by rw [hv]; exact R.voiceNe, by rw [hs]; exact R.good, by rw [hs, ht]; exact R.tags, by rw [hv, hw]; exact R.voice⟩,
    by rw [hs]; exact R.tagok⟩

/-- decoder state `stD` ~ reader state `stM`, at a token boundary.  The clause of `lax` on `tagOK` is under the premise
    `K` as `RelS.tagok` is (it speaks of the same witness `rs` as the two clauses before it, so it cannot stand in a
    structure of its own).  `exact`: as long as the decoder has met no inline timestamp, the reader's items are its
    runs, one by one. -/
structure RelB (K : Prop) (stD : TextSt) (stM : PT) : Prop extends RelS K stD stM where
  acc : stD.acc = []
  lax : ∃ rs : List GRun, stM.items = rs.map runItem2 ∧ rs.filter nb = stD.runs.filter nb ∧
    (K → ∀ r ∈ rs, ∀ t ∈ r.tags, tagOK t = true)
  pend : stM.pending = pendOf stD.pending
  exact : NoTs stD → stM.items = stD.runs.map runItem2

/-- the text the decoder is collecting: the last piece of the open token -/
def lastText (pre : Str) (segs : List (Str × Str)) : Str :=
  match segs.getLast? with
  | some p => p.2
  | none => pre

theorem lastText_nil (pre : Str) : lastText pre [] = pre := rfl

theorem lastText_snoc (pre : Str) (segs : List (Str × Str)) (p : Str × Str) : lastText pre (segs ++ [p]) = p.2 := by
  simp [lastText]

/-- decoder state `stD` ~ reader state `stM` at the start of the open text token `pre, segs`
    (the decoder has not flushed the last piece yet).  `seen`: once the token holds an inline timestamp, the
    decoder has met it (it is pending or in a run after the flush), so `exact` is only asked while `segs = []`. -/
structure Rel2 (K : Prop) (stD : TextSt) (stM : PT) (pre : Str) (segs : List (Str × Str)) : Prop
    extends RelS K stD stM where
  acc : stD.acc = (unescapeHTML (lastText pre segs)).reverse
  preOK : ∀ c ∈ pre, c ≠ '<'
  segsOK : ∀ p ∈ segs, SegOK p
  lax : ∃ rs : List GRun,
    stM.items ++ (tokVal (VTT.tagsAttrs stM.tags) pre segs stM.pending).1 = rs.map runItem2 ∧
    rs.filter nb = (flushText stD).runs.filter nb ∧ (K → ∀ r ∈ rs, ∀ t ∈ r.tags, tagOK t = true)
  pend : (tokVal (VTT.tagsAttrs stM.tags) pre segs stM.pending).2 = pendOf (flushText stD).pending
  exact : segs = [] → NoTs stD → stM.items = stD.runs.map runItem2
  mpend : segs = [] → stM.pending = pendOf stD.pending
  seen : segs ≠ [] → ¬ NoTs (flushText stD)

theorem runItem2_mk (text : Str) (stack : List GTag) (ts : Option Nat) :
    runItem2 { text := text, tags := stack, ts := ts } =
      mkItem (VTT.tagsAttrs (stack.map modelTag)) text (pendOf ts) := rfl

theorem nb_blank {text : Str} {tags : List GTag} {ts : Option Nat} (h : trimSpace text = []) :
    nb { text := text, tags := tags, ts := ts } = false := by
  simp [nb, h]

theorem nb_text {text : Str} {tags : List GTag} {ts : Option Nat} (h : trimSpace text ≠ []) :
    nb { text := text, tags := tags, ts := ts } = true := by
  simp [nb, h]

theorem tagok_snoc {K : Prop} {rs : List GRun} {r : GRun} (h1 : K → ∀ r ∈ rs, ∀ t ∈ r.tags, tagOK t = true)
    (h2 : K → ∀ t ∈ r.tags, tagOK t = true) : K → ∀ q ∈ rs ++ [r], ∀ t ∈ q.tags, tagOK t = true := by
  intro k q hq
  rcases List.mem_append.mp hq with hq | hq
  · exact h1 k q hq
  · simp only [List.mem_singleton] at hq; subst hq; exact h2 k

/-- a `<`-free piece of text opens a token.  The reader decides "blank?" on the raw text, the decoder on the decoded
    text: they differ for white space with `&nbsp;` (`chunkOK x = false`), which matters only while an instant is
    pending — with none pending both sides make it a run without timestamp. -/
theorem rel2_pre {K : Prop} {stD : TextSt} {stM : PT} (R : RelB K stD stM) (x : Str) (hx : ∀ c ∈ x, c ≠ '<')
    (hn : chunkOK x = true ∨ stD.pending = none) : Rel2 K { stD with acc := (unescapeHTML x).reverse } stM x [] := by
  obtain ⟨rs, hitems, hnb, htag⟩ := R.lax
  have hval : tokVal (VTT.tagsAttrs stM.tags) x [] stM.pending = tokFirst (VTT.tagsAttrs stM.tags) x stM.pending := rfl
  have hE : ([] : List (Str × Str)) = [] → NoTs stD → stM.items = stD.runs.map runItem2 := fun _ => R.exact
  have hM : ([] : List (Str × Str)) = [] → stM.pending = pendOf stD.pending := fun _ => R.pend
  have hS : ([] : List (Str × Str)) ≠ [] → ¬ NoTs (flushText { stD with acc := (unescapeHTML x).reverse }) :=
    fun e => absurd rfl e
  by_cases hb : trimSpace x = []
  · -- blank text holds no character reference
    have hbu : trimSpace (unescapeHTML x) = [] := by
      rw [unescape_of_blank x (trimSpace_eq_nil_iff.mp hb)]; exact hb
    have hfirst : tokFirst (VTT.tagsAttrs stM.tags) x stM.pending = ([], stM.pending) := by
      simp [tokFirst, hb]
    obtain ⟨f1, f2⟩ := flushText_blank stD (unescapeHTML x) hbu
    refine ⟨R.toRelS.of_eq rfl rfl rfl rfl, rfl, hx, fun p hp => (by cases hp), ?_, ?_, hE, hM, hS⟩
    · exact ⟨rs, by rw [hval, hfirst, List.append_nil]; exact hitems, by rw [f1]; exact hnb, htag⟩
    · rw [hval, hfirst, f2, R.pend]
  · have hfirst : tokFirst (VTT.tagsAttrs stM.tags) x stM.pending
        = ([mkItem (VTT.tagsAttrs stM.tags) (unescapeHTML x) stM.pending], 0) := by
      simp [tokFirst, hb]
    have hit : (stM.items ++ [mkItem (VTT.tagsAttrs stM.tags) (unescapeHTML x) stM.pending])
        = (rs ++ [({ text := unescapeHTML x, tags := stD.stack, ts := stD.pending } : GRun)]).map runItem2 := by
      rw [List.map_append, hitems, List.map_cons, List.map_nil, runItem2_mk, R.tags, R.pend]
    by_cases hbu : trimSpace (unescapeHTML x) = []
    · have hp : stD.pending = none := by
        rcases hn with hn | hn
        · exact absurd ((chunkOK_iff hn).mp hbu) hb
        · exact hn
      obtain ⟨f1, f2⟩ := flushText_blank stD (unescapeHTML x) hbu
      refine ⟨R.toRelS.of_eq rfl rfl rfl rfl, rfl, hx, fun p hp => (by cases hp), ?_, ?_, hE, hM, hS⟩
      · refine ⟨rs ++ [{ text := unescapeHTML x, tags := stD.stack, ts := stD.pending }], ?_, ?_, ?_⟩
        · rw [hval, hfirst]; exact hit
        · rw [f1, List.filter_append, hnb]
          simp [nb, hbu]
        · exact tagok_snoc htag R.tagok
      · rw [hval, hfirst, f2, hp]; exact pendOf_none.symm
    · obtain ⟨f1, f2⟩ := flushText_nonblank stD (unescapeHTML x) hbu
      refine ⟨R.toRelS.of_eq rfl rfl rfl rfl, rfl, hx, fun p hp => (by cases hp), ?_, ?_, hE, hM, hS⟩
      · refine ⟨rs ++ [{ text := unescapeHTML x, tags := stD.stack, ts := stD.pending }], ?_, ?_, ?_⟩
        · rw [hval, hfirst]; exact hit
        · rw [f1, List.filter_append, List.filter_append, hnb]
        · exact tagok_snoc htag R.tagok
      · rw [hval, hfirst, f2]; rfl

theorem getD_parse {cap : Str} {t : Nat} (h : inlineTs cap = some t) :
    (Duration.parseVTT cap).getD 0 = pendOf (some t) := by
  rw [parse_inline h]; rfl

theorem rel2_seg {K : Prop} {stD : TextSt} {stM : PT} {pre : Str} {segs : List (Str × Str)} (R : Rel2 K stD stM pre segs)
    (cap : Str) (t : Nat) (ht : inlineTs cap = some t) (x : Str) (hx : ∀ c ∈ x, c ≠ '<') (hn : chunkOK x = true) :
    Rel2 K { flushText stD with pending := some t, acc := (unescapeHTML x).reverse } stM pre (segs ++ [(cap, x)]) := by
  obtain ⟨rs, hitems, hnb, htag⟩ := R.lax
  have hsegs : ∀ p ∈ segs ++ [(cap, x)], SegOK p := by
    intro p hp
    rcases List.mem_append.mp hp with hp | hp
    · exact R.segsOK p hp
    · simp only [List.mem_singleton] at hp; subst hp; exact ⟨⟨t, ht⟩, hx⟩
  have hstack : (flushText stD).stack = stD.stack := flushText_stack stD
  have hvoice : (flushText stD).voice = stD.voice := flushText_voice stD
  generalize hD1 : flushText stD = D1 at hstack hvoice hnb
  have hpend := R.pend
  rw [hD1] at hpend
  by_cases hb : trimSpace x = []
  · have hbu : trimSpace (unescapeHTML x) = [] := (chunkOK_iff hn).mpr hb
    have hstep : tokVal (VTT.tagsAttrs stM.tags) pre (segs ++ [(cap, x)]) stM.pending
        = ((tokVal (VTT.tagsAttrs stM.tags) pre segs stM.pending).1, pendOf (some t)) := by
      rw [tokVal_snoc]; simp [segStep, hb, getD_parse ht]
    obtain ⟨f1, f2⟩ := flushText_blank { D1 with pending := some t } (unescapeHTML x) hbu
    refine ⟨R.toRelS.of_eq hstack hvoice rfl rfl, by rw [lastText_snoc], R.preOK, hsegs, ?_, ?_, fun e => absurd e (by simp),
      fun e => absurd e (by simp), ?_⟩
    · exact ⟨rs, by rw [hstep]; exact hitems, by rw [f1]; exact hnb, htag⟩
    · rw [hstep, f2]
    · exact fun _ hN => absurd (f2.symm.trans hN.1) (by simp)
  · have hbu : trimSpace (unescapeHTML x) ≠ [] := fun h => hb ((chunkOK_iff hn).mp h)
    have hstep : tokVal (VTT.tagsAttrs stM.tags) pre (segs ++ [(cap, x)]) stM.pending
        = ((tokVal (VTT.tagsAttrs stM.tags) pre segs stM.pending).1 ++
            [mkItem (VTT.tagsAttrs stM.tags) (unescapeHTML x) (pendOf (some t))], 0) := by
      rw [tokVal_snoc]; simp [segStep, hb, getD_parse ht]
    obtain ⟨f1, f2⟩ := flushText_nonblank { D1 with pending := some t } (unescapeHTML x) hbu
    refine ⟨R.toRelS.of_eq hstack hvoice rfl rfl, by rw [lastText_snoc], R.preOK, hsegs, ?_, ?_, fun e => absurd e (by simp),
      fun e => absurd e (by simp), ?_⟩
    · refine ⟨rs ++ [{ text := unescapeHTML x, tags := D1.stack, ts := some t }], ?_, ?_, ?_⟩
      · rw [hstep, ← List.append_assoc, hitems, List.map_append, List.map_cons, List.map_nil, runItem2_mk, R.tags, hstack]
      · rw [f1, List.filter_append, List.filter_append, hnb]
      · exact tagok_snoc htag (by rw [hstack]; exact R.tagok)
    · rw [hstep, f2]; rfl
    · exact fun _ hN => absurd (hN.2 { text := unescapeHTML x, tags := D1.stack, ts := some t } (by rw [f1]; simp)) (by simp)

theorem rawTok_eq_nil {pre : Str} {segs : List (Str × Str)} (h : rawTok pre segs = []) : pre = [] ∧ segs = [] := by
  unfold rawTok at h
  have h1 := List.append_eq_nil_iff.mp h
  refine ⟨h1.1, ?_⟩
  cases segs with
  | nil => rfl
  | cons p segs => simp [segRaw] at h1

/-- the token closes: while the decoder has met no inline timestamp, the token was one piece of text and is one
    run for both sides -/
theorem rel2_exact {K : Prop} {stD : TextSt} {stM : PT} {pre : Str} {segs : List (Str × Str)} (R : Rel2 K stD stM pre segs)
    (hN : NoTs (flushText stD)) (stM2 : PT) (hfl : flushSt stM (rawTok pre segs).reverse = some stM2) :
    stM2.items = (flushText stD).runs.map runItem2 := by
  have hsegs : segs = [] := Decidable.byContradiction fun hne => R.seen hne hN
  subst hsegs
  have hN0 := noTs_of_flush hN
  have hit := R.exact rfl hN0
  have hmp : stM.pending = 0 := by rw [R.mpend rfl, hN0.1, pendOf_none]
  have hacc := R.acc
  rw [lastText_nil] at hacc
  rw [rawTok_nil] at hfl
  by_cases hpre : pre = []
  · subst hpre
    rw [flushSt_empty] at hfl
    cases hfl
    rw [unescape_nil] at hacc
    rw [flushText_of_acc_nil stD hacc]
    exact hit
  · have hfl2 := flushSt_rawTok stM pre [] R.preOK R.segsOK (by rw [rawTok_nil]; exact hpre)
    rw [rawTok_nil, hfl] at hfl2
    cases hfl2
    have hst : stD = { stD with acc := (unescapeHTML pre).reverse } := by
      cases stD; simp only at hacc; rw [hacc]
    have hfl3 : flushText stD = { stD with acc := [], runs := stD.runs ++
        [{ text := unescapeHTML pre, tags := stD.stack, ts := none }] } := by
      conv => lhs; rw [hst]
      exact flushText_text stD _ (replacer_ne_nil (pairs := SRT.unescapePairs) (by decide) hpre) hN0.1
    have hact : (tokAct (VTT.tagsAttrs stM.tags) pre [] stM.pending).1
        = [mkItem (VTT.tagsAttrs stM.tags) (unescapeHTML pre) 0] := by
      by_cases hb : trimSpace pre = [] <;> simp [tokAct, tokVal, tokFirst, hb, hmp]
    rw [hfl3]
    simp only [List.map_append, List.map_cons, List.map_nil]
    rw [hit, hact, runItem2_mk, R.tags, pendOf_none]

theorem rel2_close {K : Prop} {stD : TextSt} {stM : PT} {pre : Str} {segs : List (Str × Str)} (R : Rel2 K stD stM pre segs) :
    ∃ stM2, flushSt stM (rawTok pre segs).reverse = some stM2 ∧ RelB K (flushText stD) stM2 := by
  obtain ⟨rs, hitems, hnb, htag⟩ := R.lax
  have hstack : (flushText stD).stack = stD.stack := flushText_stack stD
  have hvoice : (flushText stD).voice = stD.voice := flushText_voice stD
  by_cases hne : rawTok pre segs = []
  · obtain ⟨h1, h2⟩ := rawTok_eq_nil hne
    subst h1; subst h2
    refine ⟨stM, by rw [hne]; exact flushSt_empty stM, R.toRelS.of_eq hstack hvoice rfl rfl, flushText_acc stD, ?_, ?_, ?_⟩
    · rw [tokVal_nil_nil, List.append_nil] at hitems
      exact ⟨rs, hitems, hnb, htag⟩
    · have := R.pend
      rw [tokVal_nil_nil] at this
      exact this
    · exact fun hN => rel2_exact R hN _ (by rw [hne]; exact flushSt_empty stM)
  · refine ⟨_, flushSt_rawTok stM pre segs R.preOK R.segsOK hne, R.toRelS.of_eq hstack hvoice rfl rfl, flushText_acc stD,
      ?_, ?_, ?_⟩
    · simp only
      by_cases hc : segs = [] ∧ trimSpace pre = []
      · obtain ⟨hs, hb⟩ := hc
        subst hs
        have hval : tokVal (VTT.tagsAttrs stM.tags) pre [] stM.pending = ([], stM.pending) := by
          simp [tokVal, tokFirst, hb]
        rw [hval, List.append_nil] at hitems
        have hact : tokAct (VTT.tagsAttrs stM.tags) pre [] stM.pending
            = ([mkItem (VTT.tagsAttrs stM.tags) (unescapeHTML pre) 0], stM.pending) := by
          simp [tokAct, hb]
        have hbu : unescapeHTML pre = pre := unescape_of_blank pre (trimSpace_eq_nil_iff.mp hb)
        refine ⟨rs ++ [{ text := unescapeHTML pre, tags := stD.stack, ts := none }], ?_, ?_, ?_⟩
        · rw [hact, List.map_append, hitems, List.map_cons, List.map_nil, runItem2_mk, R.tags]; rfl
        · rw [List.filter_append, hnb]
          have : [({ text := unescapeHTML pre, tags := stD.stack, ts := none } : GRun)].filter nb = [] := by
            rw [hbu]; simp [nb, hb]
          rw [this, List.append_nil]
        · exact tagok_snoc htag R.tagok
      · have hact : tokAct (VTT.tagsAttrs stM.tags) pre segs stM.pending
            = tokVal (VTT.tagsAttrs stM.tags) pre segs stM.pending := by
          simp only [tokAct, if_neg hc]
        rw [hact]
        exact ⟨rs, hitems, hnb, htag⟩
    · simp only
      have h2 : (tokAct (VTT.tagsAttrs stM.tags) pre segs stM.pending).2
          = (tokVal (VTT.tagsAttrs stM.tags) pre segs stM.pending).2 := by
        by_cases hc : segs = [] ∧ trimSpace pre = []
        · obtain ⟨hs, hb⟩ := hc
          subst hs
          simp [tokAct, tokVal, tokFirst, hb]
        · simp only [tokAct, if_neg hc]
      rw [h2, R.pend]
    · exact fun hN => rel2_exact R hN _ (flushSt_rawTok stM pre segs R.preOK R.segsOK hne)

/-- what a tag step leaves alone; the tag it pushes is `tagOK` -/
structure Frame (st2 st3 : TextSt) (stM2 stM3 : PT) : Prop where
  acc : st3.acc = st2.acc
  pending : st3.pending = st2.pending
  runs : st3.runs = st2.runs
  items : stM3.items = stM2.items
  mpending : stM3.pending = stM2.pending
  tagok : (∀ t ∈ st2.stack, tagOK t = true) → ∀ t ∈ st3.stack, tagOK t = true

/-- **one tag**: from states related by `RelT`, a tag the decoder accepts (on a line of the class, no inline
    timestamp) is one token for the reader; the states are related again and the rest of both is untouched -/
theorem tag_frame {st2 : TextSt} {stM2 : PT} (R : RelT st2 stM2) (body : Str) (st3 : TextSt)
    (hb : BodyOK body) (hdig : ∀ d tl, body = d :: tl → isDigit d = false)
    (h : tagStep body st2 = some st3) :
    ∃ stM3, RelT st3 stM3 ∧ Frame st2 st3 stM2 stM3 ∧
      ∀ (s' : Str) (f : PT) (acc : Str) (st : PT), flushSt st acc = some stM2 → J' s' [] stM3 f →
        J' (('<' :: body ++ ['>']) ++ s') acc st f := by
  cases body with
  | nil => rw [tagStep_nil] at h; cases h
  | cons c tl =>
    by_cases hc : c = '/'
    · subst hc
      have hJ : ∀ (stM3 : PT), goodName tl = true →
          stM3 = (if tl = "v".toList then stM2 else { stM2 with tags := stM2.tags.dropLast }) →
          ∀ (s' : Str) (f : PT) (acc : Str) (st : PT), flushSt st acc = some stM2 → J' s' [] stM3 f →
            J' (('<' :: '/' :: tl ++ ['>']) ++ s') acc st f :=
        fun stM3 hg he s' f acc st hfl hJ' => J'_close hg hfl (he ▸ hJ')
      rcases tagStep_close tl st2 st3 h with ⟨hv, _, rfl⟩ | ⟨hv, t, hlast, hname, rfl⟩
      · exact ⟨stM2, R, ⟨rfl, rfl, rfl, rfl, rfl, id⟩, hJ stM2 (by rw [hv]; decide) (by rw [if_pos hv])⟩
      · have hmem : t ∈ st2.stack := by
          obtain ⟨ys, e⟩ := List.getLast?_eq_some_iff.mp hlast
          rw [e]; simp
        have hg : goodName tl = true := by rw [← hname]; exact R.good t hmem
        exact ⟨{ stM2 with tags := stM2.tags.dropLast },
          ⟨R.voiceNe, fun u hu => R.good u (List.dropLast_subset _ hu), by simp only [R.tags, List.map_dropLast],
            R.voice⟩,
          ⟨rfl, rfl, rfl, rfl, rfl, fun hok => dropLast_ok hok⟩, hJ _ hg (by rw [if_neg hv])⟩
    · have hd := hdig c tl rfl
      obtain ⟨ha, hsl, name, classes, hsp, hne, hcase⟩ := tagStep_open c tl st2 st3 hc hd h
      have hs : ∀ d ∈ c :: tl, d ≠ '/' := by
        intro d hd e
        subst e
        have : (c :: tl).contains '/' = true := by simpa using hd
        rw [hsl] at this; cases this
      obtain ⟨hdot, hblank, _⟩ := alpha_facts ha
      obtain ⟨xs, cls, p, w, sh⟩ := shape_of_body c tl hdot hblank
      have sf := shapeF_of sh ha hb hs
      have hJ : ∀ (stM3 : PT),
          stM3 = (if name = "v".toList then (if stM2.voice = [] then { stM2 with voice := annOf (c :: tl) } else stM2)
                  else { stM2 with tags := stM2.tags ++ [{ name := name, classes := classes, annotation := annOf (c :: tl) }] }) →
          ∀ (s' : Str) (f : PT) (acc : Str) (st : PT), flushSt st acc = some stM2 → J' s' [] stM3 f →
            J' (('<' :: (c :: tl) ++ ['>']) ++ s') acc st f :=
        fun stM3 he s' f acc st hfl hJ' => J'_open sh sf hsp hne hfl (he ▸ hJ')
      rcases hcase with ⟨hv, hvoice, hann, rfl⟩ | ⟨hv, rfl⟩
      · have hmv : stM2.voice = [] := by rw [R.voice, hvoice]; rfl
        refine ⟨{ stM2 with voice := annOf (c :: tl) }, ⟨?_, R.good, R.tags, rfl⟩, ⟨rfl, rfl, rfl, rfl, rfl, id⟩,
          hJ _ (by rw [if_pos hv, if_pos hmv])⟩
        intro v hv'
        cases hv'
        exact hann
      · have hsp' := hsp
        rw [sh.head] at hsp'
        obtain ⟨hname, _⟩ := classes_agree (c :: xs) cls name classes sh.nameNoDot sh.cls hsp' hne
        refine ⟨{ stM2 with tags := stM2.tags ++ [{ name := name, classes := classes, annotation := annOf (c :: tl) }] },
          ⟨R.voiceNe, ?_, ?_, R.voice⟩, ⟨rfl, rfl, rfl, rfl, rfl, ?_⟩, hJ _ (by rw [if_neg hv])⟩
        · intro t ht
          simp only [List.mem_append, List.mem_singleton] at ht
          rcases ht with ht | ht
          · exact R.good t ht
          · rw [ht, hname]; exact goodName_of_shape sf
        · simp only [R.tags, List.map_append, List.map_cons, List.map_nil, modelTag]
        · intro hok t ht
          simp only [List.mem_append, List.mem_singleton] at ht
          rcases ht with ht | ht
          · exact hok t ht
          · rw [ht]
            exact pushed_tagOK c tl name classes (fun x hx => (tagChar_of_ok (hb.ok x hx)).noBar) ha hsp

theorem relB_tag {K : Prop} {st2 : TextSt} {stM2 : PT} (R : RelB K st2 stM2) (body : Str) (st3 : TextSt)
    (hb : BodyOK body) (hdig : ∀ d tl, body = d :: tl → isDigit d = false)
    (h : tagStep body st2 = some st3) :
    ∃ stM3, RelB K st3 stM3 ∧ st3.pending = st2.pending ∧
      ∀ (s' : Str) (f : PT) (acc : Str) (st : PT), flushSt st acc = some stM2 → J' s' [] stM3 f →
        J' (('<' :: body ++ ['>']) ++ s') acc st f := by
  obtain ⟨stM3, T, F, hJ⟩ := tag_frame R.toRelT body st3 hb hdig h
  refine ⟨stM3, ⟨⟨T, fun k => F.tagok (R.tagok k)⟩, F.acc.trans R.acc,
    by rw [F.items, F.runs]; exact R.lax, by rw [F.mpending, F.pending]; exact R.pend, fun hN => ?_⟩, F.pending, hJ⟩
  rw [F.items, F.runs]
  exact R.exact ⟨F.pending.symm.trans hN.1, by rw [← F.runs]; exact hN.2⟩

theorem digit_tok_facts {c : Char} (h : isDigit c = true) :
    isLetter c = false ∧ c ≠ '/' ∧ c ≠ '!' ∧ c ≠ '?' := by
  obtain ⟨k, hk, rfl⟩ := isDigC_iff_digitChar.mp h
  exact VTT.digitChar_not_markup_open hk

theorem tagStep_digit (c : Char) (tl : Str) (st st3 : TextSt) (hd : isDigit c = true)
    (h : tagStep (c :: tl) st = some st3) :
    ∃ t, inlineTs (c :: tl) = some t ∧ st3 = { st with pending := some t } := by
  rw [tagStep] at h
  · simp only [hd, if_true] at h
    split at h
    · rename_i t ht
      cases h
      exact ⟨t, ht, rfl⟩
    · cases h
  · intro e; exact (digit_tok_facts hd).2.1 e

theorem J'_lt {d : Char} {s acc : Str} {st f : PT} (hd : isLetter d = false ∧ d ≠ '/' ∧ d ≠ '!' ∧ d ≠ '?')
    (h : J' (d :: s) ('<' :: acc) st f) : J' ('<' :: d :: s) acc st f := by
  unfold J' VTT.J; rw [tokFrom_lt_other hd]; exact h

/-- the decoder's state `st` between two pieces and the reader's state `stM` at the start of the open text token, of
    which `tok` has been read: whatever `<`-free text comes next, the two are related by `Rel2` -/
def Next (K : Prop) (st : TextSt) (stM : PT) (tok : Str) : Prop :=
  ∀ x, (∀ c ∈ x, c ≠ '<') → (chunkOK x = true ∨ st.pending = none) →
    ∃ pre segs, Rel2 K (addText x st) stM pre segs ∧ rawTok pre segs = tok ++ x

/-- **The simulation**, by induction on the decoder's run.  An inline timestamp does not end the reader's text token
    (`Next` goes on with one more segment), a tag does (`rel2_close`, `relB_tag`).  The rest of the line has every
    piece `chunkOK`, or holds no inline timestamp while none is pending: the two halves of `lineOK2`. -/
theorem Run.sim2 {K : Prop} {s : Str} {st fD : TextSt} (h : Run s st fD) :
    ∀ (stM : PT) (tok : Str), Next K st stM tok → scanOK2 false s = true →
      (chunksOK false s [] = true ∨ (tsScan false s = false ∧ st.pending = none)) →
      ∃ fM, RelB K fD fM ∧ J' s tok.reverse stM fM := by
  induction h with
  | done x st hx =>
    intro stM tok hN _ hc
    have hcx : chunkOK x = true ∨ st.pending = none := by
      rcases hc with hc | hc
      · left
        have := chunksOK_split x [] hx restLt_nil
        rw [List.append_nil] at this
        rw [this, Bool.and_eq_true] at hc
        exact hc.1
      · exact Or.inr hc.2
    obtain ⟨pre, segs, R2, e⟩ := hN x hx hcx
    obtain ⟨stM2, hfl, RU⟩ := rel2_close R2
    refine ⟨stM2, RU, ?_⟩
    rw [e, List.reverse_append] at hfl
    have : J' (x ++ []) tok.reverse stM stM2 := J'_text hx (J'_nil hfl)
    simpa using this
  | tag x body after st st3 fD hx hbody hstep _ ih =>
    intro stM tok hN hok hc
    have hgt : ∀ c ∈ body, c ≠ '>' := fun c hc => (hbody c hc).1
    rw [scanOK2_text x _ hx] at hok
    obtain ⟨hokb, hokafter⟩ := (scanOK2_tag body after hgt).mp hok
    -- what the class says of the piece `x`, of the head of `body`, of the rest `after`
    have hcl : (chunkOK x = true ∧ chunksOK false after [] = true) ∨
        (st.pending = none ∧ (∀ d tl, body = d :: tl → isDigit d = false) ∧ tsScan false after = false) := by
      rcases hc with hc | ⟨h1, h2⟩
      · left
        rw [chunksOK_split x _ hx (restLt_lt _), chunksOK_tag body after [] hgt] at hc
        simp only [Bool.and_eq_true] at hc
        exact ⟨hc.1, hc.2.2⟩
      · right
        rw [tsScan_text x _ hx, tsScan_false_cons, if_pos rfl, Bool.or_eq_false_iff, tsScan_body body after hgt] at h1
        refine ⟨h2, ?_, h1.2⟩
        intro d tl e
        subst e
        exact h1.1
    have hcx : chunkOK x = true ∨ st.pending = none := hcl.imp (·.1) (·.1)
    obtain ⟨pre, segs, R2, e⟩ := hN x hx hcx
    cases body with
    | nil => rw [tagStep_nil] at hstep; cases hstep
    | cons d tl =>
      by_cases hdig : isDigit d = true
      · -- an inline timestamp: the reader's text token goes on
        have hca : chunksOK false after [] = true := by
          rcases hcl with h | ⟨_, h, _⟩
          · exact h.2
          · rw [h d tl rfl] at hdig; cases hdig
        obtain ⟨t, ht, e3⟩ := tagStep_digit d tl _ st3 hdig hstep
        subst e3
        have hN' : Next K { flushText (addText x st) with pending := some t } stM
            (tok ++ x ++ '<' :: (d :: tl) ++ ['>']) := by
          intro x' hx' hn'
          have hcx' : chunkOK x' = true := by
            rcases hn' with h | h
            · exact h
            · cases h
          refine ⟨pre, segs ++ [(d :: tl, x')], ?_, ?_⟩
          · rw [addText_of_acc_nil x'
              (show ({ flushText (addText x st) with pending := some t } : TextSt).acc = [] from flushText_acc _)]
            exact rel2_seg R2 (d :: tl) t ht x' hx' hcx'
          · rw [rawTok_snoc, e]; simp
        obtain ⟨fM, RF, JF⟩ := ih stM _ hN' hokafter (Or.inl hca)
        refine ⟨fM, RF, J'_text hx ?_⟩
        have hy : ∀ c ∈ (d :: tl) ++ ['>'], c ≠ '<' := by
          intro c hc
          rcases List.mem_append.mp hc with hc | hc
          · exact (hbody c hc).2.1
          · simp only [List.mem_singleton] at hc; subst hc; decide
        have e4 : '<' :: ((d :: tl) ++ '>' :: after) = '<' :: d :: ((tl ++ ['>']) ++ after) := by simp
        rw [e4]
        apply J'_lt (digit_tok_facts hdig)
        have e5 : d :: ((tl ++ ['>']) ++ after) = ((d :: tl) ++ ['>']) ++ after := by simp
        rw [e5]
        apply J'_text hy
        have e6 : (tok ++ x ++ '<' :: (d :: tl) ++ ['>']).reverse
            = ((d :: tl) ++ ['>']).reverse ++ '<' :: (x.reverse ++ tok.reverse) := by simp
        rw [e6] at JF
        exact JF
      · -- a tag: the reader's text token ends here
        have hdig' : ∀ d' tl', d :: tl = d' :: tl' → isDigit d' = false := by
          intro d' tl' e'; cases e'; simpa using hdig
        obtain ⟨stM2, hfl, RB⟩ := rel2_close R2
        obtain ⟨stM3, R3, hp3, hJ⟩ := relB_tag RB (d :: tl) st3 ⟨hbody, hokb⟩ hdig' hstep
        have hN' : Next K st3 stM3 [] := by
          intro x' hx' hn'
          refine ⟨x', [], ?_, by rw [rawTok_nil]; rfl⟩
          rw [addText_of_acc_nil x' R3.acc]
          exact rel2_pre R3 x' hx' hn'
        have hca : chunksOK false after [] = true ∨ (tsScan false after = false ∧ st3.pending = none) := by
          rcases hcl with h | ⟨h1, _, h3⟩
          · exact Or.inl h.2
          · exact Or.inr ⟨h3, by rw [hp3]; exact flushText_pending_none (show (addText x st).pending = none from h1)⟩
        obtain ⟨fM, RF, JF⟩ := ih stM3 [] hN' hokafter hca
        refine ⟨fM, RF, J'_text hx ?_⟩
        rw [e, List.reverse_append] at hfl
        have := hJ after fM (x.reverse ++ tok.reverse) stM hfl (by simpa using JF)
        simpa using this

theorem relB_init {K : Prop} (stack : List GTag) (hg : ∀ t ∈ stack, goodName t.name = true)
    (ht : K → ∀ t ∈ stack, tagOK t = true) : RelB K { stack := stack } { tags := stack.map modelTag } :=
  ⟨⟨⟨fun v hv => (nomatch hv), hg, rfl, rfl⟩, ht⟩, rfl, ⟨[], rfl, rfl, fun _ r hr => (nomatch hr)⟩, pendOf_none.symm,
    fun _ => rfl⟩

theorem sim_line2 {K : Prop} (l : Str) (stack : List GTag) (st : TextSt) (hok : scanOK2 false l = true)
    (hc : chunksOK false l [] = true ∨ hasTs l = false)
    (hg : ∀ t ∈ stack, goodName t.name = true) (ht : K → ∀ t ∈ stack, tagOK t = true)
    (h : textLine (l.length + 2) l { stack := stack } = some st) :
    ∃ fM, RelB K st fM ∧ J' l [] { tags := stack.map modelTag } fM := by
  have hN : Next K { stack := stack } { tags := stack.map modelTag } [] := by
    intro x hx hn
    refine ⟨x, [], ?_, by rw [rawTok_nil]; rfl⟩
    rw [addText_of_acc_nil x rfl]
    exact rel2_pre (relB_init stack hg ht) x hx hn
  have := (run_of_line l _ st h).sim2 _ [] hN hok (hc.imp id fun h => ⟨h, rfl⟩)
  simpa using this

theorem runView_runItem2 (r : GRun) (h : ∀ t ∈ r.tags, tagOK t = true) :
    runView (runItem2 r) = some (zeroTsRun r) := by
  obtain ⟨text, tags, ts⟩ := r
  simp only at h
  cases ts with
  | none => simp [runView, runItem2, zeroTsRun, tagsView_roundtrip tags h]
  | some k =>
    cases k with
    | zero => simp [runView, runItem2, zeroTsRun, tagsView_roundtrip tags h]
    | succ k =>
      have h1 : ((((k + 1 : Nat) : Int)) * 1000000) % 1000000 = 0 := Int.mul_emod_left _ _
      have h2 : ¬ ((((k + 1 : Nat) : Int)) * 1000000 < 0) := by omega
      have h3 : ((((k + 1 : Nat) : Int)) * 1000000) ≠ 0 := by omega
      have h4 : (((((k + 1 : Nat) : Int)) * 1000000) / 1000000).toNat = k + 1 := by
        rw [Int.mul_ediv_cancel _ (by decide)]; simp
      simp only [runView, runItem2, zeroTsRun, Option.getD_some, h1, h2, h3, h4, tagsView_roundtrip tags h]
      simp

theorem parseText2_of_textLine (l : Str) (stack : List GTag) (st : TextSt)
    (hok : scanOK2 false l = true) (hc : chunksOK false l [] = true ∨ hasTs l = false)
    (hg : ∀ t ∈ stack, goodName t.name = true) (ht : ∀ t ∈ stack, tagOK t = true)
    (h : textLine (l.length + 2) l { stack := stack } = some st) :
    ((∀ t ∈ st.stack, goodName t.name = true) ∧ (∀ t ∈ st.stack, tagOK t = true)) ∧
    (VTT.parseText l (stack.map modelTag) = .unmodelled ∨
     ∃ rs : List GRun,
       VTT.parseText l (stack.map modelTag) =
         .ok (st.stack.map modelTag, { voice := st.voice.getD [], items := rs.map runItem2 }) ∧
       rs.filter nb = st.runs.filter nb ∧
       ∀ r ∈ rs, runView (runItem2 r) = some (zeroTsRun r)) := by
  obtain ⟨fM, R, hJ⟩ := sim_line2 (K := True) l stack st hok hc hg (fun _ => ht) h
  refine ⟨⟨R.good, R.tagok trivial⟩, (parseText_of_J' hJ).imp id fun h1 => ?_⟩
  obtain ⟨rs, hitems, hnb, htag⟩ := R.lax
  exact ⟨rs, by rw [h1, R.tags, R.voice, hitems], hnb, fun r hr => runView_runItem2 r (htag trivial r hr)⟩

theorem chunksOK_of_noNbsp (n : Nat) : ∀ (l : Str), l.length < n → noNbsp l = true → chunksOK false l [] = true := by
  induction n with
  | zero => intro l h; omega
  | succ n ih =>
    intro l hl hn
    obtain ⟨x, r, e, hx, hr⟩ := chunk_rest l
    subst e
    rw [chunksOK_split x r hx hr, chunkOK_of_noNbsp (noNbsp_take x r hr hn), Bool.true_and]
    have hnr := noNbsp_drop x r hn
    cases r with
    | nil => rw [chunksOK_nil]; exact chunkOK_nil
    | cons c r' =>
      have hc : c = '<' := hr c r' rfl
      subst hc
      have hsplit : r'.takeWhile (· != '>') ++ r'.dropWhile (· != '>') = r' := List.takeWhile_append_dropWhile
      have hb : ∀ c ∈ r'.takeWhile (· != '>'), c ≠ '>' := by
        intro c hc
        simpa using List.mem_takeWhile_imp hc
      generalize r'.takeWhile (· != '>') = body at hsplit hb
      cases hd : r'.dropWhile (· != '>') with
      | nil =>
        rw [hd, List.append_nil] at hsplit
        subst hsplit
        rw [chunksOK_false_cons, if_pos rfl, chunksOK_noGt body hb]
        simp [chunkOK_nil]
      | cons g after =>
        have hg : g = '>' := by simpa using List.dropWhile_head r' g after hd
        subst hg
        rw [hd] at hsplit
        subst hsplit
        rw [chunksOK_tag body after [] hb, List.reverse_nil, chunkOK_nil, Bool.true_and]
        apply ih after
        · simp only [List.length_append, List.length_cons] at hl; omega
        · have : '<' :: (body ++ '>' :: after) = ('<' :: body ++ ['>']) ++ after := by simp
          rw [this] at hnr
          exact noNbsp_drop _ _ hnr

theorem lineOK2_of_noNbsp {l : Str} (h1 : scanOK2 false l = true) (h2 : noNbsp l = true) : lineOK2 l = true := by
  unfold lineOK2
  rw [h1, chunksOK_of_noNbsp (l.length + 1) l (Nat.lt_succ_self _) h2]
  simp

end VTTRead
end Astisub
