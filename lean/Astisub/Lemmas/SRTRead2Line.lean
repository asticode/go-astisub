import Astisub.Driver.SRT
import Astisub.Lemmas.KV
import Astisub.Lemmas.SRTRead2Tag

/-!
# Lemmas/SRTRead2Line — one text line: the reader model's `parseText` against the decoder's `runsOf`

The independent decoder scans a line character by character (`Spec.SRT.runsOf`: text accumulator,
running style, runs emitted so far); the reader model tokenizes the line with the HTML tokenizer
model and then folds `SRT.stepTok` over the tokens.  The two are related position by position
(`sim`, over `Go.tokFrom`: the tokens of the rest of the line behind the pending text): from a reader
state that has the decoder's running style and stores the items of the decoder's runs (`ofG`: the reader's
item is a function of the decoder's run), folding the tokens of the rest gives the decoder's final state.
In front: what the attributes built by `runAttrs` hold for a key (`kvGet_runAttrs`), so that the view
`SRTDoc.drvRun` which `Driver.srtView` applies gives the decoder's run back (`drvRun_ofG`).
-/

namespace Astisub
namespace SRTDoc
open Go SRT

/-- the pairs `runAttrs` hands to `mkAttrs` for a styled run (`t`: the `WebVTTTags` entry) -/
def runPairs (r : Run) (t : Option Str) : List (String × Option Str) :=
  [("SRTBold", optBool r.bold), ("SRTColor", r.color), ("SRTItalics", optBool r.italics),
    ("SRTUnderline", optBool r.underline), ("TTMLColor", r.color),
    ("WebVTTBold", optBool r.bold), ("WebVTTItalics", optBool r.italics), ("WebVTTUnderline", optBool r.underline),
    ("WebVTTTags", t)]

theorem runAttrs_keys (r : Run) (t : Option Str) : (runPairs r t).Pairwise (fun a b => a.1 ≠ b.1) := by
  simp [runPairs, List.pairwise_cons]

theorem optBool_none_of_plain (r : Run) (h : styled r = false) :
    r.bold = false ∧ r.italics = false ∧ r.underline = false ∧ r.color = none := by
  rcases r with ⟨b, i, u, c⟩
  cases b <;> cases i <;> cases u <;> cases c <;> simp [styled] at h ⊢

/-- an entry of `runAttrs r`: what the pairs hold for the key, nothing at all for an unstyled run -/
theorem kvGet_runAttrs (r : Run) (k : String) (o : Option Str) (hp : styled r = false → o = none)
    (h : ∀ t v, (k, some v) ∈ runPairs r t ↔ o = some v) : kvGet (runAttrs r) k = o := by
  cases hs : styled r with
  | false =>
    have : (r.bold || r.color.isSome || r.italics || r.underline) = false := hs
    unfold runAttrs
    simp only [this, Bool.false_eq_true, ↓reduceIte]
    rw [hp hs]; rfl
  | true =>
    have : (r.bold || r.color.isSome || r.italics || r.underline) = true := hs
    unfold runAttrs
    simp only [this, ↓reduceIte]
    exact SRT.kvGet_mkAttrs (runAttrs_keys r _) (h _)

theorem kvGet_runAttrs_bold (r : Run) : kvGet (runAttrs r) "SRTBold" = optBool r.bold :=
  kvGet_runAttrs r _ _ (fun hs => by rw [(optBool_none_of_plain r hs).1]; rfl)
    (fun t v => by simp [runPairs]; exact eq_comm)

theorem kvGet_runAttrs_italics (r : Run) : kvGet (runAttrs r) "SRTItalics" = optBool r.italics :=
  kvGet_runAttrs r _ _ (fun hs => by rw [(optBool_none_of_plain r hs).2.1]; rfl)
    (fun t v => by simp [runPairs]; exact eq_comm)

theorem kvGet_runAttrs_underline (r : Run) : kvGet (runAttrs r) "SRTUnderline" = optBool r.underline :=
  kvGet_runAttrs r _ _ (fun hs => by rw [(optBool_none_of_plain r hs).2.2.1]; rfl)
    (fun t v => by simp [runPairs]; exact eq_comm)

theorem kvGet_runAttrs_color (r : Run) : kvGet (runAttrs r) "SRTColor" = r.color :=
  kvGet_runAttrs r _ _ (fun hs => (optBool_none_of_plain r hs).2.2.2)
    (fun t v => by simp [runPairs]; exact eq_comm)

theorem optBool_isSome (b : Bool) : (optBool b).isSome = b := by cases b <;> rfl

/-- the run `srtView` builds from an `LItem` -/
def drvRun (li : LItem) : Spec.SRT.GRun :=
  { text := li.text, bold := (SRT.kvGet li.attrs "SRTBold").isSome, italic := (SRT.kvGet li.attrs "SRTItalics").isSome,
    underline := (SRT.kvGet li.attrs "SRTUnderline").isSome, color := SRT.kvGet li.attrs "SRTColor" }

/-- the cue `srtView` builds -/
def drvItem (it : CItem) : Option Spec.SRT.GCue :=
  if it.startAt % 1000000 ≠ 0 || it.endAt % 1000000 ≠ 0 || it.startAt < 0 || it.endAt < 0 then none else
  some { startMs := (it.startAt / 1000000).toNat, endMs := (it.endAt / 1000000).toNat,
         lines := it.lines.map fun l => l.items.map drvRun }

theorem srtView_eq (s : Subs) : Driver.srtView s = Spec.SRT.mapM drvItem s.items := rfl

end SRTDoc

namespace SRTRead2
open Go SRT SRTDoc
open Spec.SRT (GRun Sty runsOf cueLines)

/-- the item the reader stores for a run the decoder emits -/
def ofG (g : GRun) : LItem :=
  { text := g.text, attrs := runAttrs { bold := g.bold, italics := g.italic, underline := g.underline, color := g.color } }

theorem drvRun_ofG (g : GRun) : drvRun (ofG g) = g := by
  simp only [ofG, drvRun, kvGet_runAttrs_bold, kvGet_runAttrs_italics, kvGet_runAttrs_underline, kvGet_runAttrs_color,
    optBool_isSome]

theorem map_drvRun_ofG (gs : List GRun) : (gs.map ofG).map drvRun = gs := by
  rw [List.map_map]; simp [Function.comp_def, drvRun_ofG]

theorem styOf_inj {a b : Run} (h : styOf a = styOf b) : a = b := by
  cases a; cases b; simp only [styOf, Sty.mk.injEq] at h
  obtain ⟨rfl, rfl, rfl, rfl⟩ := h; rfl

/-- the relation between the decoder's state and the reader's: the same running style, and the reader's
    items are those of the decoder's runs -/
def Rel (sty : Sty) (outd : List GRun) (p : Run × List LItem) : Prop :=
  styOf p.1 = sty ∧ p.2 = outd.map ofG

/-- flushing the pending text: the decoder emits a run exactly when the reader emits an item -/
theorem rel_flush (sty : Sty) (acc : Str) (outd : List GRun) (st : Run × List LItem)
    (h : Rel sty outd st) : Rel sty (flushS sty acc outd) ((Tok.flush acc []).foldl stepTok st) := by
  unfold Tok.flush
  cases acc with
  | nil => simpa [flushS_nil] using h
  | cons a acc =>
    have hne : ((a :: acc).isEmpty) = false := rfl
    simp only [hne, Bool.false_eq_true, ↓reduceIte, List.foldl_cons, List.foldl_nil]
    obtain ⟨h1, h2⟩ := h
    unfold flushS stepTok
    by_cases hb : trimSpace (a :: acc).reverse = []
    · simp only [hb, ne_eq, not_true_eq_false, ↓reduceIte]
      exact ⟨h1, h2⟩
    · simp only [hb, ne_eq, not_false_eq_true, ↓reduceIte]
      refine ⟨h1, ?_⟩
      rw [List.map_append, ← h2, ← h1]
      rfl

/-- **Simulation.** wherever the decoder stands in the line, with the tokenizer at the same place and the reader
    in a related state: if the decoder accepts the rest of the line, then the tokens of the rest fold to the
    decoder's final state — unless the tokenizer leaves the model, which only a NUL in the rest of the line can cause -/
theorem sim : ∀ (fd : Nat) (s : Str) (sty : Sty) (acc : Str) (outd : List GRun) (st : Run × List LItem)
    (res : Sty × List GRun), runsOf fd s sty acc outd = some res → Rel sty outd st →
    (tokFrom s acc = .unmodelled ∧ '\x00' ∈ s) ∨
      ∃ ts, tokFrom s acc = .ok ts ∧ Rel res.1 res.2 (ts.foldl stepTok st) := by
  intro fd
  induction fd with
  | zero => intro s sty acc outd st res h; rw [runsOf_zero] at h; cases h
  | succ fd ih =>
    intro s sty acc outd st res h hrel
    cases s with
    | nil =>
      rw [runsOf_nil] at h; cases h
      exact .inr ⟨_, tokFrom_nil acc, rel_flush sty acc outd st hrel⟩
    | cons c rest =>
      by_cases hc : c = '<'
      · subst hc
        cases rest with
        | nil =>
          rw [runsOf_lt_end] at h
          cases fd with
          | zero => rw [runsOf_zero] at h; cases h
          | succ fd =>
            rw [runsOf_nil] at h; cases h
            exact .inr ⟨_, tokFrom_lt_end acc, rel_flush sty ('<' :: acc) outd st hrel⟩
        | cons c tl =>
          by_cases hg : (runsOf.isLetter' c || c = '/' || c = '!' || c = '?') = true
          · cases ht : Spec.SRT.tagAt ('<' :: c :: tl) with
            | none => rw [runsOf_lt_bad _ _ _ _ _ _ hg ht] at h; cases h
            | some fa =>
              obtain ⟨f, after⟩ := fa
              rw [runsOf_tag _ _ _ _ _ _ _ _ hg ht] at h
              obtain ⟨t, hstep, hact⟩ := tag_sim _ f after ht acc []
              have e := tokFrom_of_step hstep
              obtain ⟨h1, h2⟩ := rel_flush sty acc outd st hrel
              have := hact ((Tok.flush acc []).foldl stepTok st).1 ((Tok.flush acc []).foldl stepTok st).2
              rcases ih after (f sty) [] _ (stepTok ((Tok.flush acc []).foldl stepTok st) t) res h
                  ⟨by rw [this.2, h1], by rw [this.1, h2]⟩ with ⟨hu, hn⟩ | ⟨ts, hts, hr⟩
              · exact .inl ⟨by rw [e, hu]; rfl, tagAt_mem ht _ hn⟩
              · exact .inr ⟨_, by rw [e, hts]; rfl, by simpa [List.foldl_append] using hr⟩
          · have hg' : isLetter c = false ∧ c ≠ '/' ∧ c ≠ '!' ∧ c ≠ '?' := by
              simp only [Bool.or_eq_true, decide_eq_true_eq, not_or] at hg
              have e1 : runsOf.isLetter' c = false := by simpa using hg.1.1.1
              exact ⟨e1, hg.1.1.2, hg.1.2, hg.2⟩
            rw [runsOf_lt_other _ _ _ _ _ _ (by simpa using hg)] at h
            rw [tokFrom_lt_other hg']
            exact (ih (c :: tl) sty ('<' :: acc) outd st res h hrel).imp (And.imp_right (List.mem_cons_of_mem _)) id
      · by_cases h0 : c = '\x00'
        · subst h0; exact .inl ⟨tokFrom_nul rest acc, List.mem_cons_self⟩
        · rw [runsOf_char _ _ _ _ _ _ hc] at h
          rw [tokFrom_plain hc h0]
          exact (ih rest sty (c :: acc) outd st res h hrel).imp (And.imp_right (List.mem_cons_of_mem _)) id

/-- **One line.** a non-blank line that the decoder turns into the runs `res.2` (from the style `styOf sa`):
    the reader stores the items `res.2.map ofG` and ends in the decoder's style — unless the tokenizer leaves
    the model, which only a NUL in the line can cause -/
theorem parseText_sim_exact (l : Str) (sa : Run) (res : Sty × List GRun) (hne : trimSpace l ≠ [])
    (h : runsOf (l.length + 2) l (styOf sa) [] [] = some res) :
    (parseText l sa = .unmodelled ∧ '\x00' ∈ l) ∨
      ∃ sa', parseText l sa = .ok (sa', { items := res.2.map ofG }) ∧ styOf sa' = res.1 := by
  unfold parseText
  simp only [hne, ↓reduceIte, tokenize_eq_tokFrom]
  rcases sim (l.length + 2) l (styOf sa) [] [] (sa, []) res h ⟨rfl, rfl⟩ with ⟨hu, h0⟩ | ⟨ts, ht, hr⟩
  · rw [hu]; exact .inl ⟨rfl, h0⟩
  · rw [ht]
    exact .inr ⟨_, by rw [← hr.2], hr.1⟩

/-- the same through the view `drvRun` that `Driver.srtView` applies -/
theorem parseText_sim (l : Str) (sa : Run) (res : Sty × List GRun) (hne : trimSpace l ≠ [])
    (h : runsOf (l.length + 2) l (styOf sa) [] [] = some res) (hm : parseText l sa ≠ .unmodelled) :
    ∃ sa' items, parseText l sa = .ok (sa', { items := items }) ∧ styOf sa' = res.1 ∧ items.map drvRun = res.2 := by
  rcases parseText_sim_exact l sa res hne h with ⟨hu, _⟩ | ⟨sa', hp, hs⟩
  · exact absurd hu hm
  · exact ⟨sa', _, hp, hs, map_drvRun_ofG _⟩

theorem stepTok_texts (st : Run × List LItem) (t : Tok) (h : ∀ it ∈ st.2, it.text ≠ []) :
    ∀ it ∈ (stepTok st t).2, it.text ≠ [] := by
  cases t with
  | text raw =>
    unfold stepTok
    by_cases hb : trimSpace raw = []
    · simpa [hb] using h
    · simp only [hb, ne_eq, not_false_eq_true, ↓reduceIte]
      intro it hit
      rw [List.mem_append] at hit
      rcases hit with hit | hit
      · exact h it hit
      · simp only [List.mem_singleton] at hit
        subst hit
        apply replacer_ne_nil (pairs := unescapePairs) (by decide)
        intro e; subst e; exact hb rfl
  | startTag raw name attrs => exact h
  | endTag raw name => exact h
  | selfClosing raw name attrs => exact h
  | other raw => exact h

theorem foldl_stepTok_texts (toks : List Tok) (st : Run × List LItem) (h : ∀ it ∈ st.2, it.text ≠ []) :
    ∀ it ∈ (toks.foldl stepTok st).2, it.text ≠ [] := by
  induction toks generalizing st with
  | nil => exact h
  | cons t ts ih => exact ih _ (stepTok_texts st t h)

/-- what the reader appends for an empty line -/
def blankLine : Line := { items := [{ text := [] }] }

theorem blankLine_eq : blankLine = C01.blankLine := rfl

theorem parseText_ne_err (l : Str) (sa : Run) : parseText l sa ≠ .err := by
  unfold parseText
  split
  · intro e; cases e
  · split <;> (intro e; cases e)

theorem parseText_shape (l : Str) (sa sa' : Run) (ln : Line) (h : parseText l sa = .ok (sa', ln)) :
    (ln = blankLine ∧ sa' = sa ∧ trimSpace l = []) ∨ (trimSpace l ≠ [] ∧ ∀ it ∈ ln.items, it.text ≠ []) := by
  unfold parseText at h
  by_cases hb : trimSpace l = []
  · simp only [hb, ↓reduceIte] at h
    injection h with h
    injection h with h1 h2
    exact Or.inl ⟨h2.symm, h1.symm, hb⟩
  · simp only [hb, ↓reduceIte] at h
    right
    refine ⟨hb, ?_⟩
    cases ht : tokenize l with
    | unmodelled => rw [ht] at h; cases h
    | ok toks =>
      rw [ht] at h
      injection h with h
      injection h with h1 h2
      rw [← h2]
      exact foldl_stepTok_texts toks (sa, []) (by simp)

end SRTRead2
end Astisub
