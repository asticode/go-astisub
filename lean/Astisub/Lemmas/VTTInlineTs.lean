import Astisub.Lemmas.VTTRead2Time
import Astisub.Lemmas.VTTTiming
import Astisub.Lemmas.Fuel

/-!
# Lemmas/VTTInlineTs — inline timestamps and the text token, for the reader and for what the writer emits

The instants the writer prints as the independent decoder reads them (`timeMs`, `inlineTs` on `Duration.formatVTT t`);
an accepted inline timestamp is one match of `Go.tsAt`; `Go.splitTs` without fuel (`tsSplit`); a text token
`pre <t1> x1 … <tn> xn` (`rawTok`) is cut into these pieces and `textToken` is the fold `tokAct`.
-/

namespace Astisub
namespace VTT3W
open Go Spec.VTT List

theorem splitC_canon3 (h m s f : Nat) (hh : h < 100) (hm : m < 100) (hs : s < 100) (hf : f < 1000) :
    splitC '.' (C16.canon3 h m s f '.') = [dd h ++ ':' :: dd m ++ ':' :: dd s, ddd f] := by
  unfold C16.canon3
  rw [splitC_append _ ((C16.hms_dd hh hm hs).not_mem_sep (.inl rfl)),
    splitC_not_mem ((digitStr_ddd hf).not_mem (by decide))]

theorem trimSpace_canon3 (h m s f : Nat) (hh : h < 100) (hm : m < 100) (hs : s < 100) (hf : f < 1000)
    (tl : Str) (htl : tl = [] ∨ tl = [' ']) :
    trimSpace (C16.canon3 h m s f '.' ++ tl) = C16.canon3 h m s f '.' := by
  have hns : ∀ c ∈ C16.canon3 h m s f '.', isSpace c = false :=
    fun c hc => VTT.timeChar_noSpace (VTT.timeChar_canon3 h m s f hh hm hs hf c hc)
  rcases htl with rfl | rfl
  · rw [List.append_nil]; exact trimSpace_id hns
  · exact trimSpace_trailing hns

theorem timeMs_canon3 (h m s f : Nat) (hh : h < 100) (hm : m < 60) (hs : s < 60) (hf : f < 1000)
    (tl : Str) (htl : tl = [] ∨ tl = [' ']) :
    timeMs (C16.canon3 h m s f '.' ++ tl) = some (((h * 60 + m) * 60 + s) * 1000 + f) := by
  have := VTTRead.timeMs_of_clock_frac (C16.hms_dd hh (by omega) (by omega)) hm hs (by omega) (.ddd hf) (Nat.le_refl 3)
    (trimSpace_canon3 h m s f hh (by omega) (by omega) hf tl htl)
  rwa [show 3 - (ddd f).length = 0 from rfl, Nat.pow_zero, Nat.mul_one] at this

theorem timeMs_format (t : Int) (h0 : 0 ≤ t) (h1 : t < 360000000000000) (tl : Str) (htl : tl = [] ∨ tl = [' ']) :
    ∃ ms, timeMs (Duration.formatVTT t ++ tl) = some ms := by
  obtain ⟨h, m, s, f, hh, hm, hs, hf, hfmt, _⟩ := C16.format_shape3 t '.' h0 h1
  have hF : Duration.formatVTT t = C16.canon3 h m s f '.' := hfmt
  rw [hF]
  exact ⟨_, timeMs_canon3 h m s f hh hm hs hf tl htl⟩

theorem timeChar_ne {c : Char} (h : VTT.timeChar c = true) (x : Char) (hx : VTT.timeChar x = false) : c ≠ x := by
  intro e
  rw [e, hx] at h
  cases h

theorem inlineTs_canon3 (h m s f : Nat) (hh : h < 100) (hm : m < 60) (hs : s < 60) (hf : f < 1000) :
    inlineTs (C16.canon3 h m s f '.') = some (((h * 60 + m) * 60 + s) * 1000 + f) := by
  have hl : (ddd f).length = 3 := rfl
  have hl2 : ∀ v, (dd v).length = 2 := fun _ => rfl
  have nc : ∀ {v : Nat}, v < 100 → ':' ∉ dd v := fun hv => (digitStr_dd hv).not_mem (by decide)
  have hsp : splitC ':' (dd h ++ ':' :: dd m ++ ':' :: dd s) = [dd h, dd m, dd s] := by
    rw [C16.hms_assoc]; exact splitC_three_mk (nc hh) (nc (by omega)) (nc (by omega))
  have ht := timeMs_canon3 h m s f hh hm hs hf [] (Or.inl rfl)
  rw [append_nil] at ht
  have hd : ∀ {t : Str}, DigitStr t → t.all isDigit = true := fun h => digitStr_iff_all_isDigC.mp h
  unfold inlineTs
  simp only [splitC_canon3 h m s f hh (by omega) (by omega) hf, hl, hsp, hl2, hd (digitStr_dd hh),
    hd (digitStr_dd (show m < 100 by omega)), hd (digitStr_dd (show s < 100 by omega)), hd (digitStr_ddd hf)]
  simp [ht]

theorem inlineTs_format (t : Int) (h0 : 0 ≤ t) (h1 : t < 360000000000000) :
    inlineTs (Duration.formatVTT t) = some (t / 1000000).toNat := by
  obtain ⟨h, m, s, f, hh, hm, hs, hf, hfmt, hval⟩ := C16.format_shape3 t '.' h0 h1
  have e : Duration.formatVTT t = C16.canon3 h m s f '.' := hfmt
  rw [e, inlineTs_canon3 h m s f hh hm hs hf]
  unfold Duration.nsPerMs Duration.nsPerS Duration.nsPerMin Duration.nsPerH at hval
  congr 1
  omega

end VTT3W
end Astisub

namespace Astisub
namespace VTTRead
open Go Spec.VTT List
open SRT (unescapeHTML)

/-- the shape `mm:ss.ttt` -/
def tail9 (a b c d e f g : Char) : Str := [a, b, ':', c, d, '.', e, f, g]

structure Dig7 (a b c d e f g : Char) : Prop where
  a : isDigit a = true
  b : isDigit b = true
  c : isDigit c = true
  d : isDigit d = true
  e : isDigit e = true
  f : isDigit f = true
  g : isDigit g = true

theorem len2 {p : Str} (h : p.length = 2) : ∃ a b, p = [a, b] := by
  match p, h with
  | [a, b], _ => exact ⟨a, b, rfl⟩

theorem len3 {p : Str} (h : p.length = 3) : ∃ a b c, p = [a, b, c] := by
  match p, h with
  | [a, b, c], _ => exact ⟨a, b, c, rfl⟩

theorem shape_inv {p : Str} {n : Nat} (h : (decide (p.length = n) && p.all isDigit) = true) :
    p.length = n ∧ ∀ c ∈ p, isDigit c = true := by
  simp only [Bool.and_eq_true, decide_eq_true_eq, List.all_eq_true] at h
  exact h

theorem join2 (c : Char) (x y : Str) : join [c] [x, y] = x ++ c :: y := by
  simp [join]

theorem join3 (c : Char) (x y z : Str) : join [c] [x, y, z] = x ++ c :: (y ++ c :: z) := by
  simp [join]

theorem inlineTs_shape {body : Str} {t : Nat} (h : inlineTs body = some t) :
    timeMs body = some t ∧
    ∃ (a b c d e f g : Char), Dig7 a b c d e f g ∧
      (body = tail9 a b c d e f g ∨
       ∃ hh : Str, 2 ≤ hh.length ∧ hh.length ≤ 6 ∧ (∀ x ∈ hh, isDigit x = true) ∧
         body = hh ++ ':' :: tail9 a b c d e f g) := by
  unfold inlineTs at h
  split at h
  · rename_i hms fr hsp
    have hbody : body = hms ++ '.' :: fr := by
      have := join_splitC '.' body
      rw [hsp, join2] at this
      exact this.symm
    simp only at h
    by_cases hfr : (decide (fr.length = 3) && fr.all isDigit) = true
    · simp only [hfr, Bool.not_true, Bool.false_eq_true, if_false] at h
      obtain ⟨hl3, hd3⟩ := shape_inv hfr
      obtain ⟨e, f, g, rfl⟩ := len3 hl3
      split at h
      · rename_i hh m sec hsp2
        have hhms : hms = hh ++ ':' :: (m ++ ':' :: sec) := by
          have := join_splitC ':' hms
          rw [hsp2, join3] at this
          exact this.symm
        split at h
        · rename_i hc
          simp only [Bool.and_eq_true, decide_eq_true_eq, List.all_eq_true, ge_iff_le] at hc
          obtain ⟨⟨⟨⟨h1, h2⟩, h3⟩, ⟨h4, h5⟩⟩, ⟨h6, h7⟩⟩ := hc
          obtain ⟨a, b, rfl⟩ := len2 h4
          obtain ⟨c, d, rfl⟩ := len2 h6
          refine ⟨h, a, b, c, d, e, f, g, ⟨h5 a (by simp), h5 b (by simp), h7 c (by simp), h7 d (by simp),
            hd3 e (by simp), hd3 f (by simp), hd3 g (by simp)⟩, Or.inr ⟨hh, h1, h3, h2, ?_⟩⟩
          rw [hbody, hhms]
          simp [tail9]
        · cases h
      · rename_i m sec hsp2
        have hhms : hms = m ++ ':' :: sec := by
          have := join_splitC ':' hms
          rw [hsp2, join2] at this
          exact this.symm
        split at h
        · rename_i hc
          simp only [Bool.and_eq_true, decide_eq_true_eq, List.all_eq_true] at hc
          obtain ⟨⟨h4, h5⟩, ⟨h6, h7⟩⟩ := hc
          obtain ⟨a, b, rfl⟩ := len2 h4
          obtain ⟨c, d, rfl⟩ := len2 h6
          refine ⟨h, a, b, c, d, e, f, g, ⟨h5 a (by simp), h5 b (by simp), h7 c (by simp), h7 d (by simp),
            hd3 e (by simp), hd3 f (by simp), hd3 g (by simp)⟩, Or.inl ?_⟩
          rw [hbody, hhms]
          simp [tail9]
        · cases h
      · cases h
    · simp only [hfr, Bool.not_false, if_true] at h
      cases h
  · cases h

theorem colon_not_dig : isDig ':' = false := by decide
theorem dot_not_dig : isDig '.' = false := by decide

theorem msTail_tail9 {a b c d e f g : Char} (D : Dig7 a b c d e f g) (rest : Str) :
    msTail (tail9 a b c d e f g ++ '>' :: rest) = some (tail9 a b c d e f g, rest) := by
  simp [msTail, tail9, isDigit_isDig D.a, isDigit_isDig D.b, isDigit_isDig D.c, isDigit_isDig D.d, isDigit_isDig D.e, isDigit_isDig D.f, isDigit_isDig D.g]

theorem msTail_short (c d e f g : Char) (rest : Str) :
    msTail (c :: d :: '.' :: e :: f :: g :: '>' :: rest) = none := by
  unfold msTail
  split
  · rename_i heq
    simp only [List.cons.injEq] at heq
    have h3 : '.' = ':' := heq.2.2.1
    exact absurd h3 (by decide)
  · rfl

theorem tsAt_tail9 {a b c d e f g : Char} (D : Dig7 a b c d e f g) (rest : Str) :
    tsAt (tail9 a b c d e f g ++ '>' :: rest) = some (tail9 a b c d e f g, rest) := by
  have hds : (tail9 a b c d e f g ++ '>' :: rest).takeWhile isDig = [a, b] := by
    simp [tail9, List.takeWhile, isDigit_isDig D.a, isDigit_isDig D.b, colon_not_dig]
  unfold tsAt
  simp only [hds]
  have hdrop : (tail9 a b c d e f g ++ '>' :: rest).drop [a, b].length
      = ':' :: c :: d :: '.' :: e :: f :: g :: '>' :: rest := by
    simp [tail9]
  rw [hdrop]
  simp only [List.length_cons, List.length_nil, ge_iff_le, Nat.le_refl, if_true, msTail_short, Option.map_none]
  exact msTail_tail9 D rest

theorem tsAt_hours {a b c d e f g : Char} (D : Dig7 a b c d e f g) (hh : Str) (h2 : 2 ≤ hh.length)
    (hd : ∀ x ∈ hh, isDigit x = true) (rest : Str) :
    tsAt ((hh ++ ':' :: tail9 a b c d e f g) ++ '>' :: rest) = some (hh ++ ':' :: tail9 a b c d e f g, rest) := by
  have e1 : (hh ++ ':' :: tail9 a b c d e f g) ++ '>' :: rest = hh ++ (':' :: (tail9 a b c d e f g ++ '>' :: rest)) := by
    simp
  have hds : ((hh ++ ':' :: tail9 a b c d e f g) ++ '>' :: rest).takeWhile isDig = hh := by
    rw [e1, List.takeWhile_append_of_pos (fun x hx => isDigit_isDig (hd x hx))]
    simp [List.takeWhile, colon_not_dig]
  unfold tsAt
  simp only [hds]
  rw [e1, List.drop_left]
  simp only [ge_iff_le, h2, if_true, msTail_tail9 D rest, Option.map_some]

theorem tsAt_inline {body : Str} {t : Nat} (h : inlineTs body = some t) (rest : Str) :
    tsAt (body ++ '>' :: rest) = some (body, rest) := by
  obtain ⟨_, a, b, c, d, e, f, g, D, hb | ⟨hh, h2, _, hd, hb⟩⟩ := inlineTs_shape h
  · rw [hb]; exact tsAt_tail9 D rest
  · rw [hb]; exact tsAt_hours D hh h2 hd rest

theorem small_go_dig (c : Char) (cs : Str) (n : Nat) (h : isDig c = true) (hn : n < 6) :
    VTT.smallNumbers.go (c :: cs) n = VTT.smallNumbers.go cs (n + 1) := by
  have : ¬ n ≥ 6 := by omega
  simp [VTT.smallNumbers.go, h, this]

theorem small_tail9 {a b c d e f g : Char} (D : Dig7 a b c d e f g) :
    VTT.smallNumbers.go (tail9 a b c d e f g) 0 = true := by
  unfold tail9
  rw [small_go_dig a _ 0 (isDigit_isDig D.a) (by omega), small_go_dig b _ 1 (isDigit_isDig D.b) (by omega),
    VTT.smallNumbers_go_sep colon_not_dig,
    small_go_dig c _ 0 (isDigit_isDig D.c) (by omega), small_go_dig d _ 1 (isDigit_isDig D.d) (by omega),
    VTT.smallNumbers_go_sep dot_not_dig,
    small_go_dig e _ 0 (isDigit_isDig D.e) (by omega), small_go_dig f _ 1 (isDigit_isDig D.f) (by omega),
    small_go_dig g _ 2 (isDigit_isDig D.g) (by omega)]
  rfl

theorem small_inline {body : Str} {t : Nat} (h : inlineTs body = some t) : VTT.smallNumbers body = true := by
  obtain ⟨_, a, b, c, d, e, f, g, D, hb | ⟨hh, _, h6, hd, hb⟩⟩ := inlineTs_shape h
  · rw [hb]; exact small_tail9 D
  · rw [hb]
    unfold VTT.smallNumbers
    rw [VTT.smallNumbers_go_digits (fun x hx => isDigit_isDig (hd x hx)) _ 0 (by omega), VTT.smallNumbers_go_sep colon_not_dig]
    exact small_tail9 D

theorem parse_inline {body : Str} {t : Nat} (h : inlineTs body = some t) :
    Duration.parseVTT body = some ((t : Int) * 1000000) :=
  parseVTT_of_timeMs body t (inlineTs_shape h).1

theorem inline_head {body : Str} {t : Nat} (h : inlineTs body = some t) :
    ∃ c tl, body = c :: tl ∧ isDigit c = true := by
  obtain ⟨_, a, b, c, d, e, f, g, D, hb | ⟨hh, h2, _, hd, hb⟩⟩ := inlineTs_shape h
  · exact ⟨a, _, hb, D.a⟩
  · cases hh with
    | nil => simp at h2
    | cons x xs => exact ⟨x, _, by rw [hb]; rfl, hd x (by simp)⟩

example : inlineTs "00:01.500".toList = some 1500 := by decide_vector
example : inlineTs "123456:00:01.500".toList = some 444441601500 := by decide_vector

/-- an accepted inline timestamp followed by `<`-free text -/
def SegOK (p : Str × Str) : Prop := (∃ t, inlineTs p.1 = some t) ∧ ∀ c ∈ p.2, c ≠ '<'

def segRaw (p : Str × Str) : Str := '<' :: p.1 ++ '>' :: p.2

def rawTok (pre : Str) (segs : List (Str × Str)) : Str := pre ++ (segs.map segRaw).flatten

theorem rawTok_nil (pre : Str) : rawTok pre [] = pre := by simp [rawTok]

theorem rawTok_snoc (pre : Str) (segs : List (Str × Str)) (cap x : Str) :
    rawTok pre (segs ++ [(cap, x)]) = rawTok pre segs ++ ('<' :: cap ++ '>' :: x) := by
  simp [rawTok, segRaw]

theorem msTail_eq {s t rest : Str} (h : msTail s = some (t, rest)) : s = t ++ '>' :: rest := by
  unfold msTail at h
  split at h
  · split at h
    · cases h; rfl
    · cases h
  · cases h

theorem tsAt_eq {s cap after : Str} (h : tsAt s = some (cap, after)) : s = cap ++ '>' :: after := by
  unfold tsAt at h
  simp only at h
  split at h
  · rename_i x hx
    cases h
    split at hx
    · split at hx
      · rename_i r hr
        cases hm : msTail r with
        | none => rw [hm] at hx; cases hx
        | some q =>
          rw [hm] at hx
          cases hx
          have e1 : takeWhile isDig s = s.take (takeWhile isDig s).length :=
            List.prefix_iff_eq_take.mp (takeWhile_prefix _)
          have e : s = takeWhile isDig s ++ s.drop (takeWhile isDig s).length :=
            (take_append_drop _ s).symm.trans (congrArg (· ++ _) e1.symm)
          rw [hr, msTail_eq hm] at e
          rw [append_assoc]; exact e
      · cases hx
    · cases hx
  · exact msTail_eq h

theorem splitTs_congr (n m : Nat) (s : Str) (h : ∀ t : Str, t.length < s.length → splitTs n t = splitTs m t) :
    splitTs (n + 1) s = splitTs (m + 1) s := by
  cases s with
  | nil => rfl
  | cons c rest =>
    simp only [splitTs]
    split
    · rename_i cap after heq
      have : after.length < (c :: rest).length := by
        split at heq
        · rw [tsAt_eq heq]; simp; omega
        · cases heq
      rw [h after this]
    · rw [h rest (Nat.lt_succ_self _)]

/-- the text before the first inline timestamp and, for every timestamp, its text and what follows up to the next -/
def tsSplit (s : Str) : Str × List (Str × Str) := splitTs (s.length + 1) s

theorem splitTs_eq {fuel : Nat} {s : Str} (h : s.length < fuel) : splitTs fuel s = tsSplit s :=
  Fuel.irrel length splitTs splitTs_congr h (Nat.lt_succ_self _)

theorem tsSplit_char {c : Char} (h : c ≠ '<') (rest : Str) : tsSplit (c :: rest) = (c :: (tsSplit rest).1, (tsSplit rest).2) := by
  simp [tsSplit, splitTs, h]

theorem tsSplit_text {x : Str} (hx : ∀ c ∈ x, c ≠ '<') (r : Str) : tsSplit (x ++ r) = (x ++ (tsSplit r).1, (tsSplit r).2) := by
  induction x with
  | nil => rfl
  | cons c x ih => rw [cons_append, tsSplit_char (hx c mem_cons_self), ih fun d hd => hx d (mem_cons_of_mem _ hd)]; rfl

theorem tsSplit_seg {cap : Str} {t : Nat} (h : Spec.VTT.inlineTs cap = some t) (rest : Str) :
    tsSplit ('<' :: cap ++ '>' :: rest) = ([], (cap, (tsSplit rest).1) :: (tsSplit rest).2) := by
  rw [show '<' :: cap ++ '>' :: rest = '<' :: (cap ++ '>' :: rest) by simp, tsSplit, List.length_cons, splitTs]
  simp only [beq_self_eq_true, if_true, tsAt_inline h]
  rw [splitTs_eq (by simp; omega)]

theorem tsSplit_rawTok {pre : Str} (hpre : ∀ c ∈ pre, c ≠ '<') : ∀ {segs : List (Str × Str)}, (∀ p ∈ segs, SegOK p) →
    tsSplit (rawTok pre segs) = (pre, segs)
  | [], _ => by rw [rawTok_nil, ← append_nil pre, tsSplit_text hpre]; rfl
  | (cap, x) :: segs, hs => by
    obtain ⟨⟨t, ht⟩, hx⟩ := hs _ mem_cons_self
    have e : rawTok pre ((cap, x) :: segs) = pre ++ ('<' :: cap ++ '>' :: rawTok x segs) := by simp [rawTok, segRaw]
    rw [e, tsSplit_text hpre, tsSplit_seg ht, tsSplit_rawTok hx fun p hp => hs p (mem_cons_of_mem _ hp)]
    simp

def mkItem (attrs : Attrs) (text : Str) (at_ : Int) : LItem := { text := text, startAt := at_, attrs := attrs }

/-- one segment: a blank text leaves its instant pending, any other text is a run -/
def segStep (attrs : Attrs) (acc : List LItem × Int) (p : Str × Str) : List LItem × Int :=
  if trimSpace p.2 = [] then (acc.1, (Duration.parseVTT p.1).getD 0)
  else (acc.1 ++ [mkItem attrs (unescapeHTML p.2) ((Duration.parseVTT p.1).getD 0)], 0)

/-- the text before the first timestamp -/
def tokFirst (attrs : Attrs) (pre : Str) (pending : Int) : List LItem × Int :=
  if trimSpace pre ≠ [] then ([mkItem attrs (unescapeHTML pre) pending], 0) else ([], pending)

/-- the fold: the items with text and the pending instant of a text token -/
def tokVal (attrs : Attrs) (pre : Str) (segs : List (Str × Str)) (pending : Int) : List LItem × Int :=
  segs.foldl (segStep attrs) (tokFirst attrs pre pending)

/-- what `textToken` really returns: as `tokVal`, but a token without timestamp that is white space
    only is an item (without instant) -/
def tokAct (attrs : Attrs) (pre : Str) (segs : List (Str × Str)) (pending : Int) : List LItem × Int :=
  if segs = [] ∧ trimSpace pre = [] then ([mkItem attrs (unescapeHTML pre) 0], pending)
  else tokVal attrs pre segs pending

theorem tokVal_nil_nil (attrs : Attrs) (pending : Int) : tokVal attrs [] [] pending = ([], pending) := by
  simp [tokVal, tokFirst, trimSpace, trimLeft, trimRight]

theorem tokVal_snoc (attrs : Attrs) (pre : Str) (segs : List (Str × Str)) (pending : Int) (p : Str × Str) :
    tokVal attrs pre (segs ++ [p]) pending = segStep attrs (tokVal attrs pre segs pending) p := by
  simp [tokVal, foldl_append]

theorem segStep_indep (attrs : Attrs) (a : List LItem) (x y : Int) (p : Str × Str) :
    segStep attrs (a, x) p = segStep attrs (a, y) p := by
  simp [segStep]

theorem any_small (segs : List (Str × Str)) (hs : ∀ p ∈ segs, SegOK p) :
    segs.any (fun p => !VTT.smallNumbers p.1) = false := by
  rw [List.any_eq_false]
  intro p hp
  obtain ⟨⟨t, ht⟩, _⟩ := hs p hp
  simp [small_inline ht]

theorem textToken_rawTok (attrs : Attrs) (pre : Str) (segs : List (Str × Str)) (pending : Int)
    (hpre : ∀ c ∈ pre, c ≠ '<') (hs : ∀ p ∈ segs, SegOK p) :
    VTT.textToken attrs (rawTok pre segs) pending = some (tokAct attrs pre segs pending) := by
  unfold VTT.textToken
  rw [show splitTs _ _ = _ from tsSplit_rawTok hpre hs]
  simp only []
  cases segs with
  | nil =>
    simp only [isEmpty_nil, if_true, rawTok_nil, tokAct, true_and, tokVal, foldl_nil, tokFirst, mkItem]
    by_cases hb : trimSpace pre = []
    · simp [hb]
    · simp [hb]
  | cons p segs =>
    rw [if_neg (by simp), if_neg (by rw [any_small _ hs]; simp)]
    have hne : ¬ ((p :: segs) = [] ∧ trimSpace pre = []) := by simp
    have hstep : (fun (acc : List LItem × Int) (p : Str × Str) =>
        let t := (Duration.parseVTT p.1).getD 0
        if trimSpace p.2 = [] then (acc.1, t)
        else (acc.1 ++ [{ text := unescapeHTML p.2, startAt := t, attrs := attrs }], 0)) = segStep attrs := rfl
    rw [hstep]
    simp only [tokAct, if_neg hne, tokVal, foldl_cons]
    have hfirst : (tokFirst attrs pre pending).1 =
        (if trimSpace pre ≠ [] then [{ text := unescapeHTML pre, startAt := pending, attrs := attrs }] else []) := by
      unfold tokFirst
      by_cases hb : trimSpace pre = []
      · simp [hb]
      · simp [hb, mkItem]
    have : segStep attrs (tokFirst attrs pre pending) p
        = segStep attrs ((tokFirst attrs pre pending).1, pending) p :=
      segStep_indep attrs _ _ _ p
    rw [this, hfirst]

end VTTRead
end Astisub
