import Astisub.Lemmas.TotLines

/-!
# Lemmas/Tot2VTT — the WebVTT writer (and one reader site) with Go's run-time checks made explicit

Checked variants (`…C`, in the monad `Chk = Except Panic` of `TotBase`) of the model functions of
`Model/VTT.lean`: every Go index expression, slice expression and dereference of a pointer that may be nil
is a primitive that can answer `.error panic` (`idx`, `idxI`, `slcFrom`, `slcToI`, `deref`), reached only
behind the guard the Go code has, copied as an explicit `if`.  For each one: `fooC x = .ok (foo x)` — it never
panics and no default of the totalised model is ever used — and unguarded variants (`…U`) that do panic.

Go sites covered (`webvtt.go`):

* `ReadFromWebVTT`, `case len(line) == 0:` —
  `blockName != "style" || sa == nil || len(sa.WebVTTStyles) == 0 || HasSuffix(sa.WebVTTStyles[len(sa.WebVTTStyles)-1], "}")`
  and `sa.WebVTTTags = …` (`blankC`, `stepC2`, `runC2`, `readC2`; necessity of the third disjunct: `stepU_blank_panics`).
* `WriteToWebVTT`:
  (a) `s.Metadata != nil`, `s.Metadata.WebVTTTimestampMap != nil` (`headerC`);
  (b) `st := s.Styles[id]; st != nil && st.InlineStyle != nil`, `st.InlineStyle.WebVTTStyles` (`styleOneC`, `styleLinesC`);
  (c) `s.Regions[id].ID` — map look-up, then dereference — , `inlineStyle == nil ⇒ &StyleAttributes{}`, five times
      `s.Regions[id].Style != nil && s.Regions[id].Style.InlineStyle != nil && …` (`regionBytesC`, `fallbackC`, `regionsC`);
  (d) the same for a cue, and `item.Region != nil` before `item.Region.ID` (`cueBytesC`, `regionIdC`);
  (e) the final `c = c[:len(c)-1]` (`writeC`, `buffer_ne_nil`);
  (f) `Line.webVTTBytes`: `&l.Items[idx-1]` behind `idx > 0`, `&l.Items[idx+1]` behind `idx < len(l.Items)-1`,
      `l.Items[idx]` (`prevC`, `nextC`, `itemsLoopC`, `lineBytesC`);
  (g) `LineItem.webVTTBytes`: `li.InlineStyle != nil && li.InlineStyle.TTMLColor != nil` before `*…TTMLColor`
      (`colorC`), the slice `WebVTTTags[webVTTCommonTags(li, previous):]` (`opensC`, `commonTags_le_left`), the closing
      loop `for i := len(tags)-1; i >= webVTTCommonTags(li, next); i-- { tags[i] }` (`closeLoopC`, `closesC`);
  (h) `webVTTCommonTags`: the three nil guards and `a[n]`, `b[n]` behind `n < len(a) && n < len(b)`
      (`commonTagsC`, `commonLoopC`).

Main theorems: `VTT.readC2_eq` (all inputs); `VTTW.writeC_firstWins` (all inputs: the writer never panics and writes
what the model writes for the document as the look-ups `s.Regions[id]` / `s.Styles[id]` see it — the first entry of
each identifier), hence `VTTW.writeC_eq` (the writer is the model's, for documents whose style and region lists are
maps — one entry per identifier); `VTTW.writeU_panicsIff` (exactly when the pinned writer panics).

Loops are written on indexes with a fuel argument (the number of turns is bounded by a length); a fuel
that runs out would answer silently, so every `…_eq` lemma about a loop carries the hypothesis that the fuel
given by the caller is enough, and the callers discharge it.
-/

namespace Astisub
namespace Tot
open Go

namespace VTT
open Astisub.VTT
open Astisub.SRT (Res)

/-- the `case len(line) == 0:` arm of `ReadFromWebVTT`.  `sa` is the pointer `*StyleAttributes` of the
    Go code; it is initialised to `&StyleAttributes{}` and only ever re-assigned to `&StyleAttributes{}`,
    so it is `some _` here.  The four disjuncts of the `if` are evaluated left to right and
    `sa.WebVTTStyles[len(sa.WebVTTStyles)-1]` is reached only when the first three are false. -/
def blankC (st : St) : Chk (Res St) := do
  let sa : Option (List Str × List Tag) := some (st.styles, st.tags)
  let reset ←
    if st.block ≠ .style then pure true                    -- blockName != webvttBlockNameStyle
    else if sa.isNone then pure true                       -- sa == nil
    else do
      let a ← deref sa
      if a.1.length = 0 then pure true                     -- len(sa.WebVTTStyles) == 0
      else do
        let last ← idxI a.1 ((a.1.length : Int) - 1)       -- sa.WebVTTStyles[len(sa.WebVTTStyles)-1]
        pure (hasSuffix ['}'] last)
  let _ ← deref sa                                         -- sa.WebVTTTags = []WebVTTTag{}
  pure (.ok { st with block := if reset then .none else st.block, tags := [] })

/-- the model's blank-line arm -/
def blank (st : St) : Res St :=
  let keep := st.block = .style && !st.styles.isEmpty && !(hasSuffix ['}'] (st.styles.getLast?.getD []))
  .ok { st with block := if keep then st.block else .none, tags := [] }

theorem blankC_eq (st : St) : blankC st = .ok (blank st) := by
  unfold blankC blank
  by_cases hb : st.block = .style
  · cases hs : st.styles with
    | nil => simp [hb]
    | cons x xs =>
      have hl : idxI (x :: xs) (xs.length : Int) = .ok ((x :: xs).getLast?.getD []) := by
        have h : idxI (x :: xs) _ = _ := lastC_ok (l := x :: xs) (by simp) ([] : Str)
        rw [List.length_cons, show ((xs.length + 1 : Nat) : Int) - 1 = (xs.length : Int) by omega] at h
        exact h
      simp [hb, hl]
      cases hasSuffix ['}'] ((x :: xs).getLast?.getD []) <;> simp
  · simp [hb]

/-- one iteration of the second scan loop of `ReadFromWebVTT`: `Tot.VTT.stepC` with the blank-line arm
    made explicit -/
def stepC2 (st : St) (raw : Option Str) : Chk (Res St) :=
  match raw with
  | none => stepC st none
  | some raw =>
    let line := trimSpace raw
    if st.block ≠ .text && (line = "NOTE".toList || hasPrefix "NOTE ".toList line) then stepC st (some raw)
    else if line = [] then blankC st
    else stepC st (some raw)

theorem step_blank (st : St) (raw : Str)
    (hn : ¬ ((st.block ≠ .text && (trimSpace raw = "NOTE".toList || hasPrefix "NOTE ".toList (trimSpace raw))) = true))
    (hl : trimSpace raw = []) : step st (some raw) = blank st := by
  unfold step blank
  simp only
  rw [if_neg hn, if_pos hl]

theorem stepC2_eq (st : St) (raw : Option Str) : stepC2 st raw = .ok (step st raw) := by
  unfold stepC2
  cases raw with
  | none => exact stepC_eq st none
  | some raw =>
    simp only
    split
    · exact stepC_eq st _
    · rename_i hn
      split
      · rename_i hl
        rw [blankC_eq, step_blank st raw hn hl]
      · exact stepC_eq st _

/-- the second loop of `ReadFromWebVTT` -/
def runC2 : St → List (Option Str) → Chk (Res St)
  | st, [] => pure (.ok st)
  | st, l :: ls => do
    let r ← stepC2 st l
    match r with
    | .ok st' => runC2 st' ls
    | .err => pure .err
    | .unmodelled => pure .unmodelled

theorem runC2_eq : ∀ (ls : List (Option Str)) (st : St), runC2 st ls = .ok (run st ls)
  | [], _ => rfl
  | l :: ls, st => by
    unfold runC2 run
    rw [stepC2_eq, ok_bind]
    cases step st l with
    | ok st' => exact runC2_eq ls st'
    | err => rfl
    | unmodelled => rfl

/-- `ReadFromWebVTT` on the scanned lines -/
def readC2 (lines : List (Option Str)) : Chk (Res Subs) :=
  match skipHeader lines with
  | none => pure .err
  | some rest => do
    let r ← runC2 {} rest
    match r with
    | .ok st => pure (.ok (result st))
    | .err => pure .err
    | .unmodelled => pure .unmodelled

theorem readC2_eq (lines : List (Option Str)) : readC2 lines = .ok (Astisub.VTT.read lines) := by
  unfold readC2 Astisub.VTT.read
  cases skipHeader lines with
  | none => rfl
  | some rest =>
    simp only [runC2_eq, ok_bind]
    cases run {} rest <;> rfl

/-- the blank-line arm without the `len(sa.WebVTTStyles) == 0` disjunct -/
def blankU (st : St) : Chk (Res St) := do
  let sa : Option (List Str × List Tag) := some (st.styles, st.tags)
  let reset ←
    if st.block ≠ .style then pure true
    else if sa.isNone then pure true
    else do
      let a ← deref sa
      let last ← idxI a.1 ((a.1.length : Int) - 1)
      pure (hasSuffix ['}'] last)
  let _ ← deref sa
  pure (.ok { st with block := if reset then .none else st.block, tags := [] })

/-- the step without the `len(sa.WebVTTStyles) == 0` disjunct -/
def stepU (st : St) (raw : Option Str) : Chk (Res St) :=
  match raw with
  | none => stepC st none
  | some raw =>
    let line := trimSpace raw
    if st.block ≠ .text && (line = "NOTE".toList || hasPrefix "NOTE ".toList line) then stepC st (some raw)
    else if line = [] then blankU st
    else stepC st (some raw)

theorem blank_not_note (st : St) (line : Str) (hl : line = []) :
    ¬ ((st.block ≠ .text && (line = "NOTE".toList || hasPrefix "NOTE ".toList line)) = true) := by
  subst hl
  intro h
  rw [Bool.and_eq_true, Bool.or_eq_true] at h
  rcases h.2 with h | h
  · exact absurd h (by decide)
  · exact absurd h (by decide)

/-- **without the disjunct, a blank line in a `STYLE` block that has no style line yet panics**
    (`sa.WebVTTStyles[-1]`), whatever the rest of the state -/
theorem stepU_blank_panics (st : St) (raw : Str) (hb : st.block = .style) (hs : st.styles = [])
    (hl : trimSpace raw = []) : stepU st (some raw) = .error .index := by
  unfold stepU
  simp only
  rw [if_neg (blank_not_note st _ hl), if_pos hl]
  unfold blankU
  have h : idxI ([] : List Str) (-1) = .error .index := rfl
  simp [hb, hs, h]

theorem stepC2_blank_ok (st : St) (raw : Str) (hb : st.block = .style) (hs : st.styles = [])
    (hl : trimSpace raw = []) : stepC2 st (some raw) = .ok (.ok { st with block := .none, tags := [] }) := by
  rw [stepC2_eq, step_blank st raw (blank_not_note st _ hl) hl]
  unfold blank
  simp [hb, hs]

/-- the loop and the reader without the disjunct -/
def runU : St → List (Option Str) → Chk (Res St)
  | st, [] => pure (.ok st)
  | st, l :: ls => do
    let r ← stepU st l
    match r with
    | .ok st' => runU st' ls
    | .err => pure .err
    | .unmodelled => pure .unmodelled

/-- `ReadFromWebVTT` without the disjunct -/
def readU (lines : List (Option Str)) : Chk (Res Subs) :=
  match skipHeader lines with
  | none => pure .err
  | some rest => do
    let r ← runU {} rest
    match r with
    | .ok st => pure (.ok (result st))
    | .err => pure .err
    | .unmodelled => pure .unmodelled

/-- non-vacuity: a state of the kind, and the document `WEBVTT / / STYLE / (blank)` that reaches it -/
example : stepU { block := .style } (some []) = .error .index := stepU_blank_panics _ _ rfl rfl (by decide)
example : stepU { block := .style } (some "  ".toList) = .error .index :=
  stepU_blank_panics _ _ rfl rfl (by decide)
example : (readU [some "WEBVTT".toList, some [], some "STYLE".toList, some []]).safe = false := by decide
example : (readC2 [some "WEBVTT".toList, some [], some "STYLE".toList, some []]).safe = true := by
  rw [readC2_eq]; rfl

end VTT

namespace VTTW
open Astisub.VTT
open Astisub.SRT (kvGet escapeHTML)

/-- `sa.WebVTTTags` of a non-nil `*StyleAttributes` -/
def tagsOf (a : KV) : List Tag := tagsOfAttrs (some a)

theorem tagsOfAttrs_none : tagsOfAttrs none = [] := rfl

/-- `for n < len(a) && n < len(b) { x, y := a[n], b[n]; if x != y { break }; n++ }` (the comparison of
    two tags is the model's: equality of the three fields) -/
def commonLoopC (a b : List Tag) : Nat → Nat → Chk Nat
  | 0, n => pure n
  | fuel + 1, n =>
    if n < a.length ∧ n < b.length then do
      let x ← idx a n
      let y ← idx b n
      if x ≠ y then pure n else commonLoopC a b fuel (n + 1)
    else pure n

theorem commonTags_nil_right (a : List Tag) : commonTags a [] = 0 := by
  cases a <;> rfl

/-- the number of common leading tags is at most the length of the first stack: what makes
    `tags[webVTTCommonTags(li, previous):]` safe -/
theorem commonTags_le : ∀ (a b : List Tag), commonTags a b ≤ a.length ∧ commonTags a b ≤ b.length
  | [], _ => ⟨Nat.zero_le _, Nat.zero_le _⟩
  | _ :: _, [] => ⟨Nat.zero_le _, Nat.zero_le _⟩
  | x :: xs, y :: ys => by
    unfold commonTags
    split
    · have := commonTags_le xs ys
      simp only [List.length_cons]
      omega
    · exact ⟨Nat.zero_le _, Nat.zero_le _⟩

theorem commonTags_le_left (a b : List Tag) : commonTags a b ≤ a.length := (commonTags_le a b).1

theorem commonTags_le_right : ∀ (a b : List Tag), commonTags a b ≤ b.length := fun a b => (commonTags_le a b).2

theorem commonLoopC_eq (a b : List Tag) : ∀ (fuel n : Nat), a.length - n ≤ fuel →
    commonLoopC a b fuel n = .ok (n + commonTags (a.drop n) (b.drop n)) := by
  intro fuel
  induction fuel with
  | zero =>
    intro n h
    rw [List.drop_eq_nil_of_le (show a.length ≤ n by omega)]
    rfl
  | succ fuel ih =>
    intro n h
    unfold commonLoopC
    by_cases hc : n < a.length ∧ n < b.length
    · rw [if_pos hc, idx_get hc.1, idx_get hc.2]
      simp only [ok_bind]
      rw [List.drop_eq_getElem_cons hc.1, List.drop_eq_getElem_cons hc.2]
      unfold commonTags
      by_cases he : a[n]'hc.1 = b[n]'hc.2
      · rw [if_neg (fun h => h he), if_pos he, ih (n + 1) (by omega), Nat.add_assoc, Nat.add_comm 1]
      · rw [if_pos he, if_neg he]
        rfl
    · rw [if_neg hc]
      by_cases ha : n < a.length
      · have : b.drop n = [] := List.drop_eq_nil_of_le (by omega)
        rw [this, commonTags_nil_right]
        rfl
      · rw [List.drop_eq_nil_of_le (show a.length ≤ n by omega)]
        rfl

/-- `webVTTCommonTags(li, other)`: the three nil guards, left to right, then the loop -/
def commonTagsC (li : LItem) (other : Option LItem) : Chk Nat :=
  if li.attrs.isNone then pure 0 else          -- li.InlineStyle == nil
  if other.isNone then pure 0 else do          -- other == nil
  let o ← deref other
  if o.attrs.isNone then pure 0 else do        -- other.InlineStyle == nil
  let a ← deref li.attrs
  let b ← deref o.attrs
  commonLoopC (tagsOf a) (tagsOf b) (tagsOf a).length 0

/-- what the model computes for a neighbour -/
def common (li : LItem) (other : Option LItem) : Nat :=
  match other with
  | some x => commonTags (tagsOfAttrs li.attrs) (tagsOfAttrs x.attrs)
  | none => 0

theorem commonTagsC_eq (li : LItem) (other : Option LItem) : commonTagsC li other = .ok (common li other) := by
  unfold commonTagsC common
  cases hl : li.attrs with
  | none =>
    cases other with
    | none => rfl
    | some x => simp [tagsOfAttrs_none, commonTags]
  | some a =>
    cases other with
    | none => rfl
    | some x =>
      cases hx : x.attrs with
      | none => simp [hx, tagsOfAttrs_none, commonTags_nil_right]
      | some b =>
        simp only [Option.isNone_some, Bool.false_eq_true, if_false, deref_some, ok_bind, hx]
        rw [commonLoopC_eq _ _ _ 0 (by omega)]
        simp [tagsOf]

theorem common_le (li : LItem) (other : Option LItem) : common li other ≤ (tagsOfAttrs li.attrs).length := by
  unfold common
  cases other with
  | none => exact Nat.zero_le _
  | some x => exact commonTags_le_left _ _

/-- `webVTTCommonTags` without `other == nil` (the first item of a line has no previous item) -/
def commonTagsU (li : LItem) (other : Option LItem) : Chk Nat :=
  if li.attrs.isNone then pure 0 else do
  let o ← deref other
  if o.attrs.isNone then pure 0 else do
  let a ← deref li.attrs
  let b ← deref o.attrs
  commonLoopC (tagsOf a) (tagsOf b) (tagsOf a).length 0

/-- without the guard the call for the first (or last) item of a line panics as soon as the item has an inline style -/
theorem commonTagsU_panics (li : LItem) (h : li.attrs ≠ none) : commonTagsU li none = .error .nilDeref := by
  unfold commonTagsU
  cases hl : li.attrs with
  | none => exact absurd hl h
  | some a => rfl

/-- `webVTTCommonTags` without `other.InlineStyle == nil` -/
def commonTagsU2 (li : LItem) (other : Option LItem) : Chk Nat :=
  if li.attrs.isNone then pure 0 else
  if other.isNone then pure 0 else do
  let o ← deref other
  let a ← deref li.attrs
  let b ← deref o.attrs
  commonLoopC (tagsOf a) (tagsOf b) (tagsOf a).length 0

theorem commonTagsU2_panics (li x : LItem) (h : li.attrs ≠ none) (hx : x.attrs = none) :
    commonTagsU2 li (some x) = .error .nilDeref := by
  unfold commonTagsU2
  cases hl : li.attrs with
  | none => exact absurd hl h
  | some a => simp [hx]

/-- the loop with only the bound on `a` checked: `b[n]` runs past a shorter `b` -/
def commonLoopU (a b : List Tag) : Nat → Nat → Chk Nat
  | 0, n => pure n
  | fuel + 1, n =>
    if n < a.length then do
      let x ← idx a n
      let y ← idx b n
      if x ≠ y then pure n else commonLoopU a b fuel (n + 1)
    else pure n

example : commonLoopU [{ name := "b".toList }] [] 1 0 = .error .index := rfl
example : commonLoopC [{ name := "b".toList }] [] 1 0 = .ok 0 := rfl

/-- `for i := len(tags)-1; i >= webVTTCommonTags(li, next); i-- { tags[i].endTag() }`: `i` is a Go `int`
    (it ends at `-1` when nothing is shared), `cn` is the bound, re-evaluated at every turn as in Go -/
def closeLoopC (cn : Chk Nat) (tags : List Tag) : Nat → Int → Chk Str
  | 0, _ => pure []
  | fuel + 1, i => do
    let n ← cn
    if i ≥ (n : Int) then do
      let t ← idxI tags i
      let r ← closeLoopC cn tags fuel (i - 1)
      pure (t.endTag ++ r)
    else pure []

theorem closeLoopC_eq (cn : Chk Nat) (n : Nat) (hcn : cn = .ok n) (tags : List Tag) :
    ∀ (m fuel : Nat), m ≤ tags.length → m < fuel →
      closeLoopC cn tags fuel ((m : Int) - 1) = .ok ((((tags.take m).drop n).reverse.map Tag.endTag).flatten) := by
  subst hcn
  -- the Go `int` index is written `m - 1`: the loop ends at `-1`, which is `m = 0`, and a turn closes `tags[m-1]`
  intro m
  induction m with
  | zero =>
    intro fuel _ hf
    cases fuel with
    | zero => omega
    | succ fuel =>
      unfold closeLoopC
      simp only [ok_bind]
      rw [if_neg (by omega)]
      simp
  | succ m ih =>
    intro fuel hm hf
    cases fuel with
    | zero => omega
    | succ fuel =>
      unfold closeLoopC
      simp only [ok_bind]
      have hi : ((m + 1 : Nat) : Int) - 1 = (m : Int) := by omega
      rw [hi]
      by_cases hge : (m : Int) ≥ (n : Int)
      · rw [if_pos hge, idxI_get (by omega)]
        simp only [ok_bind]
        rw [ih fuel (by omega) (by omega)]
        simp only [ok_bind, pure_eq]
        rw [← List.take_append_getElem (show m < tags.length by omega),
          List.drop_append_of_le_length (by rw [List.length_take]; omega)]
        simp
      · rw [if_neg hge]
        have : (tags.take (m + 1)).drop n = [] := List.drop_eq_nil_of_le (by rw [List.length_take]; omega)
        rw [this]
        rfl

/-- `if li.InlineStyle != nil && li.InlineStyle.TTMLColor != nil { color = cssColor(*li.InlineStyle.TTMLColor) }` -/
def colorC (li : LItem) : Chk Str :=
  if li.attrs.isSome then do                          -- li.InlineStyle != nil
    let a ← deref li.attrs
    let c := a.lookup "TTMLColor".toList              -- li.InlineStyle.TTMLColor : *string
    if c.isSome then do                               -- != nil
      let v ← deref c
      pure (cssColor v)
    else pure []
  else pure []

/-- the model's colour -/
def color (li : LItem) : Str := match kvGet li.attrs "TTMLColor" with | some c => cssColor c | none => []

theorem colorC_eq (li : LItem) : colorC li = .ok (color li) := by
  unfold colorC color kvGet
  cases li.attrs with
  | none => rfl
  | some a =>
    simp only [Option.isSome_some, if_true, deref_some, ok_bind]
    cases List.lookup "TTMLColor".toList a with
    | none => rfl
    | some c => rfl

/-- `if li.InlineStyle != nil { for _, tag := range li.InlineStyle.WebVTTTags[webVTTCommonTags(li, previous):] { … } }` -/
def opensC (prev : Option LItem) (li : LItem) : Chk Str :=
  if li.attrs.isSome then do
    let a ← deref li.attrs
    let p ← commonTagsC li prev
    let ts ← slcFrom (tagsOf a) p                     -- li.InlineStyle.WebVTTTags[p:]
    pure ((ts.map Tag.startTag).flatten)
  else pure []

/-- the slice never panics (`commonTags_le_left`) and opens the tags beyond the ones shared with `previous` -/
theorem opensC_eq (prev : Option LItem) (li : LItem) :
    opensC prev li = .ok ((((tagsOfAttrs li.attrs).drop (common li prev)).map Tag.startTag).flatten) := by
  unfold opensC
  have hp := common_le li prev
  cases hl : li.attrs with
  | none => simp [tagsOfAttrs_none]
  | some a =>
    rw [hl] at hp
    simp only [Option.isSome_some, if_true, deref_some, ok_bind, commonTagsC_eq]
    rw [slcFrom_ok (show common li prev ≤ (tagsOf a).length from hp)]
    rfl

/-- `if li.InlineStyle != nil { for i := len(tags)-1; i >= webVTTCommonTags(li, next); i-- { tags[i].endTag() } }` -/
def closesC (next : Option LItem) (li : LItem) : Chk Str :=
  if li.attrs.isSome then do
    let a ← deref li.attrs
    closeLoopC (commonTagsC li next) (tagsOf a) ((tagsOf a).length + 1) (((tagsOf a).length : Int) - 1)
  else pure []

theorem closesC_eq (next : Option LItem) (li : LItem) :
    closesC next li = .ok ((((tagsOfAttrs li.attrs).drop (common li next)).reverse.map Tag.endTag).flatten) := by
  unfold closesC
  cases hl : li.attrs with
  | none => simp [tagsOfAttrs_none]
  | some a =>
    simp only [Option.isSome_some, if_true, deref_some, ok_bind]
    rw [closeLoopC_eq (commonTagsC li next) _ (commonTagsC_eq li next) (tagsOf a)
      (tagsOf a).length ((tagsOf a).length + 1) (Nat.le_refl _) (Nat.lt_succ_self _), List.take_length]
    rfl

/-- `LineItem.webVTTBytes(previous, next)` -/
def runBytesC (prev next : Option LItem) (li : LItem) : Chk Str := do
  let color ← colorC li
  let opens ← opensC prev li
  let closes ← closesC next li
  pure ((if li.startAt > 0 then '<' :: Duration.formatVTT li.startAt ++ ['>'] else [])
    ++ (if color ≠ [] then "<c.".toList ++ color ++ ['>'] else [])
    ++ opens
    ++ escapeHTML li.text
    ++ closes
    ++ (if color ≠ [] then "</c>".toList else []))

theorem runBytes_common (prev next : Option LItem) (li : LItem) :
    runBytes prev next li =
      (if li.startAt > 0 then '<' :: Duration.formatVTT li.startAt ++ ['>'] else [])
      ++ (if color li ≠ [] then "<c.".toList ++ color li ++ ['>'] else [])
      ++ (((tagsOfAttrs li.attrs).drop (common li prev)).map Tag.startTag).flatten
      ++ escapeHTML li.text
      ++ ((((tagsOfAttrs li.attrs).drop (common li next)).reverse).map Tag.endTag).flatten
      ++ (if color li ≠ [] then "</c>".toList else []) := by
  unfold runBytes common color
  cases prev <;> cases next <;> rfl

theorem runBytesC_eq (prev next : Option LItem) (li : LItem) :
    runBytesC prev next li = .ok (runBytes prev next li) := by
  unfold runBytesC
  rw [runBytes_common, colorC_eq, opensC_eq, closesC_eq]
  rfl

/-- the read of the colour without its two nil tests: `*li.InlineStyle.TTMLColor` -/
def colorU (li : LItem) : Chk Str := do
  let a ← deref li.attrs
  let v ← deref (a.lookup "TTMLColor".toList)
  pure (cssColor v)

theorem colorU_panics_nil (li : LItem) (h : li.attrs = none) : colorU li = .error .nilDeref := by
  unfold colorU; rw [h]; rfl

theorem colorU_panics_nocolor (li : LItem) (a : KV) (h : li.attrs = some a)
    (hc : a.lookup "TTMLColor".toList = none) : colorU li = .error .nilDeref := by
  unfold colorU
  rw [h]
  simp only [deref_some, ok_bind]
  rw [hc]
  rfl

/-- the opening part slicing at the length of the *previous* run's stack instead of the common prefix -/
def opensU (prev : Option LItem) (li : LItem) : Chk Str :=
  if li.attrs.isSome then do
    let a ← deref li.attrs
    let p := match prev with | some x => (tagsOfAttrs x.attrs).length | none => 0
    let ts ← slcFrom (tagsOf a) p
    pure ((ts.map Tag.startTag).flatten)
  else pure []

/-- a bound larger than the length of the stack panics: the bound has to be proved `≤ len`
    (`commonTags_le_left`), it is not so by construction -/
theorem opensU_panics (x li : LItem) (a : KV) (h : li.attrs = some a)
    (hlt : (tagsOf a).length < (tagsOfAttrs x.attrs).length) : opensU (some x) li = .error .slice := by
  unfold opensU
  rw [h]
  simp [slcFrom_panics hlt]

/-- the closing loop started one too high (`i := len(tags)`) -/
example : closeLoopC (pure 0) [{ name := "b".toList }] 3 1 = .error .index := rfl
example : closeLoopC (pure 0) [{ name := "b".toList }] 3 0 = .ok "</b>".toList := rfl

/-- `if idx > 0 { previous = &l.Items[idx-1] }` -/
def prevC (items : List LItem) (i : Nat) : Chk (Option LItem) :=
  if i > 0 then do
    let x ← idx items (i - 1)
    pure (some x)
  else pure none

/-- `if idx < len(l.Items)-1 { next = &l.Items[idx+1] }` (Go `int`s: `len-1` is `-1` on the empty line) -/
def nextC (items : List LItem) (i : Nat) : Chk (Option LItem) :=
  if (i : Int) < (items.length : Int) - 1 then do
    let x ← idx items (i + 1)
    pure (some x)
  else pure none

theorem prevC_eq (items : List LItem) (i : Nat) (hi : i ≤ items.length) :
    prevC items i = .ok (if i = 0 then none else items[i - 1]?) := by
  unfold prevC
  by_cases h0 : i = 0
  · subst h0; rfl
  · rw [if_pos (by omega), if_neg h0, idx_get (show i - 1 < items.length by omega),
      List.getElem?_eq_getElem (show i - 1 < items.length by omega)]
    rfl

theorem nextC_eq (items : List LItem) (i : Nat) : nextC items i = .ok items[i + 1]? := by
  unfold nextC
  by_cases h1 : i + 1 < items.length
  · rw [if_pos (by omega), idx_get h1, List.getElem?_eq_getElem h1]
    rfl
  · rw [if_neg (by omega), List.getElem?_eq_none (by omega)]
    rfl

/-- `for idx := 0; idx < len(l.Items); idx++ { … l.Items[idx].webVTTBytes(previous, next) }` -/
def itemsLoopC (items : List LItem) : Nat → Nat → Chk Str
  | 0, _ => pure []
  | fuel + 1, i =>
    if i < items.length then do
      let prev ← prevC items i
      let next ← nextC items i
      let cur ← idx items i
      let b ← runBytesC prev next cur
      let r ← itemsLoopC items fuel (i + 1)
      pure (b ++ r)
    else pure []

theorem itemsBytes_nil (p : Option LItem) : itemsBytes p [] = [] := by
  unfold itemsBytes; rfl

theorem itemsLoopC_eq (items : List LItem) : ∀ (fuel i : Nat), i ≤ items.length → items.length - i ≤ fuel →
    itemsLoopC items fuel i = .ok (itemsBytes (if i = 0 then none else items[i - 1]?) (items.drop i)) := by
  intro fuel
  induction fuel with
  | zero =>
    intro i hi hf
    have : items.drop i = [] := List.drop_eq_nil_of_le (by omega)
    rw [this, itemsBytes_nil]
    rfl
  | succ fuel ih =>
    intro i hi hf
    unfold itemsLoopC
    by_cases hlt : i < items.length
    · rw [if_pos hlt, List.drop_eq_getElem_cons hlt]
      unfold itemsBytes
      rw [List.head?_drop, idx_get hlt, ih (i + 1) (by omega) (by omega), prevC_eq items i hi, nextC_eq]
      simp only [ok_bind, runBytesC_eq, pure_eq]
      simp [List.getElem?_eq_getElem hlt]
    · have : items.drop i = [] := List.drop_eq_nil_of_le (by omega)
      rw [if_neg hlt, this, itemsBytes_nil]
      rfl

/-- `Line.webVTTBytes` -/
def lineBytesC (l : Line) : Chk Str := do
  let b ← itemsLoopC l.items l.items.length 0
  pure ((if l.voice ≠ [] then "<v ".toList ++ l.voice ++ ['>'] else []) ++ b ++ ['\n'])

theorem lineBytesC_eq (l : Line) : lineBytesC l = .ok (lineBytes l) := by
  unfold lineBytesC lineBytes
  rw [itemsLoopC_eq l.items _ 0 (Nat.zero_le _) (by omega)]
  rfl

/-- the loop without `idx > 0`: `l.Items[-1]` at the first item -/
def itemsLoopU (items : List LItem) : Nat → Int → Chk Str
  | 0, _ => pure []
  | fuel + 1, i =>
    if i < (items.length : Int) then do
      let prev ← idxI items (i - 1)
      let next ← nextC items i.toNat
      let cur ← idxI items i
      let b ← runBytesC (some prev) next cur
      let r ← itemsLoopU items fuel (i + 1)
      pure (b ++ r)
    else pure []

theorem itemsLoopU_panics (items : List LItem) (h : items ≠ []) (fuel : Nat) :
    itemsLoopU items (fuel + 1) 0 = .error .index := by
  unfold itemsLoopU
  have hl : 0 < items.length := List.length_pos_iff.mpr h
  rw [if_pos (by omega), idxI_neg _ (by omega)]
  rfl

/-- the loop without `idx < len(l.Items)-1`: `l.Items[len]` at the last item -/
def itemsLoopU2 (items : List LItem) : Nat → Nat → Chk Str
  | 0, _ => pure []
  | fuel + 1, i =>
    if i < items.length then do
      let prev ← prevC items i
      let next ← idx items (i + 1)
      let cur ← idx items i
      let b ← runBytesC prev (some next) cur
      let r ← itemsLoopU2 items fuel (i + 1)
      pure (b ++ r)
    else pure []

theorem itemsLoopU2_panics (li : LItem) (fuel : Nat) : itemsLoopU2 [li] (fuel + 1) 0 = .error .index := by
  unfold itemsLoopU2
  rfl

/-- the lines of a cue -/
def linesC : List Line → Chk Str
  | [] => pure []
  | l :: ls => do
    let b ← lineBytesC l
    let r ← linesC ls
    pure (b ++ r)

theorem linesC_eq (ls : List Line) : linesC ls = .ok ((ls.map lineBytes).flatten) :=
  RLoop.eq (L := fun _ => linesC) (f := fun _ => lineBytesC) (M := fun _ ls => (ls.map lineBytes).flatten)
    ⟨fun _ => rfl, fun _ _ _ => rfl⟩ ls 0 fun l _ _ => lineBytesC_eq l

/-- the map look-up `m[id]` of a `map[string]*T`: the nil pointer when the key is absent -/
def lookupDef (m : List Def) (id : Str) : Option Def := m.find? (·.id = id)

/-- the `*Style` pointer of a region or a cue: nil when there is none, or when the identifier that
    stands for the pointer does not resolve -/
def stylePtr (s : Subs) (ref : Option Str) : Option Def :=
  match ref with
  | none => none
  | some id => lookupDef s.styles id

theorem styleAttrs_eq (s : Subs) (ref : Option Str) : styleAttrs s ref = (stylePtr s ref).bind (·.attrs) := by
  unfold styleAttrs stylePtr lookupDef
  cases ref with
  | none => rfl
  | some id => cases h : List.find? (fun x => decide (x.id = id)) s.styles <;> simp [h]

/-- a map has one entry per key -/
def UniqueIds (m : List Def) : Prop := (m.map (·.id)).Nodup

instance (m : List Def) : Decidable (UniqueIds m) := by unfold UniqueIds; infer_instance

theorem lookupDef_hit (m : List Def) (d : Def) (hd : d ∈ m) : ∃ d', lookupDef m d.id = some d' := by
  unfold lookupDef
  cases h : List.find? (fun x => decide (x.id = d.id)) m with
  | some d' => exact ⟨d', rfl⟩
  | none =>
    have := List.find?_eq_none.mp h d hd
    simp at this

theorem lookupDef_self (m : List Def) (hu : UniqueIds m) (d : Def) (hd : d ∈ m) : lookupDef m d.id = some d :=
  List.find_self (fun x : Def => x.id) m hu hd

/-- Go's `sort.Strings` -/
def sortStrs (l : List Str) : List Str := l.mergeSort (fun a b => !strLt b a)

theorem sortStrs_ids (m : List Def) : sortStrs (m.map (·.id)) = (sortDefs m).map (·.id) := by
  unfold sortStrs sortDefs
  have h : ∀ a ∈ m, ∀ b ∈ m, (fun (a b : Def) => !strLt b.id a.id) a b
      = (fun (a b : Str) => !strLt b a) ((fun (x : Def) => x.id) a) ((fun (x : Def) => x.id) b) := by
    intro a _ b _
    simp only
  exact (List.map_mergeSort h).symm

/-- `WebVTTTimestampMap.String()` preceded by the new line, on the canonical text of the map -/
def tsMapBytes (v : Str) : Str :=
  match splitC ',' v with
  | [l, m] => "\nX-TIMESTAMP-MAP=LOCAL:".toList ++ Duration.formatVTT ((atoi l).getD 0) ++ ",MPEGTS:".toList ++ m
  | _ => []

/-- `"WEBVTT"`, then `if s.Metadata != nil { if s.Metadata.WebVTTTimestampMap != nil { … } }`, then `"\n\n"` -/
def headerC (s : Subs) : Chk Str := do
  let m ←
    (if s.metadata.isSome then do                                -- s.Metadata != nil
      let md ← deref s.metadata
      let p := md.lookup "WebVTTTimestampMap".toList             -- s.Metadata.WebVTTTimestampMap
      if p.isSome then do                                        -- != nil
        let v ← deref p
        pure (tsMapBytes v)
      else pure []
    else pure [] : Chk Str)
  pure ("WEBVTT".toList ++ m ++ "\n\n".toList)

theorem headerC_eq (s : Subs) : headerC s = .ok (header s) := by
  unfold headerC header kvGet tsMapBytes
  cases s.metadata with
  | none => rfl
  | some md =>
    simp only [Option.isSome_some, if_true, deref_some, ok_bind]
    cases List.lookup "WebVTTTimestampMap".toList md with
    | none => rfl
    | some v => rfl

/-- the header without `s.Metadata != nil` -/
def headerU (s : Subs) : Chk Str := do
  let md ← deref s.metadata
  let p := md.lookup "WebVTTTimestampMap".toList
  let m ← (if p.isSome then do let v ← deref p; pure (tsMapBytes v) else pure [] : Chk Str)
  pure ("WEBVTT".toList ++ m ++ "\n\n".toList)

theorem headerU_panics (s : Subs) (h : s.metadata = none) : headerU s = .error .nilDeref := by
  unfold headerU; rw [h]; rfl

/-- the header is not empty: what makes the final `c[:len(c)-1]` safe -/
theorem header_ne_nil (s : Subs) : header s ≠ [] := by
  unfold header
  rw [String.toList_ofList]
  simp

/-- the CSS lines of a non-nil `*StyleAttributes` (`WebVTTStyles`, a slice: nil when unset) -/
def cssOf (a : KV) : List Str :=
  match a.lookup "WebVTTStyles".toList with
  | some v => splitC '\n' v
  | none => []

/-- `if st := s.Styles[id]; st != nil && st.InlineStyle != nil { style = append(style, st.InlineStyle.WebVTTStyles...) }` -/
def styleOneC (s : Subs) (id : Str) : Chk (List Str) :=
  let st := lookupDef s.styles id                     -- s.Styles[id]
  if st.isSome then do                                -- st != nil
    let d ← deref st
    if d.attrs.isSome then do                         -- st.InlineStyle != nil
      let a ← deref d.attrs
      pure (cssOf a)
    else pure []
  else pure []

/-- `for _, id := range styleIDs { … }` -/
def styleLoopC (s : Subs) : List Str → Chk (List Str)
  | [] => pure []
  | id :: ids => do
    let here ← styleOneC s id
    let rest ← styleLoopC s ids
    pure (here ++ rest)

/-- the styles part of `WriteToWebVTT`: the keys of the map, sorted, then the loop -/
def styleLinesC (s : Subs) : Chk (List Str) := styleLoopC s (sortStrs (s.styles.map (·.id)))

/-- the model's contribution of one style -/
def cssOfDef (d : Def) : List Str :=
  match kvGet d.attrs "WebVTTStyles" with
  | some v => splitC '\n' v
  | none => []

theorem styleOneC_ok (s : Subs) (id : Str) :
    styleOneC s id = .ok (match lookupDef s.styles id with | some d => cssOfDef d | none => []) := by
  unfold styleOneC
  cases lookupDef s.styles id with
  | none => rfl
  | some d =>
    unfold cssOfDef kvGet
    cases hd : d.attrs with
    | none => simp [hd]
    | some a => simp [hd, cssOf]

theorem styleLoopC_eq (s : Subs) : ∀ (ds : List Def), (∀ d ∈ ds, lookupDef s.styles d.id = some d) →
    styleLoopC s (ds.map (·.id)) = .ok (ds.flatMap cssOfDef)
  | [], _ => rfl
  | d :: ds, h => by
    rw [List.map_cons]
    unfold styleLoopC
    rw [styleOneC_ok, h d (List.mem_cons_self ..), styleLoopC_eq s ds fun x hx => h x (List.mem_cons_of_mem _ hx)]
    rfl

/-- one turn of the pinned loop: `st.InlineStyle.WebVTTStyles` behind `st != nil` only -/
def styleOneU (s : Subs) (id : Str) : Chk (List Str) :=
  let st := lookupDef s.styles id
  if st.isSome then do
    let d ← deref st
    let a ← deref d.attrs
    pure (cssOf a)
  else pure []

/-- the pinned styles loop -/
def styleLoopU (s : Subs) : List Str → Chk (List Str)
  | [] => pure []
  | id :: ids => do
    let here ← styleOneU s id
    let rest ← styleLoopU s ids
    pure (here ++ rest)

/-- `inlineStyle := p; if inlineStyle == nil { inlineStyle = &StyleAttributes{} }` -/
def orEmpty (p : Attrs) : Attrs := if p.isNone then some [] else p

/-- `if inlineStyle.X != "" { … inlineStyle.X } else if sty != nil && sty.InlineStyle != nil && sty.InlineStyle.X != "" { … sty.InlineStyle.X }`:
    the value written, if any -/
def fallbackC (inl : Attrs) (sty : Option Def) (k : String) : Chk (Option Str) := do
  let a ← deref inl                                    -- inlineStyle.X
  match getNE (some a) k with
  | some v => pure (some v)
  | none =>
    if sty.isSome then do                              -- sty != nil
      let st ← deref sty
      if st.attrs.isSome then do                       -- sty.InlineStyle != nil
        let b ← deref st.attrs
        pure (getNE (some b) k)                        -- sty.InlineStyle.X
      else pure none
    else pure none

theorem getNE_none (k : String) : getNE none k = none := rfl

theorem getNE_empty (k : String) : getNE (some []) k = none := rfl

theorem fallbackC_eq (s : Subs) (own : Attrs) (ref : Option Str) (k : String) :
    fallbackC (orEmpty own) (stylePtr s ref) k = .ok (fallback own (styleAttrs s ref) k) := by
  rw [styleAttrs_eq]
  unfold fallbackC fallback
  have h1 : ∃ a, orEmpty own = some a ∧ getNE (some a) k = getNE own k := by
    cases own with
    | none => exact ⟨[], rfl, rfl⟩
    | some a => exact ⟨a, rfl, rfl⟩
  obtain ⟨a, ha, hg⟩ := h1
  rw [ha]
  simp only [deref_some, ok_bind, hg]
  cases getNE own k with
  | some v => rfl
  | none =>
    simp only
    cases stylePtr s ref with
    | none => rfl
    | some d =>
      cases hd : d.attrs with
      | none => simp [hd, getNE_none]
      | some b => simp [hd]

/-- without the repair (`inlineStyle == nil ⇒ &StyleAttributes{}`) a nil inline style panics at its first field -/
theorem fallbackC_nil (sty : Option Def) (k : String) : fallbackC none sty k = .error .nilDeref := rfl

/-- the body of `for _, id := range k` in the regions part.  `s.Regions[id]` is looked up and dereferenced
    once (Go does it at every use; the map is not modified in between) -/
def regionBytesC (s : Subs) (id : Str) : Chk Str := do
  let r ← deref (lookupDef s.regions id)               -- s.Regions[id].ID
  let inl := orEmpty r.attrs                            -- s.Regions[id].InlineStyle, repaired when nil
  let sty := stylePtr s r.ref                           -- s.Regions[id].Style
  let l ← fallbackC inl sty "WebVTTLines"
  let ra ← fallbackC inl sty "WebVTTRegionAnchor"
  let sc ← fallbackC inl sty "WebVTTScroll"
  let va ← fallbackC inl sty "WebVTTViewportAnchor"
  let w ← fallbackC inl sty "WebVTTWidth"
  pure ("Region: id=".toList ++ r.id ++ setting "lines=" l ++ setting "regionanchor=" ra ++ setting "scroll=" sc
    ++ setting "viewportanchor=" va ++ setting "width=" w ++ ['\n'])

theorem regionBytesC_eq (s : Subs) (id : Str) (d : Def) (h : lookupDef s.regions id = some d) :
    regionBytesC s id = .ok (regionBytes s d) := by
  unfold regionBytesC regionBytes
  rw [h]
  simp only [deref_some, ok_bind, fallbackC_eq]
  rfl

/-- an identifier that is not a key of the map panics (`s.Regions[id].ID` on the nil pointer): the keys
    have to be the ones collected from the map -/
theorem regionBytesC_miss (s : Subs) (id : Str) (h : lookupDef s.regions id = none) :
    regionBytesC s id = .error .nilDeref := by
  unfold regionBytesC
  rw [h]
  rfl

/-- the pinned body: `s.Regions[id].InlineStyle.X` without the repair -/
def regionBytesU (s : Subs) (d : Def) : Chk Str := do
  let inl := d.attrs
  let sty := stylePtr s d.ref
  let l ← fallbackC inl sty "WebVTTLines"
  let ra ← fallbackC inl sty "WebVTTRegionAnchor"
  let sc ← fallbackC inl sty "WebVTTScroll"
  let va ← fallbackC inl sty "WebVTTViewportAnchor"
  let w ← fallbackC inl sty "WebVTTWidth"
  pure ("Region: id=".toList ++ d.id ++ setting "lines=" l ++ setting "regionanchor=" ra ++ setting "scroll=" sc
    ++ setting "viewportanchor=" va ++ setting "width=" w ++ ['\n'])

theorem regionBytesU_panics (s : Subs) (d : Def) (h : d.attrs = none) : regionBytesU s d = .error .nilDeref := by
  unfold regionBytesU
  rw [h]
  rfl

theorem regionBytesU_eq (s : Subs) (d : Def) (a : KV) (h : d.attrs = some a) :
    regionBytesU s d = .ok (regionBytes s d) := by
  unfold regionBytesU regionBytes
  have e : ∀ k, fallbackC d.attrs (stylePtr s d.ref) k = .ok (fallback d.attrs (styleAttrs s d.ref) k) := by
    intro k
    have := fallbackC_eq s d.attrs d.ref k
    rwa [show orEmpty d.attrs = d.attrs from by rw [h]; rfl] at this
  simp only [e, ok_bind]
  rfl

/-- the fall-back without `sty != nil` -/
def fallbackU (inl : Attrs) (sty : Option Def) (k : String) : Chk (Option Str) := do
  let a ← deref inl
  match getNE (some a) k with
  | some v => pure (some v)
  | none => do
    let st ← deref sty
    if st.attrs.isSome then do
      let b ← deref st.attrs
      pure (getNE (some b) k)
    else pure none

theorem fallbackU_panics (a : KV) (k : String) (h : getNE (some a) k = none) :
    fallbackU (some a) none k = .error .nilDeref := by
  unfold fallbackU
  simp [h]

/-- the fall-back without `sty.InlineStyle != nil` -/
def fallbackU2 (inl : Attrs) (sty : Option Def) (k : String) : Chk (Option Str) := do
  let a ← deref inl
  match getNE (some a) k with
  | some v => pure (some v)
  | none =>
    if sty.isSome then do
      let st ← deref sty
      let b ← deref st.attrs
      pure (getNE (some b) k)
    else pure none

theorem fallbackU2_panics (a : KV) (d : Def) (k : String) (h : getNE (some a) k = none) (hd : d.attrs = none) :
    fallbackU2 (some a) (some d) k = .error .nilDeref := by
  unfold fallbackU2
  simp [h, hd]

/-- `for _, id := range k { … }` -/
def regionsLoopC (s : Subs) : List Str → Chk Str
  | [] => pure []
  | id :: ids => do
    let b ← regionBytesC s id
    let r ← regionsLoopC s ids
    pure (b ++ r)

/-- the regions part: the identifiers of the regions, sorted, then the loop -/
def regionsC (s : Subs) : Chk Str := regionsLoopC s (sortStrs (s.regions.map (·.id)))

theorem regionsLoopC_eq (s : Subs) : ∀ (ds : List Def), (∀ d ∈ ds, lookupDef s.regions d.id = some d) →
    regionsLoopC s (ds.map (·.id)) = .ok ((ds.map (regionBytes s)).flatten)
  | [], _ => rfl
  | d :: ds, h => by
    rw [List.map_cons]
    unfold regionsLoopC
    rw [regionBytesC_eq s d.id d (h d (List.mem_cons_self ..)),
      regionsLoopC_eq s ds fun x hx => h x (List.mem_cons_of_mem _ hx)]
    rfl

/-- `if item.Region != nil { … "region:" + item.Region.ID }`: the identifier written, if any -/
def regionIdC (p : Option Str) : Chk (Option Str) :=
  if p.isSome then do                                   -- item.Region != nil
    let id ← deref p                                    -- item.Region.ID
    pure (some id)
  else pure none

theorem regionIdC_eq (p : Option Str) : regionIdC p = .ok p := by
  cases p <;> rfl

/-- the body of `for index, item := range s.Items` -/
def cueBytesC (s : Subs) (k : Nat) (it : CItem) : Chk Str := do
  let inl := orEmpty it.attrs                            -- item.InlineStyle, repaired when nil
  let sty := stylePtr s it.style                         -- item.Style
  let al ← fallbackC inl sty "WebVTTAlign"
  let ln ← fallbackC inl sty "WebVTTLine"
  let po ← fallbackC inl sty "WebVTTPosition"
  let rg ← regionIdC it.region
  let sz ← fallbackC inl sty "WebVTTSize"
  let ve ← fallbackC inl sty "WebVTTVertical"
  let ls ← linesC it.lines
  pure ((if it.comments.isEmpty then [] else "NOTE ".toList ++ (it.comments.map (· ++ ['\n'])).flatten ++ ['\n'])
    ++ itoaNat (k + 1) ++ ['\n']
    ++ Duration.formatVTT it.startAt ++ " --> ".toList ++ Duration.formatVTT it.endAt
    ++ setting "align:" al ++ setting "line:" ln ++ setting "position:" po ++ setting "region:" rg
    ++ setting "size:" sz ++ setting "vertical:" ve
    ++ ['\n'] ++ ls ++ ['\n'])

theorem cueBytesC_eq (s : Subs) (k : Nat) (it : CItem) : cueBytesC s k it = .ok (cueBytes s k it) := by
  unfold cueBytesC cueBytes
  simp only [ok_bind, fallbackC_eq, regionIdC_eq, linesC_eq]
  rfl

/-- the pinned body: `item.InlineStyle.X` without the repair -/
def cueBytesU (s : Subs) (k : Nat) (it : CItem) : Chk Str := do
  let inl := it.attrs
  let sty := stylePtr s it.style
  let al ← fallbackC inl sty "WebVTTAlign"
  let ln ← fallbackC inl sty "WebVTTLine"
  let po ← fallbackC inl sty "WebVTTPosition"
  let rg ← regionIdC it.region
  let sz ← fallbackC inl sty "WebVTTSize"
  let ve ← fallbackC inl sty "WebVTTVertical"
  let ls ← linesC it.lines
  pure ((if it.comments.isEmpty then [] else "NOTE ".toList ++ (it.comments.map (· ++ ['\n'])).flatten ++ ['\n'])
    ++ itoaNat (k + 1) ++ ['\n']
    ++ Duration.formatVTT it.startAt ++ " --> ".toList ++ Duration.formatVTT it.endAt
    ++ setting "align:" al ++ setting "line:" ln ++ setting "position:" po ++ setting "region:" rg
    ++ setting "size:" sz ++ setting "vertical:" ve
    ++ ['\n'] ++ ls ++ ['\n'])

theorem cueBytesU_panics (s : Subs) (k : Nat) (it : CItem) (h : it.attrs = none) :
    cueBytesU s k it = .error .nilDeref := by
  unfold cueBytesU
  rw [h]
  rfl

theorem cueBytesU_eq (s : Subs) (k : Nat) (it : CItem) (a : KV) (h : it.attrs = some a) :
    cueBytesU s k it = .ok (cueBytes s k it) := by
  unfold cueBytesU cueBytes
  have e : ∀ key, fallbackC it.attrs (stylePtr s it.style) key = .ok (fallback it.attrs (styleAttrs s it.style) key) := by
    intro key
    have := fallbackC_eq s it.attrs it.style key
    rwa [show orEmpty it.attrs = it.attrs from by rw [h]; rfl] at this
  simp only [e, ok_bind, regionIdC_eq, linesC_eq]
  rfl

/-- the region setting without `item.Region != nil` -/
def regionIdU (p : Option Str) : Chk (Option Str) := do
  let id ← deref p
  pure (some id)

theorem regionIdU_panics : regionIdU none = .error .nilDeref := rfl

/-- `for index, item := range s.Items { … }` from index `k` on -/
def cuesLoopC (s : Subs) : Nat → List CItem → Chk Str
  | _, [] => pure []
  | k, it :: its => do
    let b ← cueBytesC s k it
    let r ← cuesLoopC s (k + 1) its
    pure (b ++ r)

theorem cuesLoopC_eq (s : Subs) (its : List CItem) (k : Nat) :
    cuesLoopC s k its = .ok (((its.zipIdx k).map fun (it, k) => cueBytes s k it).flatten) :=
  RLoop.eq (L := cuesLoopC s) (M := fun k its => ((its.zipIdx k).map fun (it, k) => cueBytes s k it).flatten)
    ⟨fun _ => rfl, fun _ _ _ => rfl⟩ its k fun it _ k => cueBytesC_eq s k it

/-- the buffer starts with the header, so it is not empty at the final `c = c[:len(c)-1]` -/
theorem buffer_ne_nil (s : Subs) (a b c d : Str) : header s ++ a ++ b ++ c ++ d ≠ [] :=
  List.append_ne_nil_of_left_ne_nil (List.append_ne_nil_of_left_ne_nil (List.append_ne_nil_of_left_ne_nil
    (List.append_ne_nil_of_left_ne_nil (header_ne_nil s) _) _) _) _

/-- `WriteToWebVTT`; `none` = `ErrNoSubtitlesToWrite` -/
def writeC (s : Subs) : Chk (Option Str) :=
  if s.items.isEmpty then pure none else do              -- len(s.Items) == 0
  let h ← headerC s
  let st ← styleLinesC s
  let rg ← regionsC s
  let cs ← cuesLoopC s 0 s.items
  let c := h
    ++ (if st.isEmpty then [] else "STYLE\n".toList ++ join ['\n'] st ++ "\n\n".toList)     -- len(style) > 0
    ++ rg
    ++ (if s.regions.isEmpty then [] else ['\n'])                                          -- len(s.Regions) > 0
    ++ cs
  let c ← slcToI c ((c.length : Int) - 1)                -- c = c[:len(c)-1]
  pure (some c)

/-- a list of definitions as `m[id]` sees it: every entry replaced by the first one of its identifier -/
def firstWins (m : List Def) : List Def := m.map fun d => (lookupDef m d.id).getD d

theorem lookupDef_id {m : List Def} {id : Str} {d : Def} (h : lookupDef m id = some d) : d.id = id := by
  simpa using List.find?_some h

theorem getD_id (m : List Def) (d : Def) : ((lookupDef m d.id).getD d).id = d.id := by
  cases h : lookupDef m d.id with
  | none => rfl
  | some d' => exact lookupDef_id h

theorem firstWins_ids (m : List Def) : (firstWins m).map (·.id) = m.map (·.id) := by
  unfold firstWins
  rw [List.map_map]
  exact List.map_congr_left fun d _ => getD_id m d

theorem firstWins_self (m : List Def) (hu : UniqueIds m) : firstWins m = m :=
  List.map_eq_self fun d hd => by rw [lookupDef_self m hu d hd]; rfl

theorem lookupDef_of_mem_firstWins {m : List Def} {d : Def} (h : d ∈ firstWins m) : lookupDef m d.id = some d := by
  obtain ⟨d0, hd0, rfl⟩ := List.mem_map.mp h
  obtain ⟨d', hd'⟩ := lookupDef_hit m d0 hd0
  rw [hd', Option.getD_some, lookupDef_id hd', hd']

theorem lookupDef_cons (x : Def) (l : List Def) (id : Str) :
    lookupDef (x :: l) id = if x.id = id then some x else lookupDef l id := by
  unfold lookupDef
  by_cases h : x.id = id
  · rw [List.find?_cons_of_pos (by simpa using h), if_pos h]
  · rw [List.find?_cons_of_neg (by simpa using h), if_neg h]

theorem lookupDef_firstWins (m : List Def) (id : Str) : lookupDef (firstWins m) id = lookupDef m id := by
  have key : ∀ l : List Def, (∀ x ∈ l, x ∈ m) →
      lookupDef (l.map fun d => (lookupDef m d.id).getD d) id = (lookupDef l id).bind fun d => lookupDef m d.id := by
    intro l
    induction l with
    | nil => intro _; rfl
    | cons x l ih =>
      intro hl
      rw [List.map_cons, lookupDef_cons, lookupDef_cons, getD_id]
      by_cases he : x.id = id
      · obtain ⟨d', hd'⟩ := lookupDef_hit m x (hl x (List.mem_cons_self ..))
        rw [if_pos he, if_pos he, Option.bind_some, hd']
        rfl
      · rw [if_neg he, if_neg he]
        exact ih fun y hy => hl y (List.mem_cons_of_mem _ hy)
  refine (key m fun _ h => h).trans ?_
  cases h : lookupDef m id with
  | none => rfl
  | some d => rw [Option.bind_some, lookupDef_id h, h]

/-- the document as the writer's look-ups see it -/
def seen (s : Subs) : Subs := { s with styles := firstWins s.styles, regions := firstWins s.regions }

theorem styleAttrs_seen (s : Subs) (ref : Option Str) : styleAttrs (seen s) ref = styleAttrs s ref := by
  rw [styleAttrs_eq, styleAttrs_eq]
  cases ref with
  | none => rfl
  | some id => exact congrArg (·.bind (·.attrs)) (lookupDef_firstWins s.styles id)

theorem regionBytes_seen (s : Subs) : regionBytes (seen s) = regionBytes s := by
  funext d; unfold regionBytes; rw [styleAttrs_seen]

theorem cueBytes_seen (s : Subs) (k : Nat) (it : CItem) : cueBytes (seen s) k it = cueBytes s k it := by
  unfold cueBytes; rw [styleAttrs_seen]

theorem sorted_seen (m : List Def) :
    sortStrs (m.map (·.id)) = (sortDefs (firstWins m)).map (·.id) ∧
      ∀ d ∈ sortDefs (firstWins m), lookupDef m d.id = some d :=
  ⟨by rw [← firstWins_ids, sortStrs_ids], fun d hd => by
    unfold sortDefs at hd
    exact lookupDef_of_mem_firstWins (List.mem_mergeSort.mp hd)⟩

theorem write_seen (s : Subs) : write (seen s) =
    if s.items.isEmpty then none else
    some ((header s
      ++ (if (styleLines (seen s)).isEmpty then []
          else "STYLE\n".toList ++ join ['\n'] (styleLines (seen s)) ++ "\n\n".toList)
      ++ ((sortDefs (firstWins s.regions)).map (regionBytes s)).flatten
      ++ (if s.regions.isEmpty then [] else ['\n'])
      ++ (s.items.zipIdx.map fun (it, k) => cueBytes s k it).flatten).dropLast) := by
  unfold write
  simp only [regionBytes_seen, cueBytes_seen]
  rw [show (seen s).regions.isEmpty = s.regions.isEmpty from List.isEmpty_map]
  rfl

/-- **`WriteToWebVTT` never panics and writes what the model writes for the document as the look-ups see it**,
    for every document -/
theorem writeC_firstWins (s : Subs) : writeC s = .ok (write (seen s)) := by
  rw [write_seen]
  refine ite_ok (fun _ => rfl) fun _ => ?_
  have hst : styleLinesC s = .ok (styleLines (seen s)) := by
    unfold styleLinesC
    rw [(sorted_seen s.styles).1, styleLoopC_eq s _ (sorted_seen s.styles).2]
    rfl
  have hrg : regionsC s = .ok (((sortDefs (firstWins s.regions)).map (regionBytes s)).flatten) := by
    unfold regionsC
    rw [(sorted_seen s.regions).1, regionsLoopC_eq s _ (sorted_seen s.regions).2]
  rw [headerC_eq, hst, hrg, cuesLoopC_eq]
  simp only [ok_bind]
  rw [show slcToI _ _ = _ from initC_ok (buffer_ne_nil s _ _ _ _)]
  rfl

/-- **`WriteToWebVTT` with every index, slice and nil site explicit is the model's writer**, for every document
    whose two maps have one entry per identifier: `none` metadata, no styles, no regions, `none` attributes on a
    region / cue / run / style, absent or dangling style references, empty lines and empty texts included -/
theorem writeC_eq (s : Subs) (hs : UniqueIds s.styles) (hr : UniqueIds s.regions) : writeC s = .ok (write s) := by
  rw [writeC_firstWins, seen, firstWins_self _ hs, firstWins_self _ hr]

/-- **`WriteToWebVTT` never panics**, for every document (the invariant of the maps is not needed) -/
theorem writeC_safe (s : Subs) : (writeC s).safe = true := safe_of_eq_ok (writeC_firstWins s)

theorem writeC_none_iff (s : Subs) : writeC s = .ok none ↔ s.items = [] := by
  rw [writeC_firstWins, write_seen]
  cases s.items with
  | nil => exact ⟨fun _ => rfl, fun _ => rfl⟩
  | cons _ _ => exact ⟨nofun, nofun⟩

/-! ### the pinned writer as a whole

The pinned `WriteToWebVTT` (defect D13) reads `st.InlineStyle.WebVTTStyles`, `s.Regions[id].InlineStyle.X`
and `item.InlineStyle.X` without testing the pointer.  Each turn of its three loops panics exactly when that pointer is
nil (`PanicsIff`), so the writer does exactly when one of them does. -/

/-- the pinned body of the regions loop behind the look-up -/
def regionOneU (s : Subs) (id : Str) : Chk Str := do
  let r ← deref (lookupDef s.regions id)
  regionBytesU s r

/-- the pinned regions loop -/
def regionsLoopU (s : Subs) : List Str → Chk Str
  | [] => pure []
  | id :: ids => do
    let b ← regionOneU s id
    let r ← regionsLoopU s ids
    pure (b ++ r)

/-- the pinned cues loop -/
def cuesLoopU (s : Subs) : Nat → List CItem → Chk Str
  | _, [] => pure []
  | k, it :: its => do
    let b ← cueBytesU s k it
    let r ← cuesLoopU s (k + 1) its
    pure (b ++ r)

/-- the pinned `WriteToWebVTT`, as far as its pointers go (the styles are taken in identifier order here
    too: the order does not matter for the panics) -/
def writeU (s : Subs) : Chk (Option Str) :=
  if s.items.isEmpty then pure none else do
  let h ← headerC s
  let st ← styleLoopU s (sortStrs (s.styles.map (·.id)))
  let rg ← regionsLoopU s (sortStrs (s.regions.map (·.id)))
  let cs ← cuesLoopU s 0 s.items
  let c := h
    ++ (if st.isEmpty then [] else "STYLE\n".toList ++ join ['\n'] st ++ "\n\n".toList)
    ++ rg
    ++ (if s.regions.isEmpty then [] else ['\n'])
    ++ cs
  let c ← slcToI c ((c.length : Int) - 1)
  pure (some c)

theorem mem_sortStrs_ids (m : List Def) (d : Def) (hd : d ∈ m) : d.id ∈ sortStrs (m.map (·.id)) := by
  unfold sortStrs
  exact List.mem_mergeSort.mpr (List.mem_map_of_mem hd)

theorem styleLoopU_loop (s : Subs) : RLoop (fun _ => styleOneU s) (· ++ ·) [] (fun _ => styleLoopU s) :=
  ⟨fun _ => rfl, fun _ _ _ => rfl⟩

theorem regionsLoopU_loop (s : Subs) : RLoop (fun _ => regionOneU s) (· ++ ·) [] (fun _ => regionsLoopU s) :=
  ⟨fun _ => rfl, fun _ _ _ => rfl⟩

theorem cuesLoopU_loop (s : Subs) : RLoop (cueBytesU s) (· ++ ·) [] (cuesLoopU s) :=
  ⟨fun _ => rfl, fun _ _ _ => rfl⟩

theorem styleOneU_panicsIff (s : Subs) (id : Str) :
    PanicsIff (styleOneU s id) .nilDeref (∃ d, lookupDef s.styles id = some d ∧ d.attrs = none) := by
  unfold styleOneU
  cases lookupDef s.styles id with
  | none => exact .ok_of rfl nofun
  | some d =>
    cases hd : d.attrs with
    | none => exact .error_of (by simp [hd]) ⟨d, rfl, hd⟩
    | some a => exact .ok_of (a := cssOf a) (by simp [hd]) fun ⟨d', h, hn⟩ => by cases h; rw [hd] at hn; cases hn

theorem regionOneU_panicsIff (s : Subs) (id : Str) :
    PanicsIff (regionOneU s id) .nilDeref ((lookupDef s.regions id).bind (·.attrs) = none) := by
  unfold regionOneU
  cases lookupDef s.regions id with
  | none => exact .error_of rfl rfl
  | some d =>
    cases hd : d.attrs with
    | none => exact .error_of (regionBytesU_panics s d hd) hd
    | some a => exact .ok_of (regionBytesU_eq s d a hd) fun h => by rw [Option.bind_some, hd] at h; cases h

theorem cueBytesU_panicsIff (s : Subs) (k : Nat) (it : CItem) :
    PanicsIff (cueBytesU s k it) .nilDeref (it.attrs = none) := by
  cases h : it.attrs with
  | none => exact .error_of (cueBytesU_panics s k it h) rfl
  | some a => exact .ok_of (cueBytesU_eq s k it a h) nofun

/-- **the pinned `WriteToWebVTT` panics exactly when** there is a cue and some style, region or cue it visits
    has no inline style; the panic is a nil dereference -/
theorem writeU_panicsIff (s : Subs) :
    PanicsIff (writeU s) .nilDeref
      (s.items ≠ [] ∧
        ((∃ id ∈ sortStrs (s.styles.map (·.id)), ∃ d, lookupDef s.styles id = some d ∧ d.attrs = none) ∨
         (∃ id ∈ sortStrs (s.regions.map (·.id)), (lookupDef s.regions id).bind (·.attrs) = none) ∨
         ∃ it ∈ s.items, it.attrs = none)) := by
  unfold writeU
  by_cases he : s.items.isEmpty = true
  · rw [if_pos he]
    exact .ok_of rfl fun h => h.1 (List.isEmpty_iff.mp he)
  · rw [if_neg he, headerC_eq]
    refine (((styleLoopU_loop s).panicsIff _ 0 fun id _ _ => styleOneU_panicsIff s id).bind' fun st _ =>
      ((regionsLoopU_loop s).panicsIff _ 0 fun id _ _ => regionOneU_panicsIff s id).bind' fun rg _ =>
      ((cuesLoopU_loop s).panicsIff _ 0 fun it _ k => cueBytesU_panicsIff s k it).bind' fun cs _ =>
      PanicsIff.of_ok (a := some _) (bind_eq_of_ok (initC_ok (buffer_ne_nil s _ _ _ _)) _)).congr ?_
    simp only [or_false, ne_eq, mt List.isEmpty_iff.mpr he, not_false_eq_true, true_and]

theorem writeU_panics_cue (s : Subs) (h : ∃ it ∈ s.items, it.attrs = none) : writeU s = .error .nilDeref :=
  (writeU_panicsIff s).1 ⟨fun h0 => (by obtain ⟨_, hm, _⟩ := h; rw [h0] at hm; cases hm), .inr (.inr h)⟩

theorem writeU_panics_region (s : Subs) (hi : s.items ≠ []) (hu : UniqueIds s.regions)
    (h : ∃ d ∈ s.regions, d.attrs = none) : writeU s = .error .nilDeref :=
  let ⟨d, hd, hn⟩ := h
  (writeU_panicsIff s).1 ⟨hi, .inr (.inl ⟨d.id, mem_sortStrs_ids _ d hd, by rw [lookupDef_self _ hu d hd]; exact hn⟩)⟩

theorem writeU_panics_style (s : Subs) (hi : s.items ≠ []) (hu : UniqueIds s.styles)
    (h : ∃ d ∈ s.styles, d.attrs = none) : writeU s = .error .nilDeref :=
  let ⟨d, hd, hn⟩ := h
  (writeU_panicsIff s).1 ⟨hi, .inl ⟨d.id, mem_sortStrs_ids _ d hd, d, lookupDef_self _ hu d hd, hn⟩⟩

/-- no metadata; a region and a style without inline style; a cue without inline style, style or region -/
def sNil : Subs :=
  { items := [{ startAt := 0, endAt := 1000000000, lines := [{ items := [{ text := "a".toList }] }] }],
    regions := [{ id := "r".toList }], styles := [{ id := "s".toList }], metadata := none }

/-- its cue -/
def cNil : CItem := { startAt := 0, endAt := 1000000000, lines := [{ items := [{ text := "a".toList }] }] }

example : headerC sNil = .ok "WEBVTT\n\n".toList := by decide_vector
example : headerU sNil = .error .nilDeref := rfl
example : styleOneC sNil "s".toList = .ok [] := rfl
example : styleOneU sNil "s".toList = .error .nilDeref := rfl
example : regionBytesC sNil "r".toList = .ok "Region: id=r\n".toList := by decide_vector
example : regionBytesU sNil { id := "r".toList } = .error .nilDeref := rfl
example : regionBytesC sNil "q".toList = .error .nilDeref := rfl
example : cueBytesU sNil 0 cNil = .error .nilDeref := rfl
example : cueBytesC sNil 0 cNil = .ok "1\n00:00:00.000 --> 00:00:01.000\na\n\n".toList := by decide_vector
example : writeC sNil = .ok (some "WEBVTT\n\nRegion: id=r\n\n1\n00:00:00.000 --> 00:00:01.000\na\n".toList) := by
  rw [writeC_eq sNil (by decide) (by decide)]
  simp only [write, styleLines, sortDefs, sNil, List.mergeSort_singleton]
  decide_vector
example : writeU sNil = .error .nilDeref := writeU_panics_cue sNil ⟨_, List.mem_cons_self .., rfl⟩
example : writeU sNil = .error .nilDeref :=
  writeU_panics_region sNil (by decide) (by decide) ⟨_, List.mem_cons_self .., rfl⟩
example : writeU sNil = .error .nilDeref :=
  writeU_panics_style sNil (by decide) (by decide) ⟨_, List.mem_cons_self .., rfl⟩

/-- tags shared with a neighbour are neither re-opened nor closed early; the index loops stay in range -/
example : lineBytesC { items := [{ text := "A".toList, attrs := some [("WebVTTTags".toList, "b|i".toList)] },
                                 { text := "B".toList, attrs := some [("WebVTTTags".toList, "b".toList)] },
                                 { text := "C".toList }] }
    = .ok "<b><i>A</i>B</b>C\n".toList := by decide_vector

/-- the empty line and the line of one empty text -/
example : lineBytesC { items := [] } = .ok "\n".toList := rfl
example : lineBytesC { items := [{ text := [] }] } = .ok "\n".toList := rfl

/-- a bound larger than the stack: slicing at the previous run's stack length panics -/
example : opensU (some { text := [], attrs := some [("WebVTTTags".toList, "b|i".toList)] })
    { text := [], attrs := some [("WebVTTTags".toList, "b".toList)] } = .error .slice := by decide_vector

/-- an absent and a dangling style reference, a reference to a style without inline style, and one that
    supplies the setting -/
def sRef : Subs :=
  { items := [cNil],
    styles := [{ id := "s".toList }, { id := "t".toList, attrs := some [("WebVTTAlign".toList, "left".toList)] }] }

example : cueBytesC sRef 0 { cNil with style := some "nope".toList } = cueBytesC sRef 0 cNil := rfl
example : cueBytesC sRef 0 { cNil with style := some "s".toList } = cueBytesC sRef 0 cNil := rfl
example : cueBytesC sRef 0 { cNil with style := some "t".toList }
    = .ok "1\n00:00:00.000 --> 00:00:01.000 align:left\na\n\n".toList := by decide_vector
example : cueBytesC sRef 0 { cNil with region := some "r".toList }
    = .ok "1\n00:00:00.000 --> 00:00:01.000 region:r\na\n\n".toList := by decide_vector

/-- the invariant of the maps is satisfiable, and it is needed for the *value* (not for safety): on a list
    with a repeated identifier — not a Go map — the look-up by identifier finds the first entry twice -/
example : UniqueIds sRef.styles := by decide
example : UniqueIds sNil.regions := by decide

/-- a list of regions that is not a map -/
def sDup : Subs :=
  { items := [cNil],
    regions := [{ id := "r".toList, attrs := some [("WebVTTWidth".toList, "40%".toList)] }, { id := "r".toList }] }

example : ¬ UniqueIds sDup.regions := by decide
example : regionsLoopC sDup (sDup.regions.map (·.id)) = .ok "Region: id=r width=40%\nRegion: id=r width=40%\n".toList := by decide_vector
example : (sDup.regions.map (regionBytes sDup)).flatten = "Region: id=r width=40%\nRegion: id=r\n".toList := by decide_vector
example : (writeC sDup).safe = true := writeC_safe sDup

end VTTW

end Tot
end Astisub
