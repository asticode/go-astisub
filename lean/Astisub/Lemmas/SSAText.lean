import Astisub.Model.SSA
import Astisub.Lemmas.StrList

/-!
# Lemmas/SSAText — the event text: `\n`-joined lines of runs, read back by `ssaEvent.item`

`strings.Split` undoes `strings.Join` for a two-character separator that does not occur in the pieces;
the override-block scanner (`ssaRegexpEffect`) cuts the concatenation of runs back into these runs.
-/

namespace Astisub
namespace SSA
open Go List

/-- the sequence `a b` does not occur in the string -/
def noPair (a b : Char) : Str → Bool
  | [] => true
  | c :: cs => !(decide (c = a) && decide (cs.head? = some b)) && noPair a b cs

theorem dropPrefix2_none {a b x : Char} {xs : Str} (h : (decide (x = a) && decide (xs.head? = some b)) = false) :
    dropPrefix? [a, b] (x :: xs) = none := by
  by_cases hx : a = x
  · subst hx
    cases xs with
    | nil => simp [dropPrefix?]
    | cons y ys =>
      have : ¬ b = y := by intro e; subst e; simp at h
      simp [dropPrefix?, this]
  · simp [dropPrefix?, hx]

theorem dropPrefix2_some (a b : Char) (r : Str) : dropPrefix? [a, b] (a :: b :: r) = some r := by
  simp [dropPrefix?]

theorem splitOn_noPair (a b : Char) : ∀ (s : Str), noPair a b s = true → Go.splitOn [a, b] s = [s]
  | [], _ => splitOn_nil (cons_ne_nil _ _)
  | c :: cs, h => by
    simp only [noPair, Bool.and_eq_true, Bool.not_eq_true'] at h
    rw [splitOn_miss (cons_ne_nil _ _) (dropPrefix2_none h.1), splitOn_noPair a b cs h.2]; rfl

theorem splitOn_piece (a b : Char) (hab : a ≠ b) (rest : Str) : ∀ L : Str, noPair a b L = true →
    Go.splitOn [a, b] (L ++ a :: b :: rest) = L :: Go.splitOn [a, b] rest
  | [], _ => splitOn_hit (cons_ne_nil _ _) (cons_ne_nil _ _) (dropPrefix2_some a b rest)
  | c :: cs, h => by
    simp only [noPair, Bool.and_eq_true, Bool.not_eq_true'] at h
    have hnone : dropPrefix? [a, b] (c :: (cs ++ a :: b :: rest)) = none := by
      apply dropPrefix2_none
      cases cs with
      | nil =>
        have : ¬ a = b := hab
        simp [this]
      | cons y ys => simpa using h.1
    rw [cons_append, splitOn_miss (cons_ne_nil _ _) hnone, splitOn_piece a b hab rest cs h.2]; rfl

theorem splitOn_join2 (a b : Char) (hab : a ≠ b) : ∀ (ls : List Str), ls ≠ [] →
    (∀ L ∈ ls, noPair a b L = true) → Go.splitOn [a, b] (join [a, b] ls) = ls
  | [], hne, _ => absurd rfl hne
  | [first], _, h => splitOn_noPair a b first (h first (by simp))
  | first :: y :: ys, _, h => by
    rw [join_cons_cons, append_assoc, cons_append, cons_append, nil_append,
      splitOn_piece a b hab _ first (h first (by simp)),
      splitOn_join2 a b hab (y :: ys) (cons_ne_nil _ _) fun L hL => h L (by simp [hL])]

theorem replaceAll_noPair (a b : Char) (new s : Str) (h : noPair a b s = true) : replaceAll [a, b] new s = s := by
  unfold replaceAll
  rw [splitOn_noPair a b s h]
  simp [join]

theorem noPair_append_cons (a b c : Char) (hc : c ≠ b) : ∀ (x y : Str), noPair a b x = true → noPair a b (c :: y) = true →
    noPair a b (x ++ c :: y) = true := by
  intro x
  induction x with
  | nil => intro y _ h; simpa using h
  | cons x0 xs ih =>
    intro y hx hy
    simp only [noPair, Bool.and_eq_true, Bool.not_eq_true'] at hx
    simp only [cons_append, noPair, Bool.and_eq_true, Bool.not_eq_true']
    refine ⟨?_, ih y hx.2 hy⟩
    cases xs with
    | nil =>
      have : ¬ c = b := hc
      simp [this]
    | cons z zs => simpa using hx.1

theorem noPair_join (ls : List Str) (h : ∀ L ∈ ls, noPair '\\' 'N' L = true) :
    noPair '\\' 'N' (join ['\\', 'n'] ls) = true := by
  induction ls with
  | nil => rfl
  | cons x xs ih =>
    cases xs with
    | nil => simpa [join] using h x (by simp)
    | cons y ys =>
      rw [join_cons_cons, append_assoc, cons_append, cons_append, nil_append]
      apply noPair_append_cons _ _ _ (by decide) _ _ (h x (by simp))
      have := ih (fun L hL => h L (by simp [hL]))
      simp only [noPair, Bool.and_eq_true, Bool.not_eq_true']
      refine ⟨by simp, ?_, this⟩
      simp

/-- a line that is cut out of the text as it is: neither `\n` nor `\N` in it, nothing to trim -/
structure LineOK (L : Str) : Prop where
  n : noPair '\\' 'n' L = true
  N : noPair '\\' 'N' L = true
  trimmed : Trimmed L

instance (L : Str) : Decidable (LineOK L) :=
  decidable_of_iff (noPair '\\' 'n' L = true ∧ noPair '\\' 'N' L = true ∧ Trimmed L)
    ⟨fun ⟨a, b, c⟩ => ⟨a, b, c⟩, fun ⟨a, b, c⟩ => ⟨a, b, c⟩⟩

theorem sepn : "\\n".toList = ['\\', 'n'] := by rw [String.toList_ofList]
theorem sepN : "\\N".toList = ['\\', 'N'] := by rw [String.toList_ofList]

theorem textLines_join (ls : List Str) (hne : ls ≠ []) (h : ∀ L ∈ ls, LineOK L) :
    textLines (join "\\n".toList ls) = ls := by
  unfold textLines
  rw [sepn, sepN, replaceAll_noPair _ _ _ _ (noPair_join ls fun L hL => (h L hL).N),
    splitOn_join2 _ _ (by decide) ls hne fun L hL => (h L hL).n]
  have : ∀ (l : List Str), (∀ L ∈ l, LineOK L) → l.map trimSpace = l := by
    intro l
    induction l with
    | nil => intro _; rfl
    | cons x xs ih =>
      intro hl
      rw [map_cons, trimSpace_of_trimmed (hl x (by simp)).trimmed, ih fun L hL => hl L (by simp [hL])]
  exact this ls h

theorem trimmed_join (ls : List Str) (h : ∀ L ∈ ls, Trimmed L) : Trimmed (join ['\\', 'n'] ls) := by
  cases ls with
  | nil => exact trimmed_nil
  | cons x xs =>
    rcases eq_nil_or_concat xs with rfl | ⟨mid, last, rfl⟩
    · simpa [join] using h x (by simp)
    · rw [concat_eq_append]
      exact trimmed_join_sep _ (cons_ne_nil _ _) (by decide) x mid last (h x (by simp)).1 (h last (by simp)).2

def NoBrace (s : Str) : Prop := '{' ∉ s ∧ '}' ∉ s

instance (s : Str) : Decidable (NoBrace s) := inferInstanceAs (Decidable ('{' ∉ s ∧ '}' ∉ s))

/-- what is between the braces of an override block -/
def blockInner (e : Str) : Str := (e.drop 1).dropLast

/-- `{…}` with at least one character and no brace inside -/
def IsBlock (e : Str) : Prop := e = '{' :: blockInner e ++ ['}'] ∧ blockInner e ≠ [] ∧ NoBrace (blockInner e)

instance (e : Str) : Decidable (IsBlock e) :=
  inferInstanceAs (Decidable (e = '{' :: blockInner e ++ ['}'] ∧ blockInner e ≠ [] ∧ NoBrace (blockInner e)))

theorem effLen_scan : ∀ (u rest : Str) (pos : Nat) (last : Option Nat), NoBrace u →
    effLen (u ++ rest) pos last = effLen rest (pos + u.length) last := by
  intro u
  induction u with
  | nil => intro rest pos last _; simp
  | cons c cs ih =>
    intro rest pos last h
    have h1 : ¬ c = '{' := fun e => h.1 (by simp [e])
    have h2 : ¬ c = '}' := fun e => h.2 (by simp [e])
    have hcs : NoBrace cs := ⟨fun e => h.1 (by simp [e]), fun e => h.2 (by simp [e])⟩
    simp only [cons_append, effLen, h1, ↓reduceIte, h2, false_and, length_cons]
    rw [ih rest (pos + 1) last hcs]
    congr 1
    omega

/-- what follows a run: nothing, or the next override block -/
def BlockAhead (s : Str) : Prop := ∀ c, s.head? = some c → c = '{'

theorem effLen_blockAhead (s : Str) (h : BlockAhead s) (pos : Nat) (last : Option Nat) : effLen s pos last = last := by
  cases s with
  | nil => rfl
  | cons c cs =>
    have : c = '{' := h c rfl
    simp [effLen, this]

theorem effLen_block (inner t tail : Str) (hi : inner ≠ []) (hin : NoBrace inner) (ht : NoBrace t) (htail : BlockAhead tail) :
    effLen (inner ++ '}' :: (t ++ tail)) 0 none = some (inner.length + 1) := by
  rw [effLen_scan inner _ 0 none hin]
  have hpos : 0 + inner.length ≥ 1 := by
    cases inner with
    | nil => exact absurd rfl hi
    | cons _ _ => simp
  have hb : ¬ '}' = '{' := by decide
  simp only [effLen, hb, ↓reduceIte, hpos, and_self]
  rw [effLen_scan t _ _ _ ht, effLen_blockAhead tail htail]
  simp

theorem segsF_text : ∀ (t s : Str) (fuel : Nat) (acc : Str), '{' ∉ t → (t ++ s).length < fuel →
    segsF fuel (t ++ s) acc = segsF (fuel - t.length) s (t.reverse ++ acc) := by
  intro t
  induction t with
  | nil => intro s fuel acc _ _; simp
  | cons c cs ih =>
    intro s fuel acc h hf
    obtain ⟨f, rfl⟩ : ∃ f, fuel = f + 1 := ⟨fuel - 1, by simp at hf; omega⟩
    have h1 : ¬ c = '{' := fun e => h (by simp [e])
    simp only [cons_append, segsF, h1, ↓reduceIte]
    rw [ih s f (c :: acc) (fun e => h (by simp [e])) (by simp at hf ⊢; omega)]
    simp

theorem segsF_block (inner t tail : Str) (f : Nat) (acc : Str)
    (hi : inner ≠ []) (hin : NoBrace inner) (ht : NoBrace t) (htail : BlockAhead tail) :
    segsF (f + 1) (('{' :: inner ++ ['}']) ++ (t ++ tail)) acc
      = .text acc.reverse :: .eff ('{' :: inner ++ ['}']) :: segsF f (t ++ tail) [] := by
  have e : ('{' :: inner ++ ['}']) ++ (t ++ tail) = '{' :: (inner ++ '}' :: (t ++ tail)) := by simp
  rw [e]
  simp only [segsF, ↓reduceIte, effLen_block inner t tail hi hin ht htail]
  have h1 : (inner ++ '}' :: (t ++ tail)).take (inner.length + 1) = inner ++ ['}'] := by
    rw [show inner ++ '}' :: (t ++ tail) = (inner ++ ['}']) ++ (t ++ tail) by simp]
    exact take_left' (by simp)
  have h2 : (inner ++ '}' :: (t ++ tail)).drop (inner.length + 1) = t ++ tail := by
    rw [show inner ++ '}' :: (t ++ tail) = (inner ++ ['}']) ++ (t ++ tail) by simp]
    exact drop_left' (by simp)
  rw [h1, h2]
  simp

/-- a run: its override block (if any) and its text -/
abbrev Run := Option Str × Str

/-- the `LineItem` of a run -/
def mkRun (r : Run) : LItem := { text := r.2, attrs := r.1.map fun e => [("SSAEffect".toList, e)] }

/-- what the writer emits for a run -/
def runStr (r : Run) : Str := r.1.getD [] ++ r.2

def lineStr (runs : List Run) : Str := (runs.map runStr).flatten

/-- a run that starts with an override block -/
def BlockRun (r : Run) : Prop := (match r.1 with | some e => IsBlock e | none => False) ∧ NoBrace r.2

instance : (r : Run) → Decidable (BlockRun r)
  | (some e, t) => inferInstanceAs (Decidable (IsBlock e ∧ NoBrace t))
  | (none, _) => isFalse (fun h => h.1)

def blocksSegs (rs : List Run) : List Seg := rs.flatMap fun r => [.eff (r.1.getD []), .text r.2]

theorem blockAhead_lineStr (rs : List Run) (h : ∀ r ∈ rs, BlockRun r) : BlockAhead (lineStr rs) := by
  cases rs with
  | nil => intro c hc; simp [lineStr] at hc
  | cons r rs =>
    obtain ⟨hb, _⟩ := h r (by simp)
    obtain ⟨eo, t⟩ := r
    cases eo with
    | none => exact absurd hb id
    | some e =>
      have he : e = '{' :: blockInner e ++ ['}'] := hb.1
      intro c hc
      rw [lineStr, map_cons, flatten_cons, runStr] at hc
      simp only [Option.getD_some] at hc
      rw [he] at hc
      simpa using hc.symm

theorem segsF_blocks : ∀ (rs : List Run) (t0 : Str) (fuel : Nat) (acc : Str), (∀ r ∈ rs, BlockRun r) → '{' ∉ t0 →
    (t0 ++ lineStr rs).length < fuel →
    segsF fuel (t0 ++ lineStr rs) acc = .text (acc.reverse ++ t0) :: blocksSegs rs := by
  -- the scanner runs over the brace-free `t0` (`segsF_text`); at a `{` the greedy match ends at the block's own `}`,
  -- because up to the next `{` (`BlockAhead`) there is no further `}` (`segsF_block`); what follows is again text and blocks
  intro rs
  induction rs with
  | nil =>
    intro t0 fuel acc _ ht hf
    rw [segsF_text t0 _ fuel acc ht hf]
    obtain ⟨f, hfe⟩ : ∃ f, fuel - t0.length = f + 1 := ⟨fuel - t0.length - 1, by simp [lineStr] at hf; omega⟩
    rw [hfe]
    simp [lineStr, segsF, blocksSegs]
  | cons r rs ih =>
    intro t0 fuel acc h ht hf
    rw [segsF_text t0 _ fuel acc ht hf]
    obtain ⟨hb, htx⟩ := h r (by simp)
    obtain ⟨eo, t⟩ := r
    cases eo with
    | none => exact absurd hb id
    | some e =>
      have hb' : IsBlock e := hb
      have he : e = '{' :: blockInner e ++ ['}'] := hb'.1
      have hrest : ∀ r ∈ rs, BlockRun r := fun r hr => h r (by simp [hr])
      have hl : lineStr ((some e, t) :: rs) = ('{' :: blockInner e ++ ['}']) ++ (t ++ lineStr rs) := by
        rw [lineStr, map_cons, flatten_cons, runStr]
        simp only [Option.getD_some]
        rw [← he, append_assoc]
        rfl
      have hlen : (t0 ++ lineStr ((some e, t) :: rs)).length < fuel := hf
      rw [hl] at hlen ⊢
      obtain ⟨f, hfe⟩ : ∃ f, fuel - t0.length = f + 1 :=
        ⟨fuel - t0.length - 1, by simp at hlen; omega⟩
      rw [hfe, segsF_block (blockInner e) t (lineStr rs) f _ hb'.2.1 hb'.2.2 htx (blockAhead_lineStr rs hrest)]
      rw [ih t f [] hrest htx.1 (by simp at hlen ⊢; omega)]
      simp only [reverse_append, reverse_reverse, reverse_nil, nil_append, blocksSegs, flatMap_cons, Option.getD_some,
        cons_append]
      have he' : '{' :: (blockInner e ++ ['}']) = e := he.symm
      rw [he']

theorem segs_line (rs : List Run) (t0 : Str) (h : ∀ r ∈ rs, BlockRun r) (ht : '{' ∉ t0) :
    segs (t0 ++ lineStr rs) = .text t0 :: blocksSegs rs := by
  unfold segs
  rw [segsF_blocks rs t0 _ [] h ht (by omega)]
  simp

theorem pairRuns_blocks (rs : List Run) (h : ∀ r ∈ rs, BlockRun r) : pairRuns (blocksSegs rs) = rs.map mkRun := by
  induction rs with
  | nil => rfl
  | cons r rs ih =>
    obtain ⟨hb, _⟩ := h r (by simp)
    obtain ⟨eo, t⟩ := r
    cases eo with
    | none => exact absurd hb id
    | some e =>
      have := ih fun r hr => h r (by simp [hr])
      simp only [blocksSegs, flatMap_cons, cons_append, nil_append, pairRuns, Option.getD_some, map_cons] at this ⊢
      rw [this]
      rfl

/-- the runs of a line as the reader can give them back: a first run without override block only
    when it has text or is alone, an override block in front of every other run, no stray braces -/
def GoodLine : List Run → Prop
  | [] => False
  | [(none, t)] => NoBrace t
  | (none, t) :: rest => t ≠ [] ∧ NoBrace t ∧ ∀ r ∈ rest, BlockRun r
  | rs => ∀ r ∈ rs, BlockRun r

instance : (rs : List Run) → Decidable (GoodLine rs)
  | [] => isFalse id
  | [(none, t)] => inferInstanceAs (Decidable (NoBrace t))
  | (none, t) :: r :: rest => inferInstanceAs (Decidable (t ≠ [] ∧ NoBrace t ∧ ∀ x ∈ r :: rest, BlockRun x))
  | (some e, t) :: rest => inferInstanceAs (Decidable (∀ x ∈ (some e, t) :: rest, BlockRun x))

theorem lineRuns_plain (t : Str) (h : NoBrace t) : lineRuns t = [mkRun (none, t)] := by
  have := segs_line [] t (by simp) h.1
  simp only [lineStr, map_nil, flatten_nil, append_nil, blocksSegs, flatMap_nil] at this
  unfold lineRuns
  rw [this]
  rfl

theorem lineRuns_blocks (t0 : Str) (r : Run) (rs : List Run) (h : ∀ x ∈ r :: rs, BlockRun x) (ht : NoBrace t0) :
    lineRuns (t0 ++ lineStr (r :: rs))
      = (if t0.isEmpty then [] else [mkRun (none, t0)]) ++ (r :: rs).map mkRun := by
  have hs := segs_line (r :: rs) t0 h ht.1
  have hp := pairRuns_blocks (r :: rs) h
  unfold lineRuns
  rw [hs]
  have : blocksSegs (r :: rs) = .eff (r.1.getD []) :: .text r.2 :: blocksSegs rs := by
    simp [blocksSegs]
  rw [this] at hp ⊢
  simp only
  rw [hp]
  rfl

theorem lineRuns_lineStr (runs : List Run) (h : GoodLine runs) : lineRuns (lineStr runs) = runs.map mkRun := by
  cases runs with
  | nil => exact absurd h id
  | cons r0 rest =>
    obtain ⟨eo, t⟩ := r0
    cases eo with
    | none =>
      cases rest with
      | nil =>
        have h' : NoBrace t := h
        simpa [lineStr, runStr] using lineRuns_plain t h'
      | cons r rs =>
        have h' : t ≠ [] ∧ NoBrace t ∧ ∀ x ∈ r :: rs, BlockRun x := h
        obtain ⟨h1, h2, h3⟩ := h'
        have := lineRuns_blocks t r rs h3 h2
        have he : t.isEmpty = false := by cases t with | nil => exact absurd rfl h1 | cons _ _ => rfl
        rw [he] at this
        simpa [lineStr, runStr] using this
    | some e =>
      have h' : ∀ x ∈ (some e, t) :: rest, BlockRun x := h
      have := lineRuns_blocks [] (some e, t) rest h' ⟨by simp, by simp⟩
      simpa using this

end SSA
end Astisub
