import Astisub.Lemmas.VTTDefs
import Astisub.Lemmas.StrList
import Astisub.Lemmas.HTMLTok

/-!
# Lemmas/VTTTok — the tokenizer model on what the WebVTT writer emits

`readTag` on `head  white-space  words >` (`readTag_spec`), hence: the start / end / voice tags of well-formed
tags (`Tag.wf`, `voiceOk`) are each exactly one token whose raw text is the tag, in every context (`Go.TagTok` of
`Lemmas/HTMLTok`).  Helper lemmas live in `TokAux`.
-/

namespace Astisub
namespace VTT
open Go

theorem annOk_facts {a : Str} (h : annOk a = true) :
    trimSpace a = a ∧ ∀ c ∈ a, markup c = false := by
  simp [annOk] at h
  exact ⟨h.1, h.2⟩

/-- the conjuncts of `Tag.wf`, by name -/
structure WF (t : Tag) : Prop where
  name_ne : t.name ≠ []
  name_v : t.name ≠ ['v']
  head : ∃ x xs, t.name = x :: xs ∧ isLetter x = true
  alnum : ∀ c ∈ t.name, Char.isAlphanum c = true
  cls : ∀ c ∈ t.classes, c ≠ [] ∧ ∀ x ∈ c, classChar x = true
  ann : annOk t.annotation = true
  raw : rawTags.contains (String.ofList (toLowerAscii t.head)) = false

theorem wf_facts {t : Tag} (h : t.wf = true) : WF t := by
  simp only [Tag.wf, Bool.and_eq_true] at h
  obtain ⟨⟨⟨⟨⟨h1, h2⟩, h3⟩, h4⟩, h5⟩, h6⟩ := h
  have hd : ∃ x xs, t.name = x :: xs ∧ isLetter x = true := by
    cases hn : t.name with
    | nil => rw [hn] at h1; simp at h1
    | cons x xs => rw [hn] at h1; exact ⟨x, xs, rfl, by simpa using h1⟩
  refine ⟨?_, ?_, hd, ?_, ?_, h5, by simpa using h6⟩
  · obtain ⟨x, xs, e, _⟩ := hd
    rw [e]; simp
  · simpa using h3
  · simpa using h2
  · intro c hc
    have := (List.all_eq_true.mp h4) c hc
    simpa using this

namespace TokAux

/-- the characters `readTagAttrKey` keeps -/
def keyP (c : Char) : Bool := !(isTagWS c || c == '/' || c == '=' || c == '>')
/-- the characters `readTagName` keeps -/
def nameP (c : Char) : Bool := !(isTagWS c || c == '/' || c == '>')

theorem keyP_eq : (fun c => !(isTagWS c || c == '/' || c == '=' || c == '>')) = keyP := rfl

theorem dropWhile_app {p : Char → Bool} (a : Str) (d : Char) (b : Str) (hd : p d = false) :
    (a ++ d :: b).dropWhile p = a.dropWhile p ++ d :: b := by
  induction a with
  | nil => simp [List.dropWhile, hd]
  | cons x xs ih =>
    cases hx : p x <;> simp [List.dropWhile, hx, ih]

theorem readAttrs_gt (f : Nat) (s : Str) (acc : List (Str × Str)) :
    readAttrs (f + 1) ('>' :: s) acc = some (acc.reverse, s) := by
  simp [readAttrs]

theorem readAttrs_step (f : Nat) (key : Str) (d : Char) (rest : Str) (acc : List (Str × Str))
    (e : Char) (r2' : Str) (hk0 : key ≠ [])
    (hk : ∀ c ∈ key, keyP c = true) (hd : keyP d = false)
    (hr2 : (if (d == '=' || d == '>') = true then d :: rest else rest).dropWhile isTagWS = e :: r2')
    (he : e ≠ '=') :
    readAttrs (f + 1) (key ++ d :: rest) acc = readAttrs f (e :: r2') ((key, []) :: acc) := by
  rw [readAttrs]
  · rw [keyP_eq, List.takeWhile_append_stop rest hk hd, List.drop_left]
    simp only [hr2]
    split
    · rename_i h; simp at h
    · rename_i h; simp at h; exact absurd h.1 he
    · cases key with
      | nil => exact absurd rfl hk0
      | cons => simp
  · cases key with
    | nil => exact absurd rfl hk0
    | cons => simp
  · intro r h
    cases key with
    | nil => exact absurd rfl hk0
    | cons c k =>
      simp at h
      have := hk c (by simp)
      rw [h.1] at this
      revert this; decide

theorem keyP_of (c : Char) (h1 : markup c = false) (h2 : isTagWS c = false) : keyP c = true := by
  simp [markup] at h1
  simp [keyP, h2, h1]

theorem ws_of (c : Char) (h1 : markup c = false) (h2 : keyP c = false) : isTagWS c = true := by
  simp [markup] at h1
  simpa [keyP, h1] using h2

theorem ws_not (c : Char) (h : isTagWS c = true) : c ≠ '=' ∧ c ≠ '>' ∧ c ≠ '/' := by
  refine ⟨?_, ?_, ?_⟩ <;> (intro e; subst e; revert h; decide)

theorem gt_afterKey (s : Str) :
    (if ('>' == '=' || '>' == '>') = true then '>' :: s else s).dropWhile isTagWS = '>' :: s := by
  have h1 : ('>' == '=' || '>' == '>') = true := by decide
  have h2 : isTagWS '>' = false := by decide
  rw [if_pos h1]; simp [List.dropWhile, h2]

/-- words without markup, separated by white space, up to the closing `>`: attributes without values,
    the same whatever follows the `>` -/
theorem readAttrs_words (n : Nat) : ∀ (w : Str), w.length ≤ n → (∀ c ∈ w, markup c = false) →
    (∀ c r, w = c :: r → isTagWS c = false) → ∀ (acc : List (Str × Str)), (∀ kv ∈ acc, kv.2 = []) →
    ∃ acc', (∀ kv ∈ acc', kv.2 = []) ∧ ∀ (fuel : Nat) (s : Str), w.length + 1 ≤ fuel →
      readAttrs fuel (w ++ '>' :: s) acc = some (acc', s) := by
  have base : ∀ acc : List (Str × Str), (∀ kv ∈ acc, kv.2 = []) →
      ∃ acc', (∀ kv ∈ acc', kv.2 = []) ∧ ∀ (fuel : Nat) (s : Str), ([] : Str).length + 1 ≤ fuel →
        readAttrs fuel ([] ++ '>' :: s) acc = some (acc', s) := by
    intro acc hacc
    refine ⟨acc.reverse, fun kv h => hacc kv (List.mem_reverse.mp h), fun fuel s hf => ?_⟩
    obtain ⟨f, rfl⟩ : ∃ f, fuel = f + 1 := ⟨fuel - 1, by simp at hf; omega⟩
    exact readAttrs_gt f s acc
  induction n with
  | zero =>
    intro w hl _ _ acc hacc
    obtain rfl : w = [] := List.length_eq_zero_iff.mp (Nat.le_zero.mp hl)
    exact base acc hacc
  | succ n ih =>
    intro w hl hw hw0 acc hacc
    cases w with
    | nil => exact base acc hacc
    | cons c r =>
      have hc : keyP c = true := keyP_of c (hw c (by simp)) (hw0 c r rfl)
      have hsplit : (c :: r).takeWhile keyP ++ (c :: r).dropWhile keyP = c :: r := List.takeWhile_append_dropWhile
      have hkey : ∀ x ∈ (c :: r).takeWhile keyP, keyP x = true := fun _ => List.mem_takeWhile_imp
      have hk0 : (c :: r).takeWhile keyP ≠ [] := by simp [List.takeWhile, hc]
      generalize hK : (c :: r).takeWhile keyP = key at hsplit hkey hk0
      generalize hT : (c :: r).dropWhile keyP = tl at hsplit
      have hkl : 1 ≤ key.length := by cases key with | nil => exact absurd rfl hk0 | cons => simp
      have hlen : key.length + tl.length = r.length + 1 := by
        have := congrArg List.length hsplit; simpa using this
      have hacc' : ∀ kv ∈ (key, []) :: acc, kv.2 = [] := fun kv h =>
        (List.mem_cons.mp h).elim (fun e => e ▸ rfl) (hacc kv)
      cases tl with
      | nil =>
        obtain ⟨acc', h2, h1⟩ := base ((key, []) :: acc) hacc'
        refine ⟨acc', h2, fun fuel s hf => ?_⟩
        obtain ⟨f, rfl⟩ : ∃ f, fuel = f + 1 := ⟨fuel - 1, by omega⟩
        rw [← hsplit, List.append_nil,
          readAttrs_step f key '>' s acc '>' s hk0 hkey (by decide) (gt_afterKey s) (by decide)]
        exact h1 f s (by simp at hf ⊢; omega)
      | cons d w' =>
        have hd : keyP d = false := List.dropWhile_head _ d w' hT
        have hdm : markup d = false := hw d (by rw [← hsplit]; simp)
        have hdw : isTagWS d = true := ws_of d hdm hd
        obtain ⟨hd1, hd2, _⟩ := ws_not d hdw
        have hw'' : ∀ x ∈ w'.dropWhile isTagWS, markup x = false := fun x hx =>
          hw x (by rw [← hsplit]; simp; exact Or.inr (Or.inr ((List.dropWhile_sublist _).subset hx)))
        have hw''0 : ∀ x t, w'.dropWhile isTagWS = x :: t → isTagWS x = false := fun x t h => List.dropWhile_head _ x t h
        have hw''l : (w'.dropWhile isTagWS).length ≤ w'.length := (List.dropWhile_sublist _).length_le
        simp at hl hlen
        obtain ⟨acc', h2, h1⟩ := ih (w'.dropWhile isTagWS) (by omega) hw'' hw''0 ((key, []) :: acc) hacc'
        refine ⟨acc', h2, fun fuel s hf => ?_⟩
        obtain ⟨f, rfl⟩ : ∃ f, fuel = f + 1 := ⟨fuel - 1, by omega⟩
        simp at hf
        have hr2 : (if (d == '=' || d == '>') = true then d :: (w' ++ '>' :: s) else (w' ++ '>' :: s)).dropWhile isTagWS
            = w'.dropWhile isTagWS ++ '>' :: s := by
          rw [if_neg (by simp [hd1, hd2])]
          exact dropWhile_app w' '>' s (by decide)
        have hne : ∃ e r2', w'.dropWhile isTagWS ++ '>' :: s = e :: r2' ∧ e ≠ '=' := by
          cases hq : w'.dropWhile isTagWS with
          | nil => exact ⟨'>', s, rfl, by decide⟩
          | cons x t =>
            refine ⟨x, t ++ '>' :: s, rfl, ?_⟩
            have := hw'' x (by rw [hq]; simp)
            intro e; subst e; revert this; decide
        obtain ⟨e, r2', he1, he2⟩ := hne
        have h1' := h1 f s (by omega)
        rw [he1] at hr2 h1'
        rw [← hsplit, List.append_assoc, List.cons_append,
          readAttrs_step f key d (w' ++ '>' :: s) acc e r2' hk0 hkey hd hr2 he2]
        exact h1'

theorem ws_not_nameP (c : Char) (h : isTagWS c = true) : nameP c = false := by simp [nameP, h]

theorem readTag_spec (hd p w : Str) (hhd : ∀ c ∈ hd, nameP c = true) (hp : ∀ c ∈ p, isTagWS c = true)
    (hw : ∀ c ∈ w, markup c = false) (hw0 : ∀ c r, w = c :: r → isTagWS c = false) (hpw : p ≠ [] ∨ w = []) :
    ∃ a, (∀ kv ∈ a, kv.2 = []) ∧ ∀ s, readTag (hd ++ (p ++ (w ++ '>' :: s))) = some (hd, a, s) := by
  obtain ⟨a, h2, h1⟩ := readAttrs_words w.length w (Nat.le_refl _) hw hw0 [] (fun _ h => nomatch h)
  refine ⟨a, h2, fun s => ?_⟩
  have hdw : (p ++ (w ++ '>' :: s)).dropWhile isTagWS = w ++ '>' :: s := by
    rw [List.dropWhile_append_of_pos hp]
    cases w with
    | nil =>
      have h2 : isTagWS '>' = false := by decide
      simp [h2]
    | cons y t => simp [hw0 y t rfl]
  have hne : (w ++ '>' :: s).isEmpty = false := by cases w <;> rfl
  rw [readTag_eq hd _ hhd, hdw, h1 _ s (by simp), hne]
  · rfl
  · intro x r' e
    cases p with
    | nil =>
      obtain rfl : w = [] := hpw.resolve_left (fun h => h rfl)
      cases e; decide
    | cons y p' => cases e; exact ws_not_nameP _ (hp _ (by simp))

theorem getLast_ne (x : Str) (h : ∀ c ∈ x, c ≠ '/') : (x.getLast? == some '/') = false := by
  cases hg : x.getLast? with
  | none => rfl
  | some c =>
    obtain ⟨ys, rfl⟩ := List.getLast?_eq_some_iff.mp hg
    have := h c (by simp)
    simp [this]

theorem nameP_no_slash (c : Char) (h : nameP c = true) : c ≠ '/' := by
  intro e; subst e; revert h; decide

theorem markup_no_slash (c : Char) (h : markup c = false) : c ≠ '/' := by
  intro e; subst e; revert h; decide

/-- `<head  white-space  words>`: one start tag token, or a raw-text element -/
theorem open_tagTok (d : Char) (hd p w : Str) (hl : isLetter d = true)
    (hhd : ∀ c ∈ d :: hd, nameP c = true) (hp : ∀ c ∈ p, isTagWS c = true)
    (hw : ∀ c ∈ w, markup c = false) (hw0 : ∀ c r, w = c :: r → isTagWS c = false) (hpw : p ≠ [] ∨ w = []) :
    (rawTags.contains (String.ofList (toLowerAscii (d :: hd))) = true ∧ RawTag ('<' :: d :: (hd ++ (p ++ (w ++ ['>']))))) ∨
    ∃ a, TagTok ('<' :: d :: (hd ++ (p ++ (w ++ ['>']))))
      (Tok.startTag ('<' :: d :: (hd ++ (p ++ (w ++ ['>'])))) (toLowerAscii (d :: hd)) a) := by
  obtain ⟨a, h2, h1⟩ := readTag_spec (d :: hd) p w hhd hp hw hw0 hpw
  have hr : ∀ rest, readTag (d :: (hd ++ (p ++ (w ++ ['>']))) ++ rest) = some (d :: hd, a, rest) := by
    intro rest; simpa using h1 rest
  cases hraw : rawTags.contains (String.ofList (toLowerAscii (d :: hd))) with
  | true => exact .inl ⟨rfl, RawTag.start hl hr hraw⟩
  | false =>
    refine .inr ⟨lowerKV a, TagTok.start hl hr hraw ?_ ?_⟩
    · rw [List.any_eq_false]; intro kv hkv; rw [h2 kv hkv]; simp
    · rw [show '<' :: d :: (hd ++ (p ++ (w ++ ['>']))) = ('<' :: d :: (hd ++ (p ++ w))) ++ ['>'] by simp,
        List.dropLast_concat]
      apply getLast_ne
      intro c hc
      simp only [List.mem_cons, List.mem_append] at hc
      rcases hc with rfl | hc | hc | hc | hc
      · decide
      · exact nameP_no_slash c (hhd c (by simp [hc]))
      · exact nameP_no_slash c (hhd c (by simp [hc]))
      · exact (ws_not c (hp c hc)).2.2
      · exact markup_no_slash c (hw c hc)

theorem ws_isSpace (c : Char) (h : isTagWS c = true) : isSpace c = true := by
  simp [isTagWS] at h
  rcases h with (((rfl | rfl) | rfl) | rfl) | rfl <;> decide

theorem alnum_nameP (c : Char) (h : c.isAlphanum = true) : nameP c = true := by
  have h1 : isTagWS c = false := by
    cases hws : isTagWS c with
    | false => rfl
    | true =>
      simp [isTagWS] at hws
      rcases hws with (((rfl | rfl) | rfl) | rfl) | rfl <;> (revert h; decide)
  have h2 : c ≠ '/' := by intro e; subst e; revert h; decide
  have h3 : c ≠ '>' := by intro e; subst e; revert h; decide
  simp [nameP, h1, h2, h3]

theorem classChar_nameP (c : Char) (h : classChar c = true) : nameP c = true := by
  simp [classChar, markup] at h
  simp [nameP, h]

theorem annOk_shape (a : Str) (h : annOk a = true) :
    (∀ c ∈ a, markup c = false) ∧ (∀ c r, a = c :: r → isTagWS c = false) := by
  obtain ⟨ht, hm⟩ := annOk_facts h
  refine ⟨hm, fun c r e => ?_⟩
  have hsp : isSpace c = false := head?_trimSpace (by rw [ht, e]; rfl)
  cases hws : isTagWS c with
  | false => rfl
  | true => rw [ws_isSpace c hws] at hsp; cases hsp

theorem wf_shape (t : Tag) (h : t.wf = true) :
    ∃ d nm, t.name = d :: nm ∧ isLetter d = true ∧ (∀ c ∈ Tag.head t, nameP c = true) ∧
      annOk t.annotation = true ∧ rawTags.contains (String.ofList (toLowerAscii t.head)) = false := by
  have w := wf_facts h
  obtain ⟨d, nm, hn, hl⟩ := w.head
  refine ⟨d, nm, hn, hl, ?_, w.ann, w.raw⟩
  · intro c hc
    unfold Tag.head at hc
    rw [List.mem_append] at hc
    rcases hc with hc | hc
    · exact alnum_nameP c (w.alnum c hc)
    · by_cases hcl : t.classes.isEmpty = true
      · simp [hcl] at hc
      · rw [if_neg hcl, List.mem_cons] at hc
        have hdot : nameP '.' = true := by decide
        rcases hc with rfl | hc
        · exact hdot
        · rcases Go.mem_join hc with h1 | ⟨x, hx, hcx⟩
          · simp at h1; rw [h1]; exact hdot
          · exact classChar_nameP c ((w.cls x hx).2 c hcx)

theorem startTag_shape (t : Tag) (h : t.wf = true) :
    ∃ d hd p w, isLetter d = true ∧ (∀ c ∈ d :: hd, nameP c = true) ∧ (∀ c ∈ p, isTagWS c = true) ∧
      (∀ c ∈ w, markup c = false) ∧ (∀ c r, w = c :: r → isTagWS c = false) ∧ (p ≠ [] ∨ w = []) ∧
      rawTags.contains (String.ofList (toLowerAscii (d :: hd))) = false ∧
      Tag.startTag t = '<' :: ((d :: hd) ++ (p ++ (w ++ ['>']))) := by
  obtain ⟨d, nm, hn, hl, hhd, hann, hraw⟩ := wf_shape t h
  obtain ⟨ha1, ha2⟩ := annOk_shape _ hann
  have hne : ¬ t.name = [] := by rw [hn]; simp
  have hh : Tag.head t = d :: (nm ++ (if t.classes.isEmpty then [] else '.' :: join ['.'] t.classes)) := by
    unfold Tag.head; rw [hn]; rfl
  rw [hh] at hhd hraw
  by_cases he : t.annotation = []
  · refine ⟨d, _, [], [], hl, hhd, by simp, by simp, by simp, Or.inr rfl, hraw, ?_⟩
    unfold Tag.startTag
    rw [if_neg hne, if_pos he, hn]
    simp
  · refine ⟨d, _, [' '], t.annotation, hl, hhd, ?_, ha1, ha2, Or.inl (by simp), hraw, ?_⟩
    · intro c hc; simp at hc; subst hc; decide
    · unfold Tag.startTag
      rw [if_neg hne, if_neg he, hn]
      simp

end TokAux

theorem startTag_tagTok (t : Tag) (h : t.wf = true) :
    ∃ (n : Str) (a : List (Str × Str)), TagTok (Tag.startTag t) (Tok.startTag (Tag.startTag t) n a) := by
  obtain ⟨d, hd, p, w, hl, hhd, hp, hw, hw0, hpw, hraw, hs⟩ := TokAux.startTag_shape t h
  rw [hs]
  rcases TokAux.open_tagTok d hd p w hl hhd hp hw hw0 hpw with ⟨hr, _⟩ | ⟨a, ha⟩
  · rw [hraw] at hr; cases hr
  · exact ⟨_, a, ha⟩

theorem endTag_tagTok (t : Tag) (h : t.wf = true) : ∃ (n : Str), TagTok (Tag.endTag t) (Tok.endTag (Tag.endTag t) n) := by
  obtain ⟨d, nm, hn, hl, hhd, _, _⟩ := TokAux.wf_shape t h
  have hnm : ∀ c ∈ d :: nm, TokAux.nameP c = true := by
    intro c hc
    apply hhd c
    unfold Tag.head
    rw [hn]
    exact List.mem_append_left _ hc
  have hs : Tag.endTag t = '<' :: '/' :: d :: (nm ++ ['>']) := by
    unfold Tag.endTag
    rw [if_neg (by rw [hn]; simp), hn]
    rfl
  rw [hs]
  exact ⟨_, TagTok.endName hl hnm⟩

theorem voice_tagTok (v : Str) (h : voiceOk v = true) :
    ∃ (n : Str) (a : List (Str × Str)), TagTok ("<v ".toList ++ v ++ ['>']) (Tok.startTag ("<v ".toList ++ v ++ ['>']) n a) := by
  simp only [voiceOk, Bool.and_eq_true] at h
  obtain ⟨hw, hw0⟩ := TokAux.annOk_shape v h.2
  have e : "<v ".toList ++ v ++ ['>'] = '<' :: 'v' :: ([] ++ ([' '] ++ (v ++ ['>']))) := by
    rw [show "<v ".toList = ['<', 'v', ' '] by decide]; simp
  rw [e]
  rcases TokAux.open_tagTok 'v' [] [' '] v (by decide) (by intro c hc; simp at hc; subst hc; decide)
    (by intro c hc; simp at hc; subst hc; decide) hw hw0 (Or.inl (by simp)) with ⟨hr, _⟩ | ⟨a, ha⟩
  · exact absurd hr (by decide)
  · exact ⟨_, a, ha⟩

end VTT
end Astisub
