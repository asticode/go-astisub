import Astisub.Go.HTML
import Astisub.Lemmas.Fuel

/-!
# Lemmas/HTMLTok — the tokenizer model `Go.tokLoop` as the SubRip and WebVTT lemmas use it

One iteration is reified as `tokStep` (`tokLoop_succ`) with its equations; `tokStep_shape` gives independence of
the fuel and of the output accumulator.  `tokFrom s acc` is then what the loop returns on input `s` with pending text
`acc` at any sufficient fuel, whatever has been emitted before (`tokLoop_norm`); it satisfies one unfolding
equation (`tokFrom_step`) whose instances (`tokFrom_nil … tokFrom_lt_other`, `TagTok.tokFrom`) are all a user needs.
`TagTok raw t`: the complete tag `raw` is the one token `t` in every context (`RawTag raw`: it is a raw-text
element, outside the model); `tokenize_lexes`: markup made of plain texts and such tags is tokenized into exactly
these.  `readTag_eq`: `readTag` is "name, white space, `readAttrs`".
-/

namespace Astisub
namespace Go
open List

/-- the pending text is emitted in front of the next tag (the `flush` of `tokLoop`) -/
def Tok.flush (acc : Str) (out : List Tok) : List Tok := if acc.isEmpty then out else .text acc.reverse :: out

theorem Tok.flush_nil_reverse (acc : Str) : (Tok.flush acc []).reverse = Tok.flush acc [] := by
  cases acc <;> rfl

/-- the outcome of one iteration of `tokLoop`: a final result, or the arguments of the recursive call -/
inductive TokStep where
  | done (r : TokRes)
  | next (s acc : Str) (out : List Tok)

/-- one iteration of `tokLoop` (its body, with the recursive calls reified) -/
def tokStep (s acc : Str) (out : List Tok) : TokStep :=
    let flush (out : List Tok) : List Tok := if acc.isEmpty then out else .text acc.reverse :: out
    match s with
    | [] => .done (.ok (flush out).reverse)
    | c :: rest =>
      if c == '\x00' then .done .unmodelled else
      if c != '<' then .next rest (c :: acc) out else
      match rest with
      | [] => .done (.ok ((Tok.text (('<' :: acc).reverse)) :: out).reverse)
      | d :: rest' =>
        if isLetter d then
          match readTag (d :: rest') with
          | none => .done (.ok (flush out).reverse)
          | some (name, attrs, after) =>
            let raw := (c :: d :: rest').take ((c :: d :: rest').length - after.length)
            let lname := toLowerAscii name
            if rawTags.contains (String.ofList lname) then .done .unmodelled
            else if attrs.any (fun kv => kv.2.contains '&') then .done .unmodelled
            else
              let selfc := raw.dropLast.getLast? == some '/'
              let t := if selfc then Tok.selfClosing raw lname (lowerKV attrs) else Tok.startTag raw lname (lowerKV attrs)
              .next after [] (t :: flush out)
        else if d == '/' then
          match rest' with
          | [] => .done (.ok (Tok.text ['<', '/'] :: flush out).reverse)
          | e :: rest'' =>
            if e == '>' then .next rest'' [] (Tok.other ['<', '/', '>'] :: flush out)
            else if isLetter e then
              match readTag (e :: rest'') with
              | none => .done (.ok (flush out).reverse)
              | some (name, _, after) =>
                let raw := (c :: d :: e :: rest'').take ((c :: d :: e :: rest'').length - after.length)
                .next after [] (Tok.endTag raw (toLowerAscii name) :: flush out)
            else
              let body := (e :: rest'').takeWhile (· != '>')
              let after := ((e :: rest'').drop body.length).drop 1
              let raw := (c :: d :: e :: rest'').take ((c :: d :: e :: rest'').length - after.length)
              .next after [] (Tok.other raw :: flush out)
        else if d == '!' then .done .unmodelled
        else if d == '?' then
          let body := (d :: rest').takeWhile (· != '>')
          let after := ((d :: rest').drop body.length).drop 1
          let raw := (c :: d :: rest').take ((c :: d :: rest').length - after.length)
          .next after [] (Tok.other raw :: flush out)
        else .next (d :: rest') ('<' :: acc) out

def TokStep.run (k : Str → Str → List Tok → TokRes) : TokStep → TokRes
  | .done r => r
  | .next s acc out => k s acc out

theorem tokLoop_succ (fuel : Nat) (s acc : Str) (out : List Tok) :
    tokLoop (fuel + 1) s acc out = (tokStep s acc out).run (tokLoop fuel) := by
  conv => lhs; unfold tokLoop
  unfold tokStep
  dsimp only
  cases s with
  | nil => rfl
  | cons c rest =>
    dsimp only
    by_cases h0 : (c == '\x00') = true
    · simp only [h0, ↓reduceIte, TokStep.run]
    simp only [h0, Bool.false_eq_true, ↓reduceIte]
    by_cases h1 : (c != '<') = true
    · simp only [h1, ↓reduceIte, TokStep.run]
    simp only [h1, Bool.false_eq_true, ↓reduceIte]
    cases rest with
    | nil => rfl
    | cons d rest' =>
      dsimp only
      by_cases h2 : isLetter d = true
      · simp only [h2, ↓reduceIte]
        generalize readTag (d :: rest') = o
        rcases o with _ | ⟨name, attrs, after⟩
        · rfl
        · dsimp only
          by_cases h3 : rawTags.contains (String.ofList (toLowerAscii name)) = true
          · simp only [h3, ↓reduceIte, TokStep.run]
          simp only [h3, Bool.false_eq_true, ↓reduceIte]
          by_cases h4 : (attrs.any fun kv => List.contains kv.snd '&') = true
          · simp only [h4, ↓reduceIte, TokStep.run]
          simp only [h4, Bool.false_eq_true, ↓reduceIte, TokStep.run]
      simp only [h2, Bool.false_eq_true, ↓reduceIte]
      by_cases h5 : (d == '/') = true
      · simp only [h5, ↓reduceIte]
        cases rest' with
        | nil => rfl
        | cons e rest'' =>
          dsimp only
          by_cases h6 : (e == '>') = true
          · simp only [h6, ↓reduceIte, TokStep.run]
          simp only [h6, Bool.false_eq_true, ↓reduceIte]
          by_cases h7 : isLetter e = true
          · simp only [h7, ↓reduceIte]
            generalize readTag (e :: rest'') = o
            rcases o with _ | ⟨name, attrs, after⟩
            · rfl
            · rfl
          simp only [h7, Bool.false_eq_true, ↓reduceIte, TokStep.run]
      simp only [h5, Bool.false_eq_true, ↓reduceIte]
      by_cases h8 : (d == '!') = true
      · simp only [h8, ↓reduceIte, TokStep.run]
      simp only [h8, Bool.false_eq_true, ↓reduceIte]
      by_cases h9 : (d == '?') = true
      · simp only [h9, ↓reduceIte, TokStep.run]
      simp only [h9, Bool.false_eq_true, ↓reduceIte, TokStep.run]

theorem tokStep_nil (acc : Str) (out : List Tok) :
    tokStep [] acc out = .done (.ok (Tok.flush acc out).reverse) := rfl

theorem tokStep_nul (rest acc : Str) (out : List Tok) :
    tokStep ('\x00' :: rest) acc out = .done .unmodelled := by
  simp [tokStep]

theorem tokStep_plain (c : Char) (rest acc : Str) (out : List Tok) (h1 : c ≠ '<') (h0 : c ≠ '\x00') :
    tokStep (c :: rest) acc out = .next rest (c :: acc) out := by
  simp [tokStep, h1, h0]

theorem tokStep_lt_end (acc : Str) (out : List Tok) :
    tokStep ['<'] acc out = .done (.ok (Tok.flush ('<' :: acc) out).reverse) := by
  simp [tokStep, Tok.flush]

theorem tokStep_lt_other {d : Char} (h : isLetter d = false ∧ d ≠ '/' ∧ d ≠ '!' ∧ d ≠ '?') (s acc : Str) (out : List Tok) :
    tokStep ('<' :: d :: s) acc out = .next (d :: s) ('<' :: acc) out := by
  unfold tokStep
  simp [h.1, h.2.1, h.2.2.1, h.2.2.2]

theorem take_raw (raw after : Str) : (raw ++ after).take ((raw ++ after).length - after.length) = raw := by
  simp

theorem tokStep_startTag (d : Char) (tl after raw name acc : Str) (attrs : List (Str × Str)) (out : List Tok)
    (hd : isLetter d = true) (hr : readTag (d :: tl) = some (name, attrs, after))
    (hsplit : '<' :: d :: tl = raw ++ after)
    (hrawtag : rawTags.contains (String.ofList (toLowerAscii name)) = false)
    (hamp : attrs.any (fun kv => kv.2.contains '&') = false)
    (hself : (raw.dropLast.getLast? == some '/') = false) :
    tokStep ('<' :: d :: tl) acc out
      = .next after [] (Tok.startTag raw (toLowerAscii name) (lowerKV attrs) :: Tok.flush acc out) := by
  have hlt : ('<' != '<') = false := by decide
  have h0 : ('<' == '\x00') = false := by decide
  unfold tokStep
  simp only [h0, hlt, hd, hr, hrawtag, hamp, hsplit, take_raw, hself, Tok.flush]
  simp

theorem tokStep_endTag (e : Char) (tl after raw name acc : Str) (attrs : List (Str × Str)) (out : List Tok)
    (he : isLetter e = true) (hr : readTag (e :: tl) = some (name, attrs, after))
    (hsplit : '<' :: '/' :: e :: tl = raw ++ after) :
    tokStep ('<' :: '/' :: e :: tl) acc out
      = .next after [] (Tok.endTag raw (toLowerAscii name) :: Tok.flush acc out) := by
  have hlt : ('<' != '<') = false := by decide
  have h0 : ('<' == '\x00') = false := by decide
  have hs : isLetter '/' = false := by decide
  have hgt : (e == '>') = false := by
    cases h : e == '>'
    · rfl
    · simp at h; subst h; simp [isLetter] at he
  unfold tokStep
  simp only [h0, hlt, hs, he, hr, hgt, hsplit, take_raw, Tok.flush]
  simp

namespace TokFuel

theorem length_dropWhile_le {α} (p : α → Bool) (s : List α) : (s.dropWhile p).length ≤ s.length :=
  (List.dropWhile_sublist p).length_le

theorem len_of_drop_cons {α} {s r : List α} {c : α} {n : Nat} (h : s.drop n = c :: r) :
    r.length + 1 ≤ s.length := by
  have := congrArg List.length h
  simp at this
  omega

theorem len_of_dropWhile_cons {α} {s r : List α} {c : α} {p : α → Bool} (h : s.dropWhile p = c :: r) :
    r.length + 1 ≤ s.length := by
  have := congrArg List.length h
  have h2 := length_dropWhile_le p s
  simp at this
  omega

theorem len_ite_cons {α} (b : Prop) [Decidable b] (c : α) (r : List α) :
    (if b then c :: r else r).length ≤ r.length + 1 := by
  split <;> simp

end TokFuel
open TokFuel

/-- every branch of `readAttrs` fails, stops behind a `>`, or recurses on a proper suffix of `s` -/
theorem readAttrs_length (fuel : Nat) : ∀ (s : Str) (acc : List (Str × Str)) (attrs : List (Str × Str)) (rest : Str),
    readAttrs fuel s acc = some (attrs, rest) → rest.length < s.length := by
  induction fuel with
  | zero => intro s acc attrs rest h; simp [readAttrs] at h
  | succ fuel ih =>
    intro s acc attrs rest h
    unfold readAttrs at h
    split at h
    · simp at h
    · simp at h
    · simp at h; simp [h.2]
    · rename_i s' acc' _ _ _ f heq _ _
      cases heq
      dsimp only at h
      split at h
      · simp at h
      · rename_i c r1' hr1
        have l1 := len_of_drop_cons hr1
        have l2 := len_ite_cons ((c == '=' || c == '>') = true) c r1'
        split at h
        · simp at h
        · rename_i r3 hr2
          have l3 := len_of_dropWhile_cons hr2
          have l4 := length_dropWhile_le isTagWS r3
          split at h
          · simp at h
          · have := ih _ _ _ _ h
            omega
          · rename_i q r5 _ hr4
            rw [hr4] at l4
            simp only [List.length_cons] at l4
            split at h
            · split at h
              · simp at h
              · rename_i r7 hr6
                have l5 := len_of_drop_cons hr6
                have l6 := length_dropWhile_le isTagWS r7
                split at h
                · simp at h
                · have := ih _ _ _ _ h
                  omega
            · split at h
              · simp at h
              · rename_i c2 r7 hr6
                have l5 := len_of_drop_cons hr6
                have l6 := len_ite_cons ((c2 == '>') = true) c2 r7
                have l7 := length_dropWhile_le isTagWS (if (c2 == '>') = true then c2 :: r7 else r7)
                generalize dropWhile isTagWS (if (c2 == '>') = true then c2 :: r7 else r7) = r8 at h l7
                split at h
                · simp at h
                · have := ih _ _ _ _ h
                  simp only [List.length_cons] at l5
                  omega
        · have l3 := length_dropWhile_le isTagWS (if (c == '=' || c == '>') = true then c :: r1' else r1')
          have := ih _ _ _ _ h
          omega

theorem readTag_length (s name after : Str) (attrs : List (Str × Str))
    (h : readTag s = some (name, attrs, after)) : after.length < s.length := by
  unfold readTag at h
  dsimp only at h
  split at h
  · simp at h
  · split at h
    · rename_i attrs' rest' hra
      have l1 := readAttrs_length _ _ _ _ _ hra
      have l2 := length_dropWhile_le isTagWS
        (drop (takeWhile (fun c => !(isTagWS c || c == '/' || c == '>')) s).length s)
      simp only [List.length_drop] at l2
      simp at h
      rw [← h.2.2]
      omega
    · simp at h

/-- how one iteration depends on the tokens emitted so far: it stops with them (and some `L`) as the
    result, or it goes on, on an input shorter than `n`, having pushed some `L` on them -/
def StepShape (n : Nat) (k : List Tok → TokStep) : Prop :=
  (∀ out, k out = .done .unmodelled) ∨ (∃ L, ∀ out, k out = .done (.ok (L ++ out).reverse)) ∨
    ∃ s' acc' L, s'.length < n ∧ ∀ out, k out = .next s' acc' (L ++ out)

theorem tokStep_shape (s acc : Str) : StepShape s.length (tokStep s acc) := by
  -- the body's local `flush` is `(Tok.flush acc [] ++ ·)`: written so, every branch shows its `L ++ out`
  have hfl : ∀ o : List Tok, (if acc.isEmpty = true then o else Tok.text acc.reverse :: o) = Tok.flush acc [] ++ o := by
    intro o; cases acc <;> rfl
  unfold tokStep
  simp only [hfl]
  cases s with
  | nil => exact .inr (.inl ⟨_, fun _ => rfl⟩)
  | cons c rest =>
    dsimp only
    by_cases h0 : (c == '\x00') = true
    · exact .inl fun _ => by simp only [h0, ↓reduceIte]
    simp only [h0, Bool.false_eq_true, ↓reduceIte]
    by_cases h1 : (c != '<') = true
    · simp only [h1, ↓reduceIte]
      exact .inr (.inr ⟨_, _, [], by simp, fun _ => rfl⟩)
    simp only [h1, Bool.false_eq_true, ↓reduceIte]
    cases rest with
    | nil => exact .inr (.inl ⟨[_], fun _ => rfl⟩)
    | cons d rest' =>
      dsimp only
      by_cases h2 : isLetter d = true
      · simp only [h2, ↓reduceIte]
        cases hr : readTag (d :: rest') with
        | none => exact .inr (.inl ⟨_, fun _ => rfl⟩)
        | some r =>
          obtain ⟨name, attrs, after⟩ := r
          have hl := readTag_length _ _ _ _ hr
          dsimp only
          by_cases h3 : rawTags.contains (String.ofList (toLowerAscii name)) = true
          · exact .inl fun _ => by simp only [h3, ↓reduceIte]
          simp only [h3, Bool.false_eq_true, ↓reduceIte]
          by_cases h4 : (attrs.any fun kv => List.contains kv.snd '&') = true
          · exact .inl fun _ => by simp only [h4, ↓reduceIte]
          simp only [h4, Bool.false_eq_true, ↓reduceIte]
          exact .inr (.inr ⟨_, _, _ :: Tok.flush acc [], by simp only [length_cons] at hl ⊢; omega, fun _ => rfl⟩)
      simp only [h2, Bool.false_eq_true, ↓reduceIte]
      by_cases h5 : (d == '/') = true
      · simp only [h5, ↓reduceIte]
        cases rest' with
        | nil => exact .inr (.inl ⟨_ :: Tok.flush acc [], fun _ => rfl⟩)
        | cons e rest'' =>
          dsimp only
          by_cases h6 : (e == '>') = true
          · simp only [h6, ↓reduceIte]
            exact .inr (.inr ⟨_, _, _ :: Tok.flush acc [], by simp only [length_cons]; omega, fun _ => rfl⟩)
          simp only [h6, Bool.false_eq_true, ↓reduceIte]
          by_cases h7 : isLetter e = true
          · simp only [h7, ↓reduceIte]
            cases hr : readTag (e :: rest'') with
            | none => exact .inr (.inl ⟨_, fun _ => rfl⟩)
            | some r =>
              obtain ⟨name, attrs, after⟩ := r
              have hl := readTag_length _ _ _ _ hr
              exact .inr (.inr ⟨_, _, _ :: Tok.flush acc [], by simp only [length_cons] at hl ⊢; omega, fun _ => rfl⟩)
          simp only [h7, Bool.false_eq_true, ↓reduceIte]
          exact .inr (.inr ⟨_, _, _ :: Tok.flush acc [], by simp only [length_drop, length_cons]; omega, fun _ => rfl⟩)
      simp only [h5, Bool.false_eq_true, ↓reduceIte]
      by_cases h8 : (d == '!') = true
      · exact .inl fun _ => by simp only [h8, ↓reduceIte]
      simp only [h8, Bool.false_eq_true, ↓reduceIte]
      by_cases h9 : (d == '?') = true
      · simp only [h9, ↓reduceIte]
        exact .inr (.inr ⟨_, _, _ :: Tok.flush acc [], by simp only [length_drop, length_cons]; omega, fun _ => rfl⟩)
      simp only [h9, Bool.false_eq_true, ↓reduceIte]
      exact .inr (.inr ⟨_, _, [], by simp, fun _ => rfl⟩)

theorem tokStep_length (s acc : Str) (out : List Tok) (s' acc' : Str) (out' : List Tok)
    (h : tokStep s acc out = .next s' acc' out') : s'.length < s.length := by
  rcases tokStep_shape s acc with hu | ⟨L, hd⟩ | ⟨_, _, L, hl, hn⟩
  · rw [hu] at h; cases h
  · rw [hd] at h; cases h
  · rw [hn] at h; cases h; exact hl

theorem tokLoop_fuel (s acc : Str) (out : List Tok) (f1 f2 : Nat) (h1 : s.length < f1) (h2 : s.length < f2) :
    tokLoop f1 s acc out = tokLoop f2 s acc out := by
  rw [Fuel.irrel length tokLoop (fun n m s h => ?_) h1 h2]
  funext acc out
  rw [tokLoop_succ, tokLoop_succ]
  cases hst : tokStep s acc out with
  | done r => rfl
  | next s' acc' out' => rw [TokStep.run, TokStep.run, h s' (tokStep_length _ _ _ _ _ _ hst)]

theorem tokenize_eq_tokLoop (s : Str) (fuel : Nat) (h : s.length < fuel) : tokenize s = tokLoop fuel s [] [] :=
  tokLoop_fuel s [] [] _ _ (by omega) h

def TokRes.prepend (pre : List Tok) : TokRes → TokRes
  | .ok ts => .ok (pre ++ ts)
  | .unmodelled => .unmodelled

def TokStep.appOut (base : List Tok) : TokStep → TokStep
  | .done r => .done (r.prepend base.reverse)
  | .next s acc out => .next s acc (out ++ base)

theorem tokStep_append (s acc : Str) (out base : List Tok) :
    tokStep s acc (out ++ base) = (tokStep s acc out).appOut base := by
  rcases tokStep_shape s acc with hu | ⟨L, hd⟩ | ⟨_, _, L, _, hn⟩
  · simp only [hu]; rfl
  · simp only [hd, TokStep.appOut, TokRes.prepend, reverse_append, append_assoc]
  · simp only [hn, TokStep.appOut, append_assoc]

theorem tokLoop_append (fuel : Nat) (s acc : Str) (out base : List Tok) :
    tokLoop fuel s acc (out ++ base) = (tokLoop fuel s acc out).prepend base.reverse := by
  induction fuel generalizing s acc out with
  | zero => rfl
  | succ fuel ih =>
    rw [tokLoop_succ, tokLoop_succ, tokStep_append]
    cases tokStep s acc out with
    | done r => rfl
    | next s' acc' out' => exact ih s' acc' out'

theorem tokLoop_norm (fuel : Nat) (s acc : Str) (out : List Tok) (h : s.length < fuel) :
    tokLoop fuel s acc out = (tokLoop (s.length + 1) s acc []).prepend out.reverse := by
  have := tokLoop_append (s.length + 1) s acc [] out
  rw [List.nil_append] at this
  rw [← this]
  exact tokLoop_fuel s acc out _ _ h (by omega)

theorem TokRes.prepend_nil (r : TokRes) : r.prepend [] = r := by cases r <;> rfl

/-- the tokens of `s` behind the pending text `acc`; the fuel is any above the input length (`tokLoop_fuel`) -/
def tokFrom (s acc : Str) : TokRes := tokLoop (s.length + 1) s acc []

theorem tokenize_eq_tokFrom (s : Str) : tokenize s = tokFrom s [] :=
  tokenize_eq_tokLoop s _ (Nat.lt_succ_self _)

/-- what an iteration amounts to when the rest of the loop is `tokFrom` -/
def TokStep.res : TokStep → TokRes
  | .done r => r
  | .next s acc out => (tokFrom s acc).prepend out.reverse

theorem tokFrom_step (s acc : Str) : tokFrom s acc = (tokStep s acc []).res := by
  unfold tokFrom
  rw [tokLoop_succ]
  cases h : tokStep s acc [] with
  | done r => rfl
  | next s' acc' out' => exact tokLoop_norm _ s' acc' out' (tokStep_length _ _ _ _ _ _ h)

theorem tokFrom_nil (acc : Str) : tokFrom [] acc = .ok (Tok.flush acc []) := by
  rw [tokFrom_step, tokStep_nil, TokStep.res, Tok.flush_nil_reverse]

theorem tokFrom_nul (s acc : Str) : tokFrom ('\x00' :: s) acc = .unmodelled := by
  rw [tokFrom_step, tokStep_nul]; rfl

theorem tokFrom_plain {c : Char} (h1 : c ≠ '<') (h0 : c ≠ '\x00') (s acc : Str) : tokFrom (c :: s) acc = tokFrom s (c :: acc) := by
  rw [tokFrom_step, tokStep_plain _ _ _ _ h1 h0]; exact TokRes.prepend_nil _

theorem tokFrom_text {t : Str} (ht : ∀ c ∈ t, c ≠ '<' ∧ c ≠ '\x00') (s acc : Str) :
    tokFrom (t ++ s) acc = tokFrom s (t.reverse ++ acc) := by
  induction t generalizing acc with
  | nil => rfl
  | cons c t ih =>
    rw [cons_append, tokFrom_plain (ht c mem_cons_self).1 (ht c mem_cons_self).2, ih fun d hd => ht d (mem_cons_of_mem _ hd)]
    simp

theorem tokFrom_lt_end (acc : Str) : tokFrom ['<'] acc = .ok [Tok.text ('<' :: acc).reverse] := by
  rw [tokFrom_step, tokStep_lt_end]; rfl

theorem tokFrom_lt_other {d : Char} (h : isLetter d = false ∧ d ≠ '/' ∧ d ≠ '!' ∧ d ≠ '?') (s acc : Str) :
    tokFrom ('<' :: d :: s) acc = tokFrom (d :: s) ('<' :: acc) := by
  rw [tokFrom_step, tokStep_lt_other h]; exact TokRes.prepend_nil _

/-- the complete tag `raw` is the one token `t`, whatever is pending, emitted, or follows -/
def TagTok (raw : Str) (t : Tok) : Prop :=
  ∀ (rest acc : Str) (out : List Tok), tokStep (raw ++ rest) acc out = .next rest [] (t :: Tok.flush acc out)

/-- a tag whose name is a raw-text element: outside the model in every context -/
def RawTag (raw : Str) : Prop :=
  ∀ (rest acc : Str) (out : List Tok), tokStep (raw ++ rest) acc out = .done .unmodelled

theorem tokFrom_of_step {s acc after : Str} {t : Tok} (h : tokStep s acc [] = .next after [] (t :: Tok.flush acc [])) :
    tokFrom s acc = (tokFrom after []).prepend (Tok.flush acc [] ++ [t]) := by
  rw [tokFrom_step, h, TokStep.res, reverse_cons, Tok.flush_nil_reverse]

theorem TagTok.tokFrom {raw : Str} {t : Tok} (h : TagTok raw t) (rest acc : Str) :
    tokFrom (raw ++ rest) acc = (tokFrom rest []).prepend (Tok.flush acc [] ++ [t]) :=
  tokFrom_of_step (h rest acc [])

theorem TagTok.tokenize {raw : Str} {t : Tok} (h : TagTok raw t) (rest : Str) :
    tokenize (raw ++ rest) = (tokenize rest).prepend [t] := by
  rw [tokenize_eq_tokFrom, tokenize_eq_tokFrom, h.tokFrom]; rfl

theorem RawTag.tokFrom {raw : Str} (h : RawTag raw) (rest acc : Str) : tokFrom (raw ++ rest) acc = .unmodelled := by
  rw [tokFrom_step, h]; rfl

def Tok.raw : Tok → Str
  | .text r => r
  | .startTag r _ _ => r
  | .endTag r _ => r
  | .selfClosing r _ _ => r
  | .other r => r

def Tok.isText : Tok → Bool
  | .text _ => true
  | _ => false

/-- no two text tokens next to each other (the tokenizer would return them as one) -/
def noAdjText : List Tok → Bool
  | a :: b :: r => !(a.isText && b.isText) && noAdjText (b :: r)
  | _ => true

def headIsText : List Tok → Bool
  | a :: _ => a.isText
  | [] => false

/-- a token the tokenizer gives back as it is: a non-empty text without `<` and NUL, or a tag that is one token -/
def Tok.Lexes : Tok → Prop
  | .text r => r ≠ [] ∧ ∀ c ∈ r, c ≠ '<' ∧ c ≠ '\x00'
  | t => TagTok t.raw t

theorem Tok.Lexes.tagTok {t : Tok} (h : t.Lexes) (ht : t.isText = false) : TagTok t.raw t := by
  cases t <;> first | exact h | cases ht

theorem tokFrom_lexes (ts : List Tok) (hw : ∀ t ∈ ts, t.Lexes) (hadj : noAdjText ts = true) :
    ∀ (acc : Str), (acc ≠ [] → headIsText ts = false) →
      tokFrom (ts.flatMap Tok.raw) acc = .ok (Tok.flush acc [] ++ ts) := by
  induction ts with
  | nil => intro acc _; simp [tokFrom_nil]
  | cons t ts ih =>
    intro acc hacc
    have hw' : ∀ t ∈ ts, t.Lexes := fun x hx => hw x (by simp [hx])
    have hadj' : noAdjText ts = true := by
      cases ts with
      | nil => rfl
      | cons b r => simp [noAdjText] at hadj; exact hadj.2
    rw [flatMap_cons]
    cases ht : t.isText with
    | true =>
      -- a text token: nothing is pending, and the next token is a tag
      obtain ⟨r, rfl⟩ : ∃ r, t = .text r := by cases t <;> first | exact ⟨_, rfl⟩ | cases ht
      obtain rfl : acc = [] := by
        cases acc with
        | nil => rfl
        | cons a as => have := hacc (by simp); simp [headIsText, Tok.isText] at this
      obtain ⟨hne, hr⟩ := hw (.text r) (by simp)
      rw [Tok.raw, tokFrom_text hr, ih hw' hadj']
      · cases r with
        | nil => exact absurd rfl hne
        | cons c r => simp [Tok.flush]
      · intro _
        cases ts with
        | nil => rfl
        | cons b r' =>
          have h1 : (!((Tok.text r).isText && b.isText) && noAdjText (b :: r')) = true := hadj
          simp [Tok.isText] at h1
          simpa [headIsText, Tok.isText] using h1.1
    | false =>
      rw [((hw t (by simp)).tagTok ht).tokFrom, ih hw' hadj' [] (by simp)]
      simp [TokRes.prepend, Tok.flush]

theorem tokenize_lexes (ts : List Tok) (hw : ∀ t ∈ ts, t.Lexes) (hadj : noAdjText ts = true) :
    tokenize (ts.flatMap Tok.raw) = .ok ts := by
  rw [tokenize_eq_tokFrom, tokFrom_lexes ts hw hadj [] (by simp)]
  simp [Tok.flush]

/-- the characters `readTagName` keeps -/
def tagNameCh (c : Char) : Bool := !(isTagWS c || c == '/' || c == '>')

theorem TagTok.start {d : Char} {tl name : Str} {attrs : List (Str × Str)} (hd : isLetter d = true)
    (hr : ∀ rest, readTag (d :: tl ++ rest) = some (name, attrs, rest))
    (hrawtag : rawTags.contains (String.ofList (toLowerAscii name)) = false)
    (hamp : attrs.any (fun kv => kv.2.contains '&') = false)
    (hself : ((('<' :: d :: tl).dropLast).getLast? == some '/') = false) :
    TagTok ('<' :: d :: tl) (.startTag ('<' :: d :: tl) (toLowerAscii name) (lowerKV attrs)) :=
  fun rest acc out => tokStep_startTag d (tl ++ rest) rest _ name acc attrs out hd (hr rest) rfl hrawtag hamp hself

theorem RawTag.start {d : Char} {tl name : Str} {attrs : List (Str × Str)} (hd : isLetter d = true)
    (hr : ∀ rest, readTag (d :: tl ++ rest) = some (name, attrs, rest))
    (hrawtag : rawTags.contains (String.ofList (toLowerAscii name)) = true) : RawTag ('<' :: d :: tl) := by
  intro rest acc out
  have h := hr rest
  rw [cons_append] at h
  have e1 : ('<' == '\x00') = false := by decide
  have e2 : ('<' != '<') = false := by decide
  unfold tokStep
  simp only [cons_append, hd, h, e1, e2, hrawtag, if_true, Bool.false_eq_true, if_false]

theorem TagTok.end_ {e : Char} {tl name : Str} {attrs : List (Str × Str)} (he : isLetter e = true)
    (hr : ∀ rest, readTag (e :: tl ++ rest) = some (name, attrs, rest)) :
    TagTok ('<' :: '/' :: e :: tl) (.endTag ('<' :: '/' :: e :: tl) (toLowerAscii name)) :=
  fun rest acc out => tokStep_endTag e (tl ++ rest) rest _ name acc attrs out he (hr rest) rfl

theorem readTag_eq (name r : Str) (hn : ∀ c ∈ name, tagNameCh c = true) (hr : ∀ c t, r = c :: t → tagNameCh c = false) :
    readTag (name ++ r) =
      if (r.dropWhile isTagWS).isEmpty then none else
      match readAttrs ((r.dropWhile isTagWS).length + 1) (r.dropWhile isTagWS) [] with
      | some (attrs, rest) => some (name, attrs, rest)
      | none => none := by
  have hname : (name ++ r).takeWhile (fun c => !(isTagWS c || c == '/' || c == '>')) = name := by
    show (name ++ r).takeWhile tagNameCh = name
    rw [takeWhile_append_of_pos hn]
    cases r with
    | nil => simp
    | cons c t => simp [takeWhile, hr c t rfl]
  unfold readTag
  simp only [hname, drop_left]
  rfl

theorem readTag_name (nm rest : Str) (hn : ∀ c ∈ nm, tagNameCh c = true) :
    readTag (nm ++ '>' :: rest) = some (nm, [], rest) := by
  rw [readTag_eq nm _ hn (by intro c t e; cases e; decide)]
  simp [isTagWS, readAttrs]

theorem TagTok.startName {d : Char} {nm : Str} (hd : isLetter d = true) (hn : ∀ c ∈ d :: nm, tagNameCh c = true)
    (hraw : rawTags.contains (String.ofList (toLowerAscii (d :: nm))) = false) :
    TagTok ('<' :: d :: (nm ++ ['>'])) (.startTag ('<' :: d :: (nm ++ ['>'])) (toLowerAscii (d :: nm)) []) := by
  refine TagTok.start (attrs := []) hd (fun rest => by simpa using readTag_name (d :: nm) rest hn) hraw rfl ?_
  rw [show '<' :: d :: (nm ++ ['>']) = ('<' :: d :: nm) ++ ['>'] by simp, dropLast_concat]
  cases h : ('<' :: d :: nm).getLast? with
  | none => rfl
  | some c =>
    have : c ≠ '/' := by
      rcases mem_cons.mp (mem_of_getLast? h) with e | hc
      · rw [e]; decide
      · exact fun e => absurd (hn c hc) (by rw [e]; decide)
    simp [this]

theorem TagTok.endName {e : Char} {nm : Str} (he : isLetter e = true) (hn : ∀ c ∈ e :: nm, tagNameCh c = true) :
    TagTok ('<' :: '/' :: e :: (nm ++ ['>'])) (.endTag ('<' :: '/' :: e :: (nm ++ ['>'])) (toLowerAscii (e :: nm))) :=
  TagTok.end_ (attrs := []) he fun rest => by simpa using readTag_name (e :: nm) rest hn

end Go
end Astisub
