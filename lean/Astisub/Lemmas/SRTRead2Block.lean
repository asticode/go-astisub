import Astisub.Lemmas.SRTRead2Line
import Astisub.Lemmas.SRTRead2Time
import Astisub.Lemmas.MapMOpt

/-!
# Lemmas/SRTRead2Block — one block of a SubRip document: reader model against `Spec.SRT.decodeBlock`

`SRT.step` trims the scanned line and, on the first line only, removes a byte order mark.  `stepG`
is the rest of the loop body, as a function of the prepared line (an equivalent formulation of
`SRT.step`, proved equal to it: `step_eq`); `runG` iterates it.

State invariant `Good st cues n X`: the reader's loop state `st` holds the cues `cues` (all but the
last in `st.done`, the last one being filled in `st.cur`), followed by `n` place holders of empty
lines and by `X` (what an index line left behind: nothing, a place holder, or a line with text).
-/

namespace Astisub
namespace SRTRead2
open Go SRT SRTDoc
open Spec.SRT (GRun GCue Sty runsOf cueLines timing timeMs decodeBlock)

/-- the index candidate of the timing-line branch: the last line of the cue being filled, when it has
    text, is taken off and used as the index -/
def idxSplit (lines : List Line) : Str × List Line :=
  match lines.getLast? with
  | none => (([] : Str), lines)
  | some l => if l.str ≠ [] then (l.str, lines.dropLast) else ([], lines)

/-- the loop body of `ReadFromSRT` as a function of the prepared line (`G`: given the line trimmed, and the BOM removed) -/
def stepG (st : St) (line : Str) : Res St :=
    let lineNum := st.lineNum + 1
    if contains arrow line then
      let (index, lines) := idxSplit st.cur.lines
      let lines := stripLines lines
      let prev := { st.cur with lines := lines }
      let done := if st.curListed then st.done ++ [prev] else st.done
      let idx : Int := if index ≠ [] then atoiLoose index else 0
      let s1 := splitOn arrow line
      match s1 with
      | left :: right :: _ =>
        match fields right with
        | [] => .err
        | endTok :: _ =>
          match Duration.parseSRT left, Duration.parseSRT endTok with
          | some s, some e =>
            .ok { done := done, cur := { index := idx, startAt := s, endAt := e, lines := [] },
                  curListed := true, sa := {}, lineNum := lineNum }
          | _, _ => .err
      | _ => .err
    else
      match parseText line st.sa with
      | .unmodelled => .unmodelled
      | .err => .err
      | .ok (sa, l) =>
        let cur := if l.items.isEmpty then st.cur else { st.cur with lines := st.cur.lines ++ [l] }
        .ok { st with cur := cur, sa := sa, lineNum := lineNum }

/-- the line the loop body works on -/
def prepLine (lineNum : Nat) (raw : Str) : Str :=
  if lineNum + 1 = 1 then trimPrefix bom (trimSpace raw) else trimSpace raw

theorem step_eq (st : St) (raw : Str) : step st (some raw) = stepG st (prepLine st.lineNum raw) := by
  unfold step stepG prepLine idxSplit
  rfl

def runG : St → List Str → Res St
  | st, [] => .ok st
  | st, l :: ls =>
    match stepG st l with
    | .ok st' => runG st' ls
    | .err => .err
    | .unmodelled => .unmodelled

theorem contains_arrow_nil : contains arrow ([] : Str) = false := by decide

theorem stepG_plain (st : St) (line : Str) (h : contains arrow line = false) :
    stepG st line =
      match parseText line st.sa with
      | .unmodelled => .unmodelled
      | .err => .err
      | .ok (sa, l) =>
        .ok { st with cur := if l.items.isEmpty then st.cur else { st.cur with lines := st.cur.lines ++ [l] },
                      sa := sa, lineNum := st.lineNum + 1 } := by
  unfold stepG
  simp only [h, Bool.false_eq_true, ↓reduceIte]

theorem parseText_blank (l : Str) (sa : Run) (h : trimSpace l = []) : parseText l sa = .ok (sa, blankLine) := by
  unfold parseText
  simp only [h, ↓reduceIte]
  rfl

theorem stepG_blank (st : St) :
    stepG st [] = .ok { st with cur := { st.cur with lines := st.cur.lines ++ [blankLine] }, lineNum := st.lineNum + 1 } := by
  rw [stepG_plain st [] contains_arrow_nil, parseText_blank [] st.sa rfl]
  rfl

theorem stepG_timing (st : St) (line left right endTok : Str) (rest1 rest2 : List Str) (s e : Int)
    (hc : contains arrow line = true) (hs : splitOn arrow line = left :: right :: rest1)
    (hf : fields right = endTok :: rest2) (h1 : Duration.parseSRT left = some s)
    (h2 : Duration.parseSRT endTok = some e) :
    stepG st line = .ok
      { done := if st.curListed then st.done ++ [{ st.cur with lines := stripLines (idxSplit st.cur.lines).2 }] else st.done,
        cur := { index := if (idxSplit st.cur.lines).1 ≠ [] then atoiLoose (idxSplit st.cur.lines).1 else 0,
                 startAt := s, endAt := e, lines := [] },
        curListed := true, sa := {}, lineNum := st.lineNum + 1 } := by
  unfold stepG
  simp only [hc, ↓reduceIte, hs, hf, h1, h2]

/-- a stored text line: at least one item, every item has text -/
def Solid (l : Line) : Prop := l.items ≠ [] ∧ ∀ it ∈ l.items, it.text ≠ []

def linesView (ls : List Line) : List (List GRun) := ls.map fun l => l.items.map drvRun

theorem runG_append (st : St) (a b : List Str) :
    runG st (a ++ b) = match runG st a with
      | .ok st' => runG st' b
      | .err => .err
      | .unmodelled => .unmodelled := by
  induction a generalizing st with
  | nil => rfl
  | cons l a ih =>
    simp only [List.cons_append, runG]
    cases stepG st l with
    | ok st' => exact ih st'
    | err => rfl
    | unmodelled => rfl

theorem runG_cons_ok {st st' : St} {l : Str} (ls : List Str) (h : stepG st l = .ok st') :
    runG st (l :: ls) = runG st' ls := by
  simp only [runG, h]

theorem stepG_modelled {st : St} {l : Str} {ls : List Str} (h : runG st (l :: ls) ≠ .unmodelled) :
    stepG st l ≠ .unmodelled := by
  intro e; apply h; simp only [runG, e]

theorem runG_prefix_modelled {st : St} {a b : List Str} (h : runG st (a ++ b) ≠ .unmodelled) :
    runG st a ≠ .unmodelled := by
  intro e; apply h; rw [runG_append, e]

theorem str_ne_nil_of_solid {l : Line} (h : Solid l) : l.str ≠ [] := by
  obtain ⟨h1, h2⟩ := h
  unfold Line.str
  cases hi : l.items with
  | nil => exact absurd hi h1
  | cons a as =>
    have := h2 a (by rw [hi]; simp)
    cases ht : a.text with
    | nil => exact absurd ht this
    | cons c cs => simp [ht]

theorem stripLines_blanks (T : List Line) (n : Nat) (h : ∀ l ∈ T, Solid l) :
    stripLines (T ++ List.replicate n blankLine) = T :=
  C01.strip_padding T n fun l hl => ⟨(h l hl).1, fun it hit => (h l hl).2 it (List.mem_of_getLast? hit)⟩

theorem idxSplit_nil : idxSplit [] = ([], []) := rfl

theorem idxSplit_blank (L : List Line) : idxSplit (L ++ [blankLine]) = ([], L ++ [blankLine]) := by
  unfold idxSplit
  rw [List.getLast?_concat]
  rfl

theorem idxSplit_solid (L : List Line) (l : Line) (h : Solid l) : idxSplit (L ++ [l]) = (l.str, L) := by
  unfold idxSplit
  rw [List.getLast?_concat]
  simp only [ne_eq, str_ne_nil_of_solid h, not_false_eq_true, ↓reduceIte, List.dropLast_concat]

/-- what an index line leaves behind in the cue being filled -/
def IndexLeft (X : List Line) : Prop := X = [] ∨ X = [blankLine] ∨ ∃ l, X = [l] ∧ Solid l

/-- at a timing line, the lines kept for the previous cue are its text lines -/
theorem strip_prev (T : List Line) (n : Nat) (X : List Line) (hT : ∀ l ∈ T, Solid l) (hX : IndexLeft X)
    (hn : 1 ≤ n ∨ X ≠ []) : stripLines (idxSplit (T ++ List.replicate n blankLine ++ X)).2 = T := by
  rcases hX with rfl | rfl | ⟨l, rfl, hl⟩
  · have : 1 ≤ n := by
      rcases hn with h | h
      · exact h
      · exact absurd rfl h
    obtain ⟨k, rfl⟩ : ∃ k, n = k + 1 := ⟨n - 1, by omega⟩
    rw [List.append_nil, List.replicate_succ', ← List.append_assoc, idxSplit_blank, List.append_assoc,
      ← List.replicate_succ']
    exact stripLines_blanks T (k + 1) hT
  · rw [idxSplit_blank, List.append_assoc, ← List.replicate_succ']
    exact stripLines_blanks T (n + 1) hT
  · rw [idxSplit_solid _ _ hl]
    exact stripLines_blanks T n hT

theorem drvItem_of (it : CItem) (s e : Nat) (h1 : it.startAt = (s : Int) * 1000000) (h2 : it.endAt = (e : Int) * 1000000) :
    drvItem it = some { startMs := s, endMs := e, lines := linesView it.lines } := by
  have e1 : it.startAt % 1000000 = 0 := by omega
  have e2 : it.endAt % 1000000 = 0 := by omega
  have e3 : ¬ (it.startAt < 0) := by omega
  have e4 : ¬ (it.endAt < 0) := by omega
  have e5 : (it.startAt / 1000000).toNat = s := by omega
  have e6 : (it.endAt / 1000000).toNat = e := by omega
  unfold drvItem linesView
  simp only [e1, e2, e3, e4, e5, e6, ne_eq, not_true_eq_false, decide_false, Bool.or_self, Bool.false_eq_true,
    ↓reduceIte]

/-- the loop state `st` holds the cues `cues`: none yet, or all but the last in `st.done` and the last one being
    filled with the text lines `T`, followed by `n` place holders of empty lines and by what an index line left (`X`) -/
def Good (st : St) (cues : List GCue) (n : Nat) (X : List Line) : Prop :=
  (cues = [] ∧ st.curListed = false ∧ st.done = []) ∨
  (∃ pc c T, cues = pc ++ [c] ∧ st.curListed = true ∧ Spec.SRT.mapM drvItem st.done = some pc ∧
     drvItem { st.cur with lines := T } = some c ∧ st.cur.lines = T ++ List.replicate n blankLine ++ X ∧
     ∀ l ∈ T, Solid l)

/-- the case of `Good` in which a cue is being filled: the cues before it are `pc`, it is `c`, its text lines so far `T` -/
structure Filling (st : St) (n : Nat) (X : List Line) (pc : List GCue) (c : GCue) (T : List Line) : Prop where
  listed : st.curListed = true
  done : Spec.SRT.mapM drvItem st.done = some pc
  cur : drvItem { st.cur with lines := T } = some c
  lines : st.cur.lines = T ++ List.replicate n blankLine ++ X
  solid : ∀ l ∈ T, Solid l

/-- `Good`, case by case, with named parts -/
inductive GoodCase (st : St) (cues : List GCue) (n : Nat) (X : List Line) : Prop
  | empty (cues_nil : cues = []) (not_listed : st.curListed = false) (done_nil : st.done = [])
  | filling (pc : List GCue) (c : GCue) (T : List Line) (cues_eq : cues = pc ++ [c]) (F : Filling st n X pc c T)

theorem good_iff {st : St} {cues : List GCue} {n : Nat} {X : List Line} : Good st cues n X ↔ GoodCase st cues n X := by
  constructor
  · rintro (⟨a, b, c⟩ | ⟨pc, c, T, e, h1, h2, h3, h4, h5⟩)
    · exact .empty a b c
    · exact .filling pc c T e ⟨h1, h2, h3, h4, h5⟩
  · rintro (⟨a, b, c⟩ | ⟨pc, c, T, e, F⟩)
    · exact .inl ⟨a, b, c⟩
    · exact .inr ⟨pc, c, T, e, F.listed, F.done, F.cur, F.lines, F.solid⟩

theorem good_init : Good {} [] 0 [] := good_iff.mpr (.empty rfl rfl rfl)

/-- the cue list `SRT.read` returns for a final state -/
def finish (st : St) : Subs :=
  { items := if st.curListed then st.done ++ [{ st.cur with lines := stripLines st.cur.lines }] else st.done }

theorem good_finish {st : St} {cues : List GCue} {n : Nat} (h : Good st cues n []) :
    Driver.srtView (finish st) = some cues := by
  rw [srtView_eq]
  unfold finish
  cases good_iff.mp h with
  | empty he h1 h2 => subst he; simp only [h1, Bool.false_eq_true, ↓reduceIte, h2, Spec.SRT.mapM]
  | filling pc c T he F =>
    subst he
    simp only [F.listed, ↓reduceIte]
    apply Spec.SRT.isMapM.append F.done
    rw [F.lines, List.append_nil, stripLines_blanks T n F.solid]
    simp only [Spec.SRT.mapM, F.cur]

theorem Good.push {st st' : St} {cues : List GCue} {n : Nat} (h : Good st cues n []) {X : List Line}
    (hd : st'.done = st.done) (hl : st'.curListed = st.curListed)
    (hc : st'.cur = { st.cur with lines := st.cur.lines ++ X }) : Good st' cues n X := by
  cases good_iff.mp h with
  | empty he h1 h2 => exact good_iff.mpr (.empty he (hl ▸ h1) (hd ▸ h2))
  | filling pc c T he F =>
    exact good_iff.mpr (.filling pc c T he
      { listed := hl ▸ F.listed, done := hd ▸ F.done, cur := by rw [hc]; exact F.cur,
        lines := by rw [hc, F.lines, List.append_nil], solid := F.solid })

theorem good_blank {st : St} {cues : List GCue} {n : Nat} (h : Good st cues n []) :
    ∃ st', stepG st [] = .ok st' ∧ Good st' cues (n + 1) [] := by
  refine ⟨_, stepG_blank st, ?_⟩
  cases good_iff.mp h with
  | empty he h1 h2 => exact good_iff.mpr (.empty he h1 h2)
  | filling pc c T he F =>
    exact good_iff.mpr (.filling pc c T he
      { listed := F.listed, done := F.done, cur := F.cur, solid := F.solid,
        lines := by simp only [F.lines, List.append_nil, List.replicate_succ', List.append_assoc] })

/-- an index line: any line without `-->` in front of a timing line -/
theorem good_index {st : St} {cues : List GCue} {n : Nat} (h : Good st cues n []) (m : Str)
    (hc : contains arrow m = false) (hm : stepG st m ≠ .unmodelled) :
    ∃ st' X, stepG st m = .ok st' ∧ IndexLeft X ∧ Good st' cues n X ∧ (trimSpace m = [] → X ≠ []) := by
  rw [stepG_plain st m hc] at hm ⊢
  cases hp : parseText m st.sa with
  | unmodelled => rw [hp] at hm; exact absurd rfl hm
  | err => exact absurd hp (parseText_ne_err m st.sa)
  | ok r =>
    obtain ⟨sa', ln⟩ := r
    simp only
    rcases parseText_shape m st.sa sa' ln hp with ⟨rfl, _, _⟩ | ⟨hne, htx⟩
    · exact ⟨_, [blankLine], rfl, Or.inr (Or.inl rfl), h.push rfl rfl rfl, fun _ => by simp⟩
    · cases hi : ln.items with
      | nil => exact ⟨_, [], rfl, Or.inl rfl, h.push rfl rfl (by simp), fun e => absurd e hne⟩
      | cons a as =>
        have hs : Solid ln := ⟨by rw [hi]; simp, htx⟩
        exact ⟨_, [ln], rfl, Or.inr (Or.inr ⟨ln, rfl, hs⟩), h.push rfl rfl (by simp), fun e => absurd e hne⟩

/-- what the reader model needs from a timing line to start the cue `[s ms, e ms)` -/
def TimingOK (m : Str) (s e : Nat) : Prop :=
  ∃ left right rest1 endTok rest2, contains arrow m = true ∧ splitOn arrow m = left :: right :: rest1 ∧
    fields right = endTok :: rest2 ∧ Duration.parseSRT left = some ((s : Int) * 1000000) ∧
    Duration.parseSRT endTok = some ((e : Int) * 1000000)

/-- the reader is filling the cue `[s ms, e ms)` whose lines so far are `L`; the cues before it are `cues` -/
def AtCue (st : St) (cues : List GCue) (s e : Nat) (L : List Line) : Prop :=
  st.curListed = true ∧ Spec.SRT.mapM drvItem st.done = some cues ∧ st.cur.startAt = (s : Int) * 1000000 ∧
    st.cur.endAt = (e : Int) * 1000000 ∧ st.cur.lines = L

/-- `TimingOK` with its witnesses as parameters and its conjuncts named -/
structure TimingFacts (m : Str) (s e : Nat) (left right endTok : Str) (rest1 rest2 : List Str) : Prop where
  hasArrow : contains arrow m = true
  split : splitOn arrow m = left :: right :: rest1
  endField : fields right = endTok :: rest2
  start : Duration.parseSRT left = some ((s : Int) * 1000000)
  stop : Duration.parseSRT endTok = some ((e : Int) * 1000000)

theorem timingOK_iff {m : Str} {s e : Nat} :
    TimingOK m s e ↔ ∃ left right endTok rest1 rest2, TimingFacts m s e left right endTok rest1 rest2 :=
  ⟨fun ⟨l, r, r1, t, r2, a, b, c, d, f⟩ => ⟨l, r, t, r1, r2, a, b, c, d, f⟩,
   fun ⟨l, r, t, r1, r2, F⟩ => ⟨l, r, r1, t, r2, F.hasArrow, F.split, F.endField, F.start, F.stop⟩⟩

theorem TimingOK.stepG {m : Str} {s e : Nat} (h : TimingOK m s e) (st : St) :
    stepG st m = .ok
      { done := if st.curListed then st.done ++ [{ st.cur with lines := stripLines (idxSplit st.cur.lines).2 }] else st.done,
        cur := { index := if (idxSplit st.cur.lines).1 ≠ [] then atoiLoose (idxSplit st.cur.lines).1 else 0,
                 startAt := (s : Int) * 1000000, endAt := (e : Int) * 1000000, lines := [] },
        curListed := true, sa := {}, lineNum := st.lineNum + 1 } := by
  obtain ⟨l, r, t, r1, r2, F⟩ := timingOK_iff.mp h
  exact stepG_timing st m l r t r1 r2 _ _ F.hasArrow F.split F.endField F.start F.stop

/-- `AtCue` with its conjuncts named -/
structure AtCueFacts (st : St) (cues : List GCue) (s e : Nat) (L : List Line) : Prop where
  listed : st.curListed = true
  done : Spec.SRT.mapM drvItem st.done = some cues
  start : st.cur.startAt = (s : Int) * 1000000
  stop : st.cur.endAt = (e : Int) * 1000000
  lines : st.cur.lines = L

theorem atCue_iff {st : St} {cues : List GCue} {s e : Nat} {L : List Line} : AtCue st cues s e L ↔ AtCueFacts st cues s e L :=
  ⟨fun ⟨a, b, c, d, f⟩ => ⟨a, b, c, d, f⟩, fun h => ⟨h.listed, h.done, h.start, h.stop, h.lines⟩⟩

theorem good_timing {st : St} {cues : List GCue} {n : Nat} {X : List Line} (h : Good st cues n X) (hX : IndexLeft X)
    (hn : cues = [] ∨ 1 ≤ n ∨ X ≠ []) (m : Str) (s e : Nat) (ht : TimingOK m s e) :
    ∃ st', stepG st m = .ok st' ∧ AtCue st' cues s e [] ∧ st'.sa = {} := by
  refine ⟨_, ht.stepG st, atCue_iff.mpr { listed := rfl, done := ?_, start := rfl, stop := rfl, lines := rfl }, rfl⟩
  cases good_iff.mp h with
  | empty he g1 g2 => subst he; simp only [g1, Bool.false_eq_true, ↓reduceIte, g2, Spec.SRT.mapM]
  | filling pc c T he F =>
    subst he
    simp only [F.listed, ↓reduceIte]
    apply Spec.SRT.isMapM.append F.done
    have hn' : 1 ≤ n ∨ X ≠ [] := by
      rcases hn with hn | hn
      · simp at hn
      · exact hn
    rw [F.lines, strip_prev T n X F.solid hX hn']
    simp only [Spec.SRT.mapM, F.cur]

theorem atCue_good {st : St} {cues : List GCue} {s e : Nat} {L : List Line} (h : AtCue st cues s e L)
    (hL : ∀ l ∈ L, Solid l) : Good st (cues ++ [{ startMs := s, endMs := e, lines := linesView L }]) 0 [] := by
  have A := atCue_iff.mp h
  exact good_iff.mpr (.filling cues _ L rfl
    { listed := A.listed, done := A.done, cur := drvItem_of _ s e A.start A.stop, lines := by simp [A.lines], solid := hL })

theorem cueLines_cons {t : Str} {ts : List Str} {sty : Sty} {ls : List (List GRun)}
    (h : cueLines (t :: ts) sty = some ls) :
    ∃ sty' runs rest, runsOf (t.length + 2) t sty [] [] = some (sty', runs) ∧ cueLines ts sty' = some rest ∧
      runs ≠ [] ∧ ls = runs :: rest := by
  rw [cueLines] at h
  cases hr : runsOf (t.length + 2) t sty [] [] with
  | none => rw [hr] at h; cases h
  | some r =>
    obtain ⟨sty', runs⟩ := r
    rw [hr] at h
    simp only at h
    cases hc : cueLines ts sty' with
    | none => rw [hc] at h; cases h
    | some rest =>
      rw [hc] at h
      simp only at h
      cases hre : runs with
      | nil => rw [hre] at h; simp at h
      | cons a as =>
        rw [hre] at h
        simp only [List.isEmpty_cons, Bool.false_eq_true, ↓reduceIte, Option.some.injEq] at h
        exact ⟨sty', a :: as, rest, rfl, hc, by simp, h.symm⟩

/-- the state after a text line has been stored -/
def pushLine (st : St) (l : Line) (sa : Run) : St :=
  { st with cur := { st.cur with lines := st.cur.lines ++ [l] }, sa := sa, lineNum := st.lineNum + 1 }

theorem text_sim : ∀ (text : List Str) (st : St) (cues : List GCue) (s e : Nat) (L : List Line)
    (ls : List (List GRun)), AtCue st cues s e L → cueLines text (styOf st.sa) = some ls →
    (∀ t ∈ text, trimSpace t ≠ [] ∧ contains arrow t = false) → runG st text ≠ .unmodelled →
    ∃ st' L', runG st text = .ok st' ∧ AtCue st' cues s e (L ++ L') ∧ linesView L' = ls ∧ ∀ l ∈ L', Solid l := by
  intro text
  induction text with
  | nil =>
    intro st cues s e L ls h hc _ _
    rw [cueLines] at hc
    cases hc
    exact ⟨st, [], rfl, by simpa using h, rfl, by simp⟩
  | cons t ts ih =>
    intro st cues s e L ls h hc ht hm
    obtain ⟨sty', runs, rest, hr, hc', hne, rfl⟩ := cueLines_cons hc
    obtain ⟨ht1, ht2⟩ := ht t (by simp)
    have hm1 := stepG_modelled hm
    rw [stepG_plain st t ht2] at hm1
    have hpm : parseText t st.sa ≠ .unmodelled := by
      intro e; rw [e] at hm1; exact hm1 rfl
    obtain ⟨sa', items, hp, hsty, hview⟩ := parseText_sim t st.sa (sty', runs) ht1 hr hpm
    have hi : items ≠ [] := by
      intro e; rw [e] at hview; exact hne hview.symm
    have hie : items.isEmpty = false := by
      cases items with
      | nil => exact absurd rfl hi
      | cons _ _ => rfl
    have hstep : stepG st t = .ok (pushLine st { items := items } sa') := by
      rw [stepG_plain st t ht2, hp]
      simp only [hie, Bool.false_eq_true, ↓reduceIte]
      rfl
    rw [runG_cons_ok ts hstep] at hm ⊢
    have A := atCue_iff.mp h
    have hat : AtCue (pushLine st { items := items } sa') cues s e (L ++ [{ items := items }]) :=
      atCue_iff.mpr { listed := A.listed, done := A.done, start := A.start, stop := A.stop, lines := by simp only [pushLine, A.lines] }
    have hsolid : Solid ({ items := items } : Line) := by
      refine ⟨hi, ?_⟩
      rcases parseText_shape t st.sa sa' _ hp with ⟨_, _, hb⟩ | ⟨_, htx⟩
      · exact absurd hb ht1
      · exact htx
    obtain ⟨st', L', hrun, hat', hv, hs⟩ := ih _ cues s e _ rest hat (by show cueLines ts (styOf sa') = some rest; rw [hsty]; exact hc')
      (fun x hx => ht x (by simp [hx])) hm
    refine ⟨st', { items := items } :: L', hrun, by simpa using hat', ?_, ?_⟩
    · simp only [linesView, List.map_cons] at hv ⊢
      rw [hv, hview]
    · intro l hl
      rcases List.mem_cons.mp hl with rfl | hl
      · exact hsolid
      · exact hs l hl

theorem timing_parts {d : Str} {s e : Nat} (h : timing d = some (s, e)) :
    ∃ l r e' rest, splitOn arrow d = [l, r] ∧ fields r = e' :: rest ∧ timeMs l = some s ∧ timeMs e' = some e := by
  unfold timing at h
  split at h
  · rename_i l r hs
    split at h
    · rename_i e' rest hf
      split at h
      · rename_i s' e'' h1 h2
        injection h with h
        injection h with ha hb
        subst ha; subst hb
        exact ⟨l, r, e', rest, hs, hf, h1, h2⟩
      · cases h
    · cases h
  · cases h

theorem timing_contains {d : Str} {t : Nat × Nat} (h : timing d = some t) : contains arrow d = true := by
  obtain ⟨s, e⟩ := t
  obtain ⟨l, r, e', rest, h1, _, _, _⟩ := timing_parts h
  cases hc : contains arrow d with
  | true => rfl
  | false => rw [splitOn_of_not_contains (by decide) hc] at h1; cases h1

theorem timingOK_of_timing {d : Str} {s e : Nat} (h : timing d = some (s, e))
    (hs : s / 3600000 ≤ int64Max) (he : e / 3600000 ≤ int64Max) : TimingOK d s e := by
  obtain ⟨l, r, e', rest, h1, h2, h3, h4⟩ := timing_parts h
  exact timingOK_iff.mpr ⟨l, r, e', [], rest,
    { hasArrow := timing_contains h, split := h1, endField := h2, start := parseSRT_of_timeMs l s h3 hs,
      stop := parseSRT_of_timeMs e' e h4 he }⟩

theorem block_tail {s e : Nat} {text : List Str} {c : GCue}
    (h : (if text.isEmpty || text.any (contains "-->".toList) then none else
      (cueLines text {}).map fun ls => ({ startMs := s, endMs := e, lines := ls } : GCue)) = some c) :
    ∃ ls, c = { startMs := s, endMs := e, lines := ls } ∧ text ≠ [] ∧ (∀ t ∈ text, contains arrow t = false) ∧
      cueLines text {} = some ls := by
  split at h
  · cases h
  · rename_i hcond
    simp only [Bool.or_eq_true, not_or, Bool.not_eq_true] at hcond
    cases hcl : cueLines text {} with
    | none => rw [hcl] at h; cases h
    | some ls =>
      rw [hcl] at h
      simp only [Option.map_some, Option.some.injEq] at h
      refine ⟨ls, h.symm, ?_, ?_, rfl⟩
      · intro e; rw [e] at hcond; simp at hcond
      · intro t ht
        have := hcond.2
        rw [List.any_eq_false] at this
        have := this t ht
        have h' : contains ['-', '-', '>'] t = false := by simpa using this
        exact h'

theorem decodeBlock_cases (d1 : Str) (tl : List Str) (c : GCue) (h : decodeBlock (d1 :: tl) = some c) :
    ∃ s e text ls, c = { startMs := s, endMs := e, lines := ls } ∧ text ≠ [] ∧
      (∀ t ∈ text, contains arrow t = false) ∧ cueLines text {} = some ls ∧
      ((timing d1 = some (s, e) ∧ tl = text) ∨
       (timing d1 = none ∧ contains arrow d1 = false ∧ ∃ l2, tl = l2 :: text ∧ timing l2 = some (s, e))) := by
  unfold decodeBlock at h
  cases ht : timing d1 with
  | some t =>
    obtain ⟨s, e⟩ := t
    simp only [ht] at h
    obtain ⟨ls, h1, h2, h3, h4⟩ := block_tail h
    exact ⟨s, e, tl, ls, h1, h2, h3, h4, Or.inl ⟨rfl, rfl⟩⟩
  | none =>
    simp only [ht] at h
    cases tl with
    | nil => cases h
    | cons l2 text =>
      simp only at h
      cases hc : contains "-->".toList d1 with
      | true => simp only [hc, ↓reduceIte] at h; cases h
      | false =>
        simp only [hc, Bool.false_eq_true, ↓reduceIte] at h
        cases ht2 : timing l2 with
        | none => simp only [ht2, Option.map_none] at h; cases h
        | some t =>
          obtain ⟨s, e⟩ := t
          simp only [ht2, Option.map_some] at h
          obtain ⟨ls, h1, h2, h3, h4⟩ := block_tail h
          exact ⟨s, e, text, ls, h1, h2, h3, h4, Or.inr ⟨rfl, hc, l2, rfl, ht2⟩⟩

/-- what the first line of a block may look like to the reader (`m`) when the decoder sees `d`: the same
    line, except on the very first line of a document (byte order mark, see `Lemmas/SRTRead2Doc.lean`) -/
def HeadRel (d m : Str) : Prop :=
  (d = [] → m = []) ∧
  (∀ s e, timing d = some (s, e) → s / 3600000 ≤ int64Max → e / 3600000 ≤ int64Max → TimingOK m s e) ∧
  (contains arrow d = false → contains arrow m = false)

/-- `HeadRel` with its conjuncts named -/
structure HeadRelFacts (d m : Str) : Prop where
  nil : d = [] → m = []
  ofTiming : ∀ s e, timing d = some (s, e) → s / 3600000 ≤ int64Max → e / 3600000 ≤ int64Max → TimingOK m s e
  noArrow : contains arrow d = false → contains arrow m = false

theorem headRel_iff {d m : Str} : HeadRel d m ↔ HeadRelFacts d m :=
  ⟨fun ⟨a, b, c⟩ => ⟨a, b, c⟩, fun h => ⟨h.nil, h.ofTiming, h.noArrow⟩⟩

theorem headRel_refl (d : Str) : HeadRel d d :=
  headRel_iff.mpr { nil := id, ofTiming := fun _ _ h hs he => timingOK_of_timing h hs he, noArrow := id }

/-- both instants of the cue have an hours field that fits Go's `int` -/
def InRangeCue (c : GCue) : Prop := c.startMs / 3600000 ≤ int64Max ∧ c.endMs / 3600000 ≤ int64Max

instance (c : GCue) : Decidable (InRangeCue c) := by unfold InRangeCue; infer_instance

theorem styOf_default : styOf ({} : Run) = ({} : Sty) := rfl

/-- **One block.** From a state that holds the cues so far (followed by at least one empty line unless
    there is no cue yet), a block that the decoder turns into the cue `c` takes the reader to a state
    that holds the cues so far and `c` -/
theorem block_sim {st : St} {cues : List GCue} {n : Nat} (hg : Good st cues n [])
    (hn : cues = [] ∨ 1 ≤ n) (d1 m1 : Str) (tl : List Str) (hrel : HeadRel d1 m1) (c : GCue)
    (hdec : decodeBlock (d1 :: tl) = some c) (hrange : InRangeCue c) (htl : ∀ l ∈ tl, trimSpace l ≠ [])
    (hm : runG st (m1 :: tl) ≠ .unmodelled) :
    ∃ st', runG st (m1 :: tl) = .ok st' ∧ Good st' (cues ++ [c]) 0 [] := by
  obtain ⟨s, e, text, ls, rfl, hne, harrow, hcl, hcase⟩ := decodeBlock_cases d1 tl c hdec
  obtain ⟨hr1, hr2⟩ := hrange
  have hn' : cues = [] ∨ 1 ≤ n ∨ ([] : List Line) ≠ [] := hn.imp_right Or.inl
  -- behind the timing line, the text lines
  have tail : ∀ st1, AtCue st1 cues s e [] → st1.sa = {} → (∀ t ∈ text, trimSpace t ≠ []) → runG st1 text ≠ .unmodelled →
      ∃ st', runG st1 text = .ok st' ∧ Good st' (cues ++ [{ startMs := s, endMs := e, lines := ls }]) 0 [] := by
    intro st1 hat hsa htx hm1
    obtain ⟨st2, L', hrun, hat2, hv, hs⟩ := text_sim text st1 cues s e [] ls hat (by rw [hsa]; exact hcl)
      (fun t ht => ⟨htx t ht, harrow t ht⟩) hm1
    have := atCue_good hat2 (by simpa using hs)
    exact ⟨st2, hrun, by simpa [hv] using this⟩
  rcases hcase with ⟨ht, rfl⟩ | ⟨ht, hc1, l2, rfl, ht2⟩
  · -- no index line
    obtain ⟨st1, hstep, hat, hsa⟩ := good_timing hg (Or.inl rfl) hn' m1 s e ((headRel_iff.mp hrel).ofTiming s e ht hr1 hr2)
    rw [runG_cons_ok _ hstep] at hm ⊢
    exact tail st1 hat hsa htl hm
  · -- an index line first
    obtain ⟨st1, X, hstep1, hX, hg1, _⟩ := good_index hg m1 ((headRel_iff.mp hrel).noArrow hc1) (stepG_modelled hm)
    rw [runG_cons_ok _ hstep1] at hm ⊢
    obtain ⟨st2, hstep2, hat, hsa⟩ := good_timing hg1 hX (hn.imp_right Or.inl) l2 s e (timingOK_of_timing ht2 hr1 hr2)
    rw [runG_cons_ok _ hstep2] at hm ⊢
    exact tail st2 hat hsa (fun t ht => htl t (by simp [ht])) hm

end SRTRead2
end Astisub
