import Astisub.Props.C16
import Astisub.Lemmas.OvfBasic
import Astisub.Lemmas.Digits
import Astisub.Lemmas.EvalLit

/-!
# Lemmas/OvfDuration — `parseDuration`, `formatDuration` and the STL timecodes in `int64`

* `parseW` keeps the string stages of `parse` (`Ovf.msPart`, `Ovf.hmsPart` in `Props/C16`) and evaluates `milliseconds *= int(math.Pow10(k))` and
  `ms*Millisecond + s*Second + m*Minute + h*Hour` in wrap-around `int64`.
* `CombineOK` is the exact, decidable condition "no step wraps"; `combineOK_clock` derives it from
  clock-shaped fields with `hours ≤ 2 562 046`, and the witnesses show that bound is sharp.
* `formatW`: `formatDuration` with Go's `/` and `%` on `int64` (by positive constants they cannot overflow: `Props/C09ovf`).
* STL: `frames * 1e9 (+ fr - 1) / fr` on parse, `rem * fr / 1e9` and the `d -= delta * unit` chain on
  format.
-/

namespace Astisub
namespace Ovf
open Go Duration

/-- what a successful `atoi` means: the digits `r` — the input, less its sign character if it has
    one — have a value `v` that is the magnitude of the result, and a negative result needs the sign -/
theorem atoi_inv {s : Str} {x : Int} (h : atoi s = some x) :
    ∃ r v, parseDigits r = some v ∧ x.natAbs = v ∧ r.length ≤ s.length ∧ (x < 0 → r.length + 1 = s.length) := by
  obtain ⟨r, v, hp, ⟨hs, rfl, _⟩ | ⟨rfl, rfl, _⟩⟩ := Numeral.of_atoi h
  · exact ⟨r, v, hp, by omega, by rcases hs with rfl | rfl <;> simp, fun hx => by omega⟩
  · exact ⟨r, v, hp, by omega, by simp, fun _ => rfl⟩

theorem atoi_natAbs_lt {s : Str} {x : Int} (h : atoi s = some x) : x.natAbs < 10 ^ s.length := by
  obtain ⟨r, v, hp, rfl, hl, _⟩ := atoi_inv h
  exact Nat.lt_of_lt_of_le (parseDigits_lt hp) (Nat.pow_le_pow_right (by decide) hl)

/-- `milliseconds *= int(math.Pow10(k))` -/
def scaleW (ms : Int) (k : Nat) : Int := wmul ms ((10 : Int) ^ k)

/-- `Duration(ms)*Millisecond + Duration(s)*Second + Duration(m)*Minute + Duration(h)*Hour`,
    evaluated left to right in `int64` -/
def combineW (ms sec min h : Int) : Int :=
  wadd (wadd (wadd (wmul ms nsPerMs) (wmul sec nsPerS)) (wmul min nsPerMin)) (wmul h nsPerH)

/-- `parseDuration` with its arithmetic in `int64`. (When there is no fraction Go does not multiply;
    `scaleW 0 0 = 0` is the same value.) -/
def parseW (i : Str) (sep : Char) (digits : Nat) : Option Int :=
  (msPart i sep digits).bind fun p =>
    (hmsPart p.2).map fun q => combineW (scaleW p.1.1 p.1.2) q.1 q.2.1 q.2.2

/-- exact condition "no step of the arithmetic wraps", on the raw fields: the fraction `ms`, the
    exponent `k` of its scale factor, seconds, minutes, hours -/
def CombineOK (ms : Int) (k : Nat) (sec min h : Int) : Prop :=
  fits64 ((10 : Int) ^ k) ∧ fits64 (ms * (10 : Int) ^ k) ∧
  fits64 (ms * (10 : Int) ^ k * 1000000) ∧ fits64 (sec * 1000000000) ∧
  fits64 (min * 60000000000) ∧ fits64 (h * 3600000000000) ∧
  fits64 (ms * (10 : Int) ^ k * 1000000 + sec * 1000000000) ∧
  fits64 (ms * (10 : Int) ^ k * 1000000 + sec * 1000000000 + min * 60000000000) ∧
  fits64 (ms * (10 : Int) ^ k * 1000000 + sec * 1000000000 + min * 60000000000 + h * 3600000000000)

instance (ms : Int) (k : Nat) (sec min h : Int) : Decidable (CombineOK ms k sec min h) := by
  unfold CombineOK; infer_instance

theorem combineW_eq {ms : Int} {k : Nat} {sec min h : Int} (ok : CombineOK ms k sec min h) :
    combineW (scaleW ms k) sec min h = combine (ms * (10 : Int) ^ k) sec min h := by
  obtain ⟨_, h1, h2, h3, h4, h5, h6, h7, h8⟩ := ok
  unfold combineW scaleW combine nsPerMs nsPerS nsPerMin nsPerH
  rw [wmul_eq h1, wmul_eq h2, wmul_eq h3, wmul_eq h4, wmul_eq h5, wadd_eq h6, wadd_eq h7, wadd_eq h8]

/-- `P` holds of the content of an option, if there is one (a `match`, not `∀ a, o = some a → P a`, so that `ParseOK` is
    decidable; `optAll_iff` is the other reading) -/
def optAll {α} (o : Option α) (P : α → Prop) : Prop :=
  match o with
  | none => True
  | some a => P a

instance {α} (o : Option α) (P : α → Prop) [∀ a, Decidable (P a)] : Decidable (optAll o P) := by
  cases o with
  | none => exact isTrue trivial
  | some a => exact (inferInstance : Decidable (P a))

/-- the range condition on an input text: its fields, if it has any, satisfy `CombineOK` -/
def ParseOK (i : Str) (sep : Char) (digits : Nat) : Prop :=
  optAll (msPart i sep digits) fun p =>
    optAll (hmsPart p.2) fun q => CombineOK p.1.1 p.1.2 q.1 q.2.1 q.2.2

instance (i : Str) (sep : Char) (digits : Nat) : Decidable (ParseOK i sep digits) := by
  unfold ParseOK; infer_instance

theorem optAll_some {α} (a : α) (P : α → Prop) : optAll (some a) P ↔ P a := Iff.rfl

theorem optAll_iff {α} (o : Option α) (P : α → Prop) : optAll o P ↔ ∀ a, o = some a → P a := by
  cases o with
  | none => exact ⟨fun _ _ h => (nomatch h), fun _ => trivial⟩
  | some b => exact ⟨fun h a e => Option.some.inj e ▸ h, fun h => h b rfl⟩

theorem parseOK_iff {i : Str} {sep : Char} {digits : Nat} : ParseOK i sep digits ↔
    ∀ p q, msPart i sep digits = some p → hmsPart p.2 = some q → CombineOK p.1.1 p.1.2 q.1 q.2.1 q.2.2 := by
  unfold ParseOK
  simp only [optAll_iff]
  exact ⟨fun h p q hp hq => h p hp q hq, fun h p hp q hq => h p q hp hq⟩

theorem parseOK_of_parts {i : Str} {sep : Char} {digits : Nat} {p : (Int × Nat) × Str} {q : Int × Int × Int}
    (hp : msPart i sep digits = some p) (hq : hmsPart p.2 = some q)
    (ok : CombineOK p.1.1 p.1.2 q.1 q.2.1 q.2.2) : ParseOK i sep digits := by
  unfold ParseOK
  rw [hp, optAll_some, hq, optAll_some]
  exact ok

theorem parseW_eq (i : Str) (sep : Char) (digits : Nat) (ok : ParseOK i sep digits) :
    parseW i sep digits = parse i sep digits := by
  rw [parse_eq]
  unfold parseW
  cases hm : msPart i sep digits with
  | none => rfl
  | some p =>
    simp only [Option.bind_some]
    cases hq : hmsPart p.2 with
    | none => rfl
    | some q =>
      simp only [Option.map_some]
      rw [combineW_eq (parseOK_iff.mp ok p q hm hq)]

theorem pow10_fits {k : Nat} (hk : k ≤ 18) : fits64 ((10 : Int) ^ k) := by
  have h1 : (10 : Nat) ^ k ≤ 10 ^ 18 := Nat.pow_le_pow_right (by decide) hk
  have h2 : (0 : Nat) < 10 ^ k := Nat.pow_pos (by decide)
  have e : (10 : Int) ^ k = ((10 ^ k : Nat) : Int) := by rw [Int.natCast_pow]; rfl
  have : (10 : Nat) ^ 18 = 1000000000000000000 := by decide
  rw [e]; unfold fits64
  omega

theorem combineOK_clock {ms : Int} {k : Nat} {sec min h : Int}
    (hk : k ≤ 18) (hms : -999 ≤ ms * (10 : Int) ^ k ∧ ms * (10 : Int) ^ k ≤ 999)
    (hsec : 0 ≤ sec ∧ sec ≤ 59) (hmin : 0 ≤ min ∧ min ≤ 59) (hh : 0 ≤ h ∧ h ≤ 2562046) :
    CombineOK ms k sec min h := by
  refine ⟨pow10_fits hk, ?_⟩
  generalize ms * (10 : Int) ^ k = m at *
  unfold fits64
  omega

/-- the same with any sign, seconds / minutes garbage up to ±10⁶ and hours up to ±2 000 000:
    `strconv.Atoi` accepts `-5` or `99999` in any field; the sum still fits -/
theorem combineOK_wide {ms : Int} {k : Nat} {sec min h : Int}
    (hk : k ≤ 18) (hms : -999 ≤ ms * (10 : Int) ^ k ∧ ms * (10 : Int) ^ k ≤ 999)
    (hsec : -1000000 ≤ sec ∧ sec ≤ 1000000) (hmin : -1000000 ≤ min ∧ min ≤ 1000000)
    (hh : -2000000 ≤ h ∧ h ≤ 2000000) :
    CombineOK ms k sec min h := by
  refine ⟨pow10_fits hk, ?_⟩
  generalize ms * (10 : Int) ^ k = m at *
  unfold fits64
  omega

/-- non-vacuity and sharpness on fields: `2562046:59:59.999` is in range; at `2562047:59:59.999`
    the last addition wraps; at 2 562 048 hours the hour product itself wraps -/
example : CombineOK 999 0 59 59 2562046 := by decide
example : ¬ CombineOK 999 0 59 59 2562047 ∧
    combineW (scaleW 999 0) 59 59 2562047 ≠ combine 999 59 59 2562047 := by decide

example : CombineOK 0 0 0 0 2562047 ∧ ¬ CombineOK 0 0 0 0 2562048 ∧
    combineW 0 0 0 2562048 ≠ combine 0 0 0 2562048 := by decide

/-- with three fraction digits (every caller) the scaled fraction is always within ±999 ms -/
theorem msPart_bound {i : Str} {sep : Char} {p : (Int × Nat) × Str} (h : msPart i sep 3 = some p) :
    p.1.2 ≤ 3 ∧ -999 ≤ p.1.1 * (10 : Int) ^ p.1.2 ∧ p.1.1 * (10 : Int) ^ p.1.2 ≤ 999 := by
  unfold msPart at h
  dsimp only at h
  split at h
  · split at h
    · cases h
    · rename_i hlen
      cases ha : atoi (trimSpace ((splitC sep i).getLast?.getD [])) with
      | none => rw [ha] at h; cases h
      | some ms =>
        rw [ha] at h
        have hb := atoi_natAbs_lt ha
        cases h
        dsimp only
        generalize (trimSpace ((splitC sep i).getLast?.getD [])).length = len at *
        -- `|ms| < 10^len` and `len ≤ 3`, so `|ms| · 10^(3 - len) < 10³`
        have h3 := Nat.mul_lt_mul_of_pos_right hb (Nat.pow_pos (n := 3 - len) (by decide : 0 < 10))
        rw [← Nat.pow_add, Nat.add_sub_cancel' (by omega)] at h3
        have e : (ms * (10 : Int) ^ (3 - len)).natAbs = ms.natAbs * 10 ^ (3 - len) := by
          rw [Int.natAbs_mul, Int.natAbs_pow]; rfl
        omega
  · cases h
    dsimp only
    exact ⟨by decide, by decide, by decide⟩

example : ParseOK "2562046:59:59.999".toList '.' 3 := by decide_vector
example : parseW "01:02:03.5".toList '.' 3 = some 3723500000000 := by decide_vector
/-- one hour more and the text is parsed to a negative duration by the `int64` evaluation -/
example : parseW "2562047:59:59.999".toList '.' 3 = some (-9223371273710551616) ∧
    parse "2562047:59:59.999".toList '.' 3 = some 9223372799999000000 := by decide_vector

def parseSRTW (i : Str) : Option Int :=
  match parseW i ',' 3 with
  | some d => some d
  | none => parseW i '.' 3

def parseSSAW (i : Str) : Option Int := parseW i '.' 3
def parseVTTW (i : Str) : Option Int := parseW i '.' 3

/-- the integer part of `formatDuration` with Go's truncated `/`, `%` on `int64`
    (`hours = int(i / time.Hour)`, `n = i % time.Hour`, `minutes = int(n / time.Minute)`,
    `n = i % time.Minute`, …). The fraction goes through `float64`; its integer formula is the
    subject of `Props/C16float`, not of overflow. -/
def formatW (t : Int) (sep : Char) (digits : Nat) : Str :=
  let h := wdiv t nsPerH
  let m := wdiv (wmod t nsPerH) nsPerMin
  let s := wdiv (wmod t nsPerMin) nsPerS
  let n := wmod t nsPerS
  let frac := n.toNat / 1000000 / 10 ^ (3 - digits)
  pad2 h.toNat ++ ':' :: pad2 m.toNat ++ ':' :: pad2 s.toNat ++ sep :: padLeft0 digits (itoaNat frac)

example : fits64 359999999999999 ∧ (0 : Int) ≤ 359999999999999 := by decide

/-- `stlFramesToDuration`: `time.Duration((1e9*frames + framerate - 1) / framerate) * time.Nanosecond`
    in `int` / `int64` (unrepaired variant, `ceil = false`: `1e9*frames / framerate`) -/
def framesToNsW (ceil : Bool) (f : Int) (fr : Int) : Int :=
  if ceil then wmul (wdiv (wsub (wadd (wmul 1000000000 f) fr) 1) fr) 1
  else wmul (wdiv (wmul 1000000000 f) fr) 1

/-- exact range condition of the frame conversion (Go panics on `framerate = 0`; a negative rate is
    not a frame rate) -/
def FramesOK (f fr : Int) : Prop :=
  0 < fr ∧ fits64 (1000000000 * f) ∧ fits64 (1000000000 * f + fr) ∧ fits64 (1000000000 * f + fr - 1)

instance (f fr : Int) : Decidable (FramesOK f fr) := by unfold FramesOK; infer_instance

theorem framesToNsW_eq (ceil : Bool) {f fr : Int} (ok : FramesOK f fr) :
    framesToNsW ceil f fr = framesToNs ceil f fr := by
  obtain ⟨h0, h1, h2, h3⟩ := ok
  unfold framesToNsW framesToNs
  rw [wmul_eq h1, wadd_eq h2, wsub_eq h3, wdiv_eq h3 h0, wdiv_eq h1 h0,
    wmul_one (fits64_tdiv h3 h0), wmul_one (fits64_tdiv h1 h0)]

/-- frame counts up to ±2^31 at a rate up to 2^31 are in range (a field has two digits, a rate is 25 or 30) -/
theorem framesOK_of_small {f fr : Int} (hf : -2147483648 ≤ f ∧ f ≤ 2147483648) (hr : 0 < fr ∧ fr ≤ 2147483648) :
    FramesOK f fr := by
  unfold FramesOK fits64; omega

example : FramesOK 24 25 ∧ FramesOK 29 30 := by decide
/-- the bound cannot be dropped: ten thousand million frames overflow the product -/
example : framesToNsW false 10000000000 25 ≠ framesToNs false 10000000000 25 := by decide

theorem framesToNs_bounds (ceil : Bool) {f fr : Int} (hf : -9 ≤ f ∧ f ≤ 255) (hr : 0 < fr ∧ fr ≤ 2147483648) :
    -9000000000 ≤ framesToNs ceil f fr ∧ framesToNs ceil f fr ≤ 255000000000 + 2147483648 := by
  unfold framesToNs
  have b1 := tdiv_bounds (a := 1000000000 * f + fr - 1) hr.1
  have b2 := tdiv_bounds (a := 1000000000 * f) hr.1
  split <;> omega

/-- the sum of `parseDurationSTL` in `int64` -/
def stlCombineW (ceil : Bool) (h m s f fr : Int) : Int :=
  wadd (wadd (wadd (wmul h nsPerH) (wmul m nsPerMin)) (wmul s nsPerS)) (framesToNsW ceil f fr)

theorem stlCombineW_eq (ceil : Bool) {h m s f fr : Int}
    (hh : -9 ≤ h ∧ h ≤ 255) (hm : -9 ≤ m ∧ m ≤ 255) (hs : -9 ≤ s ∧ s ≤ 255) (hf : -9 ≤ f ∧ f ≤ 255)
    (hr : 0 < fr ∧ fr ≤ 2147483648) :
    stlCombineW ceil h m s f fr = h * nsPerH + m * nsPerMin + s * nsPerS + framesToNs ceil f fr := by
  have ok : FramesOK f fr := framesOK_of_small (by omega) hr
  have b := framesToNs_bounds ceil hf hr
  unfold stlCombineW
  rw [framesToNsW_eq ceil ok]
  generalize framesToNs ceil f fr = F at *
  unfold nsPerH nsPerMin nsPerS
  rw [wmul_eq (a := h), wmul_eq (a := m), wmul_eq (a := s), wadd_eq (b := m * 60000000000),
    wadd_eq (b := s * 1000000000), wadd_eq]
  all_goals (unfold fits64; omega)

/-- `parseDurationSTL` in `int64` -/
def parseSTLW (ceil : Bool) (i : Str) (fr : Int) : Option Int :=
  match atoi (i.take 2), atoi ((i.drop 2).take 2), atoi ((i.drop 4).take 2), atoi ((i.drop 6).take 2) with
  | some h, some m, some s, some f => some (stlCombineW ceil h m s f fr)
  | _, _, _, _ => none

/-- a field of at most two characters is a number in `[-9, 255]` (the range the byte fields share) -/
theorem atoi_take2 {s : Str} {x : Int} (h : atoi (s.take 2) = some x) : -9 ≤ x ∧ x ≤ 255 := by
  obtain ⟨r, v, hp, hv, hl, hneg⟩ := atoi_inv h
  have hl2 : (s.take 2).length ≤ 2 := by simp [List.length_take]; omega
  have hlt := parseDigits_lt hp
  by_cases hx : x < 0
  · have := Nat.pow_le_pow_right (n := 10) (by decide) (show r.length ≤ 1 by have := hneg hx; omega)
    omega
  · have := Nat.pow_le_pow_right (n := 10) (by decide) (Nat.le_trans hl hl2)
    omega

/-- `parseDurationSTLBytes` in `int64` -/
def parseSTLBytesW (ceil : Bool) (b : List Nat) (fr : Int) : Int :=
  match b with
  | [h, m, s, f] => stlCombineW ceil (h : Int) (m : Int) (s : Int) (f : Int) fr
  | _ => 0

/-- the four operands are bytes -/
def BytesOK (b : List Nat) : Prop := ∀ x ∈ b, x < 256

instance (b : List Nat) : Decidable (BytesOK b) := by unfold BytesOK; infer_instance

example : BytesOK [23, 59, 59, 24] := by decide

/-- the integer steps of `formatDurationSTL` / `formatDurationSTLBytes` in `int64`: the deltas
    `int(math.Floor(d.Hours()))` … are the integer quotients (that is `Props/C16float`), the chain
    `d -= Duration(delta) * unit` and `int(d.Nanoseconds()) * framerate / 1e9` are evaluated here -/
def stlFieldsW (t : Int) (fr : Int) : Int × Int × Int × Int :=
  let h := wdiv t nsPerH
  let d1 := wsub t (wmul h nsPerH)
  let m := wdiv d1 nsPerMin
  let d2 := wsub d1 (wmul m nsPerMin)
  let s := wdiv d2 nsPerS
  let d3 := wsub d2 (wmul s nsPerS)
  let f := wdiv (wmul d3 fr) 1000000000
  (h, m, s, f)

/-- the fields the integer model of the STL formatters uses -/
def stlFields (t : Int) (fr : Nat) : Nat × Nat × Nat × Nat :=
  let n := t.toNat
  (n / 3600000000000, n % 3600000000000 / 60000000000, n % 60000000000 / 1000000000,
   n % 1000000000 * fr / 1000000000)

theorem formatSTLBytes_fields (t : Int) (fr : Nat) :
    formatSTLBytes t fr = [(stlFields t fr).1 % 256, (stlFields t fr).2.1, (stlFields t fr).2.2.1,
      (stlFields t fr).2.2.2] := rfl

theorem formatSTL_fields (t : Int) (fr : Nat) :
    formatSTL t fr = pad2 (stlFields t fr).1 ++ pad2 (stlFields t fr).2.1 ++ pad2 (stlFields t fr).2.2.1
      ++ pad2 (stlFields t fr).2.2.2 := rfl

/-- one step `delta := d / U; d -= delta * U` of the chain, for `0 ≤ d`: the quotient, the
    product `delta * U ≤ d` and the difference are all between 0 and `d`; what is left is `d % U` -/
theorem wstep {N U : Int} (h0 : 0 ≤ N) (hN : fits64 N) (hU : 0 < U) :
    wdiv N U = N / U ∧ wsub N (wmul (wdiv N U) U) = N % U ∧ 0 ≤ N % U ∧ fits64 (N % U) := by
  have hm : N / U * U ≤ N := Int.ediv_mul_le N (Int.ne_of_gt hU)
  have hq : 0 ≤ N / U * U := Int.mul_nonneg (Int.ediv_nonneg h0 (Int.le_of_lt hU)) (Int.le_of_lt hU)
  have hr : N - N / U * U = N % U := by rw [Int.emod_def, Int.mul_comm]
  have hr0 : 0 ≤ N % U := Int.emod_nonneg N (Int.ne_of_gt hU)
  unfold fits64 at hN
  rw [wdiv_eq (by unfold fits64; omega) hU, Int.tdiv_eq_ediv_of_nonneg h0,
    wmul_eq (by unfold fits64; omega), wsub_eq (by unfold fits64; omega), hr]
  exact ⟨rfl, rfl, hr0, by unfold fits64; omega⟩

/-- `int(d.Nanoseconds()) * framerate / 1e9` for a remainder below a second -/
theorem wframe {R fr : Int} (h0 : 0 ≤ R) (hR : R < 1000000000) (hf0 : 0 ≤ fr) (hfr : fr ≤ 8589934592) :
    wdiv (wmul R fr) 1000000000 = R * fr / 1000000000 := by
  have hp0 : 0 ≤ R * fr := Int.mul_nonneg h0 hf0
  have hp1 : R * fr ≤ 999999999 * 8589934592 := Int.mul_le_mul (by omega) hfr hf0 (by decide)
  rw [wmul_eq (by unfold fits64; omega), wdiv_eq (by unfold fits64; omega) (by decide),
    Int.tdiv_eq_ediv_of_nonneg hp0]

example : fits64 86399999999999 ∧ (0 : Int) ≤ 86399999999999 ∧ (30 : Nat) ≤ 8589934592 := by decide

/-- the rate bound cannot be dropped: at 2^34 frames per second the product `rem * framerate` wraps -/
example : (stlFieldsW 999999999 17179869184).2.2.2 ≠ ((stlFields 999999999 17179869184).2.2.2 : Int) := by
  decide

/-! Every rendering of the writer up to 2 562 046 hours is in range, so the round trip of `Props/C16` also holds when the
writer's `/`, `%` and the reader's products and sums are evaluated in wrap-around `int64`. -/

/-- a clock text (fields of any width, one to three fraction digits, white space around) is parsed without wrap-around as
    soon as its sum is in range; the fraction is within ±999 ms whatever its digits.  `combineOK_clock` gives the range for
    minutes and seconds up to 59 and hours up to 2 562 046, `combineOK_wide` for sloppy fields. -/
theorem parseOK_clock {x f w1 w2 : Str} {H M S F : Nat} {sep : Char} (hsep : sep = '.' ∨ sep = ',')
    (hx : Clock.HMS x H M S) (hH : H ≤ int64Max) (hM : M ≤ int64Max) (hS : S ≤ int64Max) (hf : Numeral f F)
    (hl : f.length ≤ 3) (h1 : ∀ c ∈ w1, isSpace c = true) (h2 : ∀ c ∈ w2, isSpace c = true)
    (ok : -999 ≤ (F : Int) * (10 : Int) ^ (3 - f.length) ∧ (F : Int) * (10 : Int) ^ (3 - f.length) ≤ 999 →
      CombineOK (F : Int) (3 - f.length) (S : Int) (M : Int) (H : Int)) :
    ParseOK (w1 ++ x ++ sep :: (f ++ w2)) sep 3 := by
  have hp := msPart_frac hsep (sep_not_mem_pad hsep hx h1) hf hl h2 3
  have hq := hmsPart_pad hx hH hM hS h1 (w2 := []) (fun _ h => nomatch h)
  rw [List.append_nil] at hq
  exact parseOK_of_parts hp hq (ok (msPart_bound hp).2)

/-- **What the writer prints never wraps in the reader**, for every instant of at most 2 562 046 hours (the sharp bound of
    `combineOK_clock`, `Props/C09ovf.parse_hours_sharp`): `format` prints a clock text (`C16.format_eq`) with minutes and seconds
    below 60.  `fr` is the printed fraction as a field of `d ≤ 3` digits, as in `C16.parse_format_any`. -/
theorem parseOK_format (n : Nat) (sep : Char) (hsep : sep = '.' ∨ sep = ',') (d : Nat) {fr : Str}
    (hfr : Numeral fr (n % 1000000000 / 1000000 / 10 ^ (3 - d))) (hl : fr.length = d) (hd : d ≤ 3)
    (he : padLeft0 d (itoaNat (n % 1000000000 / 1000000 / 10 ^ (3 - d))) = fr)
    (h1 : n / 3600000000000 ≤ 2562046) :
    ParseOK (Duration.format (n : Int) sep d) sep 3 := by
  have := parseOK_clock (w1 := []) (w2 := []) hsep
    (C16.hms_pad2 (n / 3600000000000) (M := n % 3600000000000 / 60000000000) (S := n % 60000000000 / 1000000000)
      (by omega) (by omega)) (by unfold int64Max; omega) (C16.le64 (by omega)) (C16.le64 (by omega)) hfr (by omega)
    (fun _ h => nomatch h) (fun _ h => nomatch h)
    fun hb => combineOK_clock (by omega) hb (by omega) (by omega) (by omega)
  rwa [List.append_nil, ← he, List.nil_append, ← C16.format_eq] at this

end Ovf
end Astisub
