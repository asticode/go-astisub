import Astisub.Lemmas.TTMLRead2Step

/-!
# Lemmas/TTMLRead2Dec — the independent decoder inside one `<p>`

`Spec.TTML.step` is a state machine over the tokens of the document.  Here: every token list on which it runs from
the start tag of a paragraph to a finished document has the shape `ParaBody r its` (`TTMLRead2Defs`) up to the end
tag of the paragraph, and the cue it appends there has the lines `semP mkTG mkSG its`.
-/

namespace Astisub
namespace TTMLR
open Go TTML
open Spec.TTML (St PState Tok step run GRun hasNL allSpace ref? styling)

open Driver.TTMLD (specToks)

/-- what the class guarantees for the items of a paragraph, and what the decoder checked -/
def good (its : List PItem) : Prop :=
  (∀ a segs, PItem.span a segs ∈ its →
    (ref? a "style").isSome = true ∧ (styling a).isSome = true ∧ a.all attrFits = true) ∧
  (∀ a, PItem.br a ∈ its → a.all attrFits = true ∧ brFits a = true)

theorem good_nil : good [] := ⟨fun _ _ h => absurd h List.not_mem_nil, fun _ h => absurd h List.not_mem_nil⟩

theorem good_text {s : Str} {its : List PItem} (h : good its) : good (.text s :: its) := by
  refine ⟨fun a segs hm => ?_, fun a hm => ?_⟩
  · cases hm with
    | tail _ hm => exact h.1 a segs hm
  · cases hm with
    | tail _ hm => exact h.2 a hm

theorem good_br {a : List XAttr} {its : List PItem} (h : good its) (h1 : a.all attrFits = true) (h2 : brFits a = true) :
    good (.br a :: its) := by
  refine ⟨fun a' segs hm => ?_, fun a' hm => ?_⟩
  · cases hm with
    | tail _ hm => exact h.1 a' segs hm
  · cases hm with
    | head => exact ⟨h1, h2⟩
    | tail _ hm => exact h.2 a' hm

theorem good_span {a : List XAttr} {segs : List Str} {its : List PItem} (h : good its)
    (h1 : (ref? a "style").isSome = true) (h2 : (styling a).isSome = true) (h3 : a.all attrFits = true) :
    good (.span a segs :: its) := by
  refine ⟨fun a' segs' hm => ?_, fun a' hm => ?_⟩
  · cases hm with
    | head => exact ⟨h1, h2, h3⟩
    | tail _ hm => exact h.1 a' segs' hm
  · cases hm with
    | tail _ hm => exact h.2 a' hm

/-- from a state directly inside `<p>` with lines `dc`: the rest of the paragraph is grammatical, and the decoder
    goes on after its end tag with the cue appended -/
def TopConcl (T : List XTok) (base : St) (p : PState) (dc : List (List GRun) × List GRun) (stF : St) : Prop :=
  ∃ r R its, T = r ++ R ∧ ParaBody r its ∧ good its ∧
    run (specToks R) (closeP base p (semP mkTG mkSG its dc)) = some stF

/-- the text collected so far in the open segment of a span, put in front of the segments still to come -/
def glue (seg : Str) : List Str → List Str
  | [] => [seg]
  | s :: r => (seg ++ s) :: r

/-- the same from a state inside a `span` (style `sty`, attributes `sa`, open segment `p.seg`): the rest of the span is
    grammatical with segments `segs`, and after it the paragraph goes on as `TopConcl` with the span's runs entered -/
def SpanConcl (T : List XTok) (base : St) (p : PState) (sty : Option Str) (sa : Spec.TTML.AttrL) (stF : St) : Prop :=
  ∃ b T' segs, T = b ++ T' ∧ SpanBody b segs ∧
    TopConcl T' base p (spanFin (mkG sty sa) p.done p.cur (glue p.seg segs)) stF

theorem spanFin_cons {α : Type} (mk : Str → α) (d : List (List α)) (c : List α) (s : Str) (segs : List Str)
    (hne : segs ≠ []) : spanFin mk d c (s :: segs) = spanFin mk (d ++ [c ++ [mk s]]) [] segs := by
  cases segs with
  | nil => exact absurd rfl hne
  | cons y ys =>
    cases ys with
    | nil => simp [spanFin]
    | cons z zs =>
      simp only [spanFin]
      cases h : (z :: zs).getLast? with
      | none => simp at h
      | some l => simp [h, List.dropLast]

theorem spanBody_ne {b : List XTok} {segs : List Str} (h : SpanBody b segs) : segs ≠ [] := by
  induction h with
  | stop => simp
  | other _ ih => exact ih
  | text _ _ _ => simp
  | br _ _ _ => simp

theorem glue_nil {segs : List Str} (h : segs ≠ []) : glue [] segs = segs := by
  cases segs with
  | nil => exact absurd rfl h
  | cons _ _ => rfl

theorem fits_cons {t : XTok} {T : List XTok} (h : (t :: T).all tokFits = true) :
    tokFits t = true ∧ T.all tokFits = true := by
  simpa using h

theorem run_nil_inP {base : St} {pre : List Str} {p : PState} {stF : St}
    (h : run (specToks []) (inP base pre p) = some stF) (hf : stF.finished = true) : False := by
  have : stF = inP base pre p := by simpa [specToks, run] using h.symm
  rw [this] at hf
  simp [inP] at hf

theorem run_br (T : List XTok) : ∀ (base : St) (n : Str) (pre : List Str) (p : PState) (stF : St),
    p.inBr = true → base.path ≠ [] → T.all tokFits = true →
    run (specToks T) (inP base (n :: pre) p) = some stF → stF.finished = true →
    ∃ b T', T = b ++ T' ∧ BrBody b ∧ T'.all tokFits = true ∧
      run (specToks T') (inP base pre { p with inBr := false }) = some stF := by
  induction T with
  | nil => exact fun _ _ _ _ _ _ _ _ h hf => (run_nil_inP h hf).elim
  | cons t T ih =>
    intro base n pre p stF hb hne hfit hrun hfin
    obtain ⟨_, hfT⟩ := fits_cons hfit
    cases t with
    | other =>
      rw [specToks_other, run_cons, step_other_any] at hrun
      obtain ⟨b, T', e, hbb, hr⟩ := ih base n pre p stF hb hne hfT hrun hfin
      exact ⟨.other :: b, T', by rw [e]; rfl, .other hbb, hr⟩
    | text s => rw [specToks_text, run_cons, step_br_text base _ p hb] at hrun; cases hrun
    | start sp n' a => rw [specToks_start, run_cons, step_br_start base _ p hb] at hrun; cases hrun
    | stop sp n' =>
      rw [specToks_stop, run_cons, step_br_stop base n pre p hb hne] at hrun
      exact ⟨[.stop sp n'], T, rfl, .stop sp n', hfT, hrun⟩

/-- **The decoder inside a paragraph.**  Whenever it runs from inside `<p>` to a finished document, the tokens up to the
    end tag of the paragraph are grammatical (`ParaBody r its`), and the cue appended has the lines `semP mkTG mkSG its`
    entered into the lines the state held — from a state directly in `<p>` (first part), from inside a `span` (second).
    `Props/C03read.paragraph_shape` is the first part written out. -/
theorem paraBody_of_run (T : List XTok) :
    (∀ base p stF, p.span = none → p.inBr = false → base.path.length = 4 → T.all tokFits = true →
      run (specToks T) (inP base [] p) = some stF → stF.finished = true → TopConcl T base p (p.done, p.cur) stF) ∧
    (∀ base n p sty sa stF, p.span = some (sty, sa) → p.inBr = false → base.path.length = 4 → T.all tokFits = true →
      run (specToks T) (inP base [n] p) = some stF → stF.finished = true → SpanConcl T base p sty sa stF) := by
  -- a `br` is crossed in one go (`run_br`), so the induction is on the length
  induction hk : T.length using Nat.strongRecOn generalizing T with
  | _ k ih =>
  cases T with
  | nil =>
    exact ⟨fun _ _ _ _ _ _ _ h hf => (run_nil_inP h hf).elim, fun _ _ _ _ _ _ _ _ _ _ h hf => (run_nil_inP h hf).elim⟩
  | cons t T =>
    subst hk
    obtain ⟨ihTop, ihSpan⟩ := ih T.length (Nat.lt_succ_self _) T rfl
    have ihRest : ∀ {b T' : List XTok}, T = b ++ T' → _ := fun {b T'} e =>
      ih T'.length (by rw [e, List.length_cons, List.length_append]; omega) T' rfl
    have hne : ∀ base : St, base.path.length = 4 → base.path ≠ [] := by
      intro base h e; rw [e] at h; simp at h
    refine ⟨?_, ?_⟩
    · intro base p stF hs hb hl hfit hrun hfin
      obtain ⟨hft, hfT⟩ := fits_cons hfit
      cases t with
      | other =>
        rw [specToks_other, run_cons, step_other_any] at hrun
        obtain ⟨r, R, its, e, hpb, hg, hr⟩ := ihTop base p stF hs hb hl hfT hrun hfin
        exact ⟨.other :: r, R, its, by rw [e]; rfl, .other hpb, hg, hr⟩
      | text s =>
        rw [specToks_text, run_cons, step_top_text base p hs hb] at hrun
        by_cases h1 : allSpace s = true
        · rw [if_pos h1] at hrun
          by_cases h2 : hasNL s = true
          · rw [if_pos h2] at hrun
            obtain ⟨r, R, its, e, hpb, hg, hr⟩ := ihTop base p stF hs hb hl hfT hrun hfin
            exact ⟨.text s :: r, R, its, by rw [e]; rfl, .ws h1 hpb, hg, hr⟩
          · rw [if_neg h2] at hrun; cases hrun
        · rw [if_neg h1] at hrun
          by_cases h2 : hasNL s = true
          · rw [if_pos h2] at hrun; cases hrun
          · rw [if_neg h2] at hrun
            by_cases h3 : (p.done.isEmpty && p.cur.isEmpty && (s.head?.map isSpace).getD false) = true
            · rw [if_pos h3] at hrun; cases hrun
            · rw [if_neg h3] at hrun
              obtain ⟨r, R, its, e, hpb, hg, hr⟩ :=
                ihTop base { p with cur := p.cur ++ [mkTG s] } stF hs hb hl hfT hrun hfin
              exact ⟨.text s :: r, R, .text s :: its, by rw [e]; rfl,
                .text (by simpa using h1) (by simpa using h2) hpb, good_text hg, hr⟩
      | stop sp n =>
        rw [specToks_stop, run_cons, step_top_stop base p hs hb hl] at hrun
        exact ⟨[.stop sp n], T, [], rfl, .stop sp n, good_nil, hrun⟩
      | start sp n a =>
        rw [specToks_start, run_cons, step_top_start base p hs hb hl] at hrun
        have hfa : a.all attrFits = true ∧ ((n != "br".toList) = true ∨ brFits a = true) := by
          simpa [tokFits] using hft
        by_cases h1 : nlAttr a = true
        · rw [if_pos h1] at hrun; cases hrun
        · rw [if_neg h1] at hrun
          by_cases h2 : n = "br".toList
          · rw [if_pos h2] at hrun
            obtain ⟨b, T', e, hbb, hfT', hrun'⟩ :=
              run_br T base n [] { p with done := p.done ++ [p.cur], cur := [], inBr := true } stF rfl (hne base hl)
                hfT hrun hfin
            obtain ⟨r, R, its, e', hpb, hg, hr⟩ := (ihRest e).1 base { p with done := p.done ++ [p.cur], cur := [], inBr := false } stF hs rfl hl hfT' hrun' hfin
            have hbf : brFits a = true := by
              rcases hfa.2 with h | h
              · simp [h2] at h
              · exact h
            refine ⟨.start sp n a :: b ++ r, R, .br a :: its, ?_, ?_, good_br hg hfa.1 hbf, hr⟩
            · rw [e, e']; simp
            · rw [h2]; exact .br hbb hpb
          · rw [if_neg h2] at hrun
            by_cases h3 : n = "span".toList
            · rw [if_pos h3] at hrun
              cases hr1 : ref? a "style" with
              | none => rw [hr1] at hrun; cases hrun
              | some sty =>
                cases hr2 : styling a with
                | none => rw [hr1, hr2] at hrun; cases hrun
                | some sa =>
                  rw [hr1, hr2] at hrun
                  obtain ⟨b, T', segs, e, hsb, r, R, its, e', hpb, hg, hr⟩ :=
                    ihSpan base n { p with span := some (sty, sa), seg := [] } sty sa stF rfl hb hl hfT hrun hfin
                  refine ⟨.start sp n a :: b ++ r, R, .span a segs :: its, ?_, ?_,
                    good_span hg (by rw [hr1]; rfl) (by rw [hr2]; rfl) hfa.1, ?_⟩
                  · rw [e, e']; simp
                  · rw [h3]; exact .span hsb hpb
                  · have hm : mkSG a = mkG sty sa := by
                      funext s; simp [mkSG, mkG, hr1, hr2]
                    simp only [semP, hm]
                    rwa [glue_nil (spanBody_ne hsb)] at hr
            · rw [if_neg h3] at hrun; cases hrun
    · intro base n p sty sa stF hs hb hl hfit hrun hfin
      obtain ⟨hft, hfT⟩ := fits_cons hfit
      cases t with
      | other =>
        rw [specToks_other, run_cons, step_other_any] at hrun
        obtain ⟨b, T', segs, e, hsb, hc⟩ := ihSpan base n p sty sa stF hs hb hl hfT hrun hfin
        exact ⟨.other :: b, T', segs, by rw [e]; rfl, .other hsb, hc⟩
      | text s =>
        rw [specToks_text, run_cons, step_span_text base _ p sty sa hs hb] at hrun
        by_cases h2 : hasNL s = true
        · rw [if_pos h2] at hrun; cases hrun
        · rw [if_neg h2] at hrun
          obtain ⟨b, T', segs, e, hsb, hc⟩ :=
            ihSpan base n { p with seg := p.seg ++ s } sty sa stF hs hb hl hfT hrun hfin
          cases segs with
          | nil => exact absurd rfl (spanBody_ne hsb)
          | cons x xs =>
            refine ⟨.text s :: b, T', (s ++ x) :: xs, by rw [e]; rfl, .text (by simpa using h2) hsb, ?_⟩
            have hc' : TopConcl T' base p (spanFin (mkG sty sa) p.done p.cur (glue (p.seg ++ s) (x :: xs))) stF := hc
            simpa [glue, List.append_assoc] using hc'
      | start sp n' a =>
        rw [specToks_start, run_cons, step_span_start base _ p sty sa hs hb] at hrun
        by_cases h1 : nlAttr a = true
        · rw [if_pos h1] at hrun; cases hrun
        · rw [if_neg h1] at hrun
          by_cases h2 : n' = "br".toList
          · rw [if_pos h2] at hrun
            obtain ⟨b, T', e, hbb, hfT', hrun'⟩ :=
              run_br T base n' [n]
                { p with done := p.done ++ [p.cur ++ [mkG sty sa p.seg]], cur := [], seg := [], inBr := true } stF rfl
                (hne base hl) hfT hrun hfin
            obtain ⟨b2, T2, segs, e2, hsb, hc⟩ := (ihRest e).2 base n
              { p with done := p.done ++ [p.cur ++ [mkG sty sa p.seg]], cur := [], seg := [], inBr := false } sty sa stF hs rfl hl
              hfT' hrun' hfin
            refine ⟨.start sp n' a :: b ++ b2, T2, [] :: segs, ?_, ?_, ?_⟩
            · rw [e, e2]; simp
            · rw [h2]; exact .br hbb hsb
            · simp only [glue, List.append_nil]
              rw [spanFin_cons _ _ _ _ _ (spanBody_ne hsb)]
              rwa [glue_nil (spanBody_ne hsb)] at hc
          · rw [if_neg h2] at hrun; cases hrun
      | stop sp n' =>
        rw [specToks_stop, run_cons, step_span_stop base n [] p sty sa hs hb (hne base hl)] at hrun
        have := ihTop base { p with cur := p.cur ++ [mkG sty sa p.seg], span := none, seg := [] } stF rfl hb hl hfT hrun hfin
        refine ⟨[.stop sp n'], T, [[]], rfl, .stop sp n', ?_⟩
        have this' : TopConcl T base p (p.done, p.cur ++ [mkG sty sa p.seg]) stF := this
        simpa [glue, spanFin] using this'

end TTMLR
end Astisub
