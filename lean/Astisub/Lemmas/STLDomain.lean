import Astisub.Lemmas.STLFile

/-!
# Lemmas/STLDomain — repertoire text lies in the modelled domain of `norm.NFD`, so the writer model
answers (`write … = .ok …`) for every input with non-negative times and text inside that domain (`write_answers`);
an answer means at least that there was a cue and the programme start is not negative (`write_ok_inv`)
-/

namespace Astisub
namespace C05
open Go STL

/-- the unit starts with a starter, decomposes into at most 21 characters (the starter and the 20 non-starters
    `inDomain` allows in a row), all inside the modelled range -/
structure domGood (u : Unit) : Prop where
  starter : startsStarter u.text = true
  len : (u.text.flatMap decomp).length ≤ 21
  range : u.text.all (· < Generated.STL.domainMax) = true

/-- a text of at most 5 characters (each decomposes into at most 4, `nfd_table_len`: 20 in all) inside the modelled range -/
def small (t : List Nat) : Prop := t.length ≤ 5 ∧ t.all (· < Generated.STL.domainMax) = true

instance (t : List Nat) : Decidable (small t) := by unfold small; infer_instance

theorem nfd_table_len : ∀ e ∈ Generated.STL.nfd, e.2.length ≤ 4 := by decide +kernel

theorem decomp_len (c : Nat) : (decomp c).length ≤ 4 := by
  unfold decomp
  split
  · simp
  · cases h : Generated.STL.nfd.lookup c with
    | none => simp
    | some v => exact nfd_table_len _ (List.mem_of_lookup_eq_some h)

theorem flatMap_decomp_len (t : List Nat) : (t.flatMap decomp).length ≤ 4 * t.length := by
  induction t with
  | nil => simp
  | cons c cs ih =>
    have := decomp_len c
    simp only [List.flatMap_cons, List.length_append, List.length_cons]
    omega

theorem small_dom {u : Unit} (hs : startsStarter u.text = true) (h : small u.text) : domGood u :=
  ⟨hs, by have := flatMap_decomp_len u.text; have := h.1; omega, h.2⟩

theorem table_small : ∀ e ∈ Generated.STL.cct12336, e.2.length ≤ 2 ∧ small e.2 := by decide +kernel
theorem pairs_small : ∀ e ∈ Generated.STL.nfcPairs, small e.2.2 := by decide +kernel
theorem codes_small : ∀ c ∈ ctlCodes, small [c] := by decide

theorem tableGet_small (k : Nat) : ((tableGet k).getD []).length ≤ 2 ∧ small ((tableGet k).getD []) := by
  unfold tableGet
  cases h : Generated.STL.cct12336.lookup k with
  | none => decide
  | some v => exact table_small _ (List.mem_of_lookup_eq_some h)

theorem small_append {a b : List Nat} (ha : a.length ≤ 2 ∧ small a) (hb : b.length ≤ 2 ∧ small b) : small (a ++ b) := by
  unfold small at *
  refine ⟨by rw [List.length_append]; omega, ?_⟩
  rw [List.all_append, ha.2.2, hb.2.2]; rfl

theorem nfcPair_small (k a : Nat) : small (nfcPair k a) := by
  unfold nfcPair
  cases h : Generated.STL.nfcPairs.find? fun e => e.1 == k && e.2.1 == a with
  | some e => exact pairs_small e (List.mem_of_find?_eq_some h)
  | none => exact small_append (tableGet_small k) (tableGet_small a)

theorem repUnit_dom {u : Unit} (h : RepUnit u) : domGood u := by
  have hg := repUnit_good h
  refine small_dom hg.starter ?_
  cases h with
  | ch e he => exact (table_small e (carried_table he)).2
  | acc a l ha hl => exact nfcPair_small l a

theorem code_dom (c : Nat) (h : c ∈ ctlCodes) : domGood (codeUnit c) :=
  small_dom (codeUnit_encGood c h).starter (codes_small c h)

theorem mmr_marks (m rest : List Nat) (cur best : Nat) (h1 : cur + m.length ≤ 20) (h2 : best ≤ 20) :
    ∃ cur' best', maxMarkRun (m ++ rest) cur best = maxMarkRun rest cur' best' ∧ cur' ≤ 20 ∧ best' ≤ 20 := by
  induction m generalizing cur best with
  | nil => exact ⟨cur, best, rfl, by simpa using h1, h2⟩
  | cons x xs ih =>
    simp only [List.length_cons] at h1
    simp only [List.cons_append, maxMarkRun]
    split
    · exact ih 0 (max cur best) (by omega) (by omega)
    · exact ih (cur + 1) best (by omega) h2

theorem mmr_units (us : List Unit) (h : ∀ u ∈ us, domGood u) (cur best : Nat) (hc : cur ≤ 20) (hb : best ≤ 20) :
    maxMarkRun (us.flatMap fun u => u.text.flatMap decomp) cur best ≤ 20 := by
  induction us generalizing cur best with
  | nil => simp only [List.flatMap_nil, maxMarkRun]; omega
  | cons u us ih =>
    have hs := (h u (by simp)).starter
    have hl := (h u (by simp)).len
    rw [List.flatMap_cons]
    unfold startsStarter at hs
    cases hd : u.text.flatMap decomp with
    | nil => rw [hd] at hs; cases hs
    | cons s m =>
      rw [hd] at hs hl
      have hs0 : (cccOf s == 0) = true := hs
      simp only [List.cons_append, maxMarkRun, hs0, if_true]
      obtain ⟨cur', best', e, h1, h2⟩ := mmr_marks m (us.flatMap fun u => u.text.flatMap decomp) 0 (max cur best)
        (by simp only [List.length_cons] at hl; omega) (by omega)
      rw [e]
      exact ih (fun v hv => h v (by simp [hv])) cur' best' h1 h2

theorem inDomain_units (us : List Unit) (h : ∀ u ∈ us, domGood u) : inDomain (us.flatMap (·.text)) = true := by
  unfold inDomain
  rw [Bool.and_eq_true]
  constructor
  · rw [List.all_flatMap]
    rw [List.all_eq_true]
    intro u hu
    exact (h u hu).range
  · rw [List.flatMap_assoc]
    simpa using mmr_units us h 0 0 (by omega) (by omega)

theorem allUnits_dom (r : RRun) (h : ∀ u ∈ r.units, RepUnit u) : ∀ u ∈ r.allUnits, domGood u := by
  intro u hu
  unfold RRun.allUnits at hu
  simp only [List.mem_append, List.mem_map] at hu
  rcases hu with ⟨c, hc, rfl⟩ | hu | ⟨c, hc, rfl⟩
  · exact code_dom c (isCode_ctl (r.preCodes_isCode c hc))
  · exact repUnit_dom (h u hu)
  · exact code_dom c (isCode_ctl (r.postCodes_isCode c hc))

theorem inDomain_rows (rows : List (List RRun)) (h : ∀ l ∈ rows, ∀ r ∈ l, ∀ u ∈ r.units, RepUnit u) :
    inDomain (rowsString rows) = true := by
  rw [← cueUnits_text]
  refine inDomain_units _ fun u hu => ?_
  rcases cueUnits_mem rows u hu with rfl | rfl | ⟨l, hl, r, hr, hu'⟩
  · exact code_dom _ (by decide)
  · exact repUnit_dom spaceU_rep
  · exact allUnits_dom r (h l hl r hr) u hu'

theorem write_answers (now : Date) (m : Meta) (ws : List WCue) (hne : ws ≠ []) (htcp : 0 ≤ m.tcp)
    (h : ∀ w ∈ ws, 0 ≤ w.startAt + m.tcp ∧ 0 ≤ w.endAt + m.tcp ∧ inDomain (cueString w) = true) :
    writeUnmodelled (some m) ws = false ∧ write now (some m) ws = .ok (writeBody now (some m) ws) := by
  have h1 : ws.isEmpty = false := by cases ws <;> simp_all
  have h2 : writeUnmodelled (some m) ws = false := by
    unfold writeUnmodelled
    rw [Bool.or_eq_false_iff]
    constructor
    · rw [List.any_eq_false]
      intro w hw
      obtain ⟨t1, t2, t3⟩ := h w hw
      simp only [Option.map_some, Option.getD_some, t3, Bool.not_true, Bool.or_false, Bool.or_eq_true, decide_eq_true_eq, not_or]
      omega
    · simp only [Option.any_some, decide_eq_false_iff_not]; omega
  exact ⟨h2, by unfold write; simp [h1, h2]⟩

theorem write_ok_inv {now : Date} {m : Meta} {ws : List WCue} {b : Bytes} (h : write now (some m) ws = .ok b) :
    ws ≠ [] ∧ 0 ≤ m.tcp := by
  unfold write at h
  split at h
  · cases h
  · rename_i hne
    split at h
    · cases h
    · rename_i hu
      refine ⟨fun e => hne (by rw [e]; rfl), ?_⟩
      unfold writeUnmodelled at hu
      simp only [Bool.or_eq_true, not_or, Option.any_some, decide_eq_true_eq, Int.not_lt] at hu
      exact hu.2

end C05
end Astisub
