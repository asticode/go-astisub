/-!
# Lemmas/Fuel — the one fact about fuel

A function defined with fuel, `F (n + 1) a = … F n b …`, whose recursive calls are on arguments of smaller measure
does not depend on its fuel once that exceeds the measure. The hypothesis `step` is where a definition is unfolded
and the measure of its recursive arguments looked at; it is proved once per function.  Where a function also threads an
accumulator the two are separated: `itoaAux` (`Lemmas/Str`) uses `irrel` for the fuel and one lemma for the accumulator;
`splitOnAux_eq` (`Lemmas/StrList`) proves both at once by induction on a bound of the length, because there the recursive
argument is found by `dropPrefix?` and is shorter only by an argument about the separator.
-/

namespace Astisub
namespace Fuel

theorem irrel {α β : Sort _} (μ : α → Nat) (F : Nat → α → β)
    (step : ∀ n m a, (∀ b, μ b < μ a → F n b = F m b) → F (n + 1) a = F (m + 1) a) :
    ∀ {n m a}, μ a < n → μ a < m → F n a = F m a := by
  intro n
  induction n with
  | zero => intro m a h; exact absurd h (Nat.not_lt_zero _)
  | succ n ih =>
    intro m a hn hm
    obtain ⟨m, rfl⟩ : ∃ k, m = k + 1 := ⟨m - 1, by omega⟩
    exact step n m a fun b hb => ih (by omega) (by omega)

end Fuel
end Astisub
