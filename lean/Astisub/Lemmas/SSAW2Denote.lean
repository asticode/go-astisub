import Astisub.Lemmas.SSAW2Defs

/-!
# Lemmas/SSAW2Denote — `Spec.SSA.denote s = some want`, clause by clause
-/

namespace Astisub
namespace SSAW
open Go SSA SSAR List

section
open Spec.SSA (GVal GStyle GRun GEvent GDoc REvent infoTable styleTable cleanValue cleanField exact3 natOf repLine attrsView denoteEvent)

/-- the script-info clause of `denote`: string values and comments need no trimming and have no line break -/
def metaOkB (s : Subs) : Bool :=
  (infoTable.all fun (_, key, kind) =>
      match Spec.SSA.kvGet s.metadata key with | some v => kind ≠ .str || cleanValue v | none => true) &&
    (match Spec.SSA.kvGet s.metadata "Comments" with | some c => (splitC '\n' c).all cleanValue | none => true)

/-- the clause of `denote` on one style definition -/
def styleOkB (d : Def) : Bool :=
  cleanField d.id && d.id.head? ≠ some '*' &&
    (match Spec.SSA.kvGet d.attrs "SSAFontName" with | some f => cleanField f | none => true) &&
    (styleTable.all fun (_, key, kind) =>
      match Spec.SSA.kvGet d.attrs key with
      | some v => kind ≠ .float || (match v with | 'f' :: r => (natOf r).any exact3 | _ => false)
      | none => true)

/-- the clause of `denote` on one cue (`names`: the identifiers of the styles) -/
def itemOkB (names : List Str) (it : CItem) : Bool :=
  decide (0 ≤ it.startAt) && decide (0 ≤ it.endAt) &&
    cleanField ((Spec.SSA.kvGet it.attrs "SSAEffect").getD []) &&
    (match it.style with | some id => cleanField id && id.head? ≠ some '*' && names.contains id | none => true) &&
    !it.lines.isEmpty && it.lines.all (fun l => cleanField l.voice && repLine l)

/-- `itemOkB` by name -/
structure ItemOk (names : List Str) (it : CItem) : Prop where
  start : 0 ≤ it.startAt
  stop : 0 ≤ it.endAt
  effect : cleanField ((Spec.SSA.kvGet it.attrs "SSAEffect").getD []) = true
  style : ∀ id, it.style = some id → cleanField id = true ∧ id.head? ≠ some '*' ∧ names.contains id = true
  lines_ne : it.lines ≠ []
  lines : ∀ l ∈ it.lines, cleanField l.voice = true ∧ repLine l = true

theorem itemOkB_facts {names : List Str} {it : CItem} (h : itemOkB names it = true) : ItemOk names it := by
  unfold itemOkB at h
  simp only [Bool.and_eq_true, decide_eq_true_eq, List.all_eq_true, Bool.not_eq_true', List.isEmpty_eq_false_iff] at h
  obtain ⟨⟨⟨⟨⟨h1, h2⟩, h3⟩, h4⟩, h5⟩, h6⟩ := h
  refine ⟨h1, h2, h3, ?_, h5, h6⟩
  intro id hs
  rw [hs] at h4
  simpa only [Bool.and_eq_true, decide_eq_true_eq, and_assoc] using h4

theorem denote_eq (s : Subs) :
    Spec.SSA.denote s =
      if !(metaOkB s && s.styles.all styleOkB && s.items.all (itemOkB (s.styles.map (·.id)))) then none else
      match Spec.SSA.view { s with items := [] } with
      | none => none
      | some g =>
        (Spec.SSA.mapM (denoteEvent (isV4plus s) (s.styles.map (·.id))) s.items).map fun evs => { g with events := evs } := rfl

theorem view_noItems (s : Subs) :
    Spec.SSA.view { s with items := [] } =
      match attrsView infoTable s.metadata,
        Spec.SSA.mapM (fun (d : Def) => (attrsView styleTable d.attrs).map fun a => ({ name := d.id, attrs := a } : GStyle)) s.styles with
      | some info, some styles =>
        some { comments := (infoOfMeta s.metadata).comments, info := info,
               styles := styles.mergeSort (fun a b => Spec.SSA.strLe a.name b.name), events := [] }
      | _, _ => none := by
  unfold Spec.SSA.view
  simp only [Spec.SSA.mapM]
  cases attrsView infoTable s.metadata <;>
    cases Spec.SSA.mapM (fun (d : Def) => (attrsView styleTable d.attrs).map fun a => ({ name := d.id, attrs := a } : GStyle)) s.styles <;> rfl

theorem denote_some (s : Subs) (want : GDoc) (hd : Spec.SSA.denote s = some want) :
    ∃ gi L evs,
      metaOkB s = true ∧ (∀ d ∈ s.styles, styleOkB d = true) ∧ (∀ it ∈ s.items, itemOkB (s.styles.map (·.id)) it = true) ∧
      attrsView infoTable s.metadata = some gi ∧
      Spec.SSA.mapM (fun (d : Def) => (attrsView styleTable d.attrs).map fun a => ({ name := d.id, attrs := a } : GStyle)) s.styles = some L ∧
      Spec.SSA.mapM (denoteEvent (isV4plus s) (s.styles.map (·.id))) s.items = some evs ∧
      want = { comments := (infoOfMeta s.metadata).comments, info := gi,
               styles := L.mergeSort (fun a b => Spec.SSA.strLe a.name b.name), events := evs } := by
  rw [denote_eq] at hd
  by_cases hok : (metaOkB s && s.styles.all styleOkB && s.items.all (itemOkB (s.styles.map (·.id)))) = true
  · rw [hok] at hd
    simp only [Bool.not_true, Bool.false_eq_true, ↓reduceIte, view_noItems] at hd
    simp only [Bool.and_eq_true] at hok
    obtain ⟨⟨hm, hs⟩, hi⟩ := hok
    cases hgi : attrsView infoTable s.metadata with
    | none => simp [hgi] at hd
    | some gi =>
      cases hL : Spec.SSA.mapM (fun (d : Def) => (attrsView styleTable d.attrs).map fun a => ({ name := d.id, attrs := a } : GStyle)) s.styles with
      | none => simp [hgi, hL] at hd
      | some L =>
        simp only [hgi, hL] at hd
        cases hev : Spec.SSA.mapM (denoteEvent (isV4plus s) (s.styles.map (·.id))) s.items with
        | none => simp [hev] at hd
        | some evs =>
          simp only [hev, Option.map_some, Option.some.injEq] at hd
          exact ⟨gi, L, evs, hm, fun d hd' => (List.all_eq_true.mp hs) d hd', fun it hit => (List.all_eq_true.mp hi) it hit,
            rfl, rfl, rfl, hd.symm⟩
  · have : (metaOkB s && s.styles.all styleOkB && s.items.all (itemOkB (s.styles.map (·.id)))) = false := by
      simpa using hok
    rw [this] at hd
    simp at hd

/-- the three clauses of `denote` on a cue list it accepts -/
structure DenoteOk (s : Subs) : Prop where
  info : metaOkB s = true
  styles : ∀ d ∈ s.styles, styleOkB d = true
  items : ∀ it ∈ s.items, itemOkB (s.styles.map (·.id)) it = true

theorem denote_ok {s : Subs} {want : GDoc} (hd : Spec.SSA.denote s = some want) : DenoteOk s :=
  let ⟨_, _, _, hm, hs, hi, _⟩ := denote_some s want hd
  ⟨hm, hs, hi⟩

end

end SSAW
end Astisub
