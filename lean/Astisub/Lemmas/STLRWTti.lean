import Astisub.Lemmas.STLRWRow
import Astisub.Lemmas.STLRead2View

/-!
# Lemmas/STLRWTti — one TTI block, written from the cue that was read back

`Driver.STLD.cueOf` is the view of a read-back cue that the `stl.write` stream hands to the writer again: it parses
`STLJustification` and `STLPosition` with `String.toInt?` and takes the text and the three effective style flags of
every run.
-/

namespace Astisub
namespace C05
open Go STL

theorem toNat_ofNat_small (c : Nat) (h : c < Generated.STL.domainMax) : (Char.ofNat c).toNat = c := by
  have hv : c.isValidChar := Or.inl (by unfold Generated.STL.domainMax at h; omega)
  unfold Char.ofNat
  rw [dif_pos hv]
  rfl

theorem str_toNat (t : List Nat) (h : ∀ c ∈ t, c < Generated.STL.domainMax) : (str t).map Char.toNat = t := by
  induction t with
  | nil => rfl
  | cons c cs ih =>
    unfold str at ih ⊢
    rw [List.map_cons, List.map_cons, toNat_ofNat_small c (h c (by simp)), ih (fun x hx => h x (by simp [hx]))]

theorem repUnit_small {u : Unit} (h : RepUnit u) : ∀ c ∈ u.text, c < Generated.STL.domainMax := by
  intro c hc
  have := (repUnit_dom h).range
  rw [List.all_eq_true] at this
  have := this c hc
  exact of_decide_eq_true this

theorem run_text_small (r : RRun) (h : ∀ u ∈ r.units, RepUnit u) : ∀ c ∈ r.text, c < Generated.STL.domainMax := by
  intro c hc
  unfold RRun.text at hc
  obtain ⟨u, hu, hcu⟩ := List.mem_flatMap.mp hc
  exact repUnit_small (h u hu) c hcu

theorem justCode_back (j : Option Int) : justCode (some ((justOf (justCode j) : Nat) : Int)) = justCode j := by
  have h := justCode_le j
  have : justCode j = 0 ∨ justCode j = 1 ∨ justCode j = 2 ∨ justCode j = 3 := by omega
  rcases this with e | e | e | e <;> rw [e] <;> decide

theorem vpByte_back (vp : Int) : vpByte ((vpByte vp [0x30] : Nat) : Int) [0x30] = vpByte vp [0x30] := by
  rw [vpByte_open, vpByte_open]
  omega

theorem vp_itemAttrs (jc vp : Nat) (mnr : Int) (rows : Nat) :
    ((Driver.STLD.kv (itemAttrs jc vp mnr rows) "STLPosition").bind fun s => Driver.STLD.intOf (s.takeWhile (· ≠ ',')))
      = some (vp : Int) := by
  rw [kv_pos, Option.bind_some]
  have e : itoaNat vp ++ [','] ++ itoa mnr ++ [','] ++ itoaNat rows = itoaNat vp ++ ',' :: (itoa mnr ++ [','] ++ itoaNat rows) := by
    simp
  rw [e, List.takeWhile_append_stop (p := (· ≠ ',')) _
    (fun x hx => decide_eq_true fun (e' : x = ',') => (digitStr_itoaNat vp).not_mem_of_not_isDigC rfl (e' ▸ hx)) (by decide)]
  exact intOf_itoaNat vp

/-- the cue the reader returned for the block of `c`, as a cue over repertoire units: frame instants minus the
    programme start the reader subtracted, the justification and vertical position the block carried, and the
    rows with adjacent unstyled runs joined -/
def backCue (G : WGSI) (off : Int) (c : MCue) : MCue :=
  { startAt := frameInstant G.m.framerate (c.startAt + G.m.tcp) - off,
    endAt := frameInstant G.m.framerate (c.endAt + G.m.tcp) - off,
    just := some ((justOf (justCode c.just) : Nat) : Int),
    vp := some ((vpByte (c.vp.getD 20) G.m.dsc : Nat) : Int),
    rows := c.rows.map backRow }

/-- a run as the writer is handed it, from the check's view (text, effective style) -/
def viewRun (p : Str × B3) : WRun := { text := p.1.map Char.toNat, italics := p.2.1, underline := p.2.2.1, boxing := p.2.2.2 }

theorem viewRun_wv (r : RRun) (h : ∀ u ∈ r.units, RepUnit u) : viewRun (wv r) = r.toW := by
  unfold viewRun wv RRun.toW RRun.flags
  simp only [str_toNat r.text (run_text_small r h)]

theorem cueOf_row (l : List RRun) (h : ∀ r ∈ l, r.okT) :
    ((lineOf l).items.map fun li =>
        ({ text := li.text.map Char.toNat, italics := Driver.STLD.isTrue li.attrs "STLItalics",
           underline := Driver.STLD.isTrue li.attrs "STLUnderline", boxing := Driver.STLD.isTrue li.attrs "STLBoxing" } : WRun))
      = (backRow l).map RRun.toW := by
  have e : (fun li : LItem =>
        ({ text := li.text.map Char.toNat, italics := Driver.STLD.isTrue li.attrs "STLItalics",
           underline := Driver.STLD.isTrue li.attrs "STLUnderline", boxing := Driver.STLD.isTrue li.attrs "STLBoxing" } : WRun))
      = viewRun ∘ fun li => (li.text, Driver.STLD.effSty li) := rfl
  rw [e, ← List.map_map, lineOf_runs l h, ← backRow_wv l (fun r hr => (h r hr).ne), List.map_map]
  apply List.map_congr_left
  intro r hr
  exact viewRun_wv r (backRow_okT l h r hr).1

theorem cueOf_ttiCueM (R : GSI) (G : WGSI) (off : Int) (c : MCue) (h : ∀ l ∈ c.rows, ∀ r ∈ l, r.okT) :
    Driver.STLD.cueOf (ttiCueM R G off c) = (backCue G off c).toW := by
  unfold Driver.STLD.cueOf ttiCueM backCue MCue.toW
  simp only [just_itemAttrs, vp_itemAttrs, List.map_map]
  congr 1
  apply List.map_congr_left
  intro l hl
  exact cueOf_row l (h l hl)

theorem backCue_text (G : WGSI) (off : Int) (c : MCue) (hok : c.ok) :
    encodeText (cueString (backCue G off c).toW) = encodeText (cueString c.toW) := by
  have hrep := hok.rep
  have hrep' : ∀ l ∈ (backCue G off c).rows, ∀ r ∈ l, ∀ u ∈ r.units, RepUnit u := by
    intro l hl r hr
    simp only [backCue, List.mem_map] at hl
    obtain ⟨l0, hl0, rfl⟩ := hl
    exact (backRow_okT l0 (hok.okT hl0) r hr).rep
  rw [encode_cueM _ hrep', encode_cueM c hrep]
  simp only [backCue, List.map_map]
  congr 1
  apply List.map_congr_left
  intro l hl
  exact backRow_bytes l (fun r hr => (hok.okT hl r hr).ne)

theorem backCue_ok (G : WGSI) (off : Int) (c : MCue) (hok : c.ok) : (backCue G off c).ok := by
  refine ⟨?_, by rw [backCue_text G off c hok]; exact hok.fit⟩
  intro l hl
  simp only [backCue, List.mem_map] at hl
  obtain ⟨l0, hl0, rfl⟩ := hl
  have hne := hok.ne hl0
  have hr := hok.okT hl0
  exact ⟨backRow_ne_nil l0 hne (fun r hr' => (hr r hr').ne), backRow_okT l0 hr⟩

theorem ttiBytes_back (G G2 : WGSI) (off : Int) (fr : Nat) (idx : Nat) (c : MCue)
    (hfr : fr = 25 ∨ fr = 30) (hg : G.m.framerate = (fr : Int)) (hg2 : G2.m.framerate = (fr : Int))
    (hdsc : G.m.dsc = [0x30]) (hdsc2 : G2.m.dsc = [0x30]) (htcp : G2.m.tcp = off) (hok : c.ok)
    (hs : InDay (c.startAt + G.m.tcp)) (he : InDay (c.endAt + G.m.tcp)) :
    ttiBytes G2 idx (backCue G off c).toW = ttiBytes G idx c.toW := by
  have ht := backCue_text G off c hok
  unfold ttiBytes
  rw [ht]
  have a1 : ((backCue G off c).toW).startAt + G2.m.tcp = frameInstant (fr : Int) (c.startAt + G.m.tcp) := by
    simp only [backCue, MCue.toW, htcp, hg]; omega
  have a2 : ((backCue G off c).toW).endAt + G2.m.tcp = frameInstant (fr : Int) (c.endAt + G.m.tcp) := by
    simp only [backCue, MCue.toW, htcp, hg]; omega
  have a3 : vpByte (((backCue G off c).toW).vp.getD 20) G2.m.dsc = vpByte ((c.toW).vp.getD 20) G.m.dsc := by
    simp only [backCue, MCue.toW, Option.getD_some, hdsc, hdsc2]
    exact vpByte_back _
  have a4 : justCode ((backCue G off c).toW).just = justCode (c.toW).just := by
    simp only [backCue, MCue.toW]
    exact justCode_back _
  have t1 : (c.toW).startAt = c.startAt := rfl
  have t2 : (c.toW).endAt = c.endAt := rfl
  rw [a1, a2, a3, a4, hg, hg2, t1, t2]
  simp only [Int.toNat_natCast]
  rw [frameInstant_rewrite _ fr hfr hs.1 hs.2, frameInstant_rewrite _ fr hfr he.1 he.2]

end C05
end Astisub
