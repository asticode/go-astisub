import Astisub.Lemmas.VTTTok

/-!
# Lemmas/VTTTagRe — the tag expression recogniser `Go.tagRe` on `<name.classes  white-space  annotation>`
(`tagRe_general`, for any such text); the tags the writer emits as instances (`tagRe_startTag`, `tagRe_voice`), and the
reader's actions `stepTok_startTag`, `stepTok_voice`, `stepTok_endTag` on the tokens of a well-formed tag
-/

namespace Astisub
namespace VTT
open Go

theorem firstDown_hit {α} (f : Nat → Option α) (n : Nat) (a : α) (h : f n = some a) :
    firstDown f n = some a := by
  cases n with
  | zero => simpa [firstDown] using h
  | succ n => simp [firstDown, h]

theorem firstDown_skip {α} (f : Nat → Option α) (n : Nat) (h : f (n + 1) = none) :
    firstDown f (n + 1) = firstDown f n := by
  simp [firstDown, h]

theorem take_len_app (a b : Str) : (a ++ b).take a.length = a := by
  simp

theorem reWS_eq_isTagWS (c : Char) : reWS c = isTagWS c := by
  simp [reWS, isTagWS]
  cases (c == ' ') <;> cases (c == '\t') <;> cases (c == '\n') <;> cases (c == '\x0c') <;> cases (c == '\r') <;> rfl

theorem alnum_facts {c : Char} (h : Char.isAlphanum c = true) :
    c ≠ '.' ∧ reWS c = false ∧ c ≠ '/' := by
  have hn := TokAux.alnum_nameP c h
  simp only [TokAux.nameP, Bool.not_eq_true', Bool.or_eq_false_iff, beq_eq_false_iff_ne] at hn
  exact ⟨by rintro rfl; revert h; decide, (reWS_eq_isTagWS c).trans hn.1.1, hn.1.2⟩

theorem letter_facts {c : Char} (h : isLetter c = true) : reWS c = false ∧ c ≠ '/' := by
  refine ⟨?_, ?_⟩
  · cases hw : reWS c with
    | false => rfl
    | true =>
      simp [reWS] at hw
      rcases hw with (((e | e) | e) | e) | e <;> (subst e; revert h; decide)
  · intro e; subst e; revert h; decide

theorem tagRest_nil : tagRest [] = none := by decide

theorem lastGt_snoc (a : Str) : lastGt (a ++ ['>']) = some a.length := by
  simp [lastGt]

def annPart (ann : Str) : Str := if ann = [] then [] else ' ' :: ann

theorem tagAfterName_dot_eq (rest : Str) :
    tagAfterName ('.' :: rest) =
      match firstDown (fun e => (tagRest (rest.drop e)).map fun g4 =>
          ('.' :: (rest.takeWhile fun c => !(reWS c || c == '/')).take e, g4))
          (rest.takeWhile fun c => !(reWS c || c == '/')).length with
      | some r => some r
      | none => (tagRest ('.' :: rest)).map fun g4 => ([], g4) := rfl

/-- the tail `\s*([^/]*)\s*/*>` on `white-space  annotation >`: sub-match 4 is the annotation with its
    trailing white space -/
theorem tagRest_general (p w : Str) (hp : ∀ c ∈ p, reWS c = true) (hw : ∀ c ∈ w, c ≠ '/')
    (hw0 : ∀ c r, w = c :: r → reWS c = false) : tagRest (p ++ (w ++ ['>'])) = some w := by
  have hq : (p ++ (w ++ ['>'])).dropWhile reWS = w ++ ['>'] := by
    rw [List.dropWhile_append_of_pos hp]
    cases w with
    | nil => have : reWS '>' = false := by decide
             simp [this]
    | cons y t => simp [hw0 y t rfl]
  have hrun : (w ++ ['>']).takeWhile (· != '/') = w ++ ['>'] := by
    apply List.takeWhile_eq_self_of_all
    intro c hc
    rcases List.mem_append.mp hc with h | h
    · simpa using hw c h
    · simp at h; subst h; decide
  unfold tagRest
  simp only [hq, hrun, lastGt_snoc]
  simp

/-- `(\.[^\s/]*)*\s*([^/]*)\s*/*>` when no class follows the name -/
theorem tagAfterName_nocls (p w : Str) (hp : ∀ c ∈ p, reWS c = true) (hw : ∀ c ∈ w, c ≠ '/')
    (hw0 : ∀ c r, w = c :: r → reWS c = false) (hpw : p ≠ [] ∨ w = []) :
    tagAfterName (p ++ (w ++ ['>'])) = some ([], w) := by
  have ht := tagRest_general p w hp hw hw0
  have hne : ∀ r, p ++ (w ++ ['>']) ≠ '.' :: r := by
    intro r e
    cases p with
    | nil =>
      rcases hpw with h | h
      · exact h rfl
      · subst h; simp at e
    | cons x p' =>
      simp at e
      have := hp x (by simp)
      rw [e.1] at this
      revert this; decide
  unfold tagAfterName
  split
  · rename_i rest heq; exact absurd heq (hne rest)
  · rw [ht]; rfl

/-- `(\.[^\s/]*)*\s*([^/]*)\s*/*>` on `.classes  white-space  annotation >` -/
theorem tagAfterName_general (J p w : Str) (hJ : ∀ c ∈ J, reWS c = false ∧ c ≠ '/')
    (hp : ∀ c ∈ p, reWS c = true) (hw : ∀ c ∈ w, c ≠ '/')
    (hw0 : ∀ c r, w = c :: r → reWS c = false) (hpw : p ≠ [] ∨ w = []) :
    tagAfterName ('.' :: J ++ (p ++ (w ++ ['>']))) = some ('.' :: J, w) := by
  have ht := tagRest_general p w hp hw hw0
  have hJ' : ∀ c ∈ J, (fun c => !(reWS c || c == '/')) c = true := by
    intro c hc; simp [(hJ c hc).1, (hJ c hc).2]
  have e1 : '.' :: J ++ (p ++ (w ++ ['>'])) = '.' :: (J ++ (p ++ (w ++ ['>']))) := by simp
  rw [e1, tagAfterName_dot_eq, List.takeWhile_append_of_pos hJ']
  cases p with
  | nil =>
    have hw' : w = [] := by
      rcases hpw with h | h
      · exact absurd rfl h
      · exact h
    subst hw'
    have e2 : (([] : Str) ++ ([] ++ ['>'])).takeWhile (fun c => !(reWS c || c == '/')) = ['>'] := by decide
    have e3 : ([] : Str) ++ ([] ++ ['>']) = ['>'] := rfl
    rw [e2]
    rw [e3] at ht ⊢
    have hlen : (J ++ ['>']).length = J.length + 1 := by simp
    rw [hlen, firstDown_skip, firstDown_hit _ _ ('.' :: J, [])]
    · simp [ht]
    · simp [tagRest_nil]
  | cons x p' =>
    have hx : reWS x = true := hp x (by simp)
    have e2 : ((x :: p') ++ (w ++ ['>'])).takeWhile (fun c => !(reWS c || c == '/')) = [] := by
      simp [hx]
    rw [e2, List.append_nil, firstDown_hit _ _ ('.' :: J, w)]
    rw [List.cons_append] at ht
    simp [ht]

theorem tagFromName_eq (s : Str) :
    tagFromName s = firstDown (fun m => if m = 0 then none else
      (tagAfterName (s.drop m)).map fun (g3, g4) =>
        ((s.takeWhile fun c => !(c == '.' || reWS c)).take m, g3, g4))
      (s.takeWhile fun c => !(c == '.' || reWS c)).length := rfl

theorem tagFromName_stop (name T g3 g4 : Str) (hne : name ≠ [])
    (hn : ∀ c ∈ name, c ≠ '.' ∧ reWS c = false)
    (hT : T.takeWhile (fun c => !(c == '.' || reWS c)) = [])
    (hA : tagAfterName T = some (g3, g4)) :
    tagFromName (name ++ T) = some (name, g3, g4) := by
  have hn' : ∀ c ∈ name, (fun c => !(c == '.' || reWS c)) c = true := by
    intro c hc; simp [(hn c hc).1, (hn c hc).2]
  have hl : name.length ≠ 0 := by
    cases name with
    | nil => exact absurd rfl hne
    | cons x xs => simp
  rw [tagFromName_eq, List.takeWhile_append_of_pos hn', hT, List.append_nil]
  apply firstDown_hit
  simp [hl, hA]

theorem tagAfterName_nil : tagAfterName [] = none := by decide

theorem tagFromName_gt (name : Str) (hne : name ≠ [])
    (hn : ∀ c ∈ name, c ≠ '.' ∧ reWS c = false) :
    tagFromName (name ++ ['>']) = some (name, [], []) := by
  have hn' : ∀ c ∈ name, (fun c => !(c == '.' || reWS c)) c = true := by
    intro c hc; simp [(hn c hc).1, (hn c hc).2]
  have hl : name.length ≠ 0 := by
    cases name with
    | nil => exact absurd rfl hne
    | cons x xs => simp
  have e2 : ['>'].takeWhile (fun c => !(c == '.' || reWS c)) = ['>'] := by decide
  have hA : tagAfterName ['>'] = some ([], []) := by decide
  have hlen : (name ++ ['>']).length = name.length + 1 := by simp
  rw [tagFromName_eq, List.takeWhile_append_of_pos hn', e2, hlen, firstDown_skip]
  · apply firstDown_hit
    simp [hl, hA]
  · simp [tagAfterName_nil]

/-- the class part of a tag: nothing, or a dot and characters that are neither white space nor `/` -/
def ClsGood (cls : Str) : Prop :=
  cls = [] ∨ ∃ J, cls = '.' :: J ∧ ∀ c ∈ J, reWS c = false ∧ c ≠ '/'

/-- `([^.\s]+)(\.[^\s/]*)*\s*([^/]*)\s*/*>` on `name.classes  white-space  annotation >` -/
theorem tagFromName_general (name cls p w : Str) (hne : name ≠ [])
    (hn : ∀ c ∈ name, c ≠ '.' ∧ reWS c = false) (hcls : ClsGood cls)
    (hp : ∀ c ∈ p, reWS c = true) (hw : ∀ c ∈ w, c ≠ '/')
    (hw0 : ∀ c r, w = c :: r → reWS c = false) (hpw : p ≠ [] ∨ w = []) :
    tagFromName (name ++ (cls ++ (p ++ (w ++ ['>'])))) = some (name, cls, w) := by
  rcases hcls with rfl | ⟨J, rfl, hJ⟩
  · rw [List.nil_append]
    cases p with
    | nil =>
      obtain rfl : w = [] := hpw.resolve_left fun h => h rfl
      exact tagFromName_gt name hne hn
    | cons y p' =>
      have hy : reWS y = true := hp y (by simp)
      exact tagFromName_stop name _ [] w hne hn (by simp [hy]) (tagAfterName_nocls (y :: p') w hp hw hw0 hpw)
  · have := tagFromName_stop name ('.' :: J ++ (p ++ (w ++ ['>']))) ('.' :: J) w hne hn
      (by simp) (tagAfterName_general J p w hJ hp hw hw0 hpw)
    simpa using this

theorem tagAt_letter (x : Char) (xs : Str) (hx : reWS x = false ∧ x ≠ '/') :
    tagAt (x :: xs) = tagFromName (x :: xs) := by
  simp [tagAt, firstDown, hx.1, hx.2]

theorem tagRe_lt (s : Str) (r : Str × Str × Str) (h : tagAt s = some r) :
    tagRe ('<' :: s) = some r := by
  simp [tagRe, h]

/-- the tag expression on `<name.classes  white-space  annotation  >`: the name, the class
    part with its dot, the annotation with its trailing white space -/
theorem tagRe_general (x : Char) (xs cls p w : Str)
    (hx : reWS x = false ∧ x ≠ '/')
    (hn : ∀ c ∈ x :: xs, c ≠ '.' ∧ reWS c = false) (hcls : ClsGood cls)
    (hp : ∀ c ∈ p, reWS c = true) (hw : ∀ c ∈ w, c ≠ '/')
    (hw0 : ∀ c r, w = c :: r → reWS c = false) (hpw : p ≠ [] ∨ w = []) :
    tagRe ('<' :: ((x :: xs) ++ (cls ++ (p ++ (w ++ ['>']))))) = some (x :: xs, cls, w) := by
  apply tagRe_lt
  rw [List.cons_append, tagAt_letter x _ hx, ← List.cons_append]
  exact tagFromName_general (x :: xs) cls p w (List.cons_ne_nil _ _) hn hcls hp hw hw0 hpw

theorem tagRe_annPart (x : Char) (xs cls ann : Str) (hx : reWS x = false ∧ x ≠ '/')
    (hn : ∀ c ∈ x :: xs, c ≠ '.' ∧ reWS c = false) (hcls : ClsGood cls)
    (ha : (∀ c ∈ ann, c ≠ '/') ∧ ∀ c r, ann = c :: r → reWS c = false) :
    tagRe ('<' :: ((x :: xs) ++ cls ++ annPart ann ++ ['>'])) = some (x :: xs, cls, ann) := by
  rw [← tagRe_general x xs cls (if ann = [] then [] else [' ']) ann hx hn hcls
    (by intro c hc
        split at hc
        · cases hc
        · rw [List.mem_singleton.mp hc]; decide)
    ha.1 ha.2 (by by_cases e : ann = [] <;> simp [e])]
  by_cases e : ann = [] <;> simp [annPart, e]

theorem annOk_re {a : Str} (h : annOk a = true) : (∀ c ∈ a, c ≠ '/') ∧ ∀ c r, a = c :: r → reWS c = false := by
  obtain ⟨h1, h2⟩ := TokAux.annOk_shape a h
  exact ⟨fun c hc => TokAux.markup_no_slash c (h1 c hc), fun x xs e => (reWS_eq_isTagWS x).trans (h2 x xs e)⟩

theorem classChar_facts {c : Char} (h : classChar c = true) :
    c ≠ '.' ∧ reWS c = false ∧ c ≠ '/' := by
  rw [reWS_eq_isTagWS]
  simp [classChar, markup] at h
  obtain ⟨⟨⟨⟨_, hslash⟩, _⟩, hdot⟩, hws⟩ := h
  exact ⟨hdot, hws, hslash⟩

theorem join_mem (cs : List Str) : ∀ x ∈ join ['.'] cs, x = '.' ∨ ∃ c ∈ cs, x ∈ c := fun _ hx =>
  (Go.mem_join hx).imp_left List.mem_singleton.mp

theorem join_last (cs : List Str) (hne : cs ≠ []) (h : ∀ c ∈ cs, c ≠ [] ∧ '.' ∉ c) :
    ∃ y ys, (join ['.'] cs).reverse = y :: ys ∧ y ≠ '.' := by
  induction cs with
  | nil => exact absurd rfl hne
  | cons a rest ih =>
    cases rest with
    | nil =>
      obtain ⟨ha1, ha2⟩ := h a (by simp)
      cases hr : a.reverse with
      | nil => simp at hr; exact absurd hr ha1
      | cons y ys =>
        refine ⟨y, ys, by simpa [join] using hr, ?_⟩
        intro e
        have : y ∈ a := by
          have : y ∈ a.reverse := by rw [hr]; simp
          simpa using this
        exact ha2 (e ▸ this)
    | cons b rest =>
      obtain ⟨y, ys, e, hy⟩ := ih (by simp) (fun c hc => h c (by simp [hc]))
      refine ⟨y, ys ++ '.' :: a.reverse, ?_, hy⟩
      rw [join_cons_cons, List.reverse_append, List.reverse_append, List.reverse_cons, e]
      simp

theorem trimDots_dot (x y : Char) (xs ys : Str) (hx : x ≠ '.') (hy : y ≠ '.')
    (e : (x :: xs).reverse = y :: ys) : trimDots ('.' :: x :: xs) = x :: xs := by
  have hx' : (x == '.') = false := by simp [hx]
  have hy' : (y == '.') = false := by simp [hy]
  have h1 : ('.' :: x :: xs).dropWhile (· == '.') = x :: xs := by
    simp [List.dropWhile, hx']
  unfold trimDots
  rw [h1, e]
  have h2 : (y :: ys).dropWhile (· == '.') = y :: ys := by
    simp [List.dropWhile, hy']
  rw [h2, ← e, List.reverse_reverse]

def clsPart (cs : List Str) : Str := if cs.isEmpty then [] else '.' :: join ['.'] cs

theorem clsGood_clsPart (cs : List Str) (h : ∀ c ∈ cs, c ≠ [] ∧ ∀ x ∈ c, classChar x = true) :
    ClsGood (clsPart cs) := by
  cases cs with
  | nil => left; rfl
  | cons a rest =>
    right
    refine ⟨join ['.'] (a :: rest), by simp [clsPart], ?_⟩
    intro x hx
    rcases join_mem _ x hx with e | ⟨c, hc, hxc⟩
    · subst e; decide
    · have := classChar_facts ((h c hc).2 x hxc)
      exact ⟨this.2.1, this.2.2⟩

theorem classes_of_clsPart (cs : List Str) (h : ∀ c ∈ cs, c ≠ [] ∧ ∀ x ∈ c, classChar x = true) :
    (if clsPart cs ≠ [] then splitC '.' (trimDots (clsPart cs)) else []) = cs := by
  cases cs with
  | nil => simp [clsPart]
  | cons a rest =>
    have hdot : ∀ c ∈ a :: rest, c ≠ [] ∧ '.' ∉ c := by
      intro c hc
      refine ⟨(h c hc).1, ?_⟩
      intro hm
      exact (classChar_facts ((h c hc).2 _ hm)).1 rfl
    have e1 : clsPart (a :: rest) = '.' :: join ['.'] (a :: rest) := by simp [clsPart]
    obtain ⟨y, ys, er, hy⟩ := join_last (a :: rest) (by simp) hdot
    have hsp := Go.splitC_join (c := '.') (cs := a :: rest) (by simp) (fun c hc => (hdot c hc).2)
    cases hj : join ['.'] (a :: rest) with
    | nil => rw [hj] at er; simp at er
    | cons x xs =>
      have hx : x ≠ '.' := by
        cases a with
        | nil => exact absurd rfl (hdot [] List.mem_cons_self).1
        | cons a0 as =>
          rw [join_cons_head] at hj
          cases hj
          exact fun e => (hdot (x :: as) List.mem_cons_self).2 (e ▸ List.mem_cons_self)
      rw [hj] at er hsp
      rw [e1, hj, if_pos (by simp), trimDots_dot x y xs ys hx hy er, hsp]

theorem startTag_eq (t : Tag) (h : t.name ≠ []) :
    Tag.startTag t = '<' :: (t.name ++ clsPart t.classes ++ annPart t.annotation ++ ['>']) := by
  simp [Tag.startTag, h, clsPart, annPart]

theorem tagRe_startTag (t : Tag) (h : t.wf = true) :
    tagRe (Tag.startTag t) = some (t.name, clsPart t.classes, t.annotation) := by
  have w := wf_facts h
  obtain ⟨x, xs, e, hx⟩ := w.head
  rw [startTag_eq t w.name_ne, e]
  exact tagRe_annPart x xs _ _ (letter_facts hx)
    (fun c hc => have := alnum_facts (w.alnum c (e ▸ hc)); ⟨this.1, this.2.1⟩)
    (clsGood_clsPart _ w.cls) (annOk_re w.ann)

theorem stepTok_startTag (st : PT) (t : Tag) (h : t.wf = true) (n : Str) (a : List (Str × Str)) :
    stepTok st (.startTag (Tag.startTag t) n a) = some { st with tags := st.tags ++ [t] } := by
  have w := wf_facts h
  have hv : ¬ t.name = "v".toList := w.name_v
  have hann : (if t.annotation ≠ [] then trimSpace t.annotation else []) = t.annotation := by
    by_cases e : t.annotation = []
    · simp [e]
    · simp [e, (annOk_facts w.ann).1]
  simp only [stepTok, tagRe_startTag t h, classes_of_clsPart t.classes w.cls, hann, if_neg hv]

theorem tagRe_voice (v : Str) (h : voiceOk v = true) :
    tagRe ("<v ".toList ++ v ++ ['>']) = some (['v'], [], v) := by
  simp only [voiceOk, Bool.and_eq_true, bne_iff_ne, ne_eq] at h
  rw [← tagRe_annPart 'v' [] [] v (by decide) (by intro c hc; rw [List.mem_singleton.mp hc]; decide) (Or.inl rfl)
    (annOk_re h.2)]
  simp [annPart, h.1]

theorem stepTok_voice (st : PT) (v : Str) (h : voiceOk v = true) (n : Str) (a : List (Str × Str)) :
    stepTok st (.startTag ("<v ".toList ++ v ++ ['>']) n a) = some (if st.voice = [] then { st with voice := v } else st) := by
  have hre := tagRe_voice v h
  simp [voiceOk] at h
  obtain ⟨hne, hok⟩ := h
  have hv : (['v'] : Str) = "v".toList := rfl
  simp only [stepTok, hre, if_pos hv, if_pos hne, (annOk_facts hok).1]

theorem stepTok_endTag (st : PT) (t : Tag) (h : t.wf = true) (n : Str) :
    stepTok st (.endTag (Tag.endTag t) n) = some { st with tags := st.tags.dropLast } := by
  have w := wf_facts h
  have hne : ¬ Tag.endTag t = "</v>".toList := by
    intro e
    apply w.name_v
    simp [Tag.endTag, w.name_ne] at e
    cases hn : t.name with
    | nil => exact absurd hn w.name_ne
    | cons x xs =>
      rw [hn] at e
      simp at e
      obtain ⟨rfl, e2⟩ := e
      cases xs with
      | nil => rfl
      | cons y ys => simp at e2
  simp only [stepTok, if_neg hne]

end VTT
end Astisub
