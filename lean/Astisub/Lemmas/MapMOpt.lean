import Astisub.Spec.SRT
import Astisub.Spec.VTT
import Astisub.Spec.SSA
import Astisub.Spec.STL
import Astisub.Spec.Teletext

/-!
# Lemmas/MapMOpt — the independent decoders' `mapM`, one statement for all of them

Each `Spec/*.lean` defines its own `mapM f : List α → Option (List β)` by the same two equations (`IsMapM`).  Any function
with these equations succeeds with `r` exactly when `l.map f = r.map some` (`IsMapM.eq_some_iff`), so what the lemma files
need of a `mapM` — inversion at `cons`, where an element of the result comes from, the result by index, "all succeed ⇒
`map`" — is a fact about `List.map`, proved here once and used through `Spec.X.isMapM`.
-/

namespace Astisub

/-- the equations every decoder's `mapM` has -/
structure IsMapM {α β} (m : (α → Option β) → List α → Option (List β)) : Prop where
  nil : ∀ f, m f [] = some []
  cons : ∀ f a as, m f (a :: as) = match f a, m f as with
    | some b, some bs => some (b :: bs)
    | _, _ => none

namespace IsMapM
variable {α β : Type _} {m : (α → Option β) → List α → Option (List β)}

theorem eq_some_iff (hm : IsMapM m) (f : α → Option β) : ∀ (l : List α) (r : List β),
    m f l = some r ↔ l.map f = r.map some
  | [], r => by
    rw [hm.nil]
    cases r <;> simp
  | a :: as, r => by
    rw [hm.cons]
    cases r with
    | nil => split <;> simp
    | cons b bs =>
      have ih := eq_some_iff hm f as bs
      cases ha : f a with
      | none => simp [ha]
      | some b' =>
        cases hr : m f as with
        | none =>
          have : ¬ as.map f = bs.map some := fun e => by rw [ih.mpr e] at hr; cases hr
          simp [this]
        | some bs' =>
          simp only [Option.some.injEq, List.cons.injEq, List.map_cons, ha]
          constructor
          · rintro ⟨rfl, rfl⟩; exact ⟨rfl, ih.mp hr⟩
          · rintro ⟨rfl, e⟩; exact ⟨rfl, Option.some.inj (hr.symm.trans (ih.mpr e))⟩

/-- the answer depends on `l.map f` only: a map under which `f` is invariant does not change it -/
theorem map_congr (hm : IsMapM m) (f : α → Option β) (g : α → α) (l : List α) (h : ∀ x ∈ l, f (g x) = f x) :
    m f (l.map g) = m f l :=
  Option.ext fun r => by
    rw [hm.eq_some_iff, hm.eq_some_iff, List.map_map, List.map_congr_left (f := f ∘ g) (g := f) h]

theorem isSome (hm : IsMapM m) (f : α → Option β) : ∀ (l : List α), (∀ x ∈ l, (f x).isSome = true) → (m f l).isSome = true
  | [], _ => by rw [hm.nil]; rfl
  | a :: l, h => by
    obtain ⟨b, hb⟩ := Option.isSome_iff_exists.mp (h a (by simp))
    obtain ⟨bs, hbs⟩ := Option.isSome_iff_exists.mp (isSome hm f l fun x hx => h x (by simp [hx]))
    rw [hm.cons, hb, hbs]; rfl

theorem mem (hm : IsMapM m) {f : α → Option β} {l : List α} {r : List β} (h : m f l = some r) {y : β} (hy : y ∈ r) :
    ∃ x ∈ l, f x = some y := by
  have : some y ∈ l.map f := (hm.eq_some_iff f l r).mp h ▸ List.mem_map_of_mem hy
  exact List.mem_map.mp this

theorem eq_some_map (hm : IsMapM m) (f : α → Option β) (g : α → β) (l : List α) (h : ∀ x ∈ l, f x = some (g x)) :
    m f l = some (l.map g) := by
  rw [hm.eq_some_iff, List.map_map]
  exact List.map_congr_left h

theorem map_eq_some_map {γ : Type _} (hm : IsMapM m) (f : α → Option β) (g : γ → α) (h : γ → β) (l : List γ)
    (hh : ∀ a ∈ l, f (g a) = some (h a)) : m f (l.map g) = some (l.map h) := by
  rw [hm.eq_some_iff, List.map_map, List.map_map]
  exact List.map_congr_left hh

theorem cons_inv (hm : IsMapM m) {f : α → Option β} {a : α} {as : List α} {r : List β} (h : m f (a :: as) = some r) :
    ∃ x xs, f a = some x ∧ m f as = some xs ∧ r = x :: xs := by
  have e := (hm.eq_some_iff f _ r).mp h
  cases r with
  | nil => cases e
  | cons x xs =>
    simp only [List.map_cons, List.cons.injEq] at e
    exact ⟨x, xs, e.1, (hm.eq_some_iff f as xs).mpr e.2, rfl⟩

theorem nil_inv (hm : IsMapM m) {f : α → Option β} {r : List β} (h : m f [] = some r) : r = [] :=
  (Option.some.inj ((hm.nil f).symm.trans h)).symm

theorem eq_nil (hm : IsMapM m) {f : α → Option β} {l : List α} (h : m f l = some []) : l = [] :=
  List.map_eq_nil_iff.mp ((hm.eq_some_iff f l []).mp h)

theorem append (hm : IsMapM m) {f : α → Option β} {a b : List α} {x y : List β} (ha : m f a = some x) (hb : m f b = some y) :
    m f (a ++ b) = some (x ++ y) := by
  rw [hm.eq_some_iff] at ha hb ⊢
  rw [List.map_append, List.map_append, ha, hb]

theorem snoc (hm : IsMapM m) {f : α → Option β} {l : List α} {x : α} {ys : List β} {y : β} (h : m f l = some ys)
    (hx : f x = some y) : m f (l ++ [x]) = some (ys ++ [y]) :=
  hm.append h ((hm.eq_some_iff f [x] [y]).mpr (congrArg (· :: []) hx))

theorem getD (hm : IsMapM m) {f : α → Option β} (d : β) {l : List α} {r : List β} (h : m f l = some r) :
    r.length = l.length ∧ ∀ (i : Nat) (hi : i < l.length), f l[i] = some (r.getD i d) := by
  have e := (hm.eq_some_iff f l r).mp h
  have hl : r.length = l.length := by simpa using (congrArg List.length e).symm
  refine ⟨hl, fun i hi => ?_⟩
  have := congrArg (·[i]?) e
  simpa [hi, hl ▸ hi, List.getD_eq_getElem?_getD] using this

end IsMapM

theorem Spec.SRT.isMapM {α β} : IsMapM (@Spec.SRT.mapM α β) := ⟨fun _ => rfl, fun _ _ _ => rfl⟩
theorem Spec.VTT.isMapM {α β} : IsMapM (@Spec.VTT.mapM α β) := ⟨fun _ => rfl, fun _ _ _ => rfl⟩
theorem Spec.SSA.isMapM {α β} : IsMapM (@Spec.SSA.mapM α β) := ⟨fun _ => rfl, fun _ _ _ => rfl⟩
theorem Spec.STL.isMapM {α β} : IsMapM (@Spec.STL.mapM α β) := ⟨fun _ => rfl, fun _ _ _ => rfl⟩
theorem Spec.Teletext.isMapM {α β} : IsMapM (@Spec.Teletext.mapM α β) := ⟨fun _ => rfl, fun _ _ _ => rfl⟩

end Astisub
