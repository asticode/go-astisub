import Astisub.Lemmas.SSA2Read
import Astisub.Props.C04doc
import Astisub.Props.C19
import Astisub.Lemmas.KV

/-!
# Lemmas/SSA2Fix — what the writer makes of the normal form, piece by piece

Script info and styles survive `newSSAScriptInfo ∘ metadata` and `newSSAStyleFromStyle ∘ style`: both are the round trip
of the attribute table (`Tab.ofAttrs_toAttrs`, `Lemmas/SSATab`) on good values;
the runs `ssaEvent.item` cuts a line into concatenate to the line (all lines), hence
`newSSAEventFromItem ∘ ssaEvent.item = id` on events in normal form.
-/

namespace Astisub
namespace SSA
open Go List

theorem canonOK_of_cellOK {f : Fld} {v : Val} (h : CellOK f v) : CanonOK v := by
  cases v with
  | c c => exact h.2
  | i i => exact h.2
  | _ => trivial

theorem canonOK_of_siOK {f : SI} {v : Val} (h : SIOK f v) : CanonOK v := by
  cases v with
  | c c => rcases si_kind f with e | e | e <;> (have := h.1; rw [e] at this; cases this)
  | i i => exact h.2
  | _ => trivial

theorem infoOfMeta_metadata (m : Attrs) (h : InfoOK (infoOfMeta m)) :
    infoOfMeta (infoOfMeta m).metadata = infoOfMeta m := by
  have hvals : (infoOfMeta (infoOfMeta m).metadata).vals = (infoOfMeta m).vals := by
    rw [infoOfMeta_vals, metadata_eq, siTab.ofAttrs_toAttrs [("Comments", _)] _ si_keys_pairwise
      fun _ _ hv => ⟨(h.value hv).1, canonOK_of_siOK (h.value hv)⟩,
      infoOfMeta_vals, siTab.pick_ofAttrs]
  have hcom : (infoOfMeta (infoOfMeta m).metadata).comments = (infoOfMeta m).comments := by
    have e : (infoOfMeta (infoOfMeta m).metadata).comments =
        match kvGet (infoOfMeta m).metadata "Comments" with | some c => splitC '\n' c | none => [] := rfl
    rw [e, kvGet_metadata_comments]
    have hnl := h.1
    generalize (infoOfMeta m).comments = cs at hnl ⊢
    cases cs with
    | nil => rfl
    | cons c cs =>
      simp only [isEmpty_cons, Bool.false_eq_true, ↓reduceIte]
      exact splitC_join (by simp) (fun x hx => (hnl x hx).2)
  exact (Info.mk.injEq _ _ _ _).mpr ⟨hcom, hvals⟩

theorem scriptType_metadata (m : Attrs) :
    kvGet (infoOfMeta m).metadata "SSAScriptType" = kvGet m "SSAScriptType" := by
  rw [metadata_eq, show "SSAScriptType" = siTab.key .scriptType from rfl, siTab.kvGet_toAttrs [("Comments", _)] _ si_keys_pairwise,
    infoOfMeta_vals, siTab.ofAttrs_get]
  show ((kvGet m "SSAScriptType").map (Val.ofCanon .str)).map Val.canon = kvGet m "SSAScriptType"
  cases kvGet m "SSAScriptType" <;> rfl

theorem styleOfDef_toDef (d : Def) (h : StyleOK (styleOfDef d)) :
    styleOfDef (styleOfDef d).toDef = styleOfDef d := by
  refine (Style.mk.injEq _ _ _ _).mpr ⟨rfl, ?_⟩
  show (styleOfDef (styleOfDef d).toDef).vals = (styleOfDef d).vals
  rw [styleOfDef_vals, toDef_attrs, fldTab.ofAttrs_toAttrs [] _ C04.fld_keys_pairwise
    fun _ _ hv => ⟨(h.cell hv).1, canonOK_of_cellOK (h.cell hv)⟩,
    styleOfDef_vals, fldTab.pick_ofAttrs]

theorem pairwise_leId_map {l : List Def} (g : Def → Def) (hg : ∀ d, (g d).id = d.id)
    (h : l.Pairwise (fun a b => C19.leId a b = true)) : (l.map g).Pairwise (fun a b => C19.leId a b = true) := by
  rw [pairwise_map]
  apply h.imp
  intro a b hab
  unfold C19.leId at hab ⊢
  rw [hg a, hg b]
  exact hab

theorem writerStyles_toDef (s : Subs) (h : ∀ st ∈ writerStyles s, StyleOK st) :
    (((writerStyles s).map Style.toDef).mergeSort fun a b => !strLt b.id a.id).map styleOfDef = writerStyles s := by
  have hsorted : ((writerStyles s).map Style.toDef).Pairwise (fun a b => C19.leId a b = true) := by
    unfold writerStyles
    rw [map_map]
    exact pairwise_leId_map _ (fun d => rfl) (pairwise_mergeSort C19.leId_trans C19.leId_total s.styles)
  have e : (fun a b : Def => !strLt b.id a.id) = C19.leId := rfl
  rw [e, mergeSort_of_pairwise hsorted, map_map]
  conv => rhs; rw [← map_id (writerStyles s)]
  apply map_congr_left
  intro st hst
  have hst' := hst
  unfold writerStyles at hst'
  obtain ⟨d, _, rfl⟩ := mem_map.mp hst'
  exact styleOfDef_toDef d (h _ hst)

/-- what the writer emits for the runs of a line -/
def flatRuns (rs : List LItem) : Str := (rs.map fun li => (kvGet li.attrs "SSAEffect").getD [] ++ li.text).flatten

theorem kvGet_effAttrs (e : Str) : kvGet (effAttrs e) "SSAEffect" = some e := by
  simp [kvGet, effAttrs]

theorem segsF_flat : ∀ (fuel : Nat) (s acc : Str), s.length < fuel →
    ∃ t0 rest, segsF fuel s acc = .text t0 :: rest ∧ t0 ++ flatRuns (pairRuns rest) = acc.reverse ++ s := by
  intro fuel
  induction fuel with
  | zero => intro s acc h; simp at h
  | succ n ih =>
    intro s acc h
    cases s with
    | nil => exact ⟨acc.reverse, [], rfl, by simp [pairRuns, flatRuns]⟩
    | cons c cs =>
      have hlen : cs.length < n := by simpa using h
      unfold segsF
      by_cases hc : c = '{'
      · subst hc
        simp only [↓reduceIte]
        cases hEff : effLen cs 0 none with
        | none =>
          simp only
          obtain ⟨t0, rest, h1, h2⟩ := ih cs ('{' :: acc) hlen
          exact ⟨t0, rest, h1, by rw [h2]; simp⟩
        | some k =>
          simp only
          obtain ⟨t1, rest1, h1, h2⟩ := ih (cs.drop k) [] (by rw [length_drop]; omega)
          refine ⟨acc.reverse, _, rfl, ?_⟩
          rw [h1]
          simp only [pairRuns, flatRuns, map_cons, flatten_cons, kvGet_effAttrs, Option.getD_some]
          have h2' : t1 ++ (map (fun li => (kvGet li.attrs "SSAEffect").getD [] ++ li.text) (pairRuns rest1)).flatten = drop k cs := by
            simpa [flatRuns] using h2
          rw [append_assoc ('{' :: take k cs), h2']
          simp
      · simp only [hc, ↓reduceIte]
        obtain ⟨t0, rest, h1, h2⟩ := ih cs (c :: acc) hlen
        exact ⟨t0, rest, h1, by rw [h2]; simp⟩

theorem flat_lineRuns (L : Str) : flatRuns (lineRuns L) = L := by
  obtain ⟨t0, rest, h1, h2⟩ := segsF_flat (L.length + 1) L [] (by omega)
  unfold lineRuns segs
  rw [h1]
  cases rest with
  | nil =>
    simp only
    simpa [flatRuns, kvGet, pairRuns] using h2
  | cons r rs =>
    simp only
    rw [← show t0 ++ flatRuns (pairRuns (r :: rs)) = L by simpa using h2]
    cases t0 with
    | nil => simp [flatRuns]
    | cons x xs => simp [flatRuns, kvGet]

theorem foldl_voice (nm : Str) (g : Str → List LItem) : ∀ (ls : List Str) (n0 : Str),
    (ls.map fun s => ({ voice := nm, items := g s } : Line)).foldl (fun n l => if l.voice.isEmpty then n else l.voice) n0
      = if ls = [] ∨ nm.isEmpty then n0 else nm := by
  intro ls
  induction ls with
  | nil => intro n0; simp
  | cons l ls ih =>
    intro n0
    simp only [map_cons, foldl_cons, ih]
    by_cases hn : nm.isEmpty = true
    · simp [hn]
    · simp [hn]

/-- the style named by an event is written back: no style, or the identifier of a style of the cue list other than `*Default` -/
def StyleRef (ids : List Str) (st : Str) : Prop := st = [] ∨ (st ∈ ids ∧ st ≠ "*Default".toList)

instance (ids : List Str) (st : Str) : Decidable (StyleRef ids st) :=
  inferInstanceAs (Decidable (st = [] ∨ (st ∈ ids ∧ st ≠ "*Default".toList)))

/-- the text is unchanged by the reader's line splitting: no `\N`, no space around a `\n` -/
def TextFix (t : Str) : Prop := join "\\n".toList (textLines t) = t

instance (t : Str) : Decidable (TextFix t) := inferInstanceAs (Decidable (join "\\n".toList (textLines t) = t))

theorem resolveStyle_ref (ids : List Str) (st : Str) (h : StyleRef ids st) : (resolveStyle ids st).getD [] = st := by
  unfold resolveStyle
  rcases h with rfl | ⟨hm, _⟩
  · rfl
  · cases st with
    | nil => rfl
    | cons c cs =>
      simp [hm]

theorem optInt_back (o : Option Int) (h : ∀ v, o = some v → Int64 v) : (o.map itoa).map atoiLoose = o := by
  cases o with
  | none => rfl
  | some v => simp [atoiLoose_itoa v (h v rfl)]

/-- an event `ssaEvent.item` and `newSSAEventFromItem` take back to itself -/
structure EventBack (ids : List Str) (x : Event) : Prop where
  cat : x.category = "Dialogue".toList
  style : StyleRef ids x.style
  layer : ∀ v, x.layer = some v → Int64 v
  marginL : ∀ v, x.marginL = some v → Int64 v
  marginR : ∀ v, x.marginR = some v → Int64 v
  marginV : ∀ v, x.marginV = some v → Int64 v
  text : TextFix x.text

theorem eventOfItem_eventItem (ids : List Str) (x : Event) (h : EventBack ids x) :
    eventOfItem (eventItem ids x) = x := by
  obtain ⟨cat, eff, en, lay, mk, ml, mr, mv, nm, st, sty, tx⟩ := x
  obtain ⟨hcat, hsty, hl, hml, hmr, hmv, htx⟩ := h
  simp only at hcat hsty hl hml hmr hmv htx
  have hp := ev_keys_pairwise (optStr eff) (lay.map itoa) (ml.map itoa) (mr.map itoa) (mv.map itoa) (mk.map boolStr)
  unfold eventOfItem eventItem
  simp only [Event.mk.injEq]
  refine ⟨hcat.symm, ?_, trivial, ?_, ?_, ?_, ?_, ?_, ?_, trivial, ?_, ?_⟩
  · rw [kvGet_mkAttrs_mem _ hp "SSAEffect" (optStr eff) (by simp)]
    exact optStr_getD eff
  · rw [kvGet_mkAttrs_mem _ hp "SSALayer" (lay.map itoa) (by simp)]
    exact optInt_back lay hl
  · rw [kvGet_mkAttrs_mem _ hp "SSAMarked" (mk.map boolStr) (by simp)]
    exact optBool_back mk
  · rw [kvGet_mkAttrs_mem _ hp "SSAMarginLeft" (ml.map itoa) (by simp)]
    exact optInt_back ml hml
  · rw [kvGet_mkAttrs_mem _ hp "SSAMarginRight" (mr.map itoa) (by simp)]
    exact optInt_back mr hmr
  · rw [kvGet_mkAttrs_mem _ hp "SSAMarginVertical" (mv.map itoa) (by simp)]
    exact optInt_back mv hmv
  · rw [foldl_voice nm lineRuns (textLines tx) []]
    simp only [textLines_ne_nil, false_or]
    cases nm <;> rfl
  · exact resolveStyle_ref ids sty hsty
  · rw [map_map]
    have : (fun l : Line => (l.items.map fun li => (kvGet li.attrs "SSAEffect").getD [] ++ li.text).flatten)
        ∘ (fun s => ({ voice := nm, items := lineRuns s } : Line)) = fun s => s := by
      funext s
      exact flat_lineRuns s
    rw [this, map_id']
    exact htx

end SSA
end Astisub
