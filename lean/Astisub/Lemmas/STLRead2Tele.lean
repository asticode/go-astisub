import Astisub.Lemmas.STLRead2Row

/-!
# Lemmas/STLRead2Tele — teletext rows (display standards 1 and 2): the reader model's `parseTeletextRow` and the
independent decoder's `teleRow` on every row of the decoder's class

The simulation relation (`tst`): the model's row state is determined by the decoder's (style, box state, pending text,
closed runs): same style pointers, `started` iff the decoder is inside the box, same pending text, the closed runs as
line items (`teleItem`), no diacritic pending.  One lemma per kind of byte (`step_*`, `tst_*`; the attribute bytes
through `AttrTo`), the decoder's recursion as an induction principle (`teleRow_induct`), and the two put together
(`tele_sim`).
-/

namespace Astisub
namespace C05
open Go STL

/-- the reader's style pointers for a style of the decoder -/
def lstyT (s : Spec.STL.Sty) : LSty :=
  { color := s.color, dh := s.dh, ds := s.ds, dw := s.dw, boxing := s.boxing, italics := s.italic, underline := s.underline }

/-- the same for the style a run of the decoder carries -/
def lstyR (r : Spec.STL.Run) : LSty :=
  { color := r.color, dh := r.dh, ds := r.ds, dw := r.dw, boxing := r.boxing, italics := r.italic, underline := r.underline }

/-- the line item `appendTeletextLineItem` builds for a run of the decoder: its text and `teleEntries` -/
def teleItem (r : Spec.STL.Run) : LItem :=
  { text := r.text, attrs := some (mkAttrs (stlAttrs (lstyR r) ++
      [("TeletextColor", r.color.map colorSSA), ("TTMLColor", r.color.map colorTTML),
       ("TeletextDoubleHeight", optB r.dh), ("TeletextDoubleSize", optB r.ds), ("TeletextDoubleWidth", optB r.dw),
       ("TeletextSpacesBefore", some (itoaNat r.spacesBefore)), ("TeletextSpacesAfter", some (itoaNat r.spacesAfter))])) }

/-- the attribute entries of `teleItem`: the three STL flags, then what `appendTeletextLineItem` adds -/
def teleEntries (r : Spec.STL.Run) : List (String × Option Str) :=
  stlAttrs (lstyR r) ++
    [("TeletextColor", r.color.map colorSSA), ("TTMLColor", r.color.map colorTTML),
     ("TeletextDoubleHeight", optB r.dh), ("TeletextDoubleSize", optB r.ds), ("TeletextDoubleWidth", optB r.dw),
     ("TeletextSpacesBefore", some (itoaNat r.spacesBefore)), ("TeletextSpacesAfter", some (itoaNat r.spacesAfter))]

theorem teleItem_attrs (r : Spec.STL.Run) : (teleItem r).attrs = some (mkAttrs (teleEntries r)) := rfl

/-- the reader's row state that corresponds to the decoder's state (style, box state 0 / 1 / 2, pending text, closed runs) -/
def tst (s : Spec.STL.Sty) (box : Nat) (t : Str) (acc : List Spec.STL.Run) : RowSt :=
  { items := acc.map teleItem, text := t, sty := lstyT s, acc := none, started := box == 1 }

theorem countWhile_countSp : ∀ t : Str, countWhile (· == ' ') t = Spec.STL.countSp t
  | [] => rfl
  | c :: cs => by
    by_cases h : c = ' '
    · subst h; simp [countWhile, Spec.STL.countSp, countWhile_countSp cs]
    · have : Spec.STL.countSp (c :: cs) = 0 := by
        unfold Spec.STL.countSp
        split
        · rename_i heq; injection heq with h1 _; exact absurd h1 h
        · rfl
      simp [countWhile, h, this]

theorem appendTele_tst (s : Spec.STL.Sty) (box : Nat) (t : Str) (acc : List Spec.STL.Run) :
    appendTele (tst s box t acc) = (acc ++ (Spec.STL.mkRun s t true).toList).map teleItem := by
  unfold appendTele Spec.STL.mkRun tst
  by_cases h : trimSpace t = []
  · simp [h]
  · simp [h, teleItem, lstyT, lstyR, countWhile_countSp, stlAttrs]

/-- the left side is the model's "close the pending run" as it stands in `teleStep` -/
theorem close_tst (s : Spec.STL.Sty) (box : Nat) (t : Str) (acc : List Spec.STL.Run) :
    (if ((tst s box t acc).started || decide ((tst s box t acc).text ≠ [])) = true
      then { tst s box t acc with items := appendTele (tst s box t acc), text := [] } else tst s box t acc)
    = tst s box [] (acc ++ (Spec.STL.mkRun s t true).toList) := by
  rw [appendTele_tst]
  split
  · rfl
  · rename_i h
    have h2 : t = [] := by
      simp only [Bool.or_eq_true, decide_eq_true_eq, not_or, Decidable.not_not] at h
      exact h.2
    subst h2
    simp [tst, Spec.STL.mkRun, trimSpace_nil]

theorem step_text (st : RowSt) (v : Nat) (hv : 0x20 ≤ v) (hnc : ¬ isCode v) :
    teleStep st v = if st.started = true
      then { st with text := st.text ++ str (decode st.acc v).1, acc := (decode st.acc v).2 } else st := by
  have c : ¬ v ≤ 7 ∧ (v == 0x0A) = false ∧ (v == 0x0B) = false ∧ (v == 0x0C) = false ∧ (v == 0x0D) = false ∧
      (v == 0x0E) = false ∧ (v == 0x0F) = false ∧ ¬ v ≤ 0x0F := by simp; omega
  unfold teleStep
  simp only [c, if_false, Bool.false_eq_true, stlCode_none st.sty v hnc, Option.isSome_none, Bool.or_false]

theorem step_pad (st : RowSt) : teleStep st 0x8F = st := by
  rw [step_text st 0x8F (by omega) (by unfold isCode; omega)]
  have : decode st.acc 0x8F = ([], st.acc) := by simp [decode, table_no_codes 0x8F (by decide) (by decide)]
  rw [this]
  have e : ({ st with text := st.text ++ str [], acc := st.acc } : RowSt) = st := by cases st; simp [str]
  simp only [e, ite_self]

theorem tst_sb (s : Spec.STL.Sty) (box : Nat) (t : Str) (acc : List Spec.STL.Run) :
    teleStep (tst s box t acc) 0x0B = tst s 1 t acc := by
  unfold teleStep
  simp [decode, table_no_codes 0x0B (by decide) (by decide), str]
  rfl

theorem tst_eb (s : Spec.STL.Sty) (box : Nat) (t : Str) (acc : List Spec.STL.Run) :
    teleStep (tst s box t acc) 0x0A = tst s (if (box == 1) = true then 2 else box) t acc := by
  unfold teleStep
  simp only [Nat.reduceLeDiff, Nat.reduceBEq, if_true, Bool.false_eq_true, if_false, Option.isSome_none, Bool.or_false]
  unfold tst
  by_cases h : (box == 1) = true
  · rw [if_pos h]; rfl
  · rw [if_neg h]; simp only [RowSt.mk.injEq, true_and]; simpa using h

theorem tst_char (s : Spec.STL.Sty) (box : Nat) (t : Str) (acc : List Spec.STL.Run) (v : Nat) (cps : List Nat)
    (ht : tableGet v = some cps) (hlo : ¬ v < 0x20) (hnc : ¬ isCode v) (hd : Spec.STL.isDia v = false) :
    teleStep (tst s box t acc) v = tst s box (if (box == 1) = true then t ++ str cps else t) acc := by
  rw [step_text _ v (by omega) hnc, show (tst s box t acc).acc = none from rfl, decode_char v cps ht hd,
    show (tst s box t acc).started = (box == 1) from rfl]
  by_cases h : (box == 1) = true
  · rw [if_pos h, if_pos h]; rfl
  · rw [if_neg h, if_neg h]

theorem tst_dia (s : Spec.STL.Sty) (box : Nat) (t : Str) (acc : List Spec.STL.Run) (v k : Nat)
    (hd : Spec.STL.isDia v = true) (hl : Spec.STL.isLetter k = true) :
    teleStep (teleStep (tst s box t acc) v) k = tst s box (if (box == 1) = true then t ++ str (nfcPair k v) else t) acc := by
  obtain ⟨d1, d2, _⟩ := isDia_range v hd
  obtain ⟨l1, l2⟩ := isLetter_lt k hl
  obtain ⟨e1, e2⟩ := decode_dia v k hd hl
  rw [step_text _ v (by omega) (by unfold isCode; omega), show (tst s box t acc).started = (box == 1) from rfl]
  by_cases h : (box == 1) = true
  · rw [if_pos h, if_pos h, show (tst s box t acc).acc = none from rfl, e1, step_text _ k (by omega) (by unfold isCode; omega)]
    simp only [e2]
    rw [if_pos h]
    simp [tst, str]
  · rw [if_neg h, if_neg h, step_text _ k (by omega) (by unfold isCode; omega),
      show (tst s box t acc).started = (box == 1) from rfl, if_neg h]

theorem styCode_cases (s : Spec.STL.Sty) (v : Nat) (hc : isCode v) :
    ∃ s', Spec.STL.styCode s v = some s' ∧ stlCode (lstyT s) v = some (lstyT s') ∧ s'.color = s.color := by
  unfold isCode at hc
  have : v = 0x80 ∨ v = 0x81 ∨ v = 0x82 ∨ v = 0x83 ∨ v = 0x84 ∨ v = 0x85 := by omega
  rcases this with rfl | rfl | rfl | rfl | rfl | rfl <;> exact ⟨_, rfl, rfl, rfl⟩

theorem styCode_inv (s s' : Spec.STL.Sty) (v : Nat) (h : Spec.STL.styCode s v = some s') :
    isCode v ∧ stlCode (lstyT s) v = some (lstyT s') ∧ s'.color = s.color := by
  by_cases hc : isCode v
  · obtain ⟨s'', h1, h2, h3⟩ := styCode_cases s v hc
    rw [h] at h1
    rw [Option.some.inj h1]
    exact ⟨hc, h2, h3⟩
  · rw [styCode_none s v hc] at h; cases h

/-- `AttrTo s v s'`: in style `s` the decoder accepts the attribute byte `v` (a colour other than the present one, normal
    size while some size is on, a size that is not on yet, a style code) and continues in style `s'` -/
inductive AttrTo (s : Spec.STL.Sty) : Nat → Spec.STL.Sty → Prop
  | col (v : Nat) : v ≤ 7 → ¬ (s.color == some v) = true → AttrTo s v { s with color := some v }
  | normal : (s.dh == some true || s.ds == some true || s.dw == some true) = true →
      AttrTo s 0x0C { s with dh := some false, ds := some false, dw := some false }
  | dh : ¬ (s.dh == some true) = true → AttrTo s 0x0D { s with dh := some true }
  | dw : ¬ (s.dw == some true) = true → AttrTo s 0x0E { s with dw := some true }
  | ds : ¬ (s.ds == some true) = true → AttrTo s 0x0F { s with ds := some true }
  | code (v : Nat) (s' : Spec.STL.Sty) : Spec.STL.styCode s v = some s' → AttrTo s v s'

/-- the model's "size has changed" tests (`teletextBoolHasChanged`, unset = false) in the decoder's terms -/
theorem getD_ne (b : Option Bool) : (false != b.getD false) = (b == some true) ∧ (true != b.getD false) = !(b == some true) := by
  rcases b with _ | _ | _ <;> exact ⟨rfl, rfl⟩

/-- on such a byte the model closes the pending run and takes the new style: for the model the style "has changed"
    exactly when the decoder does not reject the byte as redundant -/
theorem step_attr {s s' : Spec.STL.Sty} {v : Nat} (h : AttrTo s v s') (box : Nat) (t : Str) (acc : List Spec.STL.Run) :
    teleStep (tst s box t acc) v = tst s' box [] (acc ++ (Spec.STL.mkRun s t true).toList) := by
  have ed : (tst s box t acc).sty.dh = s.dh := rfl
  have es : (tst s box t acc).sty.ds = s.ds := rfl
  have ew : (tst s box t acc).sty.dw = s.dw := rfl
  cases h with
  | col v hv hne =>
    have hne' : (some v != (tst s box t acc).sty.color) = true := by
      simp only [tst, lstyT]
      simp at hne ⊢
      exact fun e => hne e.symm
    have c : (v == 0x0A) = false ∧ (v == 0x0B) = false ∧ (v == 0x0C) = false ∧ (v == 0x0D) = false ∧
        (v == 0x0E) = false ∧ (v == 0x0F) = false ∧ v ≤ 0x0F := by simp; omega
    unfold teleStep
    simp only [hv, c, if_true, Bool.false_eq_true, if_false, Option.isSome_some, Option.isSome_none,
      Bool.or_false, Bool.true_and, hne', Bool.true_or]
    rw [close_tst]
    rfl
  | normal h | dh h | dw h | ds h =>
    unfold teleStep
    simp only [Nat.reduceLeDiff, Nat.reduceBEq, if_true, Bool.false_eq_true, if_false, Option.isSome_some, Option.isSome_none,
      Bool.or_false, Bool.or_true, Bool.false_or, Bool.false_and, ed, es, ew, getD_ne, h, Bool.not_false, Bool.true_or]
    rw [close_tst]
    rfl
  | code v s' h =>
    obtain ⟨hc, e, _⟩ := styCode_inv s s' v h
    unfold isCode at hc
    have c : ¬ v ≤ 7 ∧ (v == 0x0A) = false ∧ (v == 0x0B) = false ∧ (v == 0x0C) = false ∧ (v == 0x0D) = false ∧
        (v == 0x0E) = false ∧ (v == 0x0F) = false ∧ ¬ v ≤ 0x0F := by simp; omega
    have e : stlCode (tst s box t acc).sty v = some (lstyT s') := e
    unfold teleStep
    simp only [c, if_false, Bool.false_eq_true, e, Option.isSome_none,
      Option.isSome_some, Bool.or_true, Bool.true_or, Bool.false_or, if_true, Bool.false_and]
    rw [close_tst]
    rfl

/-- The decoder's recursion over a teletext row as an induction principle, one case per kind of byte it accepts.
    The bound `n` on the length carries the recursion (a diacritic is consumed with its letter). -/
theorem teleRow_induct (res : List Spec.STL.Run) (M : Bytes → Spec.STL.Sty → Nat → Str → List Spec.STL.Run → Prop)
    (nil : ∀ s box t acc, res = acc ++ (Spec.STL.mkRun s t true).toList → M [] s box t acc)
    (pad : ∀ rest s box t acc, M rest s box t acc → M (0x8F :: rest) s box t acc)
    (sb : ∀ rest s box t acc, M rest s 1 t acc → M (0x0B :: rest) s box t acc)
    (eb : ∀ rest s box t acc, M rest s (if (box == 1) = true then 2 else box) t acc → M (0x0A :: rest) s box t acc)
    (attr : ∀ v rest s s' box t acc, AttrTo s v s' → M rest s' box [] (acc ++ (Spec.STL.mkRun s t true).toList) →
      M (v :: rest) s box t acc)
    (dia : ∀ v k rest s box t acc, Spec.STL.isDia v = true → Spec.STL.isLetter k = true →
      M rest s box (if (box == 1) = true then t ++ (Spec.STL.compose k v).map Char.ofNat else t) acc →
      M (v :: k :: rest) s box t acc)
    (char : ∀ v cps rest s box t acc, Spec.STL.tab v = some cps → ¬ v < 0x20 → ¬ isCode v → Spec.STL.isDia v = false →
      M rest s box (if (box == 1) = true then t ++ cps.map Char.ofNat else t) acc → M (v :: rest) s box t acc) :
    ∀ (n : Nat) (row : Bytes), row.length ≤ n → ∀ (s : Spec.STL.Sty) (box : Nat) (t : Str) (acc : List Spec.STL.Run),
      Spec.STL.teleRow row s box t acc = some res → M row s box t acc
  | _, [], _, s, box, t, acc, h => by
    rw [Spec.STL.teleRow] at h
    exact nil s box t acc (Option.some.inj h).symm
  | 0, v :: rest, hlen, _, _, _, _, _ => by simp at hlen
  | n + 1, v :: rest, hlen, s, box, t, acc, h => by
    have hlen' : rest.length ≤ n := by simpa using hlen
    have ih := teleRow_induct res M nil pad sb eb attr dia char n
    unfold Spec.STL.teleRow at h
    rcases ite_inv h with ⟨e, h⟩ | ⟨-, h⟩
    · rw [eq_of_beq e]; exact pad _ _ _ _ _ (ih rest hlen' _ _ _ _ h)
    rcases ite_inv h with ⟨e, h⟩ | ⟨-, h⟩
    · rw [eq_of_beq e]; exact sb _ _ _ _ _ (ih rest hlen' _ _ _ _ h)
    rcases ite_inv h with ⟨e, h⟩ | ⟨-, h⟩
    · rw [eq_of_beq e]; exact eb _ _ _ _ _ (ih rest hlen' _ _ _ _ h)
    rcases ite_inv h with ⟨e, h⟩ | ⟨-, h⟩
    · obtain ⟨hc, h⟩ := Option.ite_none_left_eq_some.mp h
      exact attr _ _ _ _ _ _ _ (.col v e hc) (ih rest hlen' _ _ _ _ h)
    rcases ite_inv h with ⟨e, h⟩ | ⟨-, h⟩
    · obtain ⟨hc, h⟩ := Option.ite_none_right_eq_some.mp h
      rw [eq_of_beq e]; exact attr _ _ _ _ _ _ _ (.normal hc) (ih rest hlen' _ _ _ _ h)
    rcases ite_inv h with ⟨e, h⟩ | ⟨-, h⟩
    · obtain ⟨hc, h⟩ := Option.ite_none_left_eq_some.mp h
      rw [eq_of_beq e]; exact attr _ _ _ _ _ _ _ (.dh hc) (ih rest hlen' _ _ _ _ h)
    rcases ite_inv h with ⟨e, h⟩ | ⟨-, h⟩
    · obtain ⟨hc, h⟩ := Option.ite_none_left_eq_some.mp h
      rw [eq_of_beq e]; exact attr _ _ _ _ _ _ _ (.dw hc) (ih rest hlen' _ _ _ _ h)
    rcases ite_inv h with ⟨e, h⟩ | ⟨-, h⟩
    · obtain ⟨hc, h⟩ := Option.ite_none_left_eq_some.mp h
      rw [eq_of_beq e]; exact attr _ _ _ _ _ _ _ (.ds hc) (ih rest hlen' _ _ _ _ h)
    cases hsc : Spec.STL.styCode s v with
    | some s' =>
      rw [hsc] at h
      exact attr _ _ _ _ _ _ _ (.code v s' hsc) (ih rest hlen' _ _ _ _ (Option.ite_none_left_eq_some.mp h).2)
    | none =>
      rw [hsc] at h
      have hnc : ¬ isCode v := fun hc => by
        obtain ⟨s', hs', _⟩ := styCode_cases s v hc
        rw [hs'] at hsc; cases hsc
      obtain ⟨hlo, h⟩ := Option.ite_none_left_eq_some.mp h
      rcases ite_inv h with ⟨hd, h⟩ | ⟨hd, h⟩
      · cases rest with
        | nil => cases h
        | cons k rest' =>
          obtain ⟨hl, h⟩ := Option.ite_none_right_eq_some.mp h
          have hlen2 : rest'.length ≤ n := by simp at hlen'; omega
          refine dia _ _ _ _ _ _ _ hd hl ?_
          rcases ite_inv h with ⟨hb, h⟩ | ⟨hb, h⟩
          · rw [if_pos hb]; exact ih rest' hlen2 _ _ _ _ h
          · rw [if_neg hb]; exact ih rest' hlen2 _ _ _ _ h
      · cases ht : Spec.STL.tab v with
        | none => rw [ht] at h; cases h
        | some cps =>
          rw [ht] at h
          refine char _ _ _ _ _ _ _ ht hlo hnc (by simpa using hd) ?_
          rcases ite_inv h with ⟨hb, h⟩ | ⟨hb, h⟩
          · rw [if_pos hb]; exact ih rest hlen' _ _ _ _ h
          · rw [if_neg hb]; exact ih rest hlen' _ _ _ _ h

theorem tele_sim (row : Bytes) (s : Spec.STL.Sty) (box : Nat) (t : Str) (acc res : List Spec.STL.Run)
    (h : Spec.STL.teleRow row s box t acc = some res) :
    appendTele (row.foldl teleStep (tst s box t acc)) = res.map teleItem ∧
      (row.foldl teleStep (tst s box t acc)).acc = none :=
  teleRow_induct res
    (fun row s box t acc => appendTele (row.foldl teleStep (tst s box t acc)) = res.map teleItem ∧
      (row.foldl teleStep (tst s box t acc)).acc = none)
    (fun s box t acc e => ⟨e ▸ appendTele_tst s box t acc, rfl⟩)
    (fun rest s box t acc ih => by rw [List.foldl_cons, step_pad]; exact ih)
    (fun rest s box t acc ih => by rw [List.foldl_cons, tst_sb]; exact ih)
    (fun rest s box t acc ih => by rw [List.foldl_cons, tst_eb]; exact ih)
    (fun v rest s s' box t acc ha ih => by rw [List.foldl_cons, step_attr ha]; exact ih)
    (fun v k rest s box t acc hd hl ih => by rw [List.foldl_cons, List.foldl_cons, tst_dia s box t acc v k hd hl]; exact ih)
    (fun v cps rest s box t acc ht hlo hnc hd ih => by rw [List.foldl_cons, tst_char s box t acc v cps ht hlo hnc hd]; exact ih)
    row.length row (Nat.le_refl _) s box t acc h

theorem tele_row_agree (row : Bytes) (res : List Spec.STL.Run) (h : Spec.STL.teleRow row {} 0 [] [] = some res) :
    STL.teleRow none row = (if res.isEmpty then none else some { items := res.map teleItem }, none) := by
  obtain ⟨h1, h2⟩ := tele_sim row {} 0 [] [] res h
  show (if (appendTele (row.foldl teleStep (tst {} 0 [] []))).isEmpty then none
      else some ({ items := appendTele (row.foldl teleStep (tst {} 0 [] [])) } : Line),
    (row.foldl teleStep (tst {} 0 [] [])).acc) = _
  rw [h1, h2]
  cases res <;> rfl

end C05
end Astisub
