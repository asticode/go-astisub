import Astisub.Driver.SRT
import Astisub.Spec.SSA
import Astisub.Spec.VTT
import Astisub.Lemmas.Scan

/-! # Lemmas/Bytes — from the bytes of a document to its lines

`Driver.utf8` is `flatMap String.utf8EncodeChar` and `Driver.decodeLine` inverts it; the bytes 10 and 13
come from LF and CR only, so the scanner (`Go.linesOf`) cuts the encoding of a text exactly where
`Spec.SRT.splitLines` cuts the text: `Driver.linesOf_utf8`, `Driver.docLines_of_decodeLine`.
The SSA and WebVTT specifications carry their own copies of `splitLines`; `Spec.SSA.splitLines_eq` and
`Spec.VTT.splitLines_eq` identify them with the SubRip one. -/

namespace Astisub
namespace Driver
open Go List

/-! ### UTF-8 encoding is a homomorphism, and `decodeLine` inverts it -/

theorem byteArray_toList_loop (d : Array UInt8) (i : Nat) (r : List UInt8) :
    ByteArray.toList.loop ⟨d⟩ i r = r.reverse ++ d.toList.drop i := by
  induction hn : d.size - i using Nat.strongRecOn generalizing i r with
  | _ n ih =>
    rw [ByteArray.toList.loop]
    have hs : (ByteArray.mk d).size = d.size := rfl
    rw [hs]
    split
    · rename_i hlt
      rw [ih (d.size - (i+1)) (by omega) (i+1) _ rfl]
      have hlt' : i < d.toList.length := by simpa using hlt
      rw [List.drop_eq_getElem_cons hlt']
      have hg : (ByteArray.mk d).get! i = d[i]! := rfl
      rw [hg]
      simp [hlt]
    · rename_i hge
      have : d.toList.length ≤ i := by simp; omega
      simp [List.drop_eq_nil_of_le this]

/-- `ByteArray.toList` is a loop in core, without lemmas -/
theorem byteArray_toList (bs : ByteArray) : bs.toList = bs.data.toList := by
  cases bs with
  | mk d => simp [ByteArray.toList, byteArray_toList_loop]

theorem utf8_eq_flatMap (s : Str) : utf8 s = s.flatMap String.utf8EncodeChar := by
  simp [utf8, byteArray_toList, List.utf8Encode]

theorem utf8_nil : utf8 [] = [] := by rw [utf8_eq_flatMap]; rfl

theorem utf8_append (a b : Str) : utf8 (a ++ b) = utf8 a ++ utf8 b := by
  simp only [utf8_eq_flatMap, flatMap_append]

theorem utf8_cons (c : Char) (s : Str) : utf8 (c :: s) = String.utf8EncodeChar c ++ utf8 s := by
  simp only [utf8_eq_flatMap, flatMap_cons]

theorem utf8_lf_cons (s : Str) : utf8 ('\n' :: s) = 10 :: utf8 s := utf8_cons '\n' s

theorem utf8_cr_cons (s : Str) : utf8 ('\r' :: s) = 13 :: utf8 s := utf8_cons '\r' s

theorem utf8_eq_nil_iff {s : Str} : utf8 s = [] ↔ s = [] := by
  cases s with
  | nil => simp [utf8_nil]
  | cons c s => simp [utf8_cons]

theorem decodeLine_utf8 (l : Str) : decodeLine (utf8 l) = some l := by
  have h1 : ByteArray.mk (utf8 l).toArray = l.utf8Encode := by
    simp [utf8, byteArray_toList]
  unfold decodeLine
  rw [h1, String.fromUTF8?, dif_pos ByteArray.isValidUTF8_utf8Encode]
  have h2 : String.fromUTF8 l.utf8Encode ByteArray.isValidUTF8_utf8Encode = String.ofList l := by
    rw [← String.toByteArray_inj]; simp [String.fromUTF8]
  simp [h2]

theorem utf8_of_decodeLine {doc : List UInt8} {text : Str} (h : decodeLine doc = some text) :
    doc = utf8 text := by
  unfold decodeLine at h
  rw [String.fromUTF8?] at h
  split at h
  · simp only [Option.map_some, Option.some.injEq] at h
    subst h
    unfold utf8
    rw [String.ofList_toList]
    simp [String.fromUTF8, byteArray_toList]
  · simp at h

theorem decodeLine_eq_some_iff {doc : List UInt8} {text : Str} :
    decodeLine doc = some text ↔ doc = utf8 text :=
  ⟨utf8_of_decodeLine, fun h => h ▸ decodeLine_utf8 text⟩

/-! ### the bytes 10 and 13 only come from LF and CR -/

/-- a byte below 0x80 in the UTF-8 encoding of a character is the character's code point
    (every byte of a multi-byte sequence is ≥ 0x80) -/
theorem ascii_mem_encodeChar {c : Char} {b : UInt8} (h : b ∈ String.utf8EncodeChar c)
    (hb : b.toNat < 128) : c.val.toNat = b.toNat := by
  unfold String.utf8EncodeChar at h
  simp only at h
  split at h
  · simp only [List.mem_cons, List.not_mem_nil, or_false] at h
    subst h
    simp only [UInt8.toNat_ofNat']
    omega
  · exfalso
    split at h
    · simp only [List.mem_cons, List.not_mem_nil, or_false] at h
      rcases h with h | h <;> (subst h; simp only [UInt8.toNat_ofNat'] at hb; omega)
    · split at h
      · simp only [List.mem_cons, List.not_mem_nil, or_false] at h
        rcases h with h | h | h <;> (subst h; simp only [UInt8.toNat_ofNat'] at hb; omega)
      · simp only [List.mem_cons, List.not_mem_nil, or_false] at h
        rcases h with h | h | h | h <;> (subst h; simp only [UInt8.toNat_ofNat'] at hb; omega)

theorem lf_mem_encodeChar {c : Char} (h : (10 : UInt8) ∈ String.utf8EncodeChar c) : c = '\n' :=
  Char.ext (UInt32.toNat_inj.mp (ascii_mem_encodeChar h (by decide)))

theorem cr_mem_encodeChar {c : Char} (h : (13 : UInt8) ∈ String.utf8EncodeChar c) : c = '\r' :=
  Char.ext (UInt32.toNat_inj.mp (ascii_mem_encodeChar h (by decide)))

theorem noEOL_utf8 {l : Str} (hlf : '\n' ∉ l) (hcr : '\r' ∉ l) : NoEOL (utf8 l) := by
  refine noEOL_iff.mpr fun b hb => ?_
  rw [utf8_eq_flatMap, List.mem_flatMap] at hb
  obtain ⟨c, hc, hbc⟩ := hb
  exact ⟨fun e => hlf (lf_mem_encodeChar (e ▸ hbc) ▸ hc), fun e => hcr (cr_mem_encodeChar (e ▸ hbc) ▸ hc)⟩

theorem utf8_head_ne_lf {d : Char} (hd : d ≠ '\n') (s : Str) : (utf8 (d :: s)).head? ≠ some 10 := by
  rw [utf8_cons]
  cases he : String.utf8EncodeChar d with
  | nil => exact absurd he String.utf8EncodeChar_ne_nil
  | cons b bs =>
    intro e
    obtain rfl : b = 10 := Option.some.inj e
    exact hd (lf_mem_encodeChar (he ▸ mem_cons_self))

end Driver

namespace Go
open List

/-- neither LF nor CR: no line cutter cuts inside -/
def OneLine (l : Str) : Prop := '\n' ∉ l ∧ '\r' ∉ l

theorem OneLine.nil : OneLine [] := ⟨not_mem_nil, not_mem_nil⟩

theorem OneLine.append {a b : Str} (ha : OneLine a) (hb : OneLine b) : OneLine (a ++ b) :=
  ⟨fun h => (mem_append.mp h).elim ha.1 hb.1, fun h => (mem_append.mp h).elim ha.2 hb.2⟩

theorem OneLine.of_noSpace {l : Str} (h : ∀ c ∈ l, isSpace c = false) : OneLine l :=
  ⟨fun hm => absurd (h _ hm) (by decide), fun hm => absurd (h _ hm) (by decide)⟩

theorem oneLine_iff {l : Str} : OneLine l ↔ ∀ c ∈ l, c ≠ '\n' ∧ c ≠ '\r' :=
  ⟨fun h _ hc => ⟨fun e => h.1 (e ▸ hc), fun e => h.2 (e ▸ hc)⟩, fun h => ⟨fun hm => (h _ hm).1 rfl, fun hm => (h _ hm).2 rfl⟩⟩

end Go

namespace Spec
open Go List

namespace SRT

theorem splitLines_nil (acc : Str) : splitLines [] acc = if acc.isEmpty then [] else [acc.reverse] := by
  rw [splitLines]

theorem splitLines_crlf (rest acc : Str) :
    splitLines ('\r' :: '\n' :: rest) acc = acc.reverse :: splitLines rest [] := by
  rw [splitLines]

theorem splitLines_lf (rest acc : Str) :
    splitLines ('\n' :: rest) acc = acc.reverse :: splitLines rest [] := by
  rw [splitLines]

theorem splitLines_char {c : Char} (hlf : c ≠ '\n') (hcr : c ≠ '\r') (rest acc : Str) :
    splitLines (c :: rest) acc = splitLines rest (c :: acc) := by
  rw [splitLines]
  · intro r e _; exact hcr e
  · exact hlf
  · exact hcr

theorem splitLines_append {l : Str} (hlf : '\n' ∉ l) (hcr : '\r' ∉ l) (rest acc : Str) :
    splitLines (l ++ rest) acc = splitLines rest (l.reverse ++ acc) := by
  induction l generalizing acc with
  | nil => rfl
  | cons c l ih =>
    rw [cons_append, splitLines_char (fun e => hlf (e ▸ mem_cons_self)) (fun e => hcr (e ▸ mem_cons_self)),
      ih (fun h => hlf (mem_cons_of_mem _ h)) (fun h => hcr (mem_cons_of_mem _ h)), reverse_cons,
      append_assoc, singleton_append]

theorem splitLines_line {l : Str} (hlf : '\n' ∉ l) (hcr : '\r' ∉ l) (rest acc : Str) :
    splitLines (l ++ '\n' :: rest) acc = (acc.reverse ++ l) :: splitLines rest [] := by
  rw [splitLines_append hlf hcr, splitLines_lf, reverse_append, reverse_reverse]

theorem splitLines_flatMap_lf {ls : List Str} (h : ∀ l ∈ ls, OneLine l) :
    splitLines (ls.flatMap fun l => l ++ ['\n']) [] = ls := by
  induction ls with
  | nil => rfl
  | cons l ls ih =>
    rw [flatMap_cons, append_assoc, singleton_append, splitLines_line (h l mem_cons_self).1 (h l mem_cons_self).2,
      ih fun x hx => h x (mem_cons_of_mem _ hx)]
    rfl

/-- the accumulator is kept reversed: what is appended to it goes in front of the first line -/
theorem splitLines_acc_append (s acc b : Str) :
    splitLines s (acc ++ b) = match splitLines s acc with
      | [] => if b.isEmpty then [] else [b.reverse]
      | l :: ls => (b.reverse ++ l) :: ls := by
  induction s, acc using splitLines.induct with
  | case1 acc he =>
    obtain rfl := isEmpty_iff.mp he
    rw [nil_append, splitLines_nil, splitLines_nil]; rfl
  | case2 acc he =>
    have : (acc ++ b).isEmpty = false := by cases acc <;> simp_all
    simp only [splitLines_nil, if_neg he, this, reverse_append, Bool.false_eq_true, if_false]
  | case3 rest acc _ => rw [splitLines_crlf, splitLines_crlf, reverse_append]
  | case4 rest acc _ => rw [splitLines_lf, splitLines_lf, reverse_append]
  | case5 rest acc hnl _ => rw [splitLines.eq_4 _ _ hnl, splitLines.eq_4 _ _ hnl, reverse_append]
  | case6 c rest acc _ hlf hcr ih =>
    rw [splitLines_char hlf hcr, splitLines_char hlf hcr, ← cons_append]; exact ih

theorem splitLines_acc (s acc : Str) :
    splitLines s acc = match splitLines s [] with
      | [] => if acc.isEmpty then [] else [acc.reverse]
      | l :: ls => (acc.reverse ++ l) :: ls :=
  splitLines_acc_append s [] acc

theorem splitLines_cons {c : Char} (hlf : c ≠ '\n') (hcr : c ≠ '\r') (rest : Str) :
    splitLines (c :: rest) [] = match splitLines rest [] with
      | [] => [[c]]
      | l :: ls => (c :: l) :: ls := by
  rw [splitLines_char hlf hcr, splitLines_acc]; rfl

theorem not_mem_of_mem_splitLines {s acc : Str} (hlf : '\n' ∉ acc) (hcr : '\r' ∉ acc) :
    ∀ l ∈ splitLines s acc, OneLine l := by
  have hrev : ∀ {a : Str}, '\n' ∉ a → '\r' ∉ a → OneLine a.reverse :=
    fun h1 h2 => ⟨fun h => h1 (mem_reverse.mp h), fun h => h2 (mem_reverse.mp h)⟩
  have step : ∀ {a : Str} {ls : List Str}, '\n' ∉ a → '\r' ∉ a → (∀ l ∈ ls, OneLine l) →
      ∀ l ∈ a.reverse :: ls, OneLine l :=
    fun h1 h2 hls l hl => (mem_cons.mp hl).elim (fun e => e ▸ hrev h1 h2) (hls l)
  induction s, acc using splitLines.induct with
  | case1 acc he => rw [splitLines_nil, if_pos he]; exact fun _ h => nomatch h
  | case2 acc he => rw [splitLines_nil, if_neg he]; exact step hlf hcr fun _ h => nomatch h
  | case3 rest acc ih => rw [splitLines_crlf]; exact step hlf hcr (ih not_mem_nil not_mem_nil)
  | case4 rest acc ih => rw [splitLines_lf]; exact step hlf hcr (ih not_mem_nil not_mem_nil)
  | case5 rest acc hnl ih =>
    rw [splitLines.eq_4 _ _ hnl]; exact step hlf hcr (ih not_mem_nil not_mem_nil)
  | case6 c rest acc _ h1 h2 ih =>
    rw [splitLines_char h1 h2]
    exact ih (fun h => (mem_cons.mp h).elim (fun e => h1 e.symm) hlf)
      (fun h => (mem_cons.mp h).elim (fun e => h2 e.symm) hcr)

end SRT

theorem SSA.splitLines_eq : SSA.splitLines = SRT.splitLines := by
  funext s acc
  induction s, acc using SRT.splitLines.induct with
  | case1 acc he => rw [SRT.splitLines, SSA.splitLines]
  | case2 acc he => rw [SRT.splitLines, SSA.splitLines]
  | case3 rest acc ih => rw [SRT.splitLines, SSA.splitLines, ih]
  | case4 rest acc ih => rw [SRT.splitLines, SSA.splitLines, ih]
  | case5 rest acc hnl ih => rw [SRT.splitLines.eq_4 _ _ hnl, SSA.splitLines.eq_4 _ _ hnl, ih]
  | case6 c rest acc h0 h1 h2 ih =>
    rw [SRT.splitLines.eq_5 _ _ _ h0 h1 h2, SSA.splitLines.eq_5 _ _ _ h0 h1 h2, ih]

theorem VTT.splitLines_eq : VTT.splitLines = SRT.splitLines := by
  funext s acc
  induction s, acc using SRT.splitLines.induct with
  | case1 acc he => rw [SRT.splitLines, VTT.splitLines]
  | case2 acc he => rw [SRT.splitLines, VTT.splitLines]
  | case3 rest acc ih => rw [SRT.splitLines, VTT.splitLines, ih]
  | case4 rest acc ih => rw [SRT.splitLines, VTT.splitLines, ih]
  | case5 rest acc hnl ih => rw [SRT.splitLines.eq_4 _ _ hnl, VTT.splitLines.eq_4 _ _ hnl, ih]
  | case6 c rest acc h0 h1 h2 ih =>
    rw [SRT.splitLines.eq_5 _ _ _ h0 h1 h2, VTT.splitLines.eq_5 _ _ _ h0 h1 h2, ih]

end Spec

namespace Driver
open Go List Spec.SRT

/-! ### the scanner's lines are the text's lines -/

theorem linesOf_utf8_acc (s acc : Str) (hlf : '\n' ∉ acc) (hcr : '\r' ∉ acc) :
    linesOf (utf8 acc.reverse ++ utf8 s) = (splitLines s acc).map utf8 := by
  have hp : ∀ {a : Str}, '\n' ∉ a → '\r' ∉ a → NoEOL (utf8 a.reverse) := fun h1 h2 =>
    noEOL_utf8 (fun h => h1 (mem_reverse.mp h)) (fun h => h2 (mem_reverse.mp h))
  -- after a terminator the scan starts afresh, with nothing pending
  have fresh : ∀ {r : Str}, linesOf (utf8 ([] : Str).reverse ++ utf8 r) = (splitLines r []).map utf8 →
      linesOf (utf8 r) = (splitLines r []).map utf8 := fun h => by
    rwa [reverse_nil, utf8_nil, nil_append] at h
  induction s, acc using splitLines.induct with
  | case1 acc he =>
    obtain rfl := isEmpty_iff.mp he
    rw [splitLines_nil, if_pos he, reverse_nil, utf8_nil]; exact linesOf_empty
  | case2 acc he =>
    rw [splitLines_nil, if_neg he, utf8_nil, append_nil,
      linesOf_noEOL (hp hlf hcr) fun e => he (by rw [isEmpty_iff, ← reverse_eq_nil_iff, utf8_eq_nil_iff.mp e])]
    rfl
  | case3 rest acc ih =>
    rw [splitLines_crlf, utf8_cr_cons, utf8_lf_cons, linesOf_crlf (hp hlf hcr), map_cons,
      fresh (ih not_mem_nil not_mem_nil)]
  | case4 rest acc ih =>
    rw [splitLines_lf, utf8_lf_cons, linesOf_lf (hp hlf hcr), map_cons, fresh (ih not_mem_nil not_mem_nil)]
  | case5 rest acc hnl ih =>
    have h10 : (utf8 rest).head? ≠ some 10 := by
      cases rest with
      | nil => rw [utf8_nil]; nofun
      | cons d r => exact utf8_head_ne_lf (fun e => hnl r (by rw [e])) r
    rw [splitLines.eq_4 _ _ hnl, utf8_cr_cons, linesOf_cr (hp hlf hcr) h10, map_cons,
      fresh (ih not_mem_nil not_mem_nil)]
  | case6 c rest acc _ h1 h2 ih =>
    rw [splitLines_char h1 h2, ← ih (fun h => (mem_cons.mp h).elim (fun e => h1 e.symm) hlf)
      (fun h => (mem_cons.mp h).elim (fun e => h2 e.symm) hcr), reverse_cons, utf8_append, append_assoc,
      ← utf8_append [c] rest, singleton_append]

theorem linesOf_utf8 (text : Str) : linesOf (utf8 text) = (splitLines text []).map utf8 := by
  have := linesOf_utf8_acc text [] not_mem_nil not_mem_nil
  rwa [reverse_nil, utf8_nil, nil_append] at this

theorem docLines_utf8 (text : Str) : docLines (utf8 text) = (splitLines text []).map some := by
  rw [docLines, linesOf_utf8, map_map]
  exact map_congr_left fun l _ => decodeLine_utf8 l

/-- a byte string that decodes as UTF-8 to `text` is cut by the scanner into lines that decode to
    exactly the lines `splitLines` cuts `text` into -/
theorem docLines_of_decodeLine {doc : List UInt8} {text : Str} (h : decodeLine doc = some text) :
    docLines doc = (splitLines text []).map some := by
  rw [utf8_of_decodeLine h, docLines_utf8]

end Driver
end Astisub
