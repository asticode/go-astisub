import Mathlib.Tactic.Linarith
import Mathlib.Tactic.Positivity
import Mathlib.Tactic.NormNum
import Mathlib.Algebra.Order.Floor.Ring
import Mathlib.Data.Rat.Floor
import Mathlib.Data.Int.Log

/-!
# Lemmas/F53Rnd — round-to-nearest-even: to an integer (`rne`), and to 53 significant bits as a function `ℚ → ℚ` (`rnd`)

`rne y` is defined for every rational `y` (either sign). It is characterised by `IsRNE`:
`z` is within 1/2 of `y`, and if it is exactly 1/2 away then `z` is even. `rne_spec` says `rne y`
has this property, `rne_unique` says nothing else has.

`rnd x` is defined for every rational: with `E = ⌊log₂|x|⌋ − 52` (so that `|x| / 2^E ∈ [2⁵², 2⁵³)`),
`rnd x = rne (x / 2^E) · 2^E`. No overflow, no subnormals: the exponent range is unbounded, as in
`Go.Float53`. Proved for it are the properties of the abstract float model: relative error
at most 2⁻⁵³ (`rnd_err`), monotone (`rnd_mono`), odd (`rnd_neg`), commutes with scaling by powers
of two (`rnd_scale`), fixes the integers up to 2⁵³ (`rnd_int`) and so never crosses one (`rnd_ge_int`, `rnd_le_int`),
and a characterisation (`rnd_eq`) used to connect it with `Dy.round`.
-/

namespace Astisub
namespace F53

/-- nearest integer, ties to even -/
def rne (y : ℚ) : ℤ :=
  if y - ⌊y⌋ < 1 / 2 then ⌊y⌋
  else if 1 / 2 < y - ⌊y⌋ then ⌊y⌋ + 1
  else if ⌊y⌋ % 2 = 0 then ⌊y⌋ else ⌊y⌋ + 1

/-- `z` is a nearest integer of `y`, and the even one when there are two -/
def IsRNE (y : ℚ) (z : ℤ) : Prop :=
  |y - z| ≤ 1 / 2 ∧ (|y - z| = 1 / 2 → z % 2 = 0)

theorem rne_spec (y : ℚ) : IsRNE y (rne y) := by
  have h1 := Int.floor_le y
  have h2 := Int.lt_floor_add_one y
  unfold IsRNE rne
  generalize ⌊y⌋ = n at h1 h2 ⊢
  split_ifs with c1 c2 c3
  · rw [abs_of_nonneg (by linarith)]
    exact ⟨c1.le, fun h => absurd h c1.ne⟩
  · push_cast
    rw [abs_of_nonpos (by linarith)]
    exact ⟨by linarith, fun h => by linarith⟩
  · rw [le_antisymm (not_lt.mp c2) (not_lt.mp c1)]
    exact ⟨by norm_num, fun _ => c3⟩
  · push_cast
    rw [abs_of_nonpos (by linarith)]
    exact ⟨by linarith, fun _ => by omega⟩

theorem abs_half : |(1 / 2 : ℚ)| = 1 / 2 := abs_of_pos (by norm_num)

/-- two nearest integers of `y` differ by at most one, and then `y` lies half-way between them:
    only one of them is even -/
theorem IsRNE.le {y : ℚ} {z z' : ℤ} (h : IsRNE y z) (h' : IsRNE y z') : z ≤ z' := by
  by_contra hc
  have hlt : (z' : ℚ) + 1 ≤ z := by exact_mod_cast not_le.mp hc
  have a := (abs_le.mp h.1).1
  have a' := (abs_le.mp h'.1).2
  have e : y - z = -(1 / 2) := le_antisymm (by linarith) a
  have e' : y - z' = 1 / 2 := le_antisymm a' (by linarith)
  have p := h.2 (by rw [e, abs_neg, abs_half])
  have p' := h'.2 (by rw [e', abs_half])
  have : z = z' + 1 := by exact_mod_cast (le_antisymm (by linarith) hlt : (z : ℚ) = z' + 1)
  omega

theorem IsRNE.unique {y : ℚ} {z z' : ℤ} (h : IsRNE y z) (h' : IsRNE y z') : z = z' :=
  le_antisymm (h.le h') (h'.le h)

theorem rne_unique {y : ℚ} {z : ℤ} (h : IsRNE y z) : rne y = z := (rne_spec y).unique h

theorem rne_err (y : ℚ) : |y - rne y| ≤ 1 / 2 := (rne_spec y).1

theorem rne_intCast (z : ℤ) : rne (z : ℚ) = z :=
  rne_unique ⟨by simp, fun h => by simp at h⟩

theorem isRNE_neg {y : ℚ} {z : ℤ} (h : IsRNE y z) : IsRNE (-y) (-z) := by
  unfold IsRNE
  rw [Int.cast_neg, neg_sub_neg, abs_sub_comm]
  exact ⟨h.1, fun t => by have := h.2 t; omega⟩

theorem rne_neg (y : ℚ) : rne (-y) = -rne y := rne_unique (isRNE_neg (rne_spec y))

/-- if `rne y < rne x` then `y ≤ rne y + 1/2 ≤ rne x - 1/2 ≤ x` -/
theorem rne_mono {x y : ℚ} (h : x ≤ y) : rne x ≤ rne y := by
  by_contra hc
  have hlt : (rne y : ℚ) + 1 ≤ rne x := by exact_mod_cast not_le.mp hc
  have hx := (abs_le.mp (rne_err x)).1
  have hy := (abs_le.mp (rne_err y)).2
  obtain rfl : x = y := le_antisymm h (by linarith)
  exact hc le_rfl

/-- exponent of the unit in the last place of `x` (for 53 significant bits) -/
def ex (x : ℚ) : ℤ := Int.log 2 |x| - 52

/-- round to nearest, ties to even, 53 significant bits, unbounded exponent -/
def rnd (x : ℚ) : ℚ := (rne (x / 2 ^ ex x) : ℚ) * 2 ^ ex x

theorem p2_pos (E : ℤ) : (0 : ℚ) < 2 ^ E := zpow_pos (by norm_num) E

theorem p2_ne (E : ℤ) : (2 : ℚ) ^ E ≠ 0 := ne_of_gt (p2_pos E)

theorem p2_add (a b : ℤ) : (2 : ℚ) ^ (a + b) = 2 ^ a * 2 ^ b := zpow_add₀ (by norm_num) a b

theorem p2_mono {a b : ℤ} (h : a ≤ b) : (2 : ℚ) ^ a ≤ 2 ^ b := zpow_le_zpow_right₀ (by norm_num) h

theorem p2_succ (a : ℤ) : (2 : ℚ) ^ (a + 1) = 2 * 2 ^ a := by
  rw [p2_add]; simp [mul_comm]

theorem p2_52 : (2 : ℚ) ^ (52 : ℤ) = ((2 ^ 52 : ℤ) : ℚ) := by norm_num

theorem p2_53 : (2 : ℚ) ^ (53 : ℤ) = ((2 ^ 53 : ℤ) : ℚ) := by norm_num

theorem ex_eq {x : ℚ} {E : ℤ} (h1 : 2 ^ (E + 52) ≤ |x|) (h2 : |x| < 2 ^ (E + 53)) : ex x = E := by
  have hpos : 0 < |x| := lt_of_lt_of_le (p2_pos _) h1
  have a1 : E + 52 ≤ Int.log 2 |x| := by
    apply (Int.zpow_le_iff_le_log (by norm_num) hpos).mp
    simpa using h1
  have a2 : Int.log 2 |x| < E + 53 := by
    apply (Int.lt_zpow_iff_log_lt (by norm_num) hpos).mp
    simpa using h2
  unfold ex; omega

theorem ex_bounds {x : ℚ} (hx : x ≠ 0) : 2 ^ (ex x + 52) ≤ |x| ∧ |x| < 2 ^ (ex x + 53) := by
  have hpos : 0 < |x| := abs_pos.mpr hx
  have a1 := Int.zpow_log_le_self (b := 2) (by norm_num) hpos
  have a2 := Int.lt_zpow_succ_log_self (b := 2) (by norm_num) |x|
  simp only [Nat.cast_ofNat] at a1 a2
  unfold ex
  constructor
  · rw [show Int.log 2 |x| - 52 + 52 = Int.log 2 |x| by ring]; exact a1
  · rw [show Int.log 2 |x| - 52 + 53 = Int.log 2 |x| + 1 by ring]; exact a2

theorem ex_lt {x : ℚ} (hx : x ≠ 0) {m : ℤ} (h : |x| < 2 ^ m) : ex x + 52 < m :=
  (zpow_lt_zpow_iff_right₀ (by norm_num)).mp (lt_of_le_of_lt (ex_bounds hx).1 h)

theorem ex_neg (x : ℚ) : ex (-x) = ex x := by unfold ex; rw [abs_neg]

theorem rnd_zero : rnd 0 = 0 := by
  unfold rnd
  simp only [zero_div]
  rw [show (0 : ℚ) = ((0 : ℤ) : ℚ) by simp, rne_intCast]
  simp

theorem rnd_eq {x : ℚ} {E z : ℤ} (h1 : 2 ^ (E + 52) ≤ |x|) (h2 : |x| < 2 ^ (E + 53))
    (hz : IsRNE (x / 2 ^ E) z) : rnd x = (z : ℚ) * 2 ^ E := by
  unfold rnd
  rw [ex_eq h1 h2, rne_unique hz]

theorem rnd_neg (x : ℚ) : rnd (-x) = -rnd x := by
  unfold rnd
  rw [ex_neg, neg_div, rne_neg]
  push_cast; ring

theorem abs_mul_p2 (x : ℚ) (j : ℤ) : |x * 2 ^ j| = |x| * 2 ^ j := by
  rw [abs_mul, abs_of_pos (p2_pos j)]

theorem ex_scale {x : ℚ} (hx : x ≠ 0) (j : ℤ) : ex (x * 2 ^ j) = ex x + j := by
  obtain ⟨b1, b2⟩ := ex_bounds hx
  apply ex_eq
  · rw [abs_mul_p2, show ex x + j + 52 = (ex x + 52) + j by ring, p2_add]
    exact mul_le_mul_of_nonneg_right b1 (le_of_lt (p2_pos j))
  · rw [abs_mul_p2, show ex x + j + 53 = (ex x + 53) + j by ring, p2_add]
    exact mul_lt_mul_of_pos_right b2 (p2_pos j)

theorem rnd_scale (x : ℚ) (j : ℤ) : rnd (x * 2 ^ j) = rnd x * 2 ^ j := by
  by_cases hx : x = 0
  · subst hx; simp [rnd_zero]
  · unfold rnd
    rw [ex_scale hx, p2_add]
    have : x * 2 ^ j / (2 ^ ex x * 2 ^ j) = x / 2 ^ ex x := by
      field_simp [p2_ne]
    rw [this]; ring

theorem rnd_err_ulp (x : ℚ) : |rnd x - x| ≤ 2 ^ ex x / 2 := by
  unfold rnd
  have hp := p2_pos (ex x)
  have e : (rne (x / 2 ^ ex x) : ℚ) * 2 ^ ex x - x
      = -((x / 2 ^ ex x - (rne (x / 2 ^ ex x) : ℚ)) * 2 ^ ex x) := by
    field_simp [p2_ne]
    ring
  rw [e, abs_neg, abs_mul, abs_of_pos hp]
  have := rne_err (x / 2 ^ ex x)
  have := mul_le_mul_of_nonneg_right this (le_of_lt hp)
  linarith

theorem rnd_err_lt_pow {x : ℚ} {m : ℤ} (h : |x| < 2 ^ m) : |rnd x - x| ≤ 2 ^ (m - 53) / 2 := by
  by_cases hx : x = 0
  · subst hx
    rw [rnd_zero, sub_zero, abs_zero]
    exact (div_pos (p2_pos _) (by norm_num)).le
  · have := p2_mono (show ex x ≤ m - 53 by have := ex_lt hx h; omega)
    linarith [rnd_err_ulp x]

theorem rnd_err (x : ℚ) : |rnd x - x| ≤ |x| * (1 / 2 ^ 53) := by
  by_cases hx : x = 0
  · subst hx; simp [rnd_zero]
  · have b := (ex_bounds hx).1
    rw [p2_add, p2_52] at b
    push_cast at b
    linarith [rnd_err_ulp x]

theorem rnd_nonneg {x : ℚ} (hx : 0 ≤ x) : 0 ≤ rnd x := by
  unfold rnd
  have hp := p2_pos (ex x)
  have : (0 : ℚ) ≤ x / 2 ^ ex x := div_nonneg hx (le_of_lt hp)
  have := rne_mono this
  rw [show (0 : ℚ) = ((0 : ℤ) : ℚ) by simp, rne_intCast] at this
  have : (0 : ℚ) ≤ (rne (x / 2 ^ ex x) : ℚ) := by exact_mod_cast this
  exact mul_nonneg this (le_of_lt hp)

theorem rnd_range {x : ℚ} (hx : 0 < x) :
    2 ^ (ex x + 52) ≤ rnd x ∧ rnd x ≤ 2 ^ (ex x + 53) := by
  obtain ⟨b1, b2⟩ := ex_bounds (ne_of_gt hx)
  rw [abs_of_pos hx] at b1 b2
  have hp := p2_pos (ex x)
  have c1 : ((2 ^ 52 : ℤ) : ℚ) ≤ x / 2 ^ ex x := by
    rw [le_div_iff₀ hp, ← p2_52, ← p2_add, add_comm]; exact b1
  have c2 : x / 2 ^ ex x ≤ ((2 ^ 53 : ℤ) : ℚ) := by
    rw [div_le_iff₀ hp, ← p2_53, ← p2_add, add_comm]; exact le_of_lt b2
  have d1 := rne_mono c1
  have d2 := rne_mono c2
  rw [rne_intCast] at d1 d2
  have d1' : ((2 ^ 52 : ℤ) : ℚ) ≤ (rne (x / 2 ^ ex x) : ℚ) := Int.cast_le.mpr d1
  have d2' : (rne (x / 2 ^ ex x) : ℚ) ≤ ((2 ^ 53 : ℤ) : ℚ) := Int.cast_le.mpr d2
  unfold rnd
  constructor
  · rw [add_comm, p2_add, p2_52]
    exact mul_le_mul_of_nonneg_right d1' (le_of_lt hp)
  · rw [add_comm (ex x), p2_add, p2_53]
    exact mul_le_mul_of_nonneg_right d2' (le_of_lt hp)

theorem ex_mono_pos {x y : ℚ} (hx : 0 < x) (h : x ≤ y) : ex x ≤ ex y := by
  unfold ex
  have : |x| ≤ |y| := by rw [abs_of_pos hx, abs_of_pos (lt_of_lt_of_le hx h)]; exact h
  have := Int.log_mono_right (b := 2) (abs_pos.mpr (ne_of_gt hx)) this
  omega

theorem rnd_mono_pos {x y : ℚ} (hx : 0 < x) (h : x ≤ y) : rnd x ≤ rnd y := by
  have hy : 0 < y := lt_of_lt_of_le hx h
  have he := ex_mono_pos hx h
  by_cases heq : ex x = ex y
  · unfold rnd
    rw [heq]
    have hp := p2_pos (ex y)
    have : x / 2 ^ ex y ≤ y / 2 ^ ex y := div_le_div_of_nonneg_right h (le_of_lt hp)
    have := rne_mono this
    have : (rne (x / 2 ^ ex y) : ℚ) ≤ (rne (y / 2 ^ ex y) : ℚ) := Int.cast_le.mpr this
    exact mul_le_mul_of_nonneg_right this (le_of_lt hp)
  · have hlt : ex x + 53 ≤ ex y + 52 := by omega
    calc rnd x ≤ 2 ^ (ex x + 53) := (rnd_range hx).2
      _ ≤ 2 ^ (ex y + 52) := p2_mono hlt
      _ ≤ rnd y := (rnd_range hy).1

theorem rnd_mono {x y : ℚ} (h : x ≤ y) : rnd x ≤ rnd y := by
  by_cases hx : 0 < x
  · exact rnd_mono_pos hx h
  · have hx' : x ≤ 0 := not_lt.mp hx
    have nx : rnd x ≤ 0 := by
      have := rnd_nonneg (neg_nonneg.mpr hx')
      rw [rnd_neg] at this; linarith
    by_cases hy : 0 ≤ y
    · exact le_trans nx (rnd_nonneg hy)
    · have hy' : 0 < -y := by linarith [not_le.mp hy]
      have := rnd_mono_pos hy' (neg_le_neg h)
      rw [rnd_neg, rnd_neg] at this
      linarith

theorem rnd_fixed {x : ℚ} {z : ℤ} (h : x / 2 ^ ex x = (z : ℚ)) : rnd x = x := by
  unfold rnd
  rw [h, rne_intCast, ← h]
  field_simp [p2_ne]

theorem rnd_int (n : ℤ) (hn : |n| ≤ 2 ^ 53) : rnd (n : ℚ) = n := by
  by_cases h0 : n = 0
  · subst h0; simpa using rnd_zero
  · have hx : (n : ℚ) ≠ 0 := by exact_mod_cast h0
    obtain ⟨b1, b2⟩ := ex_bounds hx
    have hq : |(n : ℚ)| ≤ 2 ^ (53 : ℤ) := by
      rw [p2_53]; exact_mod_cast hn
    have hE : ex (n : ℚ) ≤ 1 := by
      have := ex_lt hx (lt_of_le_of_lt hq (show (2 : ℚ) ^ (53 : ℤ) < 2 ^ (54 : ℤ) by norm_num))
      omega
    by_cases c0 : ex (n : ℚ) ≤ 0
    · -- n / 2^E = n * 2^(-E), an integer
      obtain ⟨k, hk⟩ : ∃ k : ℕ, ex (n : ℚ) = -(k : ℤ) := ⟨(-ex (n : ℚ)).toNat, by omega⟩
      apply rnd_fixed (z := n * 2 ^ k)
      rw [hk, zpow_neg, zpow_natCast]
      push_cast
      field_simp
    · have hE1 : ex (n : ℚ) = 1 := by omega
      rw [hE1] at b1
      have habs : |(n : ℚ)| = 2 ^ (53 : ℤ) := le_antisymm hq (by simpa using b1)
      have habsZ : |n| = 2 ^ 53 := by
        have : ((|n| : ℤ) : ℚ) = ((2 ^ 53 : ℤ) : ℚ) := by
          rw [Int.cast_abs, habs, p2_53]
        exact Int.cast_injective this
      rcases (abs_eq (by norm_num)).mp habsZ with rfl | rfl
      · apply rnd_fixed (z := 2 ^ 52); rw [hE1]; norm_num
      · apply rnd_fixed (z := -2 ^ 52); rw [hE1]; norm_num

/-- rounding is monotone and fixes integers up to 2⁵³, so it never crosses one -/
theorem rnd_ge_int {x : ℚ} (q : ℤ) (hq : |q| ≤ 2 ^ 53) (h : (q : ℚ) ≤ x) : (q : ℚ) ≤ rnd x := by
  have := rnd_mono h
  rwa [rnd_int q hq] at this

theorem rnd_le_int {x : ℚ} (q : ℤ) (hq : |q| ≤ 2 ^ 53) (h : x ≤ (q : ℚ)) : rnd x ≤ (q : ℚ) := by
  have := rnd_mono h
  rwa [rnd_int q hq] at this

theorem rnd_le_add {x B : ℚ} (h0 : 0 ≤ x) (hB : x ≤ B) : rnd x ≤ x + B / 2 ^ 53 := by
  have h := rnd_err x
  rw [abs_of_nonneg h0] at h
  have h1 := (abs_le.mp h).2
  have h2 : x * (1 / 2 ^ 53) ≤ B * (1 / 2 ^ 53) := mul_le_mul_of_nonneg_right hB (by positivity)
  have h3 : B * (1 / 2 ^ 53) = B / 2 ^ 53 := by ring
  linarith

end F53
end Astisub
