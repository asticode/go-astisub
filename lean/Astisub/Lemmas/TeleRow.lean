import Astisub.Lemmas.TelePacket

/-!
# Lemmas/TeleRow — one row: the model's `parseTeletextRow` and the specification's `rowRuns`

The model's row parser keeps the items it has already emitted; the specification keeps the runs of character
codes.  `rowStepR` is the model's step with the *raw* runs (style, untrimmed decoded text) kept instead of the
items; it is proved to project onto `rowStep` (`rowStepR_proj`), so `parseRow` is `appendItem` folded over
`modelRuns` (`parseRow_modelRuns`).  Colour and size codes are read through `newStyle` on both sides (`rowStep_style`,
`cell_style`), so a cell falls into one of four classes (`code_cases`).  The raw runs are then proved to be the
specification's runs, one by one: same attributes, text = the run's codes decoded in the character set
(`modelRuns_specRuns`).  The relation that proves it cell by cell (`RowRel`) also carries what later files need of a row:
the specification's codes are printable (`specRuns_printable`), the model's colours are among the eight (`modelRuns_col`).
-/

namespace Astisub
namespace Teletext
open Go Generated.Teletext

/-- the classes of a cell value: colour or size code, end box, start box, or none of these -/
theorem code_cases (v : Nat) : (v < 8 ∨ (0xc ≤ v ∧ v ≤ 0xf)) ∨ v = 0xa ∨ v = 0xb ∨ (8 ≤ v ∧ (v < 0xa ∨ 0x10 ≤ v)) := by omega

/-- a raw run of the model: the style and the untrimmed decoded text handed to `appendTeletextLineItem` -/
abbrev MRun := Style × Str

/-- the items of a list of raw runs: `appendTeletextLineItem` on each, in order (blank runs vanish) -/
def itemsOf (rs : List MRun) : List LItem := rs.foldl (fun l r => appendItem l r.2 r.1) []

theorem itemsOf_snoc (rs : List MRun) (r : MRun) : itemsOf (rs ++ [r]) = appendItem (itemsOf rs) r.2 r.1 := by
  simp [itemsOf]

/-- the state of the row parser with the raw runs kept instead of the items -/
structure RowStR where
  runs : List MRun := []
  text : Str := []
  style : Style := {}
  started : Bool := false

def RowStR.proj (s : RowStR) : RowSt :=
  { items := itemsOf s.runs, text := s.text, style := s.style, started := s.started }

/-- the style after a colour or size code that changes it (`none`: the code changes nothing or is no such code) -/
def newStyle (st : Style) (v : Nat) : Option Style :=
  if v < 8 then (if st.color = some v then none else some { st with color := some v })
  else if v = 0xc then
    (if st.dh.getD false || st.ds.getD false || st.dw.getD false
     then some { st with dh := some false, ds := some false, dw := some false } else none)
  else if v = 0xd then (if st.dh.getD false then none else some { st with dh := some true })
  else if v = 0xe then (if st.dw.getD false then none else some { st with dw := some true })
  else if v = 0xf then (if st.ds.getD false then none else some { st with ds := some true })
  else none

def closeRunR (s : RowStR) (st : Style) : RowStR :=
  { s with runs := s.runs ++ [(s.style, s.text)], text := [], style := st }

/-- one column of `parseTeletextRow`, raw runs kept -/
def rowStepR (c : Charset) (s : RowStR) (v : Nat) : RowStR :=
  match newStyle s.style v with
  | some st => closeRunR s st
  | none =>
    if v < 8 || (0xc ≤ v && v ≤ 0xf) then s
    else if v = 0xa then { s with started := false }
    else if v = 0xb then { s with started := true }
    else if s.started then { s with text := s.text ++ decodeChar c v } else s

open Spec.Teletext (cell closeRun Run Attr)

/-- the attributes a style of the model denotes (an unset size pointer is "off") -/
def attrOf (st : Style) : Attr :=
  { color := st.color, dh := st.dh.getD false, dw := st.dw.getD false, ds := st.ds.getD false }

def dec (c : Charset) (codes : List Nat) : Str := codes.flatMap (decodeChar c)

def viewM (r : MRun) : Attr × Str := (attrOf r.1, r.2)

def viewS (c : Charset) (r : Run) : Attr × Str := (r.attr, dec c r.codes)

theorem appendItem_nil (l : List LItem) (st : Style) : appendItem l [] st = l := by
  simp [appendItem, trimSpace, trimRight, trimLeft]

/-- the flush of `rowStep` (guarded since fix-5, see `Model/Teletext.lean`) always hands the text to `appendItem` -/
def flush (s : RowSt) : RowSt := { s with items := appendItem s.items s.text s.style, text := [] }

/-- the guard of the flush does not matter: with nothing to flush, `appendItem` adds nothing (stated as `simp` leaves it) -/
theorem flush_eq (s : RowSt) :
    (if s.started = true ∨ ¬ s.text = [] then
      ({ items := appendItem s.items s.text s.style, text := [], style := s.style, started := s.started } : RowSt) else s) = flush s := by
  obtain ⟨i, tx, st, sd⟩ := s
  cases sd <;> cases tx <;> simp [flush, appendItem_nil]

theorem newStyle_none (st : Style) (v : Nat) (h : ¬ (v < 8 ∨ (0xc ≤ v ∧ v ≤ 0xf))) : newStyle st v = none := by
  have : ¬ v < 8 ∧ v ≠ 0xc ∧ v ≠ 0xd ∧ v ≠ 0xe ∧ v ≠ 0xf := by omega
  simp [newStyle, this]

theorem rowStep_style (c : Charset) (s : RowSt) (v : Nat) (h : v < 8 ∨ (0xc ≤ v ∧ v ≤ 0xf)) :
    rowStep c s v = match newStyle s.style v with
      | some st => { flush s with style := st }
      | none => s := by
  have hfs : (flush s).style = s.style := rfl
  have hv : v < 8 ∨ v = 0xc ∨ v = 0xd ∨ v = 0xe ∨ v = 0xf := by omega
  rcases hv with hv | rfl | rfl | rfl | rfl
  · have h2 : v ≠ 0xa ∧ v ≠ 0xb ∧ v ≠ 0xc ∧ v ≠ 0xd ∧ v ≠ 0xe ∧ v ≠ 0xf := by omega
    by_cases hc : s.style.color = some v
    · simp [rowStep, newStyle, hv, h2, hc, ptrDiffers]
    · have : (some v != s.style.color) = true := by simp [bne_iff_ne]; exact fun h => hc h.symm
      simp [rowStep, newStyle, hv, h2, hc, ptrDiffers, this, flush_eq, hfs]
  · cases hdh : s.style.dh.getD false <;> cases hds : s.style.ds.getD false <;> cases hdw : s.style.dw.getD false <;>
      simp [rowStep, newStyle, ptrDiffers, hdh, hds, hdw, flush_eq, hfs]
  · cases hdh : s.style.dh.getD false <;> simp [rowStep, newStyle, ptrDiffers, hdh, flush_eq, hfs]
  · cases hdw : s.style.dw.getD false <;> simp [rowStep, newStyle, ptrDiffers, hdw, flush_eq, hfs]
  · cases hds : s.style.ds.getD false <;> simp [rowStep, newStyle, ptrDiffers, hds, flush_eq, hfs]

theorem rowStep_endBox (c : Charset) (s : RowSt) : rowStep c s 0xa = { s with started := false } := by
  simp [rowStep]

theorem rowStepR_inert (c : Charset) (s : RowStR) (v : Nat) (h8 : 8 ≤ v) (hv : v < 0xa ∨ 0x10 ≤ v) :
    rowStepR c s v = if s.started then { s with text := s.text ++ decodeChar c v } else s := by
  have : ¬ v < 8 ∧ v ≠ 0xa ∧ v ≠ 0xb ∧ ¬ (0xc ≤ v ∧ v ≤ 0xf) := by omega
  simp [rowStepR, newStyle_none s.style v (by omega), this]

theorem proj_close (s : RowStR) (st : Style) : (closeRunR s st).proj = { flush s.proj with style := st } := by
  simp [closeRunR, RowStR.proj, flush, itemsOf_snoc]

theorem rowStepR_proj (c : Charset) (s : RowStR) (v : Nat) : (rowStepR c s v).proj = rowStep c s.proj v := by
  rcases code_cases v with h | rfl | rfl | ⟨h8, h⟩
  · rw [rowStep_style c _ v h]
    show (rowStepR c s v).proj = match newStyle s.style v with | some st => { flush s.proj with style := st } | none => s.proj
    unfold rowStepR
    cases newStyle s.style v with
    | some st => exact proj_close s st
    | none => simp [h]
  · rw [rowStep_endBox]; simp [rowStepR, newStyle, RowStR.proj]
  · rw [C06.rowStep_startBox]; simp [rowStepR, newStyle, RowStR.proj]
  · rw [C06.rowStep_inert c _ v h8 h, rowStepR_inert c s v h8 h]
    cases hs : s.started <;> simp [RowStR.proj, hs]

theorem foldl_rowStepR_proj (c : Charset) : ∀ (row : List Nat) (s : RowStR),
    (row.foldl (rowStepR c) s).proj = row.foldl (rowStep c) s.proj
  | [], _ => rfl
  | v :: row, s => by
    rw [List.foldl_cons, List.foldl_cons, foldl_rowStepR_proj c row, rowStepR_proj]

/-- the raw runs of a row, the one under construction at the end of the row included -/
def modelRuns (c : Charset) (row : List Nat) : List MRun :=
  let s := row.foldl (rowStepR c) {}
  s.runs ++ [(s.style, s.text)]

theorem parseRow_modelRuns (c : Charset) (row : List Nat) :
    parseRow c row = (let items := itemsOf (modelRuns c row); if items.isEmpty then none else some { items := items }) := by
  have h := foldl_rowStepR_proj c row {}
  have h0 : ({} : RowStR).proj = {} := rfl
  rw [h0] at h
  unfold parseRow modelRuns
  rw [← h]
  simp only [itemsOf_snoc]
  rfl

theorem cell_none (s : Spec.Teletext.RowSt) : cell s none = s := rfl

theorem cell_style (s : Spec.Teletext.RowSt) (v : Nat) (h : v < 8 ∨ (0xc ≤ v ∧ v ≤ 0xf)) (st : Style)
    (hst : attrOf st = s.cur.attr) :
    cell s (some v) = match newStyle st v with
      | some st' => closeRun s (attrOf st')
      | none => s := by
  have hv : v < 8 ∨ v = 0xc ∨ v = 0xd ∨ v = 0xe ∨ v = 0xf := by omega
  rcases hv with hv | rfl | rfl | rfl | rfl
  · by_cases hc : st.color = some v <;> simp [cell, newStyle, ← hst, attrOf, hv, hc]
  · cases hdh : st.dh.getD false <;> cases hds : st.ds.getD false <;> cases hdw : st.dw.getD false <;>
      simp [cell, newStyle, ← hst, attrOf, hdh, hds, hdw]
  · cases hdh : st.dh.getD false <;> simp [cell, newStyle, ← hst, attrOf, hdh]
  · cases hdw : st.dw.getD false <;> simp [cell, newStyle, ← hst, attrOf, hdw]
  · cases hds : st.ds.getD false <;> simp [cell, newStyle, ← hst, attrOf, hds]

theorem cell_endBox (s : Spec.Teletext.RowSt) : cell s (some 0xa) = { s with boxed := false } := by simp [cell]
theorem cell_startBox (s : Spec.Teletext.RowSt) : cell s (some 0xb) = { s with boxed := true } := by simp [cell]

theorem cell_low (s : Spec.Teletext.RowSt) (v : Nat) (h8 : 8 ≤ v) (hv : v < 0xa ∨ 0x10 ≤ v) (h20 : v < 0x20) :
    cell s (some v) = s := by
  have : ¬ v < 8 ∧ v ≠ 0xa ∧ v ≠ 0xb ∧ v ≠ 0xc ∧ v ≠ 0xd ∧ v ≠ 0xe ∧ v ≠ 0xf := by omega
  simp [cell, this, h20]

theorem cell_char (s : Spec.Teletext.RowSt) (v : Nat) (h20 : 0x20 ≤ v) :
    cell s (some v) = if s.boxed then { s with cur := { s.cur with codes := s.cur.codes ++ [v] } } else s := by
  have : ¬ v < 8 ∧ v ≠ 0xa ∧ v ≠ 0xb ∧ v ≠ 0xc ∧ v ≠ 0xd ∧ v ≠ 0xe ∧ v ≠ 0xf ∧ ¬ v < 0x20 := by omega
  simp [cell, this]

theorem cell_bad (s : Spec.Teletext.RowSt) (x : Option Nat) : (cell s x).bad = s.bad := by
  cases x with
  | none => rfl
  | some v =>
    rcases code_cases v with h | rfl | rfl | ⟨h8, h⟩
    · rw [cell_style s v h ⟨s.cur.attr.color, some s.cur.attr.dh, some s.cur.attr.ds, some s.cur.attr.dw⟩ (by simp [attrOf])]
      split <;> rfl
    · rw [cell_endBox]
    · rw [cell_startBox]
    · by_cases h20 : v < 0x20
      · rw [cell_low s v h8 h h20]
      · rw [cell_char s v (by omega)]; split <;> rfl

/-- character codes a row can hold as text -/
def Printable (codes : List Nat) : Prop := ∀ v ∈ codes, 0x20 ≤ v ∧ v < 0x80

instance (codes : List Nat) : Decidable (Printable codes) := by unfold Printable; infer_instance

/-- a colour, when set, is one of the eight teletext colours -/
def ColOK (st : Style) : Prop := ∀ col, st.color = some col → col < 8

theorem newStyle_col (st : Style) (v : Nat) (st' : Style) (h : ColOK st) (hn : newStyle st v = some st') : ColOK st' := by
  unfold newStyle at hn
  by_cases h8 : v < 8
  · simp only [h8, if_true] at hn
    split at hn
    · cases hn
    · cases hn
      intro col hc
      simp at hc; omega
  · simp only [h8, if_false] at hn
    repeat' split at hn
    all_goals first
      | (cases hn; exact h)
      | cases hn

/-- the model's row state (raw runs kept) and the specification's, after the same cells: same box flag, the styles denote the
    runs' attributes, the texts are the runs' codes decoded in `c`; along the way all codes are printable and every colour is
    one of the eight -/
structure RowRel (c : Charset) (m : RowStR) (s : Spec.Teletext.RowSt) : Prop where
  boxed : m.started = s.boxed
  attr : attrOf m.style = s.cur.attr
  text : m.text = dec c s.cur.codes
  runs : m.runs.map viewM = s.runs.map (viewS c)
  codes : ∀ r ∈ s.runs ++ [s.cur], Printable r.codes
  col : ColOK m.style ∧ ∀ r ∈ m.runs, ColOK r.1

theorem RowRel.close {c : Charset} {m : RowStR} {s : Spec.Teletext.RowSt} (h : RowRel c m s) (st : Style) (a : Attr)
    (ha : attrOf st = a) (hc : ColOK st) : RowRel c (closeRunR m st) (closeRun s a) := by
  refine ⟨h.boxed, ha, by simp [closeRunR, closeRun, dec], ?_, fun r hr => ?_, hc, fun r hr => ?_⟩
  · simp only [closeRunR, closeRun, List.map_append, h.runs, List.map_cons, List.map_nil]
    congr 2
    simp only [viewM, viewS, h.attr, h.text]
  · rcases List.mem_append.mp hr with hr | hr
    · exact h.codes r hr
    · rw [List.mem_singleton.mp hr]; exact fun v hv => absurd hv (by simp [closeRun])
  · rcases List.mem_append.mp hr with hr | hr
    · exact h.col.2 r hr
    · rw [List.mem_singleton.mp hr]; exact h.col.1

theorem RowRel.init (c : Charset) : RowRel c {} {} := by
  refine ⟨rfl, rfl, rfl, rfl, fun r hr => ?_, fun col hc => absurd hc (by simp), fun r hr => absurd hr (by simp)⟩
  rw [List.mem_singleton.mp hr]; exact fun v hv => absurd hv (by simp)

theorem decodeChar_low (c : Charset) (v : Nat) (h : v < 0x20) : decodeChar c v = [] := by
  simp [decodeChar, h]

theorem RowRel.step {c : Charset} {m : RowStR} {s : Spec.Teletext.RowSt} (h : RowRel c m s) (x : Option Nat)
    (hx : ∀ v, x = some v → v < 128) : RowRel c (rowStepR c m (storedCell x)) (cell s x) := by
  have hkeep : ∀ v, decodeChar c v = [] → RowRel c (if m.started then { m with text := m.text ++ decodeChar c v } else m) s := by
    intro v hv
    rw [hv, List.append_nil]; split <;> exact h
  cases x with
  | none => rw [cell_none, storedCell, rowStepR_inert c m _ (by decide) (by decide)]; exact hkeep _ (C06.C06_invalid_no_text c)
  | some v =>
    have hv := hx v rfl
    simp only [storedCell]
    rcases code_cases v with hs | rfl | rfl | ⟨h8, hi⟩
    · rw [cell_style s v hs m.style h.attr]
      unfold rowStepR
      cases hn : newStyle m.style v with
      | some st => exact h.close st _ rfl (newStyle_col _ v st h.col.1 hn)
      | none => simpa [hs] using h
    · rw [cell_endBox]
      exact ⟨rfl, h.attr, h.text, h.runs, h.codes, h.col⟩
    · rw [cell_startBox]
      exact ⟨rfl, h.attr, h.text, h.runs, h.codes, h.col⟩
    · rw [rowStepR_inert c m v h8 hi]
      by_cases h20 : v < 0x20
      · rw [cell_low s v h8 hi h20]; exact hkeep v (decodeChar_low c v h20)
      · rw [cell_char s v (by omega), ← h.boxed]
        split
        · refine ⟨rfl, h.attr, by simp [dec, h.text], h.runs, fun r hr => ?_, h.col⟩
          rcases List.mem_append.mp hr with hr | hr
          · exact h.codes r (List.mem_append_left _ hr)
          · rw [List.mem_singleton.mp hr]
            intro w hw
            rcases List.mem_append.mp hw with hw | hw
            · exact h.codes _ (by simp) w hw
            · rw [List.mem_singleton.mp hw]; omega
        · exact h

/-- received cells are 7-bit values -/
def CellsOK (cells : List (Option Nat)) : Prop := ∀ x ∈ cells, ∀ v, x = some v → v < 128

instance (cells : List (Option Nat)) : Decidable (CellsOK cells) := by
  unfold CellsOK
  exact List.decidableBAll (fun x => ∀ v, x = some v → v < 128) cells

theorem RowRel.foldl {c : Charset} : ∀ (cells : List (Option Nat)) {m : RowStR} {s : Spec.Teletext.RowSt}, RowRel c m s →
    CellsOK cells →
    RowRel c ((cells.map storedCell).foldl (rowStepR c) m) (cells.foldl cell s)
  | [], _, _, h, _ => h
  | x :: cells, _, _, h, hx => by
    simp only [List.map_cons, List.foldl_cons]
    exact RowRel.foldl cells (h.step x (hx x (by simp))) (fun y hy => hx y (by simp [hy]))

/-- the runs of the specification before blank runs are dropped, the one under construction included -/
def specRuns (cells : List (Option Nat)) : List Run :=
  let s := cells.foldl cell {}
  s.runs ++ [s.cur]

/-- `rowRuns` never fails: it is `specRuns` without the runs that hold no character other than the blank -/
theorem rowRuns_specRuns (cells : List (Option Nat)) :
    Spec.Teletext.rowRuns cells = some ((specRuns cells).filter fun r => r.codes.any (· != 0x20)) := by
  unfold Spec.Teletext.rowRuns specRuns
  have : (cells.foldl cell {}).bad = false :=
    foldl_inv (·.bad = false) cell cells {} rfl (fun s x _ h => (cell_bad s x).trans h)
  simp [this]

theorem modelRuns_specRuns (c : Charset) (cells : List (Option Nat)) (hx : CellsOK cells) :
    (modelRuns c (cells.map storedCell)).map viewM = (specRuns cells).map (viewS c) := by
  have h := RowRel.foldl cells (RowRel.init c) hx
  unfold modelRuns specRuns
  simp only [List.map_append, h.runs, List.map_cons, List.map_nil]
  congr 2
  simp only [viewM, viewS, h.attr, h.text]

theorem specRuns_printable (cells : List (Option Nat)) (hx : CellsOK cells) :
    ∀ r ∈ specRuns cells, Printable r.codes :=
  (RowRel.foldl cells (RowRel.init []) hx).codes

theorem modelRuns_col (c : Charset) (cells : List (Option Nat)) (hx : CellsOK cells) :
    ∀ r ∈ modelRuns c (cells.map storedCell), ColOK r.1 := by
  have h := (RowRel.foldl cells (RowRel.init c) hx).col
  intro r hr
  rcases List.mem_append.mp hr with hr | hr
  · exact h.2 r hr
  · rw [List.mem_singleton.mp hr]; exact h.1

end Teletext
end Astisub
