import Astisub.Lemmas.SSAEvent
import Astisub.Lemmas.Digits

/-!
# Lemmas/SSA2Spec — the independent decoder (`Spec.SSA`) on the cells the writer emits

The scalar readers of the independent decoder accept every integer, colour, boolean and time cell the
writer emits and give it the same value (the cell level of the write → decoder clause, `Props/C04w2`).
The hexadecimal reader is `strconv`'s digit loop at base 16 (`hexOf_eq_digitsBase`), so what the model computes on a
colour the decoder accepts (`Lemmas/SSARead2Scalar`) is read off the same loop.
-/

namespace Astisub
namespace SSA
open Go List

theorem spec_natOf_itoaNat (n : Nat) : Spec.SSA.natOf (itoaNat n) = some n := (Numeral.itoaNat n).natOf

theorem spec_intOf_itoa (v : Int) : Spec.SSA.intOf (itoa v) = some v := by
  unfold itoa
  by_cases hv : v < 0
  · rw [if_pos hv]
    have := Int.ofNat_natAbs_of_nonpos (Int.le_of_lt hv)
    simp [Spec.SSA.intOf, spec_natOf_itoaNat]
    omega
  · rw [if_neg hv]
    have hne := itoaNat_ne_nil v.toNat
    have hn := spec_natOf_itoaNat v.toNat
    cases hs : itoaNat v.toNat with
    | nil => exact absurd hs hne
    | cons c cs =>
      have hd : DigitStr (c :: cs) := hs ▸ digitStr_itoaNat v.toNat
      obtain ⟨h1, h2⟩ := hd.head_ne_sign
      rw [hs] at hn
      unfold Spec.SSA.intOf
      split
      · rename_i heq; cases heq; exact absurd rfl h1
      · rename_i heq; cases heq; exact absurd rfl h2
      · rw [hn]
        simp
        omega

theorem char_le_iff (a b : Char) : a ≤ b ↔ a.toNat ≤ b.toNat := by
  rw [Char.le_def, UInt32.le_iff_toNat_le]; rfl

theorem hexVal_eq (c : Char) :
    Spec.SSA.hexVal c = (digitValBase c).bind fun d => if d < 16 then some d else none := by
  unfold Spec.SSA.hexVal digitValBase
  simp only [char_le_iff]
  rw [show '0'.toNat = 48 from rfl, show '9'.toNat = 57 from rfl, show 'a'.toNat = 97 from rfl,
    show 'f'.toNat = 102 from rfl, show 'z'.toNat = 122 from rfl, show 'A'.toNat = 65 from rfl,
    show 'F'.toNat = 70 from rfl, show 'Z'.toNat = 90 from rfl]
  generalize c.toNat = n
  by_cases h1 : 48 ≤ n ∧ n ≤ 57
  · rw [if_pos h1, if_pos h1, Option.bind_some, if_pos (by omega)]
  rw [if_neg h1, if_neg h1]
  by_cases h2 : 97 ≤ n ∧ n ≤ 122
  · rw [if_pos h2, Option.bind_some]
    by_cases h2' : 97 ≤ n ∧ n ≤ 102
    · rw [if_pos h2', if_pos (by omega)]
    · rw [if_neg h2', if_neg (by omega), if_neg (by omega)]
  rw [if_neg h2, if_neg (by omega)]
  by_cases h3 : 65 ≤ n ∧ n ≤ 90
  · rw [if_pos h3, Option.bind_some]
    by_cases h3' : 65 ≤ n ∧ n ≤ 70
    · rw [if_pos h3', if_pos (by omega)]
    · rw [if_neg h3', if_neg (by omega)]
  · rw [if_neg h3, if_neg (by omega)]; rfl

/-- the decoder's hexadecimal reader is `strconv`'s digit loop at base 16: what the model's reader computes on a written
    colour, and what it answers where the decoder accepts, are both read off the one loop -/
theorem hexOf_eq_digitsBase : ∀ (s : Str) (acc : Nat), Spec.SSA.hexOf s acc = digitsBase 16 s acc
  | [], _ => rfl
  | c :: cs, acc => by
    rw [Spec.SSA.hexOf, digitsBase, hexVal_eq]
    cases digitValBase c with
    | none => rfl
    | some d =>
      rw [Option.bind_some]
      by_cases hd : d < 16
      · simp only [if_pos hd]; exact hexOf_eq_digitsBase cs _
      · simp only [if_neg hd]

theorem hexOf_hex8 (c : Nat) (h : c < 4294967296) : Spec.SSA.hexOf (hex8 c) 0 = some c := by
  rw [hexOf_eq_digitsBase]
  simp only [hex8, digitsBase, C04.digitValBase_hex16, C04.mod16_lt, if_true]
  rw [C04.hex8_value c h]

theorem spec_colourOf_colourString (c : Nat) (h : c < 4294967296) : Spec.SSA.colourOf (colourString c) = some c := by
  have e : "&H".toList = ['&', 'H'] := by rw [String.toList_ofList]
  unfold colourString
  rw [e]
  show (if (hex8 c).isEmpty || (hex8 c).length > 8 then none else Spec.SSA.hexOf (hex8 c) 0) = some c
  rw [hexOf_hex8 c h]
  rfl

theorem spec_boolOf_cell (b : Bool) : Spec.SSA.boolOf (if b then ['1'] else ['0']) = some b := by
  cases b <;> decide

/-- the decoder accepts `h:mm:ss.cc` for numerals `h` of any width and two-digit `mm`, `ss` below 60 and `cc`, with the
    value in centiseconds (`SSAR.timeOf_spec` is the converse) -/
theorem spec_timeOf_fields {h m s c : Str} {H M S C : Nat} (hh : Numeral h H) (hm : Numeral m M) (hs : Numeral s S)
    (hc : Numeral c C) (lm : m.length = 2) (ls : s.length = 2) (lc : c.length = 2) (bM : M < 60) (bS : S < 60) :
    Spec.SSA.timeOf (h ++ ':' :: (m ++ ':' :: s) ++ '.' :: c) = some ((((H * 60 + M) * 60 + S) * 100 + C : Nat) : Int) := by
  have nc : ∀ {t : Str} {v : Nat}, Numeral t v → ':' ∉ t := fun h => h.digitStr.not_mem (by decide)
  have nd : ∀ {t : Str} {v : Nat}, Numeral t v → '.' ∉ t := fun h => h.digitStr.not_mem (by decide)
  have c3 : ':' ∉ s ++ '.' :: c := by
    simp only [mem_append, mem_cons, not_or]; exact ⟨nc hs, by decide, nc hc⟩
  unfold Spec.SSA.timeOf
  rw [show h ++ ':' :: (m ++ ':' :: s) ++ '.' :: c = h ++ ':' :: (m ++ ':' :: (s ++ '.' :: c)) by simp,
    splitC_three_mk (nc hh) (nc hm) c3]
  simp only [splitC_two_mk (nd hs) (nd hc), lm, ls, lc, Spec.SSA.natOf_eq, hh.natOf, hm.natOf, hs.natOf, hc.natOf, bM, bS,
    ne_eq, not_true_eq_false, decide_false, Bool.or_self, Bool.false_eq_true, ↓reduceIte, decide_true, Bool.and_self]

theorem spec_timeOf_formatSSA (t : Int) (h : TimeOK t) : Spec.SSA.timeOf (Duration.formatSSA t) = some (t / 10000000) := by
  obtain ⟨hh, m, s, f, hhh, hm, hs, hf, hfmt, hval⟩ := C16.format_shape2 t '.' h.1 h.2
  unfold Duration.formatSSA
  rw [hfmt, C16.canon2, C16.hms_assoc,
    spec_timeOf_fields (.dd hhh) (.dd (by omega)) (.dd (by omega)) (.dd hf) rfl rfl rfl hm hs]
  unfold Duration.nsPerMs Duration.nsPerS Duration.nsPerMin Duration.nsPerH at hval
  simp only [Option.some.injEq]
  omega

end SSA
end Astisub
