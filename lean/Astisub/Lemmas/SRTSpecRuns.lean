import Astisub.Lemmas.SRTLine
import Astisub.Lemmas.SRTRead2Line

/-!
# Lemmas/SRTSpecRuns — a written text line, read by the independent decoder and by the reader

`TagOK` collects the writer's tags among those `tagAt` recognises; `RunsTo` is `runsOf` at any sufficient
fuel.  A written line comes back from the decoder as its runs (`runsTo_runs`, `cueLines_lines`); the reader
follows the decoder on every line (`SRTRead2.parseText_sim_exact`), so it stores the runs of `normLine l`
(`parseText_lineStr`).
-/

namespace Astisub
namespace SRTDoc
open Go SRT
open Spec.SRT (GRun Sty runsOf cueLines)

/-- what the independent decoder should see in a run: `drvRun (normRun li)` (`drvRun_normRun`, in `Lemmas/SRTSpec`), read off the written markup -/
def viewRun (li : LItem) : Spec.SRT.GRun :=
  { text := li.text, bold := (styleOf li).bold, italic := (styleOf li).italics,
    underline := (styleOf li).underline, color := (styleOf li).color }

theorem tagAt_b (rest : Str) : Spec.SRT.tagAt ('<' :: 'b' :: '>' :: rest) = some (fB, rest) := by
  simp [Spec.SRT.tagAt, toLowerAscii, hasPrefix, dropPrefix?]; rfl

theorem tagAt_i (rest : Str) : Spec.SRT.tagAt ('<' :: 'i' :: '>' :: rest) = some (fI, rest) := by
  simp [Spec.SRT.tagAt, toLowerAscii, hasPrefix, dropPrefix?]; rfl

theorem tagAt_u (rest : Str) : Spec.SRT.tagAt ('<' :: 'u' :: '>' :: rest) = some (fU, rest) := by
  simp [Spec.SRT.tagAt, toLowerAscii, hasPrefix, dropPrefix?]; rfl

theorem tagAt_eb (rest : Str) : Spec.SRT.tagAt ('<' :: '/' :: 'b' :: '>' :: rest) = some (fEB, rest) := by
  simp [Spec.SRT.tagAt, toLowerAscii, hasPrefix, dropPrefix?]; rfl

theorem tagAt_ei (rest : Str) : Spec.SRT.tagAt ('<' :: '/' :: 'i' :: '>' :: rest) = some (fEI, rest) := by
  simp [Spec.SRT.tagAt, toLowerAscii, hasPrefix, dropPrefix?]; rfl

theorem tagAt_eu (rest : Str) : Spec.SRT.tagAt ('<' :: '/' :: 'u' :: '>' :: rest) = some (fEU, rest) := by
  simp [Spec.SRT.tagAt, toLowerAscii, hasPrefix, dropPrefix?]; rfl

theorem tagAt_efont (rest : Str) :
    Spec.SRT.tagAt ('<' :: '/' :: 'f' :: 'o' :: 'n' :: 't' :: '>' :: rest) = some (fEFont, rest) := by
  simp [Spec.SRT.tagAt, toLowerAscii, hasPrefix, dropPrefix?]; rfl

theorem tagAt_font_aux (c z rest : Str) (hd : z.drop c.length = '"' :: '>' :: rest)
    (htw : z.takeWhile (· != '"') = c) (h2 : '&' ∉ c) (h3 : '>' ∉ c) :
    Spec.SRT.tagAt ('<' :: 'f' :: 'o' :: 'n' :: 't' :: ' ' :: 'c' :: 'o' :: 'l' :: 'o' :: 'r' :: '=' :: '"' :: z)
      = some (fFont c, rest) := by
  simp [Spec.SRT.tagAt, toLowerAscii, hasPrefix, dropPrefix?, htw, hd, h2, h3]; rfl

theorem tagAt_font (c rest : Str) (h1 : '"' ∉ c) (h2 : '&' ∉ c) (h3 : '>' ∉ c) :
    Spec.SRT.tagAt ('<' :: 'f' :: 'o' :: 'n' :: 't' :: ' ' :: 'c' :: 'o' :: 'l' :: 'o' :: 'r' :: '=' :: '"' :: (c ++ '"' :: '>' :: rest))
      = some (fFont c, rest) :=
  tagAt_font_aux c _ rest (by simp)
    (List.takeWhile_append_stop _ (fun x hx => by simp only [bne_iff_ne]; rintro rfl; exact h1 hx) (by simp)) h2 h3

/-- with more fuel than characters, `runsOf` on `s` from the state `(sty, acc, out)` answers `r` -/
def RunsTo (s : Str) (sty : Sty) (acc : Str) (out : List GRun) (r : Sty × List GRun) : Prop :=
  ∀ fuel, s.length < fuel → runsOf fuel s sty acc out = some r

theorem runsTo_nil (sty : Sty) (acc : Str) (out : List GRun) : RunsTo [] sty acc out (sty, flushS sty acc out) := by
  intro fuel hf
  obtain ⟨n, rfl⟩ : ∃ n, fuel = n + 1 := ⟨fuel - 1, by simp at hf; omega⟩
  exact runsOf_nil n sty acc out

theorem runsTo_char {c : Char} {rest : Str} {sty : Sty} {acc : Str} {out : List GRun} {r : Sty × List GRun}
    (hc : c ≠ '<') (h : RunsTo rest sty (c :: acc) out r) : RunsTo (c :: rest) sty acc out r := by
  intro fuel hf
  obtain ⟨n, rfl⟩ : ∃ n, fuel = n + 1 := ⟨fuel - 1, by simp at hf; omega⟩
  rw [runsOf_char n c rest sty acc out hc]
  exact h n (by simp at hf; omega)

theorem runsTo_text {t rest : Str} {sty : Sty} {acc : Str} {out : List GRun} {r : Sty × List GRun}
    (ht : '<' ∉ t) (h : RunsTo rest sty (t.reverse ++ acc) out r) : RunsTo (t ++ rest) sty acc out r := by
  induction t generalizing acc with
  | nil => simpa using h
  | cons c t ih =>
    have hc : c ≠ '<' := fun e => ht (by simp [e])
    rw [List.cons_append]
    apply runsTo_char hc
    apply ih (fun e => ht (by simp [e]))
    simpa using h

/-- `raw` is a tag the decoder recognises, with style update `f` -/
def TagOK (raw : Str) (f : Sty → Sty) : Prop :=
  ∃ c raw', raw = '<' :: c :: raw' ∧ (runsOf.isLetter' c || c = '/' || c = '!' || c = '?') = true
    ∧ ∀ rest, Spec.SRT.tagAt (raw ++ rest) = some (f, rest)

theorem runsTo_tag {raw rest : Str} {f : Sty → Sty} {sty : Sty} {acc : Str} {out : List GRun} {r : Sty × List GRun}
    (ht : TagOK raw f) (h : RunsTo rest (f sty) [] (flushS sty acc out) r) : RunsTo (raw ++ rest) sty acc out r := by
  obtain ⟨c, raw', rfl, hc, htag⟩ := ht
  intro fuel hf
  obtain ⟨n, rfl⟩ : ∃ n, fuel = n + 1 := ⟨fuel - 1, by simp at hf; omega⟩
  have ht' := htag rest
  simp only [List.cons_append] at ht' ⊢
  rw [runsOf_tag n c (raw' ++ rest) rest f sty acc out hc ht']
  exact h n (by simp at hf; omega)

theorem runsTo_opt {raw rest : Str} {f : Sty → Sty} {sty : Sty} {acc : Str} {out : List GRun} {r : Sty × List GRun}
    (b : Bool) (ht : TagOK raw f)
    (h : RunsTo rest (if b then f sty else sty) (if b then [] else acc) (if b then flushS sty acc out else out) r) :
    RunsTo ((if b then raw else []) ++ rest) sty acc out r := by
  cases b with
  | false => simpa using h
  | true => exact runsTo_tag ht (by simpa using h)

theorem raw_font (c rest : Str) : (tokFont c).raw ++ rest
    = '<' :: 'f' :: 'o' :: 'n' :: 't' :: ' ' :: 'c' :: 'o' :: 'l' :: 'o' :: 'r' :: '=' :: '"' :: (c ++ '"' :: '>' :: rest) := by
  have e1 : (tokFont c).raw = "<font color=\"".toList ++ c ++ "\">".toList := rfl
  have e2 : "<font color=\"".toList
      = '<' :: 'f' :: 'o' :: 'n' :: 't' :: ' ' :: 'c' :: 'o' :: 'l' :: 'o' :: 'r' :: '=' :: ['"'] := rfl
  have e3 : "\">".toList = ['"', '>'] := rfl
  rw [e1, e2, e3, List.append_assoc, List.append_assoc]
  rfl

theorem tagOK_b : TagOK tokB.raw fB := ⟨'b', ['>'], rfl, by decide, fun rest => tagAt_b rest⟩
theorem tagOK_i : TagOK tokI.raw fI := ⟨'i', ['>'], rfl, by decide, fun rest => tagAt_i rest⟩
theorem tagOK_u : TagOK tokU.raw fU := ⟨'u', ['>'], rfl, by decide, fun rest => tagAt_u rest⟩
theorem tagOK_eb : TagOK tokEB.raw fEB := ⟨'/', ['b', '>'], rfl, by decide, fun rest => tagAt_eb rest⟩
theorem tagOK_ei : TagOK tokEI.raw fEI := ⟨'/', ['i', '>'], rfl, by decide, fun rest => tagAt_ei rest⟩
theorem tagOK_eu : TagOK tokEU.raw fEU := ⟨'/', ['u', '>'], rfl, by decide, fun rest => tagAt_eu rest⟩
theorem tagOK_efont : TagOK tokEFont.raw fEFont :=
  ⟨'/', ['f', 'o', 'n', 't', '>'], rfl, by decide, fun rest => tagAt_efont rest⟩

theorem tagOK_font (c : Str) (h : colorRep c = true) : TagOK (tokFont c).raw (fFont c) := by
  obtain ⟨h1, h2, h3⟩ := colorRep_mem h
  refine ⟨'f', 'o' :: 'n' :: 't' :: ' ' :: 'c' :: 'o' :: 'l' :: 'o' :: 'r' :: '=' :: '"' :: (c ++ ['"', '>']), ?_,
    by decide, ?_⟩
  · have := raw_font c []
    simpa using this
  · intro rest
    rw [raw_font]
    exact tagAt_font c rest h1 h2 h3

def fontOpen : Option Str → Str
  | some c => (tokFont c).raw
  | none => []

def openStr (r : Run) : Str :=
  fontOpen r.color ++ ((if r.bold then tokB.raw else []) ++ ((if r.italics then tokI.raw else [])
    ++ (if r.underline then tokU.raw else [])))

def closeStr (r : Run) : Str :=
  (if r.underline then tokEU.raw else []) ++ ((if r.italics then tokEI.raw else [])
    ++ ((if r.bold then tokEB.raw else []) ++ (if r.color.isSome then tokEFont.raw else [])))

theorem openers_raw (r : Run) : (openers r).flatMap Tok.raw = openStr r := by
  rcases r with ⟨b, i, u, c⟩
  cases b <;> cases i <;> cases u <;> cases c <;>
    simp [openers, openStr, fontOpen]

theorem closers_raw (r : Run) : (closers r).flatMap Tok.raw = closeStr r := by
  rcases r with ⟨b, i, u, c⟩
  cases b <;> cases i <;> cases u <;> cases c <;>
    simp [closers, closeStr]

theorem runsTo_optFont {rest : Str} {sty : Sty} {acc : Str} {out : List GRun} {r : Sty × List GRun}
    (c : Option Str) (hc : ∀ x, c = some x → colorRep x = true)
    (h : RunsTo rest (if c.isSome then { sty with color := c } else sty) (if c.isSome then [] else acc)
      (if c.isSome then flushS sty acc out else out) r) :
    RunsTo (fontOpen c ++ rest) sty acc out r := by
  cases c with
  | none => simpa [fontOpen] using h
  | some x => exact runsTo_tag (tagOK_font x (hc x rfl)) (by simpa [fFont] using h)

/-- the opening tags of a styled run: the pending text is flushed, the style is the run's -/
theorem runsTo_open {r : Run} {rest : Str} {acc : Str} {out : List GRun} {res : Sty × List GRun}
    (hs : styled r = true) (hc : ∀ x, r.color = some x → colorRep x = true)
    (h : RunsTo rest (styOf r) [] (flushS {} acc out) res) : RunsTo (openStr r ++ rest) {} acc out res := by
  unfold openStr
  simp only [List.append_assoc]
  apply runsTo_optFont r.color hc
  apply runsTo_opt r.bold tagOK_b
  apply runsTo_opt r.italics tagOK_i
  apply runsTo_opt r.underline tagOK_u
  rcases r with ⟨b, i, u, c⟩
  cases b <;> cases i <;> cases u <;> cases c <;>
    first
    | (simpa [flushS_nil, styOf, fB, fI, fU] using h)
    | (simp [styled] at hs)

/-- the closing tags of a styled run: the run is flushed, the style is empty again -/
theorem runsTo_close {r : Run} {rest : Str} {acc : Str} {out : List GRun} {res : Sty × List GRun}
    (hs : styled r = true)
    (h : RunsTo rest {} [] (flushS (styOf r) acc out) res) : RunsTo (closeStr r ++ rest) (styOf r) acc out res := by
  unfold closeStr
  simp only [List.append_assoc]
  apply runsTo_opt r.underline tagOK_eu
  apply runsTo_opt r.italics tagOK_ei
  apply runsTo_opt r.bold tagOK_eb
  apply runsTo_opt r.color.isSome tagOK_efont
  rcases r with ⟨b, i, u, c⟩
  cases b <;> cases i <;> cases u <;> cases c <;>
    first
    | (simpa [flushS_nil, styOf, fEB, fEI, fEU, fEFont] using h)
    | (simp [styled] at hs)

theorem entities_eq : Spec.SRT.entities = unescapePairs := rfl

theorem flush_run (li : LItem) (h : RepRun li = true) (out : List GRun) :
    flushS (styOf (styleOf li)) (escapeHTML li.text).reverse out = out ++ [viewRun li] := by
  have hb := escape_not_blank li.text (repRun_facts h).vis
  have hu : replacer Spec.SRT.entities (escapeHTML li.text) = li.text := C01.unescape_escape li.text
  unfold flushS
  rw [List.reverse_reverse]
  simp only [hb, ↓reduceIte, hu]
  rfl

theorem styOf_plain (r : Run) (h : styled r = false) : styOf r = {} := by
  rcases r with ⟨b, i, u, c⟩
  cases b <;> cases i <;> cases u <;> cases c <;> simp [styled] at h ⊢ <;> rfl

theorem runsTo_run_styled (li : LItem) (h : RepRun li = true) (hs : styled (styleOf li) = true)
    {rest acc : Str} {out : List GRun} {res : Sty × List GRun}
    (hg : RunsTo rest {} [] (flushS {} acc out ++ [viewRun li]) res) :
    RunsTo (runBytes li ++ rest) {} acc out res := by
  rw [runBytes_parts li h, openers_raw, closers_raw]
  simp only [List.append_assoc]
  apply runsTo_open hs (repRun_color h)
  apply runsTo_text (C01.escape_no_lt li.text)
  apply runsTo_close hs
  rw [List.append_nil, flush_run li h]
  exact hg

theorem runsTo_run_plain (li : LItem) (h : RepRun li = true) (hs : styled (styleOf li) = false)
    {rest : Str} {out : List GRun} {res : Sty × List GRun}
    (hg : RunsTo rest {} (escapeHTML li.text).reverse out res) :
    RunsTo (runBytes li ++ rest) {} [] out res := by
  rw [runBytes_plain li (repRun_pos h) (by simp [plainRun, hs])]
  apply runsTo_text (C01.escape_no_lt li.text)
  rw [List.append_nil]
  exact hg

theorem runsTo_runs (items : List LItem) (hrep : ∀ li ∈ items, RepRun li = true) (hadj : noAdjPlain items = true) :
    ∀ (acc : Str) (out : List GRun),
      (acc = [] ∨ HeadStyled items) →
      RunsTo (items.map runBytes).flatten {} acc out ({}, flushS {} acc out ++ items.map viewRun) := by
  induction items with
  | nil =>
    intro acc out _
    simpa using runsTo_nil {} acc out
  | cons li rest ih =>
    intro acc out hacc
    have hli := hrep li (by simp)
    have hrest : ∀ x ∈ rest, RepRun x = true := fun x hx => hrep x (by simp [hx])
    have hadj' := noAdjPlain_tail hadj
    rw [List.map_cons, List.flatten_cons]
    -- a styled run flushes the pending text and leaves none; an unstyled one is met with none pending, and its text stays
    -- pending until the styled run (or the end) that follows flushes it as this run
    cases hs : styled (styleOf li) with
    | true =>
      apply runsTo_run_styled li hli hs
      have := ih hrest hadj' [] (flushS {} acc out ++ [viewRun li]) (Or.inl rfl)
      rw [flushS_nil] at this
      simpa using this
    | false =>
      obtain rfl := fresh_of_plain hacc hs
      apply runsTo_run_plain li hli hs
      have := ih hrest hadj' (escapeHTML li.text).reverse out (Or.inr (noAdjPlain_next hadj hs))
      have hf := flush_run li hli out
      rw [styOf_plain _ hs] at hf
      rw [hf] at this
      rw [flushS_nil]
      simpa using this

theorem runsOf_lineStr (l : Line) (h : RepLine l = true) (fuel : Nat) (hf : (lineStr l).length < fuel) :
    runsOf fuel (lineStr l) {} [] [] = some ({}, l.items.map viewRun) := by
  have := runsTo_runs l.items (repLine_runs h) (repLine_iff.mp h).noAdj [] [] (Or.inl rfl) fuel hf
  rw [flushS_nil] at this
  unfold lineStr
  simpa using this

theorem cueLines_lines (ls : List Line) (h : ∀ l ∈ ls, RepLine l = true) :
    cueLines (ls.map lineStr) {} = some (ls.map fun l => l.items.map viewRun) := by
  induction ls with
  | nil => rfl
  | cons l ls ih =>
    have hl := h l (by simp)
    have hne : (l.items.map viewRun).isEmpty = false := by
      have := repLine_items_ne hl
      cases hi : l.items with
      | nil => exact absurd hi this
      | cons a b => rfl
    rw [List.map_cons, cueLines, runsOf_lineStr l hl _ (by omega)]
    simp only [ih (fun x hx => h x (by simp [hx])), hne]
    simp

/-- **A written text line, parsed.** `parseTextSrt` returns the runs of `normLine l` and an empty running
    style: the decoder reads the line as its runs, and the reader follows the decoder on every line -/
theorem parseText_lineStr (l : Line) (h : RepLine l = true) :
    parseText (lineStr l) {} = .ok (({} : Run), normLine l) := by
  have hne : trimSpace (lineStr l) ≠ [] := by rw [trimSpace_lineStr l h]; exact lineStr_ne_nil l h
  rcases SRTRead2.parseText_sim_exact (lineStr l) {} ({}, l.items.map viewRun) hne
    (runsOf_lineStr l h _ (by omega)) with ⟨_, h0⟩ | ⟨sa', hp, hs⟩
  · exact absurd h0 (lineStr_no_ctl l h _ (.inr (.inr rfl)))
  · rw [hp, SRTRead2.styOf_inj (a := sa') (b := {}) hs]
    simp only [List.map_map, normLine]
    rfl

end SRTDoc
end Astisub
