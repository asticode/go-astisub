import Astisub.Model.Graph

/-!
# Lemmas/MarkChain — the marking loop of `Optimize` with its early exit (C13)

`Graph.markChain acc c` walks the chain `c` and stops at the first identifier already in `acc`.  That exit
loses nothing as soon as `acc` holds, with every identifier of `c`, what follows it on `c` (`markChain_iff`):
the one fact about the loop.  Which accumulators have that property is a matter of the graph at hand
(`C13.Closed` for consistent graphs, `C13WR.ClosedG` for the parent function of a cue list); the fold over
many chains is stated once over such an invariant (`foldl_markChain_iff`).
-/

namespace Astisub
namespace Graph
open List

/-- **The early exit is harmless.**  On a chain without repetition, if `acc` holds with every identifier of
    the chain all that follows it there, the loop marks exactly the chain: where it stops, the rest is
    marked already.  (Pushing the head keeps the hypothesis: the head does not occur again.) -/
theorem markChain_iff (c : IdChain) : ∀ (acc : List String), c.Nodup →
    (∀ id r, (id :: r) <:+ c → id ∈ acc → ∀ x ∈ r, x ∈ acc) →
    ∀ x, x ∈ markChain acc c ↔ x ∈ acc ∨ x ∈ c := by
  induction c with
  | nil => intro acc _ _ x; simp [markChain]
  | cons id rest ih =>
    intro acc hnd h x
    obtain ⟨hnid, hnd'⟩ := nodup_cons.mp hnd
    unfold markChain
    by_cases hid : id ∈ acc
    · simp only [hid, if_true]
      refine ⟨Or.inl, ?_⟩
      rintro (hx | hx)
      · exact hx
      · rcases mem_cons.mp hx with rfl | hx
        · exact hid
        · exact h id rest (suffix_refl _) hid x hx
    · simp only [hid, if_false]
      rw [ih (id :: acc) hnd' ?_ x]
      · simp only [mem_cons]
        constructor
        · rintro ((rfl | h1) | h2)
          · exact Or.inr (Or.inl rfl)
          · exact Or.inl h1
          · exact Or.inr (Or.inr h2)
        · rintro (h1 | rfl | h2)
          · exact Or.inl (Or.inr h1)
          · exact Or.inl (Or.inl rfl)
          · exact Or.inr h2
      · intro i r hs hi y hy
        rcases mem_cons.mp hi with rfl | hi
        · exact absurd (hs.subset (mem_cons_self ..)) hnid
        · exact mem_cons_of_mem _ (h i r (hs.trans (suffix_cons id rest)) hi y hy)

/-- the fold over many chains, for any invariant `Cl` of the accumulator under which one walk marks exactly
    its chain and which the walk keeps -/
theorem foldl_markChain_iff (Cl : List String → Prop) (cs : List IdChain)
    (step : ∀ used, Cl used → ∀ c ∈ cs, (∀ x, x ∈ markChain used c ↔ x ∈ used ∨ x ∈ c) ∧ Cl (markChain used c)) :
    ∀ used, Cl used →
      (∀ x, x ∈ cs.foldl markChain used ↔ x ∈ used ∨ ∃ c ∈ cs, x ∈ c) ∧ Cl (cs.foldl markChain used) := by
  induction cs with
  | nil => intro used h; exact ⟨by simp, h⟩
  | cons c rest ih =>
    intro used h
    obtain ⟨h1, h2⟩ := step used h c (by simp)
    obtain ⟨h3, h4⟩ := ih (fun u hu c' hc' => step u hu c' (by simp [hc'])) (markChain used c) h2
    refine ⟨fun x => ?_, h4⟩
    rw [foldl_cons, h3, h1]
    simp only [mem_cons, exists_eq_or_imp]
    exact or_assoc

end Graph
end Astisub
