import Astisub.Lemmas.TTMLRead2Defs
import Astisub.Lemmas.Digits
import Astisub.Props.C03
/-!
# Lemmas/TTMLRead2Time — READ clause of C03, time expressions

`denote_timeExpr`: every string the independent decoder (`Spec.TTML.denote`) accepts as a time expression is parsed
by the reader model (`TTML.timeExpr` = `TTMLInDuration.UnmarshalText`) and resolved (`TTML.duration`) to the instant
the decoder says, within 1 ns, for every frame and tick rate — on the class `timeFits` (numbers fit 64 bits).

Method: `denote` is cut into its branches (`denOff`, `denClock`, `denFrames`; `denote_eq`), each branch is inverted
into the shape of the string (`splitAt = splitC`, `num_some` / `num_numeral`, `decimal_some`, `denOff_inv`, `denClock_inv`,
`denFrames_inv`), and the model's answer on that shape is the one `Lemmas/TTMLTime` computes for it (`instant_units`,
`timeExpr_offset`, `timeExpr_hms`, `timeExpr_hms_frac`, `timeExpr_hms_frames`).
-/

namespace Astisub
namespace TTMLR
open Go hiding natOfDigits
open TTML

theorem num_some {s : Str} {n : Nat} (h : Spec.TTML.num? s = some n) : s ≠ [] ∧ DigitStr s ∧ natOfDigits s = n :=
  Spec.SRT.natOf_eq_some_iff.mp (Spec.TTML.num?_eq ▸ h)

theorem num_numeral {s : Str} {n : Nat} (h : Spec.TTML.num? s = some n) : Numeral s n :=
  Spec.SRT.natOf_iff_numeral.mp (Spec.TTML.num?_eq ▸ h)

theorem numeral_value {s : Str} {n : Nat} (h : Numeral s n) : natOfDigits s = n :=
  Option.some.inj ((numeral_of_digits h.digitStr h.ne_nil).symm.trans h)

def denOff (o : Str) (fr tr : Nat) : Option (Nat × Nat) :=
  match Spec.TTML.stripSuffix? "ms".toList o with
  | some v => (Spec.TTML.decimal? v).map fun (n, d) => (n * 1000000, d)
  | none =>
    match o.getLast?, Spec.TTML.decimal? o.dropLast with
    | some 'h', some (n, d) => some (n * 3600000000000, d)
    | some 'm', some (n, d) => some (n * 60000000000, d)
    | some 's', some (n, d) => some (n * 1000000000, d)
    | some 'f', some (n, d) => if fr > 0 then some (n * 1000000000, d * fr) else none
    | some 't', some (n, d) => if tr > 0 then some (n * 1000000000, d * tr) else none
    | _, _ => none

def secParts (sec : Str) : Str × Option Str :=
  match Spec.TTML.splitAt '.' sec with
  | [a] => (a, none)
  | [a, f] => (a, some f)
  | _ => ([], none)

def denClock (h m sec : Str) : Option (Nat × Nat) :=
  match Spec.TTML.num? h, Spec.TTML.num? m, Spec.TTML.num? (secParts sec).1 with
  | some hh, some mm, some ss =>
    if h.length < 2 || m.length ≠ 2 || (secParts sec).1.length ≠ 2 || mm ≥ 60 || ss ≥ 60 then none else
    let whole := (hh * 3600 + mm * 60 + ss) * 1000000000
    match (secParts sec).2 with
    | none => some (whole, 1)
    | some f =>
      if f.length = 0 || f.length > 3 then none else
      (Spec.TTML.num? f).map fun fv => (whole + fv * 10 ^ (9 - f.length), 1)
  | _, _, _ => none

def denFrames (h m sec ff : Str) (fr : Nat) : Option (Nat × Nat) :=
  match Spec.TTML.num? h, Spec.TTML.num? m, Spec.TTML.num? sec, Spec.TTML.num? ff with
  | some hh, some mm, some ss, some f =>
    if h.length < 2 || m.length ≠ 2 || sec.length ≠ 2 || mm ≥ 60 || ss ≥ 60 || fr = 0 || f ≥ fr then none else
    some ((hh * 3600 + mm * 60 + ss) * 1000000000 * fr + f * 1000000000, fr)
  | _, _, _, _ => none

def denL : List Str → Nat → Nat → Option (Nat × Nat)
  | [o], fr, tr => denOff o fr tr
  | [h, m, sec], _, _ => denClock h m sec
  | [h, m, sec, ff], fr, _ => denFrames h m sec ff fr
  | _, _, _ => none

theorem denote_eq (s : Str) (fr tr : Nat) :
    Spec.TTML.denote s fr tr = denL (Spec.TTML.splitAt ':' s) fr tr := by
  unfold Spec.TTML.denote
  generalize Spec.TTML.splitAt ':' s = l
  match l with
  | [] => rfl
  | [_] => rfl
  | [_, _] => rfl
  | [_, _, _] => rfl
  | [_, _, _, _] => rfl
  | _ :: _ :: _ :: _ :: _ :: _ => rfl

theorem splitAt_eq (c : Char) (s : Str) : Spec.TTML.splitAt c s = splitC c s := by
  induction s with
  | nil => rfl
  | cons x xs ih =>
    have e : Spec.TTML.splitAt c (x :: xs)
        = if x = c then [] :: Spec.TTML.splitAt c xs
          else match Spec.TTML.splitAt c xs with | h :: t => (x :: h) :: t | [] => [[x]] := rfl
    have e2 : splitC c (x :: xs)
        = if x = c then [] :: splitC c xs
          else match splitC c xs with | [] => [[x]] | h :: t => (x :: h) :: t := rfl
    rw [e, e2, ih]
    by_cases hx : x = c
    · simp only [hx, ↓reduceIte]
    · simp only [hx, ↓reduceIte]
      cases splitC c xs <;> rfl

theorem decimal_some {v : Str} {n d : Nat} (h : Spec.TTML.decimal? v = some (n, d)) :
    ∃ ip fp, DigitStr ip ∧ ip ≠ [] ∧ DigitStr fp ∧ n = natOfDigits (ip ++ fp) ∧ d = 10 ^ fp.length ∧ v = decText ip fp := by
  unfold Spec.TTML.decimal? at h
  rw [splitAt_eq] at h
  split at h
  · rename_i i hsp
    obtain ⟨e, _⟩ := splitC_single hsp
    cases hn : Spec.TTML.num? i with
    | none => rw [hn] at h; simp at h
    | some k =>
      rw [hn] at h
      simp at h
      obtain ⟨hne, hd, hk⟩ := num_some hn
      exact ⟨i, [], hd, hne, by intro c hc; simp at hc, by simp [hk, ← h.1], by simp [h.2], by rw [decText, if_pos rfl, e]⟩
  · rename_i i f hsp
    obtain ⟨s', e1, _, e3⟩ := splitC_cons_cons hsp
    obtain ⟨e4, _⟩ := splitC_single e3
    subst e4
    split at h
    · rename_i ki kf hi hf
      obtain ⟨hine, hid, _⟩ := num_some hi
      obtain ⟨hfne, hfd, _⟩ := num_some hf
      cases hn : Spec.TTML.num? (i ++ s') with
      | none => rw [hn] at h; simp at h
      | some k =>
        rw [hn] at h
        simp at h
        obtain ⟨_, _, hk⟩ := num_some hn
        exact ⟨i, s', hid, hine, hfd, by rw [hk, h.1], h.2.symm, by rw [decText, if_neg hfne, e1]⟩
    · simp at h
  · simp at h

theorem within1_floor (A R : Nat) (hR : 0 < R) :
    Spec.TTML.within1 ((A / R : Nat) : Int) (A, R) = true := by
  have h := C03.nat_floor_within A R hR
  have h1 : ((A / R : Nat) : Int) * (R : Int) ≤ (A : Int) := by exact_mod_cast h.1
  have h2 : (A : Int) < (((A / R : Nat) : Int) + 1) * (R : Int) := by exact_mod_cast h.2
  rw [Int.add_mul, Int.one_mul] at h2
  unfold Spec.TTML.within1
  simp only [Bool.and_eq_true, decide_eq_true_eq]
  refine ⟨⟨Int.natCast_nonneg _, hR⟩, ?_, ?_⟩
  · generalize ((A / R : Nat) : Int) * (R : Int) = X at *
    omega
  · generalize ((A / R : Nat) : Int) * (R : Int) = X at *
    omega

theorem within1_frames (W F fr : Nat) (hfr : 0 < fr) :
    Spec.TTML.within1 ((W : Int) + ((F * 1000000000 / fr : Nat) : Int)) (W * fr + F * 1000000000, fr) = true := by
  have hw := within1_floor (W * fr + F * 1000000000) fr hfr
  have hd : (W * fr + F * 1000000000) / fr = W + F * 1000000000 / fr := by
    rw [Nat.add_comm, Nat.add_mul_div_right _ _ hfr, Nat.add_comm]
  rwa [hd, Int.natCast_add] at hw

theorem clock_frac_val (H M S F k : Nat) (h1 : 1 ≤ k) (h3 : k ≤ 3) :
    (F : Int) * (10 : Int) ^ (3 - k) * 1000000 + (S : Int) * 1000000000 + (M : Int) * 60000000000
        + (H : Int) * 3600000000000
      = (((H * 3600 + M * 60 + S) * 1000000000 + F * 10 ^ (9 - k) : Nat) : Int) := by
  have hk : k = 1 ∨ k = 2 ∨ k = 3 := by omega
  rcases hk with rfl | rfl | rfl <;> simp <;> omega

theorem of_instant {s : Str} {fr tr X : Int} {q : Nat × Nat} (h : instant s fr tr = some X)
    (hw : Spec.TTML.within1 X q = true) :
    ∃ d, timeExpr s = some d ∧ Spec.TTML.within1 (duration d fr tr) q = true := by
  unfold instant at h
  obtain ⟨d, hd, hX⟩ := Option.map_eq_some_iff.mp h
  exact ⟨d, hd, by rw [hX]; exact hw⟩

theorem stripSuffix_some {suf o v : Str} (h : Spec.TTML.stripSuffix? suf o = some v) : o = v ++ suf := by
  unfold Spec.TTML.stripSuffix? at h
  split at h
  · rename_i hc
    simp at h
    rw [← h]
    conv => rhs; rhs; rw [← hc.2]
    exact (List.take_append_drop _ _).symm
  · simp at h

theorem getLast_shape {l : Str} {a : Char} (h : l.getLast? = some a) : l = l.dropLast ++ [a] := by
  obtain ⟨ys, rfl⟩ := List.getLast?_eq_some_iff.mp h
  simp

/-- the metrics `h`, `m`, `s`, `ms` with their length in nanoseconds -/
def timeUnits : List (Str × Nat) :=
  [(['h'], 3600000000000), (['m'], 60000000000), (['s'], 1000000000), (['m', 's'], 1000000)]

theorem timeUnits_spec : ∀ p ∈ timeUnits, p.1 ∈ C03.timeMetrics ∧ timebase p.1 = (p.2 : Int) ∧
    p.1.getLast? ≠ none ∧ p.1.getLast? ≠ some 'f' ∧ p.1.getLast? ≠ some 't' := by
  rw [C03.timeMetrics_eq]; decide

/-- an offset the decoder accepts: a decimal number and a metric; with a time metric the rates play no part -/
theorem denOff_inv {o : Str} {fr tr : Nat} {q : Nat × Nat} (h : denOff o fr tr = some q) :
    ∃ v m n d, o = v ++ m ∧ Spec.TTML.decimal? v = some (n, d) ∧
      ((∃ tb, (m, tb) ∈ timeUnits ∧ q = (n * tb, d) ∧ denOff o 0 0 = some q) ∨
       (m = ['f'] ∧ 0 < fr ∧ q = (n * 1000000000, d * fr)) ∨
       (m = ['t'] ∧ 0 < tr ∧ q = (n * 1000000000, d * tr))) := by
  unfold denOff at h ⊢
  split at h
  · rename_i v hst
    obtain ⟨⟨n, d⟩, hdec, hq⟩ := Option.map_eq_some_iff.mp h
    exact ⟨v, ['m', 's'], n, d, stripSuffix_some hst, hdec, .inl ⟨_, by simp [timeUnits], hq.symm, h⟩⟩
  · split at h
    iterate 3
      · rename_i n d hl hdec
        refine ⟨_, _, n, d, getLast_shape hl, hdec, .inl ⟨_, ?_, (Option.some.inj h).symm, h⟩⟩
        simp [timeUnits]
    · rename_i n d hl hdec
      split at h
      · rename_i hfr
        exact ⟨_, ['f'], n, d, getLast_shape hl, hdec, .inr (.inl ⟨rfl, hfr, (Option.some.inj h).symm⟩)⟩
      · cases h
    · rename_i n d hl hdec
      split at h
      · rename_i htr
        exact ⟨_, ['t'], n, d, getLast_shape hl, hdec, .inr (.inr ⟨rfl, htr, (Option.some.inj h).symm⟩)⟩
      · cases h
    · cases h

theorem timeFits_time {s : Str} {q : Nat × Nat} (hc : ':' ∉ s) (hl : s.getLast? ≠ some 'f')
    (hl' : s.getLast? ≠ some 't') (h0 : Spec.TTML.denote s 0 0 = some q) (hf : timeFits s = true) :
    q.1 / q.2 ≤ int64Max := by
  unfold timeFits at hf
  have hcond : (s.contains ':' || s.getLast? == some 'f' || s.getLast? == some 't') = false := by
    simp [hc, hl, hl']
  rw [hcond, h0] at hf
  simpa using hf

theorem timeFits_count {s : Str} (hl : ':' ∈ s ∨ s.getLast? = some 'f' ∨ s.getLast? = some 't')
    (hf : timeFits s = true) : natOfDigits (s.takeWhile isDigit) ≤ int64Max := by
  unfold timeFits at hf
  have hcond : (s.contains ':' || s.getLast? == some 'f' || s.getLast? == some 't') = true := by
    rcases hl with h | h | h <;> simp [h]
  rw [hcond] at hf
  simpa using hf

theorem takeWhile_shape {ip : Str} (fp : Str) {c : Char} (hip : DigitStr ip) (hc : isDigit c = false) :
    (decText ip fp ++ [c]).takeWhile isDigit = ip := by
  unfold decText
  split
  · exact List.takeWhile_append_stop [] hip.isDigit hc
  · rw [List.append_assoc, List.cons_append]
    exact List.takeWhile_append_stop _ hip.isDigit (by decide)

theorem offset_time_case {ip fp m : Str} {tbN : Nat} (fr tr : Int) (hip : DigitStr ip) (hne : ip ≠ [])
    (hfp : DigitStr fp)
    (hm : m ∈ C03.timeMetrics) (htb : timebase m = (tbN : Int))
    (hfit : natOfDigits (ip ++ fp) * tbN / 10 ^ fp.length ≤ int64Max) :
    ∃ d, timeExpr (decText ip fp ++ m) = some d ∧
      Spec.TTML.within1 (duration d fr tr) (natOfDigits (ip ++ fp) * tbN, 10 ^ fp.length) = true := by
  obtain ⟨hmm, ht, hf⟩ := C03.timeMetrics_sub hm
  have e : (natOfDigits (ip ++ fp) : Int) * (tbN : Int) / (10 : Int) ^ fp.length
      = ((natOfDigits (ip ++ fp) * tbN / 10 ^ fp.length : Nat) : Int) := by
    simp [Int.natCast_ediv, Int.natCast_mul, Int.natCast_pow]
  have hV : ((natOfDigits (ip ++ fp) * tbN / 10 ^ fp.length : Nat) : Int) ≤ 9223372036854775807 := by
    unfold int64Max at hfit
    omega
  refine ⟨{ d := ((natOfDigits (ip ++ fp) * tbN / 10 ^ fp.length : Nat) : Int) }, ?_, ?_⟩
  · rw [timeExpr_offset hip hne hfp hmm ht hf (by rw [htb, e]; exact hV), htb, e]
  · rw [C03.duration_plain _ _ _ rfl rfl rfl rfl]
    exact within1_floor _ _ (Nat.pow_pos (by decide))

theorem offset_units_case {ip fp u : Str} {R : Nat} {fr tr : Int} (hR : 0 < R)
    (h : instant (decText ip fp ++ u) fr tr
      = some (((natOfDigits ip * 10 ^ fp.length + natOfDigits fp) * 1000000000 / (10 ^ fp.length * R) : Nat) : Int)) :
    ∃ d, timeExpr (decText ip fp ++ u) = some d ∧
      Spec.TTML.within1 (duration d fr tr) (natOfDigits (ip ++ fp) * 1000000000, 10 ^ fp.length * R) = true := by
  refine of_instant h ?_
  rw [C03.natOfDigits_concat]
  exact within1_floor _ _ (Nat.mul_pos (Nat.pow_pos (by decide)) hR)

theorem denote_timeExpr_offset (s o : Str) (fr tr : Nat) (q : Nat × Nat)
    (hs : Spec.TTML.splitAt ':' s = [o]) (h : denOff o fr tr = some q) (hf : timeFits s = true) :
    ∃ d, TTML.timeExpr s = some d ∧ Spec.TTML.within1 (TTML.duration d (fr : Int) (tr : Int)) q = true := by
  rw [splitAt_eq] at hs
  obtain ⟨rfl, hcolon⟩ := splitC_single hs
  have hden : ∀ q', denOff s 0 0 = some q' → Spec.TTML.denote s 0 0 = some q' := by
    intro q' hq'
    rw [denote_eq, splitAt_eq, hs]; exact hq'
  obtain ⟨v, m, n, d, ho, hdec, hcases⟩ := denOff_inv h
  obtain ⟨ip, fp, hip, hne, hfp, hn, hd, hv⟩ := decimal_some hdec
  subst hn hd hv
  rcases hcases with ⟨tb, hmem, rfl, h0⟩ | ⟨rfl, hfr, rfl⟩ | ⟨rfl, htr, rfl⟩
  · obtain ⟨hm, htb, hl0, hlf, hlt⟩ := timeUnits_spec _ hmem
    have hl : s.getLast? = m.getLast? := by
      rw [ho, List.getLast?_append]; cases hm' : m.getLast? with
      | none => exact absurd hm' hl0
      | some c => rfl
    have hfit := timeFits_time hcolon (hl ▸ hlf) (hl ▸ hlt) (hden _ h0) hf
    rw [ho]
    exact offset_time_case _ _ hip hne hfp hm htb hfit
  · have hmax := timeFits_count (Or.inr (Or.inl (by rw [ho]; simp))) hf
    rw [ho, takeWhile_shape fp hip (by decide)] at hmax
    rw [ho]
    exact offset_units_case hfr (instant_units hip hne hfp hmax fr tr fr hfr (.inr ⟨rfl, rfl⟩))
  · have hmax := timeFits_count (Or.inr (Or.inr (by rw [ho]; simp))) hf
    rw [ho, takeWhile_shape fp hip (by decide)] at hmax
    rw [ho]
    exact offset_units_case htr (instant_units hip hne hfp hmax fr tr tr htr (.inl ⟨rfl, rfl⟩))

theorem secParts_cases (sec : Str) :
    (secParts sec = (sec, none)) ∨ (∃ a f, sec = a ++ '.' :: f ∧ secParts sec = (a, some f)) ∨
      secParts sec = ([], none) := by
  unfold secParts
  rw [splitAt_eq]
  split
  · rename_i a hsp
    obtain ⟨e, _⟩ := splitC_single hsp
    exact Or.inl (by rw [e])
  · rename_i a f hsp
    obtain ⟨s', e1, _, e3⟩ := splitC_cons_cons hsp
    obtain ⟨e4, _⟩ := splitC_single e3
    subst e4
    exact Or.inr (Or.inl ⟨a, s', e1, rfl⟩)
  · exact Or.inr (Or.inr rfl)

theorem secParts_shape {sec sw : Str} {fo : Option Str} (hp : secParts sec = (sw, fo)) (hne : sw ≠ []) :
    (fo = none ∧ sec = sw) ∨ (∃ f, fo = some f ∧ sec = sw ++ '.' :: f) := by
  rcases secParts_cases sec with e | ⟨a, f, e0, e⟩ | e <;> rw [e] at hp <;> cases hp
  · exact .inl ⟨rfl, rfl⟩
  · exact .inr ⟨f, rfl, e0⟩
  · exact absurd rfl hne

theorem denClock_inv {h m sec : Str} {q : Nat × Nat} (hq : denClock h m sec = some q) :
    ∃ sw H M S, Numeral h H ∧ Numeral m M ∧ M < 60 ∧ Numeral sw S ∧ S < 60 ∧
      ((sec = sw ∧ q = ((H * 3600 + M * 60 + S) * 1000000000, 1)) ∨
       (∃ f F, sec = sw ++ '.' :: f ∧ Numeral f F ∧ f.length ≤ 3 ∧
          q = ((H * 3600 + M * 60 + S) * 1000000000 + F * 10 ^ (9 - f.length), 1))) := by
  unfold denClock at hq
  cases hp : secParts sec with
  | mk sw fo =>
    rw [hp] at hq
    simp only at hq
    split at hq
    · rename_i hh mm ss e1 e2 e3
      split at hq
      · simp at hq
      · rename_i hc
        simp only [Bool.or_eq_true, decide_eq_true_eq, not_or, Nat.not_lt, ne_eq, Decidable.not_not,
          ge_iff_le, Nat.not_le] at hc
        obtain ⟨⟨_, c4⟩, c5⟩ := hc
        refine ⟨sw, hh, mm, ss, num_numeral e1, num_numeral e2, c4, num_numeral e3, c5, ?_⟩
        rcases secParts_shape hp (num_numeral e3).ne_nil with ⟨rfl, e⟩ | ⟨f, rfl, e⟩
        · exact Or.inl ⟨e, (Option.some.inj hq).symm⟩
        · simp only at hq
          split at hq
          · simp at hq
          · rename_i hc'
            simp only [Bool.or_eq_true, decide_eq_true_eq, not_or, gt_iff_lt, Nat.not_lt] at hc'
            obtain ⟨fv, e4, e5⟩ := Option.map_eq_some_iff.mp hq
            exact Or.inr ⟨f, fv, e, num_numeral e4, hc'.2, e5.symm⟩
    · simp at hq

theorem within1_exact (W : Nat) (X : Int) (h : X = (W : Int)) : Spec.TTML.within1 X (W, 1) = true := by
  have := within1_floor W 1 (by decide)
  rw [Nat.div_one] at this
  rw [h]; exact this

theorem split4_shape {s h m sec ff : Str} (hs : splitC ':' s = [h, m, sec, ff]) :
    s = h ++ ':' :: (m ++ ':' :: sec) ++ ':' :: ff := by
  obtain ⟨s1, e1, _, r1⟩ := splitC_cons_cons hs
  rw [e1, (splitC_three r1).1]
  simp

theorem hms_take {h : Str} (hh : DigitStr h) (r tail : Str) : (h ++ ':' :: r ++ tail).takeWhile isDigit = h := by
  rw [show h ++ ':' :: r ++ tail = h ++ ':' :: (r ++ tail) by simp]
  exact List.takeWhile_append_stop _ hh.isDigit (by decide)

theorem hms_fits {h : Str} (hh : DigitStr h) (r tail : Str) (hf : timeFits (h ++ ':' :: r ++ tail) = true) :
    natOfDigits h ≤ 9223372036854775807 := by
  have := timeFits_count (Or.inl (by simp)) hf
  rw [hms_take hh] at this
  exact this

open Duration in
theorem denote_timeExpr_clock (s h m sec : Str) (fr tr : Nat) (q : Nat × Nat)
    (hs : Spec.TTML.splitAt ':' s = [h, m, sec]) (hq : denClock h m sec = some q) (hf : timeFits s = true) :
    ∃ d, TTML.timeExpr s = some d ∧ Spec.TTML.within1 (TTML.duration d (fr : Int) (tr : Int)) q = true := by
  rw [splitAt_eq] at hs
  have hshape := (splitC_three hs).1
  obtain ⟨sw, H, M, S, nh, nm, hM, ns, hS, hcases⟩ := denClock_inv hq
  rcases hcases with ⟨rfl, rfl⟩ | ⟨f, F, hsec, nf, lf3, rfl⟩
  · subst hshape
    have hfit := hms_fits nh.digitStr (m ++ ':' :: sec) [] (by rw [List.append_nil]; exact hf)
    rw [numeral_value nh] at hfit
    refine ⟨{ d := (S : Int) * nsPerS + (M : Int) * nsPerMin + (H : Int) * nsPerH }, ?_, ?_⟩
    · exact timeExpr_hms (.three nh nm ns) hfit (C16.le64 (by omega)) (C16.le64 (by omega))
    · rw [C03.duration_plain _ _ _ rfl rfl rfl rfl]
      apply within1_exact
      simp only [nsPerS, nsPerMin, nsPerH]
      omega
  · have lf1 : 1 ≤ f.length := List.length_pos_iff.mpr nf.ne_nil
    have hshape' : s = h ++ ':' :: (m ++ ':' :: sw) ++ '.' :: f := by rw [hshape, hsec]; simp
    subst hshape'
    have hfit := hms_fits nh.digitStr (m ++ ':' :: sw) ('.' :: f) hf
    rw [numeral_value nh] at hfit
    refine ⟨{ d := (F : Int) * (10 : Int) ^ (3 - f.length) * nsPerMs + (S : Int) * nsPerS
                    + (M : Int) * nsPerMin + (H : Int) * nsPerH }, ?_, ?_⟩
    · exact timeExpr_hms_frac (.three nh nm ns) hfit (C16.le64 (by omega)) (C16.le64 (by omega)) nf lf3
    · rw [C03.duration_plain _ _ _ rfl rfl rfl rfl]
      apply within1_exact
      simp only [nsPerMs, nsPerS, nsPerMin, nsPerH]
      exact clock_frac_val _ _ _ _ _ lf1 lf3

theorem denFrames_inv {h m sec ff : Str} {fr : Nat} {q : Nat × Nat} (hq : denFrames h m sec ff fr = some q) :
    ∃ H M S F, Numeral h H ∧ Numeral m M ∧ M < 60 ∧ Numeral sec S ∧ S < 60 ∧ Numeral ff F ∧ 0 < fr ∧ F < fr ∧
      q = ((H * 3600 + M * 60 + S) * 1000000000 * fr + F * 1000000000, fr) := by
  unfold denFrames at hq
  split at hq
  · rename_i hh mm ss f e1 e2 e3 e4
    split at hq
    · simp at hq
    · rename_i hc
      simp only [Bool.or_eq_true, decide_eq_true_eq, not_or, Nat.not_lt, ne_eq, Decidable.not_not,
        ge_iff_le, Nat.not_le] at hc
      obtain ⟨⟨⟨⟨_, c4⟩, c5⟩, c6⟩, c7⟩ := hc
      simp at hq
      exact ⟨hh, mm, ss, f, num_numeral e1, num_numeral e2, c4, num_numeral e3, c5, num_numeral e4,
        Nat.pos_of_ne_zero c6, c7, hq.symm⟩
  · simp at hq

open Duration in
theorem denote_timeExpr_frames (s h m sec ff : Str) (fr tr : Nat) (q : Nat × Nat)
    (hs : Spec.TTML.splitAt ':' s = [h, m, sec, ff]) (hq : denFrames h m sec ff fr = some q)
    (hf : timeFits s = true) (hfr : fr ≤ int64Max) :
    ∃ d, TTML.timeExpr s = some d ∧ Spec.TTML.within1 (TTML.duration d (fr : Int) (tr : Int)) q = true := by
  rw [splitAt_eq] at hs
  have hshape := split4_shape hs
  subst hshape
  obtain ⟨H, M, S, F, nh, nm, hM, ns, hS, nf, hfr0, hflt, rfl⟩ := denFrames_inv hq
  have hfit := hms_fits nh.digitStr (m ++ ':' :: sec) (':' :: ff) hf
  rw [numeral_value nh] at hfit
  have hfmax : F ≤ 9223372036854775807 := by unfold int64Max at hfr; omega
  let D : Int := (S : Int) * nsPerS + (M : Int) * nsPerMin + (H : Int) * nsPerH
  refine ⟨{ d := D, frames := (F : Int) }, ?_, ?_⟩
  · exact timeExpr_hms_frames (.three nh nm ns) hfit (C16.le64 (by omega)) (C16.le64 (by omega)) (colons_three nh nm ns)
      nf hfmax
  · have hdur : duration { d := D, frames := (F : Int) } (fr : Int) (tr : Int)
        = D + ((F * 1000000000 / fr : Nat) : Int) := by
      rw [duration_frameCount D _ [] _ _ (by omega), C03.units_floor_nil _ _ hfr0]
    have e : D = (((H * 3600 + M * 60 + S) * 1000000000 : Nat) : Int) := by
      simp only [D, nsPerS, nsPerMin, nsPerH]
      omega
    rw [hdur, e]
    exact within1_frames _ _ _ hfr0

/-- **Time expressions.** Whatever string the independent decoder accepts as a time expression (every syntactic
    form, every frame and tick rate), the reader model parses it (`UnmarshalText`) and resolves it (`duration()`) to
    the instant the decoder says, within 1 ns — provided its numbers fit 64 bits (`timeFits`; `timeFits_needed`). -/
theorem denote_timeExpr (s : Str) (fr tr : Nat) (q : Nat × Nat)
    (h : Spec.TTML.denote s fr tr = some q) (hf : timeFits s = true) (hfr : fr ≤ int64Max) :
    ∃ d, TTML.timeExpr s = some d ∧ Spec.TTML.within1 (TTML.duration d (fr : Int) (tr : Int)) q = true := by
  rw [denote_eq] at h
  match hl : Spec.TTML.splitAt ':' s with
  | [] => rw [hl] at h; simp [denL] at h
  | [o] =>
    rw [hl] at h
    exact denote_timeExpr_offset s o fr tr q hl h hf
  | [_, _] => rw [hl] at h; simp [denL] at h
  | [a, b, c] =>
    rw [hl] at h
    exact denote_timeExpr_clock s a b c fr tr q hl h hf
  | [a, b, c, d] =>
    rw [hl] at h
    exact denote_timeExpr_frames s a b c d fr tr q hl h hf hfr
  | _ :: _ :: _ :: _ :: _ :: _ => rw [hl] at h; simp [denL] at h

theorem denote_parseTimes (s : Str) (fr tr : Nat) (q : Nat × Nat)
    (h : Spec.TTML.denote s fr tr = some q) (hf : timeFits s = true) (hfr : fr ≤ int64Max) :
    ∃ d, TTML.parseTimes [s] = some (some d) ∧
      Spec.TTML.within1 (TTML.duration d (fr : Int) (tr : Int)) q = true := by
  obtain ⟨d, hd, hw⟩ := denote_timeExpr s fr tr q h hf hfr
  exact ⟨d, by simp [parseTimes, hd], hw⟩

example : timeFits "00:00:01:05".toList = true := by decide_vector
example : timeFits "01:02:03.5".toList = true := by decide_vector
example : timeFits "12:00:00".toList = true := by decide_vector
example : timeFits "2.5s".toList = true := by decide_vector
example : timeFits "10t".toList = true := by decide_vector
example : timeFits "3.25f".toList = true := by decide_vector
example : timeFits "150ms".toList = true := by decide_vector
example : timeFits "1.5h".toList = true := by decide_vector
example : timeFits "90m".toList = true := by decide_vector

example : Spec.TTML.denote "00:00:01:05".toList 25 0 = some (30000000000, 25) := by decide_vector
example : Spec.TTML.denote "01:02:03.5".toList 0 0 = some (3723500000000, 1) := by decide_vector
example : Spec.TTML.denote "12:00:00".toList 0 0 = some (43200000000000, 1) := by decide_vector
example : Spec.TTML.denote "2.5s".toList 0 0 = some (25000000000, 10) := by decide_vector
example : Spec.TTML.denote "10t".toList 0 90000 = some (10000000000, 90000) := by decide_vector
example : Spec.TTML.denote "3.25f".toList 30 0 = some (325000000000, 3000) := by decide_vector
example : Spec.TTML.denote "150ms".toList 0 0 = some (150000000, 1) := by decide_vector

/-- `timeFits` cannot be dropped: strings the decoder accepts and `UnmarshalText` rejects (a number that does not
    fit 64 bits) -/
theorem timeFits_needed :
    ((Spec.TTML.denote "99999999999999999999h".toList 0 0).isSome = true ∧
      TTML.timeExpr "99999999999999999999h".toList = none) ∧
    ((Spec.TTML.denote "99999999999999999999:00:00".toList 0 0).isSome = true ∧
      TTML.timeExpr "99999999999999999999:00:00".toList = none) ∧
    ((Spec.TTML.denote "99999999999999999999f".toList 25 0).isSome = true ∧
      TTML.timeExpr "99999999999999999999f".toList = none) := by
  decide_vector

example : timeFits "99999999999999999999h".toList = false ∧ timeFits "99999999999999999999:00:00".toList = false ∧
    timeFits "99999999999999999999f".toList = false := by
  decide_vector

end TTMLR
end Astisub
