import Astisub.Lemmas.Digits
import Astisub.Lemmas.StrList

/-!
# Lemmas/SSAStr — `strconv.Itoa` / `Atoi` and `strings.TrimSpace`, as the SSA round trips need them

`Itoa` yields a non-empty digit string (with an optional `-`) that `Atoi` reads back as the same 64-bit
number; its characters are numeric (`numChar`: no comma, no space, no line break), so it is `Trimmed`
(`Lemmas/StrList`).
-/

namespace Astisub
namespace Go
open List

/-- the 64-bit `int` range -/
def Int64 (v : Int) : Prop := -9223372036854775808 ≤ v ∧ v ≤ 9223372036854775807

instance (v : Int) : Decidable (Int64 v) :=
  inferInstanceAs (Decidable (-9223372036854775808 ≤ v ∧ v ≤ 9223372036854775807))

theorem atoi_itoa (v : Int) (h : Int64 v) : atoi (itoa v) = some v := by
  unfold Int64 at h
  unfold itoa
  by_cases hneg : v < 0
  · rw [if_pos hneg]
    simp only [atoi, parseDigits_itoaNat]
    have : v.natAbs ≤ int64Max + 1 := by unfold int64Max; omega
    rw [if_pos this]
    congr 1
    omega
  · rw [if_neg hneg, atoi_itoaNat _ (by unfold int64Max; omega)]
    congr 1
    omega

theorem atoiLoose_itoa (v : Int) (h : Int64 v) : atoiLoose (itoa v) = v := atoiLoose_of_atoi (atoi_itoa v h)

/-- characters that can occur in a number the writer emits: digits, `-`, `.`, `:` -/
def numChar (c : Char) : Bool := ('0' ≤ c && c ≤ '9') || c = '-' || c = '.' || c = ':'

theorem DigitStr.numChar {s : Str} (h : DigitStr s) : ∀ c ∈ s, numChar c = true := by
  intro c hc
  obtain ⟨k, hk, rfl⟩ := h c hc
  rcases digitChar_lt hk with h|h|h|h|h|h|h|h|h|h <;> subst h <;> decide

theorem numChar_itoa (v : Int) : ∀ c ∈ itoa v, numChar c = true := by
  intro c hc
  unfold itoa at hc
  split at hc
  · rcases mem_cons.mp hc with rfl | h
    · decide
    · exact (digitStr_itoaNat _).numChar c h
  · exact (digitStr_itoaNat _).numChar c hc

theorem itoa_ne_nil (v : Int) : itoa v ≠ [] := by
  unfold itoa
  split
  · simp
  · exact itoaNat_ne_nil _

theorem numChar_not_space {c : Char} (h : numChar c = true) : isSpace c = false := by
  have hc : c.toNat = 45 ∨ c.toNat = 46 ∨ (48 ≤ c.toNat ∧ c.toNat ≤ 58) := by
    unfold numChar at h
    simp only [Bool.or_eq_true, Bool.and_eq_true, decide_eq_true_eq] at h
    rcases h with ((⟨h1, h2⟩ | h) | h) | h
    · have h1' : (48 : Nat) ≤ c.toNat := h1
      have h2' : c.toNat ≤ 57 := h2
      omega
    · subst h; decide
    · subst h; decide
    · subst h; decide
  unfold isSpace
  simp only [Bool.or_eq_false_iff, Bool.and_eq_false_iff, beq_eq_false_iff_ne, decide_eq_false_iff_not]
  omega

theorem numChar_not_mem {s : Str} (h : ∀ x ∈ s, numChar x = true) {c : Char} (hc : numChar c = false) : c ∉ s :=
  fun hm => absurd (h c hm) (by rw [hc]; exact Bool.false_ne_true)

/-- white space other than the blank (`\n`, `\r`, `\t`, …): the writer emits none of its own, so such a character
    is in the written document only if it is in one of the cue list's strings -/
def LineBreak (c : Char) : Prop := isSpace c = true ∧ c ≠ ' '

theorem nl_lineBreak : LineBreak '\n' := ⟨rfl, by decide⟩

theorem LineBreak.not_mem_noSpace {c : Char} (hc : LineBreak c) {s : Str} (h : ∀ x ∈ s, isSpace x = false) : c ∉ s :=
  not_mem_of_isSpace hc.1 h

theorem LineBreak.not_mem_plain {c : Char} (hc : LineBreak c) {s : Str} (h : ∀ x ∈ s, isSpace x = false ∨ x = ' ') :
    c ∉ s :=
  fun hm => (h c hm).elim (fun h0 => by rw [hc.1] at h0; cases h0) hc.2

theorem LineBreak.numChar {c : Char} (hc : LineBreak c) : numChar c = false := by
  cases h : Go.numChar c with
  | false => rfl
  | true => exact absurd hc.1 (by rw [numChar_not_space h]; exact Bool.false_ne_true)

theorem trimmed_itoa (v : Int) : Trimmed (itoa v) :=
  trimmed_of_noSpace fun c hc => numChar_not_space (numChar_itoa v c hc)

end Go
end Astisub
