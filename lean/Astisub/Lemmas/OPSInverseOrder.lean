import Astisub.Lemmas.OPSInverse

/-!
# Lemmas/OPSInverseOrder — what the inverse law needs to speak of the order of the cues

`OPSInverse.unfragLoop_pieces` gives the cues of `unfragment (fragment f xs)` as a multiset.
`C11.unfragment_fragment_ordered` adds: if `xs` is ordered by start, they also come in the order of `xs`
(cues with equal starts keep their relative order, because `Order` is stable and `Unfragment` never
moves a cue).

First the generic part (any type, any key into `Int`): a stable sort of a duplicate-free list is unique. Two lists that
are permutations of the same duplicate-free list `xs`, sorted by key, and keep the relative order `xs` gives to
equal-key elements, are equal.  `C12.stable_sort_unique` (Props/C11inv) instantiates this with `Ops.order`.

Device for the cues: the *stem* of a cue — start, text, content (everything `Unfragment` leaves alone).  The
stems of the pieces are pairwise different; the stems of the result and the stems of `xs` are both
sub-sequences of the stems of the ordered piece list, and a duplicate-free list has at most one
sub-sequence with given members.
-/

namespace Astisub
namespace OPS
open List

theorem pair_sublist_cons {α : Type} {a b x : α} {t : List α} :
    [a, b] <+ x :: t ↔ [a, b] <+ t ∨ (a = x ∧ b ∈ t) := by
  rw [sublist_cons_iff]
  constructor
  · rintro (h | ⟨r, hr, hs⟩)
    · exact Or.inl h
    · simp only [cons.injEq] at hr
      obtain ⟨rfl, rfl⟩ := hr
      exact Or.inr ⟨rfl, singleton_sublist.mp hs⟩
  · rintro (h | ⟨rfl, hb⟩)
    · exact Or.inl h
    · exact Or.inr ⟨[b], rfl, singleton_sublist.mpr hb⟩

theorem pair_sublist_mem {α : Type} {a b : α} {l : List α} (h : [a, b] <+ l) : a ∈ l ∧ b ∈ l :=
  ⟨h.subset (by simp), h.subset (by simp)⟩

theorem nodup_pair_asymm {α : Type} {a b : α} {l : List α} (hn : l.Nodup)
    (h1 : [a, b] <+ l) (h2 : [b, a] <+ l) : False := by
  induction l with
  | nil => simp at h1
  | cons x t ih =>
    have hx : x ∉ t := (nodup_cons.mp hn).1
    have ht : t.Nodup := (nodup_cons.mp hn).2
    rcases pair_sublist_cons.mp h1 with h1' | ⟨rfl, hb⟩
    · rcases pair_sublist_cons.mp h2 with h2' | ⟨rfl, _⟩
      · exact ih ht h1' h2'
      · exact hx (pair_sublist_mem h1').2
    · rcases pair_sublist_cons.mp h2 with h2' | ⟨rfl, _⟩
      · exact hx (pair_sublist_mem h2').2
      · exact hx hb

theorem pair_sublist_total {α : Type} {a b : α} {l : List α} (ha : a ∈ l) (hb : b ∈ l) (hab : a ≠ b) :
    [a, b] <+ l ∨ [b, a] <+ l := by
  induction l with
  | nil => simp at ha
  | cons x t ih =>
    rcases mem_cons.mp ha with rfl | ha'
    · rcases mem_cons.mp hb with rfl | hb'
      · exact absurd rfl hab
      · exact Or.inl (pair_sublist_cons.mpr (Or.inr ⟨rfl, hb'⟩))
    · rcases mem_cons.mp hb with rfl | hb'
      · exact Or.inr (pair_sublist_cons.mpr (Or.inr ⟨rfl, ha'⟩))
      · rcases ih ha' hb' with h | h
        · exact Or.inl (h.cons _)
        · exact Or.inr (h.cons _)

/-- "`a` must come before `b`": smaller key, or equal key and `a` before `b` in `xs` -/
def Before {α : Type} (key : α → Int) (xs : List α) (a b : α) : Prop :=
  key a < key b ∨ (key a = key b ∧ [a, b] <+ xs)

/-- `ys` is a stable sort of `xs` by `key` -/
structure StableSortOf {α : Type} (key : α → Int) (xs ys : List α) : Prop where
  perm : ys ~ xs
  sorted : ys.Pairwise (fun a b => key a ≤ key b)
  stable : ∀ a b, key a = key b → [a, b] <+ xs → [a, b] <+ ys

/-- a stable sort of a duplicate-free list lists its elements in the `Before` order -/
theorem StableSortOf.pairwise_before {α : Type} {key : α → Int} {xs ys : List α}
    (h : StableSortOf key xs ys) (hn : xs.Nodup) : ys.Pairwise (Before key xs) := by
  have hny : ys.Nodup := (h.perm.nodup_iff).mpr hn
  rw [pairwise_iff_forall_sublist]
  intro a b hab
  have hle : key a ≤ key b := (pairwise_iff_forall_sublist.mp h.sorted) hab
  by_cases hlt : key a < key b
  · exact Or.inl hlt
  · have heq : key a = key b := by omega
    refine Or.inr ⟨heq, ?_⟩
    have hm := pair_sublist_mem hab
    have hne : a ≠ b := by
      rintro rfl
      have := pairwise_iff_forall_sublist.mp hny hab
      exact this rfl
    rcases pair_sublist_total (h.perm.subset hm.1) (h.perm.subset hm.2) hne with hx | hx
    · exact hx
    · exact (nodup_pair_asymm hny hab (h.stable b a heq.symm hx)).elim

/-- **Uniqueness of a stable sort** (generic form). -/
theorem stableSort_unique {α : Type} {key : α → Int} {xs ys zs : List α} (hn : xs.Nodup)
    (hy : StableSortOf key xs ys) (hz : StableSortOf key xs zs) : ys = zs := by
  refine Perm.eq_of_pairwise (le := Before key xs) ?_ (hy.pairwise_before hn) (hz.pairwise_before hn)
    (hy.perm.trans hz.perm.symm)
  intro a b _ _ hab hba
  rcases hab with h1 | ⟨_, h1⟩
  · rcases hba with h2 | ⟨h2, _⟩ <;> omega
  · rcases hba with h2 | ⟨_, h2⟩
    · omega
    · exact (nodup_pair_asymm hn h1 h2).elim

open Ops Spec

/-- two lists with the same members whose images under `g` are sub-sequences of one duplicate-free
    list are equal: the list fixes the order -/
theorem eq_of_perm_of_map_sublist {α β : Type} (g : α → β) {l : List β} {as bs : List α} (hn : l.Nodup)
    (ha : as.map g <+ l) (hb : bs.map g <+ l) (hp : as ~ bs) : as = bs := by
  refine Perm.eq_of_pairwise (le := fun a b => [g a, g b] <+ l) ?_ ?_ ?_ hp
  · intro a b _ _ hab hba
    exact (nodup_pair_asymm hn hab hba).elim
  · rw [pairwise_iff_forall_sublist]; intro a b h; exact (h.map g).trans ha
  · rw [pairwise_iff_forall_sublist]; intro a b h; exact (h.map g).trans hb

abbrev Key := Int × Int × String × (List (List String) × Nat)
abbrev Stem := Int × String × (List (List String) × Nat)

def stemOf (k : Key) : Stem := (k.1, k.2.2.1, k.2.2.2)

def stem (it : Item) : Stem := (it.startAt, it.str, it.content)

theorem stemOf_cueKey (it : Item) : stemOf (cueKey it) = stem it := rfl

theorem map_stemOf_cueKey (l : List Item) : (l.map cueKey).map stemOf = l.map stem := by
  rw [map_map]; rfl

theorem _root_.Astisub.Ext.stem {y z : Item} (h : Ext y z) : stem z = stem y := by
  unfold OPS.stem Item.content
  rw [h.str, h.startAt, h.lines, h.pay]

theorem Run.starts_lt {s : String} {e : Int} : ∀ {a : Int} {ps : List Item}, Run s e a ps →
    ps.Pairwise (fun p q => p.startAt < q.startAt)
  | _, [], _ => Pairwise.nil
  | _, p :: ps, h => by
    obtain ⟨h1, h2, _, h4⟩ := h
    refine pairwise_cons.mpr ⟨?_, Run.starts_lt h4⟩
    intro q hq
    have := h4.mem_start_ge hq
    omega

theorem pieces_stem_nodup (f : Int) (hf : 0 < f) (xs : List Item) (hsep : Separated xs) :
    ((xs.flatMap (cut f)).map stem).Nodup := by
  rw [nodup_iff_pairwise_ne, pairwise_map, pairwise_flatMap]
  constructor
  · intro c hc
    have hrun := cut_run f hf c (hsep.pos c hc)
    refine (Run.starts_lt hrun).imp ?_
    intro p q hlt heq
    have : p.startAt = q.startAt := congrArg Prod.fst heq
    omega
  · refine (Pairwise.and_mem.mp hsep.apart).imp ?_
    rintro c d ⟨hc, hd, hnt⟩ x hx y hy heq
    have hc' := cut_run f hf c (hsep.pos c hc)
    have hd' := cut_run f hf d (hsep.pos d hd)
    have hx' := hc'.mem x hx
    have hy' := hd'.mem y hy
    have h1 : x.startAt = y.startAt := congrArg Prod.fst heq
    have h2 : x.str = y.str := congrArg (fun s => s.2.1) heq
    apply hnt
    refine ⟨?_, by omega, by omega⟩
    rw [← hc'.mem_str hx, ← hd'.mem_str hy]; exact h2

/-- the first piece of a cue (the cue itself if it is not cut) -/
def firstPiece (f : Int) (it : Item) : Item := (cut f it).headD it

theorem firstPiece_spec (f : Int) (hf : 0 < f) (it : Item) :
    [firstPiece f it] <+ cut f it ∧ stem (firstPiece f it) = stem it := by
  unfold firstPiece
  rw [cut_eq_cutAt f hf]
  cases multiplesIn f it.startAt it.endAt <;> exact ⟨singleton_sublist.mpr mem_cons_self, rfl⟩

theorem firsts_sublist (f : Int) (hf : 0 < f) (xs : List Item) : xs.map (firstPiece f) <+ xs.flatMap (cut f) := by
  induction xs with
  | nil => exact Sublist.refl _
  | cons c t ih =>
    rw [map_cons, flatMap_cons]
    exact (firstPiece_spec f hf c).1.append ih

theorem firsts_stem (f : Int) (hf : 0 < f) (xs : List Item) : (xs.map (firstPiece f)).map stem = xs.map stem := by
  rw [map_map]
  exact map_congr_left fun c _ => (firstPiece_spec f hf c).2

theorem firsts_sorted (f : Int) (hf : 0 < f) (xs : List Item) (hs : StartOrdered xs) : StartOrdered (xs.map (firstPiece f)) := by
  unfold StartOrdered
  rw [pairwise_map]
  refine hs.imp ?_
  intro c d hle
  have h1 : (firstPiece f c).startAt = c.startAt := congrArg Prod.fst (firstPiece_spec f hf c).2
  have h2 : (firstPiece f d).startAt = d.startAt := congrArg Prod.fst (firstPiece_spec f hf d).2
  omega

end OPS
end Astisub
