import Astisub.Lemmas.SSARead2Scalar
import Astisub.Lemmas.SSAText
import Astisub.Lemmas.MapMOpt

/-!
# Lemmas/SSARead2Text — event text: `\N` / `\n` splitting and `{…}` override blocks, model = decoder
-/

namespace Astisub
namespace SSAR
open Go SSA List

/-- if every answer of `f` that satisfies `P` is `g` of the argument, a successful `mapM f` with answers in `P` is `map g` -/
theorem mapM_eq_map {α β} (f : α → Option β) (g : α → β) (P : β → Prop) : ∀ (l : List α) (L : List β),
    Spec.SSA.mapM f l = some L → (∀ y ∈ L, P y) → (∀ x ∈ l, ∀ y, f x = some y → P y → y = g x) → L = l.map g
  | [], L, h, _, _ => by cases Option.some.inj h; rfl
  | a :: as, L, h, hP, hg => by
    obtain ⟨b, bs, hb, hbs, rfl⟩ := Spec.SSA.isMapM.cons_inv h
    rw [map_cons, ← hg a mem_cons_self b hb (hP b mem_cons_self),
      ← mapM_eq_map f g P as bs hbs (fun y hy => hP y (mem_cons_of_mem _ hy)) fun x hx => hg x (mem_cons_of_mem _ hx)]

theorem mapM_id_eq_some {α} (l : List (Option α)) (a : List α) : Spec.SSA.mapM id l = some a ↔ l = a.map some := by
  rw [Spec.SSA.isMapM.eq_some_iff, map_id]

/-- what stands behind a `{` up to the next brace: the inside of the override block, if a `}` follows -/
def innerOf (rest : Str) : Str := rest.takeWhile fun c => c ≠ '}' && c ≠ '{'

theorem runsOf_open_some (fuel : Nat) (rest after : Str) (eff : Option Str) (acc : Str) (out : List Spec.SSA.GRun)
    (h : rest.drop (innerOf rest).length = '}' :: after) :
    Spec.SSA.runsOf (fuel + 1) ('{' :: rest) eff acc out =
      if (innerOf rest).isEmpty then none else
        Spec.SSA.runsOf fuel after (some ('{' :: innerOf rest ++ ['}'])) []
          (if eff.isNone && acc.isEmpty then out else out ++ [{ effect := eff, text := acc.reverse }]) := by
  unfold innerOf at h ⊢
  simp only [Spec.SSA.runsOf]
  rw [h]
  rfl

theorem runsOf_open_none (fuel : Nat) (rest : Str) (eff : Option Str) (acc : Str) (out : List Spec.SSA.GRun)
    (h : ∀ after, rest.drop (innerOf rest).length ≠ '}' :: after) :
    Spec.SSA.runsOf (fuel + 1) ('{' :: rest) eff acc out = none := by
  unfold innerOf at h
  simp only [Spec.SSA.runsOf]

theorem runsOf_close (fuel : Nat) (rest : Str) (eff : Option Str) (acc : Str) (out : List Spec.SSA.GRun) :
    Spec.SSA.runsOf (fuel + 1) ('}' :: rest) eff acc out = none := by
  simp [Spec.SSA.runsOf]

theorem runsOf_other (fuel : Nat) (c : Char) (rest : Str) (eff : Option Str) (acc : Str) (out : List Spec.SSA.GRun)
    (h1 : c ≠ '{') (h2 : c ≠ '}') :
    Spec.SSA.runsOf (fuel + 1) (c :: rest) eff acc out = Spec.SSA.runsOf fuel rest eff (c :: acc) out := by
  simp only [Spec.SSA.runsOf]

theorem innerOf_split : ∀ (rest : Str), innerOf rest ++ rest.drop (innerOf rest).length = rest := by
  intro rest
  induction rest with
  | nil => rfl
  | cons c cs ih =>
    unfold innerOf at ih ⊢
    rw [takeWhile_cons]
    split
    · simp only [length_cons, drop_succ_cons, cons_append]
      rw [ih]
    · rfl

theorem innerOf_noBrace (rest : Str) : NoBrace (innerOf rest) := by
  constructor
  · intro h
    have := List.all_eq_true.1 (all_takeWhile (l := rest) (p := fun c => c ≠ '}' && c ≠ '{')) _ h
    simp at this
  · intro h
    have := List.all_eq_true.1 (all_takeWhile (l := rest) (p := fun c => c ≠ '}' && c ≠ '{')) _ h
    simp at this

theorem isBlock_mk (inner : Str) (hi : inner ≠ []) (hn : NoBrace inner) : IsBlock ('{' :: inner ++ ['}']) := by
  have hb : blockInner ('{' :: inner ++ ['}']) = inner := by simp [blockInner]
  refine ⟨by rw [hb], by rw [hb]; exact hi, by rw [hb]; exact hn⟩

/-- a run (override block, text) of the write side as the decoder's run -/
def grun (r : Run) : Spec.SSA.GRun := { effect := r.1, text := r.2 }

/-- the decoder's answer on a pending run `(eff, txt)` followed by block runs -/
def tailRuns (eff : Option Str) (txt : Str) (rest : List Run) : List Spec.SSA.GRun :=
  match rest with
  | [] => [{ effect := eff, text := txt }]
  | _ :: _ => (if eff.isNone && txt.isEmpty then [] else [{ effect := eff, text := txt }]) ++ rest.map grun

theorem tailRuns_some (e txt : Str) (rest : List Run) : tailRuns (some e) txt rest = grun (some e, txt) :: rest.map grun := by
  cases rest <;> simp [tailRuns, grun]

theorem runsOf_shape : ∀ (fuel : Nat) (s : Str) (eff : Option Str) (acc : Str) (out rs : List Spec.SSA.GRun),
    Spec.SSA.runsOf fuel s eff acc out = some rs →
    ∃ (t : Str) (rest : List Run), s = t ++ SSA.lineStr rest ∧ NoBrace t ∧ (∀ r ∈ rest, BlockRun r) ∧
      rs = out ++ tailRuns eff (acc.reverse ++ t) rest := by
  intro fuel
  induction fuel with
  | zero => intro s eff acc out rs h; simp [Spec.SSA.runsOf] at h
  | succ f ih =>
    intro s eff acc out rs h
    cases s with
    | nil =>
      refine ⟨[], [], rfl, ⟨by simp, by simp⟩, by simp, ?_⟩
      simp only [Spec.SSA.runsOf, Option.some.injEq] at h
      simp [tailRuns, ← h]
    | cons c cs =>
      by_cases h1 : c = '{'
      · subst h1
        cases hd : cs.drop (innerOf cs).length with
        | nil =>
          rw [runsOf_open_none f cs eff acc out (by rw [hd]; simp)] at h
          exact absurd h (by simp)
        | cons d after =>
          by_cases hd2 : d = '}'
          · subst hd2
            rw [runsOf_open_some f cs after eff acc out hd] at h
            by_cases hi : (innerOf cs).isEmpty = true
            · simp [hi] at h
            · simp only [hi] at h
              have hi' : innerOf cs ≠ [] := by intro e; rw [e] at hi; exact hi rfl
              obtain ⟨t', rest', hs, ht, hr, hrs⟩ := ih _ _ _ _ _ h
              have hblk : BlockRun (some ('{' :: innerOf cs ++ ['}']), t') :=
                ⟨isBlock_mk _ hi' (innerOf_noBrace cs), ht⟩
              refine ⟨[], (some ('{' :: innerOf cs ++ ['}']), t') :: rest', ?_, ⟨by simp, by simp⟩, ?_, ?_⟩
              · have := innerOf_split cs
                rw [hd, hs] at this
                simp only [SSA.lineStr, map_cons, flatten_cons, runStr, Option.getD_some, nil_append]
                simp only [SSA.lineStr] at this
                conv => lhs; rw [← this]
                simp
              · intro r hr'
                rcases mem_cons.1 hr' with e | e
                · rw [e]; exact hblk
                · exact hr r e
              · rw [hrs, tailRuns_some]
                simp only [tailRuns, append_nil, map_cons]
                cases eff <;> cases acc <;> simp [grun]
          · rw [runsOf_open_none f cs eff acc out (by rw [hd]; intro a e; exact hd2 (by injection e))] at h
            exact absurd h (by simp)
      · by_cases h2 : c = '}'
        · subst h2
          rw [runsOf_close] at h
          exact absurd h (by simp)
        · rw [runsOf_other f c cs eff acc out h1 h2] at h
          obtain ⟨t', rest', hs, ht, hr, hrs⟩ := ih _ _ _ _ _ h
          refine ⟨c :: t', rest', by rw [hs]; rfl, ?_, hr, ?_⟩
          · exact ⟨by simp [Ne.symm h1, ht.1], by simp [Ne.symm h2, ht.2]⟩
          · rw [hrs]; simp

theorem runView_plain (t : Str) : runView (mkRun (none, t)) = { effect := none, text := t } := rfl

theorem runView_block (r : Run) (h : BlockRun r) : runView (mkRun r) = grun r := by
  obtain ⟨eo, t⟩ := r
  cases eo with
  | none => exact absurd h.1 id
  | some e => simp [runView, mkRun, grun, Spec.SSA.kvGet, List.lookup]

theorem map_runView_blocks (rs : List Run) (h : ∀ r ∈ rs, BlockRun r) : (rs.map mkRun).map runView = rs.map grun := by
  induction rs with
  | nil => rfl
  | cons r rs ih =>
    simp only [map_cons]
    rw [runView_block r (h r (by simp)), ih fun x hx => h x (by simp [hx])]

theorem lineRuns_runsOf (l : Str) (rs : List Spec.SSA.GRun) (h : Spec.SSA.runsOf (l.length + 2) l none [] [] = some rs) :
    (lineRuns l).map runView = rs := by
  obtain ⟨t, rest, hs, ht, hr, hrs⟩ := runsOf_shape _ _ _ _ _ _ h
  subst hs
  rw [hrs]
  cases rest with
  | nil =>
    simp only [SSA.lineStr, map_nil, flatten_nil, append_nil]
    rw [lineRuns_plain t ht]
    simp [tailRuns, runView_plain]
  | cons r rest =>
    rw [lineRuns_blocks t r rest hr ht, map_append, map_runView_blocks _ hr]
    cases t with
    | nil => simp [tailRuns]
    | cons c cs => simp [tailRuns, runView_plain]

theorem cutLines_cons (c : Char) (rest acc : Str) :
    Spec.SSA.cutLines (c :: rest) acc =
      if c = '\\' ∧ (rest.head? = some 'N' ∨ rest.head? = some 'n') then acc.reverse :: Spec.SSA.cutLines (rest.drop 1) []
      else Spec.SSA.cutLines rest (c :: acc) := by
  by_cases hc : c = '\\'
  · subst hc
    cases rest with
    | nil => simp [Spec.SSA.cutLines]
    | cons d r =>
      by_cases h1 : d = 'N'
      · subst h1; simp [Spec.SSA.cutLines]
      · by_cases h2 : d = 'n'
        · subst h2; simp [Spec.SSA.cutLines]
        · simp [Spec.SSA.cutLines, h1, h2]
  · simp [Spec.SSA.cutLines, hc]

/-- `strings.ReplaceAll(s, "\\N", "\\n")`, scanning left to right -/
def replN : Str → Str
  | '\\' :: 'N' :: rest => '\\' :: 'n' :: replN rest
  | c :: rest => c :: replN rest
  | [] => []

theorem replN_cons (c : Char) (rest : Str) (h : ¬ (c = '\\' ∧ rest.head? = some 'N')) :
    replN (c :: rest) = c :: replN rest := by
  rw [replN]
  intro r e1 e2; exact h ⟨e1, by rw [e2]; rfl⟩

/-- `n` only bounds the length: behind `\\N` the induction goes two characters down -/
theorem replaceAll_N : ∀ (n : Nat) (u : Str), u.length ≤ n → replaceAll ['\\', 'N'] ['\\', 'n'] u = replN u := by
  intro n
  induction n with
  | zero => intro u h; obtain rfl : u = [] := by cases u with | nil => rfl | cons _ _ => cases h
            rfl
  | succ n ih =>
    intro u hu
    cases u with
    | nil => rfl
    | cons x xs =>
      unfold replaceAll
      cases hd : dropPrefix? ['\\', 'N'] (x :: xs) with
      | some r =>
        obtain ⟨rfl, rfl⟩ := cons.inj (dropPrefix?_eq_some_iff.mp hd)
        have := ih r (by simp at hu; omega)
        unfold replaceAll at this
        rw [splitOn_hit (cons_ne_nil _ _) (cons_ne_nil _ _) hd,
          join_cons_of_ne_nil _ _ (splitOn_ne_nil (cons_ne_nil _ _) r), this]
        show _ = replN ('\\' :: 'N' :: r)
        rw [replN]; rfl
      | none =>
        have hno : ¬ (x = '\\' ∧ xs.head? = some 'N') := by
          rintro ⟨rfl, e2⟩
          cases xs with
          | nil => cases e2
          | cons y ys => cases e2; simp [dropPrefix?] at hd
        have := ih xs (Nat.le_of_succ_le_succ hu)
        unfold replaceAll at this
        rw [splitOn_miss (cons_ne_nil _ _) hd, replN_cons x xs hno, ← this]
        cases hsp : splitOn ['\\', 'N'] xs with
        | nil => exact absurd hsp (splitOn_ne_nil (cons_ne_nil _ _) xs)
        | cons h t => cases t <;> simp [consHead, join]

theorem replN_head (s : Str) : (replN s).head? = s.head? := by
  cases s with
  | nil => rfl
  | cons c rest =>
    by_cases h : c = '\\' ∧ rest.head? = some 'N'
    · obtain ⟨rfl, hr⟩ := h
      cases rest with
      | nil => cases hr
      | cons d r => cases hr; rw [replN]; rfl
    · rw [replN_cons c rest h]; rfl

theorem splitOn_replN : ∀ (n : Nat) (u : Str), u.length ≤ n → ∀ acc : Str,
    consHead acc.reverse (Go.splitOn ['\\', 'n'] (replN u)) = Spec.SSA.cutLines u acc := by
  intro n
  induction n with
  | zero =>
    intro u h acc
    obtain rfl : u = [] := by cases u with | nil => rfl | cons _ _ => cases h
    simp [replN, splitOn_nil, consHead, Spec.SSA.cutLines]
  | succ n ih =>
    intro u hu acc
    cases u with
    | nil => simp [replN, splitOn_nil, consHead, Spec.SSA.cutLines]
    | cons c rest =>
      have hr : rest.length ≤ n := Nat.le_of_succ_le_succ hu
      have hit : ∀ r : Str, r.length ≤ n → consHead acc.reverse (Go.splitOn ['\\', 'n'] ('\\' :: 'n' :: replN r)) =
          acc.reverse :: Spec.SSA.cutLines r [] := by
        intro r hrn
        rw [splitOn_hit (cons_ne_nil _ _) (cons_ne_nil _ _) (dropPrefix2_some _ _ _), ← ih r hrn [], reverse_nil, consHead_nil]
        simp [consHead]
      rw [cutLines_cons]
      by_cases hN : c = '\\' ∧ rest.head? = some 'N'
      · obtain ⟨rfl, h2⟩ := hN
        cases rest with
        | nil => cases h2
        | cons d r =>
          cases h2
          rw [if_pos ⟨rfl, .inl rfl⟩, replN]
          exact hit r (by simp at hr; omega)
      · rw [replN_cons c rest hN]
        by_cases hn : c = '\\' ∧ rest.head? = some 'n'
        · obtain ⟨rfl, h2⟩ := hn
          cases rest with
          | nil => cases h2
          | cons d r =>
            cases h2
            rw [if_pos ⟨rfl, .inr rfl⟩, replN_cons 'n' r (fun h => by cases h.1)]
            exact hit r (by simp at hr; omega)
        · rw [if_neg (fun h => h.2.elim (fun e => hN ⟨h.1, e⟩) fun e => hn ⟨h.1, e⟩),
            splitOn_miss (cons_ne_nil _ _) (dropPrefix2_none (by
              rw [replN_head]
              by_cases e1 : c = '\\'
              · have : ¬ rest.head? = some 'n' := fun e2 => hn ⟨e1, e2⟩
                simp [this]
              · simp [e1])), consHead_consHead, ← ih rest hr (c :: acc), reverse_cons]

theorem splitOn_replaceAll (u : Str) :
    Go.splitOn "\\n".toList (replaceAll "\\N".toList "\\n".toList u) = Spec.SSA.cutLines u [] := by
  rw [sepn, sepN, replaceAll_N _ u (Nat.le_refl _), ← splitOn_replN _ u (Nat.le_refl _) [], reverse_nil, consHead_nil]

theorem mapM_trim {β γ} (g : Str → Option β) (hfun : Str → γ) (view : γ → β) (hg : ∀ l b, g l = some b → view (hfun l) = b)
    (ls : List Str) (gl : List β) (h : Spec.SSA.mapM (fun l => g (trimSpace l)) ls = some gl) :
    ((ls.map trimSpace).map hfun).map view = gl := by
  rw [map_map, map_map]
  exact (mapM_eq_map _ _ (fun _ => True) ls gl h (fun _ _ => trivial) fun l _ b hb _ => (hg _ b hb).symm).symm

/-- **Text.** Whenever the decoder accepts the text of an event (no stray braces), the model's lines
    (`textLines` on the trimmed text, as `eventField` stores it) and runs (`lineRuns`) are, seen through the view,
    exactly the decoder's lines and runs. -/
theorem textLines_textOf (t : Str) (gl : List (List Spec.SSA.GRun)) (h : Spec.SSA.textOf t = some gl) :
    (textLines (trimSpace t)).map (fun s => (lineRuns s).map runView) = gl := by
  unfold textLines
  rw [splitOn_replaceAll]
  unfold Spec.SSA.textOf at h
  have := mapM_trim (fun l => Spec.SSA.runsOf (l.length + 2) l none [] []) lineRuns (fun x => x.map runView)
    (fun l b hb => lineRuns_runsOf l b hb) _ gl h
  simp only [List.map_map] at this ⊢
  exact this

end SSAR
end Astisub
