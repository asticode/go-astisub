import Astisub.Lemmas.SSA2Fix

/-!
# Lemmas/SSA2Fixpoint — `write (norm s) = write s`; the writer answers; the normal form is representable

`WriteToSSA` is a function of four inputs (`write_eq`: script info, script type, sorted styles, event rows);
`write_norm` shows that each of them is the same for a cue list and its normal form.
-/

namespace Astisub
namespace SSA
open Go List

/-- **Representable cue lists (rewrite fixpoint)**: `RepRead`, and every cue names no style or a style
    of the cue list (other than `*Default`, which the reader renames), and its text is unchanged by
    the reader's line splitting (no `\N`, no space next to a `\n`). -/
def RepFix (s : Subs) : Prop :=
  RepRead s ∧ ∀ e ∈ s.items.map eventOfItem, StyleRef (styleIds s) e.style ∧ TextFix e.text

instance (s : Subs) : Decidable (RepFix s) :=
  inferInstanceAs (Decidable (RepRead s ∧ ∀ e ∈ s.items.map eventOfItem, StyleRef (styleIds s) e.style ∧ TextFix e.text))

theorem styleRef_ne_default {ids : List Str} {st : Str} (h : StyleRef ids st) : st ≠ "*Default".toList := by
  rcases h with rfl | ⟨_, h⟩
  · decide
  · exact h

theorem eventBack_norm (ids : List Str) (e : Event) (v : Bool) (hc : EventCells e) (ht : Trimmed e.text)
    (hs : StyleRef ids e.style) (hx : TextFix e.text) : EventBack ids (e.norm "Dialogue".toList v) := by
  have hne := styleRef_ne_default hs
  refine ⟨rfl, ?_, ?_, ?_, ?_, ?_, ?_⟩
  · show StyleRef ids (if e.style = "*Default".toList then "Default".toList else e.style)
    rw [if_neg hne]
    exact hs
  · intro x hxv
    cases v
    · cases hxv
    · have : some (e.layer.getD 0) = some x := hxv
      cases this
      exact hc.layer
  · intro x hxv
    have : some (e.marginL.getD 0) = some x := hxv
    cases this
    exact hc.marginL
  · intro x hxv
    have : some (e.marginR.getD 0) = some x := hxv
    cases this
    exact hc.marginR
  · intro x hxv
    have : some (e.marginV.getD 0) = some x := hxv
    cases this
    exact hc.marginV
  · show TextFix (trimSpace e.text)
    rw [trimSpace_of_trimmed ht]
    exact hx

theorem row_norm (ids : List Str) (e : Event) (v : Bool) (hc : EventCells e) (ht : Trimmed e.text)
    (hs : StyleRef ids e.style) (hx : TextFix e.text) :
    (eventOfItem (eventItem ids (e.norm "Dialogue".toList v))).row v = e.row v := by
  rw [eventOfItem_eventItem ids _ (eventBack_norm ids e v hc ht hs hx)]
  exact C04doc.event_row_rewrite e v _ hc ht (styleRef_ne_default hs)

theorem any_neg_false (items : List CItem) (h : ∀ it ∈ items, 0 ≤ it.startAt ∧ 0 ≤ it.endAt) :
    items.any (fun it => it.startAt < 0 || it.endAt < 0) = false := by
  rw [any_eq_false]
  intro it hit
  have := h it hit
  simp only [Bool.or_eq_true, decide_eq_true_eq, not_or, Int.not_lt]
  exact this

theorem write_norm (s : Subs) (h : RepFix s) : write (norm s) = write s := by
  obtain ⟨hr, hfix⟩ := h
  rw [write_eq, write_eq]
  have hemp : (norm s).items.isEmpty = s.items.isEmpty := by simp [norm]
  have hneg1 : s.items.any (fun it => it.startAt < 0 || it.endAt < 0) = false := by
    apply any_neg_false
    intro it hit
    have := (hr.event (mem_map_of_mem hit)).cells
    exact ⟨this.start.1, this.stop.1⟩
  have hneg2 : (norm s).items.any (fun it => it.startAt < 0 || it.endAt < 0) = false := by
    apply any_neg_false
    intro it' hit'
    obtain ⟨it, hit, rfl⟩ := mem_map.mp hit'
    have := (hr.event (mem_map_of_mem hit)).cells
    have h1 := this.start.1
    have h2 := this.stop.1
    simp only [eventItem, Event.norm]
    constructor <;> omega
  have hv : isV4plus (norm s) = isV4plus s := by
    unfold isV4plus
    rw [show (norm s).metadata = (infoOfMeta s.metadata).metadata from rfl, scriptType_metadata]
  have hi : infoOfMeta (norm s).metadata = infoOfMeta s.metadata := infoOfMeta_metadata _ hr.info
  have hst : writerStyles (norm s) = writerStyles s :=
    writerStyles_toDef s (fun _ hst => (hr.style hst).ok)
  have hrows : (norm s).items.map (fun it => (eventOfItem it).row (isV4plus (norm s)))
      = s.items.map (fun it => (eventOfItem it).row (isV4plus s)) := by
    rw [hv, show (norm s).items = s.items.map fun it =>
      eventItem (styleIds s) ((eventOfItem it).norm "Dialogue".toList (isV4plus s)) from rfl, map_map]
    apply map_congr_left
    intro it hit
    have h1 := hr.event (mem_map_of_mem hit)
    have h2 := hfix (eventOfItem it) (mem_map_of_mem hit)
    exact row_norm (styleIds s) (eventOfItem it) (isV4plus s) h1.cells h1.trimmed h2.1 h2.2
  rw [hemp, hneg1, hneg2, hrows, hv, hi, hst]

theorem write_ok_of_rep (s : Subs) (hr : RepRead s) (hne : s.items ≠ []) : ∃ out, write s = .ok out := by
  have hemp : s.items.isEmpty = false := by cases hs : s.items with | nil => exact absurd hs hne | cons _ _ => rfl
  have hneg : s.items.any (fun it => it.startAt < 0 || it.endAt < 0) = false :=
    any_neg_false _ fun it hit =>
      ⟨(hr.event (mem_map_of_mem hit)).cells.start.1, (hr.event (mem_map_of_mem hit)).cells.stop.1⟩
  obtain ⟨txt, htxt⟩ := SSAW.bytes_some _ hr.info
  obtain ⟨rows, hrows⟩ := allSome_some (fun st : Style => st.row (formatOf (formatFlds (writerStyles s)))) (writerStyles s)
    (fun st hst => row_exists st _ (hr.style hst).ok)
  rw [write_eq, writeCore_closed, hemp, hneg, htxt, hrows]
  exact ⟨_, rfl⟩

theorem eventCells_norm (e : Event) (v : Bool) (hc : EventCells e) (hs : e.style ≠ "*Default".toList) :
    EventCells (e.norm "Dialogue".toList v) := by
  have h1 := hc.start
  have h2 := hc.stop
  unfold TimeOK at h1 h2
  refine ⟨?_, ?_, ?_, hc.marginL, hc.marginR, hc.marginV, ?_, hc.name, hc.effect⟩
  · show TimeOK (e.startAt - e.startAt % 10000000)
    unfold TimeOK; omega
  · show TimeOK (e.endAt - e.endAt % 10000000)
    unfold TimeOK; omega
  · cases v
    · show Int64 0
      decide
    · exact hc.layer
  · show ',' ∉ (if e.style = "*Default".toList then "Default".toList else e.style)
    rw [if_neg hs]
    exact hc.style

theorem eventNL_norm (e : Event) (v : Bool) (hn : EventNL e) (ht : Trimmed e.text) (hs : e.style ≠ "*Default".toList) :
    EventNL (e.norm "Dialogue".toList v) := by
  refine ⟨?_, hn.2.1, hn.2.2.1, ?_⟩
  · show '\n' ∉ (if e.style = "*Default".toList then "Default".toList else e.style)
    rw [if_neg hs]
    exact hn.1
  · show '\n' ∉ trimSpace e.text
    rw [trimSpace_of_trimmed ht]
    exact hn.2.2.2

theorem events_norm (s : Subs) (h : RepFix s) :
    (norm s).items.map eventOfItem = (s.items.map eventOfItem).map (Event.norm "Dialogue".toList (isV4plus s)) := by
  rw [show (norm s).items = s.items.map fun it =>
    eventItem (styleIds s) ((eventOfItem it).norm "Dialogue".toList (isV4plus s)) from rfl, map_map, map_map]
  apply map_congr_left
  intro it hit
  have h1 := h.1.event (mem_map_of_mem hit)
  have h2 := h.2 (eventOfItem it) (mem_map_of_mem hit)
  exact eventOfItem_eventItem _ _ (eventBack_norm (styleIds s) (eventOfItem it) (isV4plus s) h1.cells h1.trimmed h2.1 h2.2)

theorem repRead_norm (s : Subs) (h : RepFix s) : RepRead (norm s) := by
  have hev := events_norm s h
  obtain ⟨hr, hfix⟩ := h
  have hst : writerStyles (norm s) = writerStyles s := writerStyles_toDef s (fun _ hst => (hr.style hst).ok)
  refine ⟨?_, ?_, ?_, ?_⟩
  · rw [show (norm s).metadata = (infoOfMeta s.metadata).metadata from rfl, infoOfMeta_metadata _ hr.info]
    exact hr.info
  · rw [hst]; exact hr.2.1
  · rw [hev]
    intro e' he'
    obtain ⟨e, he, rfl⟩ := mem_map.mp he'
    have h1 := hr.event he
    have hs := styleRef_ne_default (hfix e he).1
    refine ⟨eventCells_norm e _ h1.cells hs, ?_, eventNL_norm e _ h1.nl h1.trimmed hs⟩
    show Trimmed (trimSpace e.text)
    exact trimmed_trimSpace _
  · unfold styleIds
    rw [hst]
    exact hr.ids

theorem norm_idem (s : Subs) (h : RepFix s) (hne : s.items ≠ []) : norm (norm s) = norm s := by
  obtain ⟨out, hout⟩ := write_ok_of_rep s h.1 hne
  have h1 := write_read s out h.1 hout
  have h2 := write_read (norm s) out (repRead_norm s h) (by rw [write_norm s h, hout])
  rw [h1] at h2
  exact (Res.ok.inj h2).symm

end SSA
end Astisub
