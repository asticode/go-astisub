import Astisub.Lemmas.SSAW2Info

/-!
# Lemmas/SSAW2Events — the decoder's event-row reader and `[Events]` section reader on what the writer emits
-/

namespace Astisub
namespace SSAW
open Go SSA SSAR List
open Spec.SSA (GVal GStyle GRun GEvent GDoc REvent)

theorem optc_bridge {α : Type} (format cells : List Str) (c : String) (f : Str → Option α) :
    optc ((format.map String.ofList).zip cells) c f =
      match (format.zip cells).lookup c.toList with
      | none => some none
      | some cell => (f cell).map some := by
  unfold optc
  rw [lookup_bridge]
  cases (format.zip cells).lookup c.toList <;> rfl

/-- the association list of a written row, keyed by `Str` -/
def rowPairs (v : Bool) (e : Event) : List (Str × Str) := (eventFormat v).zip (e.pre v ++ [e.text])

/-- in an association list of keys zipped with as many values, a key finds the value at its index -/
theorem lookup_zip_idxOf {α β : Type} [BEq α] [LawfulBEq α] (k : α) : ∀ (ks : List α) (vs : List β),
    ks.length = vs.length → (ks.zip vs).lookup k = vs[ks.idxOf k]? := by
  intro ks
  induction ks with
  | nil => intro vs h; cases vs with | nil => rfl | cons _ _ => cases h
  | cons a ks ih =>
    intro vs h
    cases vs with
    | nil => cases h
    | cons x xs =>
      rw [zip_cons_cons, lookup_cons, idxOf_cons]
      by_cases hk : k = a
      · subst hk; simp
      · rw [beq_eq_false_iff_ne.mpr hk, beq_eq_false_iff_ne.mpr (Ne.symm hk), ih xs (Nat.succ.inj h)]
        simp

theorem rowPairs_lookup (v : Bool) (e : Event) (k : Str) :
    (rowPairs v e).lookup k = (e.pre v ++ [e.text])[(eventFormat v).idxOf k]? :=
  -- both lengths reduce to 10 whatever `v` is; a plain `rfl` would compare the two lists instead
  lookup_zip_idxOf k (eventFormat v) (e.pre v ++ [e.text]) (Eq.trans (b := 10) rfl rfl)

/-- where the writer's Format has each column (10 = absent); one evaluation of the table, so that no proof below
    compares column names again -/
theorem eventFormat_idxOf (v : Bool) :
    (eventFormat v).idxOf "Start".toList = 1 ∧ (eventFormat v).idxOf "End".toList = 2 ∧
    (eventFormat v).idxOf "Style".toList = 3 ∧ (eventFormat v).idxOf "Name".toList = 4 ∧
    (eventFormat v).idxOf "MarginL".toList = 5 ∧ (eventFormat v).idxOf "MarginR".toList = 6 ∧
    (eventFormat v).idxOf "MarginV".toList = 7 ∧ (eventFormat v).idxOf "Effect".toList = 8 ∧
    (eventFormat v).idxOf "Text".toList = 9 ∧ (eventFormat v).idxOf "Layer".toList = (if v then 0 else 10) ∧
    (eventFormat v).idxOf "Marked".toList = (if v then 10 else 0) := by
  cases v <;> decide +kernel

theorem lk_start (v : Bool) (e : Event) : (rowPairs v e).lookup "Start".toList = some (Duration.formatSSA e.startAt) := by
  obtain ⟨h, _⟩ := eventFormat_idxOf v
  rw [rowPairs_lookup, h]; cases v <;> rfl

theorem lk_end (v : Bool) (e : Event) : (rowPairs v e).lookup "End".toList = some (Duration.formatSSA e.endAt) := by
  obtain ⟨_, h, _⟩ := eventFormat_idxOf v
  rw [rowPairs_lookup, h]; cases v <;> rfl

theorem lk_style (v : Bool) (e : Event) : (rowPairs v e).lookup "Style".toList = some e.style := by
  obtain ⟨_, _, h, _⟩ := eventFormat_idxOf v
  rw [rowPairs_lookup, h]; cases v <;> rfl

theorem lk_name (v : Bool) (e : Event) : (rowPairs v e).lookup "Name".toList = some e.name := by
  obtain ⟨_, _, _, h, _⟩ := eventFormat_idxOf v
  rw [rowPairs_lookup, h]; cases v <;> rfl

theorem lk_marginL (v : Bool) (e : Event) : (rowPairs v e).lookup "MarginL".toList = some (itoa (e.marginL.getD 0)) := by
  obtain ⟨_, _, _, _, h, _⟩ := eventFormat_idxOf v
  rw [rowPairs_lookup, h]; cases v <;> rfl

theorem lk_marginR (v : Bool) (e : Event) : (rowPairs v e).lookup "MarginR".toList = some (itoa (e.marginR.getD 0)) := by
  obtain ⟨_, _, _, _, _, h, _⟩ := eventFormat_idxOf v
  rw [rowPairs_lookup, h]; cases v <;> rfl

theorem lk_marginV (v : Bool) (e : Event) : (rowPairs v e).lookup "MarginV".toList = some (itoa (e.marginV.getD 0)) := by
  obtain ⟨_, _, _, _, _, _, h, _⟩ := eventFormat_idxOf v
  rw [rowPairs_lookup, h]; cases v <;> rfl

theorem lk_effect (v : Bool) (e : Event) : (rowPairs v e).lookup "Effect".toList = some e.effect := by
  obtain ⟨_, _, _, _, _, _, _, h, _⟩ := eventFormat_idxOf v
  rw [rowPairs_lookup, h]; cases v <;> rfl

theorem lk_text (v : Bool) (e : Event) : (rowPairs v e).lookup "Text".toList = some e.text := by
  obtain ⟨_, _, _, _, _, _, _, _, h, _⟩ := eventFormat_idxOf v
  rw [rowPairs_lookup, h]; cases v <;> rfl

theorem lk_layer_true (e : Event) : (rowPairs true e).lookup "Layer".toList = some (itoa (e.layer.getD 0)) := by
  obtain ⟨_, _, _, _, _, _, _, _, _, h, _⟩ := eventFormat_idxOf true
  rw [rowPairs_lookup, h]; rfl

theorem lk_layer_false (e : Event) : (rowPairs false e).lookup "Layer".toList = none := by
  obtain ⟨_, _, _, _, _, _, _, _, _, h, _⟩ := eventFormat_idxOf false
  rw [rowPairs_lookup, h]; rfl

theorem lk_marked_true (e : Event) : (rowPairs true e).lookup "Marked".toList = none := by
  obtain ⟨_, _, _, _, _, _, _, _, _, _, h⟩ := eventFormat_idxOf true
  rw [rowPairs_lookup, h]; rfl

theorem lk_marked_false (e : Event) : (rowPairs false e).lookup "Marked".toList =
    some (if e.marked = some true then "Marked=1".toList else "Marked=0".toList) := by
  obtain ⟨_, _, _, _, _, _, _, _, _, _, h⟩ := eventFormat_idxOf false
  rw [rowPairs_lookup, h]; rfl

theorem markedOf_cell (m : Option Bool) :
    markedOf (if m = some true then "Marked=1".toList else "Marked=0".toList) = some (decide (m = some true)) := by
  by_cases hb : m = some true
  · simp [hb, markedOf]
  · rw [if_neg hb]; simp only [hb, decide_false]; decide

theorem eventOf_row (v : Bool) (e : Event) (lines : List (List GRun)) (h : EventCells e)
    (ht : Spec.SSA.textOf e.text = some lines) :
    Spec.SSA.eventOf ((eventFormat v).map String.ofList) (e.row v) = some (eventR v e lines) := by
  obtain ⟨hc, hl⟩ := Event.cells e v h
  have hlen : ((eventFormat v).map String.ofList).length = 10 := by cases v <;> rfl
  rw [eventOf_eq, hlen, if_neg (by omega), ← absorb_eq, hc]
  have hp : (eventFormat v).zip (e.pre v ++ [e.text]) = rowPairs v e := rfl
  simp only [optc_bridge, lookup_bridge, hp]
  cases v
  · simp only [lk_start, lk_end, lk_style, lk_name, lk_marginL, lk_marginR, lk_marginV, lk_effect, lk_text,
      lk_layer_false, lk_marked_false, spec_timeOf_formatSSA _ h.start, spec_timeOf_formatSSA _ h.stop,
      spec_intOf_itoa, markedOf_cell, ht, Option.map_some, Option.getD_some, eventR]
    rfl
  · simp only [lk_start, lk_end, lk_style, lk_name, lk_marginL, lk_marginR, lk_marginV, lk_effect, lk_text,
      lk_layer_true, lk_marked_true, spec_timeOf_formatSSA _ h.start, spec_timeOf_formatSSA _ h.stop,
      spec_intOf_itoa, ht, Option.map_some, Option.getD_some, eventR]
    rfl

theorem eventFormat_check (v : Bool) :
    (Spec.SSA.nodup ((eventFormat v).map String.ofList) &&
      ((eventFormat v).map String.ofList).all fun c => Spec.SSA.eventCols.contains c) = true := by
  cases v <;> (unfold eventFormat; decide_vector)

theorem eventsOf_format (v : Bool) (ls : List Str) :
    Spec.SSA.eventsOf (kvTrim "Format".toList (join ", ".toList (eventFormat v)) :: ls) none
      = Spec.SSA.eventsOf ls (some ((eventFormat v).map String.ofList)) := by
  obtain ⟨hne, hcol⟩ := eventFormat_cols v
  obtain ⟨hsplit, htr⟩ := format_cols (eventFormat v) hne hcol
  have hcols : (splitC ',' (join ", ".toList (eventFormat v))).map (fun c => String.ofList (trimSpace c))
      = (eventFormat v).map String.ofList := by
    conv => rhs; rw [← hsplit, map_map]
    rfl
  rw [Spec.SSA.eventsOf, classify_kvTrim _ _ headerOK_Format htr]
  simp only [↓reduceIte, Option.isSome_none, Bool.false_eq_true, hcols, eventFormat_check]

theorem eventsOf_dialogue (cols : List String) (row : Str) (ls : List Str) (r : REvent) (rest : List REvent)
    (hr : Trimmed row) (h1 : Spec.SSA.eventOf cols row = some r) (h2 : Spec.SSA.eventsOf ls (some cols) = some rest) :
    Spec.SSA.eventsOf (kvTrim "Dialogue".toList row :: ls) (some cols) = some (r :: rest) := by
  rw [Spec.SSA.eventsOf, classify_kvTrim _ _ headerOK_Dialogue hr]
  simp only [if_neg dialogue_ne_format, ↓reduceIte, h1, h2]

theorem eventsOf_rows (v : Bool) (tl : Event → List (List GRun)) : ∀ (es : List Event),
    (∀ e ∈ es, EventCells e ∧ Trimmed e.text ∧ Spec.SSA.textOf e.text = some (tl e)) →
    Spec.SSA.eventsOf (es.map (fun e => kvTrim "Dialogue".toList (e.row v))) (some ((eventFormat v).map String.ofList))
      = some (es.map fun e => eventR v e (tl e)) := by
  intro es
  induction es with
  | nil => intro _; rfl
  | cons e es ih =>
    intro h
    obtain ⟨h1, h2, h3⟩ := h e (by simp)
    rw [map_cons, map_cons]
    exact eventsOf_dialogue _ _ _ _ _ (trimmed_event_row e v h2) (eventOf_row v e _ h1 h3)
      (ih fun x hx => h x (by simp [hx]))

theorem eventsOf_block (v : Bool) (es : List Event) (tl : Event → List (List GRun))
    (h : ∀ e ∈ es, EventCells e ∧ Trimmed e.text ∧ Spec.SSA.textOf e.text = some (tl e)) :
    Spec.SSA.eventsOf (kvTrim "Format".toList (join ", ".toList (eventFormat v)) ::
        es.map (fun e => kvTrim "Dialogue".toList (e.row v))) none
      = some (es.map fun e => eventR v e (tl e)) := by
  rw [eventsOf_format, eventsOf_rows v tl es h]

end SSAW
end Astisub
