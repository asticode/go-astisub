import Astisub.Lemmas.SRTSpecRuns
import Astisub.Lemmas.SRTRead

/-!
# Lemmas/SRTSpec — the independent decoder on what the writer produces

`decode_write` (clause W2 of `Props/C01doc.lean`): the decoder accepts the text written for a
representable cue list and denotes the cues of `specView s`: it drops the mark, `splitLines` gives the written lines back
(`splitLines_lfLines`), `blocks` the cue blocks (`blocks_head_segLines`, `Lemmas/Lines`), `decodeBlock` the cues.

`srtView_norm`: `specView` is also the check's own `Driver.srtView` of the normal form.
-/

namespace Astisub
namespace SRTDoc
open Go SRT

theorem timing_no_dash (x : Str) (h : '-' ∉ x) : Spec.SRT.timing x = none := by
  unfold Spec.SRT.timing
  rw [splitOn_of_not_contains (sep := "-->".toList) (by decide) (contains_of_head_not_mem (p := '-') _ h)]

/-- what the independent decoder should see in a cue / cue list (`viewRun` is in `SRTSpecRuns`) -/
def viewItem (it : CItem) : Spec.SRT.GCue :=
  { startMs := (it.startAt / 1000000).toNat, endMs := (it.endAt / 1000000).toNat,
    lines := it.lines.map fun l => l.items.map viewRun }

def specView (s : Subs) : List Spec.SRT.GCue := s.items.map viewItem

theorem rep_repItem {s : Subs} (h : Rep s = true) : ∀ it ∈ s.items, RepItem it = true := (rep_iff.mp h).items

theorem decodeBlock_blockLines (k : Nat) (it : CItem) (h : RepItem it = true) (hl : it.lines ≠ []) :
    Spec.SRT.decodeBlock (blockLines k it) = some (viewItem it) := by
  have F := repItem_iff.mp h
  have hdash : '-' ∉ itoaNat (k + 1) := (digitStr_itoaNat (k + 1)).not_mem_of_not_isDigC rfl
  have h1 : Spec.SRT.timing (itoaNat (k + 1)) = none := timing_no_dash _ hdash
  have h2 : Go.contains "-->".toList (itoaNat (k + 1)) = false := contains_of_head_not_mem _ hdash
  have h3 : Spec.SRT.timing (timingStr it) = _ := SRTTiming.timing_timingLine it.startAt it.endAt F.start0 F.startLt F.end0 F.endLt
  have h4 : (it.lines.map lineStr).isEmpty = false := by
    cases hi : it.lines with
    | nil => exact absurd hi hl
    | cons a b => rfl
  have h5 : (it.lines.map lineStr).any (Go.contains "-->".toList) = false := by
    rw [List.any_eq_false]
    intro x hx
    obtain ⟨ln, hln, rfl⟩ := List.mem_map.mp hx
    have := lineStr_no_arrow ln (repItem_lines h ln hln)
    simpa [arrow] using this
  have h6 := cueLines_lines it.lines (repItem_lines h)
  unfold Spec.SRT.decodeBlock blockLines
  simp only [h1, h2, h3, h4, h5, h6, Bool.false_eq_true, ↓reduceIte, Option.map_some, Bool.or_self]
  rfl

theorem mapM_blockList (k : Nat) (items : List CItem) (h : ∀ it ∈ items, RepItem it = true)
    (hl : ∀ it ∈ items, it.lines ≠ []) :
    Spec.SRT.mapM Spec.SRT.decodeBlock (blockList k items) = some (items.map viewItem) := by
  induction items generalizing k with
  | nil => rfl
  | cons it rest ih =>
    simp only [blockList, Spec.SRT.mapM, decodeBlock_blockLines k it (h it (by simp)) (hl it (by simp)),
      ih (k + 1) (fun x hx => h x (by simp [hx])) (fun x hx => hl x (by simp [hx])), List.map_cons]

open List in
/-- the independent decoder accepts what the writer produces for a representable cue list
    (every cue with at least one text line), and denotes the same cues: it drops the mark, `splitLines` gives the
    written lines back, `blocks` the cue blocks -/
theorem decode_write (s : Subs) (h : Rep s = true) (hl : ∀ it ∈ s.items, it.lines ≠ []) (doc : Str)
    (hw : SRT.write s = some doc) : Spec.SRT.decode doc = some (specView s) := by
  have hit := rep_repItem h
  obtain ⟨it0, rest, hi⟩ := exists_cons_of_ne_nil (rep_iff.mp h).ne
  have hw' := write_eq_unlines it0 rest s.regions s.styles s.metadata
  rw [← hi, hw, Option.some.injEq] at hw'
  have hW := wline_blockList (fun it hm => hit it (hi ▸ hm)) 0
  have hdoc : doc = Char.ofNat 0xFEFF :: lfLines (blockLines 0 it0 ++ segLines (blockList 1 rest)) := by
    rw [hw']
    simp [docLinesPad, linesSep_eq_seg, unlines_lf, lfLines_cons, blockLines, bom]
  unfold Spec.SRT.decode
  rw [hdoc]
  simp only [↓reduceIte]
  have hne : ∀ b ∈ blockList 0 (it0 :: rest), b ≠ [] := forall_blockList fun it _ j => by simp [blockLines]
  rw [splitLines_lfLines, Spec.SRT.blocks_head_segLines (b := blockLines 0 it0) (bs := blockList 1 rest) hne
    fun b hb l hl => (hW b hb l hl).bline]
  · rw [← blockList, specView, hi]
    exact mapM_blockList 0 _ (fun it hm => hit it (hi ▸ hm)) fun it hm => hl it (hi ▸ hm)
  · intro l hl
    rcases mem_append.mp hl with hl | hl
    · exact (hW _ mem_cons_self l hl).one
    · exact forall_segLines (P := OneLine) .nil (fun b hb l hl => (hW b (mem_cons_of_mem _ hb) l hl).one) l hl

theorem drvRun_normRun (li : LItem) : drvRun (normRun li) = viewRun li := by
  unfold drvRun normRun viewRun
  simp only [kvGet_runAttrs_bold, kvGet_runAttrs_italics, kvGet_runAttrs_underline, kvGet_runAttrs_color,
    optBool_isSome]

theorem drvItem_normItem (k : Nat) (it : CItem) (h0 : 0 ≤ it.startAt) (h1 : 0 ≤ it.endAt) :
    drvItem (normItem k it) = some (viewItem it) := by
  rw [SRTRead2.drvItem_of (normItem k it) (it.startAt / 1000000).toNat (it.endAt / 1000000).toNat
    (by simp only [normItem, truncMs]; omega) (by simp only [normItem, truncMs]; omega)]
  simp only [viewItem, SRTRead2.linesView, normItem, normLine, List.map_map, Function.comp_def, drvRun_normRun]

theorem mapM_normItems (k : Nat) (items : List CItem) (h : ∀ it ∈ items, RepItem it = true) :
    Spec.SRT.mapM drvItem (normItems k items) = some (items.map viewItem) := by
  induction items generalizing k with
  | nil => rfl
  | cons it rest ih =>
    have F := repItem_iff.mp (h it (by simp))
    simp only [normItems, Spec.SRT.mapM, drvItem_normItem k it F.start0 F.end0,
      ih (k + 1) (fun x hx => h x (by simp [hx])), List.map_cons]

theorem srtView_norm (s : Subs) (h : Rep s = true) : Driver.srtView (norm s) = some (specView s) := by
  rw [srtView_eq]
  exact mapM_normItems 0 s.items (rep_repItem h)

end SRTDoc
end Astisub
