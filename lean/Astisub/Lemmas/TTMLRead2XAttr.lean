import Astisub.Lemmas.TTMLRead2Defs
import Astisub.Lemmas.TTMLDocAttrs
import Astisub.Lemmas.EvalLit
import Astisub.Lemmas.Digits
import Astisub.Lemmas.KV

/-!
# Lemmas/TTMLRead2XAttr — the attributes of one start tag: decoder (`Spec.TTML.attr?`, `ref?`, `styling`, `natAttr`)
against the `encoding/xml` contract (`lastAttr`, `allAttr`, `intAttr`, `inAttrs`) and the model (`itemOfStart`)

`TTMLW2.vals a name`, the values the decoder sees under a name, stands first: `attr?` is a function of it (`attr_eq`), and
on the class it is the contract's `allAttr a name` (`allAttr_eq`), so both sides speak of one list that is empty, a
singleton or ambiguous (`attr_cases`, the form the later proofs take it in).  `styling` is a fold over the styling names that either collects what each name contributes (`rowD`) or rejects the
element: `styling_fold` says so as one equation, which both the reader's and the writer's side use.
-/

namespace Astisub

namespace TTMLW2
open Go TTML List
open Spec.TTML (isDecl attr?)

abbrev XAttr := Str × Str × Str

/-- the values of the attributes with this local name that are no name-space declarations -/
def vals (A : List XAttr) (name : String) : List Str :=
  (A.filter fun a => !isDecl a && a.2.1 = name.toList).map (·.2.2)

theorem attr_eq (A : List XAttr) (name : String) :
    attr? A name = match vals A name with | [] => none | [v] => some (some v) | _ => some none := by
  unfold attr? vals
  generalize (A.filter fun a => !isDecl a && a.2.1 = name.toList) = l
  match l with
  | [] => rfl
  | [_] => rfl
  | _ :: _ :: _ => rfl

end TTMLW2

namespace TTMLR
open Go TTML

/-- the decoded fields `kv` (keyed by field name) as the decoder lists styling attributes: by attribute name, in table order -/
def viewKV (kv : KV) : Spec.TTML.AttrL :=
  attrTable.filterMap (fun p => (TTML.get kv p.1).map fun v => (p.2.toList, v))

theorem lastAttr_getLast (a : List XAttr) (name : String) :
    lastAttr a name = ((allAttr a name).getLast?).getD [] :=
  List.foldl_ite_getLast (fun x : XAttr => x.2.1 = name.toList) (·.2.2) a []

theorem notDecl_of_fits {x : XAttr} {nm : Str} (hm : nm ∈ matchedNames) (hf : attrFits x = true)
    (hx : x.2.1 = nm) : Spec.TTML.isDecl x = false := by
  cases hd : Spec.TTML.isDecl x with
  | false => rfl
  | true =>
    unfold attrFits at hf
    rw [hd] at hf
    simp only [↓reduceIte, Bool.not_eq_true', List.contains_eq_mem, decide_eq_false_iff_not] at hf
    exact absurd (hx ▸ hm) hf

theorem matched_of_mem {n : String}
    (h : n ∈ ["style", "region", "begin", "end", "id", "frameRate", "tickRate", "lang"]) : n.toList ∈ matchedNames :=
  List.mem_append_right _ (List.mem_map_of_mem (f := String.toList) h)

theorem stylingNames_eq : Spec.TTML.stylingNames = attrTable.map (·.2) := by rfl

theorem row_matched {p : String × String} (hp : p ∈ attrTable) : p.2.toList ∈ matchedNames := by
  unfold matchedNames
  rw [stylingNames_eq]
  apply List.mem_append_left
  rw [List.map_map]
  exact List.mem_map_of_mem (f := String.toList ∘ fun p : String × String => p.2) hp

theorem zrow_mem : (("ZIndex", "zIndex") : String × String) ∈ attrTable := by decide +kernel

theorem zIndex_matched : "zIndex".toList ∈ matchedNames := row_matched (p := ("ZIndex", "zIndex")) zrow_mem

theorem attrFits_plain {x : XAttr} (hd : Spec.TTML.isDecl x = false) (hf : attrFits x = true) :
    (x.2.1 = "zIndex".toList → zFits x.2.2 = true) ∧
    (x.2.1 = "begin".toList ∨ x.2.1 = "end".toList → timeFits x.2.2 = true) ∧
    (x.2.1 = "frameRate".toList ∨ x.2.1 = "tickRate".toList → rateFits x.2.2 = true) := by
  unfold attrFits at hf
  rw [hd] at hf
  refine ⟨fun h => ?_, fun h => ?_, fun h => ?_⟩
  · simpa [h] using hf
  · rcases h with h | h <;> simpa [h] using hf
  · rcases h with h | h <;> simpa [h] using hf

theorem allAttr_eq (a : List XAttr) (name : String) (hm : name.toList ∈ matchedNames) (hfit : a.all attrFits = true) :
    allAttr a name = TTMLW2.vals a name := by
  unfold allAttr TTMLW2.vals
  congr 1
  apply List.filter_congr
  intro x hx
  by_cases h : x.2.1 = name.toList
  · rw [notDecl_of_fits hm (List.all_eq_true.mp hfit x hx) h]; rfl
  · simp [h]

theorem attr_unique (a : List XAttr) (name : String) (hm : name.toList ∈ matchedNames) (hfit : a.all attrFits = true) :
    (Spec.TTML.attr? a name = none → allAttr a name = [] ∧ lastAttr a name = []) ∧
    (∀ v, Spec.TTML.attr? a name = some (some v) → allAttr a name = [v] ∧ lastAttr a name = v) := by
  rw [lastAttr_getLast, allAttr_eq a name hm hfit, TTMLW2.attr_eq]
  match TTMLW2.vals a name with
  | [] => exact ⟨fun _ => ⟨rfl, rfl⟩, fun _ h => nomatch h⟩
  | [x] => exact ⟨(fun h => nomatch h), fun v h => by cases h; exact ⟨rfl, rfl⟩⟩
  | _ :: _ :: _ => exact ⟨(fun h => nomatch h), fun _ h => nomatch h⟩

theorem attr_witness (a : List XAttr) (name : String) (v : Str) (h : Spec.TTML.attr? a name = some (some v)) :
    ∃ x ∈ a, Spec.TTML.isDecl x = false ∧ x.2.1 = name.toList ∧ x.2.2 = v := by
  rw [TTMLW2.attr_eq] at h
  have hv : v ∈ TTMLW2.vals a name := by
    match TTMLW2.vals a name, h with
    | [w], h => cases h; exact List.mem_singleton.mpr rfl
  obtain ⟨x, hx, e⟩ := List.mem_map.mp hv
  rw [List.mem_filter] at hx
  simp only [Bool.and_eq_true, Bool.not_eq_true', decide_eq_true_eq] at hx
  exact ⟨x, hx.1, hx.2.1, hx.2.2, e⟩

theorem attr_fits (a : List XAttr) (name : String) (v : Str) (hfit : a.all attrFits = true)
    (h : Spec.TTML.attr? a name = some (some v)) :
    (name = "zIndex" → zFits v = true) ∧ (name = "begin" ∨ name = "end" → timeFits v = true) ∧
    (name = "frameRate" ∨ name = "tickRate" → rateFits v = true) := by
  obtain ⟨x, hx, hd, hl, rfl⟩ := attr_witness a name v h
  obtain ⟨h1, h2, h3⟩ := attrFits_plain hd (List.all_eq_true.mp hfit x hx)
  exact ⟨fun e => h1 (by rw [hl, e]), fun e => h2 (e.imp (fun e => by rw [hl, e]) (fun e => by rw [hl, e])),
    fun e => h3 (e.imp (fun e => by rw [hl, e]) (fun e => by rw [hl, e]))⟩

/-- what stands under a matched name in an attribute list of the class, for the decoder and for the contract at once:
    nothing, one value (within the class's bounds), or several (the decoder then rejects the element) -/
inductive AttrCase (a : List XAttr) (name : String) : Prop where
  | absent (ha : Spec.TTML.attr? a name = none) (hall : allAttr a name = []) (hlast : lastAttr a name = [])
  | one (v : Str) (ha : Spec.TTML.attr? a name = some (some v)) (hall : allAttr a name = [v]) (hlast : lastAttr a name = v)
      (hz : name = "zIndex" → zFits v = true) (ht : name = "begin" ∨ name = "end" → timeFits v = true)
      (hr : name = "frameRate" ∨ name = "tickRate" → rateFits v = true)
  | several (ha : Spec.TTML.attr? a name = some none)

theorem attr_cases (a : List XAttr) (name : String) (hm : name.toList ∈ matchedNames) (hfit : a.all attrFits = true) :
    AttrCase a name := by
  have hu := attr_unique a name hm hfit
  cases ha : Spec.TTML.attr? a name with
  | none => exact .absent ha (hu.1 ha).1 (hu.1 ha).2
  | some o =>
    cases o with
    | none => exact .several ha
    | some v =>
      obtain ⟨hz, ht, hr⟩ := attr_fits a name v hfit ha
      exact .one v ha (hu.2 v ha).1 (hu.2 v ha).2 hz ht hr

theorem ref_lastAttr (a : List XAttr) (name : String) (r : Option Str) (hm : name.toList ∈ matchedNames)
    (hfit : a.all attrFits = true) (h : Spec.TTML.ref? a name = some r) :
    lastAttr a name = r.getD [] ∧ (∀ v, r = some v → v ≠ []) := by
  unfold Spec.TTML.ref? at h
  cases attr_cases a name hm hfit with
  | absent ha _ hlast => rw [ha] at h; cases h; exact ⟨hlast, fun _ hv => nomatch hv⟩
  | several ha => rw [ha] at h; cases h
  | one w ha _ hlast =>
    rw [ha] at h
    obtain ⟨hw, h⟩ := Option.ite_none_left_eq_some.mp h
    cases h
    exact ⟨hlast, fun v hv => by cases hv; exact fun e => hw (by rw [e]; rfl)⟩

theorem int64Max_eq : TTMLR.int64Max = Go.int64Max := rfl

theorem trimS_eq (v : Str) : Spec.TTML.trimS v = trimSpace v := rfl

theorem itoa_showInt (z : Int) : itoa z = Spec.TTML.showInt z := by
  unfold Spec.TTML.showInt itoa
  cases z with
  | ofNat m =>
    have : ¬ (Int.ofNat m < 0) := by simp
    rw [if_neg this]
    show itoaNat m = (Nat.repr m).toList
    rw [← Go.itoaNat_repr, String.toList_ofList]
  | negSucc m =>
    have : Int.negSucc m < 0 := Int.negSucc_lt_zero m
    rw [if_pos this]
    show '-' :: itoaNat (m + 1) = ("-" ++ Nat.repr (m + 1)).toList
    rw [String.toList_append, ← Go.itoaNat_repr, String.toList_ofList, String.toList_ofList]
    rfl

theorem int_nonempty (v : Str) (z : Int) (h : Spec.TTML.int? (Spec.TTML.trimS v) = some z) : v ≠ [] := by
  intro e; subst e
  have : Spec.TTML.int? (Spec.TTML.trimS []) = none := by decide
  rw [this] at h; simp at h

theorem zIndex_value (v : Str) (z : Int) (h : Spec.TTML.int? (Spec.TTML.trimS v) = some z) (hf : zFits v = true) :
    parseIntAttr v = some z ∧ itoa z = Spec.TTML.showInt z := by
  refine ⟨?_, itoa_showInt z⟩
  have hne := int_nonempty v z h
  unfold parseIntAttr
  rw [if_neg (by cases v with | nil => exact absurd rfl hne | cons _ _ => simp), ← trimS_eq]
  unfold zFits at hf
  rw [h] at hf
  simp only [Bool.and_eq_true, decide_eq_true_eq] at hf
  exact Spec.SSA.atoi_of_intOf h (int64Max_eq ▸ hf)

theorem itemOfStart_name (name : Str) (a : List XAttr) (it₀ it : InItem) (h : itemOfStart name a it₀ = some it) :
    it.name = name := by
  induction a generalizing it₀ with
  | nil =>
    simp only [itemOfStart, Option.some.injEq] at h
    subst h; rfl
  | cons x a ih =>
    obtain ⟨sp, loc, v⟩ := x
    rw [itemOfStart] at h
    split at h
    · exact ih _ h
    · split at h
      · split at h
        · split at h
          · exact ih _ h
          · simp at h
        · exact ih _ h
      · exact ih _ h

theorem itemOfStart_erase (name : Str) (a : List XAttr) (it₀ : InItem) :
    itemOfStart name (a.map eraseA) it₀ = itemOfStart name a it₀ := by
  induction a generalizing it₀ with
  | nil => rfl
  | cons x a ih =>
    obtain ⟨sp, loc, v⟩ := x
    simp only [List.map_cons, eraseA, itemOfStart, ih]

theorem natAttr_intAttr (a : List XAttr) (name : String) (n : Nat) (hm : name = "frameRate" ∨ name = "tickRate")
    (hfit : a.all attrFits = true) (h : Spec.TTML.natAttr a name = some n) :
    intAttr a name = some (n : Int) ∧ n ≤ int64Max := by
  unfold Spec.TTML.natAttr at h
  unfold intAttr
  cases attr_cases a name (matched_of_mem (by rcases hm with rfl | rfl <;> simp)) hfit with
  | absent ha hall _ => rw [ha] at h; cases h; rw [hall]; exact ⟨rfl, Nat.zero_le _⟩
  | several ha => rw [ha] at h; cases h
  | one v ha hall _ _ _ hr =>
    rw [ha] at h
    simp only at h
    rw [hall]
    have hr := hr hm
    unfold rateFits at hr
    rw [h] at hr
    simp only [decide_eq_true_eq] at hr
    refine ⟨?_, hr⟩
    have hne : v ≠ [] := by
      intro e; subst e
      have : Spec.TTML.num? (Spec.TTML.trimS []) = none := by decide
      rw [this] at h; simp at h
    simp only [List.foldl_cons, List.foldl_nil, Option.bind_some]
    unfold parseIntAttr
    rw [if_neg (by cases v with | nil => exact absurd rfl hne | cons _ _ => simp), ← trimS_eq]
    exact (Spec.SRT.natOf_iff_numeral.mp (Spec.TTML.num?_eq ▸ h)).atoi hr

theorem row_inj {p q : String × String} (hp : p ∈ attrTable) (hq : q ∈ attrTable) (e : p.2.toList = q.2.toList) : p = q :=
  List.eq_of_nodup_map (f := fun q : String × String => q.2.toList)
    TTMLDoc.rows_nodup hp hq e

theorem field_inj {p q : String × String} (hp : p ∈ attrTable) (hq : q ∈ attrTable) (e : p.1.toList = q.1.toList) : p = q :=
  List.eq_of_nodup_map (f := fun q : String × String => q.1.toList) TTMLDoc.fields_nodup hp hq e

theorem lookup_kvSet (kv : KV) (k k' v : Str) :
    (kvSet kv k v).lookup k' = if k' = k then some v else kv.lookup k' := by
  unfold kvSet
  rw [List.lookup_append, List.lookup_filter_keys kv (· != k) k']
  by_cases hk : k' = k <;> simp [hk, List.lookup, beq_eq_false_iff_ne.mpr]

/-- the value stored in the field of row `p` for the attribute value `v` -/
def rowVal (p : String × String) (v : Str) : Str := if p.1 = "ZIndex" then itoa ((parseIntAttr v).getD 0) else v

theorem fieldVal_eq (a : List XAttr) (p : String × String) :
    fieldVal a p = ((allAttr a p.2).getLast?).map fun v => (p.1.toList, rowVal p v) := rfl

theorem allAttr_cons_pos (x : XAttr) (a : List XAttr) (name : String) (h : x.2.1 = name.toList) :
    allAttr (x :: a) name = x.2.2 :: allAttr a name := by
  unfold allAttr
  rw [List.filter_cons_of_pos (by simpa using h), List.map_cons]

theorem allAttr_cons_neg (x : XAttr) (a : List XAttr) (name : String) (h : x.2.1 ≠ name.toList) :
    allAttr (x :: a) name = allAttr a name := by
  unfold allAttr
  rw [List.filter_cons_of_neg (by simpa using h)]

theorem zOk_cons_neg (x : XAttr) (a : List XAttr) (h : x.2.1 ≠ "zIndex".toList) : zOk (x :: a) = zOk a := by
  unfold zOk; rw [allAttr_cons_neg x a _ h]

theorem zOk_cons_pos (x : XAttr) (a : List XAttr) (h : x.2.1 = "zIndex".toList) :
    zOk (x :: a) = ((parseIntAttr x.2.2).isSome && zOk a) := by
  unfold zOk; rw [allAttr_cons_pos x a _ h, List.all_cons]

theorem itemOfStart_rowStep (name sp loc v : Str) (rest : List XAttr) (it : InItem) (f n : String)
    (hs : loc ≠ "style".toList) (hfind : attrTable.find? (fun p => p.2.toList = loc) = some (f, n))
    (hz : f = "ZIndex" → (parseIntAttr v).isSome = true) :
    itemOfStart name ((sp, loc, v) :: rest) it
      = itemOfStart name rest { it with attrs := kvSet it.attrs f.toList (rowVal (f, n) v) } := by
  rw [itemOfStart]
  simp only [hs, ↓reduceIte, hfind]
  unfold rowVal
  by_cases hf : f = "ZIndex"
  · have := hz hf
    cases hp : parseIntAttr v with
    | none => rw [hp] at this; simp at this
    | some z => simp only [hf, ↓reduceIte, Option.getD_some]
  · simp only [hf, ↓reduceIte]

/-- one attribute on the `style` field: the last `style` attribute stays -/
def styleStep (acc : Str) (x : XAttr) : Str := if x.2.1 = "style".toList then x.2.2 else acc

/-- **`itemOfStart` on any attribute list whose `zIndex` values are integers**, from any item `it₀`: it succeeds; name and
    text are `name` and `it₀`'s; the style reference is the last `style` attribute (or `it₀`'s); and the field of every table
    row is the last value of its attribute (as `rowVal` stores it), or `it₀`'s when there is none.  Only look-ups are
    stated: `itemOfStart` keeps the fields in order of arrival, the contract's `inAttrs` in struct order. -/
theorem itemOfStart_gen (name : Str) (a : List XAttr) : ∀ (it₀ : InItem), zOk a = true →
    ∃ it, itemOfStart name a it₀ = some it ∧ it.name = name ∧ it.text = it₀.text ∧
      it.style = a.foldl styleStep it₀.style ∧
      ∀ p ∈ attrTable, TTML.get it.attrs p.1
        = (((allAttr a p.2).getLast?).map (rowVal p)).or (TTML.get it₀.attrs p.1) := by
  induction a with
  | nil =>
    intro it₀ _
    exact ⟨{ it₀ with name := name }, rfl, rfl, rfl, rfl, fun p _ => rfl⟩
  | cons x a ih =>
    intro it₀ hz
    obtain ⟨sp, loc, v⟩ := x
    by_cases hs : loc = "style".toList
    · have hnz : loc ≠ "zIndex".toList := by rw [hs]; decide
      rw [zOk_cons_neg _ _ hnz] at hz
      obtain ⟨it, h1, h2, h3, h4, h5⟩ := ih { it₀ with style := v } hz
      refine ⟨it, ?_, h2, h3, ?_, fun p hp => ?_⟩
      · rw [itemOfStart, if_pos hs]; exact h1
      · rw [h4, List.foldl_cons]; simp only [styleStep, hs, ↓reduceIte]
      · have hne : loc ≠ p.2.toList := by rw [hs]; exact fun e => TTMLDoc.row_not_style p hp e.symm
        rw [h5 p hp, allAttr_cons_neg _ _ _ hne]
    · cases hfind : attrTable.find? (fun p => p.2.toList = loc) with
      | none =>
        have hall : ∀ p ∈ attrTable, loc ≠ p.2.toList := by
          intro p hp e
          have := List.find?_eq_none.mp hfind p hp
          simp [e] at this
        rw [zOk_cons_neg _ _ (hall _ zrow_mem)] at hz
        obtain ⟨it, h1, h2, h3, h4, h5⟩ := ih it₀ hz
        refine ⟨it, ?_, h2, h3, ?_, fun p hp => ?_⟩
        · rw [TTMLDoc.itemOfStart_skip _ _ _ _ _ _ hs hfind]; exact h1
        · rw [h4, List.foldl_cons]; simp only [styleStep, hs, ↓reduceIte]
        · rw [h5 p hp, allAttr_cons_neg _ _ _ (hall p hp)]
      | some q =>
        obtain ⟨f, n⟩ := q
        have hq : (f, n) ∈ attrTable := List.mem_of_find?_eq_some hfind
        have hloc : n.toList = loc := by simpa using List.find?_some hfind
        have hzz : zOk a = true ∧ (f = "ZIndex" → (parseIntAttr v).isSome = true) := by
          by_cases hlz : loc = "zIndex".toList
          · rw [zOk_cons_pos _ _ hlz, Bool.and_eq_true] at hz
            exact ⟨hz.2, fun _ => hz.1⟩
          · rw [zOk_cons_neg _ _ hlz] at hz
            refine ⟨hz, fun hf => absurd ?_ hlz⟩
            have : (f, n) = ("ZIndex", "zIndex") := field_inj hq zrow_mem (by rw [hf])
            rw [← hloc, (Prod.mk.inj this).2]
        obtain ⟨it, h1, h2, h3, h4, h5⟩ := ih { it₀ with attrs := kvSet it₀.attrs f.toList (rowVal (f, n) v) } hzz.1
        refine ⟨it, ?_, h2, h3, ?_, fun p hp => ?_⟩
        · rw [itemOfStart_rowStep name sp loc v a it₀ f n hs hfind hzz.2]; exact h1
        · rw [h4, List.foldl_cons]; simp only [styleStep, hs, ↓reduceIte]
        · rw [h5 p hp]
          by_cases hpq : p = (f, n)
          · subst hpq
            rw [allAttr_cons_pos _ _ _ hloc.symm, List.getLast?_cons]
            simp only [TTML.get, lookup_kvSet, if_pos]
            cases (allAttr a n).getLast? <;> rfl
          · have hne : loc ≠ p.2.toList := by
              rw [← hloc]; exact fun e => hpq (row_inj hp hq e.symm)
            have hne2 : p.1.toList ≠ f.toList := fun e => hpq (field_inj hp hq e)
            rw [allAttr_cons_neg _ _ _ hne]
            simp only [TTML.get, lookup_kvSet, if_neg hne2]

theorem get_inAttrs (a : List XAttr) {p : String × String} (hp : p ∈ attrTable) :
    TTML.get (attrTable.filterMap (fieldVal a)) p.1 = ((allAttr a p.2).getLast?).map (rowVal p) := by
  refine (List.lookup_filterMap_row (fun q : String × String => q.1.toList) _ attrTable
    (fun q _ e he => by rw [fieldVal_eq] at he; obtain ⟨v, -, rfl⟩ := Option.map_eq_some_iff.mp he; rfl)
    TTMLDoc.fields_nodup hp).trans ?_
  rw [fieldVal_eq]
  cases (allAttr a p.2).getLast? <;> rfl

theorem lastAttr_style (a : List XAttr) : lastAttr a "style" = a.foldl styleStep [] := rfl

theorem itemOfStart_get (name : Str) (a : List XAttr) (kv : KV) (h : inAttrs a = some kv) :
    ∃ it, itemOfStart name a {} = some it ∧ it.name = name ∧ it.text = [] ∧ it.style = lastAttr a "style" ∧
      ∀ p ∈ attrTable, TTML.get it.attrs p.1 = TTML.get kv p.1 := by
  unfold inAttrs at h
  by_cases hz : zOk a = true
  · rw [if_pos hz] at h
    simp only [Option.some.injEq] at h
    subst h
    obtain ⟨it, h1, h2, h3, h4, h5⟩ := itemOfStart_gen name a {} hz
    refine ⟨it, h1, h2, h3, h4, fun p hp => ?_⟩
    rw [h5 p hp, get_inAttrs a hp]
    cases ((allAttr a p.2).getLast?).map (rowVal p) <;> rfl
  · rw [if_neg hz] at h; simp at h

theorem mem_allAttr {a : List XAttr} {name : String} {v : Str} (h : v ∈ allAttr a name) :
    ∃ x ∈ a, x.2.1 = name.toList ∧ x.2.2 = v := by
  unfold allAttr at h
  obtain ⟨x, hx, hv⟩ := List.mem_map.mp h
  rw [List.mem_filter] at hx
  exact ⟨x, hx.1, by simpa using hx.2, hv⟩

theorem zOk_of_br (a : List XAttr) (hfit : a.all attrFits = true) (hb : brFits a = true) : zOk a = true := by
  unfold zOk
  rw [List.all_eq_true]
  intro v hv
  obtain ⟨x, hxa, hx, hxv⟩ := mem_allAttr hv
  have hfx := List.all_eq_true.mp hfit x hxa
  have hf := (attrFits_plain (notDecl_of_fits zIndex_matched hfx hx) hfx).1 hx
  have hi := List.all_eq_true.mp hb x hxa
  simp only [hx, bne_self_eq_false, Bool.false_or] at hi
  cases hz : Spec.TTML.int? (Spec.TTML.trimS x.2.2) with
  | none => rw [hz] at hi; simp at hi
  | some z =>
    rw [← hxv, (zIndex_value x.2.2 z hz hf).1]
    rfl

theorem itemOfStart_br (a : List XAttr) (hfit : a.all attrFits = true) (hb : brFits a = true) :
    ∃ it, itemOfStart "br".toList a {} = some it := by
  have hz := zOk_of_br a hfit hb
  obtain ⟨it, h, _⟩ := itemOfStart_get "br".toList a _ (by unfold inAttrs; rw [if_pos hz])
  exact ⟨it, h⟩

/-- what one styling name contributes: `none` = the element is rejected, `some none` = nothing -/
def rowD (a : List XAttr) (n : String) : Option (Option (Str × Str)) :=
  match Spec.TTML.attr? a n with
  | none => some none
  | some none => none
  | some (some v) =>
    if n = "zIndex" then (Spec.TTML.int? (Spec.TTML.trimS v)).map fun z => some (n.toList, Spec.TTML.showInt z)
    else some (some (n.toList, v))

/-- the step function of the fold that `Spec.TTML.styling` is (`styling_eq`) -/
def stylingStep (a : List XAttr) (n : String) (acc : Option Spec.TTML.AttrL) : Option Spec.TTML.AttrL :=
  match acc, Spec.TTML.attr? a n with
  | none, _ => none
  | some l, none => some l
  | some _, some none => none
  | some l, some (some v) =>
    if n = "zIndex" then (Spec.TTML.int? (Spec.TTML.trimS v)).map fun z => (n.toList, Spec.TTML.showInt z) :: l
    else some ((n.toList, v) :: l)

theorem styling_eq (a : List XAttr) : Spec.TTML.styling a = Spec.TTML.stylingNames.foldr (stylingStep a) (some []) := rfl

theorem stylingStep_rowD (A : List XAttr) (n : String) (l : Spec.TTML.AttrL) :
    stylingStep A n (some l) = (rowD A n).map fun o => o.toList ++ l := by
  unfold stylingStep rowD
  cases Spec.TTML.attr? A n with
  | none => rfl
  | some o =>
    cases o with
    | none => rfl
    | some v =>
      simp only
      by_cases hn : n = "zIndex"
      · simp only [hn, if_true]
        cases Spec.TTML.int? (Spec.TTML.trimS v) <;> rfl
      · simp only [hn, if_false]
        rfl

theorem styling_fold (A : List XAttr) (ns : List String) :
    ns.foldr (stylingStep A) (some []) =
      if ∀ n ∈ ns, (rowD A n).isSome = true then some (ns.filterMap fun n => (rowD A n).join) else none := by
  induction ns with
  | nil => rfl
  | cons n ns ih =>
    rw [List.foldr_cons, ih]
    simp only [List.forall_mem_cons]
    by_cases hall : ∀ m ∈ ns, (rowD A m).isSome = true
    · rw [if_pos hall, stylingStep_rowD, List.filterMap_cons]
      cases rowD A n with
      | none => simp only [Option.isSome_none, Bool.false_eq_true, false_and, if_false, Option.map_none]
      | some o => simp only [Option.isSome_some, true_and, if_pos hall, Option.map_some]; cases o <;> rfl
    · rw [if_neg hall, if_neg fun h => hall h.2]
      rfl

theorem styling_rows (a : List XAttr) (ns : List String) (sa : Spec.TTML.AttrL)
    (h : ns.foldr (stylingStep a) (some []) = some sa) :
    (∀ n ∈ ns, (rowD a n).isSome = true) ∧ sa = ns.filterMap fun n => (rowD a n).join := by
  rw [styling_fold] at h
  split at h
  · exact ⟨‹_›, (Option.some.inj h).symm⟩
  · cases h

theorem zrow_iff : ∀ p ∈ attrTable, (p.2 = "zIndex") ↔ (p.1 = "ZIndex") := fun _ hp =>
  ⟨fun h => congrArg Prod.fst (row_inj hp zrow_mem (congrArg String.toList h)),
   fun h => congrArg Prod.snd (field_inj hp zrow_mem (congrArg String.toList h))⟩

theorem rowD_fieldVal (a : List XAttr) (hfit : a.all attrFits = true) {p : String × String} (hp : p ∈ attrTable)
    (h : (rowD a p.2).isSome = true) :
    (rowD a p.2).join = (fieldVal a p).map fun q => (p.2.toList, q.2) := by
  unfold rowD at h ⊢
  rw [fieldVal_eq]
  cases attr_cases a p.2 (row_matched hp) hfit with
  | absent ha hall _ => rw [ha, hall]; rfl
  | several ha => rw [ha] at h; cases h
  | one v ha hall _ hfz =>
    rw [ha] at h ⊢
    rw [hall]
    simp only [List.getLast?_singleton, Option.map_some] at h ⊢
    unfold rowVal
    by_cases hn : p.2 = "zIndex"
    · have hf : p.1 = "ZIndex" := (zrow_iff p hp).mp hn
      rw [if_pos hn] at h ⊢
      rw [if_pos hf]
      cases hz : Spec.TTML.int? (Spec.TTML.trimS v) with
      | none => rw [hz] at h; simp at h
      | some z =>
        obtain ⟨e1, e2⟩ := zIndex_value v z hz (hfz hn)
        rw [e1, Option.getD_some, e2]
        rfl
    · have hf : ¬ p.1 = "ZIndex" := fun e => hn ((zrow_iff p hp).mpr e)
      rw [if_neg hn, if_neg hf]
      rfl

theorem zOk_of_styling (a : List XAttr) (hfit : a.all attrFits = true) (h : (rowD a "zIndex").isSome = true) :
    zOk a = true := by
  unfold zOk
  unfold rowD at h
  cases attr_cases a "zIndex" zIndex_matched hfit with
  | absent _ hall _ => rw [hall]; rfl
  | several ha => rw [ha] at h; cases h
  | one v ha hall _ hfz =>
    rw [ha] at h
    rw [hall]
    simp only [↓reduceIte] at h
    cases hz : Spec.TTML.int? (Spec.TTML.trimS v) with
    | none => rw [hz] at h; simp at h
    | some z => simp [(zIndex_value v z hz (hfz rfl)).1]

theorem viewKV_inAttrs (a : List XAttr) :
    viewKV (attrTable.filterMap (fieldVal a)) = attrTable.filterMap fun p => (fieldVal a p).map fun q => (p.2.toList, q.2) := by
  unfold viewKV
  apply List.filterMap_congr_mem
  intro p hp
  rw [get_inAttrs a hp, fieldVal_eq]
  cases (allAttr a p.2).getLast? <;> rfl

theorem styling_inAttrs (a : List XAttr) (sa : Spec.TTML.AttrL) (hfit : a.all attrFits = true)
    (h : Spec.TTML.styling a = some sa) : ∃ kv, inAttrs a = some kv ∧ viewKV kv = sa := by
  rw [styling_eq] at h
  obtain ⟨hall, hsa⟩ := styling_rows a _ sa h
  have hzr : (rowD a "zIndex").isSome = true := hall "zIndex" (by decide)
  refine ⟨_, by unfold inAttrs; rw [if_pos (zOk_of_styling a hfit hzr)], ?_⟩
  rw [viewKV_inAttrs, hsa, stylingNames_eq, List.filterMap_map]
  apply List.filterMap_congr_mem
  intro p hp
  have := hall p.2 (by rw [stylingNames_eq]; exact List.mem_map_of_mem (f := fun p : String × String => p.2) hp)
  exact (rowD_fieldVal a hfit hp this).symm

def exAttrs : List XAttr :=
  [("xmlns".toList, "tts".toList, "http://www.w3.org/ns/ttml#styling".toList),
   ([], "style".toList, "s1".toList),
   ("http://www.w3.org/ns/ttml#styling".toList, "color".toList, "red".toList),
   ("http://www.w3.org/ns/ttml#styling".toList, "zIndex".toList, " -3 ".toList)]

example : exAttrs.all attrFits = true := by unfold exAttrs; decide_vector
example : Spec.TTML.ref? exAttrs "style" = some (some "s1".toList) := by unfold exAttrs; decide_vector
example : Spec.TTML.styling exAttrs = some [("color".toList, "red".toList), ("zIndex".toList, "-3".toList)] := by unfold exAttrs; decide_vector
example : inAttrs exAttrs = some [("Color".toList, "red".toList), ("ZIndex".toList, "-3".toList)] := by unfold exAttrs; decide_vector
example : viewKV [("Color".toList, "red".toList), ("ZIndex".toList, "-3".toList)]
    = [("color".toList, "red".toList), ("zIndex".toList, "-3".toList)] := by decide_vector
example : (itemOfStart "span".toList exAttrs {}).map (fun it => (it.name, it.style, it.attrs))
    = some ("span".toList, "s1".toList, [("Color".toList, "red".toList), ("ZIndex".toList, "-3".toList)]) := by unfold exAttrs; decide_vector

/-- the finding `ttml-xmlns-prefix-read-as-styling-attribute` is real: a declaration `xmlns:color="red"` is no
    styling attribute for the decoder, but `encoding/xml` stores it in the field `Color`; `attrFits` excludes it -/
example : Spec.TTML.styling [("xmlns".toList, "color".toList, "red".toList)] = some [] := by decide_vector
example : inAttrs [("xmlns".toList, "color".toList, "red".toList)] = some [("Color".toList, "red".toList)] := by decide_vector
example : attrFits ("xmlns".toList, "color".toList, "red".toList) = false := by decide_vector

end TTMLR
end Astisub
