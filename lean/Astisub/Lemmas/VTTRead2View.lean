import Astisub.Lemmas.SSAStr
import Astisub.Lemmas.VTTRead2Cue

/-!
# Lemmas/VTTRead2View — the driver's view of the reader's result (`VTT.result`), field by field,
and its normal form for any final state (`view_norm_result`): the last step of the WebVTT read clause (C02read, `view_result`),
and of the decoder on written documents (`Lemmas/VTT3WView`)
-/

namespace Astisub
namespace VTTRead
open Go Spec.VTT List

theorem filter_map_filter {α β} (p : α → Bool) (q : β → Bool) (f : α → β)
    (h : ∀ x, p x = false → q (f x) = false) :
    ∀ l : List α, ((l.filter p).map f).filter q = (l.map f).filter q := by
  intro l
  induction l with
  | nil => rfl
  | cons a l ih =>
    cases hp : p a with
    | true => simp only [filter_cons, hp, if_true, map_cons]; rw [ih]
    | false =>
      simp only [filter_cons, hp, Bool.false_eq_true, if_false, map_cons, h a hp]
      exact ih

theorem mergeRuns_nil : mergeRuns [] = [] := by
  simp [mergeRuns]

theorem normLine_empty (l : GLine) (h : (!l.runs.isEmpty) = false) : (!(normLine l).runs.isEmpty) = false := by
  have e : l.runs = [] := by
    cases hr : l.runs with
    | nil => rfl
    | cons a r => rw [hr] at h; simp at h
  unfold normLine
  simp only [e, mergeRuns_nil, filter_nil, isEmpty_nil, Bool.not_true]

theorem norm_eq (g : GDoc) :
    norm g = { cues := g.cues.map normCue, regions := sortRegions g.regions, styles := g.styles, tsmap := g.tsmap } := rfl

theorem normCue_slim (c : GCue) : normCue (slim c) = normCue c := by
  unfold normCue slim
  simp only
  rw [filter_map_filter (fun l : GLine => !l.runs.isEmpty) (fun l : GLine => !l.runs.isEmpty) normLine normLine_empty]

theorem map_normCue_slim (cues : List GCue) : (cues.map slim).map normCue = cues.map normCue := by
  rw [map_map]
  apply map_congr_left
  intro c _
  exact normCue_slim c

theorem sortRegions_eq (l : List GRegion) : sortRegions l = l.mergeSort (keyLe GRegion.id) := rfl

theorem sortRegions_idem (l : List GRegion) : sortRegions (sortRegions l) = sortRegions l := by
  rw [sortRegions_eq, sortRegions_eq]
  exact mergeSort_keyLe_idem _ l

theorem sortDefs_view (rs : List Def) : (Proto.sortDefs rs).map regionView = sortRegions (rs.map regionView) := by
  unfold Proto.sortDefs
  rw [sortRegions_eq]
  apply map_mergeSort
  intro a _ b _
  rfl

theorem regions_result (rs : List Def) :
    sortRegions ((Proto.sortDefs rs).map regionView) = sortRegions (rs.map regionView) := by
  rw [sortDefs_view, sortRegions_idem]

theorem style_keys_pairwise (a b : Option Str) :
    ([("WebVTTStyles", a), ("WebVTTTags", b)] : List (String × Option Str)).Pairwise (fun x y => x.1 ≠ y.1) := by
  simp [pairwise_cons]

theorem kvGet_styles (a b : Option Str) :
    SRT.kvGet (some (mkAttrs [("WebVTTStyles", a), ("WebVTTTags", b)])) "WebVTTStyles" = a :=
  SRT.kvGet_mkAttrs_of_mem (style_keys_pairwise a b) (.head _)

theorem styleLines_single (s : Subs) (d : Def) (h : s.styles = [d]) :
    VTT.styleLines s = match SRT.kvGet d.attrs "WebVTTStyles" with
      | some v => splitC '\n' v
      | none => [] := by
  unfold VTT.styleLines VTT.sortDefs
  rw [h, mergeSort_singleton]
  simp only [flatMap_cons, flatMap_nil, append_nil]
  rfl

def defStyle (ms : VTT.St) : Def :=
  { id := VTT.defaultStyleID,
    attrs := some (mkAttrs [("WebVTTStyles", if ms.styles.isEmpty then none else some (join ['\n'] ms.styles)),
                            ("WebVTTTags", if ms.tags.isEmpty then none else some (VTT.tagsStr ms.tags))]) }

theorem result_styles_seen (ms : VTT.St) (hs : ms.styleSeen = true) : (VTT.result ms).styles = [defStyle ms] := by
  simp only [VTT.result, hs, if_true, defStyle]

theorem result_styles_unseen (ms : VTT.St) (hs : ms.styleSeen = false) : (VTT.result ms).styles = [] := by
  simp only [VTT.result, hs, Bool.false_eq_true, if_false]

theorem styles_result (ms : VTT.St) (hseen : ms.styleSeen = false → ms.styles = [])
    (hnl : ∀ l ∈ ms.styles, '\n' ∉ l) : VTT.styleLines (VTT.result ms) = ms.styles := by
  cases hs : ms.styleSeen with
  | false =>
    rw [VTT.styleLines_nil _ (result_styles_unseen ms hs), hseen hs]
  | true =>
    rw [styleLines_single _ _ (result_styles_seen ms hs)]
    unfold defStyle
    simp only
    rw [kvGet_styles]
    cases hst : ms.styles with
    | nil => rfl
    | cons a r =>
      simp only [isEmpty_cons, Bool.false_eq_true, if_false]
      rw [← hst]
      exact splitC_join (by rw [hst]; simp) hnl

theorem tsmap_some (s : Subs) (l m : Int) (hl : Int64 l) (hm : Int64 m)
    (h : s.metadata = some [("WebVTTTimestampMap".toList, itoa l ++ ',' :: itoa m)]) :
    tsmapView s = some (l, m) := by
  unfold tsmapView SRT.kvGet
  rw [h]
  simp only
  rw [List.lookup_cons, beq_self_eq_true]
  simp only
  rw [splitC_two_mk (numChar_not_mem (numChar_itoa l) rfl) (numChar_not_mem (numChar_itoa m) rfl)]
  simp only
  rw [atoi_itoa l hl, atoi_itoa m hm]

theorem tsmap_result (ms : VTT.St) (hts : ∀ l m, ms.tsmap = some (l, m) → Int64 l ∧ Int64 m) :
    tsmapView (VTT.result ms) = ms.tsmap := by
  cases h : ms.tsmap with
  | none =>
    have e : (VTT.result ms).metadata = none := by simp only [VTT.result, h, Option.map_none]
    unfold tsmapView SRT.kvGet
    rw [e]
  | some p =>
    obtain ⟨l, m⟩ := p
    obtain ⟨hl, hm⟩ := hts l m h
    exact tsmap_some _ l m hl hm (by simp only [VTT.result, h, Option.map_some])

theorem view_norm_result (ms : VTT.St) (cs : List GCue) (hc : Spec.VTT.mapM cueView (VTT.flush ms) = some cs)
    (hseen : ms.styleSeen = false → ms.styles = [])
    (hnl : ∀ l ∈ ms.styles, '\n' ∉ l)
    (hts : ∀ l m, ms.tsmap = some (l, m) → Int64 l ∧ Int64 m) :
    (Driver.vttView (VTT.result ms)).map norm =
      some { cues := cs.map normCue, regions := sortRegions (ms.regions.map regionView), styles := ms.styles,
             tsmap := ms.tsmap } := by
  rw [vttView_eq]
  have hi : (VTT.result ms).items = VTT.flush ms := rfl
  have hg : (VTT.result ms).regions = ms.regions := rfl
  rw [hi, hc]
  simp only [Option.map_some]
  rw [norm_eq]
  simp only
  rw [hg, regions_result, styles_result ms hseen hnl, tsmap_result ms hts]

theorem view_result (ms : VTT.St) (cues : List GCue) (gregs : List GRegion)
    (hc : Spec.VTT.mapM cueView (VTT.flush ms) = some (cues.map slim))
    (hr : ms.regions.map regionView = gregs)
    (hseen : ms.styleSeen = false → ms.styles = [])
    (hnl : ∀ l ∈ ms.styles, '\n' ∉ l)
    (hts : ∀ l m, ms.tsmap = some (l, m) → Int64 l ∧ Int64 m) :
    (Driver.vttView (VTT.result ms)).map norm =
      some (norm { cues := cues, regions := gregs, styles := ms.styles, tsmap := ms.tsmap }) := by
  rw [view_norm_result ms _ hc hseen hnl hts, norm_eq, map_normCue_slim, hr]

end VTTRead
end Astisub
