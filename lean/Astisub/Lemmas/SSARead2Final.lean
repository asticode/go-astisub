import Astisub.Lemmas.SSARead2Doc
import Astisub.Lemmas.SSARead2Lines
import Astisub.Lemmas.Bytes
import Astisub.Driver.SSA
import Astisub.Lemmas.SSA2Bytes

/-!
# Lemmas/SSARead2Final — assembling the read clause, `view (read lines) = decode text`, on characters and on bytes, and its
use on written documents (second half of `decode_write`); without CR the `strings.Split` lines and the scanner's lines read the
same (`read_splitC`)
-/

namespace Astisub
namespace SSAR
open Go SSA

section
open Spec.SSA (SecKind secKind sections stylesOf eventsOf infoOf decode GDoc GStyle GEvent REvent resolve strLe nodup)

/-- the part of `Spec.SSA.decode` after the sections have been cut -/
def decodeSecs (secs : List (SecKind × List Str)) : Option GDoc :=
  let known := secs.filter fun s => s.1 ≠ .unknown
  let comments := (known.map fun s => Spec.SSA.commentsOf s.2).flatten
  let info := infoOf ((secs.filter fun s => s.1 = .info).map (·.2)).flatten
  let styles := Spec.SSA.mapM (fun s => stylesOf s.2 none) (secs.filter fun s => s.1 = .styles)
  let events := Spec.SSA.mapM (fun s => eventsOf s.2 none) (secs.filter fun s => s.1 = .events)
  match info, styles, events with
  | some info, some styles, some events =>
    let styles := styles.flatten
    let names := styles.map (·.name)
    if !nodup (names.map String.ofList) || names.any (fun n => n.head? = some '*') then none else
    some { comments := comments, info := info,
           styles := styles.mergeSort fun a b => strLe a.name b.name,
           events := events.flatten.map fun r => { r.ev with style := resolve names r.styleName } }
  | _, _, _ => none

theorem decode_eq (text : Str) :
    decode text = match sections (specLines text) with | none => none | some secs => decodeSecs secs := rfl

theorem decode_some (text : Str) (g : GDoc) (h : decode text = some g) :
    ∃ secs gi S E, sections (specLines text) = some secs ∧ infoOf (infoLines secs) = some gi ∧
      Spec.SSA.mapM (fun s => stylesOf s.2 none) (secs.filter fun s => s.1 = .styles) = some S ∧
      Spec.SSA.mapM (fun s => eventsOf s.2 none) (secs.filter fun s => s.1 = .events) = some E ∧
      nodup ((S.flatten.map (·.name)).map String.ofList) = true ∧
      (S.flatten.map (·.name)).any (fun n => n.head? = some '*') = false ∧
      g = { comments := knownComments secs, info := gi,
            styles := S.flatten.mergeSort (fun a b => strLe a.name b.name),
            events := E.flatten.map fun r => { r.ev with style := resolve (S.flatten.map (·.name)) r.styleName } } := by
  rw [decode_eq] at h
  cases hs : sections (specLines text) with
  | none => simp [hs] at h
  | some secs =>
    rw [hs] at h
    simp only at h
    unfold decodeSecs at h
    simp only at h
    cases hi : infoOf ((secs.filter fun s => s.1 = .info).map (·.2)).flatten with
    | none => simp [hi] at h
    | some gi =>
      cases hS : Spec.SSA.mapM (fun s => stylesOf s.2 none) (secs.filter fun s => s.1 = .styles) with
      | none => simp [hi, hS] at h
      | some S =>
        cases hE : Spec.SSA.mapM (fun s => eventsOf s.2 none) (secs.filter fun s => s.1 = .events) with
        | none => simp [hi, hS, hE] at h
        | some E =>
          simp only [hi, hS, hE] at h
          split at h
          · cases h
          · rename_i hc
            simp only [Bool.or_eq_true, Bool.not_eq_true', not_or, Bool.not_eq_false, Bool.not_eq_true] at hc
            simp only [Option.some.injEq] at h
            exact ⟨secs, gi, S, E, rfl, hi, hS, hE, hc.1, hc.2, h.symm⟩

theorem secKind_some_head {l : Str} {k : SecKind} (h : secKind l = some k) : l.head? = some '[' := by
  unfold Spec.SSA.secKind at h
  split at h
  · rfl
  · cases h

theorem grouped_head {lines : List Str} {secs : List (SecKind × List Str)} (hg : Grouped lines secs) (l : Str) (ls : List Str)
    (e : lines = l :: ls) : l.head? = some '[' := by
  cases secs with
  | nil => have : lines = [] := hg; rw [this] at e; cases e
  | cons s rest =>
    obtain ⟨h, tail, hl, hk, _, _⟩ := hg
    rw [hl] at e
    cases e
    exact secKind_some_head hk

theorem grouped_mem : ∀ {secs : List (SecKind × List Str)} {lines : List Str}, Grouped lines secs →
    ∀ s ∈ secs, ∀ l ∈ s.2, l ∈ lines := by
  intro secs
  induction secs with
  | nil => intro _ _ s hs; cases hs
  | cons s0 rest ih =>
    intro lines hg s hs l hl
    obtain ⟨h, tail, hlines, _, _, hgt⟩ := hg
    subst hlines
    rcases List.mem_cons.mp hs with rfl | hs
    · simp [hl]
    · have := ih hgt s hs l hl
      simp [this]

theorem mem_commentsOf {c : Str} {body : List Str} (h : c ∈ Spec.SSA.commentsOf body) :
    ∃ rest, (';' :: rest) ∈ body ∧ c = trimSpace rest := by
  unfold Spec.SSA.commentsOf at h
  rw [List.mem_filterMap] at h
  obtain ⟨l, hl, he⟩ := h
  cases l with
  | nil => simp [Spec.SSA.classify, Spec.SSA.keyValue] at he
  | cons x xs =>
    by_cases hx : x = ';'
    · subst hx
      simp only [Spec.SSA.classify, Option.some.injEq] at he
      exact ⟨xs, hl, he.symm⟩
    · rw [classify_cons_ne xs hx] at he
      cases hkv : Spec.SSA.keyValue (x :: xs) with
      | none => rw [hkv] at he; cases he
      | some p => rw [hkv] at he; cases he

theorem styleView_name {m : Style} {gs : GStyle} (h : styleView m = some gs) : gs.name = m.name := by
  unfold styleView defView at h
  cases ha : Spec.SSA.attrsView Spec.SSA.styleTable m.toDef.attrs with
  | none => simp [ha] at h
  | some a =>
    simp only [ha, Option.map_some, Option.some.injEq] at h
    rw [← h]
    rfl

theorem styleView_names : ∀ (ms : List Style) (gs : List GStyle), ms.map styleView = gs.map some →
    ms.map (·.name) = gs.map (·.name) := by
  intro ms
  induction ms with
  | nil => intro gs h; cases gs <;> simp_all
  | cons m ms ih =>
    intro gs h
    cases gs with
    | nil => simp at h
    | cons g gs =>
      simp only [List.map_cons, List.cons.injEq] at h ⊢
      exact ⟨(styleView_name h.1).symm, ih gs h.2⟩

theorem comments_no_nl (text : Str) (secs : List (SecKind × List Str)) (hs : sections (specLines text) = some secs) :
    ∀ c ∈ knownComments secs, '\n' ∉ c := by
  intro c hc
  unfold knownComments at hc
  rw [List.mem_flatten] at hc
  obtain ⟨cs, hcs, hc⟩ := hc
  rw [List.mem_map] at hcs
  obtain ⟨s, hs', rfl⟩ := hcs
  have hsm : s ∈ secs := (List.mem_filter.mp hs').1
  obtain ⟨rest, hr, rfl⟩ := mem_commentsOf hc
  have hl := grouped_mem (sections_grouped _ _ hs) s hsm _ hr
  unfold specLines at hl
  have hl2 := (List.mem_filter.mp hl).1
  rw [List.mem_map] at hl2
  obtain ⟨raw, hraw, he⟩ := hl2
  rw [Spec.SSA.splitLines_eq] at hraw
  have h1 := (Spec.SRT.not_mem_of_mem_splitLines (List.not_mem_nil) (List.not_mem_nil) raw hraw).1
  intro hm
  have h2 : '\n' ∈ trimSpace raw := by rw [he]; exact List.mem_cons_of_mem _ (Go.mem_of_mem_trimSpace hm)
  exact h1 (Go.mem_of_mem_trimSpace h2)

theorem view_finish (st' : St) (C : List Str) (gi : List (String × Spec.SSA.GVal)) (Sf : List GStyle) (Ef : List REvent)
    (hcom : st'.info.comments = C) (hnl : ∀ c ∈ C, '\n' ∉ c)
    (hinfo : Spec.SSA.attrsView Spec.SSA.infoTable st'.info.metadata = some gi)
    (hms : st'.styles.map styleView = Sf.map some)
    (hnd : nodup ((Sf.map (·.name)).map String.ofList) = true)
    (hstar : (Sf.map (·.name)).any (fun n => n.head? = some '*') = false)
    (hev : EvRel st'.events Ef) :
    ∃ s, finish (.ok st') = .ok s ∧
      Spec.SSA.view s = some { comments := C, info := gi, styles := Sf.mergeSort (fun a b => strLe a.name b.name),
                               events := Ef.map fun r => { r.ev with style := resolve (Sf.map (·.name)) r.styleName } } := by
  have hnames := styleView_names _ _ hms
  have hnodup : (st'.styles.map (·.name)).Nodup := by rw [hnames]; exact (nodup_map_ofList _).mp hnd
  have hsm := styleMap_nodup _ hnodup
  have hstar' : ∀ n ∈ Sf.map (·.name), n.head? ≠ some '*' := by
    intro n hn
    have := List.any_eq_false.mp hstar n hn
    simpa using this
  have hfilt : st'.events.filter (fun e => e.category = "Dialogue".toList) = st'.events := by
    rw [List.filter_eq_self]
    intro e he
    exact decide_eq_true (hev.1 e he)
  refine ⟨_, rfl, ?_⟩
  unfold Spec.SSA.view
  simp only [hsm, hfilt, hnames, hinfo]
  have h1 : Spec.SSA.mapM (fun (d : Def) => (Spec.SSA.attrsView Spec.SSA.styleTable d.attrs).map fun a => ({ name := d.id, attrs := a } : GStyle))
      (st'.styles.map Style.toDef) = some Sf := by
    apply (Spec.SSA.isMapM.eq_some_iff _ _ _).mpr
    rw [List.map_map]
    exact hms
  have h2 : Spec.SSA.mapM Spec.SSA.eventView (st'.events.map (eventItem (Sf.map (·.name)))) =
      some (Ef.map fun r => { r.ev with style := resolve (Sf.map (·.name)) r.styleName }) := by
    apply (Spec.SSA.isMapM.eq_some_iff _ _ _).mpr
    rw [List.map_map, List.map_map]
    exact hev.2 _ hstar'
  rw [h1, h2]
  simp only [Option.some.injEq]
  congr 1
  rw [spec_kvGet_eq, kvGet_metadata_comments, hcom]
  cases C with
  | nil => rfl
  | cons c cs =>
    simp only [List.isEmpty_cons, Bool.false_eq_true, ↓reduceIte]
    exact splitC_join (by simp) hnl

/-- **Read clause, character level.** For every text the decoder accepts (`decode text = some g`) and that is in the
    class `InClass`, the reader model succeeds on the lines the scanner delivers and the view of its answer is `g` -/
theorem read_view (text : Str) (g : GDoc) (hd : decode text = some g) (hc : InClass text = true) :
    ∃ s, SSA.read (Spec.SSA.splitLines text []) = .ok s ∧ Spec.SSA.view s = some g := by
  -- the scanned lines reduce to the decoder's lines (`finish_run_lines`), these are grouped as the decoder's sections
  -- (`sections_grouped`), the loop goes over them section by section (`run_grouped`), and the view of the final state is
  -- what the decoder assembles (`view_finish`)
  obtain ⟨secs, gi, S, E, hs, hi, hS, hE, hnd, hstar, hg⟩ := decode_some text g hd
  unfold InClass at hc
  rw [hs, hd] at hc
  simp only [Bool.and_eq_true] at hc
  obtain ⟨⟨⟨hbom, hhead⟩, hinfo⟩, h64⟩ := hc
  have hgr := sections_grouped _ _ hs
  have hne : ∀ l ∈ specLines text, l ≠ [] := by
    intro l hl
    unfold specLines at hl
    have := (List.mem_filter.mp hl).2
    intro e; subst e; simp at this
  have hfirst : ∀ l ls, specLines text = l :: ls → l.head? = some '[' := fun l ls e => grouped_head hgr l ls e
  unfold ints64 at h64
  rw [Bool.and_eq_true, List.all_eq_true, List.all_eq_true] at h64
  have hS64 : ∀ gs ∈ S.flatten, attrs64 gs.attrs = true := by
    intro gs hgs
    apply h64.1
    rw [hg]
    exact (List.mergeSort_perm _ _).mem_iff.mpr hgs
  have hE64 : ∀ r ∈ E.flatten, event64 r.ev = true := by
    intro r hr
    have := h64.2 { r.ev with style := resolve (S.flatten.map (·.name)) r.styleName } (by
      rw [hg]; exact List.mem_map.mpr ⟨r, hr, rfl⟩)
    exact this
  obtain ⟨st', ms, es, hrun, eff, hrel, hmsv, hev⟩ :=
    run_grouped secs (specLines text) { first := false } [] S E hgr hne hhead hinfo (lineSyn_of_infoOf hi) hS hE hS64 hE64 rfl (fun f => rfl)
  have hcom' : st'.info.comments = knownComments secs := by simpa using eff.comments
  have hms' : st'.styles.map styleView = S.flatten.map some := by rw [eff.styles]; simpa using hmsv
  have hev' : EvRel st'.events E.flatten := by rw [eff.events]; simpa using hev
  have hinfo' := info_view st'.info (infoLines secs) gi (by simpa using hrel) hi
  obtain ⟨s, hf, hv⟩ := view_finish st' _ gi S.flatten E.flatten hcom' (comments_no_nl text secs hs) hinfo' hms' hnd hstar hev'
  refine ⟨s, ?_, ?_⟩
  · rw [read_eq_finish, finish_run_lines text hbom hfirst, ← lines_finish_runL_first]
    have e : ({ ({} : St) with first := false } : St) = { first := false } := rfl
    rw [e, hrun]
    exact hf
  · rw [hv, hg]

theorem docLines_of_decode (doc : List UInt8) (text : Str) (h : Driver.decodeLine doc = some text) :
    Driver.docLines doc = (Spec.SSA.splitLines text []).map some := by
  rw [Spec.SSA.splitLines_eq]
  exact Driver.docLines_of_decodeLine h

/-- **Read clause, byte level (what the `ssa.read` stream computes).** If the bytes are valid UTF-8 for `text`, the
    decoder accepts `text` as `g`, `text` is in the class, and the driver's model of `ReadFromSSA` on the bytes
    (`readBytes`: scanner, per-line decoding, `SSA.read`, range check) answers `r` (is not "unmodelled"), then `r` is a
    success whose view is `g` -/
theorem readBytes_view (doc : List UInt8) (text : Str) (g : GDoc) (hdl : Driver.decodeLine doc = some text)
    (hd : decode text = some g) (hc : InClass text = true) (r : Res Subs) (hr : Driver.SSAD.readBytes doc = some r) :
    ∃ s, r = .ok s ∧ Spec.SSA.view s = some g := by
  obtain ⟨s, hs, hv⟩ := read_view text g hd hc
  unfold Driver.SSAD.readBytes at hr
  rw [docLines_of_decode doc text hdl, Conv2.allSomeL_map_some] at hr
  simp only [hs] at hr
  split at hr
  · cases hr
  · split at hr
    · simp only [Option.some.injEq] at hr
      exact ⟨s, hr.symm, hv⟩
    · cases hr

end

section
open Spec.SSA (decode view GDoc)

/-- prepend to the first element -/
def prependHead (a : Str) : List Str → List Str
  | [] => [a]
  | h :: r => (a ++ h) :: r

theorem splitC_cons_other (x : Char) (xs : Str) (h : x ≠ '\n') :
    splitC '\n' (x :: xs) = prependHead [x] (splitC '\n' xs) := by
  rw [splitC, if_neg h]
  cases splitC '\n' xs <;> rfl

theorem prependHead_prependHead (a b : Str) (l : List Str) (hl : l ≠ []) :
    prependHead a (prependHead b l) = prependHead (a ++ b) l := by
  cases l with
  | nil => exact absurd rfl hl
  | cons h r => simp [prependHead]

/-- without CR, `strings.Split(s, "\n")` gives the decoder's lines, possibly followed by one empty line -/
theorem splitC_nl_splitLines : ∀ (s acc : Str), '\r' ∉ s →
    prependHead acc.reverse (splitC '\n' s) = Spec.SSA.splitLines s acc ∨
    prependHead acc.reverse (splitC '\n' s) = Spec.SSA.splitLines s acc ++ [[]] := by
  intro s
  induction s with
  | nil =>
    intro acc _
    cases acc with
    | nil => right; rfl
    | cons a as => left; simp [splitC, prependHead, Spec.SSA.splitLines]
  | cons x xs ih =>
    intro acc hcr
    have hcr' : '\r' ∉ xs := fun h => hcr (List.mem_cons_of_mem _ h)
    have hx : x ≠ '\r' := fun e => hcr (by rw [e]; exact List.mem_cons_self)
    by_cases hn : x = '\n'
    · subst hn
      have e1 : splitC '\n' ('\n' :: xs) = [] :: splitC '\n' xs := by simp [splitC]
      have e2 : Spec.SSA.splitLines ('\n' :: xs) acc = acc.reverse :: Spec.SSA.splitLines xs [] := by
        simp [Spec.SSA.splitLines]
      rw [e1, e2]
      have := ih [] hcr'
      have e3 : prependHead ([] : Str).reverse (splitC '\n' xs) = splitC '\n' xs := by
        cases h : splitC '\n' xs with
        | nil => exact absurd h (splitC_ne_nil _ _)
        | cons a b => simp [prependHead]
      rw [e3] at this
      rcases this with h | h
      · left; simp [prependHead, h]
      · right; simp [prependHead, h]
    · have e2 : Spec.SSA.splitLines (x :: xs) acc = Spec.SSA.splitLines xs (x :: acc) := by
        rw [Spec.SSA.splitLines.eq_5 _ _ _ (by intros; simp_all) (by intros; simp_all) (by intros; simp_all)]
      rw [splitC_cons_other x xs hn, prependHead_prependHead _ _ _ (splitC_ne_nil _ _), e2]
      have := ih (x :: acc) hcr'
      simpa using this

theorem read_splitC (text : Str) (h : '\r' ∉ text) :
    SSA.read (splitC '\n' text) = SSA.read (Spec.SSA.splitLines text []) := by
  have e3 : prependHead ([] : Str).reverse (splitC '\n' text) = splitC '\n' text := by
    cases h : splitC '\n' text with
    | nil => exact absurd h (splitC_ne_nil _ _)
    | cons a b => simp [prependHead]
  rcases splitC_nl_splitLines text [] h with e | e
  · rw [e3] at e; rw [e]
  · rw [e3] at e; rw [e, Conv2.read_blank_end]

theorem decode_write_view (s : Subs) (out : Str) (want : GDoc) (hr : RepRead s) (hw : write s = .ok out)
    (hcr : '\r' ∉ out) (hd : decode out = some want) (hc : InClass out = true) :
    view (norm s) = some want := by
  obtain ⟨s', hs', hv⟩ := read_view out want hd hc
  have h1 := SSA.write_read s out hr hw
  rw [read_splitC out hcr, hs'] at h1
  cases h1
  exact hv

end

end SSAR
end Astisub
