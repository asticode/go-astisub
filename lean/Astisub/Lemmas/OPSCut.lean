import Astisub.Model.Ops
import Astisub.Spec.OpsSpec

/-!
# Lemmas/OPSCut — the inner loop of `Subtitles.Fragment`, in closed form

In front: `firstBoundary`, the first multiple of the period after the start; the step equations of `Ops.cutLoop`; `Pieces`,
what the property says of the pieces of one cue; for a positive period `fragment` is `order` of the cut cues (`fragment_eq`).

`cutAt it bs` cuts `it` at the given (ascending) instants.  Both the loop model `Ops.cut` and
the executable specification `Spec.cutSpec` are `cutAt it (Spec.multiplesIn f start end)`,
hence equal; the number of pieces is `1 +` the number of multiples.  The loop is looked at only there
(`cutLoop_eq_cutAt`): what the pieces of a cue are like (`cut_pieces`, and `cut_run` in `Lemmas/OPSInverse`) is said of
`cutAt it bs` for any `bs` that ascends strictly inside the cue (`Inside`), which the multiples do.
-/

namespace Astisub
open Ops Spec

/-- no cue boundary strictly between: the cue contains no multiple of `f` -/
def NoMult (f : Int) (it : Item) : Prop := ¬ containsMultiple f it

theorem firstBoundary_spec (f s : Int) (hf : 0 < f) :
    isMultiple f (firstBoundary f s) ∧ firstBoundary f s - f ≤ s ∧ s < firstBoundary f s := by
  -- `s - s % f` is the multiple `(s / f) * f` on `s`'s side of zero; only the sign of the
  -- (truncated) remainder decides whether the code adds `f`
  have hdiv := Int.mul_tdiv_add_tmod s f
  have hlt := Int.tmod_lt_of_pos s hf
  have hgt := Int.lt_tmod_of_pos s hf
  have hb0 : s - Int.tmod s f = Int.tdiv s f * f := by rw [Int.mul_comm]; omega
  unfold firstBoundary
  simp only
  split
  · refine ⟨⟨Int.tdiv s f + 1, ?_⟩, by omega, by omega⟩
    rw [hb0, Int.add_mul, Int.one_mul]
  · exact ⟨⟨_, hb0⟩, by omega, by omega⟩

/-- everything the inner loop of `Fragment` guarantees about the pieces of one cue -/
structure Pieces (f : Int) (it : Item) (ps : List Item) : Prop where
  chain : Chain it ps
  noMult : ∀ p ∈ ps, NoMult f p
  content : ∀ p ∈ ps, p.content = it.content
  /-- every cut point is a multiple of `f` strictly inside the cue -/
  cuts : ∀ p ∈ ps.dropLast, isMultiple f p.endAt ∧ it.startAt < p.endAt ∧ p.endAt < it.endAt
  /-- the original pointer is the last piece, all earlier pieces are fresh copies -/
  lastUid : ∃ q, ps.getLast? = some q ∧ q.uid = it.uid ∧ q.endAt = it.endAt
  freshUids : ∀ p ∈ ps.dropLast, p.uid = 0

theorem cutLoop_lt (f : Int) (fuel : Nat) {it : Item} {b : Int} (h : b < it.endAt) :
    cutLoop f (fuel + 1) it b =
      { it with uid := 0, endAt := b } :: cutLoop f fuel { it with startAt := b } (b + f) := by
  rw [cutLoop, if_pos h]

theorem cutLoop_ge (f : Int) (fuel : Nat) {it : Item} {b : Int} (h : ¬ b < it.endAt) :
    cutLoop f fuel it b = [it] := by
  cases fuel with
  | zero => rfl
  | succ fuel => rw [cutLoop, if_neg h]

/-- for a positive period `Fragment` cuts every cue and orders the pieces (the early return of the
    code for an empty list agrees with this) -/
theorem fragment_eq (f : Int) (hf : 0 < f) (xs : List Item) :
    fragment f xs = order (xs.flatMap (cut f)) := by
  unfold fragment
  split
  · rename_i h
    rcases h with rfl | h
    · rw [order, List.flatMap_nil, List.mergeSort_nil]
    · omega
  · rfl

end Astisub

namespace Astisub
namespace OPS
open Ops Spec List

/-- cut `it` at the instants `bs` (left to right): every cut emits a fresh copy ending at the
    instant and moves the start of the original there; the original comes last -/
def cutAt (it : Item) : List Int → List Item
  | [] => [it]
  | b :: bs => { it with uid := 0, endAt := b } :: cutAt { it with startAt := b } bs

theorem cutAt_length (it : Item) (bs : List Int) : (cutAt it bs).length = 1 + bs.length := by
  induction bs generalizing it with
  | nil => rfl
  | cons b bs ih => simp only [cutAt, length_cons, ih]; omega

theorem cutAt_ne_nil (it : Item) (bs : List Int) : cutAt it bs ≠ [] := by
  cases bs <;> exact cons_ne_nil _ _

theorem cutAt_dropLast_ends (it : Item) (bs : List Int) : (cutAt it bs).dropLast.map (·.endAt) = bs := by
  induction bs generalizing it with
  | nil => rfl
  | cons b bs ih => rw [cutAt, dropLast_cons_of_ne_nil (cutAt_ne_nil _ _), map_cons, ih]

/-- the multiples `(k+0)·f, (k+1)·f, …` (`n` of them) -/
def mults (f k : Int) (n : Nat) : List Int := (List.range n).map (fun (i : Nat) => (k + Int.ofNat i) * f)

theorem mults_succ (f k : Int) (n : Nat) : mults f k (n + 1) = k * f :: mults f (k + 1) n := by
  unfold mults
  rw [range_succ_eq_map, map_cons, map_map]
  congr 1
  · simp
  · apply map_congr_left
    intro i _
    simp only [Function.comp, Int.ofNat_eq_natCast, Nat.succ_eq_add_one, Int.natCast_add, Int.cast_ofNat_Int]
    congr 1
    omega

theorem multiplesIn_eq (f s e : Int) :
    multiplesIn f s e = mults f (s / f + 1) ((e - 1) / f - (s / f + 1) + 1).toNat := rfl

theorem mul_lt_iff_le_div {f : Int} (hf : 0 < f) (k e : Int) : k * f < e ↔ k ≤ (e - 1) / f := by
  rw [Int.le_ediv_iff_mul_le hf]
  omega

/-- the loop, started at the multiple `k·f`, cuts at the multiples `k·f, (k+1)·f, … < end` -/
theorem cutLoop_eq_cutAt (f : Int) (hf : 0 < f) (fuel : Nat) (it : Item) (k : Int)
    (hfuel : it.endAt - k * f < fuel) :
    cutLoop f fuel it (k * f) = cutAt it (mults f k ((it.endAt - 1) / f - k + 1).toNat) := by
  have hge : ∀ (fuel : Nat) (it : Item) (k : Int), ¬ k * f < it.endAt →
      cutLoop f fuel it (k * f) = cutAt it (mults f k ((it.endAt - 1) / f - k + 1).toNat) := by
    intro fuel it k hlt
    have hk : ¬ k ≤ (it.endAt - 1) / f := fun h => hlt ((mul_lt_iff_le_div hf k it.endAt).mpr h)
    rw [cutLoop_ge f _ hlt, Int.toNat_of_nonpos (by omega)]; rfl
  induction fuel generalizing it k with
  | zero => exact hge 0 it k (by omega)
  | succ fuel ih =>
    by_cases hlt : k * f < it.endAt
    · have hk : k ≤ (it.endAt - 1) / f := (mul_lt_iff_le_div hf k it.endAt).mp hlt
      have hkf : k * f + f = (k + 1) * f := by rw [Int.add_mul, Int.one_mul]
      rw [cutLoop_lt f fuel hlt,
        show (it.endAt - 1) / f - k + 1 = ((it.endAt - 1) / f - (k + 1) + 1) + 1 by omega,
        Int.toNat_add (by omega) (by decide), show (1 : Int).toNat = 1 from rfl, mults_succ, cutAt, hkf]
      exact congrArg _ (ih { it with startAt := k * f } (k + 1) (by rw [← hkf]; simp only; omega))
    · exact hge _ it k hlt

theorem firstBoundary_eq (f s : Int) (hf : 0 < f) : firstBoundary f s = (s / f + 1) * f := by
  obtain ⟨⟨m, hm⟩, h1, h2⟩ := firstBoundary_spec f s hf
  rw [hm] at h1 h2 ⊢
  have hdiv : s / f = m - 1 := by
    have hlo : m - 1 ≤ s / f := by
      rw [Int.le_ediv_iff_mul_le hf, Int.sub_mul]; omega
    have hhi : s / f < m := by
      rw [Int.ediv_lt_iff_lt_mul hf]; exact h2
    omega
  rw [hdiv]
  congr 1
  omega

theorem cut_eq_cutAt (f : Int) (hf : 0 < f) (it : Item) :
    cut f it = cutAt it (multiplesIn f it.startAt it.endAt) := by
  unfold cut
  simp only
  rw [firstBoundary_eq f _ hf, multiplesIn_eq]
  exact cutLoop_eq_cutAt f hf _ it _ (Int.lt_add_one_iff.mpr (Int.self_le_toNat _))

/-- the zip/zipIdx form used by `Spec.cutSpec`, for any cut list -/
theorem zipForm_eq_cutAt (it : Item) (bs : List Int) (s : Int) (k n : Nat) (hn : n = k + bs.length) :
    ((List.zip (s :: bs) (bs ++ [it.endAt])).zipIdx k).map
        (fun (x : (Int × Int) × Nat) =>
          ({ it with uid := if x.2 = n then it.uid else 0, startAt := x.1.1, endAt := x.1.2 } : Item))
      = cutAt { it with startAt := s } bs := by
  induction bs generalizing s k with
  | nil =>
    simp only [length_nil, Nat.add_zero] at hn
    subst hn
    simp [cutAt]
  | cons b bs ih =>
    simp only [length_cons] at hn
    have hk : k ≠ n := by omega
    simp only [cons_append, zip_cons_cons, zipIdx_cons, map_cons, cutAt, hk, ↓reduceIte]
    congr 1
    exact ih b (k + 1) (by omega)

theorem cut_eq_cutSpec (f : Int) (hf : 0 < f) (it : Item) : cut f it = cutSpec f it := by
  rw [cut_eq_cutAt f hf]
  unfold cutSpec
  simp only
  have := zipForm_eq_cutAt it (multiplesIn f it.startAt it.endAt) it.startAt 0 _ (Nat.zero_add _).symm
  exact this.symm

theorem mem_multiplesIn (f : Int) (hf : 0 < f) (s e m : Int) :
    m ∈ multiplesIn f s e ↔ isMultiple f m ∧ s < m ∧ m < e := by
  rw [multiplesIn_eq]
  unfold mults
  simp only [mem_map, mem_range, Int.ofNat_eq_natCast]
  constructor
  · rintro ⟨i, hi, rfl⟩
    have hi' := Int.lt_toNat.mp hi
    exact ⟨⟨_, rfl⟩, (Int.ediv_lt_iff_lt_mul hf).mp (by omega), (mul_lt_iff_le_div hf _ e).mpr (by omega)⟩
  · rintro ⟨⟨j, rfl⟩, h1, h2⟩
    have hj1 : s / f < j := (Int.ediv_lt_iff_lt_mul hf).mpr h1
    have hj2 : j ≤ (e - 1) / f := (mul_lt_iff_le_div hf j e).mp h2
    have hnn := Int.toNat_of_nonneg (show 0 ≤ j - (s / f + 1) by omega)
    exact ⟨(j - (s / f + 1)).toNat, Int.lt_toNat.mpr (by omega), by rw [hnn]; congr 1; omega⟩

theorem multiplesIn_increasing (f : Int) (hf : 0 < f) (s e : Int) :
    (multiplesIn f s e).Pairwise (· < ·) := by
  rw [multiplesIn_eq]
  unfold mults
  rw [pairwise_map]
  refine (pairwise_lt_range).imp ?_
  intro i j hij
  simp only [Int.ofNat_eq_natCast]
  exact Int.mul_lt_mul_of_pos_right (by omega) hf

/-- `bs` ascends strictly and lies strictly between `a` and `e` -/
def Inside (a e : Int) (bs : List Int) : Prop := bs.Pairwise (· < ·) ∧ ∀ b ∈ bs, a < b ∧ b < e

theorem Inside.tail {a e b : Int} {bs : List Int} (h : Inside a e (b :: bs)) : Inside b e bs :=
  ⟨(pairwise_cons.mp h.1).2, fun c hc => ⟨(pairwise_cons.mp h.1).1 c hc, (h.2 c (mem_cons_of_mem _ hc)).2⟩⟩

theorem multiplesIn_inside (f : Int) (hf : 0 < f) (s e : Int) : Inside s e (multiplesIn f s e) :=
  ⟨multiplesIn_increasing f hf s e, fun b hb => ((mem_multiplesIn f hf s e b).mp hb).2⟩

theorem cutAt_concat (it : Item) (bs : List Int) :
    ∃ ps q, cutAt it bs = ps ++ [q] ∧ q.uid = it.uid ∧ q.endAt = it.endAt ∧ ∀ p ∈ ps, p.uid = 0 := by
  induction bs generalizing it with
  | nil => exact ⟨[], it, rfl, rfl, rfl, nofun⟩
  | cons b bs ih =>
    obtain ⟨ps, q, e, h1, h2, h3⟩ := ih { it with startAt := b }
    exact ⟨_ :: ps, q, by rw [cutAt, e]; rfl, h1, h2, forall_mem_cons.mpr ⟨rfl, h3⟩⟩

theorem cutAt_content (it : Item) (bs : List Int) : ∀ p ∈ cutAt it bs, p.content = it.content := by
  induction bs generalizing it with
  | nil => exact forall_mem_singleton.mpr rfl
  | cons b bs ih => exact forall_mem_cons.mpr ⟨rfl, ih { it with startAt := b }⟩

theorem cutAt_chain (it : Item) (bs : List Int) (h : Inside it.startAt it.endAt bs) :
    Chain it (cutAt it bs) := by
  induction bs generalizing it with
  | nil => exact ⟨rfl, rfl, rfl⟩
  | cons b bs ih =>
    have := ih { it with startAt := b } h.tail
    cases bs <;> exact ⟨rfl, rfl, (h.2 b mem_cons_self).1, this⟩

theorem cutAt_instants (it : Item) (bs : List Int) : ∀ p ∈ cutAt it bs,
    (p.startAt = it.startAt ∨ p.startAt ∈ bs) ∧ (p.endAt = it.endAt ∨ p.endAt ∈ bs) := by
  induction bs generalizing it with
  | nil => exact forall_mem_singleton.mpr ⟨.inl rfl, .inl rfl⟩
  | cons b bs ih =>
    refine forall_mem_cons.mpr ⟨⟨.inl rfl, .inr mem_cons_self⟩, fun p hp => ?_⟩
    have := ih { it with startAt := b } p hp
    exact ⟨.inr (this.1.elim (fun h => h ▸ mem_cons_self) (mem_cons_of_mem _)), this.2.imp id (mem_cons_of_mem _)⟩

theorem cutAt_bounds (it : Item) (bs : List Int) (h : Inside it.startAt it.endAt bs) : ∀ p ∈ cutAt it bs,
    (p.startAt = it.startAt ∨ it.startAt < p.startAt ∧ p.startAt < it.endAt) ∧
    (p.endAt = it.endAt ∨ it.startAt < p.endAt ∧ p.endAt < it.endAt) := fun p hp =>
  ⟨(cutAt_instants it bs p hp).1.imp id (h.2 _), (cutAt_instants it bs p hp).2.imp id (h.2 _)⟩

theorem cutAt_gap (it : Item) (bs : List Int) (h : Inside it.startAt it.endAt bs) :
    ∀ p ∈ cutAt it bs, ∀ b ∈ bs, b ≤ p.startAt ∨ p.endAt ≤ b := by
  induction bs generalizing it with
  | nil => exact fun _ _ => nofun
  | cons b bs ih =>
    refine forall_mem_cons.mpr ⟨forall_mem_cons.mpr
      ⟨.inr (Int.le_refl _), fun c hc => .inr (Int.le_of_lt (h.tail.2 c hc).1)⟩, fun p hp => ?_⟩
    have hb : b ≤ p.startAt := (cutAt_bounds { it with startAt := b } bs h.tail p hp).1.elim
      (fun e => e ▸ Int.le_refl _) fun e => Int.le_of_lt e.1
    exact forall_mem_cons.mpr ⟨.inl hb, ih { it with startAt := b } h.tail p hp⟩

theorem cut_pieces (f : Int) (hf : 0 < f) (it : Item) : Pieces f it (cut f it) := by
  have hin := multiplesIn_inside f hf it.startAt it.endAt
  have hmem := mem_multiplesIn f hf it.startAt it.endAt
  rw [cut_eq_cutAt f hf]
  obtain ⟨ps, q, e, hq1, hq2, hps⟩ := cutAt_concat it (multiplesIn f it.startAt it.endAt)
  have hends := cutAt_dropLast_ends it (multiplesIn f it.startAt it.endAt)
  refine ⟨cutAt_chain it _ hin, ?_, cutAt_content it _, ?_, ⟨q, by rw [e, getLast?_concat], hq1, hq2⟩,
    by rwa [e, dropLast_concat]⟩
  · -- a multiple strictly inside a piece would be a cut point strictly inside that piece
    rintro p hp ⟨k, hk1, hk2⟩
    obtain ⟨g1, g2⟩ := cutAt_bounds it _ hin p hp
    rcases cutAt_gap it _ hin p hp (k * f) ((hmem _).mpr ⟨⟨k, rfl⟩, by omega, by omega⟩) with h | h <;> omega
  · intro p hp
    exact (hmem _).mp (hends ▸ mem_map_of_mem hp)

theorem cut_ne_nil (f : Int) (hf : 0 < f) (it : Item) : cut f it ≠ [] := by
  rw [cut_eq_cutAt f hf]; exact cutAt_ne_nil _ _

end OPS
end Astisub
