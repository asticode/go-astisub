import Astisub.Lemmas.STL2Tok
import Astisub.Lemmas.STL2Str
import Astisub.Driver.STL

/-!
# Lemmas/STL2Row — a row made of several runs

The writer emits the runs of a line one after the other, each bracketed by its style codes, with a blank
between two runs.  `lineSegs l` is what the row machine (`Lemmas/STL2Tok.lean`: both readers) makes of that
row.  Main result (`lineSegs_view`): seen as (text, italics, underline, boxing), the runs read are the runs
written with every stretch of adjacent *unstyled* runs joined into one run (`mergePlain`) — and nothing else
changes.  Consequences: equality under `Driver.STLD.mergeRuns` (the view the `stl.write` stream compares),
and exact equality when no two unstyled runs are adjacent.
-/

namespace Astisub
namespace C05
open Go STL

def runToks (r : RRun) : List Tok := r.preCodes.map Tok.code ++ (r.units.map Tok.unit ++ r.postCodes.map Tok.code)

def sepRun (r : RRun) : List Tok := Tok.unit spaceU :: runToks r

def lineToks : List RRun → List Tok
  | [] => []
  | r :: rs => runToks r ++ rs.flatMap sepRun

/-- **the runs both readers return for the line** (text trimmed, style as the readers keep it) -/
def lineSegs (l : List RRun) : List Seg := absEnd (absFold AS.init (lineToks l))

theorem joinN_cons (sep a : List Nat) (rs : List (List Nat)) : joinN sep (a :: rs) = a ++ rs.flatMap (sep ++ ·) := by
  induction rs generalizing a with
  | nil => simp [joinN]
  | cons b rs ih => rw [joinN, ih b]; simp [List.flatMap_cons]

theorem flatMap_code_bytes (cs : Bytes) : (cs.map Tok.code).flatMap Tok.bytes = cs := by
  simp [List.flatMap_map, Tok.bytes]

theorem flatMap_unit_bytes (us : List Unit) : (us.map Tok.unit).flatMap Tok.bytes = us.flatMap (·.bytes) := by
  simp [List.flatMap_map, Tok.bytes]

theorem runToks_bytes (r : RRun) : (runToks r).flatMap Tok.bytes = r.bytes := by
  unfold runToks RRun.bytes
  rw [List.flatMap_append, List.flatMap_append, flatMap_code_bytes, flatMap_code_bytes, flatMap_unit_bytes]

theorem lineToks_bytes (l : List RRun) : (lineToks l).flatMap Tok.bytes = lineBytes l := by
  cases l with
  | nil => rfl
  | cons r rs =>
    unfold lineBytes lineToks
    rw [List.map_cons, joinN_cons, List.flatMap_append, runToks_bytes]
    congr 1
    induction rs with
    | nil => rfl
    | cons r2 rs ih =>
      rw [List.flatMap_cons, List.flatMap_append, ih, List.map_cons, List.flatMap_cons]
      congr 1
      unfold sepRun
      rw [List.flatMap_cons, runToks_bytes]
      rfl

theorem runToks_ok (r : RRun) (h : ∀ u ∈ r.units, RepUnit u) : ∀ t ∈ runToks r, t.ok := by
  intro t ht
  unfold runToks at ht
  simp only [List.mem_append, List.mem_map] at ht
  rcases ht with ⟨c, hc, rfl⟩ | ⟨u, hu, rfl⟩ | ⟨c, hc, rfl⟩
  · exact r.preCodes_isCode c hc
  · exact h u hu
  · exact r.postCodes_isCode c hc

theorem lineToks_ok (l : List RRun) (h : ∀ r ∈ l, ∀ u ∈ r.units, RepUnit u) : ∀ t ∈ lineToks l, t.ok := by
  cases l with
  | nil => intro t ht; cases ht
  | cons r rs =>
    intro t ht
    unfold lineToks at ht
    rcases List.mem_append.mp ht with ht | ht
    · exact runToks_ok r (h r (by simp)) t ht
    · obtain ⟨r2, hr2, ht2⟩ := List.mem_flatMap.mp ht
      unfold sepRun at ht2
      rcases List.mem_cons.mp ht2 with rfl | ht2
      · exact spaceU_rep
      · exact runToks_ok r2 (h r2 (by simp [hr2])) t ht2

theorem str_append (a b : List Nat) : str (a ++ b) = str a ++ str b := by unfold str; simp

theorem absFold_units (us : List Unit) (a : AS) :
    absFold a (us.map Tok.unit) = { a with t := a.t ++ str (us.flatMap (·.text)) } := by
  induction us generalizing a with
  | nil => simp [absFold_nil, str]
  | cons u us ih =>
    rw [List.map_cons, absFold_cons, ih]
    simp [absStep, List.flatMap_cons, str_append]

theorem absFold_codes (c : Nat) (cs : List Nat) (a : AS) :
    absFold a ((c :: cs).map Tok.code) = { out := a.out ++ close a.t a.s, t := [], s := (c :: cs).foldl setO3 a.s } := by
  induction cs generalizing a c with
  | nil => rfl
  | cons c' cs ih =>
    rw [List.map_cons, absFold_cons, ih]
    simp [absStep, close_nil]

/-- the three style flags of a run as the writer takes them (italics, underline, boxing) -/
abbrev B3 := Bool × Bool × Bool
/-- no flag on: an unstyled run -/
def plain3 : B3 := (false, false, false)

/-- the effective style of a run: an attribute counts only when it is on -/
def eff (s : O3) : B3 := (s.1 == some true, s.2.1 == some true, s.2.2 == some true)

def RRun.flags (r : RRun) : B3 := (r.italics, r.underline, r.boxing)

theorem plain_codes (r : RRun) (h : r.flags = plain3) : r.preCodes = [] ∧ r.postCodes = [] := by
  obtain ⟨us, i, u, b⟩ := r
  simp only [RRun.flags, plain3, Prod.mk.injEq] at h
  obtain ⟨rfl, rfl, rfl⟩ := h
  exact ⟨rfl, rfl⟩

theorem styled_codes (r : RRun) (s : O3) (hs : eff s = plain3) (hst : r.flags ≠ plain3) :
    ∃ c cs d ds, r.preCodes = c :: cs ∧ r.postCodes = d :: ds ∧ eff ((c :: cs).foldl setO3 s) = r.flags ∧
      eff ((d :: ds).foldl setO3 ((c :: cs).foldl setO3 s)) = plain3 := by
  obtain ⟨us, i, u, b⟩ := r
  obtain ⟨s1, s2, s3⟩ := s
  simp only [eff, plain3, Prod.mk.injEq] at hs
  obtain ⟨h1, h2, h3⟩ := hs
  cases i <;> cases u <;> cases b <;>
    first
    | exact absurd rfl hst
    | exact ⟨_, _, _, _, rfl, rfl, by simp [eff, setO3, RRun.flags, h1, h2, h3], by simp [eff, setO3, plain3, h1, h2, h3]⟩

/-- trimmed and not empty -/
abbrev Tr (x : Str) : Prop := Edges isSpace x

/-- the pending text `t` trims to `body`: blank while `body` is empty, else blanks followed by `body` -/
def Inv1 (t body : Str) : Prop := (body = [] ∧ allP isSpace t) ∨ (Tr body ∧ ∃ p, allP isSpace p ∧ t = p ++ body)
/-- the same after the blank that separates two runs -/
def Inv2 (t body : Str) : Prop := (body = [] ∧ allP isSpace t) ∨ (Tr body ∧ ∃ p, allP isSpace p ∧ t = p ++ body ++ [' '])

theorem allP_space : allP isSpace [' '] := by intro c hc; simp at hc; subst hc; decide

theorem inv1_trim {t body : Str} (h : Inv1 t body) : trimSpace t = body := by
  rcases h with ⟨rfl, h⟩ | ⟨hb, p, hp, rfl⟩
  · exact trimBoth_all isSpace t h
  · have := trimBoth_pad isSpace (a := p) (b := []) hp (allP_nil _) hb.head hb.last
    rwa [List.append_nil] at this

theorem inv2_trim {t body : Str} (h : Inv2 t body) : trimSpace t = body := by
  rcases h with ⟨rfl, h⟩ | ⟨hb, p, hp, rfl⟩
  · exact trimBoth_all isSpace t h
  · exact trimBoth_pad isSpace hp allP_space hb.head hb.last

theorem inv1_sep {t body : Str} (h : Inv1 t body) : Inv2 (t ++ [' ']) body := by
  rcases h with ⟨rfl, h⟩ | ⟨hb, p, hp, rfl⟩
  · exact Or.inl ⟨rfl, allP_append h allP_space⟩
  · exact Or.inr ⟨hb, p, hp, rfl⟩

theorem inv2_plain {t body x : Str} (h : Inv2 t body) (hx : Tr x) :
    Inv1 (t ++ x) (if body = [] then x else body ++ ' ' :: x) := by
  rcases h with ⟨rfl, h⟩ | ⟨hb, p, hp, rfl⟩
  · rw [if_pos rfl]; exact Or.inr ⟨hx, t, h, rfl⟩
  · rw [if_neg hb.ne_nil]
    refine Or.inr ⟨?_, p, hp, by simp⟩
    have := Edges.append hb [' '] hx
    simpa using this

theorem close_inv (t body : Str) (s : O3) (h : trimSpace t = body) :
    close t s = if body = [] then [] else [(body, s)] := by
  unfold close; rw [h]

/-- `body`: the unstyled text collected so far (empty = none) -/
def mpAux (body : Str) : List (Str × B3) → List (Str × B3)
  | [] => if body = [] then [] else [(body, plain3)]
  | x :: rest =>
    if x.2 = plain3 then mpAux (if body = [] then x.1 else body ++ ' ' :: x.1) rest
    else (if body = [] then [] else [(body, plain3)]) ++ x :: mpAux [] rest

/-- **what reading does to the runs of a line**: every stretch of adjacent unstyled runs becomes one run, the
    texts joined by a blank (in the file nothing but that blank separates them); styled runs are kept -/
def mergePlain (l : List (Str × B3)) : List (Str × B3) := mpAux [] l

/-- a run as read, in the check's view: text and effective style -/
def ev (g : Seg) : Str × B3 := (g.1, eff g.2)
/-- a run as written, in the same view -/
def wv (r : RRun) : Str × B3 := (str r.text, r.flags)

theorem runStep_view (a : AS) (body : Str) (r : RRun) (hinv : Inv2 a.t body) (hs : eff a.s = plain3)
    (hx : Tr (str r.text)) :
    ∃ body', Inv1 (absFold a (runToks r)).t body' ∧ eff (absFold a (runToks r)).s = plain3 ∧
      ∀ rest, (absFold a (runToks r)).out.map ev ++ mpAux body' rest = a.out.map ev ++ mpAux body (wv r :: rest) := by
  -- an unstyled run has no codes: it only extends the pending text (`Inv2` → `Inv1`); a styled run closes the pending
  -- text with its style-on codes and itself with its style-off codes, leaving nothing pending and no flag on
  by_cases hp : r.flags = plain3
  · obtain ⟨e1, e2⟩ := plain_codes r hp
    have hf : absFold a (runToks r) = { a with t := a.t ++ str r.text } := by
      unfold runToks
      rw [e1, e2, List.map_nil, List.nil_append, List.append_nil, absFold_units]
      rfl
    rw [hf]
    refine ⟨_, inv2_plain hinv hx, hs, ?_⟩
    intro rest
    have : (wv r).2 = plain3 := hp
    rw [mpAux, if_pos this]
    rfl
  · obtain ⟨c, cs, d, ds, e1, e2, h1, h2⟩ := styled_codes r a.s hs hp
    have hf : absFold a (runToks r) =
        { out := a.out ++ close a.t a.s ++ close (str r.text) ((c :: cs).foldl setO3 a.s), t := [],
          s := (d :: ds).foldl setO3 ((c :: cs).foldl setO3 a.s) } := by
      unfold runToks
      rw [e1, e2, absFold_append, absFold_append, absFold_codes, absFold_units, absFold_codes]
      simp [RRun.text]
    rw [hf]
    refine ⟨[], Or.inl ⟨rfl, allP_nil _⟩, h2, ?_⟩
    intro rest
    have hw : (wv r).2 ≠ plain3 := hp
    have hc1 := close_inv a.t body a.s (inv2_trim hinv)
    have hc2 : close (str r.text) ((c :: cs).foldl setO3 a.s) = [(str r.text, (c :: cs).foldl setO3 a.s)] := by
      rw [close_inv _ (str r.text) _ (trimSpace_eq_self hx.head hx.last), if_neg hx.ne_nil]
    rw [mpAux, if_neg hw, hc1, hc2]
    simp only [List.map_append, List.append_assoc]
    congr 1
    simp only [List.foldl_cons] at h1
    by_cases hb : body = []
    · simp [hb, ev, wv, h1]
    · simp [hb, ev, wv, h1, hs]

theorem absFold_sep (a : AS) : absFold a [Tok.unit spaceU] = { a with t := a.t ++ [' '] } := rfl

theorem lineSegs_view_aux (rs : List RRun) (h : ∀ r ∈ rs, Tr (str r.text)) (a : AS) (body : Str)
    (hinv : Inv1 a.t body) (hs : eff a.s = plain3) :
    (absEnd (absFold a (rs.flatMap sepRun))).map ev = a.out.map ev ++ mpAux body (rs.map wv) := by
  induction rs generalizing a body with
  | nil =>
    simp only [List.flatMap_nil, absFold_nil, absEnd, List.map_nil, mpAux, List.map_append]
    rw [close_inv a.t body a.s (inv1_trim hinv)]
    by_cases hb : body = []
    · simp [hb]
    · simp [hb, ev, hs]
  | cons r rs ih =>
    have e : (r :: rs).flatMap sepRun = [Tok.unit spaceU] ++ (runToks r ++ rs.flatMap sepRun) := by
      rw [List.flatMap_cons]; rfl
    rw [e, absFold_append, absFold_append, absFold_sep]
    obtain ⟨body', hi', hs', hv⟩ := runStep_view { a with t := a.t ++ [' '] } body r (inv1_sep hinv) hs (h r (by simp))
    rw [ih (fun x hx => h x (by simp [hx])) _ body' hi' hs', List.map_cons]
    exact hv _

/-- **the runs read back, seen as (text, italics, underline, boxing)**: the runs written, with adjacent
    unstyled runs joined -/
theorem lineSegs_view (l : List RRun) (h : ∀ r ∈ l, Tr (str r.text)) :
    (lineSegs l).map ev = mergePlain (l.map wv) := by
  cases l with
  | nil => rfl
  | cons r rs =>
    unfold lineSegs lineToks mergePlain
    rw [absFold_append]
    obtain ⟨body', hi', hs', hv⟩ := runStep_view AS.init [] r (Or.inl ⟨rfl, allP_nil _⟩) rfl (h r (by simp))
    rw [lineSegs_view_aux rs (fun x hx => h x (by simp [hx])) _ body' hi' hs', List.map_cons]
    have := hv (rs.map wv)
    simpa [AS.init] using this

open Driver.STLD in
theorem mergeRuns_eq (a b : Str × B3) (rest : List (Str × B3)) (h : a.2 = b.2) :
    mergeRuns (a :: b :: rest) = mergeRuns ((a.1 ++ ' ' :: b.1, a.2) :: rest) := by
  rw [mergeRuns.eq_1, if_pos (by simp [h])]

open Driver.STLD in
theorem mergeRuns_ne (a b : Str × B3) (rest : List (Str × B3)) (h : a.2 ≠ b.2) :
    mergeRuns (a :: b :: rest) = a :: mergeRuns (b :: rest) := by
  rw [mergeRuns.eq_1, if_neg (by simpa using h)]

open Driver.STLD in
theorem mergeRuns_one (a : Str × B3) : mergeRuns [a] = [a] := by
  rw [mergeRuns.eq_2]; intro a b rest h; simp at h

open Driver.STLD in
theorem mergeRuns_nil : mergeRuns ([] : List (Str × B3)) = [] := by
  rw [mergeRuns.eq_2]; intro a b rest h; simp at h

open Driver.STLD in
theorem mergeRuns_tail (l : List (Str × B3)) : ∀ x : Str × B3, mergeRuns (x :: l) = mergeRuns (x :: mergeRuns l) := by
  induction l using mergeRuns.induct with
  | case1 b c rest hbc ih =>
    intro x
    have hbc' : b.2 = c.2 := by simpa using hbc
    rw [mergeRuns_eq b c rest hbc', ← ih x]
    by_cases hxb : x.2 = b.2
    · rw [mergeRuns_eq x b _ hxb, mergeRuns_eq _ c rest (by simpa [hxb] using hbc'), mergeRuns_eq x (b.1 ++ ' ' :: c.1, b.2) rest hxb]
      simp
    · rw [mergeRuns_ne x b _ hxb, mergeRuns_eq b c rest hbc', mergeRuns_ne x (b.1 ++ ' ' :: c.1, b.2) rest hxb]
  | case2 b c rest hbc ih =>
    intro x
    have hbc' : b.2 ≠ c.2 := by simpa using hbc
    rw [mergeRuns_ne b c rest hbc']
    by_cases hxb : x.2 = b.2
    · rw [mergeRuns_eq x b _ hxb, mergeRuns_eq x b _ hxb, ← ih _]
    · rw [mergeRuns_ne x b _ hxb, mergeRuns_ne x b _ hxb, ← ih b]
  | case3 l h =>
    intro x
    rw [mergeRuns.eq_2 l h]

open Driver.STLD in
theorem mergeRuns_congr (x : Str × B3) (l l' : List (Str × B3)) (h : mergeRuns l = mergeRuns l') :
    mergeRuns (x :: l) = mergeRuns (x :: l') := by
  rw [mergeRuns_tail l x, h, ← mergeRuns_tail l' x]

open Driver.STLD in
theorem mergeRuns_mpAux (l : List (Str × B3)) (hne : ∀ x ∈ l, x.1 ≠ []) (body : Str) :
    mergeRuns (mpAux body l) = mergeRuns ((if body = [] then [] else [(body, plain3)]) ++ l) := by
  induction l generalizing body with
  | nil => simp [mpAux]
  | cons x rest ih =>
    have hx := hne x (by simp)
    have hrest : ∀ y ∈ rest, y.1 ≠ [] := fun y hy => hne y (by simp [hy])
    obtain ⟨xt, xs⟩ := x
    rw [mpAux]
    by_cases hp : xs = plain3
    · subst hp
      rw [if_pos rfl, ih hrest]
      by_cases hb : body = []
      · simp only [hb, if_true, List.nil_append]
        rw [if_neg hx]; rfl
      · simp only [hb, if_false]
        rw [if_neg (by simp), List.singleton_append, List.singleton_append, mergeRuns_eq (body, plain3) (xt, plain3) rest rfl]
    · rw [if_neg hp]
      have hcons : mergeRuns ((xt, xs) :: mpAux [] rest) = mergeRuns ((xt, xs) :: rest) := by
        apply mergeRuns_congr
        rw [ih hrest]; simp
      by_cases hb : body = []
      · simp only [hb, if_true, List.nil_append]
        exact hcons
      · simp only [hb, if_false, List.singleton_append]
        have hne' : (body, plain3).2 ≠ (xt, xs).2 := fun e => hp e.symm
        rw [mergeRuns_ne _ _ _ hne', mergeRuns_ne _ _ _ hne', hcons]

open Driver.STLD in
theorem mergeRuns_mergePlain (l : List (Str × B3)) (hne : ∀ x ∈ l, x.1 ≠ []) :
    mergeRuns (mergePlain l) = mergeRuns l := by
  unfold mergePlain
  rw [mergeRuns_mpAux l hne]; simp

/-- no two adjacent runs are both unstyled (in particular: adjacent runs differ in style) -/
def noAdjPlain : List (Str × B3) → Bool
  | a :: b :: rest => !(a.2 == plain3 && b.2 == plain3) && noAdjPlain (b :: rest)
  | _ => true

theorem mpAux_id (l : List (Str × B3)) (hne : ∀ x ∈ l, x.1 ≠ []) (h : noAdjPlain l = true) (body : Str)
    (hh : body ≠ [] → ∀ x, l.head? = some x → x.2 ≠ plain3) :
    mpAux body l = (if body = [] then [] else [(body, plain3)]) ++ l := by
  induction l generalizing body with
  | nil => simp [mpAux]
  | cons x rest ih =>
    have hr : noAdjPlain rest = true := by
      cases rest with
      | nil => rfl
      | cons y ys => simp only [noAdjPlain, Bool.and_eq_true] at h; exact h.2
    have ih' := ih (fun y hy => hne y (by simp [hy])) hr
    rw [mpAux]
    split
    · rename_i hp
      have hb : body = [] := Classical.byContradiction fun hb => hh hb x rfl hp
      subst hb
      rw [if_pos rfl, if_pos rfl, ih' x.1 fun _ y hy => ?_, if_neg (hne x (by simp)), ← hp]
      · rfl
      · cases rest with
        | nil => cases hy
        | cons z zs =>
          obtain rfl : z = y := by simpa using hy
          simp only [noAdjPlain, Bool.and_eq_true, Bool.not_eq_true', Bool.and_eq_false_iff, beq_eq_false_iff_ne] at h
          exact h.1.resolve_left (fun h' => h' hp)
    · rw [ih' [] (fun e => absurd rfl e)]; rfl

theorem mergePlain_id (l : List (Str × B3)) (hne : ∀ x ∈ l, x.1 ≠ []) (h : noAdjPlain l = true) : mergePlain l = l :=
  (mpAux_id l hne h [] fun e => absurd rfl e).trans (by rfl)

end C05
end Astisub
