import Astisub.Lemmas.STLRead2Tele
import Astisub.Lemmas.STLRead2Gsi

/-!
# Lemmas/STLRead2File — TTI blocks and whole files, for every file the decoder accepts, under any display standard

What the decoder's acceptance of a block says (`tti_inv`), the rows of a text field (`rows_agree`: the pending diacritic
of the model is `none` at every row boundary because the decoder demands a letter right after a floating diacritic), one
128-byte block (`tti_agree`), the block loop, and `read_of_decode`:
`STL.read ig doc = .ok (docMeta d, d.cues.map (docCue d.dsc d.mnr))`.
-/

namespace Astisub
namespace C05
open Go STL

/-- the line item the library reader builds for a run of an open-subtitling row -/
def openItem (r : Spec.STL.Run) : LItem := itemOf (segOf r)

theorem openItem_runOf (g : Seg) : openItem (runOf g) = itemOf g := rfl

/-- a run as open-subtitling rows produce them: no teletext attribute, no blank count -/
def OpenRun (r : Spec.STL.Run) : Prop :=
  r.color = none ∧ r.dh = none ∧ r.ds = none ∧ r.dw = none ∧ r.spacesBefore = 0 ∧ r.spacesAfter = 0

instance (r : Spec.STL.Run) : Decidable (OpenRun r) := by unfold OpenRun; infer_instance

theorem openRun_runOf (g : Seg) : OpenRun (runOf g) := ⟨rfl, rfl, rfl, rfl, rfl, rfl⟩

theorem runOf_segOf (r : Spec.STL.Run) (h : OpenRun r) : runOf (segOf r) = r := by
  obtain ⟨h1, h2, h3, h4, h5, h6⟩ := h
  cases r
  simp only at h1 h2 h3 h4 h5 h6
  subst h1 h2 h3 h4 h5 h6
  rfl

theorem slice_four (b : Bytes) (lo : Nat) (h : lo + 3 < b.length) :
    slice b lo (lo + 4) = [b.getD lo 0, b.getD (lo + 1) 0, b.getD (lo + 2) 0, b.getD (lo + 3) 0] := by
  rw [← sl_eq_slice, show (4 : Nat) = 2 + 2 from rfl, sl_add, sl_two b lo (by omega), sl_two b (lo + 2) (by omega)]
  rfl

theorem slice_text (p : Bytes) (h : p.length = 128) : slice p 16 128 = p.drop 16 := by
  unfold slice
  exact List.take_of_length_le (by simp [h])

theorem tti_inv (fr dsc : Nat) (off : Int) (p : Bytes) (r : Option Spec.STL.Cue) (h : Spec.STL.tti fr dsc off p = some r) :
    p.length = 128 ∧
      if (p.getD 3 0 == 0xFE) = true then r = none
      else p.getD 14 0 ≤ 3 ∧ ∃ ls,
        Spec.STL.mapM (fun r => if dsc == 0 then Spec.STL.openRow r {} [] [] else Spec.STL.teleRow r {} 0 [] [])
          (Spec.STL.splitAt8A (p.drop 16)) = some ls ∧
        r = some { startNs := Spec.STL.instant fr (p.getD 5 0) (p.getD 6 0) (p.getD 7 0) (p.getD 8 0) - off,
                   endNs := Spec.STL.instant fr (p.getD 9 0) (p.getD 10 0) (p.getD 11 0) (p.getD 12 0) - off,
                   just := p.getD 14 0, vp := p.getD 13 0, nrows := (Spec.STL.splitAt8A (p.drop 16)).length,
                   lines := ls.filter fun l => !l.isEmpty } := by
  unfold Spec.STL.tti at h
  obtain ⟨hlen, h⟩ := Option.ite_none_left_eq_some.mp h
  refine ⟨Decidable.not_not.mp hlen, ?_⟩
  rcases ite_inv h with ⟨hfe, h⟩ | ⟨hfe, h⟩
  · rw [if_pos hfe]; exact (Option.some.inj h).symm
  rw [if_neg hfe]
  simp only at h
  obtain ⟨-, h⟩ := Option.ite_none_left_eq_some.mp h
  obtain ⟨hj, h⟩ := Option.ite_none_left_eq_some.mp h
  cases hrows : Spec.STL.mapM (fun r => if dsc == 0 then Spec.STL.openRow r {} [] [] else Spec.STL.teleRow r {} 0 [] [])
      (Spec.STL.splitAt8A (p.drop 16)) with
  | none => rw [hrows] at h; cases h
  | some ls => rw [hrows] at h; exact ⟨Nat.le_of_not_gt hj, ls, rfl, (Option.some.inj h).symm⟩

theorem chunks_nil (n fuel : Nat) : chunks n fuel [] = [] := by
  cases fuel <;> rfl

theorem chunks_cons (n fuel : Nat) (x : Nat) (xs : Bytes) :
    chunks n (fuel + 1) (x :: xs) = (x :: xs).take n :: chunks n fuel ((x :: xs).drop n) := rfl

theorem chunks_fuel_eq (n : Nat) (hn : 0 < n) : ∀ (f g : Nat) (b : Bytes), b.length ≤ f → b.length ≤ g →
    chunks n f b = chunks n g b
  | _, _, [], _, _ => by rw [chunks_nil, chunks_nil]
  | 0, _, _ :: _, hf, _ => absurd hf (Nat.not_succ_le_zero _)
  | _, 0, _ :: _, _, hg => absurd hg (Nat.not_succ_le_zero _)
  | f + 1, g + 1, x :: xs, hf, hg => by
    have hd : ((x :: xs).drop n).length ≤ xs.length := by rw [List.length_drop, List.length_cons]; omega
    rw [chunks_cons, chunks_cons, chunks_fuel_eq n hn f g _ (Nat.le_trans hd (Nat.le_of_succ_le_succ hf))
      (Nat.le_trans hd (Nat.le_of_succ_le_succ hg))]

/-- the metadata the reader model returns, as a function of the denotation -/
def docMeta (d : Spec.STL.Doc) : Meta :=
  { framerate := (d.fr : Int), language := (languageOf d.lang).getD [], country := d.texts.getD 7 [],
    creation := some { yy := d.cd.1, mm := d.cd.2.1, dd := d.cd.2.2 }, dsc := [0x30 + d.dsc],
    editorContact := d.texts.getD 10 [], editorName := d.texts.getD 9 [], maxChars := some (d.mnc : Int),
    maxRows := some (d.mnr : Int), origEpisode := d.texts.getD 1 [], publisher := d.texts.getD 8 [],
    revisionDate := some { yy := d.rd.1, mm := d.rd.2.1, dd := d.rd.2.2 }, revisionNumber := (d.rn : Int),
    slr := d.texts.getD 6 [], tcp := d.tcpNs, translEpisode := d.texts.getD 3 [], translProgram := d.texts.getD 2 [],
    translContact := d.texts.getD 5 [], translName := d.texts.getD 4 [], title := d.texts.getD 0 [] }

/-- the line item the library reader builds for a run: by the row parser of the display standard -/
def runItem (dsc : Nat) (r : Spec.STL.Run) : LItem := if dsc = 0 then openItem r else teleItem r

/-- the cue the library reader builds for a cue the decoder denotes -/
def docCue (dsc : Nat) (mnr : Int) (c : Spec.STL.Cue) : CItem :=
  { startAt := c.startNs, endAt := c.endNs, attrs := itemAttrs c.just c.vp mnr c.nrows,
    lines := c.lines.map fun l => { items := l.map (runItem dsc) } }

theorem runItem_tele (dsc : Nat) (h : dsc ≠ 0) : runItem dsc = teleItem := by
  funext r; unfold runItem; rw [if_neg h]

theorem row_agree (dsc : Nat) (row : Bytes) (x : List Spec.STL.Run)
    (h : (if dsc == 0 then Spec.STL.openRow row {} [] [] else Spec.STL.teleRow row {} 0 [] []) = some x) :
    (if (dsc == 0) = true then STL.openRow none row else some (STL.teleRow none row))
      = some (if x.isEmpty then none else some { items := x.map (runItem dsc) }, none) := by
  by_cases hd : dsc = 0
  · subst hd
    obtain ⟨segs, rfl, hm⟩ := open_row_agree row x h
    rw [if_pos (beq_self_eq_true 0), hm, List.isEmpty_map, List.map_map]
    rfl
  · have hd0 : ¬ (dsc == 0) = true := by simpa using hd
    rw [if_neg hd0] at h ⊢
    rw [tele_row_agree row x h, runItem_tele dsc hd]

theorem rows_agree (dsc : Nat) : ∀ (rows : List Bytes) (ls : List (List Spec.STL.Run)),
    Spec.STL.mapM (fun r => if dsc == 0 then Spec.STL.openRow r {} [] [] else Spec.STL.teleRow r {} 0 [] []) rows = some ls →
    rowsFold (dsc == 0) none rows =
      some ((ls.filter fun l => !l.isEmpty).map (fun l => ({ items := l.map (runItem dsc) } : Line)), none)
  | [], ls, h => by
    rw [Spec.STL.isMapM.nil_inv h]
    rfl
  | r :: rs, ls, h => by
    obtain ⟨x, xs, h1, h2, rfl⟩ := Spec.STL.isMapM.cons_inv h
    simp only [rowsFold, row_agree dsc r x h1, rows_agree dsc rs xs h2]
    cases x <;> rfl

theorem tti_agree (g : GSI) (fr dsc : Nat) (off : Int) (p : Bytes) (r : Option Spec.STL.Cue)
    (hfr : g.m.framerate = (fr : Int)) (hpos : 0 < fr) (hdsc : g.m.dsc = [0x30 + dsc])
    (h : Spec.STL.tti fr dsc off p = some r) :
    ttiItem g off none p = some (r.map (docCue dsc (g.m.maxRows.getD 0)), none) := by
  obtain ⟨hlen, hr⟩ := tti_inv fr dsc off p r h
  unfold ttiItem
  split at hr
  · rename_i hfe
    rw [if_pos hfe, hr]
    rfl
  · rename_i hfe
    obtain ⟨_, ls, hrows, rfl⟩ := hr
    have e3 : (g.m.dsc == [0x30]) = (dsc == 0) := by
      rw [hdsc]
      cases dsc <;> simp
    rw [if_neg hfe]
    simp only
    rw [slice_four p 5 (by omega), slice_four p 9 (by omega), hfr, parse_instant _ _ _ _ fr hpos,
      parse_instant _ _ _ _ fr hpos, slice_text p hlen, ← splitAt8A_eq, e3, rows_agree dsc _ ls hrows]
    rfl

theorem ttiFold_agree (g : GSI) (fr dsc : Nat) (off : Int) (hfr : g.m.framerate = (fr : Int)) (hpos : 0 < fr)
    (hdsc : g.m.dsc = [0x30 + dsc]) : ∀ (ps : List Bytes) (cs : List (Option Spec.STL.Cue)),
    Spec.STL.mapM (Spec.STL.tti fr dsc off) ps = some cs →
    ttiFold g off none ps = some ((cs.filterMap id).map (docCue dsc (g.m.maxRows.getD 0)))
  | [], cs, h => by
    rw [Spec.STL.isMapM.nil_inv h]
    rfl
  | p :: ps, cs, h => by
    obtain ⟨x, xs, h1, h2, rfl⟩ := Spec.STL.isMapM.cons_inv h
    simp only [ttiFold, tti_agree g fr dsc off p x hfr hpos hdsc h1, ttiFold_agree g fr dsc off hfr hpos hdsc ps xs h2]
    cases x <;> rfl

theorem read_of_decode (ig : Bool) (doc : Bytes) (d : Spec.STL.Doc) (h : Spec.STL.decode ig doc = some d) :
    STL.read ig doc = .ok (docMeta d, d.cues.map (docCue d.dsc (d.mnr : Int))) := by
  have D := decode_inv ig doc d h
  have hlen := D.len
  have hmod := D.whole
  obtain ⟨tcp, hg, hoff, hfr⟩ := D.gsi
  obtain ⟨cs, hcs, hcues⟩ := D.blocks
  have hpos : 0 < d.fr := by rcases hfr with e | e <;> omega
  generalize hG : gsiOfSpec d.fr d.dsc d.lang d.texts d.cd d.rd d.rn d.mnc d.mnr tcp = G at hg
  -- `gsiOfSpec … .m` and `docMeta d` are the same record of `d`'s values, up to the programme start
  have hm : (if ig then { G.m with tcp := 0 } else G.m) = docMeta d := by
    rw [← hG]
    unfold gsiOfSpec docMeta
    rw [hoff]
    cases ig <;> rfl
  -- the decoder cuts the blocks with the file length as fuel, the model with the length of the rest + 1
  have hblocks : chunks 128 ((doc.drop 1024).length + 1) (doc.drop 1024)
      = Spec.STL.blocks doc.length (doc.drop 1024) := by
    rw [blocks_eq_chunks]
    exact chunks_fuel_eq 128 (by decide) _ _ _ (by omega) (by simp)
  have hfold := ttiFold_agree G d.fr d.dsc d.tcpNs (by rw [← hG]; rfl) hpos (by rw [← hG]; rfl) _ cs hcs
  have hGmr : G.m.maxRows.getD 0 = (d.mnr : Int) := by rw [← hG]; rfl
  unfold STL.read
  rw [if_neg (by omega), hg]
  simp only
  rw [hm, hblocks, show (docMeta d).tcp = d.tcpNs from rfl, hfold]
  simp only
  rw [if_neg (by rw [List.length_drop]; omega), hGmr, hcues]

end C05
end Astisub
