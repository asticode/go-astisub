import Astisub.Lemmas.F53Rnd

/-!
# Lemmas/C16FRnd — the roundings of the timestamp writers never cross an integer

Facts about `F53.rnd` alone: neither the two divisions of the fraction field of `formatDuration` (`floor_two_div`)
nor the division and addition of `Duration.Hours()`, `.Minutes()`, `.Seconds()` (`add_div_range`) reach the next
integer. From below both rest on `rnd_ge_int` (rounding never crosses an integer of magnitude at most 2⁵³); from above
`floor_two_div` on `rnd_le_add`, `add_div_range` on `rnd_err_lt_pow` at `2¹²`: half an ulp below 4096 is `2⁻⁴²`, less than
the `2.7·10⁻¹³` by which `r / D` stays short of 1, and that is what makes 4096 the limit.
-/

namespace Astisub
namespace F53

/-- a quotient that is `10⁻⁶ / k` short of the next integer stays `10⁻⁹` short of it when its
    numerator is `ε = 1000 / 2⁵³` too large -/
theorem two_div_core {x k q a : ℚ} (hk1 : 1 ≤ k) (hk : k ≤ 1000) (hhi : x ≤ (q + 1) * k - 1 / 1000000)
    (halo : q * k ≤ a) (hahi : a ≤ x + 1000 / 2 ^ 53) :
    q ≤ a / k ∧ a / k ≤ q + 1 - 1 / 1000000000 + 1000 / 2 ^ 53 := by
  have hkpos : 0 < k := by linarith
  rw [le_div_iff₀ hkpos, div_le_iff₀ hkpos]
  exact ⟨halo, by linarith⟩

/-- **Two divisions.** For `0 ≤ n < 10⁹` and `1 ≤ k ≤ 1000` the floor of the twice-rounded
    quotient `(n / 10⁶) / k` is the integer quotient `n / (10⁶·k)`: the exact quotient is at least
    `10⁻⁹` below the next integer, the two roundings move it by less than `2.3·10⁻¹³`. -/
theorem floor_two_div (n k : ℤ) (hn0 : 0 ≤ n) (hn : n < 1000000000) (hk1 : 1 ≤ k) (hk : k ≤ 1000) :
    ⌊rnd (rnd ((n : ℚ) / 1000000) / (k : ℚ))⌋ = n / (1000000 * k) := by
  have hD : 0 < 1000000 * k := by omega
  have h1 : n / (1000000 * k) * (1000000 * k) ≤ n := Int.ediv_mul_le n (ne_of_gt hD)
  have h2 : n < (n / (1000000 * k) + 1) * (1000000 * k) := Int.lt_ediv_add_one_mul_self n hD
  have hq0 : 0 ≤ n / (1000000 * k) := Int.ediv_nonneg hn0 (le_of_lt hD)
  generalize n / (1000000 * k) = q at h1 h2 hq0 ⊢
  rw [show q * (1000000 * k) = 1000000 * (q * k) by ring] at h1
  rw [show (q + 1) * (1000000 * k) = 1000000 * (q * k) + 1000000 * k by ring] at h2
  have hqk0 : 0 ≤ q * k := Int.mul_nonneg hq0 (by omega)
  have hq999 : q ≤ 999 := by
    have := le_mul_of_one_le_right hq0 hk1
    omega
  -- `x = n / 10⁶` lies in `[q k, (q + 1) k - 10⁻⁶]`; `a = rnd x` is within `ε` above it, not below `q k`
  have hx0 : (0 : ℚ) ≤ (n : ℚ) / 1000000 := div_nonneg (by exact_mod_cast hn0) (by norm_num)
  have hx1000 : (n : ℚ) / 1000000 ≤ 1000 := by
    rw [div_le_iff₀ (by norm_num)]; exact_mod_cast (by omega : n ≤ 1000 * 1000000)
  have hxlo : ((q * k : ℤ) : ℚ) ≤ (n : ℚ) / 1000000 := by
    rw [le_div_iff₀ (by norm_num)]; exact_mod_cast (by omega : q * k * 1000000 ≤ n)
  have hxhi : (n : ℚ) / 1000000 ≤ ((q : ℚ) + 1) * (k : ℚ) - 1 / 1000000 := by
    rw [div_le_iff₀ (by norm_num)]
    have : ((n + 1 : ℤ) : ℚ) ≤ ((1000000 * (q * k) + 1000000 * k : ℤ) : ℚ) := by exact_mod_cast (by omega)
    push_cast at this; linarith
  have halo := rnd_ge_int (q * k) (by rw [abs_of_nonneg hqk0]; omega) hxlo
  have hahi := rnd_le_add hx0 hx1000
  push_cast at halo
  obtain ⟨hylo, hyhi⟩ := two_div_core (by exact_mod_cast hk1) (by exact_mod_cast hk) hxhi halo hahi
  generalize rnd ((n : ℚ) / 1000000) / (k : ℚ) = y at hylo hyhi ⊢
  -- `b = rnd y` likewise
  have hε : (1000 : ℚ) / 2 ^ 53 + 1000 / 2 ^ 53 < 1 / 1000000000 := by norm_num
  have hq0' : (0 : ℚ) ≤ q := by exact_mod_cast hq0
  have hq999' : (q : ℚ) ≤ 999 := by exact_mod_cast hq999
  have hbhi := rnd_le_add (le_trans hq0' hylo) (by linarith : y ≤ 1000)
  rw [Int.floor_eq_iff]
  exact ⟨rnd_ge_int q (by rw [abs_of_nonneg hq0]; omega) hylo, by linarith⟩

/-- **Quotient plus rounded remainder fraction.** For an integer `0 ≤ q < 4096` and a remainder
    `0 ≤ r < D ≤ 3.6·10¹²`, the double `rnd (q + rnd (r / D))` lies in `[q, q+1)`: `r / D` is at
    least `2.7·10⁻¹³` below 1, the inner rounding moves it by at most `1.2·10⁻¹⁶`, the outer one by at
    most half an ulp of a number below 4096, `2⁻⁴² ≈ 2.27·10⁻¹³`. -/
theorem add_div_range (q r D : ℤ) (hq0 : 0 ≤ q) (hq : q < 4096) (hr0 : 0 ≤ r) (hr : r < D)
    (hD : D ≤ 3600000000000) :
    (q : ℚ) ≤ rnd ((q : ℚ) + rnd ((r : ℚ) / (D : ℚ))) ∧
      rnd ((q : ℚ) + rnd ((r : ℚ) / (D : ℚ))) < (q : ℚ) + 1 := by
  have hDpos : (0 : ℚ) < D := by exact_mod_cast (by omega : 0 < D)
  have hDQ : (D : ℚ) ≤ 3600000000000 := by exact_mod_cast hD
  have hrD : (r : ℚ) + 1 ≤ D := by exact_mod_cast (by omega : r + 1 ≤ D)
  have hz0 : (0 : ℚ) ≤ (r : ℚ) / D := div_nonneg (by exact_mod_cast hr0) hDpos.le
  have hz1 : (r : ℚ) / D ≤ 1 - 1 / 3600000000000 := by
    rw [div_le_iff₀ hDpos]; linarith
  have hf0 := rnd_nonneg hz0
  have hf1 := rnd_le_add hz0 (by linarith : (r : ℚ) / D ≤ 1)
  generalize rnd ((r : ℚ) / D) = f at hf0 hf1
  have hq0' : (0 : ℚ) ≤ q := by exact_mod_cast hq0
  have hq' : (q : ℚ) + 1 ≤ 4096 := by exact_mod_cast (by omega : q + 1 ≤ 4096)
  have h53 : (2 : ℚ) ^ ((12 : ℤ) - 53) / 2 + 1 / 2 ^ 53 < 1 / 3600000000000 := by norm_num
  refine ⟨rnd_ge_int q (by rw [abs_of_nonneg hq0]; omega) (by linarith), ?_⟩
  have h12 : |(q : ℚ) + f| < 2 ^ (12 : ℤ) := by
    rw [abs_of_nonneg (by linarith)]; norm_num; linarith
  linarith [(abs_le.mp (rnd_err_lt_pow h12)).2]

theorem lt_intCast_iff {y : ℚ} {q c : ℤ} (h1 : (q : ℚ) ≤ y) (h2 : y < (q : ℚ) + 1) : y < (c : ℚ) ↔ q < c := by
  constructor
  · intro h; exact_mod_cast lt_of_le_of_lt h1 h
  · intro h
    have : (q : ℚ) + 1 ≤ (c : ℚ) := by exact_mod_cast (show q + 1 ≤ c by omega)
    linarith

end F53
end Astisub
