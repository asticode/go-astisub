import Astisub.Lemmas.SSAW2Denote
import Astisub.Lemmas.SSAW2Info
import Astisub.Lemmas.Lines

/-!
# Lemmas/SSAW2CR — the written document contains no carriage return

The decoder (`Spec.SSA.splitLines`) cuts lines at `\r` as well as at `\n`, so "the lines of the written text are
the writer's lines" needs: no `\r` anywhere in `write s`.  The predicates `StyleCR`, `EventCR`, `InfoCR` follow from the
clauses of `Spec.SSA.denote` except for the override blocks of the cue lines (`wellFormedBlock` only excludes braces, so
`{\r}` is a block `denote` accepts): `out_no_cr_Statement`, the claim without a hypothesis on the lines, is false (`out_no_cr_false`), and
`out_no_cr` carries the explicit hypothesis `∀ it ∈ s.items, ∀ l ∈ it.lines, '\r' ∉ lineWhole l`.
-/

namespace Astisub
namespace SSAW
open Go SSA SSAR List
open Spec.SSA (GVal GStyle GRun GEvent GDoc REvent)

/-- a string value without carriage return (other values never have one) -/
def ValCR : Val → Prop
  | .s str => '\r' ∉ str
  | _ => True

instance : (v : Val) → Decidable (ValCR v)
  | .s str => inferInstanceAs (Decidable ('\r' ∉ str))
  | .b _ => isTrue trivial
  | .c _ => isTrue trivial
  | .f _ => isTrue trivial
  | .i _ => isTrue trivial

/-- neither the name nor the font name of the style contains a carriage return -/
def StyleCR (s : Style) : Prop := '\r' ∉ s.name ∧ ∀ f ∈ Fld.all, ∀ v, s.vals.get f = some v → ValCR v

instance (s : Style) : Decidable (StyleCR s) :=
  inferInstanceAs (Decidable ('\r' ∉ s.name ∧ ∀ f ∈ Fld.all, ∀ v, s.vals.get f = some v → ValCR v))

/-- no text column of the event contains a carriage return -/
def EventCR (e : Event) : Prop := '\r' ∉ e.style ∧ '\r' ∉ e.name ∧ '\r' ∉ e.effect ∧ '\r' ∉ e.text

instance (e : Event) : Decidable (EventCR e) :=
  inferInstanceAs (Decidable ('\r' ∉ e.style ∧ '\r' ∉ e.name ∧ '\r' ∉ e.effect ∧ '\r' ∉ e.text))

/-- neither a comment nor a string value of the script info contains a carriage return -/
def InfoCR (b : Info) : Prop := (∀ c ∈ b.comments, '\r' ∉ c) ∧ ∀ f ∈ SI.all, ∀ v, b.vals.get f = some v → ValCR v

instance (b : Info) : Decidable (InfoCR b) :=
  inferInstanceAs (Decidable ((∀ c ∈ b.comments, '\r' ∉ c) ∧ ∀ f ∈ SI.all, ∀ v, b.vals.get f = some v → ValCR v))

theorem cr_lineBreak : LineBreak '\r' := ⟨rfl, by decide⟩

theorem out_no_cr_of (s : Subs) (out : Str) (hw : write s = .ok out)
    (hi : InfoCR (infoOfMeta s.metadata)) (hs : ∀ st ∈ writerStyles s, StyleCR st)
    (he : ∀ e ∈ s.items.map eventOfItem, EventCells e ∧ EventCR e) : '\r' ∉ out := by
  obtain ⟨rows, hrows, rfl⟩ := written_lines s out hw
  exact cr_not_mem_lfLines (docLinesW_not_mem cr_lineBreak s rows hrows hi.1
    (fun f _ hg => hi.2 f (C04.si_all_complete f) _ hg)
    (fun st hst => ⟨(hs st hst).1, fun f _ hg => (hs st hst).2 f (C04.fld_all_complete f) _ hg⟩) he)

theorem any_cr_false {s : Str} {p : Char → Bool} (hp : p '\r' = true) (h : s.any p = false) : '\r' ∉ s := by
  intro hm
  have := List.any_eq_true.mpr ⟨'\r', hm, hp⟩
  rw [h] at this
  cases this

theorem cleanValue_cr {s : Str} (h : Spec.SSA.cleanValue s = true) : '\r' ∉ s := by
  unfold Spec.SSA.cleanValue at h
  simp only [Bool.and_eq_true, Bool.not_eq_true'] at h
  exact any_cr_false (by decide) h.2

theorem cleanField_cr {s : Str} (h : Spec.SSA.cleanField s = true) : '\r' ∉ s := by
  unfold Spec.SSA.cleanField at h
  simp only [Bool.and_eq_true, Bool.not_eq_true'] at h
  exact any_cr_false (by decide) h.2

theorem cleanText_cr {s : Str} (h : Spec.SSA.cleanText s = true) : '\r' ∉ s := by
  unfold Spec.SSA.cleanText at h
  simp only [Bool.and_eq_true, Bool.not_eq_true'] at h
  exact any_cr_false (by decide) h.1.1

theorem meta_cr (s : Subs) (h : metaOkB s = true) : InfoCR (infoOfMeta s.metadata) := by
  unfold metaOkB at h
  rw [Bool.and_eq_true] at h
  obtain ⟨hv, hc⟩ := h
  constructor
  · intro c hcm
    have e : (infoOfMeta s.metadata).comments =
        match SSA.kvGet s.metadata "Comments" with | some c => splitC '\n' c | none => [] := rfl
    rw [e] at hcm
    rw [spec_kvGet_eq] at hc
    cases hk : SSA.kvGet s.metadata "Comments" with
    | none => rw [hk] at hcm; cases hcm
    | some c0 =>
      rw [hk] at hcm hc
      exact cleanValue_cr (List.all_eq_true.mp hc c hcm)
  · intro f _ v hget
    cases v with
    | s str =>
      obtain ⟨hkind, hk⟩ := siTab.ofAttrs_str s.metadata f str hget
      have hmem : (f.header, f.key, gk f.kind) ∈ Spec.SSA.infoTable := by
        rw [infoTable_eq]
        exact mem_map_of_mem (C04.si_all_complete f)
      have := List.all_eq_true.mp hv _ hmem
      simp only [spec_kvGet_eq, show SSA.kvGet s.metadata f.key = some str from hk, show f.kind = .str from hkind] at this
      have hcv : Spec.SSA.cleanValue str = true := by simpa [gk] using this
      exact cleanValue_cr hcv
    | b _ => trivial
    | c _ => trivial
    | f _ => trivial
    | i _ => trivial

theorem fld_kind_str {f : Fld} (h : f.kind = .str) : f = .fontName := by
  cases f <;> first | rfl | (simp [Fld.kind] at h)

theorem style_cr (d : Def) (h : styleOkB d = true) : StyleCR (styleOfDef d) := by
  unfold styleOkB at h
  simp only [Bool.and_eq_true] at h
  obtain ⟨⟨⟨hid, _⟩, hfont⟩, _⟩ := h
  constructor
  · exact cleanField_cr hid
  · intro f _ v hget
    cases v with
    | s str =>
      obtain ⟨hkind, hk⟩ := fldTab.ofAttrs_str d.attrs f str hget
      obtain rfl := fld_kind_str hkind
      rw [spec_kvGet_eq, show SSA.kvGet d.attrs "SSAFontName" = some str from hk] at hfont
      exact cleanField_cr hfont
    | b _ => trivial
    | c _ => trivial
    | f _ => trivial
    | i _ => trivial

theorem voice_fold_mem {c : Char} : ∀ (ls : List Line) (n : Str),
    c ∈ ls.foldl (fun n l => if l.voice.isEmpty then n else l.voice) n → c ∈ n ∨ ∃ l ∈ ls, c ∈ l.voice := by
  intro ls
  induction ls with
  | nil => intro n h; exact Or.inl h
  | cons l ls ih =>
    intro n h
    rw [foldl_cons] at h
    rcases ih _ h with h | ⟨l', hl', hc⟩
    · by_cases he : l.voice.isEmpty = true
      · rw [if_pos he] at h
        exact Or.inl h
      · rw [if_neg he] at h
        exact Or.inr ⟨l, by simp, h⟩
    · exact Or.inr ⟨l', mem_cons_of_mem _ hl', hc⟩

theorem cr_eventOfItem_text (it : CItem) : (eventOfItem it).text = join "\\n".toList (it.lines.map lineWhole) := rfl

/-- **events**: the text columns of the event of a cue have no carriage return — `Style`, `Name`, `Effect` by
    `denote`'s clause, `Text` by the explicit hypothesis on the lines (override blocks included) -/
theorem event_cr (names : List Str) (it : CItem) (h : itemOkB names it = true)
    (hcr : ∀ l ∈ it.lines, '\r' ∉ lineWhole l) : EventCR (eventOfItem it) := by
  have ok := itemOkB_facts h
  refine ⟨?_, ?_, ?_, ?_⟩
  · show '\r' ∉ it.style.getD []
    cases hs : it.style with
    | none => simp
    | some id => exact cleanField_cr (ok.style id hs).1
  · show '\r' ∉ it.lines.foldl (fun n l => if l.voice.isEmpty then n else l.voice) []
    intro hm
    rcases voice_fold_mem it.lines [] hm with hm | ⟨l, hl, hc⟩
    · cases hm
    · exact cleanField_cr (ok.lines l hl).1 hc
  · exact cleanField_cr ok.effect
  · rw [cr_eventOfItem_text]
    apply Go.not_mem_join (by decide)
    intro l hl
    obtain ⟨l0, hl0, rfl⟩ := mem_map.mp hl
    exact hcr l0 hl0

/-- **The written document contains no carriage return** (the explicit hypothesis `hcr` on the
    lines of the cues — the text the writer emits for a line, override blocks included, has no `\r` — is necessary:
    see `out_no_cr_false`). -/
theorem out_no_cr (s : Subs) (out : Str) (want : GDoc) (hd : Spec.SSA.denote s = some want) (hr : RepRead s)
    (hw : write s = .ok out) (hcr : ∀ it ∈ s.items, ∀ l ∈ it.lines, '\r' ∉ lineWhole l) : '\r' ∉ out := by
  obtain ⟨hm, hs, hi⟩ := denote_ok hd
  apply out_no_cr_of s out hw (meta_cr s hm)
  · intro st hst
    obtain ⟨d, hd', rfl⟩ := mem_writerStyles.mp hst
    exact style_cr d (hs d hd')
  · intro e he
    obtain ⟨it, hit, rfl⟩ := mem_map.mp he
    exact ⟨(hr.event he).cells, event_cr _ it (hi it hit) (hcr it hit)⟩

theorem out_no_cr_extra (s : Subs) (out : Str) (want : GDoc) (hd : Spec.SSA.denote s = some want) (hr : RepRead s)
    (hx : Extra s want) (hw : write s = .ok out) : '\r' ∉ out :=
  out_no_cr s out want hd hr hw hx.cr

theorem line_mem_out (s : Subs) (out : Str) (hw : write s = .ok out) (it : CItem) (hit : it ∈ s.items)
    (l : Line) (hl : l ∈ it.lines) {c : Char} (hc : c ∈ lineWhole l) : c ∈ out := by
  obtain ⟨rows, _, rfl⟩ := written_lines s out hw
  apply mem_unlines_of_mem (l := dialogueLine (isV4plus s) (eventOfItem it))
  · unfold docLinesW eventsBlock
    exact mem_append_right _ (mem_append_right _ (mem_map_of_mem (mem_map_of_mem hit)))
  · unfold dialogueLine
    apply mem_append_right
    rw [Event.row_eq]
    apply Go.mem_join_of_mem (l := (eventOfItem it).text) (mem_append_right _ (mem_singleton.mpr rfl))
    rw [cr_eventOfItem_text]
    exact Go.mem_join_of_mem (mem_map_of_mem hl) hc

theorem out_no_cr_iff (s : Subs) (out : Str) (want : GDoc) (hd : Spec.SSA.denote s = some want) (hr : RepRead s)
    (hw : write s = .ok out) : '\r' ∉ out ↔ ∀ it ∈ s.items, ∀ l ∈ it.lines, '\r' ∉ lineWhole l :=
  ⟨fun h it hit l hl hc => h (line_mem_out s out hw it hit l hl hc), out_no_cr s out want hd hr hw⟩

/-- false (`out_no_cr_false`): the claim without the hypothesis on the lines -/
def out_no_cr_Statement : Prop :=
  ∀ (s : Subs) (out : Str) (want : GDoc), Spec.SSA.denote s = some want → RepRead s → write s = .ok out → '\r' ∉ out

/-- the cue of the counterexample: one line, one run `{\r}x` (an override block containing a carriage return) -/
def crLine : Line := { items := [{ text := ['x'], attrs := some [("SSAEffect".toList, ['{', '\r', '}'])] }] }

def crItem : CItem := { startAt := 0, endAt := 10000000, lines := [crLine] }

/-- the counterexample: no metadata, no style, one cue -/
def crSubs : Subs := { items := [crItem] }

theorem crSubs_denote : (Spec.SSA.denote crSubs).isSome = true := by decide

theorem crSubs_styles : writerStyles crSubs = [] := by
  unfold writerStyles crSubs
  simp

theorem crEvent_eq : eventOfItem crItem =
    { category := "Dialogue".toList, startAt := 0, endAt := 10000000, text := ['{', '\r', '}', 'x'] } := by decide

theorem crSubs_rep : RepRead crSubs := by
  refine ⟨by decide, ?_, ?_, ?_⟩
  · rw [crSubs_styles]
    intro st hst
    cases hst
  · intro e he
    have : e = eventOfItem crItem := by simpa [crSubs] using he
    rw [this, crEvent_eq]
    decide
  · unfold styleIds
    rw [crSubs_styles]
    exact List.nodup_nil

/-- `crSubs` is written (the text is `[Script Info]␊␊[Events]␊Format: Marked, Start, …, Text␊Dialogue: Marked=0,00:00:00.00,00:00:00.01,,,0,0,0,,{␍}x␊`) -/
theorem crSubs_write : ∃ out, write crSubs = .ok out :=
  write_ok_of_rep crSubs crSubs_rep (by simp [crSubs])

/-- the cue list `crSubs` is accepted by `denote` and by `RepRead`, is written, and its text contains a carriage return -/
theorem out_no_cr_false : ¬ out_no_cr_Statement := by
  intro H
  obtain ⟨want, hwant⟩ := Option.isSome_iff_exists.mp crSubs_denote
  obtain ⟨out, hout⟩ := crSubs_write
  refine H crSubs out want hwant crSubs_rep hout ?_
  exact line_mem_out crSubs out hout crItem (mem_singleton.mpr rfl) crLine (mem_singleton.mpr rfl) (by decide)

theorem crSubs_hcr : ¬ ∀ it ∈ crSubs.items, ∀ l ∈ it.lines, '\r' ∉ lineWhole l := by decide

end SSAW
end Astisub
