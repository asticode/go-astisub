import Astisub.Lemmas.TeleRow
import Astisub.Lemmas.StrList

/-!
# Lemmas/TeleCharset — character sets: every table `updateCharset` can build is "solid"

* `Solid c`: code 0x20 is the blank, every other code 0x21..0x7f is one character that is not white space.
  Proved for every table `computeCharset` can return (`computeCharset_solid`), from the regenerated G0
  and national option tables plus a structural lemma on the patch loop.
* For solid tables Go's `strings.TrimSpace` and the specification's blank stripping coincide on decoded text, and a
  decoded text is blank exactly when all its codes are 0x20.
-/

namespace Astisub
namespace Teletext
open Go Generated.Teletext

/-- one character that is not white space -/
def inkB (s : Str) : Bool := match s with | [ch] => !isSpace ch | _ => false

/-- code 0x20 is the blank and every other code is one visible character (decidable) -/
def solidB (c : Charset) : Bool :=
  c.getD 0 [] == [' '] && (List.range 95).all fun i => inkB (c.getD (i + 1) [])

structure Solid (c : Charset) : Prop where
  blank : c.getD 0 [] = [' ']
  ink : ∀ i, 1 ≤ i → i < 96 → inkB (c.getD i []) = true

theorem solid_of_solidB (c : Charset) (h : solidB c = true) : Solid c := by
  simp only [solidB, Bool.and_eq_true, beq_iff_eq, List.all_eq_true, List.mem_range] at h
  refine ⟨h.1, fun i h1 h2 => ?_⟩
  have := h.2 (i - 1) (by omega)
  rwa [show i - 1 + 1 = i by omega] at this

theorem solidB_of_solid (c : Charset) (h : Solid c) : solidB c = true := by
  simp only [solidB, Bool.and_eq_true, beq_iff_eq, List.all_eq_true, List.mem_range]
  exact ⟨h.blank, fun i hi => h.ink (i + 1) (by omega) (by omega)⟩

/-- solidity read off the list itself: the head is the blank, the tail is visible characters -/
theorem solid_of_head_tail : ∀ (c : Charset), c.head? = some [' '] → c.tail.all inkB = true → c.length = 96 → Solid c
  | b :: rest, h0, ht, hl => by
    simp only [List.head?_cons, Option.some.injEq, List.tail_cons, List.all_eq_true, List.length_cons] at h0 ht hl
    refine ⟨by rw [← h0]; rfl, fun i h1 h2 => ?_⟩
    obtain ⟨k, rfl⟩ : ∃ k, i = k + 1 := ⟨i - 1, by omega⟩
    rw [List.getD_cons_succ]; exact ht _ (C06.getD_mem rest k [] (by omega))

theorem g0_head_tail : ∀ t ∈ g0Tables, (toCharset t).head? = some [' '] ∧ (toCharset t).tail.all inkB = true := by
  decide +kernel

theorem solid_g0 (g : Nat) (h : g < g0Tables.length) : Solid (toCharset (g0Tables.getD g [])) := by
  have hm := C06.getD_mem g0Tables g [] h
  exact solid_of_head_tail _ (g0_head_tail _ hm).1 (g0_head_tail _ hm).2 (by rw [toCharset, List.length_map, C06.C06_g0_rows _ hm])

theorem ink_nat : ∀ t ∈ natTables, (toCharset t).all inkB = true := by decide +kernel

theorem ink_nat' (n : Nat) : ∀ v ∈ toCharset (natTables.getD n []), inkB v = true := by
  by_cases h : n < natTables.length
  · simpa [List.all_eq_true] using ink_nat _ (C06.getD_mem natTables n [] h)
  · have : natTables.getD n [] = [] := by
      rw [List.getD_eq_getElem?_getD, List.getElem?_eq_none (by omega)]; rfl
    rw [this]; simp [toCharset]

theorem getD_set (c : Charset) (p : Nat) (v : Str) (i : Nat) :
    (c.set p v).getD i [] = if p = i ∧ p < c.length then v else c.getD i [] := by
  simp only [List.getD_eq_getElem?_getD, List.getElem?_set]
  by_cases h : p = i
  · subst h
    by_cases hl : p < c.length
    · simp [hl]
    · simp [hl]
  · simp [h]

theorem Solid.set {c : Charset} (h : Solid c) (p : Nat) (v : Str) (hp : p ≠ 0) (hv : inkB v = true) : Solid (c.set p v) := by
  refine ⟨?_, fun i h1 h2 => ?_⟩
  · rw [getD_set]
    have : ¬ (p = 0 ∧ p < c.length) := fun hh => hp hh.1
    rw [if_neg this]; exact h.blank
  · rw [getD_set]
    split
    · exact hv
    · exact h.ink i h1 h2

theorem Solid.patch : ∀ (ps : List Nat) (vs : List Str) {c : Charset}, Solid c → (∀ p ∈ ps, p ≠ 0) → (∀ v ∈ vs, inkB v = true) →
    Solid (patchNational c ps vs)
  | [], _, _, h, _, _ => by simpa [patchNational] using h
  | _ :: _, [], _, h, _, _ => by simpa [patchNational] using h
  | p :: ps, v :: vs, _, h, hp, hv => by
    rw [patchNational]
    exact Solid.patch ps vs (h.set p v (hp p (by simp)) (hv v (by simp))) (fun q hq => hp q (by simp [hq]))
      (fun w hw => hv w (by simp [hw]))

theorem positions_ne_zero : ∀ p ∈ positions, p ≠ 0 := by decide

theorem solid_latin : Solid latinG0 := solid_g0 defaultG0 (by decide)

theorem computeCharset_solid (triplet code : Nat) : Solid (computeCharset triplet code) := by
  unfold computeCharset
  cases hl : lookupCharset (keyOf triplet) code with
  | none => exact solid_latin
  | some x =>
    obtain ⟨g0, nat⟩ := x
    cases g0 with
    | none => exact solid_latin
    | some g0 =>
      obtain ⟨e, hm, _, _, h3⟩ := C06.lookupCharset_mem _ _ _ hl
      have hok := C06.C06_charsets_total e hm
      simp only [C06.entryOk, h3, Bool.and_eq_true, decide_eq_true_eq] at hok
      have hs := solid_g0 g0 hok.1
      cases nat with
      | none => exact hs
      | some n => exact hs.patch positions _ positions_ne_zero (ink_nat' n)

theorem Solid.decode_blank {c : Charset} (h : Solid c) : decodeChar c 0x20 = [' '] := by
  rw [C06.decodeChar_printable c _ (by decide) (by decide)]; exact h.blank

theorem Solid.decode_ink {c : Charset} (h : Solid c) (v : Nat) (h1 : 0x20 < v) (h2 : v < 0x80) :
    inkB (decodeChar c v) = true := by
  rw [C06.decodeChar_printable c _ (by omega) h2]; exact h.ink _ (by omega) (by omega)

theorem inkB_elim (s : Str) (h : inkB s = true) : ∃ ch, s = [ch] ∧ isSpace ch = false := by
  match s, h with
  | [ch], h => exact ⟨ch, rfl, by simpa [inkB] using h⟩

theorem Solid.space_is_blank {c : Charset} (h : Solid c) : ∀ (codes : List Nat), Printable codes →
    ∀ ch ∈ dec c codes, isSpace ch = true → ch = ' '
  | [], _, ch, hm, _ => by simp [dec] at hm
  | v :: codes, hp, ch, hm, hs => by
    simp only [dec, List.flatMap_cons, List.mem_append] at hm
    rcases hm with hm | hm
    · by_cases hv : v = 0x20
      · subst hv; rw [h.decode_blank] at hm; simpa using hm
      · obtain ⟨x, hx, hsx⟩ := inkB_elim _ (h.decode_ink v (by have := hp v (by simp); omega) (hp v (by simp)).2)
        rw [hx] at hm
        simp at hm; subst hm
        rw [hsx] at hs; cases hs
    · exact h.space_is_blank codes (fun w hw => hp w (by simp [hw])) ch hm hs

theorem Solid.all_space {c : Charset} (h : Solid c) : ∀ (codes : List Nat), Printable codes →
    (dec c codes).all isSpace = codes.all (· == 0x20)
  | [], _ => rfl
  | v :: codes, hp => by
    have ih := h.all_space codes (fun w hw => hp w (by simp [hw]))
    simp only [dec, List.flatMap_cons, List.all_append, List.all_cons] at *
    rw [ih]
    by_cases hv : v = 0x20
    · subst hv; rw [h.decode_blank]; simp [isSpace]
    · obtain ⟨x, hx, hsx⟩ := inkB_elim _ (h.decode_ink v (by have := hp v (by simp); omega) (hp v (by simp)).2)
      rw [hx]; simp [hsx, hv]

theorem takeWhile_congr_mem {α} (p q : α → Bool) : ∀ (l : List α), (∀ x ∈ l, p x = q x) → l.takeWhile p = l.takeWhile q
  | [], _ => rfl
  | x :: l, h => by
    simp only [List.takeWhile_cons, h x (by simp)]
    split
    · rw [takeWhile_congr_mem p q l (fun y hy => h y (by simp [hy]))]
    · rfl

theorem isSpace_blank : isSpace ' ' = true := by decide

theorem trimSpace_eq_strip (t : Str) (h : ∀ ch ∈ t, isSpace ch = true → ch = ' ') :
    trimSpace t = Spec.Teletext.stripSpaces t := by
  have hpq : ∀ ch ∈ t, isSpace ch = (ch == ' ') := by
    intro ch hm
    by_cases hb : ch = ' '
    · subst hb; simp [isSpace_blank]
    · have : isSpace ch = false := by
        cases hs : isSpace ch
        · rfl
        · exact absurd (h ch hm hs) hb
      simp [this, hb]
  -- both sides are `trimBoth`, one by `isSpace`, one by `· == ' '`, and the predicates agree on `t`: no fact about padding is involved
  exact trimBoth_congr hpq

end Teletext
end Astisub
