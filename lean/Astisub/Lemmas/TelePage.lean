import Astisub.Lemmas.TelePacket

/-!
# Lemmas/TelePage — the page buffer and the specification's page automaton, packet by packet

`PRel P b s` relates the model's page buffer `b` (with the pages `P` already handed over by earlier PES packets) to
the specification's automaton state `s`: same selected page, same "rows still belong to the page" flag, the page
under construction is the specification's open instance (`pageOf`), the finished pages are the closed instances
with their end times, and the X/28 – M/29 triplets the model remembers carry designations the specification
has met.  `PRel.packet`: one packet keeps the relation, unless the specification leaves its class (a row sent twice).

`two_headers` is about the model alone: a header of the selected page at `t1` opens an instance, row packets fill it (`Open`),
the next header of that page at `t2` closes it with `start = t1`, `end_ = t2` and the first header's national option code.
-/

namespace Astisub
namespace Teletext
open Go Generated.Teletext
open Spec.Teletext (Packet Inst St step)

/-- the page the model builds for an instance of the specification that ends at `e` -/
def pageOf (i : Inst) (e : Int) : Page :=
  { charsetCode := i.code, data := i.rows.map (fun r => (r.1, r.2.map storedCell)), rows := i.rows.map (·.1),
    start := i.startNs, end_ := e }

/-- what `decodePacket` guarantees about a packet: magazine 1..8, row numbers 1..25, designation packets 28 / 29 -/
def PacketOK : Packet → Prop
  | .header mag _ _ _ _ _ => 1 ≤ mag ∧ mag ≤ 8
  | .row mag y _ => 1 ≤ mag ∧ mag ≤ 8 ∧ 1 ≤ y ∧ y ≤ 25
  | .desig mag y _ _ => 1 ≤ mag ∧ mag ≤ 8 ∧ (y = 28 ∨ y = 29)
  | .other => True

instance (p : Packet) : Decidable (PacketOK p) := by
  cases p <;> unfold PacketOK <;> infer_instance

theorem decodePacket_ok (f : List Nat) (p : Packet) (h : Spec.Teletext.decodePacket f = some p) : PacketOK p := by
  cases (decodePacket_some h).2 with
  | unframed => trivial
  | framed a b _ _ _ hbody =>
    have hm := specAddress_mag a b
    cases hbody with
    | header => exact hm
    | row h1 h25 => exact ⟨hm.1, hm.2, h1, h25⟩
    | desig _ hy => exact ⟨hm.1, hm.2, hy⟩
    | other => trivial

/-- same selected page (none selected: the model's 0 / 0, and it is not receiving) -/
def SelRel (b : Buf) (s : St) : Prop :=
  (s.sel = none ∧ b.mag = 0 ∧ b.page = 0 ∧ b.receiving = false) ∨
  (∃ m pt pu, s.sel = some (m, pt, pu) ∧ pt ≤ 9 ∧ pu ≤ 9 ∧ b.mag = m ∧ b.page = pt * 10 + pu ∧ ¬ (m = 0 ∧ pt * 10 + pu = 0))

/-- the first case of `SelRel`: no page selected yet -/
structure Unselected (b : Buf) (s : St) : Prop where
  sel : s.sel = none
  mag : b.mag = 0
  page : b.page = 0
  idle : b.receiving = false

/-- the second case of `SelRel`: magazine `m`, page `pt pu` is selected on both sides -/
structure Selected (b : Buf) (s : St) (m pt pu : Nat) : Prop where
  sel : s.sel = some (m, pt, pu)
  tens : pt ≤ 9
  units : pu ≤ 9
  mag : b.mag = m
  page : b.page = pt * 10 + pu
  ne : ¬ (m = 0 ∧ pt * 10 + pu = 0)

theorem SelRel.cases {b : Buf} {s : St} (h : SelRel b s) : Unselected b s ∨ ∃ m pt pu, Selected b s m pt pu :=
  h.imp (fun ⟨a, b, c, d⟩ => ⟨a, b, c, d⟩) (fun ⟨m, pt, pu, a, b, c, d, e, f⟩ => ⟨m, pt, pu, a, b, c, d, e, f⟩)

theorem Selected.rel {b : Buf} {s : St} {m pt pu : Nat} (k : Selected b s m pt pu) : SelRel b s :=
  Or.inr ⟨m, pt, pu, k.sel, k.tens, k.units, k.mag, k.page, k.ne⟩

/-- the triplets the model remembers carry designations the specification has met -/
def KRel (b : Buf) (s : St) : Prop :=
  (∀ t, b.x28 = some t → keyOf t ∈ s.keys) ∧ (∀ t, b.m29 = some t → keyOf t ∈ s.keys) ∧
  (s.keys ≠ [] → b.x28.isSome = true ∨ b.m29.isSome = true)

structure PRel (P : List Page) (b : Buf) (s : St) : Prop where
  sel : SelRel b s
  recv : b.receiving = s.open_
  cur : b.current = s.cur.map fun i => pageOf i 0
  done : P ++ b.done = s.done.map fun ie => pageOf ie.1 ie.2
  keys : KRel b s

theorem SelRel.congr {b b' : Buf} {s s' : St} (h : SelRel b s) (e1 : b'.mag = b.mag) (e2 : b'.page = b.page)
    (e3 : b'.receiving = b.receiving) (e4 : s'.sel = s.sel) : SelRel b' s' := by
  unfold SelRel at *
  rw [e1, e2, e3, e4]; exact h

theorem setData_fresh (rows : List (Nat × List (Option Nat))) (y : Nat) (cells : List (Option Nat))
    (h : rows.any (·.1 == y) = false) :
    setData (rows.map fun r => (r.1, r.2.map storedCell)) y (cells.map storedCell) =
      (rows ++ [(y, cells)]).map fun r => (r.1, r.2.map storedCell) := by
  unfold setData
  have : ((rows.map fun r => (r.1, r.2.map storedCell)).any (·.1 == y)) = false := by
    rw [List.any_map]; exact h
  simp [this]

theorem PRel.row {P : List Page} {b : Buf} {s : St} (h : PRel P b s) (t : Int) (mag y : Nat) (cells : List (Option Nat)) :
    (step t s (.row mag y cells)).bad = true ∨ PRel P (applyPacket t b (.row mag y cells)) (step t s (.row mag y cells)) := by
  rcases h.sel.cases with u | ⟨m, pt, pu, k⟩
  · right
    have : (b.receiving && decide (mag = b.mag)) = false := by simp [u.idle]
    simp only [applyPacket, this, step, u.sel]
    exact h
  · have hcond : (b.receiving && decide (mag = b.mag)) = (decide (mag = m) && s.open_) := by
      rw [h.recv, k.mag, Bool.and_comm]
    simp only [applyPacket, hcond, step, k.sel]
    cases hc : s.cur with
    | none =>
      right
      have hcur : b.current = none := by rw [h.cur, hc]; rfl
      have : storeRow b y (cells.map storedCell) = b := by simp only [storeRow, hcur]
      simp only [this, ite_self]
      exact h
    | some i =>
      have hcur : b.current = some (pageOf i 0) := by rw [h.cur, hc]; rfl
      cases hc2 : (decide (mag = m) && s.open_)
      · simp only [hc2, Bool.false_eq_true, if_false]
        exact Or.inr h
      · simp only [hc2, if_true]
        cases hdup : i.rows.any (·.1 == y)
        · right
          simp only [Bool.false_eq_true, if_false, storeRow, hcur]
          refine ⟨h.sel.congr rfl rfl rfl k.sel.symm, h.recv, ?_, h.done, h.keys⟩
          simp only [Option.map_some, pageOf]
          rw [setData_fresh i.rows y cells hdup]
          simp
        · exact Or.inl rfl

theorem PRel.desig {P : List Page} {b : Buf} {s : St} (h : PRel P b s) (t : Int) (mag y dc raw : Nat)
    (hm : 1 ≤ mag) (hy : y = 28 ∨ y = 29) :
    PRel P (applyPacket t b (.desig mag y dc raw)) (step t s (.desig mag y dc raw)) := by
  have hkey : keyOf raw = raw / 1024 % 16 := C06.C06_key_of_triplet raw
  rcases h.sel.cases with u | ⟨m, pt, pu, k⟩
  · have : mag ≠ b.mag := by have := u.mag; omega
    simp only [applyPacket, desigStep, this, decide_false, Bool.false_and, Bool.false_eq_true, if_false, step, u.sel]
    exact h
  · have hA : (decide (mag = m) && (decide (dc = 0) || decide (dc = 4))) =
        (decide (mag = b.mag) && (decide (dc = 0) || decide (dc = 4))) := by rw [k.mag]
    have hB : (s.open_ && decide (raw % 16 = 0)) = (b.receiving && decide (raw % 16 = 0)) := by rw [h.recv]
    simp only [applyPacket, desigStep, step, k.sel, hA, hB]
    cases hA' : (decide (mag = b.mag) && (decide (dc = 0) || decide (dc = 4)))
    · simp only [Bool.false_and, Bool.false_eq_true, if_false]; exact h
    · simp only [Bool.true_and, if_true]
      have hnew : ∀ b' : Buf, b'.mag = b.mag → b'.page = b.page → b'.receiving = b.receiving → b'.current = b.current →
          b'.done = b.done → (∀ t, b'.x28 = some t → t = raw ∨ b.x28 = some t) → (∀ t, b'.m29 = some t → t = raw ∨ b.m29 = some t) →
          (b'.x28.isSome = true ∨ b'.m29.isSome = true) →
          PRel P b' { s with keys := s.keys ++ [raw / 1024 % 16] } := by
        intro b' e1 e2 e3 e4 e5 k1 k2 k3
        refine ⟨h.sel.congr e1 e2 e3 rfl, e3 ▸ h.recv, e4 ▸ h.cur, e5 ▸ h.done, fun t ht => ?_, fun t ht => ?_, fun _ => k3⟩
        · rcases k1 t ht with rfl | ht
          · simp [hkey]
          · exact List.mem_append_left _ (h.keys.1 t ht)
        · rcases k2 t ht with rfl | ht
          · simp [hkey]
          · exact List.mem_append_left _ (h.keys.2.1 t ht)
      rcases hy with rfl | rfl
      · cases hB' : (b.receiving && decide (raw % 16 = 0))
        · simp only [show (28 : Nat) ≠ 29 by decide, decide_false, Bool.false_or, Bool.false_eq_true, if_false, if_true]; exact h
        · simp only [Bool.or_true, if_true]
          rw [← k.sel]
          exact hnew { b with x28 := some raw } rfl rfl rfl rfl rfl (fun t ht => .inl (Option.some.inj ht).symm) (fun t ht => .inr ht) (.inl rfl)
      · simp only [show (29 : Nat) ≠ 28 by decide, decide_true, Bool.true_or, if_false, if_true]
        rw [← k.sel]
        exact hnew { b with m29 := some raw } rfl rfl rfl rfl rfl (fun t ht => .inr ht) (fun t ht => .inl (Option.some.inj ht).symm) (.inr rfl)

/-- the specification's automatic selection, as a function -/
def specSelect (s : St) (mag tens units : Nat) (subtitle : Bool) : St :=
  match s.sel with
  | none => if subtitle && Spec.Teletext.decimal tens units then { s with sel := some (mag, tens, units) } else s
  | some _ => s

/-- the specification's reaction to a header once the selection is made, as a function -/
def specCore (t : Int) (s : St) (mag tens units : Nat) (serial : Bool) (code : Nat) : St :=
  match s.sel with
  | none => s
  | some (m, pt, pu) =>
    if mag = m && tens = pt && units = pu then
      let done := match s.cur with | some i => s.done ++ [(i, t)] | none => s.done
      { s with done := done, cur := some { startNs := t, code := code }, open_ := true }
    else if mag = m || serial then { s with open_ := false }
    else s

theorem step_header (t : Int) (s : St) (mag tens units : Nat) (subtitle serial : Bool) (code : Nat) :
    step t s (.header mag tens units subtitle serial code) =
      if tens = 15 && units = 15 then s else specCore t (specSelect s mag tens units subtitle) mag tens units serial code :=
  rfl

theorem pageNo_eq (tens units pt pu : Nat) (h1 : pt ≤ 9) (h2 : pu ≤ 9) :
    pageNo tens units = some (pt * 10 + pu) ↔ tens = pt ∧ units = pu := by
  unfold pageNo
  by_cases h3 : tens > 9 <;> by_cases h4 : units > 9 <;> simp [h3, h4] <;> omega

theorem pageNo_decimal (tens units : Nat) :
    pageNo tens units = if Spec.Teletext.decimal tens units then some (tens * 10 + units) else none := by
  unfold pageNo Spec.Teletext.decimal
  by_cases h1 : tens ≤ 9 <;> by_cases h2 : units ≤ 9 <;> simp [h1, h2] <;> omega

theorem PRel.select {P : List Page} {b : Buf} {s : St} (h : PRel P b s) (mag tens units : Nat) (subtitle : Bool)
    (hm : 1 ≤ mag) : PRel P (autoSelect b mag (pageNo tens units) subtitle) (specSelect s mag tens units subtitle) := by
  rcases h.sel.cases with u | ⟨m, pt, pu, k⟩
  · simp only [autoSelect, specSelect, u.sel, u.mag, u.page, pageNo_decimal, decide_true, Bool.and_self, if_true]
    cases hd : Spec.Teletext.decimal tens units <;> cases subtitle
    · exact h
    · exact h
    · exact h
    · simp only [Spec.Teletext.decimal, Bool.and_eq_true, decide_eq_true_eq] at hd
      exact ⟨Selected.rel { sel := rfl, tens := hd.1, units := hd.2, mag := rfl, page := rfl, ne := by omega },
        h.recv, h.cur, h.done, h.keys⟩
  · have : ¬ (b.mag = 0 ∧ b.page = 0) := by rw [k.mag, k.page]; exact k.ne
    have : (decide (b.mag = 0) && decide (b.page = 0)) = false := by simpa using this
    simp only [autoSelect, this, specSelect, k.sel, Bool.false_eq_true, if_false]
    exact h

theorem PRel.core {P : List Page} {b : Buf} {s : St} (h : PRel P b s) (t : Int) (mag tens units : Nat) (serial : Bool)
    (code : Nat) (hm : 1 ≤ mag) :
    PRel P (headerCore b t mag (pageNo tens units) serial code) (specCore t s mag tens units serial code) := by
  rcases h.sel.cases with u | ⟨m, pt, pu, k⟩
  · have hmm : mag ≠ 0 := by omega
    have hmodel : headerCore b t mag (pageNo tens units) serial code = b := by
      simp [headerCore, u.idle, u.mag, hmm]
    have hspec : specCore t s mag tens units serial code = s := by simp only [specCore, u.sel]
    rw [hmodel, hspec]; exact h
  · by_cases hmatch : mag = m ∧ tens = pt ∧ units = pu
    · obtain ⟨rfl, rfl, rfl⟩ := hmatch
      rw [(pageNo_eq tens units tens units k.tens k.units).mpr ⟨rfl, rfl⟩, ← k.page, ← k.mag, headerCore_open]
      simp only [specCore, k.sel, k.mag, decide_true, Bool.and_self, if_true]
      refine ⟨Selected.rel { k with sel := rfl }, rfl, rfl, ?_, h.keys⟩
      simp only [openHeader, h.cur]
      cases s.cur with
      | none => exact h.done
      | some i => simp only [Option.map_some, List.map_append, List.map_cons, List.map_nil, ← h.done, List.append_assoc]; rfl
    · -- a header of another page.  Both sides end the reception when it is of the same magazine or in serial mode and do nothing
      -- otherwise; the model tests this only while receiving, and with the flag off, switching it off changes nothing.  The cases
      -- run over the serial flag (off, on), then the open flag (off, on).
      have hsel : ∀ (b' : Buf) (s' : St), b'.mag = m → b'.page = pt * 10 + pu → s'.sel = some (m, pt, pu) → SelRel b' s' :=
        fun b' s' e1 e2 e3 => Selected.rel { k with sel := e3, mag := e1, page := e2 }
      have hpn : mag = m → pageNo tens units ≠ some (pt * 10 + pu) := fun e hh =>
        hmatch ⟨e, (pageNo_eq tens units pt pu k.tens k.units).mp hh⟩
      have hspecm : (decide (mag = m) && decide (tens = pt) && decide (units = pu)) = false := by
        simpa using fun a b c => hmatch ⟨a, b, c⟩
      have hopen := h.recv
      simp only [headerCore, specCore, k.sel, hspecm, k.mag, k.page, Bool.false_eq_true, if_false]
      by_cases e1 : mag = m
      · have := hpn e1
        cases serial <;> cases ho : s.open_ <;> simp [e1, this, hopen, ho]
        · exact ⟨hsel _ _ k.mag k.page rfl, by simpa [ho] using hopen, h.cur, h.done, h.keys⟩
        · exact ⟨hsel _ _ rfl rfl rfl, rfl, h.cur, h.done, h.keys⟩
        · exact ⟨hsel _ _ k.mag k.page rfl, by simpa [ho] using hopen, h.cur, h.done, h.keys⟩
        · exact ⟨hsel _ _ rfl rfl rfl, rfl, h.cur, h.done, h.keys⟩
      · cases serial <;> cases ho : s.open_ <;> simp [e1, hopen, ho]
        · exact h
        · exact h
        · exact ⟨hsel _ _ k.mag k.page rfl, by simpa [ho] using hopen, h.cur, h.done, h.keys⟩
        · exact ⟨hsel _ _ rfl rfl rfl, rfl, h.cur, h.done, h.keys⟩

theorem PRel.packet {P : List Page} {b : Buf} {s : St} (h : PRel P b s) (t : Int) (p : Packet) (hp : PacketOK p) :
    (step t s p).bad = true ∨ PRel P (applyPacket t b p) (step t s p) := by
  cases p with
  | header mag tens units subtitle serial code =>
    right
    rw [step_header]
    simp only [applyPacket, headerStep]
    split
    · exact h
    · exact (h.select mag tens units subtitle hp.1).core t mag tens units serial code hp.1
  | row mag y cells => exact h.row t mag y cells
  | desig mag y dc raw => exact Or.inr (h.desig t mag y dc raw hp.1 hp.2.2)
  | other => exact Or.inr h

theorem specSelect_bad (s : St) (mag tens units : Nat) (subtitle : Bool) :
    (specSelect s mag tens units subtitle).bad = s.bad := by
  unfold specSelect
  split
  · split <;> rfl
  · rfl

theorem specCore_bad (t : Int) (s : St) (mag tens units : Nat) (serial : Bool) (code : Nat) :
    (specCore t s mag tens units serial code).bad = s.bad := by
  unfold specCore
  split
  · rfl
  · split
    · rfl
    · split <;> rfl

theorem step_bad (t : Int) (s : St) (p : Packet) (h : s.bad = true) : (Spec.Teletext.step t s p).bad = true := by
  cases p with
  | header mag tens units subtitle serial code =>
    rw [step_header]
    split
    · exact h
    · rw [specCore_bad, specSelect_bad]; exact h
  | row mag y cells =>
    simp only [Spec.Teletext.step]
    repeat' split
    all_goals first | exact h | rfl
  | desig mag y dc raw =>
    simp only [Spec.Teletext.step]
    repeat' split
    all_goals exact h
  | other => exact h

theorem foldl_step_bad (t : Int) (ps : List Packet) (s : St) (h : s.bad = true) : (ps.foldl (Spec.Teletext.step t) s).bad = true :=
  foldl_inv (·.bad = true) _ ps s h (fun s p _ hs => step_bad t s p hs)

theorem PRel.foldl {P : List Page} (t : Int) : ∀ (ps : List Packet) {b : Buf} {s : St}, PRel P b s → (∀ p ∈ ps, PacketOK p) →
    (ps.foldl (Spec.Teletext.step t) s).bad = true ∨
      PRel P (ps.foldl (applyPacket t) b) (ps.foldl (Spec.Teletext.step t) s)
  | [], _, _, h, _ => Or.inr h
  | p :: ps, _, _, h, hp => by
    rw [List.foldl_cons, List.foldl_cons]
    rcases h.packet t p (hp p (by simp)) with hb | hr
    · exact Or.inl (foldl_step_bad t ps _ hb)
    · exact PRel.foldl t ps hr (fun q hq => hp q (by simp [hq]))

theorem headerStep_selected (b : Buf) (t : Int) (tens units : Nat) (subtitle serial : Bool) (code : Nat)
    (hsel : ¬ (b.mag = 0 ∧ b.page = 0)) (ht : tens ≤ 9) (hu : units ≤ 9) (hp : tens * 10 + units = b.page) :
    headerStep b t b.mag tens units subtitle serial code = openHeader b t code := by
  have h9 : tens ≠ 15 ∧ ¬ 9 < tens ∧ ¬ 9 < units := by omega
  simp [headerStep, autoSelect, pageNo, hsel, h9, hp, headerCore_open]

/-- an instance of the selected page that started at `t1` with code `code1` is being received -/
structure Open (b0 b : Buf) (t1 : Int) (code1 : Nat) : Prop where
  mag : b.mag = b0.mag
  page : b.page = b0.page
  done : b.done = b0.done
  cur : ∃ p, b.current = some p ∧ p.start = t1 ∧ p.charsetCode = code1

theorem Open.row {b0 b : Buf} {t1 : Int} {code1 : Nat} (h : Open b0 b t1 code1) (t : Int) (mag y : Nat) (cells : List (Option Nat)) :
    Open b0 (applyPacket t b (.row mag y cells)) t1 code1 := by
  simp only [applyPacket]
  split
  · obtain ⟨p, hp, h1, h2⟩ := h.cur
    simp only [storeRow, hp]
    exact ⟨h.mag, h.page, h.done, ⟨_, rfl, h1, h2⟩⟩
  · exact h

def isRow : Packet → Bool
  | .row _ _ _ => true
  | _ => false

theorem Open.rows {b0 : Buf} {t1 : Int} {code1 : Nat} (t : Int) : ∀ (ps : List Packet) {b : Buf}, Open b0 b t1 code1 →
    (∀ p ∈ ps, isRow p = true) → Open b0 (ps.foldl (applyPacket t) b) t1 code1
  | [], _, h, _ => h
  | p :: ps, b, h, hp => by
    rw [List.foldl_cons]
    have := hp p (by simp)
    cases p with
    | row mag y cells => exact Open.rows t ps (h.row t mag y cells) (fun q hq => hp q (by simp [hq]))
    | header _ _ _ _ _ _ => cases this
    | desig _ _ _ _ => cases this
    | other => cases this

theorem two_headers (b : Buf) (t1 t t2 : Int) (tens units : Nat) (sub1 ser1 sub2 ser2 : Bool) (code1 code2 : Nat)
    (rows : List Packet)
    (hsel : ¬ (b.mag = 0 ∧ b.page = 0)) (ht : tens ≤ 9) (hu : units ≤ 9) (hp : tens * 10 + units = b.page)
    (hrows : ∀ p ∈ rows, isRow p = true) :
    let b1 := applyPacket t1 b (.header b.mag tens units sub1 ser1 code1)
    let b2 := rows.foldl (applyPacket t) b1
    let b3 := applyPacket t2 b2 (.header b.mag tens units sub2 ser2 code2)
    ∃ p, b3.done = b1.done ++ [p] ∧ p.start = t1 ∧ p.end_ = t2 ∧ p.charsetCode = code1 ∧
      b3.current = some { charsetCode := code2, start := t2 } ∧ b3.receiving = true := by
  intro b1 b2 b3
  have h1 : b1 = openHeader b t1 code1 := headerStep_selected b t1 tens units sub1 ser1 code1 hsel ht hu hp
  have ho1 : Open b1 b1 t1 code1 :=
    ⟨rfl, rfl, rfl, ⟨{ charsetCode := code1, start := t1 }, by rw [h1]; rfl, rfl, rfl⟩⟩
  have ho2 : Open b1 b2 t1 code1 := Open.rows t rows ho1 hrows
  have hm1 : b1.mag = b.mag := by rw [h1]; rfl
  have hp1 : b1.page = b.page := by rw [h1]; rfl
  have hsel2 : ¬ (b2.mag = 0 ∧ b2.page = 0) := by rw [ho2.mag, ho2.page, hm1, hp1]; exact hsel
  have h3 : b3 = openHeader b2 t2 code2 := by
    show applyPacket t2 b2 (.header b.mag tens units sub2 ser2 code2) = _
    rw [← hm1, ← ho2.mag]
    exact headerStep_selected b2 t2 tens units sub2 ser2 code2 hsel2 ht hu (by rw [ho2.page, hp1]; exact hp)
  obtain ⟨p, hcur, hs, hc⟩ := ho2.cur
  refine ⟨{ p with end_ := t2 }, ?_, hs, rfl, hc, ?_, ?_⟩
  · rw [h3]; simp only [openHeader, hcur, ho2.done]
  · rw [h3]; rfl
  · rw [h3]; rfl

end Teletext
end Astisub
