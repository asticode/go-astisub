import Astisub.Lemmas.VTTRead2CueSim

/-!
# Lemmas/VTTRead2Block — header-metadata blocks, and every block of the decoder

Main statements: `sim_meta` (`Region:` / `X-TIMESTAMP-MAP` lines), `block_eff` (what one block does to the decoder's
state, `BlockEff`: the one inversion of `Spec.VTT.block`) and `sim_block` (any block of the class `blockOKWith ok` keeps
the relation `R2`).
-/

namespace Astisub
namespace VTTRead
open Go Spec.VTT
open VTT (St step run Block)

/-- the decoder's test for a line of header metadata, on a trimmed line (`metaLine` trims first) -/
def metaT (l : Str) : Bool := hasPrefix "Region: ".toList l || hasPrefix "X-TIMESTAMP-MAP".toList l

/-- what the other tests of the reader's loop and of the decoder's `block` say of a line that starts with neither `N`
    nor `S`, in particular of a metadata line -/
structure MetaLine (l : Str) : Prop where
  noNote : noteTest l = false
  noStyle : l ≠ "STYLE".toList
  noteLine : noteLine l = none
  ne_nil : l ≠ []
  noStylePrefix : hasPrefix "STYLE".toList l = false

theorem head_tests (c : Char) (r : Str) (hN : 'N' ≠ c) (hS : 'S' ≠ c) : MetaLine (c :: r) := by
  have a : c :: r ≠ "NOTE".toList := fun x => hN (List.cons.inj (lit_note ▸ x)).1.symm
  refine ⟨VTT.noteTest_head hN r, fun x => hS (List.cons.inj (lit_style ▸ x)).1.symm, ?_, List.cons_ne_nil _ _, ?_⟩
  · unfold noteLine
    rw [if_neg a, lit_note, dropPrefix?_cons_ne hN _ _]
  · rw [lit_style]; exact hasPrefix_cons_ne hS _ _

theorem prefix_tests_R {l : Str} (h : hasPrefix "Region: ".toList l = true) : MetaLine l := by
  rw [hasPrefix_split h, lit_region]
  exact head_tests 'R' _ (by decide) (by decide)

theorem prefix_tests_X {l : Str} (h : hasPrefix "X-TIMESTAMP-MAP".toList l = true) : MetaLine l := by
  rw [hasPrefix_split h, lit_tsmap]
  exact head_tests 'X' _ (by decide) (by decide)

theorem metaLine_of_metaT {l : Str} (h : metaT l = true) : MetaLine l :=
  (Bool.or_eq_true _ _ |>.mp h).elim prefix_tests_R prefix_tests_X

/-- one step of the decoder's fold over a metadata block -/
def metaStep (acc : Option DocSt) (l : Str) : Option DocSt :=
  match acc with
  | none => none
  | some st =>
    if hasPrefix "Region: ".toList l then
      match regionLine l with
      | some r => if st.regions.any (·.id = r.id) then none else some { st with regions := st.regions ++ [r] }
      | none => none
    else match tsmapLine l with
      | some m => if st.tsmap.isSome || !st.cues.isEmpty then none else some { st with tsmap := some m }
      | none => none

/-- what one metadata line can do: define a region whose identifier is new, or set the timestamp map if none is set and
    no cue has come yet -/
inductive MetaEff (ds : DocSt) (l : Str) : DocSt → Prop
  | region (r : GRegion) : hasPrefix "Region: ".toList l = true → regionLine l = some r →
      ds.regions.any (fun x => decide (x.id = r.id)) = false → MetaEff ds l { ds with regions := ds.regions ++ [r] }
  | tsmap (m : Int × Int) : hasPrefix "Region: ".toList l = false → tsmapLine l = some m →
      ds.tsmap.isSome = false → ds.cues.isEmpty = true → MetaEff ds l { ds with tsmap := some m }

theorem metaStep_inv {ds ds1 : DocSt} {l : Str} (h : metaStep (some ds) l = some ds1) : MetaEff ds l ds1 := by
  unfold metaStep at h
  simp only at h
  by_cases hr : hasPrefix "Region: ".toList l = true
  · rw [if_pos hr] at h
    cases hrl : regionLine l with
    | none => rw [hrl] at h; cases h
    | some r =>
      rw [hrl] at h
      simp only at h
      cases hany : ds.regions.any (fun x => decide (x.id = r.id)) with
      | true => rw [hany] at h; simp at h
      | false =>
        rw [hany] at h
        simp only [Bool.false_eq_true, if_false, Option.some.injEq] at h
        subst h
        exact .region r hr hrl hany
  · rw [if_neg hr] at h
    cases htl : tsmapLine l with
    | none => rw [htl] at h; cases h
    | some m =>
      rw [htl] at h
      simp only at h
      cases hc : (ds.tsmap.isSome || !ds.cues.isEmpty) with
      | true => rw [hc] at h; simp at h
      | false =>
        rw [hc] at h
        simp only [Bool.false_eq_true, if_false, Option.some.injEq] at h
        simp only [Bool.or_eq_false_iff, Bool.not_eq_false'] at hc
        subst h
        exact .tsmap m (by simpa using hr) htl hc.1 hc.2

theorem foldl_metaStep_none (b : List Str) : b.foldl metaStep none = none := by
  induction b with
  | nil => rfl
  | cons l ls ih => simpa [List.foldl, metaStep] using ih

theorem isEmpty_of_normCue_eq {cs dcs : List GCue} (h : cs.map normCue = (dcs.map zeroTsCue).map normCue) :
    cs.isEmpty = dcs.isEmpty := by
  have hl := congrArg List.length h
  simp only [List.length_map] at hl
  cases cs with
  | nil =>
    cases dcs with
    | nil => rfl
    | cons _ _ => simp at hl
  | cons _ _ =>
    cases dcs with
    | nil => simp at hl
    | cons _ _ => rfl

theorem sim_meta_line {ds ds1 : DocSt} {ms : St} (hR2 : R2 ds ms) (hB : Between ms) (l : Str)
    (hl : BLine l) (hok : regionOK l = true) (hm : metaT l = true)
    (h : metaStep (some ds) l = some ds1) :
    step ms (some l) = .unmodelled ∨
    ∃ ms1, step ms (some l) = .ok ms1 ∧ R2 ds1 ms1 ∧ Between ms1 := by
  obtain ⟨cs, hR, hcs⟩ := hR2
  cases metaStep_inv h with
  | region r hr hrl hany =>
    have t1 := (prefix_tests_R hr).noNote
    have hb : r.lines.length ≤ 18 := by
      unfold regionOK at hok; rw [hrl] at hok; simpa using hok
    obtain ⟨acc, hacc, hview⟩ := regionParts_of_regionLine l r hrl hb
    right
    rw [step_region ms l hl.1 hl.2 hB.1 t1 hr, hacc]
    simp only
    have hid : (VTT.regionDef acc).id = r.id := by rw [← hview]; rfl
    have hnot : ms.regions.any (fun x => decide (x.id = (VTT.regionDef acc).id)) = false := by
      rw [hid, ← any_id_eq, hR.regions]; exact hany
    refine ⟨_, rfl, ⟨cs, { hR with regions := ?_ }, hcs⟩, hB⟩
    show (VTT.setDef ms.regions (VTT.regionDef acc)).map regionView = ds.regions ++ [r]
    unfold VTT.setDef
    rw [hnot]
    simp [hR.regions, hview]
  | tsmap m hr' htl _ hce0 =>
    have hx : hasPrefix "X-TIMESTAMP-MAP".toList l = true := by
      unfold metaT at hm; rw [hr'] at hm; simpa using hm
    have t1 := (prefix_tests_X hx).noNote
    have t5 := (prefix_tests_X hx).noStylePrefix
    -- the decoder has no cue yet, so neither has the reader: the current item is fresh and has no line
    have hce : cs = [] := List.isEmpty_iff.mp ((isEmpty_of_normCue_eq hcs).trans hce0)
    have hfl : VTT.flush ms = [] := by
      apply Spec.VTT.isMapM.eq_nil (f := cueView); rw [hR.cues]; show some (cs.map slim) = _; rw [hce]; rfl
    have hcl : ms.curListed = false := by
      cases hcl : ms.curListed with
      | false => rfl
      | true => unfold VTT.flush at hfl; rw [hcl] at hfl; simp at hfl
    rw [step_tsmap ms l hl.1 hl.2 hB.1 t1 hr' t5 (by rw [arrow_eq_spec]; exact tsmapLine_no_arrow l m htl) hx (hR.fresh hcl)]
    rcases parseTsMap_of_tsmapLine l m htl with hp | hp
    · right
      rw [hp]
      exact ⟨_, rfl, ⟨cs, { hR with tsmap := rfl }, hcs⟩, hB⟩
    · left; rw [hp]

theorem sim_meta (b : List Str) : ∀ {ds ds' : DocSt} {ms : St}, R2 ds ms → Between ms →
    (∀ l ∈ b, BLine l) → (∀ l ∈ b, regionOK l = true) → (∀ l ∈ b, metaT l = true) →
    b.foldl metaStep (some ds) = some ds' →
    run ms (b.map some) = .unmodelled ∨ ∃ ms', run ms (b.map some) = .ok ms' ∧ R2 ds' ms' ∧ Between ms' := by
  induction b with
  | nil =>
    intro ds ds' ms hR hB _ _ _ h
    simp only [List.foldl, Option.some.injEq] at h
    subst h
    exact Or.inr ⟨ms, rfl, hR, hB⟩
  | cons l ls ih =>
    intro ds ds' ms hR hB hl hok hm h
    simp only [List.foldl] at h
    cases h1 : metaStep (some ds) l with
    | none => rw [h1, foldl_metaStep_none] at h; cases h
    | some ds1 =>
      rw [h1] at h
      simp only [List.map_cons, run]
      rcases sim_meta_line hR hB l (hl l (by simp)) (hok l (by simp)) (hm l (by simp)) h1 with
        hs | ⟨ms1, hs, hR1, hB1⟩
      · left; rw [hs]
      · rw [hs]
        exact ih hR1 hB1 (fun x hx => hl x (by simp [hx])) (fun x hx => hok x (by simp [hx]))
          (fun x hx => hm x (by simp [hx])) h

def blockOKWith (ok : Str → Bool) (b : List Str) : Bool :=
  match b with
  | [] => true
  | first :: _ =>
    if (noteLine first).isSome then b.all noteOK
    else b.all regionOK && (cueTextOf b).all ok

theorem blockOK_eq (b : List Str) : blockOK b = blockOKWith lineOK b := rfl

theorem block_cases (ds : DocSt) (first : Str) (rest : List Str) (hn : noteLine first = none)
    (hs : first ≠ "STYLE".toList) :
    block ds (first :: rest) =
      if (first :: rest).all metaT then (first :: rest).foldl metaStep (some ds) else cueBlock ds (first :: rest) := by
  unfold block
  simp only [hn]
  rw [if_neg hs]
  rfl

/-- What `Spec.VTT.block ds b = some ds'` can have done: nothing, a comment, a `STYLE` block, header metadata, a cue —
    each with what the decoder checked on the way. -/
inductive BlockEff (ds : DocSt) : List Str → DocSt → Prop
  | none : BlockEff ds [] ds
  | note (first c : Str) (rest : List Str) : noteLine first = some c →
      (∀ l ∈ (if c = [] then [] else [c]) ++ rest.map noteMore, contains Spec.VTT.arrow l = false ∧ l ≠ []) →
      BlockEff ds (first :: rest) { ds with comments := ds.comments ++ ((if c = [] then [] else [c]) ++ rest.map noteMore) }
  | style (rest : List Str) : (∀ l ∈ rest, opener l = false ∧ contains Spec.VTT.arrow l = false) →
      (∀ l, rest.getLast? = some l → hasSuffix ['}'] l = true) →
      BlockEff ds ("STYLE".toList :: rest) { ds with styles := ds.styles ++ rest }
  | glued (first : Str) (rest : List Str) (ds' : DocSt) : noteLine first = Option.none →
      (∀ l ∈ first :: rest, metaT l = true) → (first :: rest).foldl metaStep (some ds) = some ds' →
      BlockEff ds (first :: rest) ds'
  | cue (first : Str) (rest : List Str) (id : Int) (timing : Str) (text : List Str) (ds' : DocSt) :
      noteLine first = Option.none → partsOf (first :: rest) = some (id, timing, text) →
      cueTextOf (first :: rest) = text → cueCore ds id timing text = some ds' → BlockEff ds (first :: rest) ds'

theorem block_eff {ds ds' : DocSt} {b : List Str} (h : block ds b = some ds') : BlockEff ds b ds' := by
  cases b with
  | nil => simp only [block, Option.some.injEq] at h; subst h; exact .none
  | cons first rest =>
    cases hn : noteLine first with
    | some c => obtain ⟨hg, rfl⟩ := block_note_inv hn h; exact .note first c rest hn hg
    | none =>
      by_cases hs : first = "STYLE".toList
      · subst hs; obtain ⟨hg, rfl, hl⟩ := block_style_inv h; exact .style rest hg hl
      · rw [block_cases ds first rest hn hs] at h
        by_cases hm : (first :: rest).all metaT = true
        · rw [if_pos hm] at h; exact .glued first rest ds' hn (List.all_eq_true.mp hm) h
        · rw [if_neg hm, cueBlock_eq] at h
          cases hp : partsOf (first :: rest) with
          | none => rw [hp] at h; cases h
          | some pr =>
            obtain ⟨id, timing, text⟩ := pr
            rw [hp] at h
            exact .cue first rest id timing text ds' hn hp (cueTextOf_of_partsOf hp) h

theorem sim_block {ok : Str → Bool} (T : TextLayer2 ok) {ds ds' : DocSt} {ms : St} (hR : R2 ds ms) (hB : Between ms)
    (b : List Str) (hl : ∀ l ∈ b, BLine l) (hok : blockOKWith ok b = true) (h : block ds b = some ds') :
    GoodRun (run ms (b.map some)) ds' := by
  cases block_eff h with
  | none => exact Or.inr ⟨ms, rfl, hR⟩
  | note first c rest hn hgood =>
    simp only [blockOKWith, hn, Option.isSome_some, if_true, List.all_eq_true] at hok
    exact Or.inr (sim_note hR hB first rest c hl hok hn hgood)
  | style rest hg hclosed => exact Or.inr (sim_style hR hB rest hl hg hclosed)
  | glued first rest _ hn hm hf =>
    simp only [blockOKWith, hn, Option.isSome_none, Bool.false_eq_true, if_false, Bool.and_eq_true,
      List.all_eq_true] at hok
    rcases sim_meta (first :: rest) hR hB hl hok.1 hm hf with h1 | ⟨ms', h1, h2, _⟩
    · exact Or.inl h1
    · exact Or.inr ⟨ms', h1, h2⟩
  | cue first rest id timing text _ hn hp htx hcore =>
    simp only [blockOKWith, hn, Option.isSome_none, Bool.false_eq_true, if_false, Bool.and_eq_true,
      List.all_eq_true] at hok
    exact sim_cue T hR hB (first :: rest) id timing text hl (htx ▸ hok.2) hp hcore

end VTTRead
end Astisub
