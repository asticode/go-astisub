import Astisub.Lemmas.STL2View
import Astisub.Lemmas.ConvView

/-!
# Lemmas/ConvSTL — conversion to EBU STL under display standard 0 (C07, destination `stl`)

Two parts.  The check's `truncSTL` is the frame floor the STL reader computes.  Then the file round trip of C05
on plain cue lists (`stl_read_write`: the cues read back show the source's at frame resolution), with the
predicates it is stated over (`PlainSTL`, `stlMetaOK`, `PlainSTLdoc`) and a cue list satisfying them (`exampleSTL`).

## `truncSTL` of the conversion check is the frame floor of C05

`Spec.Conv.truncSTL fr tcp t` (what `Driver.convOk` expects of an STL destination) against
`C05.frameInstant` (what the reader model computes from the timecode the writer model emits) and
`Driver.STLD.floorFrame` (what the `stl.write` check expects).  The reader subtracts the programme start
as read back from the GSI block, the check subtracts the programme start of the metadata: they agree
when the programme start is frame-aligned.
-/

namespace Astisub
namespace Conv2STL
open Go Spec.Conv Driver ConvView C05

theorem truncSTL_floorFrame (fr : Nat) (hfr : fr = 25 ∨ fr = 30) (tcp t : Int) (h0 : 0 ≤ t + tcp) :
    truncSTL (fr : Int) tcp t = STLD.floorFrame fr (t + tcp) - tcp := by
  unfold truncSTL STLD.floorFrame
  obtain ⟨n, hn⟩ : ∃ n : Nat, t + tcp = (n : Int) := ⟨(t + tcp).toNat, by omega⟩
  simp only [hn, Int.toNat_natCast]
  rcases hfr with rfl | rfl <;> omega

/-- the bound 921600000000000 ns = 256 h is that of `floorFrame_eq`: the hours of a timecode are one byte -/
theorem truncSTL_frameInstant (fr : Nat) (hfr : fr = 25 ∨ fr = 30) (tcp t : Int) (h0 : 0 ≤ t + tcp)
    (h1 : t + tcp < 921600000000000) (ha : frameInstant (fr : Int) tcp = tcp) :
    frameInstant (fr : Int) (t + tcp) - frameInstant (fr : Int) tcp = truncSTL (fr : Int) tcp t := by
  rw [ha, truncSTL_floorFrame fr hfr tcp t h0, floorFrame_eq (t + tcp) fr hfr h1]

/-- a cue seen at the resolution of an STL file with frame rate `fr` and programme start `tcp` -/
def truncCueSTL (fr tcp : Int) (c : VCue) : VCue :=
  { c with startAt := truncSTL fr tcp c.startAt, endAt := truncSTL fr tcp c.endAt }

theorem convOk_of_view_stl (strict : Bool) (s back : Subs)
    (h : viewOf back = (viewOf s).map (truncCueSTL (stlParams s).1 (stlParams s).2)) :
    convOk strict "stl" s back = true := by
  unfold convOk
  simp only [if_true, h, List.length_map, beq_self_eq_true, Bool.true_and, List.zip_map_all]
  rw [List.all_eq_true]
  intro a _
  simp [truncCueSTL]

end Conv2STL

/-!
## the file round trip on plain cue lists

The cue the stream hands to the writer (`Driver.STLD.cueOf`) is, for a plain cue, the writer's view of a
well-formed `MCue` (`Lemmas/STL2Tti.lean`; round trip in `Props/C05doc2.lean`) (simple text is repertoire text of the Latin table); reading joins
adjacent unstyled runs with a blank, which the view disregards; hence the file round trip of C05 shows the
source's cues at frame resolution.
-/

namespace Conv2STL
open Go Spec.Conv Driver ConvView C05 STL List

theorem simple_carried : ∀ n < 123, simpleChar (Char.ofNat n) = true → (n, [n]) ∈ carried := by decide +kernel

theorem char_toNat_eq {c : Char} {n : Nat} (d : Char) (hd : d.toNat = n) (h : c = d) : c.toNat = n := by rw [h, hd]

/-- the repertoire unit of a simple character: the table character with the same code -/
def unitOf (c : Char) : C05.Unit := charUnit (c.toNat, [c.toNat])

theorem unitOf_rep {c : Char} (h : simpleChar c = true) : RepUnit (unitOf c) :=
  RepUnit.ch _ (simple_carried c.toNat (by have := (simpleChar_le h).2; omega) (by rw [Char.ofNat_toNat]; exact h))

theorem flatMap_unit_text (t : Str) : (t.map unitOf).flatMap (·.text) = t.map Char.toNat := by
  induction t with
  | nil => rfl
  | cons c cs ih => simp only [map_cons, flatMap_cons, ih]; rfl

theorem str_toNat (t : Str) : str (t.map Char.toNat) = t := by
  unfold str
  rw [map_map]
  conv => rhs; rw [← map_id t]
  apply map_congr_left
  intro c _
  exact Char.ofNat_toNat c

/-- a run as the stream hands it to the writer, as a run of repertoire units -/
def rrunOf (li : LItem) : RRun :=
  { units := li.text.map unitOf, italics := STLD.isTrue li.attrs "STLItalics",
    underline := STLD.isTrue li.attrs "STLUnderline", boxing := STLD.isTrue li.attrs "STLBoxing" }

/-- a cue as the stream hands it to the writer, as an `MCue` -/
def mcueOf (it : CItem) : MCue :=
  { startAt := it.startAt, endAt := it.endAt, just := (STLD.cueOf it).just, vp := (STLD.cueOf it).vp,
    rows := it.lines.map fun l => l.items.map rrunOf }

theorem rrunOf_text (li : LItem) : (rrunOf li).text = li.text.map Char.toNat := flatMap_unit_text li.text

theorem rrunOf_str (li : LItem) : str (rrunOf li).text = li.text := by rw [rrunOf_text, str_toNat]

theorem mcueOf_toW (it : CItem) : (mcueOf it).toW = STLD.cueOf it := by
  unfold mcueOf MCue.toW STLD.cueOf
  simp only [map_map]
  congr 1
  apply map_congr_left
  intro l _
  simp only [Function.comp_apply, map_map]
  apply map_congr_left
  intro li _
  have e := rrunOf_text li
  simp only [Function.comp_apply, RRun.toW, e]
  rfl

/-- a run the STL writer and reader carry as it is: simple characters, at least one, no blank at either end.
    All attributes (the run's own `STLItalics` / `STLUnderline` / `STLBoxing` included) are free. -/
def plainRun (li : LItem) : Bool := simpleText li.text && li.text.head?.any (· != ' ') && li.text.getLast?.any (· != ' ')

theorem plainRun_simple {li : LItem} (h : plainRun li = true) : ∀ c ∈ li.text, simpleChar c = true := by
  simp only [plainRun, Bool.and_eq_true, simpleText_eq, all_eq_true] at h
  exact h.1.1

theorem plainRun_ne {li : LItem} (h : plainRun li = true) : li.text ≠ [] := by
  intro e
  simp [plainRun, e] at h

theorem plainRun_trimmed {li : LItem} (h : plainRun li = true) : Trimmed li.text := by
  have hs := plainRun_simple h
  simp only [plainRun, Bool.and_eq_true] at h
  exact trimmed_of_edges (Bool.and_eq_true_iff.mpr ⟨h.1.2, h.2⟩) hs

theorem rrunOf_okT {li : LItem} (h : plainRun li = true) : (rrunOf li).okT := by
  refine ⟨?_, ?_, ?_⟩
  · intro u hu
    simp only [rrunOf, mem_map] at hu
    obtain ⟨c, hc, rfl⟩ := hu
    exact unitOf_rep (plainRun_simple h c hc)
  · rw [rrunOf_str]; exact plainRun_ne h
  · rw [rrunOf_str]; exact trimSpace_of_trimmed (plainRun_trimmed h)

/-- a cue the STL writer and reader carry: every line has a run, every run is plain, the encoded text
    (rows, line breaks, style codes) fits the 112-byte text field of a TTI block -/
def plainCue (it : CItem) : Bool :=
  (it.lines.all fun l => !l.items.isEmpty && l.items.all plainRun) &&
  decide ((encodeText (cueString (STLD.cueOf it))).length ≤ 112)

theorem mcueOf_ok {it : CItem} (h : plainCue it = true) : (mcueOf it).ok := by
  simp only [plainCue, Bool.and_eq_true, all_eq_true, Bool.not_eq_true', decide_eq_true_eq] at h
  refine ⟨?_, by rw [mcueOf_toW]; exact h.2⟩
  intro l hl
  simp only [mcueOf, mem_map] at hl
  obtain ⟨l0, hl0, rfl⟩ := hl
  have := h.1 l0 hl0
  refine ⟨by intro e; have := this.1; simp at e; simp [e] at this, ?_⟩
  intro r hr
  obtain ⟨li, hli, rfl⟩ := mem_map.mp hr
  exact rrunOf_okT (this.2 li hli)

theorem squash_mpAux (body : Str) (xs : List (Str × B3)) :
    squash (((mpAux body xs).map (·.1)).flatten) = squash (body ++ (xs.map (·.1)).flatten) := by
  induction xs generalizing body with
  | nil =>
    by_cases hb : body = []
    · simp [mpAux, hb]
    · simp [mpAux, hb]
  | cons x rest ih =>
    by_cases hp : x.2 = plain3
    · simp only [mpAux, hp, if_true, ih, map_cons, flatten_cons]
      by_cases hb : body = []
      · simp [hb]
      · simp only [hb, if_false, squash_append, append_assoc, squash_space]
    · simp only [mpAux, hp, if_false, map_append, map_cons, flatten_append, flatten_cons, squash_append, ih, nil_append]
      by_cases hb : body = []
      · simp [hb, squash]
      · simp [hb]

theorem squash_line (l : List RRun) (h : ∀ r ∈ l, r.okT) :
    squash (((lineOf l).items.map (·.text)).flatten) = squash ((l.map fun r => str r.text).flatten) := by
  have h1 := lineOf_runs l h
  have h2 : (lineOf l).items.map (·.text) = (mergePlain (l.map wv)).map (·.1) := by
    rw [← h1, map_map]; rfl
  rw [h2]
  unfold mergePlain
  rw [squash_mpAux, nil_append, map_map]
  rfl

theorem squash_ne_nil_of_head {t : Str} {c : Char} (h : t.head? = some c) (hc : isSpace c = false) : squash t ≠ [] := by
  cases t with
  | nil => cases h
  | cons x xs =>
    simp at h; subst h
    simp [squash, hc]

theorem sqLines_tti (R : GSI) (G : WGSI) (off : Int) (it : CItem) (h : plainCue it = true) :
    sqLines (ttiCueM R G off (mcueOf it)) = sqLines it := by
  have hok := mcueOf_ok h
  unfold sqLines ttiCueM mcueOf
  simp only [map_map]
  apply map_congr_left
  intro l hl
  simp only [Function.comp_apply]
  have hrow : ∀ r ∈ l.items.map rrunOf, r.okT := (hok.1 _ (by simp only [mcueOf, mem_map]; exact ⟨l, hl, rfl⟩)).2
  rw [squash_line _ hrow, map_map]
  congr 2
  apply map_congr_left
  intro li _
  exact rrunOf_str li

theorem cueView_tti (R : GSI) (G : WGSI) (off : Int) (it : CItem) (h : plainCue it = true) :
    cueView (ttiCueM R G off (mcueOf it)) =
      { cueView it with startAt := frameInstant G.m.framerate (it.startAt + G.m.tcp) - off,
                        endAt := frameInstant G.m.framerate (it.endAt + G.m.tcp) - off } := by
  rw [cueView_of_sq _ it (sqLines_tti R G off it h)]
  rfl

/-- the cues the `conv.pair` / `stl.write` streams hand to the writer model -/
def cuesOf (s : Subs) : List WCue := s.items.map STLD.cueOf

theorem cuesOf_eq (s : Subs) : (s.items.map mcueOf).map MCue.toW = cuesOf s := by
  unfold cuesOf
  rw [map_map]
  apply map_congr_left
  intro it _
  exact mcueOf_toW it

/-- **what the metadata must be like**, for a document written on day `now`: the GSI block the writer fills
    (`newGSI`, after its defaults) is well-formed (`C05.GsiOK`: frame rate 25 / 30, values that fit their
    fields, existing dates, numbers within 0–99, timecodes below 100 h); the programme start is not negative
    and frame-aligned (it is when it was read from an STL file); the frame rate the writer uses is the one
    the check derives from the metadata (`Driver.stlParams`: 30 for the value `30`, else 25) -/
def MetaFit (now : Date) (s : Subs) (m : Meta) : Prop :=
  GsiOK (newGSI now (some m) (cuesOf s)) ∧ 0 ≤ m.tcp ∧
  (newGSI now (some m) (cuesOf s)).m.framerate = (stlParams s).1 ∧
  frameInstant (newGSI now (some m) (cuesOf s)).m.framerate m.tcp = m.tcp

instance (now : Date) (s : Subs) (m : Meta) : Decidable (MetaFit now s m) := by unfold MetaFit; infer_instance

/-- the cue list has metadata and it fits (decidable; depends on the day only through the default dates) -/
def stlMetaOK (now : Date) (s : Subs) : Bool :=
  match STLD.metaOf s.metadata with
  | some m => decide (MetaFit now s m)
  | none => false

theorem stlParams_tcp (s : Subs) (m : Meta) (h : STLD.metaOf s.metadata = some m) : (stlParams s).2 = m.tcp := by
  unfold STLD.metaOf at h
  cases hm : s.metadata with
  | none => rw [hm] at h; cases h
  | some kv =>
    rw [hm] at h
    simp only [Option.some.injEq] at h
    subst h
    simp only [stlParams, hm, SRT.kvGet, STLD.kv]
    cases kv.lookup "STLTimecodeStartOfProgramme".toList <;> rfl

theorem utf8N_zero : STLD.utf8N "0".toList = [0x30] := by decide +kernel

/-- metadata that says display standard 0 puts the byte `0` (open subtitling) into the GSI block -/
theorem dsc_open (now : Date) (s : Subs) (m : Meta) (h : STLD.metaOf s.metadata = some m)
    (hd : SRT.kvGet s.metadata "STLDisplayStandardCode" = some "0".toList) (cues : List WCue) :
    (newGSI now (some m) cues).m.dsc = [0x30] := by
  have hm : m.dsc = [0x30] := by
    unfold STLD.metaOf at h
    cases hmd : s.metadata with
    | none => rw [hmd] at h; cases h
    | some kv =>
      rw [hmd] at h hd
      simp only [Option.some.injEq] at h
      subst h
      simp only [SRT.kvGet] at hd
      simp only [STLD.kv, hd, Option.map_some, Option.getD_some, utf8N_zero]
  unfold newGSI
  simp only [hm]
  rfl

/-- **Plain cue lists for EBU STL (display standard 0).** at least one cue; every line of every cue has at
    least one run; every run is simple text (`simpleText`), not empty, without a blank at either end; the
    encoded text of every cue fits the 112 bytes of a TTI block.  Free: all attributes of runs and cues
    (the STL ones included: italics / underline / boxing, justification, vertical position), voices, styles,
    regions, comments, indexes, cues without lines. -/
def PlainSTL (s : Subs) : Bool := !s.items.isEmpty && s.items.all plainCue

/-- the view an STL destination returns: instants at frame resolution, text untouched -/
def truncViewSTL (s : Subs) : List VCue := (viewOf s).map (truncCueSTL (stlParams s).1 (stlParams s).2)

theorem stl_read_write (now : Date) (s : Subs) (hr : inRange "stl" s = true) (hp : PlainSTL s = true)
    (hd : SRT.kvGet s.metadata "STLDisplayStandardCode" = some "0".toList) (hm : stlMetaOK now s = true) :
    ∃ out md items, STL.write now (STLD.metaOf s.metadata) (cuesOf s) = .ok out ∧
      STL.read false out = .ok (md, items) ∧ viewOf { items := items } = truncViewSTL s := by
  unfold stlMetaOK at hm
  cases hmeta : STLD.metaOf s.metadata with
  | none => rw [hmeta] at hm; cases hm
  | some m =>
    rw [hmeta] at hm
    obtain ⟨hG, htcp, hfrm, hal⟩ : MetaFit now s m := by simpa using hm
    simp only [PlainSTL, Bool.and_eq_true, Bool.not_eq_true', all_eq_true] at hp
    obtain ⟨hne, hcues⟩ := hp
    have hrg := inRange_items_lim (if_pos rfl) hr
    have hcs := cuesOf_eq s
    have hok : ∀ c ∈ s.items.map mcueOf, c.ok := by
      intro c hc
      obtain ⟨it, hit, rfl⟩ := mem_map.mp hc
      exact mcueOf_ok (hcues it hit)
    have hne' : s.items.map mcueOf ≠ [] := by
      intro e
      have : s.items = [] := by simpa using e
      rw [this] at hne; cases hne
    have ht : ∀ c ∈ s.items.map mcueOf, MTimesOK m.tcp c := by
      intro c hc
      obtain ⟨it, hit, rfl⟩ := mem_map.mp hc
      obtain ⟨r1, _, r3, _⟩ := hrg it hit
      unfold MTimesOK mcueOf
      simp only
      omega
    have hw := write_okM now m (s.items.map mcueOf) hne' htcp hok ht
    have hdsc := dsc_open now s m hmeta hd (cuesOf s)
    rw [hcs] at hw
    have hread := read_writeBodyM false now (some m) (s.items.map mcueOf) (by rw [hcs]; exact hG)
      (by rw [hcs]; exact hdsc) hok
    rw [hcs] at hread
    refine ⟨_, _, _, hw, hread, ?_⟩
    generalize hGd : newGSI now (some m) (cuesOf s) = G at hG hfrm hal hread
    obtain ⟨fr, hfrN, hfrI⟩ : ∃ fr : Nat, (fr = 25 ∨ fr = 30) ∧ G.m.framerate = (fr : Int) := by
      rcases hG.1 with e | e
      · exact ⟨25, Or.inl rfl, e⟩
      · exact ⟨30, Or.inr rfl, e⟩
    have hGtcp : G.m.tcp = m.tcp := by rw [← hGd]; rfl
    have hGtcp1 : m.tcp < 360000000000000 := hGtcp ▸ hG.tcp_lt
    have hoff : (readMeta false (gsiBack G)).tcp = frameInstant G.m.framerate G.m.tcp := rfl
    have hp2 := stlParams_tcp s m hmeta
    simp only [viewOf_eq, truncViewSTL, map_map]
    apply map_congr_left
    intro it hit
    obtain ⟨r1, r2, r3, r4⟩ := hrg it hit
    simp only [Function.comp_apply]
    rw [cueView_tti _ _ _ it (hcues it hit), hoff, hGtcp, hfrI]
    rw [hfrI] at hal hfrm
    rw [truncSTL_frameInstant fr hfrN m.tcp it.startAt (by omega) (by omega) hal,
      truncSTL_frameInstant fr hfrN m.tcp it.endAt (by omega) (by omega) hal, hp2, ← hfrm]
    rfl

/-- the metadata carries a creation date and a revision date (so the writer does not look at the clock) -/
def datesSet (s : Subs) : Bool :=
  match STLD.metaOf s.metadata with
  | some m => m.creation.isSome && m.revisionDate.isSome
  | none => false

theorem stlMetaOK_day (now now' : Date) (s : Subs) (hd : datesSet s = true) (h : stlMetaOK now s = true) :
    stlMetaOK now' s = true := by
  unfold stlMetaOK datesSet at *
  cases hm : STLD.metaOf s.metadata with
  | none => rw [hm] at h; cases h
  | some m =>
    rw [hm] at h hd
    simp only [Bool.and_eq_true] at hd
    simp only [decide_eq_true_eq] at h ⊢
    unfold MetaFit at h ⊢
    rw [newGSI_clock now' now m _ hd.1 hd.2]
    exact h

/-- **Plain cue lists with their own dates**: plain, both dates set, fitting metadata (on any day) -/
def PlainSTLdoc (s : Subs) : Bool := PlainSTL s && datesSet s && stlMetaOK zeroDate s

/-- two cues with foreign attributes everywhere: a line of two runs (the second in STL italics, with two
    blanks inside), a second line, a cue without text ending at 0 and starting one nanosecond before 24 h;
    a region, a style, metadata with display standard 0, a title, both dates and a foreign key -/
def exampleSTL : Subs :=
  { items := [
      { startAt := 1234567890, endAt := 3000000000, index := 7, region := some "r".toList, style := some "Top".toList,
        attrs := some [("SSAMarginLeft".toList, "12".toList), ("WebVTTAlign".toList, "start".toList)],
        comments := ["seen".toList],
        lines := [ { voice := "Bob".toList,
                     items := [ { text := "Hello,".toList, attrs := some [("TTMLColor".toList, "#ff0000".toList)] },
                                { text := "world  42!".toList, style := some "s".toList,
                                  attrs := some [("SRTBold".toList, "true".toList), ("STLItalics".toList, "true".toList),
                                                 ("WebVTTTags".toList, "b|i".toList)] } ] },
                   { items := [ { text := "Is it?".toList, attrs := some [("SSAEffect".toList, [])] } ] } ] },
      { startAt := 86399999999999, endAt := 0, lines := [] } ],
    regions := [{ id := "r".toList }],
    styles := [{ id := "Top".toList, attrs := some [("SSABold".toList, "true".toList)] }],
    metadata := some [("SSAPlayResX".toList, "384".toList), ("STLCreationDate".toList, "260927".toList),
                      ("STLDisplayStandardCode".toList, "0".toList), ("STLRevisionDate".toList, "260928".toList),
                      ("Title".toList, "Plain".toList)] }

def exampleMeta : Meta :=
  { dsc := [0x30], title := "Plain".toList.map Char.toNat, creation := some { yy := 26, mm := 9, dd := 27 },
    revisionDate := some { yy := 26, mm := 9, dd := 28 } }

theorem exampleSTL_meta : STLD.metaOf exampleSTL.metadata = some exampleMeta := by decide +kernel

theorem exampleSTL_runs : (exampleSTL.items.all fun it => it.lines.all fun l => !l.items.isEmpty && l.items.all plainRun) = true := by
  decide +kernel

/-- the kernel evaluates the NFD tables here -/
theorem exampleSTL_fits : ∀ it ∈ exampleSTL.items, (encodeText (cueString (STLD.cueOf it))).length ≤ 112 := by
  decide +kernel

theorem exampleSTL_plain : PlainSTL exampleSTL = true := by
  have h1 := exampleSTL_runs
  have h2 := exampleSTL_fits
  simp only [all_eq_true, Bool.and_eq_true] at h1
  simp only [PlainSTL, plainCue, Bool.and_eq_true, all_eq_true, decide_eq_true_eq]
  exact ⟨rfl, fun it hit => ⟨h1 it hit, h2 it hit⟩⟩

theorem exampleSTL_gsi : GsiOK (newGSI zeroDate (some exampleMeta) (cuesOf exampleSTL)) := by decide +kernel

theorem exampleSTL_fr : (newGSI zeroDate (some exampleMeta) (cuesOf exampleSTL)).m.framerate = (stlParams exampleSTL).1 := by
  decide +kernel

theorem exampleSTL_aligned :
    frameInstant (newGSI zeroDate (some exampleMeta) (cuesOf exampleSTL)).m.framerate exampleMeta.tcp = exampleMeta.tcp := by
  decide +kernel

theorem exampleSTL_metaOK (now : Date) : stlMetaOK now exampleSTL = true := by
  apply stlMetaOK_day zeroDate now
  · unfold datesSet; rw [exampleSTL_meta]; rfl
  · unfold stlMetaOK
    rw [exampleSTL_meta]
    exact decide_eq_true ⟨exampleSTL_gsi, by decide, exampleSTL_fr, exampleSTL_aligned⟩

theorem exampleSTL_doc : PlainSTLdoc exampleSTL = true := by
  have : datesSet exampleSTL = true := by unfold datesSet; rw [exampleSTL_meta]; rfl
  simp only [PlainSTLdoc, exampleSTL_plain, this, exampleSTL_metaOK, Bool.and_self]

theorem exampleSTL_range : inRange "stl" exampleSTL = true := by decide +kernel
theorem exampleSTL_dsc : SRT.kvGet exampleSTL.metadata "STLDisplayStandardCode" = some "0".toList := by decide +kernel

example : inRange "stl" exampleSTL = true := exampleSTL_range
example : SRT.kvGet exampleSTL.metadata "STLDisplayStandardCode" = some "0".toList := exampleSTL_dsc
-- the predicates exclude something
example : plainRun { text := " x".toList } = false := by decide +kernel
example : plainRun { text := "".toList } = false := by decide +kernel
example : plainRun { text := "x[".toList } = false := by decide +kernel
example : plainCue { startAt := 0, endAt := 1, lines := [{ items := [] }] } = false := by decide +kernel
example : stlMetaOK zeroDate { items := [], metadata := none } = false := by decide +kernel

end Conv2STL
end Astisub
