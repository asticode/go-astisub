import Astisub.Lemmas.TotBase
import Astisub.Model.STL

/-!
# Lemmas/TotSTL — the STL reader with Go's index, slice and division checks made explicit

Checked variants (monad `Chk`) of `parseDurationSTL`, `parseDurationSTLBytes`, `parseGSIBlock`,
`parseTTIBlock` and of the block loop of `ReadFromSTL` (`stl.go`), each proved (a) never to panic
and (b) to compute what the totalised model (`Model/STL.lean`, `Model/Duration.lean`) computes.
The guards that make (a) true:

* `ReadFromSTL` hands `parseGSIBlock` exactly 1024 bytes and `parseTTIBlock` exactly 128 bytes
  (`readNBytes`: a short read is an error) — every fixed offset is below the block size;
* `parseGSIBlock` answers an error for a disk format code that `stlFramerateMapping` does not hold
  (fix-1 of C05), so the frame rate it divides by is 25 or 30, never 0;
* `parseDurationSTL` is only called on a trimmed time code of at least 8 characters (fix-2 of C05).
-/

namespace Astisub
namespace Tot
namespace STL
open Astisub.STL Go Duration

theorem idxN_ok {l : List Nat} {i : Nat} (h : i < l.length) : idx l i = .ok (l.getD i 0) := idx_ok h 0

/-- the division `1e9*frames/framerate` of `parseDurationSTL` / `parseDurationSTLBytes` (stl.go) -/
def framesToNsC (ceil : Bool) (f fr : Int) : Chk Int :=
  if ceil then tdivC (1000000000 * f + fr - 1) fr else tdivC (1000000000 * f) fr

theorem framesToNsC_ok {fr : Int} (h : fr ≠ 0) (ceil : Bool) (f : Int) :
    framesToNsC ceil f fr = .ok (framesToNs ceil f fr) := by
  unfold framesToNsC framesToNs
  cases ceil <;> simp [tdivC_ok h]

/-- `parseDurationSTL(i, framerate)` (stl.go): `i[0:2]`, `i[2:4]`, `i[4:6]`, `i[6:8]`, then the division -/
def parseSTLC (ceil : Bool) (i : Str) (fr : Int) : Chk (Option Int) := do
  let hs ← slc i 0 2
  let ms ← slc i 2 4
  let ss ← slc i 4 6
  let fs ← slc i 6 8
  match atoi hs, atoi ms, atoi ss, atoi fs with
  | some h, some m, some s, some f => do
    let ns ← framesToNsC ceil f fr
    pure (some (h * nsPerH + m * nsPerMin + s * nsPerS + ns))
  | _, _, _, _ => pure none

theorem parseSTLC_eq (ceil : Bool) (i : Str) (fr : Int) (hlen : 8 ≤ i.length) (hfr : fr ≠ 0) :
    parseSTLC ceil i fr = .ok (parseSTL ceil i fr) := by
  unfold parseSTLC parseSTL
  simp (disch := omega) only [↓ bind_eq_of_ok (slc_ok _ _), List.drop_zero, Nat.sub_zero]
  split <;> simp_all [framesToNsC_ok hfr]

/-- `parseDurationSTLBytes(b, framerate)` (stl.go): `b[0]` … `b[3]`, then the division -/
def parseSTLBytesC (ceil : Bool) (b : List Nat) (fr : Int) : Chk Int := do
  let h ← idx b 0
  let m ← idx b 1
  let s ← idx b 2
  let f ← idx b 3
  let ns ← framesToNsC ceil (f : Int) fr
  pure ((h : Int) * nsPerH + (m : Int) * nsPerMin + (s : Int) * nsPerS + ns)

theorem parseSTLBytesC_eq (ceil : Bool) (b : List Nat) (fr : Int) (hlen : b.length = 4) (hfr : fr ≠ 0) :
    parseSTLBytesC ceil b fr = .ok (parseSTLBytes ceil b fr) := by
  match b, hlen with
  | [h, m, s, f], _ =>
    unfold parseSTLBytesC parseSTLBytes
    simp [idx, framesToNsC_ok hfr]

theorem framerate_pos : ∀ e ∈ Generated.STL.framerates, e.2.1 ≠ 0 := by decide

theorem framerateOf_ne_zero {dfc : Bytes} {fr : Nat} (h : framerateOf dfc = some fr) : (fr : Int) ≠ 0 := by
  unfold framerateOf at h
  cases hf : Generated.STL.framerates.find? (fun e => e.1 == dfc) with
  | none => rw [hf] at h; cases h
  | some e =>
    rw [hf] at h
    have hm := List.mem_of_find?_eq_some hf
    have := framerate_pos e hm
    simp at h
    omega

/-- `bytes.TrimSpace(b[lo:hi])` -/
def fieldC (b : Bytes) (lo hi : Nat) : Chk Bytes := do
  let s ← slc b lo hi
  pure (trimB s)

theorem slcB_ok {b : Bytes} {lo hi : Nat} (h1 : lo ≤ hi) (h2 : hi ≤ b.length) : slc b lo hi = .ok (slice b lo hi) :=
  slc_ok h1 h2

theorem fieldC_ok {b : Bytes} {lo hi : Nat} (h1 : lo ≤ hi) (h2 : hi ≤ b.length) : fieldC b lo hi = .ok (field b lo hi) := by
  unfold fieldC; rw [slcB_ok h1 h2]; rfl

/-- the time code fields of `parseGSIBlock`: blank ⇒ 0, fewer than 8 characters ⇒ error (the guard
    in front of `parseDurationSTL`), else `parseDurationSTL` -/
def gsiTimecodeC (v : Bytes) (fr : Int) : Chk (Option Int) :=
  if v.isEmpty then pure (some 0)
  else if v.length < 8 then pure none
  else parseSTLC true (chars v) fr

theorem gsiTimecodeC_eq (v : Bytes) (fr : Int) (hfr : fr ≠ 0) : gsiTimecodeC v fr = .ok (gsiTimecode v fr) :=
  ite_ok (fun _ => rfl) fun _ => ite_ok (fun _ => rfl) fun h =>
    parseSTLC_eq true (chars v) fr (by simp only [chars, List.length_map]; omega) hfr

/-- `parseGSIBlock(b)` (stl.go) with every slice and index expression of the Go function checked —
    also those of the fields the model does not observe (`b[0:3]`, `b[255]`, `b[373:448]`) — and all
    of them evaluated before any early error return (a superset of what one Go execution evaluates) -/
def parseGSIC (b : Bytes) : Chk (Option GSI) := do
  let _cpn ← slc b 0 3
  let dfc ← slc b 3 11
  let dsc ← fieldC b 11 12
  let c12 ← idx b 12
  let c13 ← idx b 13
  let code ← fieldC b 14 16
  let title ← fieldC b 16 48
  let origEp ← fieldC b 48 80
  let trProg ← fieldC b 80 112
  let trEp ← fieldC b 112 144
  let trName ← fieldC b 144 176
  let trContact ← fieldC b 176 208
  let slr ← fieldC b 208 224
  let cd ← fieldC b 224 230
  let rd ← fieldC b 230 236
  let rn ← fieldC b 236 238
  let tnb ← fieldC b 238 243
  let tns ← fieldC b 243 248
  let tng ← fieldC b 248 251
  let mnc ← fieldC b 251 253
  let mnr ← fieldC b 253 255
  let _tcs ← idx b 255
  let tcpF ← fieldC b 256 264
  let tcfF ← fieldC b 264 272
  let tnd ← idx b 272
  let dsn ← idx b 273
  let country ← fieldC b 274 277
  let publisher ← fieldC b 277 309
  let edName ← fieldC b 309 341
  let edContact ← fieldC b 341 373
  let _uda ← slc b 373 448
  match framerateOf dfc with
  | none => pure none
  | some fr =>
    let cct := c12 * 256 + c13
    if !Generated.STL.cctNumbers.contains cct then pure none else
    match dateField cd, dateField rd, atoiField rn, atoiField tnb, atoiField tns, atoiField tng,
          atoiField mnc, atoiField mnr with
    | some cd, some rd, some rn, some _, some _, some _, some mnc, some mnr => do
      let tcp? ← gsiTimecodeC tcpF fr
      let tcf? ← gsiTimecodeC tcfF fr
      match tcp?, tcf?, atoiByte tnd, atoiByte dsn with
      | some tcp, some _, some _, some _ =>
        pure (some {
          cct := cct, langCode := code, tcpFull := tcp,
          m := { framerate := fr, language := (languageOf code).getD [], country := country,
                 creation := some cd, dsc := dsc, editorContact := edContact,
                 editorName := edName, maxChars := some (mnc.getD 0), maxRows := some (mnr.getD 0),
                 origEpisode := origEp, publisher := publisher, revisionDate := some rd,
                 revisionNumber := rn.getD 0, slr := slr, tcp := tcp,
                 translEpisode := trEp, translProgram := trProg,
                 translContact := trContact, translName := trName, title := title } })
      | _, _, _, _ => pure none
    | _, _, _, _, _, _, _, _ => pure none

theorem parseGSIC_eq (b : Bytes) (hb : b.length = 1024) : parseGSIC b = .ok (parseGSI b) := by
  unfold parseGSIC
  simp (disch := omega) only [↓ bind_eq_of_ok (slcB_ok _ _), ↓ bind_eq_of_ok (fieldC_ok _ _),
    ↓ bind_eq_of_ok (idxN_ok _)]
  unfold parseGSI
  cases hfr : framerateOf (slice b 3 11) with
  | none => rfl
  | some fr =>
    refine ite_ok (fun _ => rfl) fun _ => ?_
    -- the two matches of either side answer on the first field that does not parse
    cases dateField (field b 224 230); · rfl
    cases dateField (field b 230 236); · rfl
    cases atoiField (field b 236 238); · rfl
    cases atoiField (field b 238 243); · rfl
    cases atoiField (field b 243 248); · rfl
    cases atoiField (field b 248 251); · rfl
    cases atoiField (field b 251 253); · rfl
    cases atoiField (field b 253 255); · rfl
    -- the two time codes are parsed in this arm only
    have htc := fun v => bind_eq_of_ok (β := Option GSI) (gsiTimecodeC_eq v _ (framerateOf_ne_zero hfr))
    simp only
    rw [htc, htc]
    cases gsiTimecode (field b 256 264) fr; · rfl
    cases gsiTimecode (field b 264 272) fr; · rfl
    cases atoiByte (b.getD 272 0); · rfl
    cases atoiByte (b.getD 273 0) <;> rfl

/-- a GSI block that `parseGSIBlock` accepted carries a frame rate of the table: not zero.
    This is the guard of fix-1 (unknown disk format code ⇒ error) seen from the division. -/
theorem parseGSI_framerate {b : Bytes} {g : GSI} (h : parseGSI b = some g) : g.m.framerate ≠ 0 := by
  unfold parseGSI at h
  cases hfr : framerateOf (slice b 3 11) with
  | none => rw [hfr] at h; cases h
  | some fr =>
    rw [hfr] at h
    simp only at h
    split at h
    · cases h
    · split at h
      · split at h
        · cases h; exact framerateOf_ne_zero hfr
        · cases h
      · cases h

/-- `parseTTIBlock(p, framerate)` (stl.go: `p[0]` … `p[4]`, `p[5:9]`, `p[9:13]`, `p[13]`, `p[14]`, `p[15]`,
    `p[16:128]`, two calls of `parseDurationSTLBytes`) and the rest of the loop body of `ReadFromSTL`
    for that block -/
def ttiItemC (g : GSI) (off : Int) (acc : Option Nat) (p : Bytes) : Chk (Option (Option CItem × Option Nat)) := do
  let _sgn ← idx p 0
  let _sn1 ← idx p 1
  let _sn2 ← idx p 2
  let ebn ← idx p 3
  let _cs ← idx p 4
  let tciB ← slc p 5 9
  let tcoB ← slc p 9 13
  let vp ← idx p 13
  let jc ← idx p 14
  let _cf ← idx p 15
  let text ← slc p 16 128
  let tci ← parseSTLBytesC true tciB g.m.framerate
  let tco ← parseSTLBytesC true tcoB g.m.framerate
  if ebn == 0xFE then pure (some (none, acc)) else
  let rows := splitRows text
  match rowsFold (g.m.dsc == [0x30]) acc rows with
  | none => pure none
  | some (lines, acc') =>
    pure (some (some { startAt := tci - off, endAt := tco - off,
                       attrs := itemAttrs jc vp (g.m.maxRows.getD 0) rows.length,
                       lines := lines }, acc'))

theorem slice_length {b : Bytes} {lo hi : Nat} (h2 : hi ≤ b.length) : (slice b lo hi).length = hi - lo := by
  simp [slice]; omega

theorem ttiItemC_eq (g : GSI) (off : Int) (acc : Option Nat) (p : Bytes) (hp : p.length = 128)
    (hfr : g.m.framerate ≠ 0) : ttiItemC g off acc p = .ok (ttiItem g off acc p) := by
  unfold ttiItemC
  simp (disch := omega) only [↓ bind_eq_of_ok (slcB_ok _ _), ↓ bind_eq_of_ok (idxN_ok _)]
  rw [parseSTLBytesC_eq true (slice p 5 9) _ (by rw [slice_length (by omega)]) hfr,
      parseSTLBytesC_eq true (slice p 9 13) _ (by rw [slice_length (by omega)]) hfr]
  simp only [ok_bind]
  unfold ttiItem
  refine ite_ok (fun _ => rfl) fun _ => ?_
  simp only
  cases rowsFold (g.m.dsc == [0x30]) acc (splitRows (slice p 16 128)) <;> rfl

/-- the TTI loop of `ReadFromSTL`: `readNBytes(r, 128)` — nothing left: done; fewer than 128 bytes:
    error (this is the guard that `parseTTIBlock` relies on); else parse the block.  `none` = error. -/
def ttiLoopC (g : GSI) (off : Int) : Nat → Option Nat → Bytes → Chk (Option (List CItem))
  | 0, _, _ => pure (some [])
  | fuel + 1, acc, b =>
    if b.isEmpty then pure (some [])
    else if b.length < 128 then pure none
    else do
      let r ← ttiItemC g off acc (b.take 128)
      match r with
      | none => pure none
      | some (it, acc') => do
        let rest ← ttiLoopC g off fuel acc' (b.drop 128)
        match rest with
        | none => pure none
        | some its => pure (some ((match it with | some it => [it] | none => []) ++ its))

theorem ttiLoopC_eq (g : GSI) (off : Int) (hfr : g.m.framerate ≠ 0) :
    ∀ (fuel : Nat) (acc : Option Nat) (b : Bytes), b.length < fuel →
      ttiLoopC g off fuel acc b =
        .ok (match ttiFold g off acc (chunks 128 fuel b) with
             | none => none
             | some its => if b.length % 128 ≠ 0 then none else some its) := by
  intro fuel
  induction fuel with
  | zero => intro acc b h; omega
  | succ fuel ih =>
    intro acc b hlen
    unfold ttiLoopC
    by_cases he : b.isEmpty = true
    · rw [List.isEmpty_iff.mp he]
      rfl
    · rw [if_neg he]
      have hpos : 0 < b.length := List.length_pos_iff.mpr (mt List.isEmpty_iff.mpr he)
      by_cases hs : b.length < 128
      · -- a last block that is too short: whatever the model's fold answers, the remainder test refuses
        rw [if_pos hs]
        simp only [if_pos (show b.length % 128 ≠ 0 by omega)]
        cases ttiFold g off acc (chunks 128 (fuel + 1) b) <;> rfl
      · rw [if_neg hs, ttiItemC_eq g off acc _ (by rw [List.length_take]; omega) hfr, ok_bind]
        unfold chunks
        rw [if_neg he]
        simp only [ttiFold]
        cases ttiItem g off acc (b.take 128) with
        | none => rfl
        | some r =>
          obtain ⟨it, acc'⟩ := r
          simp only [ih acc' (b.drop 128) (by rw [List.length_drop]; omega), ok_bind,
            show (b.drop 128).length % 128 = b.length % 128 by rw [List.length_drop]; omega]
          cases ttiFold g off acc' (chunks 128 fuel (b.drop 128)) with
          | none => rfl
          | some its =>
            by_cases hm : b.length % 128 = 0
            · simp [hm]; cases it <;> rfl
            · simp [hm]

/-- `ReadFromSTL` with every index, slice and division checked: the 1024-byte read (`readNBytes`:
    short ⇒ error), `parseGSIBlock`, the TTI loop -/
def readC (ignoreTCP : Bool) (doc : Bytes) : Chk (Astisub.STL.Res (Meta × List CItem)) :=
  if doc.length < 1024 then pure .err else do
  let g? ← parseGSIC (doc.take 1024)
  match g? with
  | none => pure .err
  | some g =>
    let rest := doc.drop 1024
    let m : Meta := if ignoreTCP then { g.m with tcp := 0 } else g.m
    do
      let r ← ttiLoopC g m.tcp (rest.length + 1) none rest
      match r with
      | none => pure .err
      | some items => pure (.ok (m, items))

theorem readC_eq (ignoreTCP : Bool) (doc : Bytes) : readC ignoreTCP doc = .ok (Astisub.STL.read ignoreTCP doc) := by
  refine ite_ok (fun _ => rfl) fun h => ?_
  rw [parseGSIC_eq _ (by rw [List.length_take]; omega), ok_bind]
  cases hg : parseGSI (doc.take 1024) with
  | none => rfl
  | some g =>
    simp only [ttiLoopC_eq g _ (parseGSI_framerate hg) _ none (doc.drop 1024) (Nat.lt_succ_self _), ok_bind]
    cases ttiFold g (if ignoreTCP = true then { g.m with tcp := 0 } else g.m).tcp none
        (chunks 128 ((doc.drop 1024).length + 1) (doc.drop 1024)) with
    | none => rfl
    | some its => by_cases hm : (doc.length - 1024) % 128 = 0 <;> simp [hm]

end STL
end Tot
end Astisub
