import Astisub.Lemmas.STLGsiRT

/-!
# Lemmas/STLFile — the whole file: `read (writeBody …)` for any kind of cue whose blocks the reader turns back;
cues with one run per row (`RCue`) and the decidability of their well-formedness
-/

namespace Astisub
namespace C05
open Go STL

/-- a cue whose lines are repertoire rows -/
structure RCue where
  startAt : Int
  endAt : Int
  just : Option Int := none
  vp : Option Int := none
  rows : List RRun

/-- the cue as the writer sees it -/
def RCue.toW (c : RCue) : WCue :=
  { startAt := c.startAt, endAt := c.endAt, just := c.just, vp := c.vp, lines := c.rows.map fun r => [r.toW] }

/-- every row is over the repertoire and not blank, and the encoded text fits the 112-byte text field -/
def RCue.ok (c : RCue) : Prop := (∀ r ∈ c.rows, r.ok) ∧ (encodeText (cueString c.toW)).length ≤ 112

/-- non-negative times (after adding the programme start) -/
def TimesOK (tcp : Int) (c : RCue) : Prop := 0 ≤ c.startAt + tcp ∧ 0 ≤ c.endAt + tcp

instance (tcp : Int) (c : RCue) : Decidable (TimesOK tcp c) := by unfold TimesOK; infer_instance

theorem chunks_flatten (blocks : List Bytes) (h : ∀ b ∈ blocks, b.length = 128) (fuel : Nat) (hf : blocks.length < fuel) :
    chunks 128 fuel blocks.flatten = blocks := by
  induction blocks generalizing fuel with
  | nil =>
    cases fuel with
    | zero => omega
    | succ f => rfl
  | cons b bs ih =>
    cases fuel with
    | zero => omega
    | succ f =>
      have hb : b.length = 128 := h b (by simp)
      have hne : (b ++ bs.flatten).isEmpty = false := by
        cases b with
        | nil => simp at hb
        | cons x xs => rfl
      simp only [List.flatten_cons, chunks, hne, Bool.false_eq_true, if_false]
      rw [List.take_left' hb, List.drop_left' hb, ih (fun b' hb' => h b' (by simp [hb'])) f (by simp at hf; omega)]

theorem ttiFold_blocks {α} (toW : α → WCue) (back : α → CItem) (R : GSI) (G : WGSI) (off : Int) (l : List (α × Nat))
    (h : ∀ p ∈ l, ttiItem R off none (ttiBytes G (p.2 + 1) (toW p.1)) = some (some (back p.1), none)) :
    ttiFold R off none (l.map fun p => ttiBytes G (p.2 + 1) (toW p.1)) = some (l.map fun p => back p.1) := by
  induction l with
  | nil => rfl
  | cons p ps ih =>
    simp only [List.map_cons, ttiFold]
    rw [h p (by simp)]
    simp only
    rw [ih (fun q hq => h q (by simp [hq]))]
    rfl

theorem zipIdx_toW {α} (toW : α → WCue) (cs : List α) (G : WGSI) :
    ((cs.map toW).zipIdx.map fun (c, k) => ttiBytes G (k + 1) c)
      = (cs.zipIdx.map fun p => ttiBytes G (p.2 + 1) (toW p.1)) := by
  rw [List.zipIdx_map, List.map_map]
  rfl

theorem blocks_len {α} (toW : α → WCue) (G : WGSI) (l : List (α × Nat)) :
    (∀ b ∈ l.map fun p => ttiBytes G (p.2 + 1) (toW p.1), b.length = 128) ∧
    (l.map fun p => ttiBytes G (p.2 + 1) (toW p.1)).flatten.length = 128 * l.length :=
  ⟨fun b hb => by obtain ⟨p, _, rfl⟩ := List.mem_map.mp hb; exact ttiBytes_length _ _ _,
   flatten_const_length _ _ 128 fun p => ttiBytes_length _ _ _⟩

theorem zipIdx_map_fst {α β} (l : List α) (f : α → β) (n : Nat) : (l.zipIdx n).map (fun p => f p.1) = l.map f := by
  have := congrArg (List.map f) (List.zipIdx_map_fst n l)
  rwa [List.map_map] at this

/-- the metadata the reader returns: the programme start is dropped on request -/
def readMeta (ig : Bool) (R : GSI) : Meta := if ig then { R.m with tcp := 0 } else R.m

/-- **reading a written file**, for any kind of cue `α` (writer view `toW`) whose block the reader turns into
    `back`: the GSI block comes back as `gsiBack`, then one cue per 128-byte block -/
theorem read_writeBody_of {α} (toW : α → WCue) (back : GSI → WGSI → Int → α → CItem)
    (ig : Bool) (now : Date) (md : Option Meta) (cs : List α) (hG : GsiOK (newGSI now md (cs.map toW)))
    (hitem : ∀ off idx, ∀ c ∈ cs, ttiItem (gsiBack (newGSI now md (cs.map toW))) off none
        (ttiBytes (newGSI now md (cs.map toW)) idx (toW c))
      = some (some (back (gsiBack (newGSI now md (cs.map toW))) (newGSI now md (cs.map toW)) off c), none)) :
    STL.read ig (writeBody now md (cs.map toW))
      = .ok (readMeta ig (gsiBack (newGSI now md (cs.map toW))),
             cs.map fun c => back (gsiBack (newGSI now md (cs.map toW))) (newGSI now md (cs.map toW))
               (readMeta ig (gsiBack (newGSI now md (cs.map toW)))).tcp c) := by
  unfold writeBody
  rw [zipIdx_toW]
  generalize newGSI now md (cs.map toW) = G at hG hitem ⊢
  have hflen : (cs.zipIdx.map fun p => ttiBytes G (p.2 + 1) (toW p.1)).flatten.length = 128 * cs.length := by
    rw [(blocks_len toW G _).2, List.length_zipIdx]
  have hlen : ¬ (gsiBytes G ++ (cs.zipIdx.map fun p => ttiBytes G (p.2 + 1) (toW p.1)).flatten).length < 1024 := by
    rw [List.length_append, gsiBytes_length]; omega
  unfold STL.read
  rw [if_neg hlen, List.take_left' (gsiBytes_length G), parseGSI_gsiBytes G hG]
  simp only [List.drop_left' (gsiBytes_length G)]
  rw [chunks_flatten _ (blocks_len toW G _).1 _ (by rw [List.length_map, List.length_zipIdx, hflen]; omega)]
  have hfold := ttiFold_blocks toW (back (gsiBack G) G (readMeta ig (gsiBack G)).tcp) (gsiBack G) G
    (readMeta ig (gsiBack G)).tcp cs.zipIdx (fun p hp => hitem _ _ p.1 (List.fst_mem_of_mem_zipIdx hp))
  rw [zipIdx_map_fst] at hfold
  unfold readMeta at hfold ⊢
  rw [hfold]
  simp only [hflen, Nat.mul_mod_right, ne_eq, not_true_eq_false, if_false]

/-- recogniser of repertoire units: one byte = a carried table character with its text; two bytes = a floating
    diacritic and a letter with the composed text -/
def repUnitB (u : Unit) : Bool :=
  match u.bytes with
  | [k] => carried.contains (k, u.text)
  | [a, l] => accents.contains a && letters.contains l && u.text == nfcPair l a
  | _ => false

theorem repUnitB_iff (u : Unit) : repUnitB u = true ↔ RepUnit u := by
  obtain ⟨t, b⟩ := u
  constructor
  · intro h
    unfold repUnitB at h
    simp only at h
    match b, h with
    | [k], h =>
      have : (k, t) ∈ carried := by simpa using h
      exact RepUnit.ch (k, t) this
    | [a, l], h =>
      simp only [Bool.and_eq_true, List.contains_iff_mem, beq_iff_eq] at h
      have e : (⟨t, [a, l]⟩ : Unit) = accentUnit a l := by simp [accentUnit, h.2]
      rw [e]; exact RepUnit.acc a l h.1.1 h.1.2
  · intro h
    cases h with
    | ch e he =>
      unfold repUnitB
      simpa using he
    | acc a l ha hl =>
      unfold repUnitB
      simp [ha, hl]

instance (u : Unit) : Decidable (RepUnit u) := decidable_of_iff _ (repUnitB_iff u)

instance (r : RRun) : Decidable r.ok := by unfold RRun.ok; infer_instance

instance (c : RCue) : Decidable c.ok := by unfold RCue.ok; infer_instance

end C05
end Astisub
