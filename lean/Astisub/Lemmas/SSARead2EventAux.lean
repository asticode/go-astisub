import Astisub.Lemmas.SSARead2Scalar
import Astisub.Lemmas.SSARead2Text
import Astisub.Lemmas.SSA2Spec
import Astisub.Lemmas.SSATab
import Astisub.Lemmas.KV

/-!
# Lemmas/SSARead2EventAux — one `Dialogue:` row under any Format line the decoder accepts, model = decoder (`eventRow_spec`): the fold
of `eventField` column by column, the view of the item, the decoder's columns
-/

namespace Astisub
namespace SSAR
open Go SSA

/-- the eleven column names `eventField` knows, in the order of its `if` chain; any other column is ignored -/
def colsL : List Str := ["Start".toList, "End".toList, "Layer".toList, "MarginL".toList, "MarginR".toList,
  "MarginV".toList, "Effect".toList, "Name".toList, "Style".toList, "Text".toList, "Marked".toList]

theorem eventField_other (e : Event) (a i : Str) (h : a ∉ colsL) : eventField e a i = some e := by
  unfold eventField
  simp only [colsL, List.mem_cons, List.not_mem_nil, or_false, not_or] at h
  obtain ⟨h1, h2, h3, h4, h5, h6, h7, h8, h9, h10, h11⟩ := h
  rw [if_neg h1, if_neg h2, if_neg h3, if_neg h4, if_neg h5, if_neg h6, if_neg h7, if_neg h8, if_neg h9, if_neg h10,
    if_neg h11]

theorem eventField_cases (e : Event) (a i : Str) :
    (a = "Start".toList ∧ eventField e a i = (Duration.parseSSA i).map fun d => { e with startAt := d }) ∨
    (a = "End".toList ∧ eventField e a i = (Duration.parseSSA i).map fun d => { e with endAt := d }) ∨
    (a = "Layer".toList ∧ eventField e a i = (atoi i).map fun v => { e with layer := some v }) ∨
    (a = "MarginL".toList ∧ eventField e a i = (atoi i).map fun v => { e with marginL := some v }) ∨
    (a = "MarginR".toList ∧ eventField e a i = (atoi i).map fun v => { e with marginR := some v }) ∨
    (a = "MarginV".toList ∧ eventField e a i = (atoi i).map fun v => { e with marginV := some v }) ∨
    (a = "Effect".toList ∧ eventField e a i = some { e with effect := i }) ∨
    (a = "Name".toList ∧ eventField e a i = some { e with name := i }) ∨
    (a = "Style".toList ∧ eventField e a i
      = some { e with style := if i = "*Default".toList then "Default".toList else i }) ∨
    (a = "Text".toList ∧ eventField e a i = some { e with text := trimSpace i }) ∨
    (a = "Marked".toList ∧ eventField e a i = some { e with marked := some (i = "Marked=1".toList) }) ∨
    (a ∉ colsL ∧ eventField e a i = some e) := by
  by_cases h : a ∈ colsL
  · simp only [colsL, List.mem_cons, List.not_mem_nil, or_false] at h
    rcases h with rfl | rfl | rfl | rfl | rfl | rfl | rfl | rfl | rfl | rfl | rfl
    · exact .inl ⟨rfl, eventField_start _ _⟩
    · exact .inr (.inl ⟨rfl, eventField_end _ _⟩)
    · exact .inr (.inr (.inl ⟨rfl, eventField_layer _ _⟩))
    · exact .inr (.inr (.inr (.inl ⟨rfl, eventField_marginL _ _⟩)))
    · exact .inr (.inr (.inr (.inr (.inl ⟨rfl, eventField_marginR _ _⟩))))
    · exact .inr (.inr (.inr (.inr (.inr (.inl ⟨rfl, eventField_marginV _ _⟩)))))
    · exact .inr (.inr (.inr (.inr (.inr (.inr (.inl ⟨rfl, eventField_effect _ _⟩))))))
    · exact .inr (.inr (.inr (.inr (.inr (.inr (.inr (.inl ⟨rfl, eventField_name _ _⟩)))))))
    · exact .inr (.inr (.inr (.inr (.inr (.inr (.inr (.inr (.inl ⟨rfl, eventField_style _ _⟩))))))))
    · exact .inr (.inr (.inr (.inr (.inr (.inr (.inr (.inr (.inr (.inl ⟨rfl, eventField_text _ _⟩)))))))))
    · exact .inr (.inr (.inr (.inr (.inr (.inr (.inr (.inr (.inr (.inr (.inl ⟨rfl, eventField_marked _ _⟩))))))))))
  · exact .inr (.inr (.inr (.inr (.inr (.inr (.inr (.inr (.inr (.inr (.inr ⟨h, eventField_other _ _ _ h⟩))))))))))

/-- A column's cell is written to that column's field and to no other: after one step every field either belongs
    to the column or is what it was.  (No two column names need be told apart for this.) -/
theorem eventField_frame {e e1 : Event} {a i : Str} (h : eventField e a i = some e1) :
    (a = "Start".toList ∨ e1.startAt = e.startAt) ∧ (a = "End".toList ∨ e1.endAt = e.endAt) ∧
    (a = "Layer".toList ∨ e1.layer = e.layer) ∧ (a = "MarginL".toList ∨ e1.marginL = e.marginL) ∧
    (a = "MarginR".toList ∨ e1.marginR = e.marginR) ∧ (a = "MarginV".toList ∨ e1.marginV = e.marginV) ∧
    (a = "Effect".toList ∨ e1.effect = e.effect) ∧ (a = "Name".toList ∨ e1.name = e.name) ∧
    (a = "Style".toList ∨ e1.style = e.style) ∧ (a = "Text".toList ∨ e1.text = e.text) ∧
    (a = "Marked".toList ∨ e1.marked = e.marked) ∧ e1.category = e.category := by
  rcases eventField_cases e a i with ⟨hn, h'⟩ | ⟨hn, h'⟩ | ⟨hn, h'⟩ | ⟨hn, h'⟩ | ⟨hn, h'⟩ | ⟨hn, h'⟩ | ⟨hn, h'⟩ |
    ⟨hn, h'⟩ | ⟨hn, h'⟩ | ⟨hn, h'⟩ | ⟨hn, h'⟩ | ⟨hn, h'⟩
  all_goals
    rw [h'] at h
    first
      | obtain ⟨d, -, rfl⟩ := Option.map_eq_some_iff.mp h
      | cases h
    refine ⟨?_, ?_, ?_, ?_, ?_, ?_, ?_, ?_, ?_, ?_, ?_, rfl⟩ <;> first | exact .inr rfl | exact .inl hn

/-- what one (column, cell) pair does to one field -/
def FieldSpec {α : Type} (π : Event → α) (c : String) (g : Str → Option α) : Prop :=
  ∀ e a i e1, eventField e a i = some e1 → if a = c.toList then g i = some (π e1) else π e1 = π e

theorem FieldSpec.mk' {α : Type} {π : Event → α} {c : String} {g : Str → Option α}
    (own : ∀ e i, (eventField e c.toList i).map π = g i)
    (frame : ∀ e a i e1, eventField e a i = some e1 → a = c.toList ∨ π e1 = π e) : FieldSpec π c g := by
  intro e a i e1 h
  by_cases hc : a = c.toList
  · rw [if_pos hc, ← own e, ← hc, h]; rfl
  · rw [if_neg hc]; exact (frame e a i e1 h).resolve_left hc

theorem fs_start : FieldSpec (·.startAt) "Start" Duration.parseSSA :=
  .mk' (fun e i => by rw [eventField_start]; cases Duration.parseSSA i <;> rfl) fun _ _ _ _ h => let ⟨h, _⟩ := eventField_frame h; h

theorem fs_end : FieldSpec (·.endAt) "End" Duration.parseSSA :=
  .mk' (fun e i => by rw [eventField_end]; cases Duration.parseSSA i <;> rfl) fun _ _ _ _ h => let ⟨_, h, _⟩ := eventField_frame h; h

theorem fs_layer : FieldSpec (·.layer) "Layer" (fun i => (atoi i).map some) :=
  .mk' (fun e i => by rw [eventField_layer]; cases atoi i <;> rfl) fun _ _ _ _ h => let ⟨_, _, h, _⟩ := eventField_frame h; h

theorem fs_marginL : FieldSpec (·.marginL) "MarginL" (fun i => (atoi i).map some) :=
  .mk' (fun e i => by rw [eventField_marginL]; cases atoi i <;> rfl) fun _ _ _ _ h => let ⟨_, _, _, h, _⟩ := eventField_frame h; h

theorem fs_marginR : FieldSpec (·.marginR) "MarginR" (fun i => (atoi i).map some) :=
  .mk' (fun e i => by rw [eventField_marginR]; cases atoi i <;> rfl) fun _ _ _ _ h => let ⟨_, _, _, _, h, _⟩ := eventField_frame h; h

theorem fs_marginV : FieldSpec (·.marginV) "MarginV" (fun i => (atoi i).map some) :=
  .mk' (fun e i => by rw [eventField_marginV]; cases atoi i <;> rfl) fun _ _ _ _ h => let ⟨_, _, _, _, _, h, _⟩ := eventField_frame h; h

theorem fs_effect : FieldSpec (·.effect) "Effect" some :=
  .mk' (fun e i => by rw [eventField_effect]; rfl) fun _ _ _ _ h => let ⟨_, _, _, _, _, _, h, _⟩ := eventField_frame h; h

theorem fs_name : FieldSpec (·.name) "Name" some :=
  .mk' (fun e i => by rw [eventField_name]; rfl) fun _ _ _ _ h => let ⟨_, _, _, _, _, _, _, h, _⟩ := eventField_frame h; h

theorem fs_style : FieldSpec (·.style) "Style" (fun i => some (if i = "*Default".toList then "Default".toList else i)) :=
  .mk' (fun e i => by rw [eventField_style]; rfl) fun _ _ _ _ h => let ⟨_, _, _, _, _, _, _, _, h, _⟩ := eventField_frame h; h

theorem fs_text : FieldSpec (·.text) "Text" (fun i => some (trimSpace i)) :=
  .mk' (fun e i => by rw [eventField_text]; rfl) fun _ _ _ _ h => let ⟨_, _, _, _, _, _, _, _, _, h, _⟩ := eventField_frame h; h

theorem fs_marked : FieldSpec (·.marked) "Marked" (fun i => some (some (decide (i = "Marked=1".toList)))) :=
  .mk' (fun e i => by rw [eventField_marked]; rfl) fun _ _ _ _ h => let ⟨_, _, _, _, _, _, _, _, _, _, h, _⟩ := eventField_frame h; h

theorem eventFields_cons (e0 : Event) (a i : Str) (rest : List (Str × Str)) (e' : Event)
    (h : eventFields e0 ((a, i) :: rest) = some e') :
    ∃ e1, eventField e0 a i = some e1 ∧ eventFields e1 rest = some e' := by
  unfold eventFields at h
  cases he : eventField e0 a i with
  | none => rw [he] at h; cases h
  | some e1 => rw [he] at h; exact ⟨e1, rfl, h⟩

theorem fold_category : ∀ (ps : List (Str × Str)) (e0 e' : Event), eventFields e0 ps = some e' →
    e'.category = e0.category := by
  intro ps
  induction ps with
  | nil => intro e0 e' h; unfold eventFields at h; injection h with h; rw [h]
  | cons p rest ih =>
    intro e0 e' h
    obtain ⟨a, i⟩ := p
    obtain ⟨e1, h1, h2⟩ := eventFields_cons _ _ _ _ _ h
    obtain ⟨_, _, _, _, _, _, _, _, _, _, _, hc⟩ := eventField_frame h1
    rw [ih _ _ h2, hc]

/-- one field after the fold: decided by the cell of its column, if the column is there -/
theorem fold_field {α : Type} (π : Event → α) (c : String) (g : Str → Option α) (H : FieldSpec π c g) :
    ∀ (ps : List (Str × Str)) (e0 e' : Event), (ps.map (·.1)).Nodup → eventFields e0 ps = some e' →
      match ps.lookup c.toList with
      | some cell => g cell = some (π e')
      | none => π e' = π e0 := by
  intro ps
  induction ps with
  | nil =>
    intro e0 e' _ h
    unfold eventFields at h
    injection h with h
    rw [h]; rfl
  | cons p rest ih =>
    intro e0 e' hnd h
    obtain ⟨a, i⟩ := p
    obtain ⟨e1, h1, h2⟩ := eventFields_cons _ _ _ _ _ h
    rw [List.map_cons, List.nodup_cons] at hnd
    have hr := ih e1 e' hnd.2 h2
    have hH := H e0 a i e1 h1
    rw [List.lookup_cons]
    by_cases hac : a = c.toList
    · rw [if_pos hac] at hH
      subst hac
      rw [List.lookup_none_of_not_mem _ _ hnd.1] at hr
      simp only [beq_self_eq_true]
      simp only at hr
      rw [hH, hr]
    · rw [if_neg hac] at hH
      have : (c.toList == a) = false := by
        simp only [beq_eq_false_iff_ne, ne_eq]
        exact fun h => hac h.symm
      rw [this]
      simp only
      rw [← hH]
      exact hr

/-- a cell the model can read, whatever the event so far -/
def CellOk (a i : Str) : Prop :=
  ((a = "Start".toList ∨ a = "End".toList) → ∃ d, Duration.parseSSA i = some d) ∧
  ((a = "Layer".toList ∨ a = "MarginL".toList ∨ a = "MarginR".toList ∨ a = "MarginV".toList) → ∃ v, atoi i = some v)

theorem eventField_ok (e : Event) (a i : Str) (h : CellOk a i) : ∃ e1, eventField e a i = some e1 := by
  rcases eventField_cases e a i with ⟨hn, h'⟩ | ⟨hn, h'⟩ | ⟨hn, h'⟩ | ⟨hn, h'⟩ | ⟨hn, h'⟩ | ⟨hn, h'⟩ | ⟨hn, h'⟩ |
    ⟨hn, h'⟩ | ⟨hn, h'⟩ | ⟨hn, h'⟩ | ⟨hn, h'⟩ | ⟨hn, h'⟩
  · obtain ⟨d, hd⟩ := h.1 (.inl hn); rw [h', hd]; exact ⟨_, rfl⟩
  · obtain ⟨d, hd⟩ := h.1 (.inr hn); rw [h', hd]; exact ⟨_, rfl⟩
  · obtain ⟨d, hd⟩ := h.2 (.inl hn); rw [h', hd]; exact ⟨_, rfl⟩
  · obtain ⟨d, hd⟩ := h.2 (.inr (.inl hn)); rw [h', hd]; exact ⟨_, rfl⟩
  · obtain ⟨d, hd⟩ := h.2 (.inr (.inr (.inl hn))); rw [h', hd]; exact ⟨_, rfl⟩
  · obtain ⟨d, hd⟩ := h.2 (.inr (.inr (.inr hn))); rw [h', hd]; exact ⟨_, rfl⟩
  all_goals exact ⟨_, h'⟩

theorem fold_ok : ∀ (ps : List (Str × Str)) (e0 : Event), (∀ p ∈ ps, CellOk p.1 p.2) →
    ∃ e', eventFields e0 ps = some e' := by
  intro ps
  induction ps with
  | nil => intro e0 _; exact ⟨e0, by unfold eventFields; rfl⟩
  | cons p rest ih =>
    intro e0 h
    obtain ⟨a, i⟩ := p
    obtain ⟨e1, h1⟩ := eventField_ok e0 a i (h (a, i) List.mem_cons_self)
    obtain ⟨e', h2⟩ := ih e1 (fun p hp => h p (List.mem_cons_of_mem _ hp))
    refine ⟨e', ?_⟩
    unfold eventFields
    rw [h1]
    exact h2

theorem resolve_agree (names : List Str) (hn : ∀ n ∈ names, n.head? ≠ some '*') (s : Str) :
    resolveStyle names (if s = "*Default".toList then "Default".toList else s) = Spec.SSA.resolve names s := by
  by_cases hs : s = "*Default".toList
  · rw [if_pos hs]
    subst hs
    have hnc : names.contains "*Default".toList = false := by
      cases hc : names.contains "*Default".toList with
      | false => rfl
      | true =>
        exfalso
        rw [List.contains_iff_mem] at hc
        exact hn _ hc (by decide)
    have ht : trimPrefix ['*'] "Default".toList = "Default".toList := by decide
    unfold resolveStyle Spec.SSA.resolve
    rw [ht, hnc]
    rw [show ("Default".toList).isEmpty = false from by decide, show ("*Default".toList).isEmpty = false from by decide]
    simp only [Bool.false_eq_true, if_false]
    rw [show "*Default".toList = '*' :: "Default".toList from by decide]
    simp only
    cases names.contains "Default".toList <;> rfl
  · rw [if_neg hs]
    unfold resolveStyle Spec.SSA.resolve
    cases s with
    | nil => rfl
    | cons c r =>
      simp only [List.isEmpty_cons, Bool.false_eq_true, if_false]
      by_cases hc : c = '*'
      · subst hc
        have : trimPrefix ['*'] ('*' :: r) = r := by simp [trimPrefix, dropPrefix?]
        rw [this]
        rfl
      · have : trimPrefix ['*'] (c :: r) = c :: r := by
          have hc' : ¬ '*' = c := fun h => hc h.symm
          simp [trimPrefix, dropPrefix?, hc']
        rw [this]
        cases names.contains (c :: r) with
        | true => rfl
        | false =>
          simp only [Bool.false_eq_true, if_false]
          split
          · rename_i heq
            injection heq with h1 _
            exact absurd h1 hc
          · rfl

theorem optInt_itoa (a : Attrs) (k : String) (o : Option Int) (h : SSA.kvGet a k = o.map itoa) :
    Spec.SSA.optInt a k = some o := by
  unfold Spec.SSA.optInt
  rw [spec_kvGet_eq, h]
  cases o with
  | none => rfl
  | some v => simp only [Option.map_some]; rw [spec_intOf_itoa]; rfl

theorem eventView_eventItem (names : List Str) (e : Event) (s t : Int) (hs : e.startAt = s * 10000000)
    (ht : e.endAt = t * 10000000) (h0s : 0 ≤ s) (h0t : 0 ≤ t) :
    Spec.SSA.eventView (eventItem names e) = some
      { startCs := s, endCs := t, layer := e.layer, marked := e.marked, marginL := e.marginL, marginR := e.marginR,
        marginV := e.marginV, effect := e.effect, name := e.name, style := resolveStyle names e.style,
        lines := (textLines e.text).map fun s => (lineRuns s).map runView } := by
  have hp := ev_keys_pairwise (optStr e.effect) (e.layer.map itoa) (e.marginL.map itoa) (e.marginR.map itoa)
    (e.marginV.map itoa) (e.marked.map boolStr)
  have hit1 : (eventItem names e).startAt = s * 10000000 := hs
  have hit2 : (eventItem names e).endAt = t * 10000000 := ht
  have hlines : (eventItem names e).lines = (textLines e.text).map fun s => { voice := e.name, items := lineRuns s } := rfl
  have hattrs : (eventItem names e).attrs = some (mkAttrs [("SSAEffect", optStr e.effect), ("SSALayer", e.layer.map itoa),
      ("SSAMarginLeft", e.marginL.map itoa), ("SSAMarginRight", e.marginR.map itoa),
      ("SSAMarginVertical", e.marginV.map itoa), ("SSAMarked", e.marked.map boolStr)]) := rfl
  have hstyle : (eventItem names e).style = resolveStyle names e.style := rfl
  unfold Spec.SSA.eventView
  generalize eventItem names e = it at *
  have c1 : (decide (it.startAt % 10000000 ≠ 0) || decide (it.endAt % 10000000 ≠ 0) || decide (it.startAt < 0)
      || decide (it.endAt < 0)) = false := by
    rw [hit1, hit2]
    simp only [Int.mul_emod_left, ne_eq, not_true_eq_false, decide_false, Bool.false_or, decide_eq_false_iff_not,
      Bool.or_eq_false_iff]
    omega
  rw [if_neg (by rw [c1]; decide)]
  have hne : textLines e.text ≠ [] := textLines_ne_nil _
  have hname : (it.lines.head?.map (·.voice)).getD [] = e.name := by
    rw [hlines]
    cases hl : textLines e.text with
    | nil => exact absurd hl hne
    | cons x xs => rfl
  have c2 : (it.lines.isEmpty || it.lines.any (fun l => decide (l.voice ≠ (it.lines.head?.map (·.voice)).getD [])))
      = false := by
    rw [hname, hlines]
    simp only [Bool.or_eq_false_iff, List.isEmpty_eq_false_iff, ne_eq, List.map_eq_nil_iff, List.any_eq_false,
      List.mem_map, decide_eq_true_eq]
    refine ⟨hne, ?_⟩
    rintro l ⟨x, _, rfl⟩
    exact fun h => h rfl
  simp only
  rw [if_neg (by rw [c2]; decide)]
  rw [optInt_itoa it.attrs "SSALayer" e.layer (by rw [hattrs]; exact kvGet_mkAttrs_mem _ hp _ _ (by simp)),
    optInt_itoa it.attrs "SSAMarginLeft" e.marginL (by rw [hattrs]; exact kvGet_mkAttrs_mem _ hp _ _ (by simp)),
    optInt_itoa it.attrs "SSAMarginRight" e.marginR (by rw [hattrs]; exact kvGet_mkAttrs_mem _ hp _ _ (by simp)),
    optInt_itoa it.attrs "SSAMarginVertical" e.marginV (by rw [hattrs]; exact kvGet_mkAttrs_mem _ hp _ _ (by simp))]
  simp only
  rw [hname, hstyle, spec_kvGet_eq, spec_kvGet_eq, hattrs,
    kvGet_mkAttrs_mem _ hp "SSAMarked" (e.marked.map boolStr) (by simp),
    kvGet_mkAttrs_mem _ hp "SSAEffect" (optStr e.effect) (by simp), optStr_getD, optBool_back, hlines, List.map_map,
    hit1, hit2, Int.mul_ediv_cancel _ (by decide), Int.mul_ediv_cancel _ (by decide)]
  rfl

/-- the decoder's `opt`: an absent column is fine, a present one must be readable -/
def optc {α : Type} (pairs : List (String × Str)) (c : String) (f : Str → Option α) : Option (Option α) :=
  match pairs.lookup c with
  | none => some none
  | some cell => (f cell).map some

/-- the decoder's reader of the `Marked` cell (the inline function in `Spec.SSA.eventOf`), named -/
def markedOf (s : Str) : Option Bool :=
  if s = "Marked=1".toList then some true else if s = "Marked=0".toList then some false else none

theorem eventOf_eq (cols : List String) (v : Str) :
    Spec.SSA.eventOf cols v =
      if (splitC ',' v).length < cols.length then none else
      match optc (cols.zip (Spec.SSA.absorbLast cols.length (splitC ',' v))) "Start" Spec.SSA.timeOf,
            optc (cols.zip (Spec.SSA.absorbLast cols.length (splitC ',' v))) "End" Spec.SSA.timeOf,
            optc (cols.zip (Spec.SSA.absorbLast cols.length (splitC ',' v))) "Layer" Spec.SSA.intOf,
            optc (cols.zip (Spec.SSA.absorbLast cols.length (splitC ',' v))) "MarginL" Spec.SSA.intOf,
            optc (cols.zip (Spec.SSA.absorbLast cols.length (splitC ',' v))) "MarginR" Spec.SSA.intOf,
            optc (cols.zip (Spec.SSA.absorbLast cols.length (splitC ',' v))) "MarginV" Spec.SSA.intOf,
            optc (cols.zip (Spec.SSA.absorbLast cols.length (splitC ',' v))) "Marked" markedOf,
            optc (cols.zip (Spec.SSA.absorbLast cols.length (splitC ',' v))) "Text" Spec.SSA.textOf with
      | some st, some en, some layer, some ml, some mr, some mv, some marked, some text =>
        some { ev := { startCs := st.getD 0, endCs := en.getD 0, layer := layer, marked := marked, marginL := ml,
                       marginR := mr, marginV := mv,
                       effect := ((cols.zip (Spec.SSA.absorbLast cols.length (splitC ',' v))).lookup "Effect").getD [],
                       name := ((cols.zip (Spec.SSA.absorbLast cols.length (splitC ',' v))).lookup "Name").getD [],
                       style := none, lines := text.getD [[{ effect := none, text := [] }]] },
               styleName := ((cols.zip (Spec.SSA.absorbLast cols.length (splitC ',' v))).lookup "Style").getD [] }
      | _, _, _, _, _, _, _, _ => none := by
  rfl

theorem beq_ofList (c : String) (a : Str) : (c == String.ofList a) = (c.toList == a) := by
  by_cases h : c = String.ofList a
  · subst h; rw [String.toList_ofList]; simp
  · have h2 : ¬ c.toList = a := fun h' => h (by rw [← h', String.ofList_toList])
    rw [beq_eq_false_iff_ne.mpr h, beq_eq_false_iff_ne.mpr h2]

theorem lookup_bridge (c : String) : ∀ (format cells : List Str),
    ((format.map String.ofList).zip cells).lookup c = (format.zip cells).lookup c.toList := by
  intro format
  induction format with
  | nil => intro cells; rfl
  | cons a rest ih =>
    intro cells
    cases cells with
    | nil => rfl
    | cons x xs =>
      simp only [List.map_cons, List.zip_cons_cons, List.lookup_cons, beq_ofList]
      cases c.toList == a
      · exact ih xs
      · rfl

theorem optc_some {α : Type} (format cells : List Str) (c : String) (f : Str → Option α) (o : Option α)
    (h : optc ((format.map String.ofList).zip cells) c f = some o) :
    match (format.zip cells).lookup c.toList with
    | some cell => ∃ v, f cell = some v ∧ o = some v
    | none => o = none := by
  unfold optc at h
  rw [lookup_bridge] at h
  cases hl : (format.zip cells).lookup c.toList with
  | none => rw [hl] at h; simp only at h ⊢; injection h with h; exact h.symm
  | some cell =>
    rw [hl] at h
    simp only [Option.map_eq_some_iff] at h ⊢
    obtain ⟨v, hv, rfl⟩ := h
    exact ⟨v, hv, rfl⟩

theorem time_ok (l : Option Str) (st : Option Int)
    (F : match (generalizing := false) l with | some cell => ∃ v, Spec.SSA.timeOf cell = some v ∧ st = some v | none => st = none)
    (hok : hoursOk (st.getD 0) = true) (i : Str) (hl : l = some i) :
    Duration.parseSSA i = some (st.getD 0 * 10000000) ∧ 0 ≤ st.getD 0 := by
  subst hl
  obtain ⟨v, hv, rfl⟩ := F
  exact parseSSA_of_timeOf hv hok

theorem time_agree (l : Option Str) (st : Option Int) (x : Int)
    (F : match (generalizing := false) l with | some cell => ∃ v, Spec.SSA.timeOf cell = some v ∧ st = some v | none => st = none)
    (M : match (generalizing := false) l with | some cell => Duration.parseSSA cell = some x | none => x = 0)
    (hok : hoursOk (st.getD 0) = true) : x = st.getD 0 * 10000000 ∧ 0 ≤ st.getD 0 := by
  cases l with
  | none =>
    simp only at F M
    subst F; subst M
    exact ⟨by decide, by decide⟩
  | some cell =>
    have := time_ok (some cell) st F hok cell rfl
    simp only at M
    rw [this.1] at M
    injection M with M
    exact ⟨M.symm, this.2⟩

theorem int_ok (l : Option Str) (o : Option Int)
    (F : match (generalizing := false) l with | some cell => ∃ v, Spec.SSA.intOf cell = some v ∧ o = some v | none => o = none)
    (h64 : opt64 o = true) (i : Str) (hl : l = some i) : (atoi i).map some = some o := by
  subst hl
  obtain ⟨v, hv, rfl⟩ := F
  rw [atoi_of_intOf hv h64]
  rfl

theorem int_agree (l : Option Str) (o x : Option Int)
    (F : match (generalizing := false) l with | some cell => ∃ v, Spec.SSA.intOf cell = some v ∧ o = some v | none => o = none)
    (M : match (generalizing := false) l with | some cell => (atoi cell).map some = some x | none => x = none)
    (h64 : opt64 o = true) : x = o := by
  cases l with
  | none => simp only at F M; rw [F, M]
  | some cell =>
    have := int_ok (some cell) o F h64 cell rfl
    simp only at M
    rw [this] at M
    injection M with M
    exact M.symm

theorem marked_agree (l : Option Str) (o x : Option Bool)
    (F : match (generalizing := false) l with | some cell => ∃ v, markedOf cell = some v ∧ o = some v | none => o = none)
    (M : match (generalizing := false) l with | some cell => some (some (decide (cell = "Marked=1".toList))) = some x | none => x = none) :
    x = o := by
  cases l with
  | none => simp only at F M; rw [F, M]
  | some cell =>
    obtain ⟨v, hv, rfl⟩ := F
    simp only at M
    injection M with M
    rw [← M]
    unfold markedOf at hv
    by_cases h1 : cell = "Marked=1".toList
    · rw [if_pos h1] at hv; injection hv with hv; rw [← hv]; exact congrArg some (decide_eq_true h1)
    · rw [if_neg h1] at hv
      by_cases h0 : cell = "Marked=0".toList
      · rw [if_pos h0] at hv; injection hv with hv; rw [← hv]; exact congrArg some (decide_eq_false h1)
      · rw [if_neg h0] at hv; cases hv

theorem str_agree (l : Option Str) (x : Str)
    (M : match (generalizing := false) l with | some cell => some cell = some x | none => x = []) : x = l.getD [] := by
  cases l with
  | none => exact M
  | some cell => simp only at M; injection M with M; exact M.symm

theorem style_agree (l : Option Str) (x : Str)
    (M : match (generalizing := false) l with
      | some cell => some (if cell = "*Default".toList then "Default".toList else cell) = some x
      | none => x = []) :
    x = if l.getD [] = "*Default".toList then "Default".toList else l.getD [] := by
  cases l with
  | none => simp only at M; rw [M]; rfl
  | some cell => simp only at M; injection M with M; exact M.symm

theorem text_agree (l : Option Str) (x : Str) (text : Option (List (List Spec.SSA.GRun)))
    (F : match (generalizing := false) l with | some cell => ∃ gl, Spec.SSA.textOf cell = some gl ∧ text = some gl | none => text = none)
    (M : match (generalizing := false) l with | some cell => some (trimSpace cell) = some x | none => x = []) :
    (textLines x).map (fun s => (lineRuns s).map runView) = text.getD [[{ effect := none, text := [] }]] := by
  cases l with
  | none => simp only at F M; rw [F, M]; decide
  | some cell =>
    obtain ⟨gl, hgl, rfl⟩ := F
    simp only at M
    injection M with M
    rw [← M]
    exact textLines_textOf cell gl hgl

/-- the decoder's `nodup` on the column names as strings is `Nodup` of the names as character lists -/
theorem nodup_map_ofList (l : List Str) : Spec.SSA.nodup (l.map String.ofList) = true ↔ l.Nodup := by
  rw [Spec.SSA.nodup_iff, List.Nodup, List.pairwise_map]
  exact List.Pairwise.iff fun {a b} => not_congr ⟨fun e => by simpa using congrArg String.toList e, fun e => e ▸ rfl⟩

theorem zip_keys_nodup : ∀ (format cells : List Str), format.Nodup → ((format.zip cells).map (·.1)).Nodup := by
  intro format
  induction format with
  | nil => intro cells _; exact List.nodup_nil
  | cons a rest ih =>
    intro cells h
    cases cells with
    | nil => exact List.nodup_nil
    | cons x xs =>
      rw [List.nodup_cons] at h
      simp only [List.zip_cons_cons, List.map_cons]
      refine List.nodup_cons.mpr ⟨?_, ih xs h.2⟩
      intro hm
      obtain ⟨p, hp, hpa⟩ := List.mem_map.mp hm
      obtain ⟨b, y⟩ := p
      simp only at hpa
      subst hpa
      exact h.1 (List.of_mem_zip hp).1

/-- **Dialogue row.** `format` is the model's Format (trimmed, distinct column names; a column neither side knows is ignored
    by both).  If the decoder reads the row `v` as `r` and its integers fit 64 bits, then
    `newSSAEventFromString` succeeds, and for every list of style names `names` (none starting with `*`)
    `view` maps the item `ssaEvent.item` builds to the decoder's event with its style reference resolved. -/
theorem eventRow_spec (format : List Str) (v : Str) (r : Spec.SSA.REvent)
    (hnd : Spec.SSA.nodup (format.map String.ofList) = true)
    (h : Spec.SSA.eventOf (format.map String.ofList) v = some r) (h64 : event64 r.ev = true) :
    ∃ e, eventRow "Dialogue".toList v format = some e ∧ e.category = "Dialogue".toList ∧
      ∀ names : List Str, (∀ n ∈ names, n.head? ≠ some '*') →
        Spec.SSA.eventView (eventItem names e) = some { r.ev with style := Spec.SSA.resolve names r.styleName } := by
  -- the decoder reads each column from the (column, cell) pairs (`optc`); the model folds `eventField` over the same pairs,
  -- and with distinct columns every field of the result is decided by the cell of its own column (`fold_field`): the two
  -- are compared cell by cell (`time_agree`, `int_agree`, …), after the fold has been shown to succeed (`fold_ok`)
  rw [eventOf_eq] at h
  simp only [List.length_map] at h
  by_cases hlen : (splitC ',' v).length < format.length
  · rw [if_pos hlen] at h; cases h
  rw [if_neg hlen] at h
  have hnd' := zip_keys_nodup format (Spec.SSA.absorbLast format.length (splitC ',' v)) ((nodup_map_ofList _).mp hnd)
  unfold eventRow
  simp only
  rw [if_neg hlen, absorb_eq]
  generalize Spec.SSA.absorbLast format.length (splitC ',' v) = cells at *
  split at h
  · rename_i st en layer ml mr mv marked text hst hen hlayer hml hmr hmv hmarked htext
    injection h with h
    subst h
    simp only [event64, Bool.and_eq_true] at h64
    obtain ⟨⟨⟨⟨⟨okL, okML⟩, okMR⟩, okMV⟩, okS⟩, okE⟩ := h64
    have FS := optc_some _ _ _ _ _ hst
    have FE := optc_some _ _ _ _ _ hen
    have FL := optc_some _ _ _ _ _ hlayer
    have FML := optc_some _ _ _ _ _ hml
    have FMR := optc_some _ _ _ _ _ hmr
    have FMV := optc_some _ _ _ _ _ hmv
    have FM := optc_some _ _ _ _ _ hmarked
    have FT := optc_some _ _ _ _ _ htext
    rw [lookup_bridge, lookup_bridge, lookup_bridge]
    generalize format.zip cells = ps at *
    have hok : ∀ p ∈ ps, CellOk p.1 p.2 := by
      intro p hp
      obtain ⟨a, i⟩ := p
      have hl := List.lookup_of_mem_of_nodup_keys hnd' hp
      constructor
      · rintro (rfl | rfl)
        · exact ⟨_, (time_ok _ st FS okS i hl).1⟩
        · exact ⟨_, (time_ok _ en FE okE i hl).1⟩
      · have ex : ∀ {o : Option Int}, (atoi i).map some = some o → ∃ v, atoi i = some v := by
          intro o h
          cases hx : atoi i with
          | none => rw [hx] at h; cases h
          | some v => exact ⟨v, rfl⟩
        rintro (rfl | rfl | rfl | rfl)
        · exact ex (int_ok _ layer FL okL i hl)
        · exact ex (int_ok _ ml FML okML i hl)
        · exact ex (int_ok _ mr FMR okMR i hl)
        · exact ex (int_ok _ mv FMV okMV i hl)
    obtain ⟨e, he⟩ := fold_ok ps { category := "Dialogue".toList } hok
    refine ⟨e, he, fold_category _ _ _ he, ?_⟩
    have hS := time_agree _ st e.startAt FS (fold_field _ _ _ fs_start ps _ e hnd' he) okS
    have hE := time_agree _ en e.endAt FE (fold_field _ _ _ fs_end ps _ e hnd' he) okE
    have hL := int_agree _ layer e.layer FL (fold_field _ _ _ fs_layer ps _ e hnd' he) okL
    have hML := int_agree _ ml e.marginL FML (fold_field _ _ _ fs_marginL ps _ e hnd' he) okML
    have hMR := int_agree _ mr e.marginR FMR (fold_field _ _ _ fs_marginR ps _ e hnd' he) okMR
    have hMV := int_agree _ mv e.marginV FMV (fold_field _ _ _ fs_marginV ps _ e hnd' he) okMV
    have hM := marked_agree _ marked e.marked FM (fold_field _ _ _ fs_marked ps _ e hnd' he)
    have hEf := str_agree _ e.effect (fold_field _ _ _ fs_effect ps _ e hnd' he)
    have hN := str_agree _ e.name (fold_field _ _ _ fs_name ps _ e hnd' he)
    have hSt := style_agree _ e.style (fold_field _ _ _ fs_style ps _ e hnd' he)
    have hT := text_agree _ e.text text FT (fold_field _ _ _ fs_text ps _ e hnd' he)
    intro names hn
    rw [eventView_eventItem names e _ _ hS.1 hE.1 hS.2 hE.2, hL, hML, hMR, hMV, hM, hT, ← hEf, ← hN, hSt,
      resolve_agree names hn]
  · cases h

end SSAR
end Astisub
