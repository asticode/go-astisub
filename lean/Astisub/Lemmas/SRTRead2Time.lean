import Astisub.Props.C16
import Astisub.Spec.SRT
import Astisub.Lemmas.ClockSpec

/-!
# Lemmas/SRTRead2Time — read side of the SubRip time stamp, for all strings

The independent decoder (`Spec.SRT.timeMs`) accepts exactly the clock texts (`Lemmas/Clock`) followed by `,` or `.` and one
to three digits, minutes and seconds below 60: `timeMs_fields` and `timeMs_of_clock` are the two directions.  Hence
every time stamp it accepts is parsed by the model of the Go reader (`Duration.parseSRT`) to the same instant, provided
the hours field fits Go's `int` (`parseSRT_of_timeMs`, from `Ovf.parse_clock_frac`), and it accepts what the writer
prints.
-/

namespace Astisub
namespace SRTRead2
open Go Clock

theorem space_ne {c : Char} (h : isSpace c = true) {x : Char} (hx : isSpace x = false) : c ≠ x :=
  fun e => by rw [e, hx] at h; cases h

theorem space_ne_colon {c : Char} (h : isSpace c = true) : c ≠ ':' := space_ne h rfl

theorem span_loop_eq {α} (p : α → Bool) (l acc : List α) :
    List.span.loop p l acc = (acc.reverse ++ l.takeWhile p, l.dropWhile p) := by
  induction l generalizing acc with
  | nil => simp [List.span.loop]
  | cons a as ih =>
    rw [List.span.loop]
    cases hp : p a with
    | true => simp [ih, hp]
    | false => simp [hp]

/-- `List.span` is `takeWhile` and `dropWhile` -/
theorem span_eq {α} (p : α → Bool) (l : List α) : l.span p = (l.takeWhile p, l.dropWhile p) := by
  simp [List.span, span_loop_eq]

theorem span_append {α} {p : α → Bool} {l x y : List α} (h : l.span p = (x, y)) : l = x ++ y := by
  rw [span_eq] at h
  cases h
  exact List.takeWhile_append_dropWhile.symm

theorem span_prefix {α} (p : α → Bool) (a : List α) (c : α) (b : List α) (ha : ∀ x ∈ a, p x = true) (hc : p c = false) :
    (a ++ c :: b).span p = (a, c :: b) := by
  rw [span_eq, List.takeWhile_append_stop b ha hc, List.dropWhile_append_stop b ha hc]

/-- a time stamp the decoder accepts is a clock text with a fraction of one to three digits, `,` or `.` -/
theorem timeMs_fields {s : Str} {ms : Nat} (h : Spec.SRT.timeMs s = some ms) :
    ∃ (sep : Char) (hms frac : Str) (f hh m sec : Nat), (sep = ',' ∨ sep = '.') ∧
      trimSpace s = hms ++ sep :: frac ∧ frac.length ≤ 3 ∧ Numeral frac f ∧
      HMS hms hh m sec ∧ m < 60 ∧ sec < 60 ∧
      ms = ((hh * 60 + m) * 60 + sec) * 1000 + f * 10 ^ (3 - frac.length) := by
  unfold Spec.SRT.timeMs at h
  generalize trimSpace s = T at h ⊢
  rcases hsp : T.reverse.span (fun c => Spec.SRT.isDigit c) with ⟨fr, dr⟩
  have hT := span_append hsp
  dsimp only at h
  rw [hsp] at h
  rcases dr with _ | ⟨sep, rest⟩
  · simp at h
  · by_cases hsep : sep = ',' ∨ sep = '.'
    · have hsep' : (decide (sep = ',') || decide (sep = '.')) = true := by simpa using hsep
      simp only [hsep', ↓reduceIte] at h
      have hT' : T = rest.reverse ++ sep :: fr.reverse := by
        have := congrArg List.reverse hT
        simpa using this
      generalize fr.reverse = frac at h hT'
      generalize rest.reverse = hms at h hT'
      split at h
      · exact absurd h (by simp)
      · rename_i hc
        simp only [Bool.or_eq_true, decide_eq_true_eq, not_or, Nat.not_lt] at hc
        refine ⟨sep, hms, frac, ?_⟩
        split at h
        · rename_i f hh m sec hf hl
          split at h
          · rename_i hlt
            simp only [Bool.and_eq_true, decide_eq_true_eq] at hlt
            exact ⟨f, hh, m, sec, hsep, hT', hc.2, Spec.SRT.natOf_iff_numeral.mp hf, .of_map3 hl, hlt.1, hlt.2,
              (Option.some.inj h).symm⟩
          · exact absurd h (by simp)
        · rename_i f m sec hf hl
          split at h
          · rename_i hlt
            simp only [Bool.and_eq_true, decide_eq_true_eq] at hlt
            exact ⟨f, 0, m, sec, hsep, hT', hc.2, Spec.SRT.natOf_iff_numeral.mp hf, .of_map2 hl, hlt.1, hlt.2,
              by simpa using (Option.some.inj h).symm⟩
          · exact absurd h (by simp)
        · exact absurd h (by simp)
    · have hsep' : (decide (sep = ',') || decide (sep = '.')) = false := by simpa using hsep
      simp [hsep'] at h

/-- conversely the decoder accepts every clock text with `,` or `.` and one to three fraction digits (minutes and
    seconds below 60) — in particular what the writer prints -/
theorem timeMs_of_clock {s x f : Str} {H M S F : Nat} {sep : Char} (hsep : sep = ',' ∨ sep = '.') (hx : HMS x H M S)
    (hM : M < 60) (hS : S < 60) (hf : Numeral f F) (hl : f.length ≤ 3) (ht : trimSpace s = x ++ sep :: f) :
    Spec.SRT.timeMs s = some (((H * 60 + M) * 60 + S) * 1000 + F * 10 ^ (3 - f.length)) := by
  have hspan : (x ++ sep :: f).reverse.span (fun c => Spec.SRT.isDigit c) = (f.reverse, sep :: x.reverse) := by
    rw [show (x ++ sep :: f).reverse = f.reverse ++ sep :: x.reverse by simp]
    apply span_prefix
    · intro c hc; exact hf.digitStr.isDigC c (by simpa using hc)
    · rcases hsep with rfl | rfl <;> rfl
  have hsep' : (decide (sep = ',') || decide (sep = '.')) = true := by simpa using hsep
  have hb : (decide (M < 60) && decide (S < 60)) = true := by simp [hM, hS]
  have hfe : (f.isEmpty || decide (f.length > 3)) = false := by
    cases f with
    | nil => exact absurd rfl hf.ne_nil
    | cons _ _ => simpa using hl
  unfold Spec.SRT.timeMs
  simp only [ht, hspan, hsep', if_true, List.reverse_reverse, hfe, hf.natOf]
  rcases hx.map_natOf with e | ⟨rfl, e⟩
  · simp only [e, hb, if_true, Bool.false_eq_true, if_false]
  · simp only [e, hb, if_true, Bool.false_eq_true, if_false]
    simp

/-- with `.` in the time stamp the first attempt (separator `,`) fails: the seconds field `SS.F` is no number -/
theorem parse_comma_dot {w1 w2 x f : Str} {H M S F : Nat} (h1 : ∀ c ∈ w1, isSpace c = true)
    (h2 : ∀ c ∈ w2, isSpace c = true) (hx : HMS x H M S) (hf : Numeral f F) :
    Duration.parse (w1 ++ x ++ '.' :: (f ++ w2)) ',' 3 = none := by
  have hno : ',' ∉ w1 ++ x ++ '.' :: (f ++ w2) := by
    simp only [List.mem_append, List.mem_cons, not_or]
    exact ⟨⟨space_ne_sep h1 (.inr rfl), hx.not_mem_sep (.inr rfl)⟩, by decide, hf.digitStr.not_mem (by decide),
      space_ne_sep h2 (.inr rfl)⟩
  have hdot : ∀ k, k < 10 → '.' ≠ digitChar k := fun k hk e => (digitChar_ne_dot hk).mp e.symm
  have hnsp : ∀ y : Str, (∀ c ∈ y, isSpace c = false) → ∀ c ∈ y ++ '.' :: f, isSpace c = false := by
    intro y hy c hc
    rcases List.mem_append.mp hc with hc | hc
    · exact hy c hc
    · rcases List.mem_cons.mp hc with rfl | hc
      · decide
      · exact hf.noSpace c hc
  have hns := hnsp x hx.noSpace
  have hsec : ∀ {s : Str} {S : Nat}, Numeral s S → ':' ∉ s ++ '.' :: f ∧ atoi (trimSpace (s ++ '.' :: f)) = none := by
    intro s S hs
    refine ⟨?_, ?_⟩
    · simp only [List.mem_append, List.mem_cons, not_or]
      exact ⟨hs.digitStr.not_mem (by decide), by decide, hf.digitStr.not_mem (by decide)⟩
    · rw [trimSpace_id (hnsp s hs.noSpace), hs.atoi_append_none hdot]
  rw [Ovf.parse_eq, Ovf.msPart_plain hno, Option.bind_some,
    show w1 ++ x ++ '.' :: (f ++ w2) = w1 ++ (x ++ '.' :: f) ++ w2 by simp]
  unfold Ovf.hmsPart
  rw [trimSpace_sandwich h1 h2 (trimSpace_id hns)]
  cases hx with
  | @three h m s _ _ _ hh hm hs =>
    rw [show h ++ ':' :: (m ++ ':' :: s) ++ '.' :: f = h ++ ':' :: (m ++ ':' :: (s ++ '.' :: f)) by simp,
      splitC_three_mk (hh.digitStr.not_mem (by decide)) (hm.digitStr.not_mem (by decide)) (hsec hs).1]
    simp only [(hsec hs).2, Option.map_none]
  | @two m s _ _ hm hs =>
    rw [show m ++ ':' :: s ++ '.' :: f = m ++ ':' :: (s ++ '.' :: f) by simp,
      splitC_two_mk (hm.digitStr.not_mem (by decide)) (hsec hs).1]
    simp only [(hsec hs).2, Option.map_none]

/-- what the independent decoder reads as `ms` milliseconds, the reader model reads as
`ms` ms in nanoseconds — provided the hours field fits Go's int (`ms / 3600000 ≤ int64Max`; beyond
that `strconv.Atoi` fails in the model: "99999999999999999999:00:00,000" is accepted by the decoder
only) -/
theorem parseSRT_of_timeMs (s : Str) (ms : Nat) (h : Spec.SRT.timeMs s = some ms) (hb : ms / 3600000 ≤ int64Max) :
    Duration.parseSRT s = some ((ms : Int) * 1000000) := by
  obtain ⟨sep, hms, frac, f, hh, m, sec, hsep, ht, hl, hf, hx, hm, hs, hv⟩ := timeMs_fields h
  obtain ⟨w1, w2, hdec, h1, h2⟩ := trimSpace_decomp s
  rw [ht, show w1 ++ (hms ++ sep :: frac) ++ w2 = w1 ++ hms ++ sep :: (frac ++ w2) by simp] at hdec
  generalize hX : f * 10 ^ (3 - frac.length) = X at hv
  have hval : ((f : Int) * (10 : Int) ^ (3 - frac.length)) = (X : Int) := by
    rw [← hX]; push_cast; rfl
  have hgood : Duration.parse s sep 3 = some ((ms : Int) * 1000000) := by
    rw [hdec, Ovf.parse_clock_frac (hsep.symm) hx (by unfold int64Max at hb ⊢; omega) (by unfold int64Max; omega)
      (by unfold int64Max; omega) hf hl h1 h2 3, hval]
    subst hv
    apply congrArg some
    unfold Duration.nsPerMs Duration.nsPerS Duration.nsPerMin Duration.nsPerH
    omega
  unfold Duration.parseSRT
  rcases hsep with rfl | rfl
  · rw [hgood]
  · rw [show Duration.parse s ',' 3 = none by rw [hdec]; exact parse_comma_dot h1 h2 hx hf, hgood]

end SRTRead2
end Astisub
