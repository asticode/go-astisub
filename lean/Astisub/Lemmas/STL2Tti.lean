import Astisub.Lemmas.STL2Row
import Astisub.Lemmas.STLRead2Row
import Astisub.Lemmas.STLDomain

/-!
# Lemmas/STL2Tti — one TTI block of a cue whose rows are lists of runs: what the writer emits, and what the
library reader (`STL.ttiItem`) and the independent decoder (`Spec.STL.tti`) make of it; then the whole file of such cues

The reader's side asks of a row only that it is made of repertoire units and that the row machine returns a run for it
(`RowOK`, `ttiItem_rows`); the row itself is read by the decoder, which the reader follows (`open_row_agree`).  Rows
of trimmed runs (`MCue.ok`) are one case; a cue with one run per row (`RCue`, the run need not be trimmed: the reader
trims it) is the case of the rows `[r]` (`RCue.toM`).
-/

namespace Astisub
namespace C05
open Go STL

/-- a run the format carries as it is: repertoire units, text not empty and without white space at its ends -/
def RRun.okT (r : RRun) : Prop :=
  (∀ u ∈ r.units, RepUnit u) ∧ str r.text ≠ [] ∧ trimSpace (str r.text) = str r.text

/-- a cue whose rows are lists of runs -/
structure MCue where
  startAt : Int
  endAt : Int
  just : Option Int := none
  vp : Option Int := none
  rows : List (List RRun)

/-- the cue as the writer sees it -/
def MCue.toW (c : MCue) : WCue :=
  { startAt := c.startAt, endAt := c.endAt, just := c.just, vp := c.vp, lines := c.rows.map fun l => l.map RRun.toW }

/-- every row has at least one run, every run is carried as it is, and the encoded text fits the 112-byte field -/
def MCue.ok (c : MCue) : Prop :=
  (∀ l ∈ c.rows, l ≠ [] ∧ ∀ r ∈ l, r.okT) ∧ (encodeText (cueString c.toW)).length ≤ 112

theorem RRun.okT.rep {r : RRun} (h : r.okT) : ∀ u ∈ r.units, RepUnit u := h.1
theorem RRun.okT.ne {r : RRun} (h : r.okT) : str r.text ≠ [] := h.2.1
theorem RRun.okT.tr {r : RRun} (h : r.okT) : Tr (str r.text) := edges_of_fixed isSpace _ h.2.2 h.2.1

theorem MCue.ok.ne {c : MCue} (h : c.ok) {l : List RRun} (hl : l ∈ c.rows) : l ≠ [] := (h.1 l hl).1
theorem MCue.ok.okT {c : MCue} (h : c.ok) {l : List RRun} (hl : l ∈ c.rows) : ∀ r ∈ l, r.okT := (h.1 l hl).2
theorem MCue.ok.rep {c : MCue} (h : c.ok) : ∀ l ∈ c.rows, ∀ r ∈ l, ∀ u ∈ r.units, RepUnit u :=
  fun _ hl r hr => (h.okT hl r hr).rep
theorem MCue.ok.fit {c : MCue} (h : c.ok) : (encodeText (cueString c.toW)).length ≤ 112 := h.2

theorem MCue.cueString_toW (c : MCue) : cueString c.toW = rowsString c.rows := by
  unfold cueString MCue.toW rowsString
  rw [List.map_map]
  refine congrArg _ (List.map_congr_left fun l _ => ?_)
  rw [Function.comp, List.map_map]
  rfl

theorem encode_cueM (c : MCue) (h : ∀ l ∈ c.rows, ∀ r ∈ l, ∀ u ∈ r.units, RepUnit u) :
    encodeText (cueString c.toW) = joinN [0x8A] (c.rows.map lineBytes) := by
  rw [c.cueString_toW, encode_rows c.rows h]

theorem MCue.ok_of_bytes (c : MCue) (h : ∀ l ∈ c.rows, l ≠ [] ∧ ∀ r ∈ l, r.okT)
    (hlen : (joinN [0x8A] (c.rows.map lineBytes)).length ≤ 112) : c.ok :=
  ⟨h, by rw [encode_cueM c fun l hl r hr => ((h l hl).2 r hr).1]; exact hlen⟩

theorem inDomain_cueM (c : MCue) (h : ∀ l ∈ c.rows, ∀ r ∈ l, ∀ u ∈ r.units, RepUnit u) :
    inDomain (cueString c.toW) = true := by
  rw [c.cueString_toW]; exact inDomain_rows c.rows h

theorem lineBytes_ne_break (l : List RRun) (h : ∀ r ∈ l, ∀ u ∈ r.units, RepUnit u) : ∀ b ∈ lineBytes l, b ≠ 0x8A := by
  intro b hb
  unfold lineBytes at hb
  rcases joinL_mem _ _ _ (joinN_eq_joinL _ _ ▸ hb) with h' | ⟨rb, hrb, hb'⟩
  · simp at h'; omega
  · obtain ⟨r, hr, rfl⟩ := List.mem_map.mp hrb
    exact r.bytes_ne_break (h r hr) b hb'

theorem mpAux_ne_nil (l : List (Str × B3)) (hne : ∀ x ∈ l, x.1 ≠ []) (body : Str) (h : l ≠ [] ∨ body ≠ []) :
    mpAux body l ≠ [] := by
  induction l generalizing body with
  | nil =>
    rcases h with h | h
    · exact absurd rfl h
    · simp [mpAux, h]
  | cons x rest ih =>
    rw [mpAux]
    split
    · apply ih (fun y hy => hne y (by simp [hy]))
      right
      split
      · exact hne x (by simp)
      · simp
    · simp

theorem mergePlain_wv_ne_nil (l : List RRun) (hl : l ≠ []) (hne : ∀ r ∈ l, str r.text ≠ []) : mergePlain (l.map wv) ≠ [] := by
  apply mpAux_ne_nil
  · intro x hx
    obtain ⟨r, hr, rfl⟩ := List.mem_map.mp hx
    exact hne r hr
  · left; simpa using hl

theorem lineSegs_ne_nil (l : List RRun) (hne : l ≠ []) (h : ∀ r ∈ l, r.okT) : lineSegs l ≠ [] := by
  intro e
  have hv := lineSegs_view l (fun r hr => (h r hr).tr)
  rw [e] at hv
  exact mergePlain_wv_ne_nil l hne (fun r hr => (h r hr).ne) hv.symm

/-- a row both readers turn into a line: repertoire units, and the row machine returns a run for it -/
def RowOK (l : List RRun) : Prop := (∀ r ∈ l, ∀ u ∈ r.units, RepUnit u) ∧ lineSegs l ≠ []

theorem RowOK.of_okT {l : List RRun} (h : l ≠ [] ∧ ∀ r ∈ l, r.okT) : RowOK l :=
  ⟨fun r hr => (h.2 r hr).1, lineSegs_ne_nil l h.1 h.2⟩

theorem MCue.ok.rowOK {c : MCue} (h : c.ok) : ∀ l ∈ c.rows, RowOK l := fun _ hl => .of_okT ⟨h.ne hl, h.okT hl⟩

/-- the line the library reader returns for the row -/
def lineOf (l : List RRun) : Line := { items := (lineSegs l).map itemOf }

theorem padToks_ok (l : List RRun) (h : ∀ r ∈ l, ∀ u ∈ r.units, RepUnit u) (k : Nat) :
    ∀ t ∈ lineToks l ++ List.replicate k Tok.pad, t.ok := by
  intro t ht
  rcases List.mem_append.mp ht with ht | ht
  · exact lineToks_ok l h t ht
  · rw [List.eq_of_mem_replicate ht]; trivial

theorem padToks_bytes (l : List RRun) (k : Nat) :
    (lineToks l ++ List.replicate k Tok.pad).flatMap Tok.bytes = lineBytes l ++ List.replicate k 0x8F := by
  rw [List.flatMap_append, lineToks_bytes, flatMap_pads]

theorem padToks_fold (l : List RRun) (k : Nat) :
    absEnd (absFold AS.init (lineToks l ++ List.replicate k Tok.pad)) = lineSegs l := by
  rw [absFold_append, absFold_pads]; rfl

theorem spec_openRow_line (l : List RRun) (h : ∀ r ∈ l, ∀ u ∈ r.units, RepUnit u) (k : Nat) :
    Spec.STL.openRow (lineBytes l ++ List.replicate k 0x8F) {} [] [] = some ((lineSegs l).map runOf) := by
  rw [← padToks_bytes, spec_row _ (padToks_ok l h k), padToks_fold]

/-- **library reader, one row of runs** (followed by any amount of padding): the decoder denotes `lineSegs`, and the
    reader follows the decoder on every row it accepts (`open_row_agree`) -/
theorem openRow_line (l : List RRun) (h : RowOK l) (k : Nat) :
    STL.openRow none (lineBytes l ++ List.replicate k 0x8F) = some (some (lineOf l), none) := by
  obtain ⟨segs, hs, hm⟩ := open_row_agree _ _ (spec_openRow_line l h.1 k)
  have e : lineSegs l = segs := by
    simpa [List.map_map, Function.comp_def, segOf_runOf] using congrArg (List.map segOf) hs
  rw [hm, ← e]
  cases hs' : lineSegs l with
  | nil => exact absurd hs' h.2
  | cons _ _ => simp only [lineOf, hs']; rfl

theorem spec_rows (rows : List (List RRun)) (h : ∀ l ∈ rows, ∀ r ∈ l, ∀ u ∈ r.units, RepUnit u) (k : Nat) (hk : rows ≠ []) :
    Spec.STL.mapM (fun r => Spec.STL.openRow r {} [] []) (appendLast (List.replicate k 0x8F) (rows.map lineBytes))
      = some (rows.map fun l => (lineSegs l).map runOf) := by
  induction rows with
  | nil => exact absurd rfl hk
  | cons l ls ih =>
    cases ls with
    | nil =>
      simp only [List.map_cons, List.map_nil, appendLast, Spec.STL.mapM]
      rw [spec_openRow_line l (h l (by simp)) k]
    | cons l2 ls' =>
      have hr := spec_openRow_line l (h l (by simp)) 0
      simp only [List.replicate_zero, List.append_nil] at hr
      have ih' := ih (fun l' hl' => h l' (by simp [hl'])) (by simp)
      simp only [List.map_cons] at ih'
      simp only [List.map_cons, appendLast, Spec.STL.mapM]
      rw [hr, ih']

/-- the cue the library reader builds from the block the writer emits for `c`, `off` being the programme start
    it subtracts -/
def ttiCueM (G : GSI) (g : WGSI) (off : Int) (c : MCue) : CItem :=
  { startAt := frameInstant g.m.framerate (c.startAt + g.m.tcp) - off,
    endAt := frameInstant g.m.framerate (c.endAt + g.m.tcp) - off,
    attrs := itemAttrs (justCode c.just) (vpByte (c.vp.getD 20) g.m.dsc) (G.m.maxRows.getD 0) (max 1 c.rows.length),
    lines := c.rows.map lineOf }

theorem text_split (c : MCue) (hrep : ∀ l ∈ c.rows, ∀ r ∈ l, ∀ u ∈ r.units, RepUnit u)
    (hfit : (encodeText (cueString c.toW)).length ≤ 112) :
    splitRows (padR 0x8F 112 (encodeText (cueString c.toW)))
      = appendLast (List.replicate (112 - (encodeText (cueString c.toW)).length) 0x8F) (c.rows.map lineBytes) := by
  have henc := encode_cueM c hrep
  rw [padR_fit _ _ _ hfit]
  generalize 112 - (encodeText (cueString c.toW)).length = k
  rw [henc]
  apply splitRows_join_pad
  · intro rb hrb x hx
    obtain ⟨l, hl, rfl⟩ := List.mem_map.mp hrb
    exact lineBytes_ne_break l (hrep l hl) x hx
  · intro x hx; rw [List.eq_of_mem_replicate hx]; decide

/-- **one TTI block**, for any rows the row machine answers for (`RowOK`): rows of trimmed runs (`MCue.ok`) and
    rows of one run that is not blank (`RCue.ok`) are the two cases of `Props/C05doc`, `C05doc2` -/
theorem ttiItem_rows (G : GSI) (g : WGSI) (off : Int) (idx : Nat) (c : MCue)
    (hfr : G.m.framerate = g.m.framerate) (hdsc : G.m.dsc = [0x30]) (hrows : ∀ l ∈ c.rows, RowOK l)
    (hfit : (encodeText (cueString c.toW)).length ≤ 112) :
    ttiItem G off none (ttiBytes g idx c.toW) = some (some (ttiCueM G g off c), none) := by
  rw [ttiItem_of_rows G g off idx c.toW _ _ hfr hdsc (text_split c (fun l hl => (hrows l hl).1) hfit)
      (rowsFold_of lineBytes lineOf c.rows _ fun l hl => openRow_line l (hrows l hl)), appendLast_length, List.length_map]
  rfl

theorem splitAt8A_eq (b : Bytes) : Spec.STL.splitAt8A b = splitRows b := by
  induction b with
  | nil => rfl
  | cons x xs ih =>
    unfold Spec.STL.splitAt8A splitRows
    rw [ih]
    split
    · rfl
    · cases splitRows xs <;> rfl

theorem justCode_le (j : Option Int) : justCode j ≤ 3 := by
  unfold justCode
  cases j with
  | none => decide
  | some j => simp only; split <;> (try split) <;> (try split) <;> (try split) <;> omega

/-- the cue the independent decoder denotes for the block the writer emits for `c` at `fr` frames per second -/
def specCueM (fr : Nat) (g : WGSI) (off : Int) (c : MCue) : Spec.STL.Cue :=
  { startNs := frameInstant (fr : Int) (c.startAt + g.m.tcp) - off,
    endNs := frameInstant (fr : Int) (c.endAt + g.m.tcp) - off,
    just := justCode c.just, vp := vpByte (c.vp.getD 20) g.m.dsc, nrows := max 1 c.rows.length,
    lines := c.rows.map fun l => (lineSegs l).map runOf }

/-- the instant written lies within a day, as a TTI timecode requires -/
def InDay (T : Int) : Prop := 0 ≤ T ∧ T < 86400000000000

instance (T : Int) : Decidable (InDay T) := by unfold InDay; infer_instance

theorem filter_nonempty {α} (ls : List (List α)) (h : ∀ l ∈ ls, l ≠ []) : ls.filter (fun l => !l.isEmpty) = ls := by
  apply List.filter_eq_self.mpr
  intro l hl
  cases l with
  | nil => exact absurd rfl (h [] hl)
  | cons _ _ => rfl

theorem spec_tti_ttiBytesM (fr : Nat) (g : WGSI) (off : Int) (idx : Nat) (c : MCue)
    (hfr : fr = 25 ∨ fr = 30) (hg : g.m.framerate = (fr : Int)) (hok : c.ok) (hne : c.rows ≠ [])
    (hs : InDay (c.startAt + g.m.tcp)) (he : InDay (c.endAt + g.m.tcp)) :
    Spec.STL.tti fr 0 off (ttiBytes g idx c.toW) = some (some (specCueM fr g off c)) := by
  have hfrpos : 0 < fr := by rcases hfr with rfl | rfl <;> omega
  have hfrT : g.m.framerate.toNat = fr := by rw [hg]; rfl
  obtain ⟨t0, t1, t2, t3, ht, ht0, ht1, ht2, ht3⟩ := timecode_fields (c.startAt + g.m.tcp) fr hfr hs.1 hs.2
  obtain ⟨u0, u1, u2, u3, hu, hu0, hu1, hu2, hu3⟩ := timecode_fields (c.endAt + g.m.tcp) fr hfr he.1 he.2
  have L := ttiBytes_layout g idx c.toW t0 t1 t2 t3 u0 u1 u2 u3 (by rw [hfrT]; exact ht) (by rw [hfrT]; exact hu)
  have hrep := hok.rep
  have h255 : ((255 : Nat) == 0xFE) = false := by decide
  have htc : (Spec.STL.tcOK fr t0 t1 t2 t3 && Spec.STL.tcOK fr u0 u1 u2 u3) = true := by
    unfold Spec.STL.tcOK; simp [ht0, ht1, ht2, ht3, hu0, hu1, hu2, hu3]
  have hj : ¬ justCode c.toW.just > 3 := by have := justCode_le c.toW.just; omega
  have hsegs : ∀ l ∈ (c.rows.map fun l => (lineSegs l).map runOf), l ≠ [] := by
    intro l hl
    obtain ⟨l', hl', rfl⟩ := List.mem_map.mp hl
    have := lineSegs_ne_nil l' (hok.ne hl') (hok.okT hl')
    simpa using this
  unfold Spec.STL.tti
  simp only [L.length, ne_eq, not_true_eq_false, if_false, L.b3, h255, Bool.false_eq_true, L.b5, L.b6, L.b7, L.b8, L.b9,
    L.b10, L.b11, L.b12, L.b13, L.b14, L.rest, htc, Bool.not_true, hj, splitAt8A_eq, text_split c hrep hok.fit, beq_self_eq_true, if_true,
    spec_rows c.rows hrep _ hne, appendLast_length, List.length_map, filter_nonempty _ hsegs]
  unfold specCueM frameInstant
  simp only [Int.toNat_natCast]
  rw [ht, hu, parse_instant _ _ _ _ _ hfrpos, parse_instant _ _ _ _ _ hfrpos]
  rfl

/-- the TTI blocks of the written file, one per cue -/
def ttiBlocks (G : WGSI) (cs : List MCue) : List Bytes := cs.zipIdx.map fun p => ttiBytes G (p.2 + 1) p.1.toW

theorem writeBody_eq (now : Date) (md : Option Meta) (cs : List MCue) :
    writeBody now md (cs.map MCue.toW)
      = gsiBytes (newGSI now md (cs.map MCue.toW)) ++ (ttiBlocks (newGSI now md (cs.map MCue.toW)) cs).flatten := by
  unfold writeBody ttiBlocks; rw [zipIdx_toW]

theorem ttiBlocks_flatten_length (G : WGSI) (cs : List MCue) : (ttiBlocks G cs).flatten.length = 128 * cs.length := by
  unfold ttiBlocks
  rw [(blocks_len MCue.toW G _).2, List.length_zipIdx]

theorem ttiBlocks_length (G : WGSI) (cs : List MCue) : (ttiBlocks G cs).length = cs.length := by
  unfold ttiBlocks; rw [List.length_map, List.length_zipIdx]

theorem read_writeBodyM (ig : Bool) (now : Date) (md : Option Meta) (cs : List MCue)
    (hG : GsiOK (newGSI now md (cs.map MCue.toW))) (hdsc : (newGSI now md (cs.map MCue.toW)).m.dsc = [0x30])
    (hok : ∀ c ∈ cs, c.ok) :
    STL.read ig (writeBody now md (cs.map MCue.toW))
      = .ok (readMeta ig (gsiBack (newGSI now md (cs.map MCue.toW))),
             cs.map fun c => ttiCueM (gsiBack (newGSI now md (cs.map MCue.toW))) (newGSI now md (cs.map MCue.toW))
               (readMeta ig (gsiBack (newGSI now md (cs.map MCue.toW)))).tcp c) :=
  read_writeBody_of MCue.toW ttiCueM ig now md cs hG fun off idx c hc =>
    ttiItem_rows _ _ off idx c rfl hdsc (hok c hc).rowOK (hok c hc).fit

/-- non-negative times (after adding the programme start) -/
def MTimesOK (tcp : Int) (c : MCue) : Prop := 0 ≤ c.startAt + tcp ∧ 0 ≤ c.endAt + tcp

instance (tcp : Int) (c : MCue) : Decidable (MTimesOK tcp c) := by unfold MTimesOK; infer_instance

theorem write_okM (now : Date) (m : Meta) (cs : List MCue) (hne : cs ≠ []) (htcp : 0 ≤ m.tcp)
    (hok : ∀ c ∈ cs, c.ok) (ht : ∀ c ∈ cs, MTimesOK m.tcp c) :
    write now (some m) (cs.map MCue.toW) = .ok (writeBody now (some m) (cs.map MCue.toW)) := by
  refine (write_answers now m _ (by simpa using hne) htcp fun w hw => ?_).2
  obtain ⟨c, hc, rfl⟩ := List.mem_map.mp hw
  exact ⟨(ht c hc).1, (ht c hc).2, inDomain_cueM c (hok c hc).rep⟩

/-- the style the machine holds after the style-on codes of the run -/
def RRun.o3 (r : RRun) : O3 :=
  (if r.italics then some true else none, if r.underline then some true else none, if r.boxing then some true else none)

theorem lineSegs_single (r : RRun) : lineSegs [r] = close (str r.text) r.o3 := by
  show absEnd (absFold AS.init (runToks r ++ [].flatMap sepRun)) = _
  rw [List.flatMap_nil, List.append_nil]
  obtain ⟨us, i, u, b⟩ := r
  unfold runToks
  rw [absFold_append, absFold_append, absFold_units]
  cases i <;> cases u <;> cases b <;>
    simp [RRun.preCodes, RRun.postCodes, RRun.o3, RRun.text, absFold, absStep, absEnd, AS.init, close_nil, setO3]

theorem RowOK.single {r : RRun} (h : r.ok) : RowOK [r] :=
  ⟨fun r' hr' => by rw [List.mem_singleton.mp hr']; exact h.1,
   by rw [lineSegs_single, close, if_neg h.2]; exact List.cons_ne_nil _ _⟩

theorem lineOf_single {r : RRun} (h : r.ok) : lineOf [r] = r.line := by
  rw [lineOf, lineSegs_single, close, if_neg h.2]
  obtain ⟨us, i, u, b⟩ := r
  cases i <;> cases u <;> cases b <;> rfl

/-- a cue with one run per row, as a cue with rows of runs -/
def RCue.toM (c : RCue) : MCue :=
  { startAt := c.startAt, endAt := c.endAt, just := c.just, vp := c.vp, rows := c.rows.map fun r => [r] }

theorem RCue.toM_toW (c : RCue) : c.toM.toW = c.toW := by
  simp only [RCue.toM, MCue.toW, RCue.toW, List.map_map]; rfl

theorem RCue.toM_rows {c : RCue} (h : ∀ r ∈ c.rows, r.ok) : ∀ l ∈ c.toM.rows, RowOK l := by
  intro l hl
  obtain ⟨r, hr, rfl⟩ := List.mem_map.mp hl
  exact .single (h r hr)

theorem RCue.ok_of_bytes (c : RCue) (h : ∀ r ∈ c.rows, r.ok)
    (hlen : (joinN [0x8A] (c.rows.map RRun.bytes)).length ≤ 112) : c.ok :=
  ⟨h, by
    rw [← c.toM_toW, encode_cueM c.toM fun l hl => (RCue.toM_rows h l hl).1]
    simpa [RCue.toM, List.map_map, Function.comp_def, lineBytes, joinN] using hlen⟩

theorem ttiItem_ttiBytes (G : GSI) (g : WGSI) (off : Int) (idx : Nat) (c : RCue)
    (hfr : G.m.framerate = g.m.framerate) (hdsc : G.m.dsc = [0x30]) (hok : c.ok) :
    ttiItem G off none (ttiBytes g idx c.toW) = some (some (ttiCue G g off c.toW c.rows), none) := by
  have e : ttiCueM G g off c.toM = ttiCue G g off c.toW c.rows := by
    simp only [ttiCueM, ttiCue, RCue.toM, RCue.toW, List.map_map, List.length_map]
    congr 1
    exact List.map_congr_left fun r hr => lineOf_single (hok.1 r hr)
  rw [← e, ← c.toM_toW]
  exact ttiItem_rows G g off idx c.toM hfr hdsc (RCue.toM_rows hok.1) (by rw [c.toM_toW]; exact hok.2)

theorem read_writeBody (ig : Bool) (now : Date) (md : Option Meta) (rcs : List RCue)
    (hG : GsiOK (newGSI now md (rcs.map RCue.toW))) (hdsc : (newGSI now md (rcs.map RCue.toW)).m.dsc = [0x30])
    (hok : ∀ c ∈ rcs, c.ok) :
    STL.read ig (writeBody now md (rcs.map RCue.toW))
      = .ok (readMeta ig (gsiBack (newGSI now md (rcs.map RCue.toW))),
             rcs.map fun c => ttiCue (gsiBack (newGSI now md (rcs.map RCue.toW))) (newGSI now md (rcs.map RCue.toW))
               (readMeta ig (gsiBack (newGSI now md (rcs.map RCue.toW)))).tcp c.toW c.rows) :=
  read_writeBody_of RCue.toW (fun R G off c => ttiCue R G off c.toW c.rows) ig now md rcs hG fun off idx c hc =>
    ttiItem_ttiBytes _ _ off idx c rfl hdsc (hok c hc)

theorem write_dom (m : Meta) (cs : List RCue) (hok : ∀ c ∈ cs, c.ok) (ht : ∀ c ∈ cs, TimesOK m.tcp c) :
    ∀ w ∈ cs.map RCue.toW, 0 ≤ w.startAt + m.tcp ∧ 0 ≤ w.endAt + m.tcp ∧ inDomain (cueString w) = true := by
  intro w hw
  obtain ⟨c, hc, rfl⟩ := List.mem_map.mp hw
  refine ⟨(ht c hc).1, (ht c hc).2, ?_⟩
  rw [← c.toM_toW]
  exact inDomain_cueM c.toM fun l hl => (RCue.toM_rows (hok c hc).1 l hl).1

theorem write_ok (now : Date) (m : Meta) (cs : List RCue) (hne : cs ≠ []) (htcp : 0 ≤ m.tcp)
    (hok : ∀ c ∈ cs, c.ok) (ht : ∀ c ∈ cs, TimesOK m.tcp c) :
    write now (some m) (cs.map RCue.toW) = .ok (writeBody now (some m) (cs.map RCue.toW)) :=
  (write_answers now m _ (by simpa using hne) htcp (write_dom m cs hok ht)).2

end C05
end Astisub
