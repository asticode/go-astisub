import Astisub.Lemmas.SSARead2Step
import Astisub.Lemmas.Lines
import Astisub.Lemmas.SSA2Info

/-!
# Lemmas/SSARead2Lines — from the scanned lines to the decoder's lines: trimming, blank lines, the byte-order mark
-/

namespace Astisub
namespace SSAR
open Go SSA

/-- what `ReadFromSSA` makes of the final loop state -/
def finish (r : Res St) : Res Subs :=
  match r with
  | .ok st =>
    let styles := styleMap st.styles
    let ids := styles.map (·.name)
    .ok { items := (st.events.filter fun e => e.category = "Dialogue".toList).map (eventItem ids),
          styles := styles.map Style.toDef,
          metadata := st.info.metadata }
  | .err => .err
  | .unmodelled => .unmodelled

theorem read_eq_finish (lines : List Str) : SSA.read lines = finish (run {} lines) := by
  unfold SSA.read finish
  cases run {} lines <;> rfl

theorem lines_split_head (c : Char) (t : Str) (l : Str) (ls : List Str)
    (h : Spec.SSA.splitLines (c :: t) [] = l :: ls) :
    ((c = '\n' ∨ c = '\r') → l = []) ∧ (c ≠ '\n' → c ≠ '\r' → l.head? = some c) := by
  by_cases h2 : c = '\n'
  · subst h2
    rw [Spec.SSA.splitLines.eq_3] at h
    simp at h
    simp [h.1.symm]
  · by_cases h3 : c = '\r'
    · subst h3
      have : l = [] := by
        cases t with
        | nil => rw [Spec.SSA.splitLines.eq_4 _ _ (by simp)] at h; simp at h; exact h.1
        | cons x xs =>
          by_cases hx : x = '\n'
          · subst hx; rw [Spec.SSA.splitLines.eq_2] at h; simp at h; exact h.1
          · rw [Spec.SSA.splitLines.eq_4 _ _ (by simp [hx])] at h; simp at h; exact h.1
      simp [this]
    · rw [Spec.SSA.splitLines_eq, Spec.SRT.splitLines_cons h2 h3] at h
      refine ⟨fun hc => by rcases hc with hc | hc <;> contradiction, fun _ _ => ?_⟩
      split at h <;> (simp at h; simp [← h.1])

/-- `Go.prep_bom` in the spelling of `SSA.bom` and of the decoder (`Char.ofNat 0xFEFF`), for `rw` -/
theorem lines_prep_bom (l : Str) : trimPrefix bom (trimSpace (Char.ofNat 0xFEFF :: l)) = trimRight l := prep_bom l

theorem lines_trimPrefix_bracket (l : Str) (h : l.head? = some '[') : trimPrefix bom l = l :=
  trimPrefix_bom_of_head (by rw [h]; decide)

theorem lines_trimSpace_noLeft (l : Str) (h : l = [] ∨ ∃ c, l.head? = some c ∧ isSpace c = false) :
    trimSpace l = trimRight l := by
  unfold trimSpace trimLeft
  rcases h with h | ⟨c, hc, hs⟩
  · subst h; rfl
  · cases l with
    | nil => cases hc
    | cons x xs =>
      simp only [List.head?_cons, Option.some.injEq] at hc
      subst hc
      rw [List.dropWhile_cons, hs]
      rfl

theorem lines_stepL_nil (st : St) : stepL st [] = .ok { st with first := false } := rfl

theorem lines_run_eq_runL : ∀ (raws : List Str) (st : St), st.first = false →
    run st raws = runL st ((raws.map trimSpace).filter fun l => !l.isEmpty) := by
  intro raws
  induction raws with
  | nil => intro st _; rfl
  | cons r rs ih =>
    intro st hf
    have hs : step st r = stepL st (trimSpace r) := by rw [step_eq, hf]; rfl
    rw [List.map_cons, List.filter_cons]
    by_cases he : (trimSpace r).isEmpty = true
    · have hn : trimSpace r = [] := by simpa using he
      simp only [he, Bool.not_true, Bool.false_eq_true, ↓reduceIte]
      rw [run, hs, hn, lines_stepL_nil, st_first_eta st hf]
      exact ih st hf
    · simp only [he, Bool.not_false, ↓reduceIte]
      rw [run, runL, hs]
      cases h : stepL st (trimSpace r) with
      | ok st' => exact ih st' (step_first st st' r (hs.trans h))
      | err => rfl
      | unmodelled => rfl

theorem lines_finish_runL_first (st : St) (ls : List Str) :
    finish (runL { st with first := false } ls) = finish (runL st ls) := by
  cases ls with
  | nil => rfl
  | cons l ls => rfl

theorem lines_finish_run_cons (st : St) (r0 : Str) (rs : List Str) :
    finish (run st (r0 :: rs)) =
      finish (runL st (((if st.first then trimPrefix bom (trimSpace r0) else trimSpace r0) :: rs.map trimSpace).filter
        fun l => !l.isEmpty)) := by
  generalize hl : (if st.first then trimPrefix bom (trimSpace r0) else trimSpace r0) = l0
  have hs : step st r0 = stepL st l0 := by rw [step_eq, hl]
  rw [List.filter_cons]
  by_cases he : l0.isEmpty = true
  · have hn : l0 = [] := by simpa using he
    simp only [he, Bool.not_true, Bool.false_eq_true, ↓reduceIte]
    rw [run, hs, hn, lines_stepL_nil]
    simp only
    rw [lines_run_eq_runL rs _ rfl]
    exact lines_finish_runL_first st _
  · simp only [he, Bool.not_false, ↓reduceIte]
    rw [run, runL, hs]
    cases h : stepL st l0 with
    | ok st' =>
      simp only
      rw [lines_run_eq_runL rs st' (step_first st st' r0 (hs.trans h))]
    | err => rfl
    | unmodelled => rfl

theorem lines_finish_noBom (text : Str) (hs : stripBom text = text)
    (hfirst : ∀ l ls, specLines text = l :: ls → l.head? = some '[') :
    finish (run {} (Spec.SSA.splitLines text [])) = finish (runL {} (specLines text)) := by
  unfold specLines at hfirst ⊢
  rw [hs] at hfirst ⊢
  cases hr : Spec.SSA.splitLines text [] with
  | nil => rfl
  | cons r0 rs =>
    rw [hr] at hfirst
    rw [lines_finish_run_cons]
    simp only [↓reduceIte, List.map_cons]
    by_cases he : (trimSpace r0).isEmpty = true
    · have hn : trimSpace r0 = [] := by simpa using he
      rw [hn, show trimPrefix bom [] = [] from rfl]
    · have := hfirst (trimSpace r0) ((rs.map trimSpace).filter fun l => !l.isEmpty)
        (by rw [List.map_cons, List.filter_cons]; simp [he])
      rw [lines_trimPrefix_bracket _ this]

theorem lines_after_bom (c : Char) (t l : Str) (ls : List Str)
    (hb : bomOk (Char.ofNat 0xFEFF :: c :: t) = true)
    (h : Spec.SSA.splitLines (c :: t) [] = l :: ls) : trimSpace l = trimRight l := by
  apply lines_trimSpace_noLeft
  have hh := lines_split_head c t l ls h
  simp only [bomOk, decide_true, Bool.not_true, Bool.false_or, Bool.or_eq_true, Bool.not_eq_true',
    decide_eq_true_eq] at hb
  by_cases hc : c = '\n' ∨ c = '\r'
  · exact .inl (hh.1 hc)
  · have h2 : c ≠ '\n' := fun e => hc (.inl e)
    have h3 : c ≠ '\r' := fun e => hc (.inr e)
    refine .inr ⟨c, hh.2 h2 h3, ?_⟩
    rcases hb with (hb | hb) | hb
    · exact hb
    · exact absurd hb h2
    · exact absurd hb h3

theorem lines_finish_bom (t : Str) (hb : bomOk (Char.ofNat 0xFEFF :: t) = true) :
    finish (run {} (Spec.SSA.splitLines (Char.ofNat 0xFEFF :: t) [])) =
      finish (runL {} (specLines (Char.ofNat 0xFEFF :: t))) := by
  have hs : stripBom (Char.ofNat 0xFEFF :: t) = t := by simp [stripBom]
  unfold specLines
  rw [hs, Spec.SSA.splitLines_eq, Spec.SRT.splitLines_cons (by decide) (by decide), ← Spec.SSA.splitLines_eq]
  cases hr : Spec.SSA.splitLines t [] with
  | nil =>
    simp only
    rw [lines_finish_run_cons]
    simp only [↓reduceIte]
    rw [lines_prep_bom]
    rfl
  | cons l ls =>
    simp only
    rw [lines_finish_run_cons]
    simp only [↓reduceIte]
    rw [lines_prep_bom, List.map_cons]
    cases t with
    | nil => simp [Spec.SSA.splitLines] at hr
    | cons c t' => rw [lines_after_bom c t' l ls hb hr]

/-- **Lines.** The reader's loop over the scanned lines (`Spec.SSA.splitLines text []`, what the scanner delivers)
    ends like the clean loop `runL` over the decoder's lines (`specLines text`: byte-order mark removed, trimmed, blank
    lines dropped), provided a byte-order mark is not followed by blanks (`bomOk`) and the first non-blank line starts
    with `[` (true whenever the decoder accepts the document) -/
theorem finish_run_lines (text : Str) (hb : bomOk text = true)
    (hfirst : ∀ l ls, specLines text = l :: ls → l.head? = some '[') :
    finish (run {} (Spec.SSA.splitLines text [])) = finish (runL {} (specLines text)) := by
  cases text with
  | nil => exact lines_finish_noBom [] rfl hfirst
  | cons c t =>
    by_cases hc : c = Char.ofNat 0xFEFF
    · subst hc; exact lines_finish_bom t hb
    · exact lines_finish_noBom (c :: t) (by simp [stripBom, hc]) hfirst

end SSAR
end Astisub
