import Astisub.Lemmas.EvalLit
import Astisub.Lemmas.TotBase
import Astisub.Model.SSA
import Astisub.Lemmas.ListFacts

/-!
# Lemmas/Tot2SSA — the SSA writer with Go's nil-pointer dereferences and map look-ups made explicit

The writer model `SSA.write` is total by construction: `kvGet none _ = none`, `Option.getD`,
`List.map` over the sorted definitions.  Here the writer is written once more in the monad `Chk`, where a
field read through a pointer (`fieldC`), a `*p` (`deref`), a map look-up followed by a method call
(`deref (mapGet m n)`) and a store `l[i] = x` (`setC`) may answer `.error panic`, with the guards of the
Go code copied as explicit `if`s.  Sites of `ssa.go` covered:

* `newSSAScriptInfo(m *Metadata)`: sixteen reads `m.F` behind `if m != nil` — `infoOfMetaC`,
  unguarded `infoOfMetaU`;
* `WriteToSSA`: `v4plus = s.Metadata != nil && s.Metadata.SSAScriptType == "v4.00+"` — `v4plusC`,
  the pinned test `v4plusU` (D9);
* `ssaScriptInfo.bytes`: `*b.playDepth`, `*b.playResX`, `*b.playResY`, `*b.timer` behind `!= nil` —
  `fieldLineC` / `fieldLineU`, `bytesC`;
* `newSSAStyleFromStyle(i Style)`: twenty-three reads `i.InlineStyle.SSA…` behind
  `if i.InlineStyle == nil { return &ssaStyle{name: i.ID} }` — `styleOfDefC`, the pinned `styleOfDefU` (D9);
* `ssaStyle.string`: `*b`, `*f`, `*i`, `newSSAColorFromColor(c)` of the pointer fields behind `!= nil` —
  `cellC` / `cellU`, `colCellC`, `rowC` (`ssaStyle.updateFormat` only tests the pointers);
* `WriteToSSA`, styles block: `styles[ss.name] = ss`, then `styles[n].updateFormat(…)` and
  `styles[n].string(format)` for `n` in the sorted `styleNames` — a miss would be a nil `*ssaStyle` whose
  value-receiver method call panics: `buildG`, `formatLoopC`, `rowsLoopC`, never missing by `mapGet_hit`;
  (`formatMap`, `styles` are `make`d, so the stores into them cannot panic);
* `newSSAEventFromItem`: `i.Style.ID` behind `i.Style != nil`, six reads `i.InlineStyle.SSA…` behind
  `i.InlineStyle != nil`, `item.InlineStyle.SSAEffect` behind
  `item.InlineStyle != nil && len(item.InlineStyle.SSAEffect) > 0` — `eventOfItemC`, `runTextC`,
  unguarded `eventOfItemUStyle`, `eventOfItemUAttrs`, `runTextU`;
* `ssaEvent.string`: `e.marked != nil && *e.marked`, `if i == nil { i = astikit.IntPtr(0) }; *i` —
  `markedCellC` / `markedCellU`, `intCellC` / `intCellU`, `evCellC`, `evRowC`;
* `WriteToSSA`, events block: `format[0] = ssaEventFormatNameLayer` on the nine-element literal —
  `setC`, `eventFormatC`.

Results: `writeC s` never panics for any `Subs` and is the model's answer for the style
list as the look-ups see it (`writeC_lastWins`), hence `SSA.write s` whenever the style ids are distinct
(`writeC_eq`; the hypothesis is necessary: `writeC_eq_Statement_false`).  The pinned writer `writeU` panics
exactly when there is a cue and the metadata pointer is nil or some style has no inline style
(`writeU_spec`); each unguarded piece panics exactly when its part is absent (`…_panics_iff`).

Not expressible in the model: a nil *entry* of `s.Styles` / `s.Items` (`newSSAStyleFromStyle(*s)`,
`newSSAEventFromItem(*i)`): the lists of the model hold values, not pointers.
-/

namespace Astisub
namespace Tot
namespace SSAW
open Astisub.SSA Go

/-- `p.k`: a field read through a pointer to a struct (`*Metadata`, `*StyleAttributes`); the read
    dereferences the pointer.  The value is the canonical text of the field when it is set. -/
def fieldC (a : Attrs) (k : String) : Chk (Option Str) := do
  let kv ← deref a
  pure (kv.lookup k.toList)

/-- `l[i] = x` -/
def setC {α} (l : List α) (i : Nat) (x : α) : Chk (List α) :=
  if i < l.length then .ok (l.set i x) else .error .index

/-- a `for … range` loop whose body may panic and that appends one result per element -/
def mapC {α β} (f : α → Chk β) : List α → Chk (List β)
  | [] => pure []
  | a :: as => do
    let b ← f a
    let bs ← mapC f as
    pure (b :: bs)

theorem fieldC_some (kv : KV) (k : String) : fieldC (some kv) k = .ok (kvGet (some kv) k) := rfl

theorem fieldC_none (k : String) : fieldC none k = .error .nilDeref := rfl

theorem fieldC_panicsIff (a : Attrs) (k : String) : PanicsIff (fieldC a k) .nilDeref (a = none) :=
  (PanicsIff.deref a).bind_answers fun _ _ => ⟨_, rfl⟩

theorem fieldC_panics_iff (a : Attrs) (k : String) : fieldC a k = .error .nilDeref ↔ a = none :=
  (fieldC_panicsIff a k).error_iff

theorem mapC_loop {α β} (f : α → Chk β) : RLoop (fun _ => f) List.cons [] (fun _ => mapC f) :=
  ⟨fun _ => rfl, fun _ _ _ => rfl⟩

theorem mapC_eq_base {α β} (f : α → Chk β) (l : List α) : mapC f l = Tot.mapC f l :=
  (mapC_loop f).unique (Tot.mapC_loop f) l 0

theorem mapC_eq {α β} (f : α → Chk β) (g : α → β) (l : List α) (h : ∀ a ∈ l, f a = .ok (g a)) :
    mapC f l = .ok (l.map g) := by
  rw [mapC_eq_base]; exact mapC_eq_of_mem l h

theorem setC_zero_cons {α} (a : α) (l : List α) (x : α) : setC (a :: l) 0 x = .ok (x :: l) := rfl

theorem setC_nil {α} (i : Nat) (x : α) : setC ([] : List α) i x = .error .index := rfl

/-- `o.f = m.F` for every field `f` of the list: each one a read through the pointer `a` -/
def valsC {κ} (key : κ → String) (kind : κ → Kind) (a : Attrs) : List κ → Chk (Vals κ)
  | [] => pure []
  | f :: fs => do
    let v ← fieldC a (key f)
    let rest ← valsC key kind a fs
    pure (match v with | some s => (f, Val.ofCanon (kind f) s) :: rest | none => rest)

theorem valsC_some {κ} (key : κ → String) (kind : κ → Kind) (kv : KV) : ∀ (fs : List κ),
    valsC key kind (some kv) fs
      = .ok (fs.filterMap fun f => (kvGet (some kv) (key f)).map fun s => (f, Val.ofCanon (kind f) s))
  | [] => rfl
  | f :: fs => by
    unfold valsC
    rw [fieldC_some, valsC_some key kind kv fs]
    simp only [ok_bind, pure_eq, List.filterMap_cons]
    cases kvGet (some kv) (key f) <;> rfl

theorem valsC_none {κ} (key : κ → String) (kind : κ → Kind) (f : κ) (fs : List κ) :
    valsC key kind none (f :: fs) = .error .nilDeref := rfl

/-- `newSSAScriptInfo`: `o = &ssaScriptInfo{}; if m != nil { o.comments = m.Comments; o.collisions = m.SSACollisions; … }` -/
def infoOfMetaC (m : Attrs) : Chk Info :=
  if m.isSome then do
    let c ← fieldC m "Comments"
    let vals ← valsC SI.key SI.kind m SI.all
    pure { comments := match c with | some c => splitC '\n' c | none => [], vals := vals }
  else pure {}

/-- `newSSAScriptInfo` without the `m != nil` guard -/
def infoOfMetaU (m : Attrs) : Chk Info := do
  let c ← fieldC m "Comments"
  let vals ← valsC SI.key SI.kind m SI.all
  pure { comments := match c with | some c => splitC '\n' c | none => [], vals := vals }

theorem infoOfMetaC_eq (m : Attrs) : infoOfMetaC m = .ok (infoOfMeta m) := by
  cases m with
  | none => rfl
  | some kv =>
    unfold infoOfMetaC infoOfMeta
    have h : (some kv : Attrs).isSome = true := rfl
    rw [if_pos h, fieldC_some, valsC_some]
    rfl

theorem infoOfMetaU_nil : infoOfMetaU none = .error .nilDeref := rfl

theorem infoOfMetaU_some (kv : KV) : infoOfMetaU (some kv) = .ok (infoOfMeta (some kv)) := by
  unfold infoOfMetaU infoOfMeta
  rw [fieldC_some, valsC_some]
  rfl

theorem infoOfMetaU_panics_iff (m : Attrs) : infoOfMetaU m = .error .nilDeref ↔ m = none :=
  (show PanicsIff (infoOfMetaU m) .nilDeref (m = none) from
    match m with
    | none => .error_of rfl rfl
    | some kv => .ok_of (infoOfMetaU_some kv) nofun).error_iff

/-- `var v4plus = s.Metadata != nil && s.Metadata.SSAScriptType == "v4.00+"` -/
def v4plusC (m : Attrs) : Chk Bool :=
  if m.isSome then do
    let t ← fieldC m "SSAScriptType"
    pure (decide (t = some "v4.00+".toList))
  else pure false

/-- the pinned code: `s.Metadata.SSAScriptType == "v4.00+"` -/
def v4plusU (m : Attrs) : Chk Bool := do
  let t ← fieldC m "SSAScriptType"
  pure (decide (t = some "v4.00+".toList))

theorem v4plusC_eq (m : Attrs) : v4plusC m = .ok (decide (kvGet m "SSAScriptType" = some "v4.00+".toList)) := by
  cases m with
  | none => rfl
  | some kv => rfl

/-- D9: the unguarded test panics on nil metadata -/
theorem v4plusU_nil : v4plusU none = .error .nilDeref := rfl

theorem v4plusU_some (kv : KV) :
    v4plusU (some kv) = .ok (decide (kvGet (some kv) "SSAScriptType" = some "v4.00+".toList)) := rfl

theorem v4plusU_panics_iff (m : Attrs) : v4plusU m = .error .nilDeref ↔ m = none :=
  ((fieldC_panicsIff m _).bind_answers fun _ _ => ⟨_, rfl⟩).error_iff

/-- the model's local `fieldLine` of `Info.bytes`, named -/
def fieldLineM (b : Info) (f : SI) : Option (List Str) :=
  match b.vals.get f with
  | none => some []
  | some (.f bits) =>
    (formatFloatShortest bits).map fun s => [f.header.toList ++ ": ".toList ++ replaceAll ['.'] [','] s]
  | some v => some [f.header.toList ++ ": ".toList ++ v.canon]

theorem bytes_eq (b : Info) : b.bytes = (Info.bytes.go (fieldLineM b) SI.all).map fun ls =>
    unlines ("[Script Info]".toList :: b.comments.map (fun c => "; ".toList ++ c) ++ ls) := rfl

/-- one `if b.f != nil { o = append…(…*b.f…) }` of `ssaScriptInfo.bytes` (for the string fields the test is
    `len(b.f) > 0` and nothing is dereferenced; an unset field is `none` in both cases) -/
def fieldLineC (b : Info) (f : SI) : Chk (Option (List Str)) :=
  let p := b.vals.get f
  if p.isSome then do
    let v ← deref p
    pure (match v with
      | .f bits => (formatFloatShortest bits).map fun s => [f.header.toList ++ ": ".toList ++ replaceAll ['.'] [','] s]
      | v => some [f.header.toList ++ ": ".toList ++ v.canon])
  else pure (some [])

/-- the same without the `!= nil` test -/
def fieldLineU (b : Info) (f : SI) : Chk (Option (List Str)) := do
  let v ← deref (b.vals.get f)
  pure (match v with
    | .f bits => (formatFloatShortest bits).map fun s => [f.header.toList ++ ": ".toList ++ replaceAll ['.'] [','] s]
    | v => some [f.header.toList ++ ": ".toList ++ v.canon])

theorem fieldLineC_eq (b : Info) (f : SI) : fieldLineC b f = .ok (fieldLineM b f) := by
  unfold fieldLineC fieldLineM
  cases b.vals.get f with
  | none => rfl
  | some v => cases v <;> rfl

theorem fieldLineU_panics_iff (b : Info) (f : SI) : fieldLineU b f = .error .nilDeref ↔ b.vals.get f = none :=
  ((PanicsIff.deref _).bind_answers fun _ _ => ⟨_, rfl⟩).error_iff

/-- the field lines of `ssaScriptInfo.bytes` in order -/
def linesC (b : Info) : List SI → Chk (Option (List Str))
  | [] => pure (some [])
  | f :: fs => do
    let a ← fieldLineC b f
    let r ← linesC b fs
    pure (match a, r with | some a, some r => some (a ++ r) | _, _ => none)

theorem linesC_eq (b : Info) (fs : List SI) : linesC b fs = .ok (Info.bytes.go (fieldLineM b) fs) :=
  RLoop.eq (L := fun _ => linesC b) (f := fun _ => fieldLineC b) (M := fun _ => Info.bytes.go (fieldLineM b))
    ⟨fun _ => rfl, fun _ _ _ => rfl⟩ fs 0 fun f _ _ => fieldLineC_eq b f

/-- `ssaScriptInfo.bytes` (`none` = a float outside the model) -/
def bytesC (b : Info) : Chk (Option Str) := do
  let ls ← linesC b SI.all
  pure (ls.map fun ls => unlines ("[Script Info]".toList :: b.comments.map (fun c => "; ".toList ++ c) ++ ls))

theorem bytesC_eq (b : Info) : bytesC b = .ok b.bytes := by
  unfold bytesC
  rw [linesC_eq, bytes_eq]
  rfl

/-- `newSSAStyleFromStyle`: `if i.InlineStyle == nil { return &ssaStyle{name: i.ID} }`, then one
    `i.InlineStyle.SSA…` per field -/
def styleOfDefC (d : Def) : Chk Style :=
  if d.attrs.isNone then pure { name := d.id }
  else do
    let vals ← valsC Fld.key Fld.kind d.attrs Fld.all
    pure { name := d.id, vals := vals }

/-- the pinned `newSSAStyleFromStyle`: no test of `i.InlineStyle` -/
def styleOfDefU (d : Def) : Chk Style := do
  let vals ← valsC Fld.key Fld.kind d.attrs Fld.all
  pure { name := d.id, vals := vals }

theorem styleOfDefC_eq (d : Def) : styleOfDefC d = .ok (styleOfDef d) := by
  unfold styleOfDefC styleOfDef
  cases d.attrs with
  | none => rfl
  | some kv =>
    have h : ¬ ((some kv : Attrs).isNone = true) := by simp
    rw [if_neg h, valsC_some]
    rfl

/-- D9: the pinned code panics on a style without inline style -/
theorem styleOfDefU_nil (d : Def) (h : d.attrs = none) : styleOfDefU d = .error .nilDeref := by
  unfold styleOfDefU
  rw [h]
  rfl

theorem styleOfDefU_some (d : Def) (h : d.attrs ≠ none) : styleOfDefU d = .ok (styleOfDef d) := by
  unfold styleOfDefU styleOfDef
  cases hd : d.attrs with
  | none => exact absurd hd h
  | some kv => rw [valsC_some]; rfl

/-- one field of `ssaStyle.string`: `if p != nil { v = …(*p) }` (`*bool`, `*Color`, `*float64`, `*int`; for the
    string `fontName` there is nothing to dereference; unset is `none` in both cases).  The inner
    `none` = a float outside the model. -/
def cellC (s : Style) (f : Fld) : Chk (Option Str) :=
  let p := s.vals.get f
  if p.isSome then do
    let v ← deref p
    pure v.ssa
  else pure (some [])

/-- the same without the `!= nil` test -/
def cellU (s : Style) (f : Fld) : Chk (Option Str) := do
  let v ← deref (s.vals.get f)
  pure v.ssa

/-- the model's cell of `Style.row`, named -/
def cellM (s : Style) (col : Str) : Option (Option Str) :=
  match colOfName col with
  | some (.fld f) =>
    if col = "TertiaryColour".toList then some none else
    match s.vals.get f with
    | some v => (v.ssa).map some
    | none => some (some [])
  | _ => some none

theorem row_eq (s : Style) (format : List Str) :
    s.row format = (allSome (format.map (cellM s))).map fun cs => join [','] (s.name :: cs.filterMap id) := rfl

/-- the `switch attr` of `ssaStyle.string` for one Format column -/
def colCellC (s : Style) (col : Str) : Chk (Option (Option Str)) :=
  match colOfName col with
  | some (.fld f) =>
    if col = "TertiaryColour".toList then pure (some none) else do
      let v ← cellC s f
      pure (v.map some)
  | _ => pure (some none)

theorem cellC_eq (s : Style) (f : Fld) :
    cellC s f = .ok (match s.vals.get f with | some v => v.ssa | none => some []) := by
  unfold cellC
  cases s.vals.get f <;> rfl

theorem cellU_panics_iff (s : Style) (f : Fld) : cellU s f = .error .nilDeref ↔ s.vals.get f = none :=
  ((PanicsIff.deref _).bind_answers fun _ _ => ⟨_, rfl⟩).error_iff

theorem colCellC_eq (s : Style) (col : Str) : colCellC s col = .ok (cellM s col) := by
  unfold colCellC cellM
  split
  · split
    · rfl
    · rw [cellC_eq]
      cases s.vals.get _ <;> rfl
  · rfl

/-- `ssaStyle.string` -/
def rowC (s : Style) (format : List Str) : Chk (Option Str) := do
  let cells ← mapC (colCellC s) format
  pure ((allSome cells).map fun cs => join [','] (s.name :: cs.filterMap id))

theorem rowC_eq (s : Style) (format : List Str) : rowC s format = .ok (s.row format) := by
  unfold rowC
  rw [mapC_eq (colCellC s) (cellM s) format (fun c _ => colCellC_eq s c), row_eq]
  rfl

/-- one run: `if item.InlineStyle != nil && len(item.InlineStyle.SSAEffect) > 0 { s += item.InlineStyle.SSAEffect }; s += item.Text` -/
def runTextC (li : LItem) : Chk Str := do
  let c ← (if li.attrs.isSome then do
             let e ← fieldC li.attrs "SSAEffect"
             pure (decide (0 < (e.getD []).length))
           else pure false)
  if c then do
    let e ← fieldC li.attrs "SSAEffect"
    pure (e.getD [] ++ li.text)
  else pure li.text

/-- the same with `len(item.InlineStyle.SSAEffect) > 0` alone -/
def runTextU (li : LItem) : Chk Str := do
  let e ← fieldC li.attrs "SSAEffect"
  if 0 < (e.getD []).length then do
    let e ← fieldC li.attrs "SSAEffect"
    pure (e.getD [] ++ li.text)
  else pure li.text

theorem runTextC_eq (li : LItem) : runTextC li = .ok ((kvGet li.attrs "SSAEffect").getD [] ++ li.text) := by
  unfold runTextC
  cases hl : li.attrs with
  | none => rfl
  | some kv =>
    have h : (some kv : Attrs).isSome = true := rfl
    rw [if_pos h, fieldC_some]
    simp only [ok_bind, pure_eq]
    cases hk : kvGet (some kv) "SSAEffect" with
    | none => rfl
    | some e =>
      cases e with
      | nil => rfl
      | cons c cs =>
        have : decide (0 < ((some (c :: cs) : Option Str).getD []).length) = true := by simp
        rw [this]
        rfl

theorem runTextU_panics_iff (li : LItem) : runTextU li = .error .nilDeref ↔ li.attrs = none := by
  unfold runTextU
  cases li.attrs with
  | none => exact ⟨fun _ => rfl, fun _ => rfl⟩
  | some kv =>
    rw [fieldC_some]
    simp only [ok_bind, pure_eq]
    constructor
    · intro h; split at h <;> cases h
    · intro h; cases h

/-- one line: `strings.Join(items, "")` over the runs -/
def lineTextC (l : Line) : Chk Str := do
  let items ← mapC runTextC l.items
  pure items.flatten

theorem lineTextC_eq (l : Line) :
    lineTextC l = .ok ((l.items.map fun li => (kvGet li.attrs "SSAEffect").getD [] ++ li.text).flatten) := by
  unfold lineTextC
  rw [mapC_eq runTextC _ l.items (fun li _ => runTextC_eq li)]
  rfl

/-- `newSSAEventFromItem`: `if i.Style != nil { e.style = i.Style.ID }`,
    `if i.InlineStyle != nil { e.effect = i.InlineStyle.SSAEffect; … }`, the lines -/
def eventOfItemC (it : CItem) : Chk Event := do
  let style ← (if it.style.isSome then deref it.style else pure [])
  let e : Event ← (if it.attrs.isSome then do
      let effect ← fieldC it.attrs "SSAEffect"
      let layer ← fieldC it.attrs "SSALayer"
      let ml ← fieldC it.attrs "SSAMarginLeft"
      let mr ← fieldC it.attrs "SSAMarginRight"
      let mv ← fieldC it.attrs "SSAMarginVertical"
      let marked ← fieldC it.attrs "SSAMarked"
      pure { category := "Dialogue".toList, endAt := it.endAt, startAt := it.startAt, style := style,
             effect := effect.getD [], layer := layer.map atoiLoose, marginL := ml.map atoiLoose,
             marginR := mr.map atoiLoose, marginV := mv.map atoiLoose,
             marked := marked.map fun s => decide (s = "true".toList) }
    else pure { category := "Dialogue".toList, endAt := it.endAt, startAt := it.startAt, style := style })
  let lines ← mapC lineTextC it.lines
  pure { e with name := it.lines.foldl (fun n l => if l.voice.isEmpty then n else l.voice) [],
                text := join "\\n".toList lines }

/-- `newSSAEventFromItem` without the `i.Style != nil` test -/
def eventOfItemUStyle (it : CItem) : Chk Event := do
  let style ← deref it.style
  let e ← eventOfItemC { it with style := none }
  pure { e with style := style }

/-- `newSSAEventFromItem` without the `i.InlineStyle != nil` test -/
def eventOfItemUAttrs (it : CItem) : Chk Event := do
  let effect ← fieldC it.attrs "SSAEffect"
  let layer ← fieldC it.attrs "SSALayer"
  let ml ← fieldC it.attrs "SSAMarginLeft"
  let mr ← fieldC it.attrs "SSAMarginRight"
  let mv ← fieldC it.attrs "SSAMarginVertical"
  let marked ← fieldC it.attrs "SSAMarked"
  let e ← eventOfItemC { it with attrs := none }
  pure { e with effect := effect.getD [], layer := layer.map atoiLoose, marginL := ml.map atoiLoose,
                marginR := mr.map atoiLoose, marginV := mv.map atoiLoose,
                marked := marked.map fun s => decide (s = "true".toList) }

theorem eventOfItemC_eq (it : CItem) : eventOfItemC it = .ok (eventOfItem it) := by
  unfold eventOfItemC eventOfItem
  rw [mapC_eq lineTextC _ it.lines (fun l _ => lineTextC_eq l)]
  cases it.style <;> cases it.attrs <;> rfl

theorem eventOfItemUStyle_panics_iff (it : CItem) : eventOfItemUStyle it = .error .nilDeref ↔ it.style = none :=
  ((PanicsIff.deref it.style).bind_answers fun _ _ => by rw [eventOfItemC_eq]; exact ⟨_, rfl⟩).error_iff

theorem eventOfItemUAttrs_panics_iff (it : CItem) : eventOfItemUAttrs it = .error .nilDeref ↔ it.attrs = none := by
  unfold eventOfItemUAttrs
  rw [eventOfItemC_eq]
  cases it.attrs with
  | none => exact ⟨fun _ => rfl, fun _ => rfl⟩
  | some v => exact ⟨nofun, nofun⟩

theorem eventOfItemU_some (it : CItem) :
    (it.style ≠ none → eventOfItemUStyle it = .ok (eventOfItem it)) ∧
    (it.attrs ≠ none → eventOfItemUAttrs it = .ok (eventOfItem it)) := by
  constructor
  · intro h
    obtain ⟨_, _, _, style, _, _, _, _⟩ := it
    cases style with
    | none => exact absurd rfl h
    | some v => unfold eventOfItemUStyle; rw [eventOfItemC_eq]; rfl
  · intro h
    obtain ⟨_, _, _, _, _, attrs, _, _⟩ := it
    cases attrs with
    | none => exact absurd rfl h
    | some v => unfold eventOfItemUAttrs; rw [eventOfItemC_eq]; rfl

/-- `if i == nil { i = astikit.IntPtr(0) }; v = strconv.Itoa(*i)` -/
def intCellC (p : Option Int) : Chk Str := do
  let i := if p.isNone then some 0 else p
  let v ← deref i
  pure (itoa v)

/-- `v = strconv.Itoa(*i)` without the nil replacement -/
def intCellU (p : Option Int) : Chk Str := do
  let v ← deref p
  pure (itoa v)

/-- `if e.marked != nil && *e.marked { v = "Marked=1" } else { v = "Marked=0" }` -/
def markedCellC (p : Option Bool) : Chk Str := do
  let b ← (if p.isSome then deref p else pure false)
  pure (if b then "Marked=1".toList else "Marked=0".toList)

/-- `if *e.marked { … }` without the nil test -/
def markedCellU (p : Option Bool) : Chk Str := do
  let b ← deref p
  pure (if b then "Marked=1".toList else "Marked=0".toList)

theorem intCellC_eq (p : Option Int) : intCellC p = .ok (itoa (p.getD 0)) := by
  cases p <;> rfl

theorem intCellU_panics_iff (p : Option Int) : intCellU p = .error .nilDeref ↔ p = none :=
  ((PanicsIff.deref p).bind_answers fun _ _ => ⟨_, rfl⟩).error_iff

theorem markedCellC_eq (p : Option Bool) :
    markedCellC p = .ok (if p = some true then "Marked=1".toList else "Marked=0".toList) := by
  cases p with
  | none => rfl
  | some b => cases b <;> rfl

theorem markedCellU_panics_iff (p : Option Bool) : markedCellU p = .error .nilDeref ↔ p = none :=
  ((PanicsIff.deref p).bind_answers fun _ _ => ⟨_, rfl⟩).error_iff

/-- the `switch attr` of `ssaEvent.string`: `none` = `found = false` -/
def evCellC (e : Event) (attr : Str) : Chk (Option Str) :=
  if attr = "End".toList then pure (some (Duration.formatSSA e.endAt))
  else if attr = "Start".toList then pure (some (Duration.formatSSA e.startAt))
  else if attr = "Marked".toList then do let v ← markedCellC e.marked; pure (some v)
  else if attr = "Layer".toList then do let v ← intCellC e.layer; pure (some v)
  else if attr = "MarginL".toList then do let v ← intCellC e.marginL; pure (some v)
  else if attr = "MarginR".toList then do let v ← intCellC e.marginR; pure (some v)
  else if attr = "MarginV".toList then do let v ← intCellC e.marginV; pure (some v)
  else if attr = "Effect".toList then pure (some e.effect)
  else if attr = "Name".toList then pure (some e.name)
  else if attr = "Style".toList then pure (some e.style)
  else if attr = "Text".toList then pure (some e.text)
  else pure none

/-- what `ssaEvent.string` writes for one Format column, totalised -/
def evCellM (e : Event) (attr : Str) : Option Str :=
  if attr = "End".toList then some (Duration.formatSSA e.endAt)
  else if attr = "Start".toList then some (Duration.formatSSA e.startAt)
  else if attr = "Marked".toList then some (if e.marked = some true then "Marked=1".toList else "Marked=0".toList)
  else if attr = "Layer".toList then some (itoa (e.layer.getD 0))
  else if attr = "MarginL".toList then some (itoa (e.marginL.getD 0))
  else if attr = "MarginR".toList then some (itoa (e.marginR.getD 0))
  else if attr = "MarginV".toList then some (itoa (e.marginV.getD 0))
  else if attr = "Effect".toList then some e.effect
  else if attr = "Name".toList then some e.name
  else if attr = "Style".toList then some e.style
  else if attr = "Text".toList then some e.text
  else none

theorem evCellC_eq (e : Event) (attr : Str) : evCellC e attr = .ok (evCellM e attr) := by
  unfold evCellC evCellM
  simp only [intCellC_eq, markedCellC_eq, ok_bind, pure_eq]
  simp only [apply_ite Except.ok]

/-- `ssaEvent.string` for any Format -/
def evRowC (e : Event) (format : List Str) : Chk Str := do
  let cells ← mapC (evCellC e) format
  pure (join [','] (cells.filterMap id))

theorem evRowC_eq (e : Event) (format : List Str) :
    evRowC e format = .ok (join [','] ((format.map (evCellM e)).filterMap id)) := by
  unfold evRowC
  rw [mapC_eq (evCellC e) (evCellM e) format (fun a _ => evCellC_eq e a)]
  rfl

theorem evRowM_format (e : Event) (v4plus : Bool) :
    join [','] (((eventFormat v4plus).map (evCellM e)).filterMap id) = e.row v4plus := by
  cases v4plus <;> rfl

/-- the Format of the events block: the 9-column literal, `if v4plus { format[0] = "Layer" }`,
    `format = append(format, "Text")` -/
def eventFormatC (v4plus : Bool) : Chk (List Str) := do
  let format := ["Marked".toList, "Start".toList, "End".toList, "Style".toList, "Name".toList,
    "MarginL".toList, "MarginR".toList, "MarginV".toList, "Effect".toList]
  let format ← (if v4plus then setC format 0 "Layer".toList else pure format)
  pure (format ++ ["Text".toList])

/-- the store `format[0] = …` is in range: the Format is the model's -/
theorem eventFormatC_eq (v4plus : Bool) : eventFormatC v4plus = .ok (eventFormat v4plus) := by
  cases v4plus <;> rfl

/-- the events block of `WriteToSSA` -/
def eventsBlockC (v4plus : Bool) (items : List CItem) : Chk Str := do
  let format ← eventFormatC v4plus
  let events ← mapC eventOfItemC items
  let rows ← mapC (fun e => evRowC e format) events
  pure ("\n[Events]\n".toList ++ "Format: ".toList ++ join ", ".toList format ++ ['\n']
    ++ unlines (rows.map fun r => "Dialogue: ".toList ++ r))

/-- the events block of the model's `write` -/
def eventsM (v4plus : Bool) (items : List CItem) : Str :=
  "\n[Events]\n".toList ++ "Format: ".toList ++ join ", ".toList (eventFormat v4plus) ++ ['\n']
    ++ unlines (items.map fun it => "Dialogue: ".toList ++ (eventOfItem it).row v4plus)

theorem eventsBlockC_eq (v4plus : Bool) (items : List CItem) :
    eventsBlockC v4plus items = .ok (eventsM v4plus items) := by
  unfold eventsBlockC eventsM
  rw [eventFormatC_eq, mapC_eq eventOfItemC eventOfItem items (fun it _ => eventOfItemC_eq it)]
  simp only [ok_bind]
  rw [mapC_eq (fun e => evRowC e (eventFormat v4plus)) (fun e => e.row v4plus) _
    (fun e _ => by rw [evRowC_eq, evRowM_format])]
  simp only [ok_bind, pure_eq, List.map_map]
  rfl

/-- Go's `map[string]*ssaStyle` as an association list, the most recent insertion first -/
abbrev StyleMap := List (Str × Style)

/-- `styles[k] = v` (an earlier entry of the same key is shadowed) -/
def mapPut (m : StyleMap) (k : Str) (v : Style) : StyleMap := (k, v) :: m

/-- `styles[k]`: the nil pointer when the key is absent -/
def mapGet (m : StyleMap) (k : Str) : Option Style := m.lookup k

/-- `for _, s := range s.Styles { ss := newSSAStyleFromStyle(*s); styles[ss.name] = ss; styleNames = append(styleNames, ss.name) }`
    with `sod` for `newSSAStyleFromStyle` -/
def buildG (sod : Def → Chk Style) : List Def → StyleMap → List Str → Chk (StyleMap × List Str)
  | [], m, names => pure (m, names)
  | d :: ds, m, names => do
    let ss ← sod d
    buildG sod ds (mapPut m ss.name ss) (names ++ [ss.name])

/-- `for _, n := range styleNames { format = styles[n].updateFormat(formatMap, format) }`: the method has a
    value receiver, so the call dereferences `styles[n]` -/
def formatLoopC (m : StyleMap) : List Str → List Str → Chk (List Str)
  | [], format => pure format
  | n :: ns, format => do
    let st ← deref (mapGet m n)
    formatLoopC m ns (updateFormat st format)

/-- `for _, n := range styleNames { b = append(b, "Style: "+styles[n].string(format)+"\n") }` -/
def rowsLoopC (m : StyleMap) (format : List Str) : List Str → Chk (List (Option Str))
  | [] => pure []
  | n :: ns => do
    let st ← deref (mapGet m n)
    let r ← rowC st format
    let rs ← rowsLoopC m format ns
    pure (r :: rs)

theorem buildG_eq (sod : Def → Chk Style) : ∀ (ds : List Def) (m : StyleMap) (names : List Str),
    (∀ d ∈ ds, sod d = .ok (styleOfDef d)) →
    buildG sod ds m names = .ok ((ds.reverse.map fun d => (d.id, styleOfDef d)) ++ m, names ++ ds.map (·.id)) := by
  intro ds
  induction ds with
  | nil => intro m names _; simp [buildG]
  | cons d ds ih =>
    intro m names h
    unfold buildG
    rw [h d (List.mem_cons_self ..)]
    simp only [ok_bind]
    rw [ih _ _ (fun e he => h e (List.mem_cons_of_mem _ he))]
    simp [mapPut, styleOfDef]

theorem buildG_loop (sod : Def → Chk Style) :
    LLoop (fun (st : StyleMap × List Str) d => sod d >>= fun ss => pure (mapPut st.1 ss.name ss, st.2 ++ [ss.name]))
      (fun st ds => buildG sod ds st.1 st.2) :=
  ⟨fun _ => rfl, fun st d ds => by show buildG sod (d :: ds) st.1 st.2 = _; rw [buildG]; cases sod d <;> rfl⟩

theorem formatLoopC_eq (m : StyleMap) (g : Str → Style) : ∀ (ns : List Str) (format : List Str),
    (∀ n ∈ ns, mapGet m n = some (g n)) →
    formatLoopC m ns format = .ok ((ns.map g).foldl (fun fmt st => updateFormat st fmt) format)
  | [], _, _ => rfl
  | n :: ns, format, h => by
    unfold formatLoopC
    rw [h n (List.mem_cons_self ..)]
    exact formatLoopC_eq m g ns _ fun k hk => h k (List.mem_cons_of_mem _ hk)

theorem rowsLoopC_eq (m : StyleMap) (format : List Str) (g : Str → Style) (ns : List Str)
    (h : ∀ n ∈ ns, mapGet m n = some (g n)) :
    rowsLoopC m format ns = .ok ((ns.map g).map fun st => st.row format) :=
  RLoop.eq (L := fun _ => rowsLoopC m format) (f := fun _ n => deref (mapGet m n) >>= fun st => rowC st format)
    (M := fun _ ns => (ns.map g).map fun st => st.row format)
    ⟨fun _ => rfl, fun _ n _ => by show rowsLoopC m format (n :: _) = _; rw [rowsLoopC]; cases mapGet m n <;> rfl⟩
    ns 0 fun n hn _ => by rw [h n hn]; exact rowC_eq (g n) format

/-- a look-up that misses is a nil `*ssaStyle`: the method call panics (Format loop) -/
theorem formatLoopC_miss (m : StyleMap) (n : Str) (ns format : List Str) (h : mapGet m n = none) :
    formatLoopC m (n :: ns) format = .error .nilDeref := by
  unfold formatLoopC; rw [h]; rfl

theorem rowsLoopC_miss (m : StyleMap) (n : Str) (ns format : List Str) (h : mapGet m n = none) :
    rowsLoopC m format (n :: ns) = .error .nilDeref := by
  unfold rowsLoopC; rw [h]; rfl

theorem mapGet_build (f : Def → Style) (n : Str) : ∀ (l : List Def),
    mapGet (l.map fun d => (d.id, f d)) n = (l.find? fun e => n == e.id).map f := by
  intro l
  induction l with
  | nil => rfl
  | cons d l ih =>
    unfold mapGet at ih ⊢
    rw [List.map_cons, List.lookup_cons, List.find?_cons]
    cases n == d.id with
    | true => rfl
    | false => exact ih

/-- the style definition a name resolves to after the first loop: the last one with that id -/
def resolve (defs : List Def) (n : Str) : Def := (defs.reverse.find? fun e => n == e.id).getD default

/-- what `resolve defs n` is for a name `n` of the list: the look-up hits it, it carries that name, it is in the list -/
structure Resolved (defs : List Def) (n : Str) : Prop where
  find : (defs.reverse.find? fun e => n == e.id) = some (resolve defs n)
  id : (resolve defs n).id = n
  mem : resolve defs n ∈ defs

theorem resolve_spec (defs : List Def) (n : Str) (h : n ∈ defs.map (·.id)) : Resolved defs n := by
  have hs : ((defs.reverse.find? fun e => n == e.id)).isSome = true := by
    rw [List.find?_isSome]
    obtain ⟨d, hd, rfl⟩ := List.mem_map.mp h
    exact ⟨d, List.mem_reverse.mpr hd, by simp⟩
  cases hf : (defs.reverse.find? fun e => n == e.id) with
  | none => rw [hf] at hs; cases hs
  | some e =>
    have hr : resolve defs n = e := by unfold resolve; rw [hf]; rfl
    refine ⟨hr ▸ hf, ?_, hr ▸ List.mem_reverse.mp (List.mem_of_find?_eq_some hf)⟩
    have := List.find?_some hf
    simp at this
    exact hr ▸ this.symm

/-- **the look-ups `styles[n]` never miss**: `n` ranges over the names just inserted -/
theorem mapGet_hit (defs : List Def) (n : Str) (h : n ∈ defs.map (·.id)) :
    mapGet (defs.reverse.map fun d => (d.id, styleOfDef d)) n = some (styleOfDef (resolve defs n)) := by
  rw [mapGet_build, (resolve_spec defs n h).find]
  rfl

/-- the list of style definitions as the Go map look-ups see it: every definition replaced by the last
    one of the same id -/
def lastWins (defs : List Def) : List Def := (defs.map (·.id)).map (resolve defs)

theorem lastWins_nodup (defs : List Def) (h : (defs.map (·.id)).Nodup) : lastWins defs = defs := by
  unfold lastWins
  rw [List.map_map]
  refine List.map_eq_self fun d hd => ?_
  have hs := resolve_spec defs d.id (List.mem_map.mpr ⟨d, hd, rfl⟩)
  exact List.eq_of_nodup_map h hs.mem hd hs.id

/-- the styles block of the model's `write` -/
def styleBlockM (v4plus : Bool) (defs : List Def) : Option Str :=
  let styles := (defs.mergeSort fun a b => !strLt b.id a.id).map styleOfDef
  let format := styles.foldl (fun fmt st => updateFormat st fmt) ["Name".toList]
  if styles.isEmpty then some [] else
  (allSome (styles.map fun st => st.row format)).map fun rows =>
    (if v4plus then "\n[V4+ Styles]\n".toList else "\n[V4 Styles]\n".toList)
      ++ "Format: ".toList ++ join ", ".toList format ++ ['\n']
      ++ unlines (rows.map fun r => "Style: ".toList ++ r)

/-- the styles block of `WriteToSSA` (`none` = a float outside the model), with `sod` for `newSSAStyleFromStyle` -/
def stylesBlockG (sod : Def → Chk Style) (v4plus : Bool) (defs : List Def) : Chk (Option Str) :=
  if defs.isEmpty then pure (some [])
  else do
    let (m, names) ← buildG sod defs [] []
    let names := names.mergeSort (fun a b => !strLt b a)
    let format ← formatLoopC m names ["Name".toList]
    let rows ← rowsLoopC m format names
    pure ((allSome rows).map fun rows =>
      (if v4plus then "\n[V4+ Styles]\n".toList else "\n[V4 Styles]\n".toList)
        ++ "Format: ".toList ++ join ", ".toList format ++ ['\n']
        ++ unlines (rows.map fun r => "Style: ".toList ++ r))

theorem sorted_lastWins (defs : List Def) :
    ((lastWins defs).mergeSort fun a b => !strLt b.id a.id)
      = ((defs.map (·.id)).mergeSort fun a b => !strLt b a).map (resolve defs) := by
  unfold lastWins
  symm
  apply List.map_mergeSort
  intro a ha b hb
  rw [(resolve_spec defs a ha).id, (resolve_spec defs b hb).id]

theorem stylesBlockG_eq (sod : Def → Chk Style) (v4plus : Bool) (defs : List Def)
    (h : ∀ d ∈ defs, sod d = .ok (styleOfDef d)) :
    stylesBlockG sod v4plus defs = .ok (styleBlockM v4plus (lastWins defs)) := by
  cases defs with
  | nil => simp [stylesBlockG, styleBlockM, lastWins]
  | cons d ds =>
    unfold stylesBlockG
    rw [if_neg (by simp), buildG_eq sod _ _ _ h]
    simp only [ok_bind, List.append_nil, List.nil_append]
    have hit : ∀ n ∈ ((d :: ds).map (·.id)).mergeSort (fun a b => !strLt b a),
        mapGet ((d :: ds).reverse.map fun d => (d.id, styleOfDef d)) n
          = some (styleOfDef (resolve (d :: ds) n)) :=
      fun n hn => mapGet_hit _ n (List.mem_mergeSort.mp hn)
    rw [formatLoopC_eq _ (fun n => styleOfDef (resolve (d :: ds) n)) _ _ hit]
    simp only [ok_bind]
    rw [rowsLoopC_eq _ _ (fun n => styleOfDef (resolve (d :: ds) n)) _ hit]
    simp only [ok_bind, pure_eq]
    unfold styleBlockM
    simp only [sorted_lastWins, List.map_map]
    have hne : ¬ ((List.map (styleOfDef ∘ resolve (d :: ds))
        (((d :: ds).map (·.id)).mergeSort fun a b => !strLt b a)).isEmpty = true) := by
      intro he
      have hl := congrArg List.length (List.isEmpty_iff.mp he)
      simp at hl
    rw [if_neg hne]
    rfl

/-- the styles block panics exactly when `newSSAStyleFromStyle` does on one of the styles: the first loop is the only
    stage that can (the look-ups of the other two never miss).  The hypothesis says more than `PanicsIff`: where
    `sod` answers, its value is the repaired one's — that the look-ups hit is proved for those values (`stylesBlockG_eq`). -/
theorem stylesBlockG_panicsIff (sod : Def → Chk Style) (v4plus : Bool) (defs : List Def) (P : Def → Prop)
    (h : ∀ d ∈ defs, (P d → sod d = .error .nilDeref) ∧ (¬ P d → sod d = .ok (styleOfDef d))) :
    PanicsIff (stylesBlockG sod v4plus defs) .nilDeref (∃ d ∈ defs, P d) := by
  by_cases hex : ∃ d ∈ defs, P d
  · refine .error_of ?_ hex
    have hne : ¬ defs.isEmpty = true := fun he => by
      obtain ⟨_, hd, _⟩ := hex; rw [List.isEmpty_iff.mp he] at hd; cases hd
    unfold stylesBlockG
    rw [if_neg hne, ((buildG_loop sod).panicsIff defs ([], []) fun d hd st =>
      (PanicsIff.of_spec (h d hd)).bind_answers fun _ _ => ⟨_, rfl⟩).1 hex]
    rfl
  · exact .ok_of (stylesBlockG_eq sod v4plus defs fun d hd => (h d hd).2 fun hp => hex ⟨d, hd, hp⟩) hex

theorem write_eq (s : Subs) : write s =
    if s.items.isEmpty then .err else
    if s.items.any (fun it => it.startAt < 0 || it.endAt < 0) then .unmodelled else
    match (infoOfMeta s.metadata).bytes,
      styleBlockM (decide (kvGet s.metadata "SSAScriptType" = some "v4.00+".toList)) s.styles with
    | some i, some sb =>
      .ok (i ++ sb ++ eventsM (decide (kvGet s.metadata "SSAScriptType" = some "v4.00+".toList)) s.items)
    | _, _ => .unmodelled := by
  unfold write styleBlockM eventsM
  simp only [decide_eq_true_eq]
  rfl

/-- `WriteToSSA` with `v4` for the script-type test and `sod` for `newSSAStyleFromStyle`.  Every
    dereference is executed before the answer is formed: the domain restriction of the model
    (`.unmodelled` for negative times) does not hide a panic. -/
def writeG (v4 : Attrs → Chk Bool) (sod : Def → Chk Style) (s : Subs) : Chk (Res Str) :=
  if s.items.isEmpty then pure .err
  else do
    let info ← infoOfMetaC s.metadata
    let ib ← bytesC info
    let v4plus ← v4 s.metadata
    let sb ← stylesBlockG sod v4plus s.styles
    let ev ← eventsBlockC v4plus s.items
    pure (if s.items.any (fun it => it.startAt < 0 || it.endAt < 0) then .unmodelled else
      match ib, sb with
      | some i, some sb => .ok (i ++ sb ++ ev)
      | _, _ => .unmodelled)

/-- the repaired `WriteToSSA` -/
def writeC (s : Subs) : Chk (Res Str) := writeG v4plusC styleOfDefC s

/-- the pinned `WriteToSSA` (defect D9): `s.Metadata.SSAScriptType` and `i.InlineStyle.SSA…` unguarded -/
def writeU (s : Subs) : Chk (Res Str) := writeG v4plusU styleOfDefU s

theorem writeG_eq (v4 : Attrs → Chk Bool) (sod : Def → Chk Style) (s : Subs)
    (hv : v4 s.metadata = .ok (decide (kvGet s.metadata "SSAScriptType" = some "v4.00+".toList)))
    (hs : ∀ d ∈ s.styles, sod d = .ok (styleOfDef d)) :
    writeG v4 sod s = .ok (write { s with styles := lastWins s.styles }) := by
  rw [write_eq]
  refine ite_ok (fun _ => rfl) fun _ => ?_
  rw [infoOfMetaC_eq, ok_bind, bytesC_eq, hv, ok_bind, ok_bind, stylesBlockG_eq sod _ _ hs, eventsBlockC_eq]
  rfl

/-- **the SSA writer never panics**, for every `Subs`: nil metadata, no styles, styles / cues / runs
    without inline style, cues without style, without lines, lines without runs; and it answers what the
    model answers for the style list as the look-ups `styles[n]` see it -/
theorem writeC_lastWins (s : Subs) : writeC s = .ok (write { s with styles := lastWins s.styles }) :=
  writeG_eq _ _ s (v4plusC_eq _) (fun d _ => styleOfDefC_eq d)

/-- **the checked writer is the model's `write`** when the style ids are distinct (as the keys of Go's
    `Styles` map are when every style is filed under its own id) -/
theorem writeC_eq (s : Subs) (h : (s.styles.map (·.id)).Nodup) : writeC s = .ok (write s) := by
  rw [writeC_lastWins, lastWins_nodup _ h]

/-- the statement without the hypothesis; it is *false* (`writeC_eq_Statement_false`): with two styles of
    one id the Go code writes the last one twice, the model writes both -/
def writeC_eq_Statement : Prop := ∀ s : Subs, writeC s = .ok (write s)

/-- with a script-type test and a `newSSAStyleFromStyle` that panic on a nil pointer under `Pm` / `Ps` and answer as the
    repaired ones otherwise, the writer panics exactly when there is a cue and one of them panics: the first failing stage decides -/
theorem writeG_spec (v4 : Attrs → Chk Bool) (sod : Def → Chk Style) (s : Subs) (Pm : Prop) (Ps : Def → Prop)
    (hv : (Pm → v4 s.metadata = .error .nilDeref) ∧
      (¬ Pm → v4 s.metadata = .ok (decide (kvGet s.metadata "SSAScriptType" = some "v4.00+".toList))))
    (hs : ∀ d ∈ s.styles, (Ps d → sod d = .error .nilDeref) ∧ (¬ Ps d → sod d = .ok (styleOfDef d))) :
    PanicsIff (writeG v4 sod s) .nilDeref (s.items ≠ [] ∧ (Pm ∨ ∃ d ∈ s.styles, Ps d)) := by
  unfold writeG
  by_cases he : s.items.isEmpty = true
  · rw [if_pos he]
    exact .ok_of rfl fun h => h.1 (List.isEmpty_iff.mp he)
  · rw [if_neg he, infoOfMetaC_eq, ok_bind, bytesC_eq, ok_bind]
    refine ((PanicsIff.of_spec hv).bind' fun b _ =>
      (stylesBlockG_panicsIff sod b s.styles Ps hs).bind_answers fun sb _ => by
        rw [eventsBlockC_eq]; exact ⟨_, rfl⟩).congr ?_
    simp only [ne_eq, mt List.isEmpty_iff.mpr he, not_false_eq_true, true_and]

theorem v4plusU_spec (m : Attrs) : (m = none → v4plusU m = .error .nilDeref) ∧
    (¬ m = none → v4plusU m = .ok (decide (kvGet m "SSAScriptType" = some "v4.00+".toList))) := by
  cases m with
  | none => exact ⟨fun _ => rfl, fun h => absurd rfl h⟩
  | some kv => exact ⟨nofun, fun _ => v4plusU_some kv⟩

theorem writeU_spec (s : Subs) :
    PanicsIff (writeU s) .nilDeref (s.items ≠ [] ∧ (s.metadata = none ∨ ∃ d ∈ s.styles, d.attrs = none)) :=
  writeG_spec v4plusU styleOfDefU s (s.metadata = none) (·.attrs = none) (v4plusU_spec _)
    fun d _ => ⟨styleOfDefU_nil d, styleOfDefU_some d⟩

theorem writeU_panic_kind (s : Subs) (e : Panic) (h : writeU s = .error e) : e = .nilDeref :=
  PanicsIff.kind (writeU_spec s) h

/-- the `s.Metadata != nil` guard alone: with it removed (styles guarded) the writer panics exactly on a
    non-empty cue list with nil metadata -/
theorem writeG_v4U_panics_iff (s : Subs) :
    writeG v4plusU styleOfDefC s = .error .nilDeref ↔ s.items ≠ [] ∧ s.metadata = none := by
  simpa using (writeG_spec v4plusU styleOfDefC s (s.metadata = none) (fun _ => False)
    (v4plusU_spec _) fun d _ => ⟨False.elim, fun _ => styleOfDefC_eq d⟩).error_iff

/-- the `i.InlineStyle == nil` guard alone: with it removed (metadata guarded) the writer panics exactly on
    a non-empty cue list with a style without inline style -/
theorem writeG_sodU_panics_iff (s : Subs) :
    writeG v4plusC styleOfDefU s = .error .nilDeref ↔ s.items ≠ [] ∧ ∃ d ∈ s.styles, d.attrs = none := by
  simpa using (writeG_spec v4plusC styleOfDefU s False (·.attrs = none)
    ⟨False.elim, fun _ => v4plusC_eq _⟩ fun d _ => ⟨styleOfDefU_nil d, styleOfDefU_some d⟩).error_iff

/-- the events block with `eoi` for `newSSAEventFromItem` -/
def eventsBlockG (eoi : CItem → Chk Event) (v4plus : Bool) (items : List CItem) : Chk Str := do
  let format ← eventFormatC v4plus
  let events ← mapC eoi items
  let rows ← mapC (fun e => evRowC e format) events
  pure ("\n[Events]\n".toList ++ "Format: ".toList ++ join ", ".toList format ++ ['\n']
    ++ unlines (rows.map fun r => "Dialogue: ".toList ++ r))

theorem eventsBlockG_C (v4plus : Bool) (items : List CItem) :
    eventsBlockG eventOfItemC v4plus items = eventsBlockC v4plus items := rfl

theorem eventsBlockG_panics_iff (eoi : CItem → Chk Event) (P : CItem → Prop) (v4plus : Bool) (items : List CItem)
    (hP : ∀ it, P it → eoi it = .error .nilDeref) (hN : ∀ it, ¬ P it → eoi it = .ok (eventOfItem it)) :
    eventsBlockG eoi v4plus items = .error .nilDeref ↔ ∃ it ∈ items, P it := by
  unfold eventsBlockG
  rw [eventFormatC_eq, ok_bind]
  exact (((mapC_loop eoi).panicsIff items 0 fun it _ _ => PanicsIff.of_spec ⟨hP it, hN it⟩).bind_answers
    fun events _ => by rw [SSAW.mapC_eq _ _ events fun e _ => evRowC_eq e _]; exact ⟨_, rfl⟩).error_iff

theorem eventsBlockG_UAttrs_panics_iff (v4plus : Bool) (items : List CItem) :
    eventsBlockG eventOfItemUAttrs v4plus items = .error .nilDeref ↔ ∃ it ∈ items, it.attrs = none :=
  eventsBlockG_panics_iff _ _ _ _ (fun it => (eventOfItemUAttrs_panics_iff it).mpr) fun it => (eventOfItemU_some it).2

theorem eventsBlockG_UStyle_panics_iff (v4plus : Bool) (items : List CItem) :
    eventsBlockG eventOfItemUStyle v4plus items = .error .nilDeref ↔ ∃ it ∈ items, it.style = none :=
  eventsBlockG_panics_iff _ _ _ _ (fun it => (eventOfItemUStyle_panics_iff it).mpr) fun it => (eventOfItemU_some it).1

/-- a cue without style, inline style and lines -/
def cue0 : CItem := { startAt := 0, endAt := 1000000000, lines := [] }

/-- a cue with a line without runs, a run without inline style and an empty text -/
def cue1 : CItem :=
  { startAt := 1000000000, endAt := 2000000000,
    lines := [{ items := [] }, { items := [{ text := [] }, { text := "x".toList }] }] }

/-- nil metadata, no styles -/
def subs0 : Subs := { items := [cue0, cue1] }

/-- metadata without any field, a style without inline style -/
def subs1 : Subs := { items := [cue0], styles := [{ id := "a".toList }], metadata := some [] }

/-- two styles filed under one id: the first bold, the second without inline style -/
def subsDup : Subs :=
  { items := [cue0], metadata := some [],
    styles := [{ id := "a".toList, attrs := some [("SSABold".toList, "true".toList)] }, { id := "a".toList }] }

/-- D9: nil metadata — the pinned writer panics, the repaired one writes the document -/
example : writeU subs0 = .error .nilDeref := rfl
example : writeC subs0 = .ok (write subs0) := writeC_eq subs0 (by decide)
example : write subs0 = .ok (unlines ["[Script Info]".toList, [], "[Events]".toList,
    "Format: Marked, Start, End, Style, Name, ".toList ++ "MarginL, MarginR, MarginV, Effect, Text".toList,
    "Dialogue: Marked=0,00:00:00.00,".toList ++ "00:00:01.00,,,0,0,0,,".toList,
    "Dialogue: Marked=0,00:00:01.00,".toList ++ "00:00:02.00,,,0,0,0,,\\nx".toList]) := by
  decide_vector

/-- D9: a style without inline style — the pinned writer panics, the repaired one writes the document -/
example : writeU subs1 = .error .nilDeref := rfl
example : writeC subs1 = .ok (write subs1) := writeC_eq subs1 (by decide)
example : write subs1 = .ok (unlines ["[Script Info]".toList, [], "[V4 Styles]".toList, "Format: Name".toList,
    "Style: a".toList, [], "[Events]".toList,
    "Format: Marked, Start, End, Style, Name, ".toList ++ "MarginL, MarginR, MarginV, Effect, Text".toList,
    "Dialogue: Marked=0,00:00:00.00,".toList ++ "00:00:01.00,,,0,0,0,,".toList]) := by
  unfold write
  simp only [subs1, List.mergeSort_singleton]
  decide_vector

/-- the pieces on absent parts -/
example : infoOfMetaC none = .ok {} := rfl
example : v4plusC none = .ok false := rfl
example : styleOfDefC { id := "a".toList } = .ok { name := "a".toList } := rfl
example : eventOfItemC cue0 = .ok { category := "Dialogue".toList, endAt := 1000000000 } := rfl
example : runTextC { text := [] } = .ok [] := rfl
example : intCellC none = .ok (itoa 0) := rfl
example : markedCellC none = .ok "Marked=0".toList := rfl
example : intCellU none = .error .nilDeref := rfl
example : markedCellU none = .error .nilDeref := rfl
example : runTextU { text := [] } = .error .nilDeref := rfl
example : eventOfItemUStyle cue0 = .error .nilDeref := rfl
example : eventOfItemUAttrs cue0 = .error .nilDeref := rfl
example : cellU {} .bold = .error .nilDeref := rfl
example : fieldLineU {} .playResX = .error .nilDeref := rfl
example : formatLoopC [] ["a".toList] [] = .error .nilDeref := rfl

/-- the hypothesis of `writeC_eq` holds on ordinary documents and fails on `subsDup` -/
example : (subs1.styles.map (·.id)).Nodup := by decide
example : ¬ (subsDup.styles.map (·.id)).Nodup := by decide
example : lastWins subsDup.styles = [{ id := "a".toList }, { id := "a".toList }] := by decide

theorem sort_pair (x y : Def) (h : x.id = y.id) : [x, y].mergeSort (fun a b => !strLt b.id a.id) = [x, y] := by
  apply List.mergeSort_of_pairwise
  rw [List.pairwise_pair, h]
  simp [strLt, String.lt_irrefl]

/-- the hypothesis of `writeC_eq` cannot be dropped: on `subsDup` the Go code (hence `writeC`) writes the
    style without inline style twice (`Format: Name`), the model writes both definitions
    (`Format: Name, Bold`) -/
theorem writeC_eq_Statement_false : ¬ writeC_eq_Statement := by
  intro h
  have h1 := h subsDup
  rw [writeC_lastWins] at h1
  have h2 : write { subsDup with styles := lastWins subsDup.styles } = write subsDup := by
    injection h1
  revert h2
  have hl : lastWins subsDup.styles = [{ id := "a".toList }, { id := "a".toList }] := by decide
  rw [hl]
  unfold write
  simp only [subsDup, sort_pair { id := "a".toList } { id := "a".toList } rfl,
    sort_pair { id := "a".toList, attrs := some [("SSABold".toList, "true".toList)] } { id := "a".toList } rfl]
  decide +kernel

end SSAW
end Tot
end Astisub
