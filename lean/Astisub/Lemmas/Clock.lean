import Astisub.Lemmas.StrList

/-!
# Lemmas/Clock — the clock text `[h:]m:s` that every time stamp has in it

`HMS x H M S`: `x` is `h:m:s`, or `m:s` with `H = 0`, each field a decimal numeral (`Numeral`, `Lemmas/Str`) of any width.
Every writer prints one, every independent decoder accepts exactly such texts (each with its own bounds on the values),
and `parseDuration` reads them: its two stages are computed on `HMS` once, in `Props/C16`, and the codecs' time lemmas
are instances.  What the stages need of a clock text is here: its characters, that white space around it is trimmed
off, and what `strings.Split(x, ":")` returns.
-/

namespace Astisub
namespace Clock
open Go List

/-- the characters of a clock text: digits and `:` -/
def ClockChar (c : Char) : Prop := (∃ k, k < 10 ∧ c = digitChar k) ∨ c = ':'

theorem ClockChar.noSpace {c : Char} (h : ClockChar c) : isSpace c = false := by
  rcases h with ⟨k, hk, rfl⟩ | rfl
  · exact isSpace_digitChar hk
  · decide

/-- the two fraction separators of `parseDuration` are no digits -/
theorem sep_toNat {sep : Char} (hsep : sep = '.' ∨ sep = ',') : sep.toNat < 48 ∨ 57 < sep.toNat := by
  rcases hsep with rfl | rfl <;> decide

theorem ClockChar.ne_sep {c : Char} (h : ClockChar c) {sep : Char} (hsep : sep = '.' ∨ sep = ',') : sep ≠ c := by
  rcases h with ⟨k, hk, rfl⟩ | rfl
  · exact fun e => (digitChar_ne_of_toNat hk (sep_toNat hsep)).mp e.symm
  · rcases hsep with rfl | rfl <;> decide

/-- `h:m:s`, or `m:s` with no hours, each field a `Numeral` -/
inductive HMS : Str → Nat → Nat → Nat → Prop
  | three {h m s : Str} {H M S : Nat} : Numeral h H → Numeral m M → Numeral s S → HMS (h ++ ':' :: (m ++ ':' :: s)) H M S
  | two {m s : Str} {M S : Nat} : Numeral m M → Numeral s S → HMS (m ++ ':' :: s) 0 M S

namespace HMS
variable {x : Str} {H M S : Nat}

theorem chars (hx : HMS x H M S) : ∀ c ∈ x, ClockChar c := by
  intro c hc
  cases hx with
  | three hh hm hs =>
    simp only [mem_append, mem_cons] at hc
    rcases hc with hc | rfl | hc | rfl | hc
    · exact .inl (hh.digitStr c hc)
    · exact .inr rfl
    · exact .inl (hm.digitStr c hc)
    · exact .inr rfl
    · exact .inl (hs.digitStr c hc)
  | two hm hs =>
    simp only [mem_append, mem_cons] at hc
    rcases hc with hc | rfl | hc
    · exact .inl (hm.digitStr c hc)
    · exact .inr rfl
    · exact .inl (hs.digitStr c hc)

theorem noSpace (hx : HMS x H M S) : ∀ c ∈ x, isSpace c = false := fun c hc => (hx.chars c hc).noSpace

theorem not_mem_sep (hx : HMS x H M S) {sep : Char} (hsep : sep = '.' ∨ sep = ',') : sep ∉ x :=
  fun hc => (hx.chars sep hc).ne_sep hsep rfl

theorem head (hx : HMS x H M S) : ∃ k r, k < 10 ∧ x = digitChar k :: r := by
  cases hx with
  | three hh _ _ => obtain ⟨k, r, hk, rfl⟩ := hh.head; exact ⟨k, _, hk, rfl⟩
  | two hm _ => obtain ⟨k, r, hk, rfl⟩ := hm.head; exact ⟨k, _, hk, rfl⟩

theorem trim_pad (hx : HMS x H M S) {w1 w2 : Str} (h1 : ∀ c ∈ w1, isSpace c = true)
    (h2 : ∀ c ∈ w2, isSpace c = true) : trimSpace (w1 ++ x ++ w2) = x :=
  trimSpace_sandwich h1 h2 (trimSpace_id hx.noSpace)

/-- what `strings.Split(x, ":")` and the three `Atoi` calls of `parseDuration` see -/
theorem fields (hx : HMS x H M S) :
    (∃ h m s, splitC ':' x = [h, m, s] ∧ Numeral h H ∧ Numeral m M ∧ Numeral s S) ∨
    (∃ m s, splitC ':' x = [m, s] ∧ H = 0 ∧ Numeral m M ∧ Numeral s S) := by
  have nc : ∀ {t : Str} {v : Nat}, Numeral t v → ':' ∉ t := fun h => h.digitStr.not_mem (by decide)
  cases hx with
  | three hh hm hs => exact .inl ⟨_, _, _, splitC_three_mk (nc hh) (nc hm) (nc hs), hh, hm, hs⟩
  | two hm hs => exact .inr ⟨_, _, splitC_two_mk (nc hm) (nc hs), rfl, hm, hs⟩

theorem of_split3 {h m s : Str} (hs : splitC ':' x = [h, m, s]) (a : Numeral h H) (b : Numeral m M) (c : Numeral s S) :
    HMS x H M S := by
  rw [(splitC_three hs).1]; exact .three a b c

theorem of_split2 {m s : Str} (hs : splitC ':' x = [m, s]) (b : Numeral m M) (c : Numeral s S) : HMS x 0 M S := by
  rw [(splitC_two hs).1]; exact .two b c

end HMS

theorem space_ne_sep {w : Str} (h : ∀ c ∈ w, isSpace c = true) {sep : Char} (hsep : sep = '.' ∨ sep = ',') :
    sep ∉ w :=
  not_mem_of_not_isSpace (by rcases hsep with rfl | rfl <;> decide) h

end Clock
end Astisub
