import Astisub.Go.Float53
import Astisub.Lemmas.F53Rnd

/-!
# Lemmas/F53Round — `Dy.round` is `rnd` on values

`Dy.val d = m · 2^e` as a rational. Main result: `round_val : (Dy.round d).val = rnd d.val` for
every `d` (no side condition: the model has no exponent bounds).
-/

namespace Astisub
namespace Go

/-- the rational number a dyadic stands for -/
def Dy.val (d : Dy) : ℚ := (d.m : ℚ) * 2 ^ d.e

end Go

namespace F53
open Go

theorem bitlen_zero : bitlen 0 = 0 := by simp [bitlen]

theorem bitlen_pos {n : ℕ} (hn : n ≠ 0) : bitlen n = Nat.log2 n + 1 := by simp [bitlen, hn]

theorem bitlen_ub (n : ℕ) : n < 2 ^ bitlen n := by
  by_cases hn : n = 0
  · subst hn; simp [bitlen]
  · rw [bitlen_pos hn]; exact Nat.lt_log2_self

theorem bitlen_lb {n : ℕ} (hn : n ≠ 0) : 2 ^ (bitlen n - 1) ≤ n := by
  rw [bitlen_pos hn, Nat.add_sub_cancel]; exact Nat.log2_self_le hn

theorem bitlen_le_iff (n k : ℕ) : bitlen n ≤ k ↔ n < 2 ^ k := by
  by_cases hn : n = 0
  · subst hn; simp [bitlen]
  · rw [bitlen_pos hn, ← Nat.log2_lt hn]; omega

theorem bitlen_ne_zero {n : ℕ} (hn : n ≠ 0) : bitlen n ≠ 0 := by rw [bitlen_pos hn]; omega

theorem isRNE_div_iff {N P : ℚ} (hP : 0 < P) (z : ℤ) :
    IsRNE (N / P) z ↔ (|N - z * P| ≤ P / 2 ∧ (|N - z * P| = P / 2 → z % 2 = 0)) := by
  have e : |N / P - z| = |N - z * P| / P := by
    rw [show N / P - z = (N - z * P) / P by field_simp, abs_div, abs_of_pos hP]
  unfold IsRNE
  rw [e, div_le_iff₀ hP, div_eq_iff hP.ne', show (1 / 2 : ℚ) * P = P / 2 by ring]

/-- the rounded quotient computed by `Dy.round` -/
def rq (n sh : ℕ) : ℕ :=
  if n % 2 ^ sh > 2 ^ (sh - 1) ∨ (n % 2 ^ sh = 2 ^ (sh - 1) ∧ n / 2 ^ sh % 2 = 1) then n / 2 ^ sh + 1
  else n / 2 ^ sh

/-- for `n = 2H·q + r` with `r < 2H`: the quotient `q`, bumped to `z` when `r` is past the half `H` or at
    the half with `q` odd, is the nearest-even multiple of `2H` -/
theorem rq_core {n : ℚ} {q r H z : ℕ} (hn : n = 2 * (H : ℚ) * q + r) (hlt : r < 2 * H)
    (hz : z = if r > H ∨ (r = H ∧ q % 2 = 1) then q + 1 else q) :
    IsRNE (n / (2 * (H : ℚ))) (z : ℤ) := by
  have hltq : (r : ℚ) < 2 * H := by exact_mod_cast hlt
  rw [isRNE_div_iff (lt_of_le_of_lt (Nat.cast_nonneg r) hltq)]
  split_ifs at hz with c <;> rw [hz]
  · have hge : (H : ℚ) ≤ r := by exact_mod_cast (show H ≤ r by omega)
    rw [show n - (((q + 1 : ℕ) : ℤ) : ℚ) * (2 * (H : ℚ)) = (r : ℚ) - 2 * H by rw [hn]; push_cast; ring,
      abs_of_neg (by linarith)]
    refine ⟨by linarith, fun h => ?_⟩
    have : r = H := by exact_mod_cast (show (r : ℚ) = H by linarith)
    omega
  · have hle : (r : ℚ) ≤ H := by exact_mod_cast (show r ≤ H by omega)
    rw [show n - ((q : ℤ) : ℚ) * (2 * (H : ℚ)) = (r : ℚ) by rw [hn]; push_cast; ring,
      abs_of_nonneg (by positivity)]
    refine ⟨by linarith, fun h => ?_⟩
    have : r = H := by exact_mod_cast (show (r : ℚ) = H by linarith)
    omega

theorem rq_isRNE (n sh : ℕ) (hsh : 1 ≤ sh) : IsRNE ((n : ℚ) / 2 ^ sh) ((rq n sh : ℕ) : ℤ) := by
  obtain ⟨s, rfl⟩ : ∃ s, sh = s + 1 := ⟨sh - 1, by omega⟩
  have hdm := Nat.div_add_mod n (2 ^ (s + 1))
  have hlt := Nat.mod_lt n (Nat.two_pow_pos (s + 1))
  unfold rq
  rw [Nat.add_sub_cancel]
  generalize n / 2 ^ (s + 1) = q at hdm ⊢
  generalize n % 2 ^ (s + 1) = r at hdm hlt ⊢
  rw [pow_succ, Nat.mul_comm (2 ^ s) 2] at hdm hlt
  rw [show (2 : ℚ) ^ (s + 1) = 2 * ((2 ^ s : ℕ) : ℚ) by push_cast; ring]
  generalize 2 ^ s = H at hdm hlt ⊢
  exact rq_core (by exact_mod_cast hdm.symm) hlt rfl

theorem round_small (d : Dy) (h : bitlen d.m.natAbs ≤ 53) : d.round = d := by
  unfold Dy.round; simp only [h, ↓reduceIte]

theorem round_big (d : Dy) {sh : ℕ} (hsh : bitlen d.m.natAbs = 53 + sh) (hsh1 : 1 ≤ sh) :
    d.round = { m := if d.m < 0 then -((rq d.m.natAbs sh : ℕ) : ℤ) else ((rq d.m.natAbs sh : ℕ) : ℤ),
                e := d.e + (sh : ℤ) } := by
  have h : ¬ bitlen d.m.natAbs ≤ 53 := by omega
  unfold Dy.round rq; simp only [h, ↓reduceIte, show bitlen d.m.natAbs - 53 = sh by omega]

theorem cast_natAbs_sign (a : ℤ) : (a : ℚ) = if a < 0 then -(a.natAbs : ℚ) else (a.natAbs : ℚ) := by
  split
  · rw [← Int.cast_natCast, Int.ofNat_natAbs_of_nonpos (by omega)]; simp
  · rw [← Int.cast_natCast, Int.natAbs_of_nonneg (by omega)]

theorem val_abs (d : Dy) : |d.val| = (d.m.natAbs : ℚ) * 2 ^ d.e := by
  unfold Dy.val
  rw [abs_mul, abs_of_pos (p2_pos _), Nat.cast_natAbs, Int.cast_abs]

theorem val_mk (m e : ℤ) : (Dy.mk m e).val = (m : ℚ) * 2 ^ e := rfl

theorem val_zero_m (e : ℤ) : (Dy.mk 0 e).val = 0 := by simp [Dy.val]

theorem ex_val (d : Dy) (hn : d.m.natAbs ≠ 0) :
    ex d.val = d.e + (bitlen d.m.natAbs : ℤ) - 53 := by
  have lb := bitlen_lb hn
  have ub := bitlen_ub d.m.natAbs
  obtain ⟨k, hk⟩ : ∃ k, bitlen d.m.natAbs = k + 1 := ⟨bitlen d.m.natAbs - 1, by have := bitlen_ne_zero hn; omega⟩
  rw [hk] at lb ub ⊢
  simp only [Nat.add_sub_cancel] at lb
  have lbq : (2 : ℚ) ^ (k : ℤ) ≤ (d.m.natAbs : ℚ) := by
    rw [zpow_natCast]; exact_mod_cast lb
  have ubq : (d.m.natAbs : ℚ) < (2 : ℚ) ^ ((k : ℤ) + 1) := by
    rw [show ((k : ℤ) + 1) = ((k + 1 : ℕ) : ℤ) by push_cast; ring, zpow_natCast]; exact_mod_cast ub
  apply ex_eq
  · rw [val_abs, show d.e + ((k + 1 : ℕ) : ℤ) - 53 + 52 = (k : ℤ) + d.e by push_cast; ring, p2_add]
    exact mul_le_mul_of_nonneg_right lbq (le_of_lt (p2_pos _))
  · rw [val_abs, show d.e + ((k + 1 : ℕ) : ℤ) - 53 + 53 = ((k : ℤ) + 1) + d.e by push_cast; ring, p2_add]
    exact mul_lt_mul_of_pos_right ubq (p2_pos _)

theorem rnd_val_small (d : Dy) (h : bitlen d.m.natAbs ≤ 53) : rnd d.val = d.val := by
  have := (bitlen_le_iff _ _).mp h
  unfold Dy.val
  rw [rnd_scale, rnd_int _ (abs_le.mpr ⟨by omega, by omega⟩)]

theorem round_val (d : Dy) : d.round.val = rnd d.val := by
  by_cases h : bitlen d.m.natAbs ≤ 53
  · rw [round_small d h, rnd_val_small d h]
  · have hn : d.m.natAbs ≠ 0 := by
      intro h0; rw [h0, bitlen_zero] at h; omega
    obtain ⟨sh, hsh⟩ : ∃ sh : ℕ, bitlen d.m.natAbs = 53 + sh := ⟨bitlen d.m.natAbs - 53, by omega⟩
    have hsh1 : 1 ≤ sh := by omega
    have hE : ex d.val = d.e + (sh : ℤ) := by rw [ex_val d hn, hsh]; push_cast; ring
    obtain ⟨b1, b2⟩ := ex_bounds (x := d.val)
      (mul_ne_zero (Int.cast_ne_zero.mpr (Int.natAbs_ne_zero.mp hn)) (p2_ne _))
    rw [hE] at b1 b2
    rw [round_big d hsh hsh1]
    have hdiv : d.val / 2 ^ (d.e + (sh : ℤ)) = (d.m : ℚ) / 2 ^ sh := by
      unfold Dy.val
      rw [p2_add, zpow_natCast]
      field_simp [p2_ne]
    have hz : IsRNE (d.val / 2 ^ (d.e + (sh : ℤ)))
        (if d.m < 0 then -((rq d.m.natAbs sh : ℕ) : ℤ) else ((rq d.m.natAbs sh : ℕ) : ℤ)) := by
      rw [hdiv, cast_natAbs_sign d.m]
      split
      · rw [neg_div]; exact isRNE_neg (rq_isRNE d.m.natAbs sh hsh1)
      · exact rq_isRNE d.m.natAbs sh hsh1
    rw [rnd_eq b1 b2 hz]
    rfl

/-- the rounded significand has at most 53 bits, or is exactly 2⁵³ (carry) -/
theorem round_m_le (d : Dy) : d.round.m.natAbs ≤ 2 ^ 53 := by
  by_cases h : bitlen d.m.natAbs ≤ 53
  · rw [round_small d h]
    exact le_of_lt ((bitlen_le_iff _ _).mp h)
  · obtain ⟨sh, hsh⟩ : ∃ sh : ℕ, bitlen d.m.natAbs = 53 + sh := ⟨bitlen d.m.natAbs - 53, by omega⟩
    rw [round_big d hsh (by omega)]
    have ub := bitlen_ub d.m.natAbs
    rw [hsh, pow_add] at ub
    have hq : d.m.natAbs / 2 ^ sh < 2 ^ 53 := by
      rw [Nat.div_lt_iff_lt_mul (by positivity)]; exact ub
    have hrq : rq d.m.natAbs sh ≤ d.m.natAbs / 2 ^ sh + 1 := by
      unfold rq; split <;> omega
    have : (if d.m < 0 then -((rq d.m.natAbs sh : ℕ) : ℤ) else ((rq d.m.natAbs sh : ℕ) : ℤ)).natAbs
        = rq d.m.natAbs sh := by
      split <;> simp
    simp only [this]
    omega

end F53
end Astisub
