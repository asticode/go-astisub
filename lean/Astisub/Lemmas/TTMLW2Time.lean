import Astisub.Lemmas.TTMLRead2Time
import Astisub.Props.C16
import Astisub.Lemmas.Digits

/-!
# Lemmas/TTMLW2Time — what the writer's `begin` / `end` text denotes to the independent decoder

`Spec.TTML.denote` accepts every clock time `h:mm:ss.f` built from numerals (`denote_of_fields`); `Duration.formatTTML t`
is one (`C16.format_eq`, hours of any width), so it denotes exactly `t` truncated to the millisecond, whatever the frame
and tick rates.
-/

namespace Astisub
namespace TTMLW2
open Go TTML List
open Spec.TTML (denote num? hasNL)
open TTMLR (denote_eq denL denClock secParts)

/-- the decoder accepts the clock time `h:mm:ss.f` for numerals `h` of two or more digits, two-digit `mm`, `ss` below 60 and
    one to three fraction digits, whatever the frame and tick rates (`TTMLR.denClock_inv` is the converse) -/
theorem denote_of_fields {h m s f : Str} {H M S F : Nat} (hh : Numeral h H) (hm : Numeral m M) (hs : Numeral s S)
    (hf : Numeral f F) (lh : 2 ≤ h.length) (lm : m.length = 2) (ls : s.length = 2) (lf : f.length ≤ 3) (bM : M < 60)
    (bS : S < 60) (fr tr : Nat) :
    denote (h ++ ':' :: (m ++ ':' :: s) ++ '.' :: f) fr tr
      = some ((H * 3600 + M * 60 + S) * 1000000000 + F * 10 ^ (9 - f.length), 1) := by
  have nc : ∀ {t : Str} {v : Nat}, Numeral t v → ':' ∉ t := fun h => h.digitStr.not_mem (by decide)
  have nd : ∀ {t : Str} {v : Nat}, Numeral t v → '.' ∉ t := fun h => h.digitStr.not_mem (by decide)
  have c3 : ':' ∉ s ++ '.' :: f := by
    simp only [mem_append, mem_cons, not_or]; exact ⟨nc hs, by decide, nc hf⟩
  have hsec : secParts (s ++ '.' :: f) = (s, some f) := by
    unfold secParts; rw [TTMLR.splitAt_eq, splitC_two_mk (nd hs) (nd hf)]
  rw [show h ++ ':' :: (m ++ ':' :: s) ++ '.' :: f = h ++ ':' :: (m ++ ':' :: (s ++ '.' :: f)) by simp, denote_eq,
    TTMLR.splitAt_eq, splitC_three_mk (nc hh) (nc hm) c3]
  show denClock h m (s ++ '.' :: f) = _
  unfold denClock
  simp only [hsec, Spec.TTML.num?_eq, hh.natOf, hm.natOf, hs.natOf, hf.natOf, lm, ls, Option.map_some]
  simp [Nat.not_lt.mpr lh, Nat.not_le.mpr bM, Nat.not_le.mpr bS, hf.ne_nil, lf]

theorem pad2_length (h : Nat) : 2 ≤ (Duration.pad2 h).length := by
  by_cases h100 : h < 100
  · rw [C16.pad2_eq_dd h100]; exact Nat.le_refl 2
  · have h1 := (C16.num_pad2 h).lt
    refine Decidable.byContradiction fun hc => ?_
    have h2 := Nat.pow_le_pow_right (by decide : 1 ≤ 10) (by omega : (Duration.pad2 h).length ≤ 1)
    omega

/-- **Time, any width.**  For every instant `0 ≤ t` the text the writer prints denotes `t` truncated to the
    millisecond, and holds no line feed. -/
theorem denote_formatTTML_any (t : Int) (h0 : 0 ≤ t) (fr tr : Nat) :
    denote (Duration.formatTTML t) fr tr = some ((t - t % 1000000).toNat, 1) ∧ hasNL (Duration.formatTTML t) = false := by
  obtain ⟨n, rfl⟩ : ∃ n : Nat, t = (n : Int) := ⟨t.toNat, by omega⟩
  have bf : n % 1000000000 / 1000000 / 10 ^ (3 - 3) < 1000 := by simp; omega
  have bm : n % 3600000000000 / 60000000000 < 60 := by omega
  have bs : n % 60000000000 / 1000000000 < 60 := by omega
  have e := C16.format_eq n '.' 3
  rw [padLeft0_3 bf] at e
  have hx := C16.hms_pad2 (n / 3600000000000) (Nat.lt_trans bm (by decide)) (Nat.lt_trans bs (by decide))
  unfold Duration.formatTTML
  rw [e]
  refine ⟨?_, ?_⟩
  · rw [denote_of_fields (C16.num_pad2 _) (.dd (by omega)) (.dd (by omega)) (.ddd bf) (pad2_length _) rfl rfl
      (Nat.le_refl 3) bm bs]
    simp only [Nat.sub_self, Nat.pow_zero, Nat.div_one, show (ddd _).length = 3 from rfl]
    congr 2
    omega
  · unfold hasNL
    rw [any_eq_false]
    intro c hc
    have : c ≠ '\n' := by
      rintro rfl
      rcases mem_append.mp hc with hc | hc
      · exact absurd (hx.noSpace _ hc) (by decide)
      · rcases mem_cons.mp hc with hc | hc
        · exact absurd hc (by decide)
        · exact absurd ((digitStr_ddd bf).noSpace _ hc) (by decide)
    simpa using this

/-- **Time.**  The text the writer prints for an instant `0 ≤ t < 100 h` denotes, to the independent decoder and under
    every frame / tick rate, exactly `t` truncated to the millisecond (a whole number of nanoseconds). -/
theorem denote_formatTTML (t : Int) (h0 : 0 ≤ t) (h1 : t < 360000000000000) (fr tr : Nat) :
    denote (Duration.formatTTML t) fr tr = some ((t - t % 1000000).toNat, 1) :=
  (denote_formatTTML_any t h0 fr tr).1

theorem formatTTML_noNL (t : Int) (h0 : 0 ≤ t) (h1 : t < 360000000000000) : hasNL (Duration.formatTTML t) = false :=
  (denote_formatTTML_any t h0 0 0).2

end TTMLW2
end Astisub
