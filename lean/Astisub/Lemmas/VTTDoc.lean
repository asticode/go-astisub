import Astisub.Lemmas.VTTLine
import Astisub.Lemmas.VTTTiming
import Astisub.Lemmas.Lines

/-!
# Lemmas/VTTDoc — the written WebVTT document, line by line, through the reader

The lines of a cue (`cueCore`), what the reader makes of its text lines, the predicates `lineFit` /
`cueOk` and the lines of a document without comments, regions, style block and timestamp map
(`docLineList`); cutting a written text at its line feeds (`textLines`); every line of a written document is a
`Go.WLine` (trimmed, not blank, one line: `Lemmas/Lines`), shown here for the number, timing and text lines; the
lines of any written document (`docLines2`), the layout theorem `write_lines2`, and the same lines as
blocks, each preceded by a blank line (`restBlocks`, `docLines2_seg`, `forall_restBlocks`).
-/

namespace Astisub
namespace VTT
open Go List

/-- lines, each terminated by a line feed -/
def unlines (ls : List Str) : Str := (ls.map (· ++ ['\n'])).flatten

theorem unlines_lf (ls : List Str) : unlines ls = lfLines ls := rfl

theorem unlines_append (a b : List Str) : unlines (a ++ b) = unlines a ++ unlines b := lfLines_append a b

theorem unlines_cons (a : Str) (b : List Str) : unlines (a :: b) = a ++ '\n' :: unlines b := lfLines_cons a b

/-- a cue setting as the writer resolves it: the cue's own attribute, else the referenced style's -/
def cueSetting (s : Subs) (it : CItem) (k : String) : Option Str :=
  fallback it.attrs (styleAttrs s it.style) k

def cueTiming (s : Subs) (it : CItem) : Str :=
  timingLine it.startAt it.endAt (cueSetting s it "WebVTTAlign") (cueSetting s it "WebVTTLine")
    (cueSetting s it "WebVTTPosition") it.region (cueSetting s it "WebVTTSize") (cueSetting s it "WebVTTVertical")

/-- the lines of a cue without comments: number, timing, text lines -/
def cueCore (s : Subs) (k : Nat) (it : CItem) : List Str :=
  [itoaNat (k + 1), cueTiming s it] ++ it.lines.map lineBody

theorem cueBytes_eq (s : Subs) (k : Nat) (it : CItem) (hc : it.comments = []) :
    cueBytes s k it = unlines (cueCore s k it) ++ ['\n'] := by
  have hl : (it.lines.map lineBytes).flatten = unlines (it.lines.map lineBody) := by
    simp only [unlines, map_map]
    congr 1
  unfold cueBytes
  simp only [hc, List.isEmpty_nil, if_true, nil_append, hl]
  simp [cueCore, unlines_cons, cueTiming, timingLine, cueSetting]

/-- the cue blocks, each preceded by the blank line that ends what comes before -/
def cuesLines (s : Subs) : Nat → List CItem → List Str
  | _, [] => []
  | k, it :: rest => ([] :: cueCore s k it) ++ cuesLines s (k + 1) rest

/-- all the lines of the written document (cue lists without comments, regions, style blocks,
    timestamp map) -/
def docLineList (s : Subs) : List Str := "WEBVTT".toList :: cuesLines s 0 s.items

/-- what the reader makes of a written line (outer stack empty) -/
def readLine (l : Line) : Line := { voice := l.voice, items := l.items.map (readItem []) }

/-- a line that is read back as one text line of its cue: rebuilt exactly by `parseText`
    (`lineOk`), at least one run, no outer white space (the reader trims the line), no `-->`
    (it would be taken for a timing line), no line break inside -/
def lineFit (l : Line) : Bool :=
  lineOk l && !l.items.isEmpty && (lineBody l != []) && (trimSpace (lineBody l) == lineBody l) &&
  !contains arrow (lineBody l) && (lineBody l).all fun c => !(c == '\n' || c == '\r')

example : lineFit exLine = true := by decide_vector

/-- the conjuncts of `lineFit`, by name -/
structure LineFit (l : Line) : Prop where
  ok : lineOk l = true
  items : l.items ≠ []
  ne : lineBody l ≠ []
  trim : trimSpace (lineBody l) = lineBody l
  arrow : contains arrow (lineBody l) = false
  one : OneLine (lineBody l)

theorem lineFit_facts {l : Line} (h : lineFit l = true) : LineFit l := by
  simp only [lineFit, Bool.and_eq_true, all_eq_true, Bool.not_eq_true', Bool.or_eq_false_iff, beq_eq_false_iff_ne, ne_eq,
    bne_iff_ne, beq_iff_eq, List.isEmpty_eq_false_iff] at h
  obtain ⟨⟨⟨⟨⟨hok, hne⟩, hbody⟩, htrim⟩, harrow⟩, hone⟩ := h
  exact ⟨hok, hne, hbody, htrim, harrow, oneLine_iff.mpr fun c hc => hone c hc⟩

theorem step_textLine (st : St) (l : Line) (hfit : lineFit l = true) (hb : st.block = .text) (ht : st.tags = []) :
    step st (some (lineBody l)) = .ok { st with cur := { st.cur with lines := st.cur.lines ++ [readLine l] } } := by
  obtain ⟨hok, hne, hbody, htrim, harrow, _⟩ := lineFit_facts hfit
  rw [C02.text_in_cue st (lineBody l) hb (by rw [htrim]; exact hbody) (by rw [htrim]; exact harrow)]
  rw [htrim, ht, parseText_lineBody l hok []]
  have : (l.items.map (readItem [])).isEmpty = false := by
    cases hi : l.items with
    | nil => exact absurd hi hne
    | cons a b => rfl
  simp only [this, Bool.false_eq_true, if_false, readLine]

theorem run_textLines (ls : List Line) (hfit : ∀ l ∈ ls, lineFit l = true) (more : List (Option Str)) :
    ∀ (st : St), st.block = .text → st.tags = [] →
      run st (ls.map (fun l => some (lineBody l)) ++ more)
        = run { st with cur := { st.cur with lines := st.cur.lines ++ ls.map readLine } } more := by
  induction ls with
  | nil =>
    intro st _ _
    simp
  | cons l ls ih =>
    intro st hb ht
    simp only [map_cons, cons_append, run]
    rw [step_textLine st l (hfit l (by simp)) hb ht]
    simp only []
    refine (ih (fun x hx => hfit x (by simp [hx]))
      { st with cur := { st.cur with lines := st.cur.lines ++ [readLine l] } } hb ht).trans ?_
    simp

/-- a cue that is read back exactly: no comments, no region, instants in the writer's range,
    settings without white space / `:` / `>`, at least the lines fit -/
def cueOk (s : Subs) (it : CItem) : Bool :=
  (it.comments == []) && (it.region == none) &&
  decide (0 ≤ it.startAt) && decide (it.startAt < 360000000000000) &&
  decide (0 ≤ it.endAt) && decide (it.endAt < 360000000000000) &&
  optOk (cueSetting s it "WebVTTAlign") && optOk (cueSetting s it "WebVTTLine") &&
  optOk (cueSetting s it "WebVTTPosition") && optOk (cueSetting s it "WebVTTSize") &&
  optOk (cueSetting s it "WebVTTVertical") && it.lines.all lineFit

/-! non-vacuity: a two-cue list with settings (one inherited from a style) -/
def exSubs : Subs :=
  { items := [
      { startAt := 1000000000, endAt := 2500000123, lines := [exLine, { items := [exRun4] }],
        attrs := some [("WebVTTAlign".toList, "start".toList), ("WebVTTPosition".toList, "10%".toList)] },
      { startAt := 3000000000, endAt := 4000000000, lines := [{ items := [exRun1] }], style := some "s1".toList }],
    styles := [{ id := "s1".toList, attrs := some [("WebVTTLine".toList, "0".toList)] }] }

example : exSubs.items.all (cueOk exSubs) = true := by decide_vector
example : exSubs.regions = [] ∧ styleLines exSubs = [] ∧ SRT.kvGet exSubs.metadata "WebVTTTimestampMap" = none := by
  refine ⟨rfl, ?_, rfl⟩
  have : VTT.sortDefs exSubs.styles = exSubs.styles := by simp [VTT.sortDefs, exSubs]
  simp only [styleLines, this]
  decide

/-- the cue the reader builds from the `k`-th written cue -/
def readCue (s : Subs) (k : Nat) (it : CItem) : CItem :=
  { index := (k : Int) + 1, startAt := it.startAt - it.startAt % 1000000, endAt := it.endAt - it.endAt % 1000000,
    region := none, comments := [], lines := it.lines.map readLine,
    attrs := some (mkAttrs [("WebVTTAlign", cueSetting s it "WebVTTAlign"), ("WebVTTLine", cueSetting s it "WebVTTLine"),
      ("WebVTTPosition", cueSetting s it "WebVTTPosition"), ("WebVTTSize", cueSetting s it "WebVTTSize"),
      ("WebVTTVertical", cueSetting s it "WebVTTVertical")]) }

/-- what the reader returns for the written document -/
def readSubs (s : Subs) : Subs :=
  { items := s.items.zipIdx.map fun x => readCue s x.2 x.1, regions := [], styles := [], metadata := none }

theorem skipHeader_webvtt (ls : List (Option Str)) : skipHeader (some "WEBVTT".toList :: ls) = some ls := by
  have : fields (trimPrefix bom "WEBVTT".toList) = ["WEBVTT".toList] := by decide
  unfold skipHeader
  rw [this]
  simp

/-- the lines of a text in which every line is terminated by a line feed (what a line scanner
    delivers when no carriage return occurs) -/
def textLines (doc : Str) : List (Option Str) := ((splitC '\n' doc).dropLast).map some

theorem textLines_unlines (ls : List Str) (h : ∀ l ∈ ls, OneLine l) : textLines (unlines ls) = ls.map some := by
  rw [textLines, unlines_lf, splitC_lfLines fun l hl => (h l hl).1, dropLast_concat]

theorem noBreak_format (t : Int) (h0 : 0 ≤ t) (h1 : t < 360000000000000) : OneLine (Duration.formatVTT t) :=
  .of_noSpace fun c hc => timeChar_noSpace ((format_facts t h0 h1).1 c hc)

theorem noBreak_spaced (ws : List Str) (h : ∀ w ∈ ws, WordOk w) : OneLine (spaced ws) := by
  induction ws with
  | nil => exact .nil
  | cons w ws ih =>
    rw [spaced_cons]
    exact .append (a := ' ' :: w) (.append (a := [' ']) ⟨by decide, by decide⟩ (.of_noSpace (h w mem_cons_self).2))
      (ih fun x hx => h x (mem_cons_of_mem _ hx))

theorem wline_words (c : Char) (tl : Str) (ws : List Str) (hc : isSpace c = false) (hh : OneLine (c :: tl))
    (hne : ws ≠ []) (hws : ∀ w ∈ ws, WordOk w) : WLine ((c :: tl) ++ spaced ws) := by
  have := trimSpace_line c tl [] [] ws hc hne hws
  simp only [append_nil] at this
  exact ⟨this, by simp, .append hh (noBreak_spaced ws hws)⟩

theorem wline_number (n : Nat) : WLine (itoaNat n) := by
  obtain ⟨k, tl, _, he⟩ := itoaNat_head n
  exact .of_noSpace (by rw [he]; exact cons_ne_nil _ _) (Go.digitStr_itoaNat n).noSpace

theorem wordOk_format (t : Int) (h0 : 0 ≤ t) (h1 : t < 360000000000000) : WordOk (Duration.formatVTT t) := by
  obtain ⟨k, r, _, hfmt⟩ := format_head t h0 h1
  exact ⟨by rw [hfmt]; simp, fun c hc => timeChar_noSpace ((format_facts t h0 h1).1 c hc)⟩

theorem wline_timing (s e : Int) (hs0 : 0 ≤ s) (hs1 : s < 360000000000000) (he0 : 0 ≤ e) (he1 : e < 360000000000000)
    (al ln po rg sz ve : Option Str)
    (hal : optOk al = true) (hln : optOk ln = true) (hpo : optOk po = true) (hrg : optOk rg = true)
    (hsz : optOk sz = true) (hve : optOk ve = true) : WLine (timingLine s e al ln po rg sz ve) := by
  obtain ⟨k, r, hk, hfmt⟩ := format_head s hs0 hs1
  have hw := allWords_ok al ln po rg sz ve hal hln hpo hrg hsz hve
  have key := wline_words (digitChar k) (r ++ ' ' :: arrow) (Duration.formatVTT e :: allWords al ln po rg sz ve)
    (isSpace_digitChar hk)
    (by rw [← cons_append, ← hfmt]
        exact .append (noBreak_format s hs0 hs1) (by rw [arrow_eq]; exact ⟨by decide, by decide⟩))
    (cons_ne_nil _ _)
    (fun w hw' => (mem_cons.mp hw').elim (fun e' => e' ▸ wordOk_format e he0 he1) fun h => (hw w h).1)
  rw [timingLine_eq, hfmt]
  simpa using key

theorem wline_lineFit {l : Line} (h : lineFit l = true) : WLine (lineBody l) :=
  have F := lineFit_facts h
  ⟨F.trim, F.ne, F.one⟩

/-- the `NOTE` block of a cue: `NOTE first`, the other lines, and the blank line that ends it -/
def commentLines : List Str → List Str
  | [] => []
  | c :: cs => ("NOTE ".toList ++ c) :: cs ++ [[]]

/-- the lines of one cue: comment block, number, timing, text lines -/
def cueLines2 (s : Subs) (k : Nat) (it : CItem) : List Str := commentLines it.comments ++ cueCore s k it

theorem cueBytes_eq2 (s : Subs) (k : Nat) (it : CItem) :
    cueBytes s k it = unlines (cueLines2 s k it) ++ ['\n'] := by
  have hcore := cueBytes_eq s k { it with comments := [] } rfl
  have hsplit : cueBytes s k it
      = (if it.comments.isEmpty then [] else "NOTE ".toList ++ (it.comments.map (· ++ ['\n'])).flatten ++ ['\n'])
        ++ cueBytes s k { it with comments := [] } := by
    unfold cueBytes
    simp only [List.isEmpty_nil, if_true, nil_append, append_assoc]
  have hc : cueCore s k { it with comments := [] } = cueCore s k it := rfl
  rw [hsplit, hcore, hc, cueLines2, unlines_append]
  cases hcm : it.comments with
  | nil => simp [commentLines, unlines]
  | cons c cs =>
    simp [commentLines, unlines]

/-- the cue blocks, each preceded by the blank line that ends what comes before -/
def cuesLines2 (s : Subs) : Nat → List CItem → List Str
  | _, [] => []
  | k, it :: rest => ([] :: cueLines2 s k it) ++ cuesLines2 s (k + 1) rest

theorem cues_flatten2 (s : Subs) (items : List CItem) (k : Nat) :
    '\n' :: ((items.zipIdx k).map fun x => cueBytes s x.2 x.1).flatten
      = unlines (cuesLines2 s k items) ++ ['\n'] := by
  induction items generalizing k with
  | nil => simp [cuesLines2, unlines]
  | cons it rest ih =>
    have h1 := cueBytes_eq2 s k it
    have h2 := ih (k + 1)
    simp only [zipIdx_cons, map_cons, flatten_cons, cuesLines2, unlines_append, h1]
    rw [unlines_cons]
    simp only [nil_append, cons_append, append_assoc]
    rw [h2]

/-- the `X-TIMESTAMP-MAP` line of the header (none when the metadata has no well-shaped value) -/
def tsmapLines (s : Subs) : List Str :=
  match SRT.kvGet s.metadata "WebVTTTimestampMap" with
  | some v =>
    match splitC ',' v with
    | [l, m] => ["X-TIMESTAMP-MAP=LOCAL:".toList ++ Duration.formatVTT ((atoi l).getD 0) ++ ",MPEGTS:".toList ++ m]
    | _ => []
  | none => []

theorem header_eq (s : Subs) : header s = unlines ("WEBVTT".toList :: tsmapLines s) ++ ['\n'] := by
  unfold header tsmapLines
  repeat rw [String.toList_ofList]
  cases SRT.kvGet s.metadata "WebVTTTimestampMap" with
  | none => rfl
  | some v =>
    simp only []
    generalize splitC ',' v = parts
    match parts with
    | [l, m] => simp [unlines]
    | [] => rfl
    | [_] => rfl
    | _ :: _ :: _ :: _ => rfl

/-- the `STYLE` block, preceded by the blank line that ends the header -/
def styleBlock (s : Subs) : List Str :=
  if (styleLines s).isEmpty then [] else [] :: "STYLE".toList :: styleLines s

theorem join_lf (a : Str) (l : List Str) : join ['\n'] (a :: l) ++ ['\n'] = unlines (a :: l) := by
  induction l generalizing a with
  | nil => simp [join, unlines]
  | cons b l ih =>
    rw [join, unlines_cons, ← ih b]
    simp

/-- a region definition line (without its line feed) -/
def regionLine (s : Subs) (d : Def) : Str :=
  "Region: id=".toList ++ d.id
    ++ setting "lines=" (fallback d.attrs (styleAttrs s d.ref) "WebVTTLines")
    ++ setting "regionanchor=" (fallback d.attrs (styleAttrs s d.ref) "WebVTTRegionAnchor")
    ++ setting "scroll=" (fallback d.attrs (styleAttrs s d.ref) "WebVTTScroll")
    ++ setting "viewportanchor=" (fallback d.attrs (styleAttrs s d.ref) "WebVTTViewportAnchor")
    ++ setting "width=" (fallback d.attrs (styleAttrs s d.ref) "WebVTTWidth")

theorem regionBytes_eq (s : Subs) (d : Def) : regionBytes s d = regionLine s d ++ ['\n'] := rfl

/-- the region definitions (in identifier order), preceded by the blank line that ends what comes before -/
def regionBlock (s : Subs) : List Str :=
  if s.regions.isEmpty then [] else [] :: (VTT.sortDefs s.regions).map (regionLine s)

theorem regions_flatten (s : Subs) (l : List Def) :
    (l.map (regionBytes s)).flatten = unlines (l.map (regionLine s)) := by
  simp only [unlines, map_map]
  congr 1

/-- all the lines of the written document -/
def docLines2 (s : Subs) : List Str :=
  ("WEBVTT".toList :: tsmapLines s) ++ styleBlock s ++ regionBlock s ++ cuesLines2 s 0 s.items

theorem assemble (H S S' R R' C C' : Str) (hS : '\n' :: S = S' ++ ['\n']) (hR : '\n' :: R = R' ++ ['\n'])
    (hC : '\n' :: C = C' ++ ['\n']) : H ++ ['\n'] ++ S ++ R ++ C = H ++ S' ++ R' ++ C' ++ ['\n'] := by
  have e1 : H ++ ['\n'] ++ S ++ R ++ C = H ++ ('\n' :: S) ++ R ++ C := by simp
  rw [e1, hS]
  have e2 : H ++ (S' ++ ['\n']) ++ R ++ C = H ++ S' ++ ('\n' :: R) ++ C := by simp
  rw [e2, hR]
  have e3 : H ++ S' ++ (R' ++ ['\n']) ++ C = H ++ S' ++ R' ++ ('\n' :: C) := by simp
  rw [e3, hC]
  simp

theorem style_shift (s : Subs) :
    '\n' :: (if (styleLines s).isEmpty then [] else "STYLE\n".toList ++ join ['\n'] (styleLines s) ++ "\n\n".toList)
      = unlines (styleBlock s) ++ ['\n'] := by
  unfold styleBlock
  cases h : styleLines s with
  | nil => simp [unlines]
  | cons a l =>
    have hj := join_lf a l
    simp only [List.isEmpty_cons, Bool.false_eq_true, if_false]
    rw [unlines_cons, unlines_cons, ← hj]
    simp

theorem region_shift (s : Subs) :
    '\n' :: (((VTT.sortDefs s.regions).map (regionBytes s)).flatten ++ (if s.regions.isEmpty then [] else ['\n']))
      = unlines (regionBlock s) ++ ['\n'] := by
  unfold regionBlock
  rw [regions_flatten]
  cases h : s.regions with
  | nil => simp [unlines, VTT.sortDefs]
  | cons d ds =>
    simp only [List.isEmpty_cons, Bool.false_eq_true, if_false]
    rw [unlines_cons]
    simp

theorem write_lines2 (s : Subs) (hne : s.items ≠ []) : write s = some (unlines (docLines2 s)) := by
  rw [C02.write_layout s hne, header_eq s]
  have hcues := cues_flatten2 s s.items 0
  have e2 : (s.items.zipIdx.map fun (x : CItem × Nat) => cueBytes s x.2 x.1)
      = (s.items.zipIdx 0).map fun x => cueBytes s x.2 x.1 := rfl
  have key := assemble (unlines ("WEBVTT".toList :: tsmapLines s)) _ _ _ _ _ _ (style_shift s) (region_shift s) hcues
  rw [e2]
  simp only [append_assoc] at key ⊢
  rw [key, docLines2, unlines_append, unlines_append, unlines_append]
  simp

end VTT

/-! ## the written document as blocks

After the header the written lines are groups of `WLine`s, each preceded by one blank line: the `STYLE` block, the
region block, and for every cue its comment block (if any) and its cue block.  The reader runs over them group by
group, the decoder's `blocks` cuts the lines into exactly these groups. -/

namespace VTT3W
open Go List

theorem noBreak_segLines {bs : List (List Str)} (h : ∀ b ∈ bs, ∀ l ∈ b, WLine l) : ∀ l ∈ segLines bs, OneLine l :=
  forall_segLines .nil fun b hb l hl => (h b hb l hl).one

/-- the comment block of a cue (without the blank line that ends it) -/
def noteBlock : List Str → List (List Str)
  | [] => []
  | c :: cs => [("NOTE ".toList ++ c) :: cs]

theorem cueCore_eq (s : Subs) (k : Nat) (it : CItem) :
    VTT.cueCore s k it = itoaNat (k + 1) :: VTT.cueTiming s it :: it.lines.map VTT.lineBody := rfl

/-- the blocks of the cues: for every cue its comment block, if any, and its cue block -/
def cueBlocks (s : Subs) : Nat → List CItem → List (List Str)
  | _, [] => []
  | k, it :: rest => noteBlock it.comments ++ [VTT.cueCore s k it] ++ cueBlocks s (k + 1) rest

def styleBlocks (s : Subs) : List (List Str) :=
  if (VTT.styleLines s).isEmpty then [] else ["STYLE".toList :: VTT.styleLines s]

def regionLines (s : Subs) : List Str := (VTT.sortDefs s.regions).map (VTT.regionLine s)

def regionBlocks (s : Subs) : List (List Str) :=
  if s.regions.isEmpty then [] else [regionLines s]

/-- the blocks after the header -/
def restBlocks (s : Subs) : List (List Str) := styleBlocks s ++ regionBlocks s ++ cueBlocks s 0 s.items

theorem cuesLines2_seg (s : Subs) (items : List CItem) : ∀ k, VTT.cuesLines2 s k items = segLines (cueBlocks s k items) := by
  induction items with
  | nil => intro k; rfl
  | cons it rest ih =>
    intro k
    rw [VTT.cuesLines2, cueBlocks, segLines_append, segLines_append, ← ih (k + 1), VTT.cueLines2]
    cases hc : it.comments with
    | nil => simp [VTT.commentLines, noteBlock, segLines]
    | cons c cs => simp [VTT.commentLines, noteBlock, segLines]

theorem styleBlock_seg (s : Subs) : VTT.styleBlock s = segLines (styleBlocks s) := by
  unfold VTT.styleBlock styleBlocks
  split <;> simp [segLines]

theorem regionBlock_seg (s : Subs) : VTT.regionBlock s = segLines (regionBlocks s) := by
  unfold VTT.regionBlock regionBlocks regionLines
  split <;> simp [segLines]

theorem docLines2_seg (s : Subs) :
    VTT.docLines2 s = ("WEBVTT".toList :: VTT.tsmapLines s) ++ segLines (restBlocks s) := by
  unfold VTT.docLines2 restBlocks
  rw [segLines_append, segLines_append, ← cuesLines2_seg, ← styleBlock_seg, ← regionBlock_seg]
  simp

theorem forall_cueBlocks (s : Subs) (P : List Str → Prop) : ∀ (items : List CItem),
    (∀ it ∈ items, ∀ c cs, it.comments = c :: cs → P (("NOTE ".toList ++ c) :: cs)) →
    (∀ it ∈ items, ∀ k, P (VTT.cueCore s k it)) → ∀ k, ∀ b ∈ cueBlocks s k items, P b
  | [], _, _, _, _, hb => by cases hb
  | it :: rest, hnote, hcue, k, b, hb => by
    rw [cueBlocks, mem_append, mem_append, mem_singleton] at hb
    rcases hb with (hb | hb) | hb
    · cases hc : it.comments with
      | nil => rw [hc] at hb; cases hb
      | cons c cs =>
        rw [hc] at hb
        rw [mem_singleton.mp hb]
        exact hnote it mem_cons_self c cs hc
    · rw [hb]; exact hcue it mem_cons_self k
    · exact forall_cueBlocks s P rest (fun x hx => hnote x (mem_cons_of_mem _ hx))
        (fun x hx => hcue x (mem_cons_of_mem _ hx)) (k + 1) b hb

theorem forall_restBlocks (s : Subs) (P : List Str → Prop)
    (hsty : VTT.styleLines s ≠ [] → P ("STYLE".toList :: VTT.styleLines s))
    (hreg : s.regions ≠ [] → P (regionLines s))
    (hnote : ∀ it ∈ s.items, ∀ c cs, it.comments = c :: cs → P (("NOTE ".toList ++ c) :: cs))
    (hcue : ∀ it ∈ s.items, ∀ k, P (VTT.cueCore s k it)) : ∀ b ∈ restBlocks s, P b := by
  intro b hb
  rw [restBlocks, mem_append, mem_append] at hb
  rcases hb with (hb | hb) | hb
  · unfold styleBlocks at hb
    split at hb
    · cases hb
    · rename_i hne
      rw [mem_singleton.mp hb]
      exact hsty fun e => hne (by rw [e]; rfl)
  · unfold regionBlocks at hb
    split at hb
    · cases hb
    · rename_i hne
      rw [mem_singleton.mp hb]
      exact hreg fun e => hne (by rw [e]; rfl)
  · exact forall_cueBlocks s P s.items hnote hcue 0 b hb

end VTT3W
end Astisub
