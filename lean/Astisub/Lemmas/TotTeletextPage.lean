import Astisub.Lemmas.TotTeletext
import Astisub.Props.C06

/-!
# Lemmas/TotTeletextPage — character sets, rows, pages and the data loop of the teletext reader, checked

Checked variants of `teletextCharacterDecoder.updateCharset` / `decode`, `parseTeletextRow`,
`teletextPage.parse`, and of the loop of `ReadFromTeletext` built on `process` (`teletext.go`).
Index obligations: the `*v2.g0` dereference and the `d.c[positions[k]] = v` store of `updateCharset`
(discharged by facts about the package's tables: every entry of `teletextCharsets` has a G0 set, the
thirteen national positions are below 96), and `d.c[b-0x20]` of `decode` (guarded by
`b < 0x20 || b > 0x7f ⇒ nothing`, fix-4 of C06, together with the fact that `updateCharset` has run
before any row is decoded: `DecOk`).
-/

namespace Astisub
namespace Tot
namespace Teletext
open Astisub.Teletext Generated.Teletext Go

def foldlC {σ α} (f : σ → α → Chk σ) : σ → List α → Chk σ
  | s, [] => pure s
  | s, a :: as => do
    let s' ← f s a
    foldlC f s' as

theorem foldlC_inv {σ α} {f : σ → α → Chk σ} {g : σ → α → σ} (I : σ → Prop) (l : List α)
    (hstep : ∀ s a, I s → a ∈ l → f s a = .ok (g s a) ∧ I (g s a)) :
    ∀ s, I s → foldlC f s l = .ok (l.foldl g s) ∧ I (l.foldl g s) := fun s hs =>
  LLoop.eq (L := foldlC f) ⟨fun _ => rfl, fun _ _ _ => rfl⟩ I l s (fun s hs a ha => (hstep s a hs ha).1)
    (fun s hs a ha => (hstep s a hs ha).2) hs

theorem positions_len : positions.length = 13 := by decide

theorem toCharset_length (t : List (List Nat)) : (toCharset t).length = t.length := by simp [toCharset]

/-- `for k, v := range nationalOptionSubset { d.c[positions[k]] = v }`: `positions[k]` and the store into the 96-entry array -/
def patchNationalC : Charset → List Nat → List Str → Chk Charset
  | c, p :: ps, v :: vs => if p < c.length then patchNationalC (c.set p v) ps vs else .error .index
  | _, [], _ :: _ => .error .index
  | c, _, [] => pure c

theorem patchNationalC_eq : ∀ (ps : List Nat) (c : Charset) (vs : List Str), (∀ p ∈ ps, p < c.length) → vs.length ≤ ps.length →
    patchNationalC c ps vs = .ok (patchNational c ps vs) ∧ (patchNational c ps vs).length = c.length := by
  intro ps
  induction ps with
  | nil =>
    intro c vs _ hl
    cases vs with
    | nil => exact ⟨rfl, rfl⟩
    | cons v vs => simp at hl
  | cons p ps ih =>
    intro c vs hp hl
    cases vs with
    | nil => exact ⟨rfl, rfl⟩
    | cons v vs =>
      unfold patchNationalC patchNational
      rw [if_pos (hp p (by simp))]
      have := ih (c.set p v) vs (by intro q hq; rw [List.length_set]; exact hp q (by simp [hq])) (by simpa using hl)
      rw [List.length_set] at this
      exact this

/-- the body of `updateCharset` once it recomputes: map look-ups, `*v2.g0`, the national patch -/
def computeCharsetC (triplet code : Nat) : Chk Charset :=
  match lookupCharset (keyOf triplet) code with
  | some (g0?, nat) => do
    let g0 ← deref g0?
    let tbl ← idx g0Tables g0
    let c := toCharset tbl
    match nat with
    | some n => do
      let nt ← idx natTables n
      patchNationalC c positions (toCharset nt)
    | none => pure c
  | none => do
    let tbl ← idx g0Tables defaultG0
    pure (toCharset tbl)

theorem computeCharsetC_eq (triplet code : Nat) :
    computeCharsetC triplet code = .ok (computeCharset triplet code) ∧ (computeCharset triplet code).length = 96 := by
  unfold computeCharsetC computeCharset
  cases hl : lookupCharset (keyOf triplet) code with
  | none =>
    have h0 := C06.C06_default_valid
    simp only [idx_ok h0 [], ok_bind, pure_eq]
    refine ⟨rfl, ?_⟩
    show (toCharset (g0Tables.getD defaultG0 [])).length = 96
    rw [toCharset_length]; exact C06.C06_g0_rows _ (C06.getD_mem _ _ _ h0)
  | some x =>
    obtain ⟨e, he, -, -, rfl⟩ := C06.lookupCharset_mem _ _ _ hl
    have hok := C06.C06_charsets_total e he
    unfold C06.entryOk at hok
    obtain ⟨k, c, g0?, nat⟩ := e
    simp only at hok ⊢
    cases g0? with
    | none => simp at hok
    | some g0 =>
      simp only [Bool.and_eq_true, decide_eq_true_eq] at hok
      have hg := hok.1
      have hlen : (toCharset (g0Tables.getD g0 [])).length = 96 := by
        rw [toCharset_length]; exact C06.C06_g0_rows _ (C06.getD_mem _ _ _ hg)
      simp only [deref, ok_bind, idx_ok hg []]
      cases nat with
      | none => exact ⟨rfl, hlen⟩
      | some n =>
        have hn : n < natTables.length := by simpa using hok.2
        simp only [idx_ok hn [], ok_bind]
        have := patchNationalC_eq positions (toCharset (g0Tables.getD g0 [])) (toCharset (natTables.getD n []))
          (by intro p hp; rw [hlen]; exact C06.C06_national_in_range p hp)
          (by rw [toCharset_length, C06.C06_national_rows _ (C06.getD_mem _ _ _ hn), positions_len]; exact Nat.le_refl _)
        exact ⟨this.1, by rw [this.2]; exact hlen⟩

/-- the decoder's table is the full 96-entry array once `updateCharset` has run -/
def DecOk (d : Dec) : Prop := d.last.isSome = true → d.c.length = 96

theorem dec_init_ok : DecOk {} := by intro h; cases h

/-- `updateCharset(code, false)` -/
def updateCharsetC (triplet : Nat) (d : Dec) (code : Nat) : Chk Dec :=
  if d.last == some code then pure d else do
  let c ← computeCharsetC triplet code
  pure { last := some code, c := c }

theorem updateCharsetC_eq (triplet : Nat) (d : Dec) (code : Nat) (hd : DecOk d) :
    updateCharsetC triplet d code = .ok (updateCharset triplet d code) ∧
    (updateCharset triplet d code).c.length = 96 ∧ DecOk (updateCharset triplet d code) := by
  unfold updateCharsetC updateCharset
  by_cases h : (d.last == some code) = true
  · rw [if_pos h, if_pos h]
    have : d.last.isSome = true := by
      have : d.last = some code := by simpa using h
      rw [this]; rfl
    exact ⟨rfl, hd this, hd⟩
  · rw [if_neg h, if_neg h]
    have := computeCharsetC_eq triplet code
    rw [this.1]
    exact ⟨rfl, this.2, fun _ => this.2⟩

/-- `teletextCharacterDecoder.decode`: `d.c[b-0x20]` behind the range guard (fix-4) -/
def decodeCharC (c : Charset) (v : Nat) : Chk Str :=
  if v < 0x20 || v > 0x7f then pure [] else idx c (v - 0x20)

theorem decodeCharC_eq (c : Charset) (v : Nat) (hc : c.length = 96) : decodeCharC c v = .ok (decodeChar c v) := by
  refine ite_ok (fun _ => rfl) fun h => ?_
  simp only [Bool.or_eq_true, decide_eq_true_eq, not_or] at h
  exact idx_ok (by omega) []

/-- without the range guard a byte above 0x7f indexes past the 96-entry table -/
example (c : Charset) (hc : c.length = 96) : idx c (0xff - 0x20) = .error .index := idx_panics (by omega)

/-- one column of `parseTeletextRow`; the table look-up is evaluated up front -/
def rowStepC (c : Charset) (s : RowSt) (v : Nat) : Chk RowSt := do
  let ch ← decodeCharC c v
  pure (
    let color : Option Nat := if v < 8 then some v else none
    let s := if v = 0xa then { s with started := false } else if v = 0xb then { s with started := true } else s
    let dh : Option Bool := if v = 0xc then some false else if v = 0xd then some true else none
    let ds : Option Bool := if v = 0xc then some false else if v = 0xf then some true else none
    let dw : Option Bool := if v = 0xc then some false else if v = 0xe then some true else none
    if color.isSome || dh.isSome || ds.isSome || dw.isSome then
      if (color.isSome && color != s.style.color) || ptrDiffers dh s.style.dh || ptrDiffers ds s.style.ds || ptrDiffers dw s.style.dw then
        let s := if s.started || !s.text.isEmpty then { s with items := appendItem s.items s.text s.style, text := [] } else s
        let st := s.style
        let st := if color.isSome then { st with color := color } else st
        let st := if dh.isSome then { st with dh := dh } else st
        let st := if ds.isSome then { st with ds := ds } else st
        let st := if dw.isSome then { st with dw := dw } else st
        { s with style := st }
      else s
    else if s.started then { s with text := s.text ++ ch }
    else s)

theorem rowStepC_eq (c : Charset) (s : RowSt) (v : Nat) (hc : c.length = 96) : rowStepC c s v = .ok (rowStep c s v) := by
  unfold rowStepC
  rw [decodeCharC_eq c v hc]
  rfl

/-- `parseTeletextRow` -/
def parseRowC (c : Charset) (row : List Nat) : Chk (Option Line) := do
  let s ← foldlC (rowStepC c) {} row
  let items := appendItem s.items s.text s.style
  pure (if items.isEmpty then none else some { items := items })

theorem parseRowC_eq (c : Charset) (row : List Nat) (hc : c.length = 96) : parseRowC c row = .ok (parseRow c row) := by
  unfold parseRowC parseRow
  rw [bind_eq_of_ok (foldlC_inv (g := rowStep c) (fun _ => True) row
    (fun s a _ _ => ⟨rowStepC_eq c s a hc, trivial⟩) {} trivial).1]
  rfl

/-- `teletextPage.parse` -/
def parsePageC (triplet : Nat) (first : Int) (st : Dec × List CItem) (p : Page) : Chk (Dec × List CItem) := do
  let d ← updateCharsetC triplet st.1 p.charsetCode
  if p.data.isEmpty then pure (d, st.2) else
  let rows := p.rows.mergeSort (fun a b => decide (a ≤ b))
  let lines ← mapC (fun y => parseRowC d.c (getData p.data y)) rows
  pure (d, st.2 ++ [{ startAt := p.start - first, endAt := p.end_ - first, lines := lines.filterMap id }])

theorem parsePageC_eq (triplet : Nat) (first : Int) (st : Dec × List CItem) (p : Page) (hd : DecOk st.1) :
    parsePageC triplet first st p = .ok (parsePage triplet first st p) ∧ DecOk (parsePage triplet first st p).1 := by
  unfold parsePageC parsePage
  have hu := updateCharsetC_eq triplet st.1 p.charsetCode hd
  rw [hu.1]
  simp only [ok_bind]
  by_cases he : p.data.isEmpty = true
  · rw [if_pos he, if_pos he]; exact ⟨rfl, hu.2.2⟩
  · rw [if_neg he, if_neg he]
    rw [mapC_ok (g := fun y => parseRow (updateCharset triplet st.1 p.charsetCode).c (getData p.data y))
      (fun y _ => parseRowC_eq _ _ hu.2.1)]
    simp only [ok_bind, pure_eq, List.filterMap_map]
    exact ⟨rfl, hu.2.2⟩

/-- the invariant of the reader's accumulator: the page buffer's -/
def AccOk (a : Acc) : Prop := BufOk a.buf

def feedC (a : Acc) (payload : List Nat) (t : Int) : Chk Acc := do
  let first := match a.first with | none => t | some f => if f > t then t else f
  let last := match a.last with | none => t | some l => if l < t then t else l
  let r ← processC a.buf payload t
  pure { buf := r.1, first := some first, last := some last, pages := a.pages ++ r.2 }

theorem feedC_eq (a : Acc) (payload : List Nat) (t : Int) (ha : AccOk a) (hp : Bytes256 payload) :
    feedC a payload t = .ok (feed a payload t) ∧ AccOk (feed a payload t) := by
  unfold feedC feed
  rw [processC_eq a.buf payload t ha hp]
  exact ⟨rfl, process_ok a.buf payload t ha⟩

/-- `dump` and the `parse` loop at the end of `ReadFromTeletext` -/
def finishC (a : Acc) : Chk Subs := do
  let pages := a.pages ++ (match a.buf.current with
    | some p => [{ p with end_ := a.last.getD 0 }]
    | none => [])
  let r ← foldlC (parsePageC (tripletOf a.buf.x28 a.buf.m29) (a.first.getD 0)) ({}, []) pages
  pure { items := r.2 }

theorem finishC_eq (a : Acc) : finishC a = .ok (finish a) := by
  unfold finishC finish
  rw [bind_eq_of_ok (foldlC_inv (g := parsePage _ _) (fun st => DecOk st.1) _
    (fun st p hst _ => parsePageC_eq _ _ st p hst) ({}, []) dec_init_ok).1]
  rfl

/-- the hook driver `VerifTeletextRun`: every (time, payload) pair of the chosen PID, then `finish` -/
def runPESC (page : Nat) (pes : List (Int × List Nat)) : Chk Subs := do
  let a ← foldlC (fun a p => feedC a p.2 p.1) { buf := newBuf page } pes
  finishC a

/-- every payload of the demultiplexer's PES data is a byte string -/
def DataOk (d : Data) : Prop :=
  match d with
  | .pes _ _ _ _ payload => Bytes256 payload
  | _ => True

/-- the data loop of `ReadFromTeletext` after the rewind -/
def readLoopC (page pid : Nat) (pass : List Data) (endOk : Bool) : Chk (Astisub.Teletext.Res Subs) :=
  if !endOk then pure .err else do
  let a ← foldlC (fun (a : Acc) d =>
    match d with
    | .pes p sid pts pcr payload =>
      if p != pid % 65536 || sid != some 189 then pure a else
      match pts.orElse fun _ => pcr with
      | none => pure a
      | some t => feedC a payload t
    | _ => pure a) { buf := newBuf page } pass
  let s ← finishC a
  pure (.ok s)

end Teletext
end Tot
end Astisub
