import Astisub.Lemmas.SSAEvent
import Astisub.Lemmas.SSAStyle
import Astisub.Lemmas.SSARead2Step

/-!
# Lemmas/SSADoc — lines of a written document under the reader's scan loop (`SSA.step`, `SSA.run`)

A written `Header: content` line is trimmed to `kvTrim hdr content`, which is no section header and which the line
classification (`Spec.SSA.classify`, the one `SSAR.stepL_body` states `step` by) takes for the key/value pair
`hdr`, `content`: so the line reaches the section's handler with exactly this header and content (`step_kv`).  The
`Dialogue:`, `Style:` and `Format:` lines the writer emits are instances.  `writeCore_closed` is `WriteToSSA` after its
guards as an equation: script-info text, styles block, events block, or no answer (`write_ok_lines`).
-/

namespace Astisub
namespace SSA
open Go List

theorem trimmed_append_cons (a b : Str) (c : Char) (ha : ∀ x, a.head? = some x → isSpace x = false)
    (hc : isSpace c = false) (hb : ∀ x, b.getLast? = some x → isSpace x = false) : Trimmed (a ++ c :: b) := by
  constructor
  · intro x hx
    cases a with
    | nil => simp at hx; subst hx; exact hc
    | cons a0 as => simp at hx; subst hx; exact ha _ rfl
  · intro x hx
    rw [getLast?_append] at hx
    cases b with
    | nil => simp at hx; subst hx; exact hc
    | cons b0 bs =>
      rw [getLast?_cons_cons] at hx
      cases hl : (b0 :: bs).getLast? with
      | none => simp at hl
      | some d => rw [hl] at hx; simp at hx; subst hx; exact hb _ hl

theorem trimSpace_space_cons (s : Str) (h : Trimmed s) : trimSpace (' ' :: s) = s := by
  simpa using trimSpace_pad (w1 := [' ']) (w2 := []) (by decide) (fun _ h => nomatch h) h.1 h.2

def kvLine (hdr content : Str) : Str := hdr ++ ": ".toList ++ content

/-- a header that is found again in front of the first `:`: not empty, no `:`, nothing to trim,
    not starting like a section header or a comment -/
def HeaderOK (hdr : Str) : Prop :=
  hdr ≠ [] ∧ ':' ∉ hdr ∧ Trimmed hdr ∧ hdr.head? ≠ some '[' ∧ hdr.head? ≠ some ';'

instance (hdr : Str) : Decidable (HeaderOK hdr) :=
  inferInstanceAs (Decidable (hdr ≠ [] ∧ ':' ∉ hdr ∧ Trimmed hdr ∧ hdr.head? ≠ some '[' ∧ hdr.head? ≠ some ';'))

theorem HeaderOK.ne {hdr : Str} (h : HeaderOK hdr) : hdr ≠ [] := h.1

theorem HeaderOK.noColon {hdr : Str} (h : HeaderOK hdr) : ':' ∉ hdr := h.2.1

theorem HeaderOK.trimmed {hdr : Str} (h : HeaderOK hdr) : Trimmed hdr := h.2.2.1

theorem HeaderOK.noBracket {hdr : Str} (h : HeaderOK hdr) : hdr.head? ≠ some '[' := h.2.2.2.1

theorem HeaderOK.noSemi {hdr : Str} (h : HeaderOK hdr) : hdr.head? ≠ some ';' := h.2.2.2.2

theorem headerOK_Format : HeaderOK "Format".toList := by decide_vector

theorem headerOK_Style : HeaderOK "Style".toList := by decide_vector

theorem headerOK_Dialogue : HeaderOK "Dialogue".toList := by decide_vector

/-- the line after `TrimSpace` -/
def kvTrim (hdr content : Str) : Str := hdr ++ ':' :: (if content = [] then [] else ' ' :: content)

theorem trimSpace_sepLine (hdr content : Str) (k : Char) (hk : isSpace k = false)
    (hh : ∀ x, hdr.head? = some x → isSpace x = false) (hc : Trimmed content) :
    trimSpace (hdr ++ k :: ' ' :: content) = hdr ++ k :: (if content = [] then [] else ' ' :: content) := by
  have ht := trimmed_append_cons hdr [] k hh hk (fun _ h => nomatch h)
  by_cases h0 : content = []
  · subst h0
    simpa using trimSpace_pad (w1 := []) (t := hdr ++ [k]) (w2 := [' ']) (fun _ h => nomatch h) (by decide) ht.1 ht.2
  · rw [if_neg h0]
    apply trimSpace_of_trimmed
    apply trimmed_append_cons _ _ _ hh hk
    intro x hx
    cases content with
    | nil => exact absurd rfl h0
    | cons c cs =>
      rw [getLast?_cons_cons] at hx
      exact hc.2 x hx

theorem trimSpace_kvLine (hdr content : Str) (hh : HeaderOK hdr) (hc : Trimmed content) :
    trimSpace (kvLine hdr content) = kvTrim hdr content := by
  unfold kvLine kvTrim
  rw [String.toList_ofList]
  simpa using trimSpace_sepLine hdr content ':' (by decide) hh.trimmed.1 hc

theorem kvTrim_content (content : Str) (hc : Trimmed content) :
    trimSpace (if content = [] then [] else ' ' :: content) = content := by
  by_cases h0 : content = []
  · subst h0; rfl
  · simp only [h0, ↓reduceIte]; exact trimSpace_space_cons content hc

theorem spec_keyValue_kvTrim (hdr content : Str) (hh : HeaderOK hdr) (hc : Trimmed content) :
    Spec.SSA.keyValue (kvTrim hdr content) = some (hdr, content) := by
  have hcolon := hh.noColon
  have htr := hh.trimmed
  unfold Spec.SSA.keyValue kvTrim
  have hcont : (hdr ++ ':' :: (if content = [] then [] else ' ' :: content)).contains ':' = true := by simp
  have htake : (hdr ++ ':' :: (if content = [] then [] else ' ' :: content)).takeWhile (· ≠ ':') = hdr := by
    rw [takeWhile_append_of_pos (by
      intro c hc
      simp only [ne_eq, decide_not, Bool.not_eq_eq_eq_not, Bool.not_true, decide_eq_false_iff_not]
      intro e
      subst e
      exact hcolon hc)]
    simp
  simp only [hcont, ↓reduceIte, htake, Option.some.injEq, Prod.mk.injEq]
  refine ⟨trimSpace_of_trimmed htr, ?_⟩
  rw [List.drop_length_succ]
  exact kvTrim_content content hc

theorem classify_kvTrim (hdr content : Str) (hh : HeaderOK hdr) (hc : Trimmed content) :
    Spec.SSA.classify (kvTrim hdr content) = .kv hdr content := by
  have hkv := spec_keyValue_kvTrim hdr content hh hc
  have hne := hh.ne
  have hsemi := hh.noSemi
  cases hdr with
  | nil => exact absurd rfl hne
  | cons x xs =>
    have hx : x ≠ ';' := fun e => hsemi (by rw [e]; rfl)
    unfold Spec.SSA.classify
    have e : kvTrim (x :: xs) content = x :: (xs ++ ':' :: (if content = [] then [] else ' ' :: content)) := rfl
    rw [e] at hkv ⊢
    split
    · rename_i rest heq
      injection heq with h1 _
      exact absurd h1 hx
    · rw [hkv]

theorem secKind_kvTrim (hdr content : Str) (hh : HeaderOK hdr) : Spec.SSA.secKind (kvTrim hdr content) = none := by
  have hne := hh.ne
  have hbr := hh.noBracket
  cases hdr with
  | nil => exact absurd rfl hne
  | cons x xs =>
    have hx : x ≠ '[' := fun e => hbr (by rw [e]; rfl)
    have e : kvTrim (x :: xs) content = x :: (xs ++ ':' :: (if content = [] then [] else ' ' :: content)) := rfl
    rw [e]
    unfold Spec.SSA.secKind
    split
    · rename_i rest heq
      injection heq with h1 _
      exact absurd h1 hx
    · rfl

theorem kvTrim_ne_nil (hdr content : Str) : kvTrim hdr content ≠ [] := by
  unfold kvTrim
  simp

theorem kvTrim_head (hdr content : Str) (hh : HeaderOK hdr) : (kvTrim hdr content).head? ≠ some ':' := by
  have hne := hh.ne
  have hcolon := hh.noColon
  cases hdr with
  | nil => exact absurd rfl hne
  | cons x xs =>
    intro h
    have : x = ':' := by simpa [kvTrim] using h
    exact hcolon (this ▸ mem_cons_self)

theorem step_of_not_first (st : St) (raw : Str) (hf : st.first = false) : step st raw = SSAR.stepL st (trimSpace raw) := by
  rw [SSAR.step_eq, hf]; rfl

/-- a written `Header: content` line reaches the section's handler with exactly this header and content: the
    line is trimmed to `kvTrim`, which is no section header and is classified `.kv hdr content` -/
theorem step_kv (st : St) (hdr content : Str) (hf : st.first = false) (hh : HeaderOK hdr) (hc : Trimmed content) :
    step st (kvLine hdr content) = SSAR.kvStep st hdr content := by
  rw [step_of_not_first st _ hf, trimSpace_kvLine hdr content hh hc,
    SSAR.stepL_body st _ (secKind_kvTrim hdr content hh) (kvTrim_ne_nil _ _) hf, classify_kvTrim hdr content hh hc]
  simp only [if_neg (kvTrim_head hdr content hh)]
  split
  · rename_i hu
    unfold SSAR.kvStep
    simp only [hu]
  · rfl

/-- the line the writer emits for an event -/
def dialogueLine (v4plus : Bool) (e : Event) : Str := "Dialogue: ".toList ++ e.row v4plus

theorem dialogueLine_kv (v4plus : Bool) (e : Event) : dialogueLine v4plus e = kvLine "Dialogue".toList (e.row v4plus) := by
  unfold dialogueLine kvLine
  rw [show "Dialogue: ".toList = "Dialogue".toList ++ ": ".toList by decide_vector]

theorem trimmed_event_row (e : Event) (v : Bool) (ht : Trimmed e.text) : Trimmed (e.row v) := by
  have hrow : ∀ c0 : Str, join [','] [c0, Duration.formatSSA e.startAt, Duration.formatSSA e.endAt, e.style, e.name,
      itoa (e.marginL.getD 0), itoa (e.marginR.getD 0), itoa (e.marginV.getD 0), e.effect, e.text]
      = join [','] (c0 :: ([Duration.formatSSA e.startAt, Duration.formatSSA e.endAt, e.style, e.name,
      itoa (e.marginL.getD 0), itoa (e.marginR.getD 0), itoa (e.marginV.getD 0), e.effect] ++ [e.text])) := fun _ => rfl
  unfold Event.row
  rw [hrow]
  apply trimmed_join_sep [','] (cons_ne_nil _ _) (by decide) _ _ _ _ ht.2
  intro x hx
  cases v
  · by_cases hm : e.marked = some true <;> simp only [Bool.false_eq_true, ↓reduceIte, hm] at hx <;>
      (rw [String.toList_ofList] at hx; cases hx; decide)
  · exact (trimmed_itoa _).1 x hx

theorem step_dialogue (st : St) (v4plus : Bool) (e : Event) (hf : st.first = false) (hsec : st.sec = .events)
    (hfmt : st.format = eventFormat v4plus) (he : EventCells e) (ht : Trimmed e.text) :
    step st (dialogueLine v4plus e)
      = .ok { st with events := st.events ++ [e.norm "Dialogue".toList v4plus] } := by
  rw [dialogueLine_kv, step_kv st _ _ hf headerOK_Dialogue (trimmed_event_row e v4plus ht), SSAR.kvStep_events st _ _ hsec]
  unfold eventsLine
  have h1 : ¬ "Dialogue".toList = "Format".toList := by decide_vector
  have h2 : (eventFormat v4plus).isEmpty = false := by cases v4plus <;> rfl
  simp only [h1, ↓reduceIte, hfmt, h2, Bool.false_eq_true, ne_eq, not_true_eq_false, eventRow_row e v4plus _ he]

theorem run_dialogues (v4plus : Bool) : ∀ (es : List Event) (st : St), st.first = false → st.sec = .events →
    st.format = eventFormat v4plus → (∀ e ∈ es, EventCells e ∧ Trimmed e.text) →
    run st (es.map (dialogueLine v4plus))
      = .ok { st with events := st.events ++ es.map (Event.norm "Dialogue".toList v4plus) } := by
  intro es
  induction es with
  | nil => intro st _ _ _ _; simp [run]
  | cons e es ih =>
    intro st hf hsec hfmt h
    obtain ⟨he, ht⟩ := h e (by simp)
    simp only [map_cons, run, step_dialogue st v4plus e hf hsec hfmt he ht]
    have := ih { st with events := st.events ++ [e.norm "Dialogue".toList v4plus] } hf hsec hfmt
      (fun e' he' => h e' (by simp [he']))
    rw [this]
    simp

def formatLine (cols : List Str) : Str := "Format: ".toList ++ join ", ".toList cols

theorem formatLine_kv (cols : List Str) : formatLine cols = kvLine "Format".toList (join ", ".toList cols) := by
  unfold formatLine kvLine
  rw [show "Format: ".toList = "Format".toList ++ ": ".toList by decide_vector]

/-- a column name: not empty, no comma, nothing to trim -/
structure ColOK (c : Str) : Prop where
  ne : c ≠ []
  noComma : ',' ∉ c
  trimmed : Trimmed c

instance (c : Str) : Decidable (ColOK c) :=
  decidable_of_iff (c ≠ [] ∧ ',' ∉ c ∧ Trimmed c) ⟨fun ⟨a, b, d⟩ => ⟨a, b, d⟩, fun ⟨a, b, d⟩ => ⟨a, b, d⟩⟩

theorem join_commaspace (c : Str) (cs : List Str) :
    join ", ".toList (c :: cs) = join [','] (c :: cs.map fun x => ' ' :: x) := by
  have e : ", ".toList = [',', ' '] := by rw [String.toList_ofList]
  rw [e]
  induction cs generalizing c with
  | nil => rfl
  | cons d ds ih =>
    have : join [',', ' '] (c :: d :: ds) = c ++ [',', ' '] ++ join [',', ' '] (d :: ds) := rfl
    rw [this, ih d]
    cases ds with
    | nil => simp [join]
    | cons d' ds' => simp [join]

theorem format_cols (cols : List Str) (hne : cols ≠ []) (h : ∀ c ∈ cols, ColOK c) :
    (splitC ',' (join ", ".toList cols)).map trimSpace = cols ∧ Trimmed (join ", ".toList cols) := by
  cases cols with
  | nil => exact absurd rfl hne
  | cons c cs =>
    have hc := h c (by simp)
    rw [join_commaspace]
    constructor
    · rw [splitC_join (cs := c :: cs.map fun x => ' ' :: x) (by simp) (by
        intro p hp
        rcases mem_cons.mp hp with rfl | hp
        · exact hc.noComma
        · obtain ⟨x, hx, rfl⟩ := mem_map.mp hp
          intro hm
          rcases mem_cons.mp hm with e | hm
          · exact absurd e (by decide)
          · exact (h x (by simp [hx])).noComma hm)]
      rw [map_cons, trimSpace_of_trimmed hc.trimmed, map_map]
      congr 1
      have : ∀ l : List Str, (∀ x ∈ l, ColOK x) → map (trimSpace ∘ fun x => ' ' :: x) l = l := by
        intro l
        induction l with
        | nil => intro _; rfl
        | cons x xs ih =>
          intro hl
          rw [map_cons, ih (fun y hy => hl y (by simp [hy]))]
          simp only [Function.comp, trimSpace_space_cons x (hl x (by simp)).trimmed]
      exact this cs (fun x hx => h x (by simp [hx]))
    · rcases eq_nil_or_concat cs with rfl | ⟨mid, last, rfl⟩
      · simpa [join] using hc.trimmed
      · rw [concat_eq_append, map_append, map_cons, map_nil]
        apply trimmed_join_sep [','] (cons_ne_nil _ _) (by decide) _ _ _ hc.trimmed.1
        intro x hx
        have hl := h last (by simp)
        cases hlast : last with
        | nil => exact absurd hlast hl.ne
        | cons l0 ls =>
          rw [hlast, getLast?_cons_cons] at hx
          rw [hlast] at hl
          exact hl.trimmed.2 x hx

theorem step_nil (st : St) : step st [] = .ok { st with first := false } := by
  unfold step
  cases st.first <;> rfl

theorem step_blank (st : St) (hf : st.first = false) : step st [] = .ok st := by
  rw [step_nil, SSAR.st_first_eta st hf]

theorem step_events_header (st : St) (hf : st.first = false) :
    step st "[Events]".toList = .ok { st with sec := .events, format := [] } := by
  obtain ⟨sec, format, info, styles, events, first⟩ := st
  simp only at hf
  subst hf
  rfl

theorem step_styles_header (st : St) (v4plus : Bool) (hf : st.first = false) :
    step st (if v4plus then "[V4+ Styles]".toList else "[V4 Styles]".toList) = .ok { st with sec := .styles, format := [] } := by
  obtain ⟨sec, format, info, styles, events, first⟩ := st
  simp only at hf
  subst hf
  cases v4plus <;> rfl

theorem step_info_header : step {} "[Script Info]".toList = .ok { sec := .scriptInfo, first := false } := rfl

theorem step_format (st : St) (cols : List Str) (hf : st.first = false) (hsec : st.sec = .events ∨ st.sec = .styles)
    (hfmt : st.format = []) (hne : cols ≠ []) (h : ∀ c ∈ cols, ColOK c) :
    step st (formatLine cols) = .ok { st with format := cols } := by
  obtain ⟨h1, h2⟩ := format_cols cols hne h
  rw [formatLine_kv, step_kv st _ _ hf headerOK_Format h2]
  rcases hsec with hsec | hsec
  · rw [SSAR.kvStep_events st _ _ hsec]
    simp only [eventsLine, ↓reduceIte, h1, hfmt, mergeFormat, drop_nil, append_nil]
  · rw [SSAR.kvStep_styles st _ _ hsec]
    simp only [stylesLine, ↓reduceIte, h1, hfmt, mergeFormat, drop_nil, append_nil]

theorem eventFormat_cols (v : Bool) : eventFormat v ≠ [] ∧ ∀ c ∈ eventFormat v, ColOK c := by
  cases v <;> decide +kernel

theorem col_shape (f : Fld) : ColOK f.col.toList ∧ ∀ x ∈ f.col.toList, isSpace x = false :=
  (by decide +kernel : ∀ f ∈ Fld.all, ColOK f.col.toList ∧ ∀ x ∈ f.col.toList, isSpace x = false) f (C04.fld_all_complete f)

theorem formatOf_cols (fs : List Fld) : formatOf fs ≠ [] ∧ ∀ c ∈ formatOf fs, ColOK c := by
  refine ⟨by simp [formatOf], ?_⟩
  intro c hc
  rcases mem_cons.mp hc with rfl | hc
  · decide
  · obtain ⟨f, _, rfl⟩ := mem_map.mp hc
    exact (col_shape f).1

def styleLine (row : Str) : Str := "Style: ".toList ++ row

theorem styleLine_kv (row : Str) : styleLine row = kvLine "Style".toList row := by
  unfold styleLine kvLine
  rw [show "Style: ".toList = "Style".toList ++ ": ".toList by decide_vector]

def ValTrimmed : Val → Prop
  | .s str => Trimmed str
  | _ => True

instance : (v : Val) → Decidable (ValTrimmed v)
  | .s str => inferInstanceAs (Decidable (Trimmed str))
  | .b _ => isTrue trivial
  | .c _ => isTrue trivial
  | .f _ => isTrue trivial
  | .i _ => isTrue trivial

/-- the name and the font name of the style need no trimming (the reader trims the line) -/
def StyleTrimmed (s : Style) : Prop := Trimmed s.name ∧ ∀ f ∈ Fld.all, ∀ v, s.vals.get f = some v → ValTrimmed v

instance (s : Style) : Decidable (StyleTrimmed s) :=
  inferInstanceAs (Decidable (Trimmed s.name ∧ ∀ f ∈ Fld.all, ∀ v, s.vals.get f = some v → ValTrimmed v))

theorem cell_trimmed (v : Val) (cell : Str) (h : v.ssa = some cell) (hv : ValTrimmed v) : Trimmed cell := by
  rcases cell_noSpace v cell h with rfl | hs
  · exact hv
  · exact trimmed_of_noSpace hs

theorem trimmed_style_row (s : Style) (fs : List Fld) (ht : StyleTrimmed s) (row : Str)
    (hrow : s.row (formatOf fs) = some row) : Trimmed row := by
  obtain ⟨cs, hcs, rfl⟩ := row_some hrow
  rcases eq_nil_or_concat cs with rfl | ⟨mid, last, rfl⟩
  · simpa [join] using ht.1
  · rw [concat_eq_append]
    exact trimmed_join_sep [','] (cons_ne_nil _ _) (by decide) _ _ _ ht.1.1 (cells_forall s trimmed_nil
      (fun f v c hg hc => cell_trimmed v c hc (ht.2 f (C04.fld_all_complete f) v hg)) hcs last (by simp)).2

theorem step_style (st : St) (fs : List Fld) (s : Style) (row : Str) (hf : st.first = false) (hsec : st.sec = .styles)
    (hfmt : st.format = formatOf fs) (hnd : fs.Nodup) (hs : StyleOK s) (ht : StyleTrimmed s)
    (hrow : s.row (formatOf fs) = some row) :
    step st (styleLine row) = .ok { st with styles := st.styles ++ [{ name := s.name, vals := pick s fs }] } := by
  rw [styleLine_kv, step_kv st _ _ hf headerOK_Style (trimmed_style_row s fs ht row hrow), SSAR.kvStep_styles st _ _ hsec]
  unfold stylesLine
  have h1 : ¬ "Style".toList = "Format".toList := by decide_vector
  have h2 : (formatOf fs).isEmpty = false := rfl
  simp only [h1, ↓reduceIte, hfmt, h2, Bool.false_eq_true, ne_eq, not_true_eq_false, styleRow_row s fs hs hnd row hrow]

theorem run_styles (fs : List Fld) (hnd : fs.Nodup) : ∀ (ss : List Style) (rows : List Str) (st : St),
    st.first = false → st.sec = .styles → st.format = formatOf fs →
    (∀ s ∈ ss, StyleOK s ∧ StyleTrimmed s) → allSome (ss.map fun s => s.row (formatOf fs)) = some rows →
    run st (rows.map styleLine)
      = .ok { st with styles := st.styles ++ ss.map fun s => { name := s.name, vals := pick s fs } } := by
  intro ss
  induction ss with
  | nil =>
    intro rows st _ _ _ _ h
    cases h
    simp [run]
  | cons s ss ih =>
    intro rows st hf hsec hfmt h hrows
    obtain ⟨row, rows', hrow, hrest, rfl⟩ := allSome_cons_some hrows
    obtain ⟨hs, ht⟩ := h s (by simp)
    simp only [map_cons, run, step_style st fs s row hf hsec hfmt hnd hs ht hrow]
    rw [ih rows' { st with styles := st.styles ++ [{ name := s.name, vals := pick s fs }] } hf hsec hfmt
      (fun s' hs' => h s' (by simp [hs'])) hrest]
    simp

theorem run_append (a b : List Str) : ∀ st : St, run st (a ++ b) =
    match run st a with
    | .ok st' => run st' b
    | .err => .err
    | .unmodelled => .unmodelled := by
  induction a with
  | nil => intro st; rfl
  | cons l ls ih =>
    intro st
    simp only [cons_append, run]
    cases step st l with
    | ok st' => exact ih st'
    | err => rfl
    | unmodelled => rfl

theorem run_append_ok {a b : List Str} {st st' : St} (h : run st a = .ok st') : run st (a ++ b) = run st' b := by
  rw [run_append, h]

/-- the lines of the styles block (nothing when there is no style) -/
def stylesBlock (v4plus : Bool) (fs : List Fld) (rows : List Str) : List Str :=
  if rows = [] then [] else
  [[], if v4plus then "[V4+ Styles]".toList else "[V4 Styles]".toList, formatLine (formatOf fs)] ++ rows.map styleLine

/-- the lines of the events block -/
def eventsBlock (v4plus : Bool) (es : List Event) : List Str :=
  [[], "[Events]".toList, formatLine (eventFormat v4plus)] ++ es.map (dialogueLine v4plus)

theorem run_stylesBlock (v4plus : Bool) (fs : List Fld) (hnd : fs.Nodup) (ss : List Style) (rows : List Str) (st : St)
    (hf : st.first = false) (h : ∀ s ∈ ss, StyleOK s ∧ StyleTrimmed s)
    (hrows : allSome (ss.map fun s => s.row (formatOf fs)) = some rows) (hne : ss ≠ []) :
    run st (stylesBlock v4plus fs rows)
      = .ok { st with sec := .styles, format := formatOf fs,
                      styles := st.styles ++ ss.map fun s => { name := s.name, vals := pick s fs } } := by
  have hr : rows ≠ [] := by
    obtain ⟨s0, ss0, rfl⟩ := exists_cons_of_ne_nil hne
    obtain ⟨_, _, _, _, rfl⟩ := allSome_cons_some hrows
    exact cons_ne_nil _ _
  unfold stylesBlock
  rw [if_neg hr]
  simp only [cons_append, nil_append, run, step_blank st hf, step_styles_header st v4plus hf]
  rw [step_format { st with sec := .styles, format := [] } (formatOf fs) hf (Or.inr rfl) rfl (formatOf_cols fs).1
    (formatOf_cols fs).2]
  simp only
  rw [run_styles fs hnd ss rows { st with sec := .styles, format := formatOf fs } hf rfl rfl h hrows]

theorem run_eventsBlock (v4plus : Bool) (es : List Event) (st : St) (hf : st.first = false)
    (h : ∀ e ∈ es, EventCells e ∧ Trimmed e.text) :
    run st (eventsBlock v4plus es)
      = .ok { st with sec := .events, format := eventFormat v4plus,
                      events := st.events ++ es.map (Event.norm "Dialogue".toList v4plus) } := by
  unfold eventsBlock
  simp only [cons_append, nil_append, run, step_blank st hf, step_events_header st hf]
  rw [step_format { st with sec := .events, format := [] } (eventFormat v4plus) hf (Or.inl rfl) rfl
    (eventFormat_cols v4plus).1 (eventFormat_cols v4plus).2]
  simp only
  rw [run_dialogues v4plus es { st with sec := .events, format := eventFormat v4plus } hf rfl rfl h]

theorem unlines_append (a b : List Str) : unlines (a ++ b) = unlines a ++ unlines b := by
  simp [unlines]

theorem unlines_cons (a : Str) (b : List Str) : unlines (a :: b) = a ++ '\n' :: unlines b := by
  simp [unlines]

/-- the sorted styles of a cue list as the writer sees them -/
def writerStyles (s : Subs) : List Style := (s.styles.mergeSort fun a b => !strLt b.id a.id).map styleOfDef

def isV4plus (s : Subs) : Bool := kvGet s.metadata "SSAScriptType" = some "v4.00+".toList

/-- `WriteToSSA` after its guards, as a function of the script info, the script type, the sorted styles and the event rows -/
def writeCore (info : Info) (v : Bool) (styles : List Style) (rows : List Str) : Res Str :=
  let format := styles.foldl (fun fmt st => updateFormat st fmt) ["Name".toList]
  let styleBlock : Option Str :=
    if styles.isEmpty then some [] else
    (allSome (styles.map fun st => st.row format)).map fun rs =>
      (if v then "\n[V4+ Styles]\n".toList else "\n[V4 Styles]\n".toList)
        ++ "Format: ".toList ++ join ", ".toList format ++ ['\n']
        ++ unlines (rs.map fun r => "Style: ".toList ++ r)
  let events := "\n[Events]\n".toList ++ "Format: ".toList ++ join ", ".toList (eventFormat v) ++ ['\n']
    ++ unlines (rows.map fun r => "Dialogue: ".toList ++ r)
  match info.bytes, styleBlock with
  | some i, some sb => .ok (i ++ sb ++ events)
  | _, _ => .unmodelled

theorem write_eq (s : Subs) :
    write s = if s.items.isEmpty then .err else
      if s.items.any (fun it => it.startAt < 0 || it.endAt < 0) then .unmodelled else
      writeCore (infoOfMeta s.metadata) (isV4plus s) (writerStyles s) (s.items.map fun it => (eventOfItem it).row (isV4plus s)) := by
  unfold write writeCore isV4plus writerStyles
  simp only [map_map, decide_eq_true_eq]
  rfl

theorem events_text (v : Bool) (evrows : List Str) :
    "\n[Events]\n".toList ++ "Format: ".toList ++ join ", ".toList (eventFormat v) ++ ['\n'] ++
        unlines (evrows.map fun r => "Dialogue: ".toList ++ r)
      = unlines ([[], "[Events]".toList, formatLine (eventFormat v)] ++ evrows.map fun r => "Dialogue: ".toList ++ r) := by
  unfold unlines formatLine
  repeat rw [String.toList_ofList]
  simp [Function.comp_def]

theorem styles_text (v : Bool) (fs : List Fld) (rows : List Str) (hr : rows ≠ []) :
    (if v then "\n[V4+ Styles]\n".toList else "\n[V4 Styles]\n".toList) ++ "Format: ".toList ++
        join ", ".toList (formatOf fs) ++ ['\n'] ++ unlines (map (fun r => "Style: ".toList ++ r) rows)
      = unlines (stylesBlock v fs rows) := by
  unfold stylesBlock unlines formatLine styleLine
  repeat rw [String.toList_ofList]
  cases v <;> simp [hr, Function.comp_def]

/-- **`WriteToSSA` after its guards, in closed form**: what a successful answer looks like and when the writer answers
    are both read off this equation -/
theorem writeCore_closed (info : Info) (v : Bool) (styles : List Style) (evrows : List Str) :
    writeCore info v styles evrows =
      match info.bytes, allSome (styles.map fun st => st.row (formatOf (formatFlds styles))) with
      | some i, some rows =>
        .ok (i ++ unlines (stylesBlock v (formatFlds styles) rows)
               ++ unlines ([[], "[Events]".toList, formatLine (eventFormat v)] ++ evrows.map fun r => "Dialogue: ".toList ++ r))
      | _, _ => .unmodelled := by
  unfold writeCore
  simp only [writer_format, events_text]
  generalize unlines ([[], "[Events]".toList, formatLine (eventFormat v)] ++ evrows.map fun r => "Dialogue: ".toList ++ r) = E
  cases info.bytes with
  | none => rfl
  | some i =>
    cases styles with
    | nil => rfl
    | cons st ss =>
      simp only [isEmpty_cons, Bool.false_eq_true, ↓reduceIte]
      cases hrows : allSome (map (fun s => s.row (formatOf (formatFlds (st :: ss)))) (st :: ss)) with
      | none => rfl
      | some rows =>
        have hr : rows ≠ [] := by
          obtain ⟨_, _, _, _, rfl⟩ := allSome_cons_some hrows
          exact cons_ne_nil _ _
        simp only [Option.map_some]
        rw [styles_text v (formatFlds (st :: ss)) rows hr]

theorem write_ok_lines (s : Subs) (out : Str) (h : write s = .ok out) :
    ∃ infoTxt rows, (infoOfMeta s.metadata).bytes = some infoTxt ∧
      allSome ((writerStyles s).map fun st => st.row (formatOf (formatFlds (writerStyles s)))) = some rows ∧
      out = infoTxt ++ unlines (stylesBlock (isV4plus s) (formatFlds (writerStyles s)) rows)
              ++ unlines (eventsBlock (isV4plus s) (s.items.map eventOfItem)) := by
  rw [write_eq] at h
  split at h
  · cases h
  split at h
  · cases h
  rw [writeCore_closed] at h
  split at h
  · rename_i i rows hi hrows
    cases h
    refine ⟨i, rows, hi, hrows, ?_⟩
    unfold eventsBlock dialogueLine
    simp only [map_map, Function.comp_def]
  · cases h

theorem info_bytes_lines (b : Info) (txt : Str) (h : b.bytes = some txt) :
    ∃ ls, txt = unlines ("[Script Info]".toList :: ls) := by
  unfold Info.bytes at h
  simp only [Option.map_eq_some_iff] at h
  obtain ⟨ls, _, rfl⟩ := h
  exact ⟨_, rfl⟩

-- `Go.splitC_lfLines` is this fact; `Lemmas/Lines` cannot be imported here: in front of Props/C04doc it re-resolves an `example` there
theorem splitC_unlines (ls : List Str) (h : ∀ l ∈ ls, '\n' ∉ l) : splitC '\n' (unlines ls) = ls ++ [[]] := by
  induction ls with
  | nil => rfl
  | cons l ls ih =>
    rw [unlines_cons, splitC_append _ (h l (by simp)), ih (fun x hx => h x (by simp [hx]))]
    rfl

theorem run_body (v4plus : Bool) (fs : List Fld) (hnd : fs.Nodup) (ss : List Style) (rows : List Str) (es : List Event)
    (st : St) (hf : st.first = false) (hs : ∀ s ∈ ss, StyleOK s ∧ StyleTrimmed s)
    (hrows : allSome (ss.map fun s => s.row (formatOf fs)) = some rows)
    (he : ∀ e ∈ es, EventCells e ∧ Trimmed e.text) :
    run st (stylesBlock v4plus fs rows ++ eventsBlock v4plus es)
      = .ok { st with sec := .events, format := eventFormat v4plus,
                      styles := st.styles ++ ss.map (fun s => { name := s.name, vals := pick s fs }),
                      events := st.events ++ es.map (Event.norm "Dialogue".toList v4plus) } := by
  cases ss with
  | nil =>
    cases hrows
    rw [show stylesBlock v4plus fs [] = [] from rfl, nil_append, run_eventsBlock v4plus es st hf he, map_nil, append_nil]
  | cons s ss =>
    rw [run_append_ok (run_stylesBlock v4plus fs hnd (s :: ss) rows st hf hs hrows (cons_ne_nil _ _))]
    exact run_eventsBlock v4plus es _ hf he

end SSA
end Astisub
