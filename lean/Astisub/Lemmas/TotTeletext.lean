import Astisub.Lemmas.TotBase
import Astisub.Model.Teletext

/-!
# Lemmas/TotTeletext — the teletext packet layer with Go's index checks made explicit

Checked variants (monad `Chk`) of `teletextPageBuffer.process`, `parseDataUnit`, `parsePacket`,
`parsePacketHeader`, `parsePacketData`, `parsePacket28And29` (`teletext.go`) and of the two astikit
table look-ups they use, each proved (a) never to panic and (b) to compute what the totalised model
(`Model/Teletext.lean`) computes, for every payload of bytes and every page buffer in which
"receiving" implies "there is a current page" (`BufOk`; established by `newTeletextPageBuffer` and
kept by every function here).  The guards that make (a) true:

* `process`: the empty-payload check before `d.Data[0]` and the loop condition that leaves room for the id
  *and* the length byte (both fix-2 of C06), and the `offsetEnd > len(d.Data)` break;
* `parseDataUnit`: `len(i) < 44` ⇒ skip (fix-2 of C06) — `i[1]`, `i[2]`, `i[3]`, `i[4:]` and, further
  down, `i[0]`…`i[39]` of the packet, `i[1:]` and `i[0]`…`i[2]` of the X/28 – M/29 payload;
* `parsePacket`: `parsePacketData` is only reached while `receiving`, i.e. with a current page.
-/

namespace Astisub
namespace Tot
namespace Teletext
open Astisub.Teletext Generated.Teletext

/-- every element is a byte -/
def Bytes256 (l : List Nat) : Prop := ∀ b ∈ l, b < 256

instance (l : List Nat) : Decidable (Bytes256 l) := by unfold Bytes256; infer_instance

example : Bytes256 [0x10, 3, 44, 255, 0xe4] := by decide

theorem Bytes256.take {l : List Nat} (h : Bytes256 l) (n : Nat) : Bytes256 (l.take n) :=
  fun b hb => h b (List.mem_of_mem_take hb)

theorem Bytes256.drop {l : List Nat} (h : Bytes256 l) (n : Nat) : Bytes256 (l.drop n) :=
  fun b hb => h b (List.mem_of_mem_drop hb)

theorem Bytes256.nth {l : List Nat} (h : Bytes256 l) (k : Nat) : nth l k < 256 := by
  unfold Astisub.Teletext.nth
  by_cases hk : k < l.length
  · rw [List.getD_eq_getElem?_getD, List.getElem?_eq_getElem hk]
    exact h _ (List.getElem_mem hk)
  · rw [List.getD_eq_getElem?_getD, List.getElem?_eq_none (by omega)]
    decide

theorem idx_nth {l : List Nat} {i : Nat} (h : i < l.length) : idx l i = .ok (nth l i) := idx_ok h 0

theorem hamming_len : hamming84Tab.length = 256 := by decide +kernel

theorem parity_len : parityTab.length = 256 := by decide +kernel

/-- `astikit.ByteHamming84Decode`: look-up in a 256-entry table -/
def hammingDecodeC (b : Nat) : Chk (Option Nat) := do
  let v ← idx hamming84Tab b
  pure (if v = 255 then none else some v)

theorem hammingDecodeC_eq {b : Nat} (h : b < 256) : hammingDecodeC b = .ok (hammingDecode b) := by
  unfold hammingDecodeC hammingDecode
  rw [idx_ok (by rw [hamming_len]; exact h) 255]
  rfl

theorem reverse8_lt (b : Nat) : reverse8 b < 256 := by unfold reverse8; omega

/-- `astikit.ByteParity` -/
def byteParityC (b : Nat) : Chk (Nat × Bool) := do
  let ok ← idx parityTab b
  pure (b % 128, ok)

theorem byteParityC_eq {b : Nat} (h : b < 256) : byteParityC b = .ok (byteParity b) := by
  unfold byteParityC byteParity
  rw [idx_ok (by rw [parity_len]; exact h) false]
  rfl

def storeCharC (b : Nat) : Chk Nat := do
  let r ← byteParityC (reverse8 b)
  pure (if r.2 then r.1 else invalidChar)

theorem storeCharC_eq (b : Nat) : storeCharC b = .ok (storeChar b) := by
  unfold storeCharC storeChar
  rw [byteParityC_eq (reverse8_lt b)]
  rfl

def mapC {α β} (f : α → Chk β) : List α → Chk (List β)
  | [] => pure []
  | a :: as => do
    let b ← f a
    let bs ← mapC f as
    pure (b :: bs)

theorem mapC_loop {α β} (f : α → Chk β) : RLoop (fun _ => f) List.cons [] (fun _ => mapC f) :=
  ⟨fun _ => rfl, fun _ _ _ => rfl⟩

theorem mapC_ok {α β} {f : α → Chk β} {g : α → β} {l : List α} (h : ∀ a ∈ l, f a = .ok (g a)) :
    mapC f l = .ok (l.map g) :=
  ((mapC_loop f).unique (Tot.mapC_loop f) l 0).trans (mapC_eq_of_mem l h)

/-- `receiving` is only set together with a current page (`parsePacketHeader`), so the
    `b.currentPage.…` of `parsePacketData` is never a nil dereference -/
def BufOk (b : Buf) : Prop := b.receiving = true → b.current.isSome = true

instance (b : Buf) : Decidable (BufOk b) := by unfold BufOk; infer_instance

theorem newBuf_ok (page : Nat) : BufOk (newBuf page) := by intro h; cases h

theorem BufOk.ite {c : Prop} [Decidable c] {x y : Buf} (hx : BufOk x) (hy : BufOk y) :
    BufOk (if c then x else y) := by
  split <;> assumption

example : BufOk { mag := 8, page := 88, receiving := true, current := some { charsetCode := 0, start := 0 } } := by decide

/-- `parsePacketHeader` (teletext.go): `i[0]`, `i[1]`, `i[5]`, `i[7]`, all evaluated up front -/
def parseHeaderC (b : Buf) (i : List Nat) (mag : Nat) (t : Int) : Chk Buf := do
  let i0 ← idx i 0
  let i1 ← idx i 1
  let i5 ← idx i 5
  let i7 ← idx i 7
  let d0 ← hammingDecodeC i0
  let d1 ← hammingDecodeC i1
  let d5 ← hammingDecodeC i5
  let d7 ← hammingDecodeC i7
  pure (
    match d0, d1 with
    | some units, some tens =>
      if tens = 15 && units = 15 then b else
      let pn : Option Nat := if tens > 9 || units > 9 then none else some (tens * 10 + units)
      let auto : Option Buf :=
        if b.mag = 0 && b.page = 0 then
          match d5 with
          | none => none
          | some cb =>
            match pn with
            | some p => if cb &&& 8 > 0 then some { b with mag := mag, page := p } else some b
            | none => some b
        else some b
      match auto with
      | none => b
      | some b =>
        match d7 with
        | none => b
        | some cb =>
          let serial := cb &&& 1 > 0
          let code := cb >>> 1
          let other := pn != some b.page
          if b.receiving && ((serial && (other || mag != b.mag)) || (!serial && other && mag = b.mag)) then { b with receiving := false }
          else if other || mag != b.mag then b
          else
            let done := match b.current with
              | some p => b.done ++ [{ p with end_ := t }]
              | none => b.done
            { b with done := done, receiving := true, current := some { charsetCode := code, start := t } }
    | _, _ => b)

theorem parseHeaderC_eq (b : Buf) (i : List Nat) (mag : Nat) (t : Int) (hi : Bytes256 i) (hl : 8 ≤ i.length) :
    parseHeaderC b i mag t = .ok (parseHeader b i mag t) := by
  unfold parseHeaderC
  iterate 4 rw [bind_eq_of_ok (idx_nth (by omega))]
  iterate 4 rw [bind_eq_of_ok (hammingDecodeC_eq (hi.nth _))]
  rfl

theorem parseHeader_ok (b : Buf) (i : List Nat) (mag : Nat) (t : Int) (hb : BufOk b) :
    BufOk (parseHeader b i mag t) := by
  unfold parseHeader
  split
  · refine .ite hb ?_
    simp only
    split
    · exact hb
    · rename_i b' hauto
      -- the magazine / page auto-detection answers the buffer itself or the buffer with two other fields
      have hb' : BufOk b' := by
        split at hauto
        · split at hauto
          · cases hauto
          · split at hauto
            · split at hauto <;> (cases hauto; exact hb)
            · cases hauto; exact hb
        · cases hauto; exact hb
      split
      · exact hb'
      · exact .ite nofun (.ite hb' fun _ => rfl)
  · exact hb

/-- `parsePacketData` (teletext.go): `b.currentPage` dereferenced, `i[0]` … `i[39]` -/
def parseDataC (b : Buf) (i : List Nat) (y : Nat) : Chk Buf := do
  let p ← deref b.current
  let row ← mapC (fun k => do let x ← idx i k; storeCharC x) (List.range 40)
  pure { b with current := some { p with data := setData p.data y row, rows := p.rows ++ [y] } }

theorem parseDataC_eq (b : Buf) (i : List Nat) (y : Nat) (hc : b.current.isSome = true) (hl : 40 ≤ i.length) :
    parseDataC b i y = .ok (parseData b i y) := by
  unfold parseDataC parseData
  cases hcur : b.current with
  | none => rw [hcur] at hc; cases hc
  | some p =>
    have : mapC (fun k => do let x ← idx i k; storeCharC x) (List.range 40)
        = .ok ((List.range 40).map fun k => storeChar (nth i k)) := by
      apply mapC_ok
      intro k hk
      have hk' : k < 40 := List.mem_range.mp hk
      rw [idx_nth (by omega)]
      exact storeCharC_eq _
    simp only [deref, ok_bind, this, pure_eq]

theorem parseData_ok (b : Buf) (i : List Nat) (y : Nat) (hb : BufOk b) : BufOk (parseData b i y) := by
  unfold parseData
  split
  · exact hb
  · intro _; rfl

/-- `parsePacket28And29` (teletext.go): `i[2]`, `i[1]`, `i[0]` (after the designation code check) -/
def parse2829C (b : Buf) (i : List Nat) (y dc : Nat) : Chk Buf :=
  if dc != 0 && dc != 4 then pure b else do
  let i2 ← idx i 2
  let i1 ← idx i 1
  let i0 ← idx i 0
  let t := i2 * 65536 + i1 * 256 + i0
  pure (if y = 28 && t &&& 0xf > 0 then b
        else if y = 28 then { b with x28 := some t } else { b with m29 := some t })

theorem parse2829C_eq (b : Buf) (i : List Nat) (y dc : Nat) (hl : 3 ≤ i.length) :
    parse2829C b i y dc = .ok (parse2829 b i y dc) := by
  refine ite_ok (fun _ => rfl) fun _ => ?_
  simp (disch := omega) only [↓ bind_eq_of_ok (idx_nth _)]
  rfl

theorem parse2829_ok (b : Buf) (i : List Nat) (y dc : Nat) (hb : BufOk b) : BufOk (parse2829 b i y dc) :=
  .ite hb (.ite hb (.ite hb hb))

/-- `parsePacket` (teletext.go): dispatch on the packet number; `i[0]` for the designation code,
    `i[1:]` for the X/28 – M/29 payload -/
def parsePacketC (b : Buf) (i : List Nat) (mag y : Nat) (t : Int) : Chk Buf :=
  if y = 0 then parseHeaderC b i mag t
  else if b.receiving && mag = b.mag && 1 ≤ y && y ≤ 25 then parseDataC b i y
  else do
    let i0 ← idx i 0
    let d ← hammingDecodeC i0
    match d with
    | none => pure b
    | some dc =>
      if b.receiving && mag = b.mag && y = 26 then pure b
      else if b.receiving && mag = b.mag && y = 28 then do
        let tl ← slcFrom i 1
        parse2829C b tl y dc
      else if mag = b.mag && y = 29 then do
        let tl ← slcFrom i 1
        parse2829C b tl y dc
      else pure b

theorem parsePacketC_eq (b : Buf) (i : List Nat) (mag y : Nat) (t : Int) (hb : BufOk b) (hi : Bytes256 i)
    (hl : 40 ≤ i.length) : parsePacketC b i mag y t = .ok (parsePacket b i mag y t) := by
  refine ite_ok (fun _ => parseHeaderC_eq b i mag t hi (by omega)) fun _ => ite_ok (fun hrecv => ?_) fun _ => ?_
  · simp only [Bool.and_eq_true] at hrecv
    exact parseDataC_eq b i y (hb hrecv.1.1.1) hl
  · simp (disch := omega) only [↓ bind_eq_of_ok (idx_nth _), ↓ bind_eq_of_ok (hammingDecodeC_eq (hi.nth _))]
    cases hammingDecode (nth i 0) with
    | none => rfl
    | some dc =>
      have h2829 : (slcFrom i 1 >>= fun tl => parse2829C b tl y dc) = .ok (parse2829 b (i.drop 1) y dc) := by
        rw [slcFrom_ok (by omega)]
        exact parse2829C_eq _ _ _ _ (by rw [List.length_drop]; omega)
      exact ite_ok (fun _ => rfl) fun _ => ite_ok (fun _ => h2829) fun _ => ite_ok (fun _ => h2829) fun _ => rfl

theorem parsePacket_ok (b : Buf) (i : List Nat) (mag y : Nat) (t : Int) (hb : BufOk b) :
    BufOk (parsePacket b i mag y t) := by
  refine .ite (parseHeader_ok _ _ _ _ hb) (.ite (parseData_ok _ _ _ hb) ?_)
  cases hammingDecode (nth i 0) with
  | none => exact hb
  | some dc => exact .ite hb (.ite (parse2829_ok _ _ _ _ hb) (.ite (parse2829_ok _ _ _ _ hb) hb))

/-- `parseDataUnit` (teletext.go; fix-2: a unit shorter than 44 bytes is skipped): `i[1]`, `i[2]`, `i[3]`, `i[4:]` -/
def parseDataUnitC (b : Buf) (i : List Nat) (id : Nat) (t : Int) : Chk Buf :=
  if id != 3 then pure b
  else if i.length < 44 then pure b
  else do
    let fc ← idx i 1
    if fc != 0xe4 then pure b else do
    let i2 ← idx i 2
    let i3 ← idx i 3
    let d2 ← hammingDecodeC i2
    let d3 ← hammingDecodeC i3
    match d2, d3 with
    | some h1, some h2 => do
      let h := (h2 * 16 ||| h1) % 256
      let mag := if h &&& 7 = 0 then 8 else h &&& 7
      let pk ← slcFrom i 4
      parsePacketC b pk mag (h >>> 3) t
    | _, _ => pure b

theorem parseDataUnitC_eq (b : Buf) (i : List Nat) (id : Nat) (t : Int) (hb : BufOk b) (hi : Bytes256 i) :
    parseDataUnitC b i id t = .ok (parseDataUnit b i id t) := by
  refine ite_ok (fun _ => rfl) fun _ => ite_ok (fun _ => rfl) fun hlen => ?_
  rw [bind_eq_of_ok (idx_nth (by omega))]
  refine ite_ok (fun _ => rfl) fun _ => ?_
  simp (disch := omega) only [↓ bind_eq_of_ok (idx_nth _), ↓ bind_eq_of_ok (hammingDecodeC_eq (hi.nth _))]
  cases hammingDecode (nth i 2); · rfl
  cases hammingDecode (nth i 3); · rfl
  simp only
  rw [slcFrom_ok (by omega)]
  exact parsePacketC_eq _ _ _ _ _ hb (hi.drop 4) (by rw [List.length_drop]; omega)

theorem parseDataUnit_ok (b : Buf) (i : List Nat) (id : Nat) (t : Int) (hb : BufOk b) :
    BufOk (parseDataUnit b i id t) := by
  refine .ite hb (.ite hb (.ite hb ?_))
  split
  · exact parsePacket_ok _ _ _ _ _ hb
  · exact hb

/-- a data unit of type 3 with the framing code but fewer than 44 bytes makes the unguarded code
    panic: without fix-2 `parseDataUnit` is not total (here: a 3-byte unit, `i[3]` out of range) -/
example : idx [0x02, 0xe4, 0x15] 3 = .error .index := rfl

/-- the loop `for offset+1 < len(d.Data)` of `teletextPageBuffer.process` (teletext.go):
    `d.Data[offset]` (id), `d.Data[offset+1]` (length), `offsetEnd > len(d.Data)` ⇒ break,
    `d.Data[offset+2 : offsetEnd]` -/
def unitLoopC : Nat → Buf → List Nat → Nat → Int → Chk Buf
  | 0, b, _, _, _ => pure b
  | fuel + 1, b, data, off, t =>
    if off + 1 < data.length then do
      let id ← idx data off
      let len ← idx data (off + 1)
      let offEnd := off + 2 + len
      if offEnd > data.length then pure b
      else do
        let u ← slc data (off + 2) offEnd
        let b' ← parseDataUnitC b u id t
        unitLoopC fuel b' data offEnd t
    else pure b

theorem unitLoopC_eq (data : List Nat) (t : Int) (hd : Bytes256 data) :
    ∀ (fuel : Nat) (b : Buf) (off : Nat), BufOk b →
      unitLoopC fuel b data off t = .ok (unitLoop fuel b (data.drop off) t) := by
  intro fuel
  induction fuel with
  | zero => intro b off _; cases h : data.drop off <;> rfl
  | succ fuel ih =>
    intro b off hb
    unfold unitLoopC
    by_cases h : off + 1 < data.length
    · rw [if_pos h]
      have e1 : data.drop off = nth data off :: nth data (off + 1) :: data.drop (off + 2) := by
        rw [List.drop_eq_getElem_cons (by omega : off < data.length),
            List.drop_eq_getElem_cons (by omega : off + 1 < data.length)]
        simp [Astisub.Teletext.nth, h, Nat.lt_of_succ_lt h]
      rw [e1]
      simp (disch := omega) only [idx_nth, ok_bind]
      unfold unitLoop
      have hlen : (data.drop (off + 2)).length = data.length - (off + 2) := List.length_drop
      by_cases hbr : off + 2 + nth data (off + 1) > data.length
      · rw [if_pos hbr, if_pos (by rw [hlen]; omega)]; rfl
      · rw [if_neg hbr, if_neg (by rw [hlen]; omega)]
        rw [slc_ok (by omega) (by omega), Nat.add_sub_cancel_left, ok_bind,
          parseDataUnitC_eq b _ _ t hb ((hd.drop _).take _), ok_bind,
          ih _ _ (parseDataUnit_ok _ _ _ _ hb), List.drop_drop]
    · rw [if_neg h]
      have hl : (data.drop off).length ≤ 1 := by rw [List.length_drop]; omega
      match data.drop off, hl with
      | [], _ => rfl
      | [_], _ => rfl

theorem unitLoop_ok (t : Int) : ∀ (fuel : Nat) (b : Buf) (l : List Nat), BufOk b → BufOk (unitLoop fuel b l t)
  | fuel + 1, b, id :: len :: rest, hb => by
    unfold unitLoop
    exact .ite hb (unitLoop_ok t fuel _ _ (parseDataUnit_ok _ _ _ _ hb))
  | 0, _, _, hb | _ + 1, _, [], hb | _ + 1, _, [_], hb => by
    unfold unitLoop
    exact hb

/-- `teletextPageBuffer.process` (teletext.go): empty payload ⇒ return (guard), `d.Data[0]`, the loop -/
def processC (b : Buf) (data : List Nat) (t : Int) : Chk (Buf × List Page) :=
  if data.isEmpty then pure (b, []) else do
  let ident ← idx data 0
  if !(0x10 ≤ ident && ident ≤ 0x1f) then pure (b, []) else do
  let b' ← unitLoopC (data.length - 1) b data 1 t
  pure ({ b' with done := [] }, b'.done)

theorem processC_eq (b : Buf) (data : List Nat) (t : Int) (hb : BufOk b) (hd : Bytes256 data) :
    processC b data t = .ok (process b data t) := by
  unfold processC process
  cases data with
  | nil => rfl
  | cons ident rest =>
    simp only [List.isEmpty_cons, Bool.false_eq_true, if_false, idx, List.getElem?_cons_zero, ok_bind]
    refine ite_ok (fun _ => rfl) fun _ => ?_
    rw [unitLoopC_eq _ t hd _ _ _ hb]
    rfl

theorem process_ok (b : Buf) (data : List Nat) (t : Int) (hb : BufOk b) : BufOk (process b data t).1 := by
  unfold process
  split
  · exact hb
  · split
    · exact hb
    · exact unitLoop_ok t _ _ _ hb

end Teletext
end Tot
end Astisub
