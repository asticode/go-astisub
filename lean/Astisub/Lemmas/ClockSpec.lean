import Astisub.Lemmas.Clock
import Astisub.Lemmas.Digits

/-!
# Lemmas/ClockSpec — clock texts as the independent decoders read them

The SubRip and WebVTT decoders read the clock part of a time as `(splitC ':' x).map natOf` (`Spec.VTT.natOf`,
`Spec.SSA.natOf` and `Spec.TTML.num?` are the same function): that list is `[some H, some M, some S]`, or
`[some M, some S]` with `H = 0`, exactly when `HMS x H M S`.  Both directions are used: a decoder that accepts gives a
clock text for the reader model, and a written clock text is accepted by the decoder.  It is a file of its own because
`Props/C16` imports `Lemmas/Clock`, which therefore stays free of the specifications.
-/

namespace Astisub
namespace Clock
open Go List

variable {x : Str} {H M S : Nat}

theorem HMS.map_natOf (hx : HMS x H M S) :
    (splitC ':' x).map Spec.SRT.natOf = [some H, some M, some S] ∨
    (H = 0 ∧ (splitC ':' x).map Spec.SRT.natOf = [some M, some S]) := by
  rcases hx.fields with ⟨h, m, s, e, a, b, c⟩ | ⟨m, s, e, rfl, b, c⟩
  · exact .inl (by rw [e, map_cons, map_cons, map_cons, map_nil, a.natOf, b.natOf, c.natOf])
  · exact .inr ⟨rfl, by rw [e, map_cons, map_cons, map_nil, b.natOf, c.natOf]⟩

theorem HMS.of_map3 (h : (splitC ':' x).map Spec.SRT.natOf = [some H, some M, some S]) : HMS x H M S := by
  obtain ⟨a, b, c, hs, ha, hb, hc⟩ := map3_inv h
  exact .of_split3 hs (Spec.SRT.natOf_iff_numeral.mp ha) (Spec.SRT.natOf_iff_numeral.mp hb) (Spec.SRT.natOf_iff_numeral.mp hc)

theorem HMS.of_map2 (h : (splitC ':' x).map Spec.SRT.natOf = [some M, some S]) : HMS x 0 M S := by
  obtain ⟨b, c, hs, hb, hc⟩ := map2_inv h
  exact .of_split2 hs (Spec.SRT.natOf_iff_numeral.mp hb) (Spec.SRT.natOf_iff_numeral.mp hc)

end Clock
end Astisub
