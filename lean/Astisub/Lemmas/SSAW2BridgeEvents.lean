import Astisub.Lemmas.SSAW2Denote

/-!
# Lemmas/SSAW2BridgeEvents — the denotation of the cues, through the writer's typed events (C04, W2)
-/

namespace Astisub
namespace SSAW
open Go SSA SSAR List
open Spec.SSA (GVal GStyle GRun GEvent GDoc REvent)

theorem contains_styleIds (s : Subs) (n : Str) : (styleIds s).contains n = (s.styles.map (·.id)).contains n := by
  rw [Bool.eq_iff_iff]
  simp only [contains_iff_mem]
  exact (styleIds_perm s).mem_iff

theorem denote_names_star (s : Subs) (want : GDoc) (hd : Spec.SSA.denote s = some want) :
    ∀ n ∈ styleIds s, n.head? ≠ some '*' := by
  have hst := (denote_ok hd).styles
  intro n hn
  rw [(styleIds_perm s).mem_iff, mem_map] at hn
  obtain ⟨d, hd', rfl⟩ := hn
  have := hst d hd'
  unfold styleOkB at this
  simp only [Bool.and_eq_true, decide_eq_true_eq] at this
  exact this.1.1.2

theorem eventOfItem_text (it : CItem) :
    (eventOfItem it).text = join "\\n".toList ((itemRuns it).map SSA.lineStr) := by
  unfold eventOfItem itemRuns
  simp only [map_map]
  congr 1
  apply map_congr_left
  intro l _
  simp only [Function.comp, SSA.lineStr, map_map]
  rfl

/-- the run of a `LineItem` -/
def runOf (li : LItem) : Run := (SSA.kvGet li.attrs "SSAEffect", li.text)

theorem hasBreak_noPair : ∀ w : Str, Spec.SSA.hasBreak w = false →
    noPair '\\' 'n' w = true ∧ noPair '\\' 'N' w = true
  | [], _ => ⟨rfl, rfl⟩
  | c :: cs, h => by
    have ih : Spec.SSA.hasBreak cs = false := by
      unfold Spec.SSA.hasBreak at h
      split at h
      · cases h
      · cases h
      · rename_i heq; injection heq with _ h2; subst h2; exact h
      · rename_i heq; cases heq
    obtain ⟨i1, i2⟩ := hasBreak_noPair cs ih
    simp only [noPair, Bool.and_eq_true, Bool.not_eq_true', i1, i2, and_true]
    by_cases hc : c = '\\'
    · subst hc
      cases cs with
      | nil => simp
      | cons d ds =>
        by_cases h1 : d = 'n'
        · subst h1; simp [Spec.SSA.hasBreak] at h
        · by_cases h2 : d = 'N'
          · subst h2; simp [Spec.SSA.hasBreak] at h
          · simp [h1, h2]
    · simp [hc]

theorem cleanText_noBrace (t : Str) (h : Spec.SSA.cleanText t = true) : NoBrace t := by
  unfold Spec.SSA.cleanText at h
  simp only [Bool.and_eq_true, Bool.not_eq_true', any_eq_false, Bool.or_eq_true, decide_eq_true_eq, not_or] at h
  constructor
  · intro hm; exact (h.1.1 _ hm).1.1.1 rfl
  · intro hm; exact (h.1.1 _ hm).1.1.2 rfl

theorem wellFormedBlock_isBlock (e : Str) (h : Spec.SSA.wellFormedBlock e = true) : IsBlock e := by
  unfold Spec.SSA.wellFormedBlock at h
  split at h
  · rename_i rest
    simp only [Bool.and_eq_true, decide_eq_true_eq, Bool.not_eq_true', any_eq_false, Bool.or_eq_true, not_or,
      isEmpty_eq_false_iff] at h
    obtain ⟨⟨h1, h2⟩, h3⟩ := h
    have hr : rest.dropLast ++ ['}'] = rest := by
      have hne : rest ≠ [] := by intro e; subst e; cases h1
      have h4 := dropLast_concat_getLast hne
      rw [getLast?_eq_some_getLast hne] at h1
      injection h1 with h1
      rw [h1] at h4
      exact h4
    have hb : blockInner ('{' :: rest) = rest.dropLast := rfl
    refine ⟨?_, ?_, ?_, ?_⟩
    · rw [hb, cons_append, hr]
    · rw [hb]; exact h2
    · rw [hb]; intro hm; exact (h3 _ hm).1 rfl
    · rw [hb]; intro hm; exact (h3 _ hm).2 rfl
  · cases h

/-- the clause of `repLine` on one `LineItem` at position `k` of a line of `n` items -/
def itemClause (n : Nat) (p : LItem × Nat) : Bool :=
  Spec.SSA.cleanText p.1.text &&
    match Spec.SSA.kvGet p.1.attrs "SSAEffect" with
    | some e => Spec.SSA.wellFormedBlock e
    | none => p.2 = 0 && (!p.1.text.isEmpty || n = 1)

theorem repLine_eq (l : Line) :
    Spec.SSA.repLine l =
      (!l.items.isEmpty && trimSpace (lineWhole l) = lineWhole l && l.items.zipIdx.all (itemClause l.items.length)) := rfl

theorem blockRun_of_clause (n : Nat) (li : LItem) (k : Nat) (hk : k ≠ 0) (h : itemClause n (li, k) = true) :
    BlockRun (runOf li) := by
  unfold itemClause at h
  simp only [Bool.and_eq_true] at h
  obtain ⟨h1, h2⟩ := h
  rw [spec_kvGet_eq] at h2
  unfold runOf
  cases he : SSA.kvGet li.attrs "SSAEffect" with
  | none => rw [he] at h2; simp [hk] at h2
  | some e =>
    rw [he] at h2
    exact ⟨wellFormedBlock_isBlock e h2, cleanText_noBrace _ h1⟩

theorem blockRuns_of_clause (n : Nat) : ∀ (items : List LItem) (k : Nat), k ≠ 0 →
    (items.zipIdx k).all (itemClause n) = true → ∀ r ∈ items.map runOf, BlockRun r
  | [], _, _, _ => by intro r hr; cases hr
  | li :: rest, k, hk, h => by
    simp only [zipIdx_cons, all_cons, Bool.and_eq_true] at h
    intro r hr
    simp only [map_cons, mem_cons] at hr
    rcases hr with rfl | hr
    · exact blockRun_of_clause n li k hk h.1
    · exact blockRuns_of_clause n rest (k + 1) (by omega) h.2 r hr

theorem goodLine_of_repLine (l : Line) (h : Spec.SSA.repLine l = true) : GoodLine (l.items.map runOf) := by
  rw [repLine_eq] at h
  simp only [Bool.and_eq_true] at h
  obtain ⟨⟨h0, _⟩, h2⟩ := h
  cases hi : l.items with
  | nil => rw [hi] at h0; simp at h0
  | cons li rest =>
    rw [hi] at h2
    simp only [zipIdx_cons, all_cons, Bool.and_eq_true, Nat.zero_add] at h2
    obtain ⟨hli, hrest⟩ := h2
    have hbr := blockRuns_of_clause _ rest 1 (by omega) hrest
    have hli' := hli
    unfold itemClause at hli
    simp only [Bool.and_eq_true] at hli
    obtain ⟨hc, he⟩ := hli
    rw [spec_kvGet_eq] at he
    have hnb := cleanText_noBrace _ hc
    rw [map_cons]
    cases hk : SSA.kvGet li.attrs "SSAEffect" with
    | some e =>
      rw [hk] at he
      have hb : BlockRun (runOf li) := by
        unfold runOf; rw [hk]; exact ⟨wellFormedBlock_isBlock e he, hnb⟩
      have hr : runOf li = (some e, li.text) := by unfold runOf; rw [hk]
      rw [hr] at hb ⊢
      show ∀ r ∈ (some e, li.text) :: map runOf rest, BlockRun r
      intro r hr
      rcases mem_cons.mp hr with rfl | hr
      · exact hb
      · exact hbr r hr
    | none =>
      rw [hk] at he
      have hr : runOf li = (none, li.text) := by unfold runOf; rw [hk]
      rw [hr]
      cases rest with
      | nil => exact hnb
      | cons r2 rs =>
        simp at he
        have : li.text ≠ [] := he
        exact ⟨this, hnb, hbr⟩

theorem itemRuns_eq (it : CItem) : itemRuns it = it.lines.map fun l => l.items.map runOf := rfl

theorem lineStr_runs (l : Line) : SSA.lineStr (l.items.map runOf) = lineWhole l := by
  unfold SSA.lineStr lineWhole
  rw [map_map]
  rfl

theorem lineOK_of_repLine (l : Line) (h : Spec.SSA.repLine l = true) (hb : Spec.SSA.hasBreak (lineWhole l) = false) :
    LineOK (SSA.lineStr (l.items.map runOf)) := by
  rw [lineStr_runs]
  rw [repLine_eq] at h
  simp only [Bool.and_eq_true, decide_eq_true_eq] at h
  obtain ⟨h1, h2⟩ := hasBreak_noPair _ hb
  refine ⟨h1, h2, ?_⟩
  rw [← h.1.2]
  exact trimmed_trimSpace _

theorem denote_item_lines (s : Subs) (want : GDoc) (hd : Spec.SSA.denote s = some want) (hx : Extra s want) :
    ∀ it ∈ s.items, itemRuns it ≠ [] ∧ ∀ l ∈ itemRuns it, GoodLine l ∧ LineOK (SSA.lineStr l) := by
  have hit := (denote_ok hd).items
  intro it hmem
  have ok := itemOkB_facts (hit it hmem)
  rw [itemRuns_eq]
  refine ⟨by simpa using ok.lines_ne, ?_⟩
  intro r hr
  rw [mem_map] at hr
  obtain ⟨l, hl, rfl⟩ := hr
  exact ⟨goodLine_of_repLine l (ok.lines l hl).2, lineOK_of_repLine l (ok.lines l hl).2 (hx.breaks it hmem l hl)⟩

/-- an integer attribute: what `denote` reads (unbounded) is what `newSSAEventFromItem` reads when it fits 64 bits -/
theorem optInt_getD (a : Attrs) (k : String) (o : Option Int) (h : Spec.SSA.optInt a k = some o)
    (h64 : In64 (o.getD 0) = true) : ((SSA.kvGet a k).map atoiLoose).getD 0 = o.getD 0 := by
  unfold Spec.SSA.optInt at h
  rw [spec_kvGet_eq] at h
  cases hk : SSA.kvGet a k with
  | none => rw [hk] at h; injection h with h; subst h; rfl
  | some str =>
    rw [hk] at h
    simp only at h
    cases hi : Spec.SSA.intOf str with
    | none => rw [hi] at h; cases h
    | some v =>
      rw [hi] at h
      simp only [Option.map_some, Option.some.injEq] at h
      subst h
      simp only [Option.getD_some] at h64 ⊢
      simp only [Option.map_some, Option.getD_some]
      exact atoiLoose_of_intOf hi h64

theorem bridge_styleRef (s : Subs) (it : CItem) (hok : itemOkB (s.styles.map (·.id)) it = true) (href : it.style ≠ some []) :
    it.style.bind (fun id => if (s.styles.map (·.id)).contains id then some id else none)
      = Spec.SSA.resolve (styleIds s) (eventOfItem it).style := by
  have e : (eventOfItem it).style = it.style.getD [] := rfl
  rw [e]
  cases hs : it.style with
  | none => rfl
  | some id =>
    have hc := ((itemOkB_facts hok).style id hs).2.2
    have hne : id ≠ [] := by intro e; subst e; exact href hs
    have hemp : id.isEmpty = false := by cases id with | nil => exact absurd rfl hne | cons _ _ => rfl
    simp only [Option.bind_some, hc, ↓reduceIte, Option.getD_some]
    unfold Spec.SSA.resolve
    rw [hemp, contains_styleIds, hc]
    rfl

theorem bridge_marked (it : CItem) :
    (Spec.SSA.kvGet it.attrs "SSAMarked" == some "true".toList) = decide ((eventOfItem it).marked = some true) := by
  have e : (eventOfItem it).marked = (SSA.kvGet it.attrs "SSAMarked").map fun s => decide (s = "true".toList) := rfl
  rw [e, spec_kvGet_eq]
  generalize "true".toList = t
  cases SSA.kvGet it.attrs "SSAMarked" with
  | none => rfl
  | some v =>
    by_cases hv : v = t
    · subst hv; simp
    · simp [hv]

theorem bridge_lines (it : CItem) :
    (it.lines.map fun l => l.items.map fun li => ({ effect := Spec.SSA.kvGet li.attrs "SSAEffect", text := li.text } : GRun))
      = itemLinesG it := by
  unfold itemLinesG itemRuns
  simp only [map_map]
  apply map_congr_left
  intro l _
  simp only [Function.comp, map_map]
  rfl

theorem bridge_event (s : Subs) (it : CItem) (ge : GEvent)
    (hok : itemOkB (s.styles.map (·.id)) it = true)
    (hde : Spec.SSA.denoteEvent (isV4plus s) (s.styles.map (·.id)) it = some ge)
    (h64 : event64 ge = true) (href : it.style ≠ some []) :
    ge = eventG (isV4plus s) (styleIds s) it := by
  unfold Spec.SSA.denoteEvent at hde
  cases hl : Spec.SSA.optInt it.attrs "SSALayer" with
  | none => rw [hl] at hde; cases hde
  | some layer =>
  cases hml : Spec.SSA.optInt it.attrs "SSAMarginLeft" with
  | none => rw [hl, hml] at hde; cases hde
  | some ml =>
  cases hmr : Spec.SSA.optInt it.attrs "SSAMarginRight" with
  | none => rw [hl, hml, hmr] at hde; cases hde
  | some mr =>
  cases hmv : Spec.SSA.optInt it.attrs "SSAMarginVertical" with
  | none => rw [hl, hml, hmr, hmv] at hde; cases hde
  | some mv =>
  rw [hl, hml, hmr, hmv] at hde
  simp only [Option.some.injEq] at hde
  subst hde
  unfold event64 at h64
  simp only [Bool.and_eq_true] at h64
  obtain ⟨⟨⟨⟨⟨g1, g2⟩, g3⟩, g4⟩, _⟩, _⟩ := h64
  have eL : (eventOfItem it).marginL.getD 0 = ml.getD 0 := optInt_getD _ _ _ hml g2
  have eR : (eventOfItem it).marginR.getD 0 = mr.getD 0 := optInt_getD _ _ _ hmr g3
  have eV : (eventOfItem it).marginV.getD 0 = mv.getD 0 := optInt_getD _ _ _ hmv g4
  unfold eventG eventR
  simp only [eL, eR, eV, bridge_styleRef s it hok href, bridge_marked, bridge_lines]
  cases hv : isV4plus s with
  | false => rfl
  | true =>
    rw [hv] at g1
    have eY : (eventOfItem it).layer.getD 0 = layer.getD 0 := optInt_getD _ _ _ hl g1
    simp only [eY]
    rfl

theorem bridge_events (s : Subs) (evs : List GEvent)
    (hok : ∀ it ∈ s.items, itemOkB (s.styles.map (·.id)) it = true)
    (hde : Spec.SSA.mapM (Spec.SSA.denoteEvent (isV4plus s) (s.styles.map (·.id))) s.items = some evs)
    (h64 : ∀ g ∈ evs, event64 g = true) (href : ∀ it ∈ s.items, it.style ≠ some []) :
    evs = s.items.map (eventG (isV4plus s) (styleIds s)) :=
  mapM_eq_map _ _ (fun g => event64 g = true) s.items evs hde h64 fun it hit ge h1 hg =>
    bridge_event s it ge (hok it hit) h1 hg (href it hit)

end SSAW
end Astisub
