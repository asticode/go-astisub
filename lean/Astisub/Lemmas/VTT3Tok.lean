import Astisub.Lemmas.VTT3Defs
import Astisub.Lemmas.VTTInlineTs

/-!
# Lemmas/VTT3Tok — blank text, and the reader's flush of a text token

"Blank before decoding = blank after decoding" for text without `&nbsp;` (`blank_unescape`, `unescape_of_blank`), and
what `VTT.flushSt` does with a pending text token `rawTok pre segs` of the decoder's class (`flushSt_rawTok`: the fold
`tokAct` of `Lemmas/VTTInlineTs`).
-/

namespace Astisub
namespace VTTRead
open Go Spec.VTT List
open SRT (unescapeHTML)

theorem noNbsp_tail {c : Char} {cs : Str} (h : noNbsp (c :: cs) = true) : noNbsp cs = true := by
  rw [noNbsp_cons] at h
  simp only [Bool.and_eq_true] at h
  exact h.2

theorem noNbsp_drop : ∀ (a b : Str), noNbsp (a ++ b) = true → noNbsp b = true := by
  intro a
  induction a with
  | nil => intro b h; exact h
  | cons c a ih => intro b h; exact ih b (noNbsp_tail h)

theorem nbsp_noLt : ∀ c ∈ "&nbsp;".toList, c ≠ '<' := by decide

theorem noNbsp_take : ∀ (x r : Str), RestLt r → noNbsp (x ++ r) = true → noNbsp x = true := by
  intro x
  induction x with
  | nil => intro _ _ _; rfl
  | cons c x ih =>
    intro r hr h
    rw [List.cons_append, noNbsp_cons] at h
    simp only [Bool.and_eq_true] at h
    rw [noNbsp_cons]
    have := hasPrefix_app "&nbsp;".toList nbsp_noLt r hr (c :: x)
    rw [List.cons_append] at this
    rw [← this, h.1, ih r hr h.2]
    rfl

theorem space_amp : isSpace '&' = false := by decide
theorem space_lt : isSpace '<' = false := by decide

theorem unescape_blank : ∀ (x : Str), noNbsp x = true →
    ((∀ c ∈ unescapeHTML x, isSpace c = true) ↔ (∀ c ∈ x, isSpace c = true)) := by
  intro x
  induction x with
  | nil => intro _; rw [unescape_nil]
  | cons c x0 ih =>
    intro hn
    by_cases hc : c = '&'
    · subst hc
      have hR : ¬ (∀ c ∈ '&' :: x0, isSpace c = true) := by
        intro h
        have := h '&' (by simp)
        rw [space_amp] at this; cases this
      have hL : ¬ (∀ c ∈ unescapeHTML ('&' :: x0), isSpace c = true) := by
        rw [unescape_amp]
        rw [noNbsp_cons, nbsp6, hasPrefix_cons] at hn
        simp only [Bool.and_eq_true, Bool.not_eq_true'] at hn
        intro h
        split at h
        · have := h '&' (by simp); rw [space_amp] at this; cases this
        · split at h
          · have := h '<' (by simp); rw [space_lt] at this; cases this
          · rw [if_neg (by rw [hn.1]; simp)] at h
            have := h '&' (by simp); rw [space_amp] at this; cases this
      exact ⟨fun h => absurd h hL, fun h => absurd h hR⟩
    · rw [unescape_char c x0 hc]
      have := ih (noNbsp_tail hn)
      constructor
      · intro h d hd
        rcases List.mem_cons.mp hd with e | e
        · subst e; exact h d (by simp)
        · exact this.mp (fun y hy => h y (by simp [hy])) d e
      · intro h d hd
        rcases List.mem_cons.mp hd with e | e
        · subst e; exact h d (by simp)
        · exact this.mpr (fun y hy => h y (by simp [hy])) d e

theorem blank_unescape (x : Str) (hn : noNbsp x = true) :
    trimSpace (unescapeHTML x) = [] ↔ trimSpace x = [] := by
  rw [trimSpace_eq_nil_iff, trimSpace_eq_nil_iff]
  exact unescape_blank x hn

/-- blank text holds no character reference: decoding leaves it as it is -/
theorem unescape_of_blank : ∀ (x : Str), (∀ c ∈ x, isSpace c = true) → unescapeHTML x = x := by
  intro x
  induction x with
  | nil => intro _; exact unescape_nil
  | cons c x ih =>
    intro h
    have hc : c ≠ '&' := by
      intro e; subst e
      have := h '&' (by simp); rw [space_amp] at this; cases this
    rw [unescape_char c x hc, ih (fun d hd => h d (by simp [hd]))]

theorem flushSt_rawTok (st : VTT.PT) (pre : Str) (segs : List (Str × Str))
    (hpre : ∀ c ∈ pre, c ≠ '<') (hs : ∀ p ∈ segs, SegOK p) (hne : rawTok pre segs ≠ []) :
    VTT.flushSt st (rawTok pre segs).reverse =
      some { st with items := st.items ++ (tokAct (VTT.tagsAttrs st.tags) pre segs st.pending).1,
                     pending := (tokAct (VTT.tagsAttrs st.tags) pre segs st.pending).2 } := by
  unfold VTT.flushSt
  rw [if_neg (by simpa using hne), List.reverse_reverse]
  simp only [VTT.stepTok, textToken_rawTok _ pre segs _ hpre hs]

end VTTRead
end Astisub
