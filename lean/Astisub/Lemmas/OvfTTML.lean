import Astisub.Model.TTML
import Astisub.Lemmas.OvfBasic
import Astisub.Lemmas.Digits
import Astisub.Lemmas.EvalLit

/-!
# Lemmas/OvfTTML — the `int64` steps of `TTMLInDuration.duration()`

After the repairs D25 / D26 the products `value × timebase` and `n.fraction × 1e9 / rate` are
computed with `math/big`; what is left in `int64` is

* `ttmlOffsetDuration`: the explicit `v.IsInt64()` guard (modelled: `offsetDuration` answers `none`
  above `MaxInt64`; the value is non-negative) — nothing can wrap;
* `ttmlUnitsDuration`: the conversion `v.Int64()` of the big quotient **without** a guard (the low
  64 bits), and
* `duration()`: the addition `o += ttmlUnitsDuration(frames …)`.

`durationW` evaluates those two steps with wrap-around, `DurOK` is the exact condition under which it is the
model (`C09ovf.ttml_duration_no_overflow`), `durOK_of_range` a generous range. Clock times go through `parseDuration`
(`Lemmas/OvfDuration.lean`).
-/

namespace Astisub
namespace Ovf
open Go TTML

/-- `time.Duration(v.Int64())` of the big quotient: the low 64 bits -/
def unitsDurationW (n : Int) (fp : Str) (rate : Int) : Int := wrap (unitsDuration n fp rate)

/-- `TTMLInDuration.duration()` in `int64` -/
def durationW (d : InDur) (framerate tickrate : Int) : Int :=
  if (d.ticks > 0 ∨ d.ticksFraction ≠ []) ∧ tickrate > 0 then unitsDurationW d.ticks d.ticksFraction tickrate
  else if (d.frames > 0 ∨ d.framesFraction ≠ []) ∧ framerate > 0 then
    wadd d.d (unitsDurationW d.frames d.framesFraction framerate)
  else d.d

/-- exact range condition: the quotient that is converted fits, and so does the sum with the clock part -/
def DurOK (d : InDur) (framerate tickrate : Int) : Prop :=
  if (d.ticks > 0 ∨ d.ticksFraction ≠ []) ∧ tickrate > 0 then
    fits64 (unitsDuration d.ticks d.ticksFraction tickrate)
  else if (d.frames > 0 ∨ d.framesFraction ≠ []) ∧ framerate > 0 then
    fits64 (unitsDuration d.frames d.framesFraction framerate) ∧
    fits64 (d.d + unitsDuration d.frames d.framesFraction framerate)
  else True

instance (d : InDur) (fr tr : Int) : Decidable (DurOK d fr tr) := by unfold DurOK; infer_instance

theorem unitsDuration_bounds {n : Int} {fp : Str} {rate : Int} (hn : 0 ≤ n) (hfp : fp.all TTML.isDigit = true)
    (hr : 1 ≤ rate) : 0 ≤ unitsDuration n fp rate ∧ unitsDuration n fp rate < (n + 1) * 1000000000 := by
  unfold unitsDuration
  have hF : TTML.natOfDigits fp < 10 ^ fp.length := natOfDigits_lt (digitStr_iff_all_isDigC.mpr hfp)
  generalize TTML.natOfDigits fp = F at *
  have hP : (0 : Int) < (10 : Int) ^ fp.length := Int.pow_pos (by decide)
  have hFP : (F : Int) < (10 : Int) ^ fp.length := by
    have : ((10 ^ fp.length : Nat) : Int) = (10 : Int) ^ fp.length := by rw [Int.natCast_pow]; rfl
    rw [← this]; exact Int.ofNat_lt.mpr hF
  generalize (10 : Int) ^ fp.length = P at *
  have hnP : 0 ≤ n * P := Int.mul_nonneg hn (Int.le_of_lt hP)
  have hA : 0 ≤ (n * P + (F : Int)) * 1000000000 := Int.mul_nonneg (by omega) (by decide)
  have hPr : 0 < P * rate := Int.mul_pos hP (by omega)
  rw [Int.tdiv_eq_ediv_of_nonneg hA]
  refine ⟨Int.ediv_nonneg hA (Int.le_of_lt hPr), ?_⟩
  apply Int.ediv_lt_of_lt_mul hPr
  -- (n P + F) 1e9 < (n + 1) P 1e9 ≤ (n + 1) 1e9 (P rate)
  have e1 : (n + 1) * P = n * P + P := by rw [Int.add_mul, Int.one_mul]
  have h1 : (n * P + (F : Int)) * 1000000000 < ((n + 1) * P) * 1000000000 :=
    Int.mul_lt_mul_of_pos_right (by omega) (by decide)
  have hQ : 0 ≤ ((n + 1) * P) * 1000000000 := Int.mul_nonneg (by omega) (by decide)
  have h2 := Int.mul_nonneg hQ (show 0 ≤ rate - 1 by omega)
  rw [Int.mul_sub, Int.mul_one] at h2
  have e2 : (n + 1) * 1000000000 * (P * rate) = (n + 1) * P * 1000000000 * rate := by ac_rfl
  rw [e2]
  omega

/-- generous range: a clock part within ±2^62 ns, at most 2^32 whole frames or ticks, digit
    fractions, rates ≥ 1 when used -/
def DurRange (d : InDur) : Prop :=
  -4611686018427387904 ≤ d.d ∧ d.d ≤ 4611686018427387904 ∧
  d.frames ≤ 4294967296 ∧ d.ticks ≤ 4294967296 ∧
  d.framesFraction.all TTML.isDigit = true ∧ d.ticksFraction.all TTML.isDigit = true ∧
  (d.framesFraction ≠ [] → 0 ≤ d.frames) ∧ (d.ticksFraction ≠ [] → 0 ≤ d.ticks)

instance (d : InDur) : Decidable (DurRange d) := by unfold DurRange; infer_instance

theorem durOK_of_range {d : InDur} (h : DurRange d) (fr tr : Int) : DurOK d fr tr := by
  obtain ⟨h1, h2, h3, h4, h5, h6, h7, h8⟩ := h
  unfold DurOK
  split
  · rename_i hc
    have hn : 0 ≤ d.ticks := by
      rcases hc.1 with h | h
      · omega
      · exact h8 h
    have b := unitsDuration_bounds hn h6 (show 1 ≤ tr by omega)
    unfold fits64; omega
  · split
    · rename_i hc
      have hn : 0 ≤ d.frames := by
        rcases hc.1 with h | h
        · omega
        · exact h7 h
      have b := unitsDuration_bounds hn h5 (show 1 ≤ fr by omega)
      unfold fits64; omega
    · trivial

/-- `01:00:00` plus 12.5 frames; 90 000.25 ticks -/
example : DurRange { d := 3600000000000, frames := 12, framesFraction := "5".toList } ∧
    DurRange { ticks := 90000, ticksFraction := "25".toList } := by decide_vector

/-- the range cannot be dropped: 10^10 ticks at one tick per second are 10^19 ns; `v.Int64()` keeps
    the low 64 bits, the model the whole number. (Outside the range the model `TTML.duration`, which keeps the whole number, is not what the Go code
    computes.) -/
example : durationW { ticks := 10000000000 } 0 1 = -8446744073709551616 ∧
    duration { ticks := 10000000000 } 0 1 = 10000000000000000000 := by decide

end Ovf
end Astisub
