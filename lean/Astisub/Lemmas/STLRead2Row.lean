import Astisub.Lemmas.STL2Tok

/-!
# Lemmas/STLRead2Row — open-subtitling rows: the reader model and the independent decoder on arbitrary row bytes

`Lemmas/STL2Tok.lean` shows that the decoder is the abstract row machine (`absStep`) on the token sequences
the *writer* emits.  Here the reader model is shown to follow the decoder on every byte sequence the decoder accepts
(`Spec.STL.openRow … = some res`), written rows included: by induction along the decoder's own recursion, the model's loop
(`STL.openFold`) stays in a state `mst a` (no diacritic pending at a token boundary) whose abstract state `a` is
the decoder's (style, pending text, closed runs).  Covered: every table byte, floating diacritic + letter pairs,
the six style codes, the filler 0x8F; everything else is outside the decoder's class.
-/

namespace Astisub
namespace C05
open Go STL

/-- which branch an `if` took, without rewriting the term it stands in -/
theorem ite_inv {α} {c : Prop} [Decidable c] {x y r : α} (h : (if c then x else y) = r) : c ∧ x = r ∨ ¬ c ∧ y = r := by
  by_cases hc : c
  · exact .inl ⟨hc, (if_pos hc).symm.trans h⟩
  · exact .inr ⟨hc, (if_neg hc).symm.trans h⟩

theorem tab_eq_tableGet (k : Nat) : Spec.STL.tab k = tableGet k := rfl

theorem tableGet_C0 : tableGet 0xC0 = none := by decide +kernel

theorem isLetter_lt (k : Nat) (h : Spec.STL.isLetter k = true) : 0x41 ≤ k ∧ k < 0x7B := by
  unfold Spec.STL.isLetter at h
  simp only [Bool.or_eq_true, Bool.and_eq_true, decide_eq_true_eq] at h
  omega

theorem isDia_range (v : Nat) (h : Spec.STL.isDia v = true) : 0xC1 ≤ v ∧ v ≤ 0xCF ∧ (tableGet v).isSome = true := by
  unfold Spec.STL.isDia at h
  simp only [Bool.and_eq_true, decide_eq_true_eq] at h
  exact ⟨h.1.1, h.1.2, h.2⟩

/-- the model's accent bytes start at 0xC0, the decoder's diacritics at 0xC1: 0xC0 is not in the table -/
theorem not_accent_of_not_dia (v : Nat) (cps : List Nat) (ht : tableGet v = some cps) (hd : Spec.STL.isDia v = false) :
    isAccentByte v = false := by
  unfold Spec.STL.isDia at hd
  rw [tab_eq_tableGet, ht] at hd
  simp only [Option.isSome_some, Bool.and_true, Bool.and_eq_false_iff, decide_eq_false_iff_not] at hd
  unfold isAccentByte
  by_cases h0 : v = 0xC0
  · subst h0; rw [tableGet_C0] at ht; cases ht
  · simp only [Bool.and_eq_false_iff, decide_eq_false_iff_not]
    omega

theorem decode_char (v : Nat) (cps : List Nat) (ht : tableGet v = some cps) (hd : Spec.STL.isDia v = false) :
    decode none v = (cps, none) := by
  unfold decode
  rw [ht]
  simp only [not_accent_of_not_dia v cps ht hd, Bool.false_eq_true, if_false]

theorem decode_dia (v k : Nat) (hd : Spec.STL.isDia v = true) (hl : Spec.STL.isLetter k = true) :
    decode none v = ([], some v) ∧ decode (some v) k = (nfcPair k v, none) := by
  obtain ⟨d1, d2, d3⟩ := isDia_range v hd
  obtain ⟨cv, hcv⟩ := Option.isSome_iff_exists.mp d3
  obtain ⟨l1, l2⟩ := isLetter_lt k hl
  have hck := table_ascii k (by omega) (by omega) (by omega)
  have hacc : isAccentByte v = true := by unfold isAccentByte; simp; omega
  constructor
  · unfold decode; rw [hcv]; simp only [hacc, if_true]
  · unfold decode; rw [hck]

theorem openFold_cons (st : RowSt) (v : Nat) (vs : Bytes) :
    openFold st (v :: vs) = (match openStep st v with | some st' => openFold st' vs | none => none) := rfl

theorem open_char (a : AS) (v : Nat) (cps : List Nat) (ht : tableGet v = some cps) (hlo : ¬ v < 0x20)
    (hnc : ¬ isCode v) (hd : Spec.STL.isDia v = false) :
    openStep (mst a) v = some (mst { a with t := a.t ++ str cps }) := by
  rw [openStep_text _ _ ⟨by omega, hnc⟩, show (mst a).acc = none from rfl, decode_char v cps ht hd]
  rfl

theorem open_dia (a : AS) (v k : Nat) (hd : Spec.STL.isDia v = true) (hl : Spec.STL.isLetter k = true) (rest : Bytes) :
    openFold (mst a) (v :: k :: rest) = openFold (mst { a with t := a.t ++ str (nfcPair k v) }) rest := by
  obtain ⟨d1, d2, _⟩ := isDia_range v hd
  obtain ⟨l1, l2⟩ := isLetter_lt k hl
  obtain ⟨e1, e2⟩ := decode_dia v k hd hl
  have s1 : openStep (mst a) v = some { mst a with acc := some v } := by
    rw [openStep_text _ _ ⟨by omega, by omega⟩, show (mst a).acc = none from rfl, e1]
    simp [mst, str]
  have s2 : openStep { mst a with acc := some v } k = some (mst { a with t := a.t ++ str (nfcPair k v) }) := by
    rw [openStep_text _ _ ⟨by omega, by omega⟩]
    simp only [e2]
    rfl
  rw [openFold_cons, s1]
  simp only
  rw [openFold_cons, s2]

/-- Along the decoder's recursion the model's loop stays in the image `mst` of the decoder's state.  The bound `n` on
    the length carries the recursion: a floating diacritic is consumed together with its letter, so the decoder's
    recursive call is not always on the tail. -/
theorem open_sim : ∀ (n : Nat) (row : Bytes), row.length ≤ n → ∀ (a : AS) (res : List Spec.STL.Run),
    Spec.STL.openRow row (ssty a.s) a.t (a.out.map runOf) = some res →
    ∃ a' : AS, openFold (mst a) row = some (mst a') ∧ res = (absEnd a').map runOf
  | _, [], _, a, res, h => by
    rw [Spec.STL.openRow, mkRun_close] at h
    refine ⟨a, rfl, ?_⟩
    rw [← Option.some.inj h]
    simp [absEnd]
  | 0, v :: rest, hlen, _, _, _ => by simp at hlen
  | n + 1, v :: rest, hlen, a, res, h => by
    have hlen' : rest.length ≤ n := by simpa using hlen
    rw [spec_openRow_cons] at h
    rcases ite_inv h with ⟨e, h⟩ | ⟨-, h⟩
    · obtain ⟨a', h1, h2⟩ := open_sim n rest hlen' a res h
      refine ⟨a', ?_, h2⟩
      rw [eq_of_beq e, show (0x8F :: rest) = List.replicate 1 0x8F ++ rest from rfl, openFold_append, openFold_pad 1 (mst a)]
      exact h1
    by_cases hc : isCode v
    · rw [styCode_ssty a.s v hc] at h
      simp only at h
      rw [mkRun_close] at h
      have e : a.out.map runOf ++ (close a.t a.s).map runOf = (absStep a (.code v)).out.map runOf := by
        simp [absStep]
      rw [e] at h
      obtain ⟨a', h1, h2⟩ := open_sim n rest hlen' (absStep a (.code v)) res h
      refine ⟨a', ?_, h2⟩
      rw [show v :: rest = [v] ++ rest from rfl, openFold_append, model_code a v hc]
      exact h1
    rw [styCode_none _ _ hc] at h
    rcases ite_inv h with ⟨hd, h⟩ | ⟨hd, h⟩
    · cases rest with
      | nil => cases h
      | cons k rest' =>
        obtain ⟨hl, h⟩ := Option.ite_none_right_eq_some.mp h
        have hlen2 : rest'.length ≤ n := by simp at hlen'; omega
        obtain ⟨a', h1, h2⟩ := open_sim n rest' hlen2 { a with t := a.t ++ str (nfcPair k v) } res h
        exact ⟨a', by rw [open_dia a v k hd hl]; exact h1, h2⟩
    · cases ht : Spec.STL.tab v with
      | none => rw [ht] at h; cases h
      | some cps =>
        rw [ht] at h
        obtain ⟨hlo, h⟩ := Option.ite_none_left_eq_some.mp h
        obtain ⟨a', h1, h2⟩ := open_sim n rest hlen' { a with t := a.t ++ str cps } res h
        refine ⟨a', ?_, h2⟩
        rw [openFold_cons, open_char a v cps ht hlo hc (by simpa using hd)]
        exact h1

theorem open_row_agree (row : Bytes) (res : List Spec.STL.Run) (h : Spec.STL.openRow row {} [] [] = some res) :
    ∃ segs : List Seg, res = segs.map runOf ∧
      STL.openRow none row = some (if segs.isEmpty then none else some { items := segs.map itemOf }, none) := by
  have h' : Spec.STL.openRow row (ssty AS.init.s) AS.init.t (AS.init.out.map runOf) = some res := h
  obtain ⟨a', h1, h2⟩ := open_sim row.length row (Nat.le_refl _) AS.init res h'
  refine ⟨absEnd a', h2, ?_⟩
  unfold STL.openRow
  have e : ({ acc := none } : RowSt) = mst AS.init := rfl
  rw [e, h1]
  simp only [appendOpen_mst]
  unfold absEnd
  simp [mst]

end C05
end Astisub
