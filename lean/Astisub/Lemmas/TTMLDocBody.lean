import Astisub.Lemmas.TTMLDocAttrs
import Astisub.Props.C03

/-!
# Lemmas/TTMLDocBody — the body of a `<p>`: spans and `<br/>` written, and the lines the reader splits them into

`TTML.subToks` writes a cue as one `<span>` per run and one `<br/>` between two lines (the one after the
last line is cut off).  The reader re-tokenises the paragraph (`rawTok`, see `Lemmas/TTMLDocXml`), decodes the
children into `TTMLInItem`s (`itemsOf`; that it does is `Lemmas/TTMLDocRead`) and splits them into lines
(`linesLoop`).
-/

namespace Astisub
namespace TTMLDoc
open Go TTML List

/-- the children of `<p>`: what `subToks` puts between the start and the end tag -/
def bodyW (ls : List Line) : List WTok :=
  ((ls.map lineToks).flatten).take (((ls.map lineToks).flatten).length - 2)

def spansW (l : Line) : List WTok := (l.items.map spanOf).flatten

/-- the same, by recursion: the spans of the lines separated by `br` -/
def bodyOf : List Line → List WTok
  | [] => []
  | [l] => spansW l
  | l :: l' :: ls => spansW l ++ brTok ++ bodyOf (l' :: ls)

theorem lineToks_flatten (l : Line) (ls : List Line) :
    ((l :: ls).map lineToks).flatten = bodyOf (l :: ls) ++ brTok := by
  induction ls generalizing l with
  | nil => simp [lineToks, bodyOf, spansW]
  | cons l' ls ih =>
    rw [map_cons, flatten_cons, ih l']
    simp [lineToks, bodyOf, spansW]

theorem bodyW_eq (ls : List Line) : bodyW ls = bodyOf ls := by
  cases ls with
  | nil => rfl
  | cons l ls =>
    unfold bodyW
    rw [lineToks_flatten]
    have : (bodyOf (l :: ls) ++ brTok).length - 2 = (bodyOf (l :: ls)).length := by
      simp [brTok]
    rw [this, take_left']
    rfl

/-- the tokens of `"<p>" + stripped + "</p>"` for a cue with these lines (contract, `Lemmas/TTMLDocXml`) -/
def pToks (ls : List Line) : List XTok := pStart :: (bodyW ls).map rawTok ++ [pStop]

/-- a span as re-tokenised -/
def spanX (li : LItem) : List XTok :=
  .start [] "span".toList ((optAttr "style" li.style ++ outAttrs li.attrs).map rawAttr) ::
    ((if li.text.isEmpty then [] else [.text li.text]) ++ [.stop [] "span".toList])

/-- the run as a `TTMLInItem` -/
def inItemOf (li : LItem) : InItem :=
  { name := "span".toList, style := (normRef li.style).getD [], text := li.text, attrs := inKV li.attrs }

theorem splitName_span : splitName "span".toList = ([], "span".toList) := by decide
theorem splitName_br : splitName "br".toList = ([], "br".toList) := by decide

theorem rawSpace_nil : rawSpace [] = [] := by decide

theorem rawTok_spanOf (li : LItem) : (spanOf li).map rawTok = spanX li := by
  unfold spanOf spanX
  by_cases h : li.text.isEmpty = true
  · simp only [h, ↓reduceIte, append_nil, cons_append, nil_append, map_cons, map_nil, rawTok, splitName_span,
      rawSpace_nil]
  · simp only [h, Bool.false_eq_true, ↓reduceIte, cons_append, nil_append, map_cons, map_nil, rawTok,
      splitName_span, rawSpace_nil]

/-- the items the reader decodes from the paragraph of a cue with lines `ls` -/
def itemsOf (ls : List Line) : List InItem := C03.itemsOfLines (ls.map fun l => l.items.map inItemOf)

/-- a run as the reader returns it: text kept, no time stamp, reference kept, attributes through `styleAttributes` -/
def normLItem (li : LItem) : LItem :=
  { text := li.text, startAt := 0, style := normRef li.style, attrs := some (styleAttributes (inKV li.attrs)) }

def normLine (l : Line) : Line := { voice := [], items := l.items.map normLItem }

/-- a cue without lines is written as an empty paragraph and read as one empty line -/
def normLines (ls : List Line) : List Line := if ls.isEmpty then [{ items := [] }] else ls.map normLine

/-- an optional reference is empty or defined -/
def refOk (ids : List Str) (r : Option Str) : Bool :=
  match normRef r with
  | some v => ids.contains v
  | none => true

/-- **representable run**: `zIndex` (if any) is an integer, the text has no line feed (known finding
    `ttml-newline-in-text-becomes-line-break`), the style reference is empty or defined -/
def runOk (styleIds : List Str) (li : LItem) : Bool :=
  attrsOk li.attrs && !li.text.contains '\n' && refOk styleIds li.style

/-- the clauses of `runOk` -/
structure RunOk (styleIds : List Str) (li : LItem) : Prop where
  attrs : attrsOk li.attrs = true
  noNL : '\n' ∉ li.text
  ref : refOk styleIds li.style = true

theorem runOk_iff {styleIds : List Str} {li : LItem} : runOk styleIds li = true ↔ RunOk styleIds li := by
  simp only [runOk, Bool.and_eq_true, Bool.not_eq_true', List.contains_eq_mem, decide_eq_false_iff_not]
  exact ⟨fun ⟨⟨a, b⟩, c⟩ => ⟨a, b, c⟩, fun h => ⟨⟨h.attrs, h.noNL⟩, h.ref⟩⟩

example : runOk ["a".toList] { text := " x ".toList, style := some "a".toList, attrs := some [("TTMLColor".toList, "red".toList), ("TTMLZIndex".toList, "-3".toList)] } = true := by decide_vector
example : runOk [] { text := "a\nb".toList } = false := by decide_vector

theorem normRef_getD (r : Option Str) :
    (if (normRef r).getD [] ≠ [] then some ((normRef r).getD []) else none) = normRef r := by
  cases r with
  | none => rfl
  | some v =>
    by_cases h : v = []
    · simp [normRef, h]
    · simp [normRef, h]

theorem mkItem_inItemOf (li : LItem) : C03.mkItem (inItemOf li) li.text = normLItem li := by
  unfold C03.mkItem normLItem inItemOf
  simp only [normRef_getD]

theorem goodRun_inItemOf {styleIds : List Str} {li : LItem} (h : runOk styleIds li = true) :
    C03.GoodRun styleIds (inItemOf li) := by
  have href := (runOk_iff.mp h).ref
  refine ⟨⟨rfl, ?_⟩, (runOk_iff.mp h).noNL⟩
  unfold refOk at href
  unfold inItemOf
  cases hr : normRef li.style with
  | none => left; rfl
  | some v =>
    right
    rw [hr] at href
    simpa using href

theorem linesLoop_itemsOf (styleIds : List Str) (ls : List Line)
    (h : ∀ l ∈ ls, ∀ li ∈ l.items, runOk styleIds li = true) :
    linesLoop styleIds (itemsOf ls) [] [] = some (normLines ls) := by
  cases ls with
  | nil => rfl
  | cons l ls =>
    unfold itemsOf
    rw [C03.linesLoop_lines styleIds _ (by simp) ?_]
    · simp only [normLines, isEmpty_cons, Bool.false_eq_true, ↓reduceIte, map_map]
      congr 1
      apply map_congr_left
      intro l' _
      simp only [Function.comp, normLine, map_map]
      congr 1
      apply map_congr_left
      intro li _
      exact mkItem_inItemOf li
    · intro rl hrl r hr
      obtain ⟨l0, hl0, rfl⟩ := mem_map.mp hrl
      obtain ⟨li, hli, rfl⟩ := mem_map.mp hr
      exact goodRun_inItemOf (h l0 hl0 li hli)

end TTMLDoc
end Astisub
