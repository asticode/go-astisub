import Astisub.Lemmas.STLRead2File
import Astisub.Lemmas.STL2View
import Astisub.Lemmas.Digits
import Astisub.Lemmas.KV
import Std.Data.String.ToInt

/-!
# Lemmas/STLRead2View — the `stl.read` check's views of the cues the reader model returns

`Driver.STLD.cueView`, `posOf`, `propagationOK`, `runView` read the attributes of a cue / run back out of the sorted
key/value lists through `String.toInt?`, `splitC`, the colour tables.  Here: applied to `docCue dsc mnr c` they give
back `c` (for cues of the decoder's class: justification code at most 3, colours at most 7).
-/

namespace Astisub
namespace C05
open Go STL

theorem intOf_itoaNat (n : Nat) : Driver.STLD.intOf (itoaNat n) = some (n : Int) := by
  unfold Driver.STLD.intOf
  rw [itoaNat_repr]
  exact Nat.toInt?_repr n

theorem itoa_nat (n : Nat) : itoa ((n : Nat) : Int) = itoaNat n := by
  unfold itoa
  simp

/-- `WebVTTAlign` as `propagateSTLAttributes` derives it from the justification code -/
def alignOf (jc : Nat) : Option Str :=
  if justOf jc == 4 then some "right".toList else if justOf jc == 2 then some "left".toList else none

/-- `WebVTTLine`: the vertical position as a percentage of the maximum number of rows -/
def lineOfPos (vp : Nat) (mnr : Int) : Option Str :=
  if mnr > 0 then
    some (itoa (if mnr == 23 && vp > 0 then Int.tdiv (((vp : Int) - 1) * 100) mnr else Int.tdiv ((vp : Int) * 100) mnr) ++ ['%'])
  else none

/-- the attribute entries of a cue the reader returns (`itemAttrs_entries`) -/
def cueEntries (jc vp : Nat) (mnr : Int) (rows : Nat) : List (String × Option Str) :=
  [("STLJustification", some (itoaNat (justOf jc))),
   ("STLPosition", some (itoaNat vp ++ [','] ++ itoa mnr ++ [','] ++ itoaNat rows)),
   ("WebVTTAlign", alignOf jc), ("WebVTTLine", lineOfPos vp mnr)]

theorem cueEntries_keys (jc vp : Nat) (mnr : Int) (rows : Nat) :
    (cueEntries jc vp mnr rows).Pairwise (fun a b => a.1 ≠ b.1) := by
  simp [cueEntries, List.pairwise_cons]

theorem itemAttrs_entries (jc vp : Nat) (mnr : Int) (rows : Nat) :
    itemAttrs jc vp mnr rows = some (mkAttrs (cueEntries jc vp mnr rows)) := rfl

theorem kvC (jc vp : Nat) (mnr : Int) (rows : Nat) (k : String) (o : Option Str)
    (h : (k, o) ∈ cueEntries jc vp mnr rows) : Driver.STLD.kv (itemAttrs jc vp mnr rows) k = o := by
  rw [itemAttrs_entries]
  exact lookup_mkAttrs_of_mem (cueEntries_keys _ _ _ _) h

theorem kv_pos (jc vp : Nat) (mnr : Int) (rows : Nat) :
    Driver.STLD.kv (itemAttrs jc vp mnr rows) "STLPosition"
      = some (itoaNat vp ++ [','] ++ itoa mnr ++ [','] ++ itoaNat rows) := by
  apply kvC; simp [cueEntries]

theorem kv_align (jc vp : Nat) (mnr : Int) (rows : Nat) :
    Driver.STLD.kv (itemAttrs jc vp mnr rows) "WebVTTAlign" = alignOf jc := by
  apply kvC; simp [cueEntries]

theorem kv_line (jc vp : Nat) (mnr : Int) (rows : Nat) :
    Driver.STLD.kv (itemAttrs jc vp mnr rows) "WebVTTLine" = lineOfPos vp mnr := by
  apply kvC; simp [cueEntries]

theorem posOf_itemAttrs (jc vp mnr rows : Nat) :
    Driver.STLD.posOf (itemAttrs jc vp (mnr : Int) rows) = some ((vp : Int), (mnr : Int), (rows : Int)) := by
  unfold Driver.STLD.posOf
  rw [kv_pos, itoa_nat]
  have comma_not_digit (n : Nat) : ',' ∉ itoaNat n := (digitStr_itoaNat n).not_mem_of_not_isDigC rfl
  have hs : splitC ',' (itoaNat vp ++ [','] ++ itoaNat mnr ++ [','] ++ itoaNat rows)
      = [itoaNat vp, itoaNat mnr, itoaNat rows] := by
    have e : itoaNat vp ++ [','] ++ itoaNat mnr ++ [','] ++ itoaNat rows
        = itoaNat vp ++ ',' :: (itoaNat mnr ++ ',' :: itoaNat rows) := by simp
    rw [e, splitC_append _ (comma_not_digit vp), splitC_append _ (comma_not_digit mnr), splitC_not_mem (comma_not_digit rows)]
  simp only [Option.map_some, hs, intOf_itoaNat]

theorem just_itemAttrs (jc vp : Nat) (mnr : Int) (rows : Nat) :
    (Driver.STLD.kv (itemAttrs jc vp mnr rows) "STLJustification").bind Driver.STLD.intOf = some ((justOf jc : Nat) : Int) := by
  rw [kvC _ _ _ _ "STLJustification" (some (itoaNat (justOf jc))) (by simp [cueEntries]), Option.bind_some]
  exact intOf_itoaNat _

theorem justOf_back (jc : Nat) (h : jc ≤ 3) : ((((justOf jc : Nat) : Int) - 1).toNat) = jc := by
  have : jc = 0 ∨ jc = 1 ∨ jc = 2 ∨ jc = 3 := by omega
  rcases this with rfl | rfl | rfl | rfl <;> rfl

/-- a colour the teletext readers can name: one of the eight -/
def ColOK (r : Spec.STL.Run) : Prop := ∀ c, r.color = some c → c ≤ 7

instance (r : Spec.STL.Run) : Decidable (ColOK r) :=
  decidable_of_iff (r.color.all (· ≤ 7) = true) (by
    unfold ColOK
    cases r.color with
    | none => simp
    | some c => simp)

/-- the runs a row parser of the decoder can produce under display standard `dsc` -/
def RunOK (dsc : Nat) (r : Spec.STL.Run) : Prop := if dsc = 0 then OpenRun r else ColOK r

instance (dsc : Nat) (r : Spec.STL.Run) : Decidable (RunOK dsc r) := by unfold RunOK; infer_instance

theorem col_close (s : Spec.STL.Sty) (t : Str) (acc : List Spec.STL.Run) (hs : ∀ c, s.color = some c → c ≤ 7)
    (ha : ∀ r ∈ acc, ColOK r) : ∀ r ∈ acc ++ (Spec.STL.mkRun s t true).toList, ColOK r := by
  intro r hr
  rcases List.mem_append.mp hr with hr | hr
  · exact ha r hr
  · unfold Spec.STL.mkRun at hr
    split at hr
    · cases hr
    · simp only [Option.toList_some, List.mem_singleton] at hr
      subst hr
      exact hs

theorem attr_col {s s' : Spec.STL.Sty} {v : Nat} (h : AttrTo s v s') (hs : ∀ c, s.color = some c → c ≤ 7) :
    ∀ c, s'.color = some c → c ≤ 7 := by
  cases h with
  | col v hv _ => intro c hc; simp only [Option.some.injEq] at hc; omega
  | code v s' hsc => rw [(styCode_inv s s' v hsc).2.2]; exact hs
  | _ => exact hs

theorem tele_col (row : Bytes) (s : Spec.STL.Sty) (box : Nat) (t : Str) (acc res : List Spec.STL.Run)
    (h : Spec.STL.teleRow row s box t acc = some res) (hs : ∀ c, s.color = some c → c ≤ 7) (ha : ∀ r ∈ acc, ColOK r) :
    ∀ r ∈ res, ColOK r :=
  teleRow_induct res (fun _ s _ _ acc => (∀ c, s.color = some c → c ≤ 7) → (∀ r ∈ acc, ColOK r) → ∀ r ∈ res, ColOK r)
    (fun s _ t acc e hs ha => e ▸ col_close s t acc hs ha)
    (fun _ _ _ _ _ ih => ih) (fun _ _ _ _ _ ih => ih) (fun _ _ _ _ _ ih => ih)
    (fun _ _ s _ _ t acc hA ih hs ha => ih (attr_col hA hs) (col_close s t acc hs ha))
    (fun _ _ _ _ _ _ _ _ _ ih => ih) (fun _ _ _ _ _ _ _ _ _ _ _ ih => ih)
    row.length row (Nat.le_refl _) s box t acc h hs ha

theorem row_runs_ok (dsc : Nat) (row : Bytes) (res : List Spec.STL.Run)
    (h : (if dsc == 0 then Spec.STL.openRow row {} [] [] else Spec.STL.teleRow row {} 0 [] []) = some res) :
    ∀ r ∈ res, RunOK dsc r := by
  intro r hr
  unfold RunOK
  by_cases hd : dsc = 0
  · subst hd
    simp only [beq_self_eq_true, if_true] at h
    obtain ⟨segs, hs, _⟩ := open_row_agree row res h
    subst hs
    obtain ⟨g, _, rfl⟩ := List.mem_map.mp hr
    rw [if_pos rfl]
    exact openRun_runOf g
  · have hd0 : (dsc == 0) = false := by simpa using hd
    simp only [hd0, Bool.false_eq_true, if_false] at h
    rw [if_neg hd]
    exact tele_col row {} 0 [] [] res h (by intro c hc; cases hc) (by intro r hr; cases hr) r hr

/-- a cue of the decoder's class: justification code 0–3, runs the check can read back -/
def CueOK (dsc : Nat) (c : Spec.STL.Cue) : Prop := c.just ≤ 3 ∧ ∀ l ∈ c.lines, ∀ r ∈ l, RunOK dsc r

instance (dsc : Nat) (c : Spec.STL.Cue) : Decidable (CueOK dsc c) := by unfold CueOK; infer_instance

theorem tti_cue_ok (fr dsc : Nat) (off : Int) (p : Bytes) (c : Spec.STL.Cue)
    (h : Spec.STL.tti fr dsc off p = some (some c)) : CueOK dsc c := by
  obtain ⟨_, hr⟩ := tti_inv fr dsc off p (some c) h
  split at hr
  · cases hr
  · obtain ⟨hj, ls, hrows, hc⟩ := hr
    rw [Option.some.inj hc]
    refine ⟨hj, fun l hl r hr => ?_⟩
    obtain ⟨row, _, hrow⟩ := Spec.STL.isMapM.mem hrows (List.mem_filter.mp hl).1
    exact row_runs_ok dsc row l hrow r hr

theorem decode_cues_ok (ig : Bool) (doc : Bytes) (d : Spec.STL.Doc) (h : Spec.STL.decode ig doc = some d) :
    ∀ c ∈ d.cues, CueOK d.dsc c := by
  obtain ⟨cs, hcs, hcues⟩ := (decode_inv ig doc d h).blocks
  intro c hc
  rw [hcues] at hc
  have hm : some c ∈ cs := by simpa using hc
  obtain ⟨p, _, hp⟩ := Spec.STL.isMapM.mem hcs hm
  exact tti_cue_ok d.fr d.dsc d.tcpNs p c hp

theorem teleEntries_keys (r : Spec.STL.Run) : (teleEntries r).Pairwise (fun a b => a.1 ≠ b.1) := by
  rw [List.pairwise_keys_iff_nodup]
  simp only [teleEntries, stlAttrs, List.cons_append, List.nil_append, List.map_cons, List.map_nil]
  decide +kernel

theorem kvT (r : Spec.STL.Run) : ∀ e ∈ teleEntries r, Driver.STLD.kv (teleItem r).attrs e.1 = e.2 :=
  fun _ h => by rw [teleItem_attrs]; exact lookup_mkAttrs_of_mem (teleEntries_keys r) h

theorem optBool_of_kv (a : Attrs) (k : String) (o : Option Bool) (h : Driver.STLD.kv a k = optB o) :
    Driver.STLD.optBool a k = o := by
  unfold Driver.STLD.optBool
  rw [h]
  cases o with
  | none => rfl
  | some b => cases b <;> decide

theorem colorIdx_lit (s : String)
    (h : ["00000000", "000000ff", "00008000", "0000ffff", "00ff0000", "00ff00ff", "00ffff00", "00ffffff"].idxOf? s = some n) :
    Driver.STLD.colorIdx s.toList = some n := by
  unfold Driver.STLD.colorIdx
  rw [String.ofList_toList]
  exact h

theorem colorIdx_ssa (c : Nat) (h : c ≤ 7) : Driver.STLD.colorIdx (colorSSA c) = some c := by
  have : c = 0 ∨ c = 1 ∨ c = 2 ∨ c = 3 ∨ c = 4 ∨ c = 5 ∨ c = 6 ∨ c = 7 := by omega
  rcases this with rfl | rfl | rfl | rfl | rfl | rfl | rfl | rfl <;> exact colorIdx_lit _ (by decide)

theorem colorTTML_table (c : Nat) (h : c ≤ 7) :
    colorTTML c = (["#000000", "#ff0000", "#008000", "#ffff00", "#0000ff", "#ff00ff", "#00ffff", "#ffffff"].getD c "").toList := by
  have : c = 0 ∨ c = 1 ∨ c = 2 ∨ c = 3 ∨ c = 4 ∨ c = 5 ∨ c = 6 ∨ c = 7 := by omega
  rcases this with rfl | rfl | rfl | rfl | rfl | rfl | rfl | rfl <;> rfl

theorem natOf_some (a : Attrs) (k : String) (n : Nat) (h : Driver.STLD.kv a k = some (itoaNat n)) :
    Driver.STLD.natOf a k = n := by
  unfold Driver.STLD.natOf
  rw [h]
  simp [intOf_itoaNat]

theorem runView_teleItem (r : Spec.STL.Run) (h : ColOK r) : Driver.STLD.runView (teleItem r) = r := by
  have H := kvT r
  simp only [teleEntries, stlAttrs, lstyR, List.cons_append, List.nil_append, List.forall_mem_cons] at H
  obtain ⟨hb, hi, hu, hcol, -, hdh, hds, hdw, hsb, hsa, -⟩ := H
  unfold Driver.STLD.runView
  simp only [optBool_of_kv _ _ _ hi, optBool_of_kv _ _ _ hu, optBool_of_kv _ _ _ hb, optBool_of_kv _ _ _ hdh,
    optBool_of_kv _ _ _ hds, optBool_of_kv _ _ _ hdw, hcol, natOf_some _ _ _ hsb, natOf_some _ _ _ hsa]
  have hc : (r.color.map colorSSA).bind Driver.STLD.colorIdx = r.color := by
    cases hcol : r.color with
    | none => rfl
    | some c => simp only [Option.map_some, Option.bind_some]; exact colorIdx_ssa c (h c hcol)
  rw [hc]
  cases r
  rfl

theorem runView_runItem (dsc : Nat) (r : Spec.STL.Run) (h : RunOK dsc r) : Driver.STLD.runView (runItem dsc r) = r := by
  unfold RunOK at h
  unfold runItem
  by_cases hd : dsc = 0
  · rw [if_pos hd] at h ⊢
    unfold openItem
    rw [runView_itemOf, runOf_segOf r h]
  · rw [if_neg hd] at h ⊢
    exact runView_teleItem r h

theorem cueView_docCue (dsc mnr : Nat) (c : Spec.STL.Cue) (h : CueOK dsc c) :
    Driver.STLD.cueView (docCue dsc (mnr : Int) c) = some c := by
  obtain ⟨hj, hr⟩ := h
  unfold Driver.STLD.cueView
  have e : (docCue dsc (mnr : Int) c).attrs = itemAttrs c.just c.vp (mnr : Int) c.nrows := rfl
  rw [e, posOf_itemAttrs, just_itemAttrs]
  simp only
  have hjb := justOf_back c.just hj
  have hl : (docCue dsc (mnr : Int) c).lines.map (fun l => l.items.map Driver.STLD.runView) = c.lines := by
    show (c.lines.map _).map _ = _
    rw [List.map_map]
    refine (List.map_congr_left fun l hl => ?_).trans (List.map_id _)
    show (l.map (runItem dsc)).map Driver.STLD.runView = l
    rw [List.map_map]
    exact (List.map_congr_left fun r hr' => runView_runItem dsc r (hr l hl r hr')).trans (List.map_id _)
  rw [hl, hjb]
  cases c
  rfl

theorem maxRows_docCue (dsc mnr : Nat) (c : Spec.STL.Cue) :
    (Driver.STLD.posOf (docCue dsc (mnr : Int) c).attrs).any (fun p => p.2.1 == (mnr : Int)) = true := by
  have e : (docCue dsc (mnr : Int) c).attrs = itemAttrs c.just c.vp (mnr : Int) c.nrows := rfl
  rw [e, posOf_itemAttrs]
  simp

theorem align_ok (jc : Nat) (h : jc ≤ 3) :
    (alignOf jc == (if (((justOf jc : Nat) : Int) == 2) = true then some "left".toList
      else if (((justOf jc : Nat) : Int) == 4) = true then some "right".toList else none)) = true := by
  have : jc = 0 ∨ jc = 1 ∨ jc = 2 ∨ jc = 3 := by omega
  rcases this with rfl | rfl | rfl | rfl <;> decide

theorem itoa_toString (z : Int) (hz : 0 ≤ z) : itoa z = (toString z).toList := by
  obtain ⟨n, rfl⟩ := Int.eq_ofNat_of_zero_le hz
  rw [itoa_nat, ← String.toList_ofList (l := itoaNat n), itoaNat_repr]
  rfl

/-- the model's `WebVTTLine` is the percentage the check recomputes: the dividend is never negative, so truncating and
    flooring division agree, and `itoa` and `toString` print the same digits -/
theorem lineOfPos_want (vp mnr : Nat) :
    lineOfPos vp (mnr : Int) =
      if (mnr : Int) ≤ 0 then (none : Option Str)
      else some ((toString (if ((mnr : Int) == 23) = true ∧ (vp : Int) > 0 then ((vp : Int) - 1) * 100 / (mnr : Int)
        else (vp : Int) * 100 / (mnr : Int))).toList ++ ['%']) := by
  unfold lineOfPos
  by_cases h0 : mnr = 0
  · subst h0; rfl
  rw [if_pos (show (mnr : Int) > 0 by omega), if_neg (show ¬ (mnr : Int) ≤ 0 by omega)]
  by_cases hc : (mnr : Int) = 23 ∧ (vp : Int) > 0
  · have hb : ((mnr : Int) == 23 && decide (vp > 0)) = true := by simpa using ⟨hc.1, by omega⟩
    rw [if_pos hb, if_pos (show ((mnr : Int) == 23) = true ∧ _ from ⟨by simpa using hc.1, hc.2⟩),
      Int.tdiv_eq_ediv_of_nonneg (by omega), itoa_toString _ (Int.ediv_nonneg (by omega) (by omega))]
  · have hb : ¬ ((mnr : Int) == 23 && decide (vp > 0)) = true := fun h => hc (by simpa using h)
    rw [if_neg hb, if_neg (show ¬ (((mnr : Int) == 23) = true ∧ _) from fun h => hc ⟨by simpa using h.1, h.2⟩),
      Int.tdiv_eq_ediv_of_nonneg (by omega), itoa_toString _ (Int.ediv_nonneg (by omega) (by omega))]

theorem colour_clause (dsc : Nat) (r : Spec.STL.Run) (h : RunOK dsc r) :
    (match (Driver.STLD.kv (runItem dsc r).attrs "TeletextColor").bind Driver.STLD.colorIdx with
      | some c => Driver.STLD.kv (runItem dsc r).attrs "TTMLColor" ==
          some (["#000000", "#ff0000", "#008000", "#ffff00", "#0000ff", "#ff00ff", "#00ffff", "#ffffff"].getD c "").toList
      | none => (Driver.STLD.kv (runItem dsc r).attrs "TTMLColor").isNone) = true := by
  unfold RunOK at h
  unfold runItem
  by_cases hd : dsc = 0
  · have a1 : Driver.STLD.kv (openItem r).attrs "TeletextColor" = none :=
      lookup_absent (lsty (segOf r).2) "TeletextColor" (by decide)
    have a2 : Driver.STLD.kv (openItem r).attrs "TTMLColor" = none :=
      lookup_absent (lsty (segOf r).2) "TTMLColor" (by decide)
    rw [if_pos hd, a1, a2]
    rfl
  · rw [if_neg hd] at h ⊢
    have H := kvT r
    simp only [teleEntries, stlAttrs, List.cons_append, List.nil_append, List.forall_mem_cons] at H
    obtain ⟨-, -, -, hcol, httml, -⟩ := H
    rw [hcol, httml]
    cases hc : r.color with
    | none => rfl
    | some c =>
      simp only [Option.map_some, Option.bind_some, colorIdx_ssa c (h c hc), colorTTML_table c (h c hc)]
      simp

theorem propagationOK_docCue (dsc mnr : Nat) (c : Spec.STL.Cue) (h : CueOK dsc c) :
    Driver.STLD.propagationOK (docCue dsc (mnr : Int) c) = true := by
  obtain ⟨hj, hr⟩ := h
  unfold Driver.STLD.propagationOK
  have e : (docCue dsc (mnr : Int) c).attrs = itemAttrs c.just c.vp (mnr : Int) c.nrows := rfl
  rw [e, posOf_itemAttrs, just_itemAttrs]
  simp only [kv_align, kv_line, lineOfPos_want]
  have ha := align_ok c.just hj
  rw [ha]
  simp only [beq_self_eq_true, Bool.true_and, List.all_eq_true]
  intro l hl li hli
  obtain ⟨rl, hrl, rfl⟩ := List.mem_map.mp hl
  obtain ⟨r, hrr, rfl⟩ := List.mem_map.mp hli
  exact colour_clause dsc r (hr rl hrl r hrr)

theorem read_agrees_of_decode (ig : Bool) (doc : Bytes) (d : Spec.STL.Doc) (h : Spec.STL.decode ig doc = some d) :
    ∃ items, STL.read ig doc = .ok (docMeta d, items) ∧
      items.map (fun it => (it.startAt, it.endAt)) = d.cues.map (fun c => (c.startNs, c.endNs)) ∧
      items.map (fun it => it.lines.map fun l => l.items.map Driver.STLD.runView) = d.cues.map (·.lines) ∧
      items.map Driver.STLD.linesView = d.cues.map Driver.STLD.specLines := by
  have hok := decode_cues_ok ig doc d h
  have hl : (d.cues.map (docCue d.dsc (d.mnr : Int))).map (fun it => it.lines.map fun l => l.items.map Driver.STLD.runView)
      = d.cues.map (·.lines) := by
    rw [List.map_map]
    refine List.map_congr_left fun c hc => ?_
    have := cueView_docCue d.dsc d.mnr c (hok c hc)
    unfold Driver.STLD.cueView at this
    split at this
    · exact congrArg Spec.STL.Cue.lines (Option.some.inj this)
    · cases this
  refine ⟨_, read_of_decode ig doc d h, by rw [List.map_map]; rfl, hl, ?_⟩
  have : ∀ l : List CItem, l.map Driver.STLD.linesView = (l.map fun it => it.lines.map fun l => l.items.map Driver.STLD.runView).map
      (fun ls => Driver.STLD.specLines { startNs := 0, endNs := 0, just := 0, vp := 0, nrows := 0, lines := ls }) := by
    intro l; rw [List.map_map]; exact List.map_congr_left fun it _ => linesView_runView it
  rw [this, hl, List.map_map]
  rfl

end C05
end Astisub
