import Astisub.Lemmas.EvalLit
import Astisub.Lemmas.TotBase
import Astisub.Lemmas.StrList
import Astisub.Model.Duration

/-!
# Lemmas/Tot2Duration — `parseDuration` (`subtitles.go`) with Go's index checks made explicit

`parseDuration` is called by every text reader (SRT, WebVTT, SSA, TTML clock times).  Its index
sites:

* `parts[len(parts)-1]` and `parts[:len(parts)-1]` after `strings.Split(i, sep)`, behind `len(parts) >= 2`
  (the model: `parts.getLast?.getD []`, `parts.dropLast`);
* `parts[1]`, `parts[0]` behind `len(parts) == 2`; `parts[2]`, `parts[1]`, `parts[0]` behind `len(parts) == 3`
  (the model: the list patterns `[pm, ps]`, `[ph, pm, ps]` with a catch-all error arm).

`parseC i sep digits = .ok (Duration.parse i sep digits)` for all inputs.
-/

namespace Astisub
namespace Tot
namespace Dur
open Go Duration

/-- the millisecond part: what is left of the last separator, and the milliseconds -/
def msPart (i : Str) (sep : Char) (digits : Nat) : Option (Int × Str) :=
  let parts := splitC sep i
  if parts.length ≥ 2 then
    let s := trimSpace (parts.getLast?.getD [])
    if s.length > 3 then none else
    match atoi s with
    | none => none
    | some ms => some (ms * (10 : Int) ^ (digits - s.length), join [sep] parts.dropLast)
  else some (0, i)

/-- the same with `parts[len(parts)-1]`, `parts[:len(parts)-1]` -/
def msPartC (i : Str) (sep : Char) (digits : Nat) : Chk (Option (Int × Str)) :=
  let parts := splitC sep i
  if parts.length ≥ 2 then do
    let last ← lastC parts
    let s := trimSpace last
    if s.length > 3 then pure none else
    match atoi s with
    | none => pure none
    | some ms => do
      let init ← initC parts
      pure (some (ms * (10 : Int) ^ (digits - s.length), join [sep] init))
  else pure (some (0, i))

theorem msPartC_eq (i : Str) (sep : Char) (digits : Nat) : msPartC i sep digits = .ok (msPart i sep digits) := by
  have hne := splitC_ne_nil sep i
  refine ite_ok (fun _ => ?_) fun _ => rfl
  rw [lastC_ok hne [], initC_ok hne, ok_bind]
  refine ite_ok (fun _ => rfl) fun _ => ?_
  cases atoi (trimSpace ((splitC sep i).getLast?.getD [])) <;> rfl

/-- hours, minutes, seconds fields as the model's patterns take them -/
def hmsFields (hms : List Str) : Option (Str × Str × Str) :=
  match hms with
  | [pm, ps] => some ([], pm, ps)
  | [ph, pm, ps] => some (ph, pm, ps)
  | _ => none

/-- the same with `parts[i]` behind the two length tests -/
def hmsFieldsC (hms : List Str) : Chk (Option (Str × Str × Str)) :=
  if hms.length = 2 then do
    let ps ← idx hms 1
    let pm ← idx hms 0
    pure (some ([], pm, ps))
  else if hms.length = 3 then do
    let ps ← idx hms 2
    let pm ← idx hms 1
    let ph ← idx hms 0
    pure (some (ph, pm, ps))
  else pure none

theorem hmsFieldsC_eq (hms : List Str) : hmsFieldsC hms = .ok (hmsFields hms) := by
  unfold hmsFieldsC hmsFields
  match hms with
  | [] => rfl
  | [_] => rfl
  | [_, _] => rfl
  | [_, _, _] => rfl
  | _ :: _ :: _ :: _ :: t =>
    rw [if_neg (by simp), if_neg (by simp)]
    rfl

/-- the arithmetic tail of `parseDuration` (no index site) -/
def finish (ms : Int) (f : Option (Str × Str × Str)) : Option Int :=
  match f with
  | none => none
  | some (ph, pm, ps) =>
    match atoi (trimSpace ps), atoi (trimSpace pm) with
    | some sec, some min =>
      let hours : Option Int := if ph.length > 0 then atoi (trimSpace ph) else some 0
      match hours with
      | some h => some (ms * nsPerMs + sec * nsPerS + min * nsPerMin + h * nsPerH)
      | none => none
    | _, _ => none

theorem parse_eq (i : Str) (sep : Char) (digits : Nat) :
    Duration.parse i sep digits =
      (match msPart i sep digits with
       | none => none
       | some (ms, s) => finish ms (hmsFields (splitC ':' (trimSpace s)))) := by
  unfold Duration.parse msPart finish hmsFields
  rfl

/-- **`parseDuration` with every index and slice expression checked** -/
def parseC (i : Str) (sep : Char) (digits : Nat) : Chk (Option Int) := do
  let r ← msPartC i sep digits
  match r with
  | none => pure none
  | some (ms, s) => do
    let f ← hmsFieldsC (splitC ':' (trimSpace s))
    pure (finish ms f)

theorem parseC_eq (i : Str) (sep : Char) (digits : Nat) : parseC i sep digits = .ok (Duration.parse i sep digits) := by
  unfold parseC
  rw [msPartC_eq, parse_eq]
  simp only [ok_bind]
  cases msPart i sep digits with
  | none => rfl
  | some p =>
    obtain ⟨ms, s⟩ := p
    simp only [hmsFieldsC_eq, ok_bind]
    rfl

/-- the length tests are necessary: the three-field indexing on a two-field string panics -/
theorem hms_unguarded_panics (hms : List Str) (h : hms.length < 3) : (idx hms 2).safe = false := by
  rw [idx_panics (by omega)]; rfl

example : parseC "00:01:02.5".toList '.' 3 = .ok (some 62500000000) := by decide_vector
example : parseC "1:2:3:4".toList '.' 3 = .ok none := by decide_vector

end Dur
end Tot
end Astisub
