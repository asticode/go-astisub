import Astisub.Lemmas.STLTti
import Astisub.Spec.STL

/-!
# Lemmas/STL2Tok — one abstract row machine for both readers of an open-subtitling row

The text field of a TTI block, as the writer emits it, is a sequence of *tokens*: a style code (0x80–0x85),
the bytes of a repertoire unit (a carried table character, or a floating diacritic followed by its letter),
or the padding byte 0x8F.  `absStep` is what one token does to "runs closed so far / pending text / current
style".  The independent decoder (`Spec.STL.openRow`) is shown to be this machine on token sequences
(`spec_row`); the model of the library's reader is tied to the machine by the state map `mst` and its step on a
style code (`model_code`), which is what `Lemmas/STLRead2Row.lean` needs to show that the reader follows the decoder
on every row the decoder accepts.  So everything that is proved about the machine afterwards holds for both.
-/

namespace Astisub
namespace C05
open Go STL

/-- the three STL style attributes of a run, as the readers keep them: unset, on, off
    (italics, underline, boxing) -/
abbrev O3 := Option Bool × Option Bool × Option Bool

/-- a run as both readers see it: trimmed text and style -/
abbrev Seg := Str × O3

inductive Tok where
  | code (c : Nat)
  | unit (u : Unit)
  | pad

def Tok.bytes : Tok → Bytes
  | .code c => [c]
  | .unit u => u.bytes
  | .pad => [0x8F]

def Tok.ok : Tok → Prop
  | .code c => isCode c
  | .unit u => RepUnit u
  | .pad => True

/-- the effect of a style code -/
def setO3 (s : O3) (c : Nat) : O3 :=
  if c = 0x80 then (some true, s.2.1, s.2.2)
  else if c = 0x81 then (some false, s.2.1, s.2.2)
  else if c = 0x82 then (s.1, some true, s.2.2)
  else if c = 0x83 then (s.1, some false, s.2.2)
  else if c = 0x84 then (s.1, s.2.1, some true)
  else if c = 0x85 then (s.1, s.2.1, some false)
  else s

/-- closing the pending text: a run, unless the text is blank -/
def close (t : Str) (s : O3) : List Seg := if trimSpace t = [] then [] else [(trimSpace t, s)]

theorem close_nil (s : O3) : close [] s = [] := rfl

/-- state of the abstract row machine: the runs closed so far, the pending text, the current style -/
structure AS where
  out : List Seg
  t : Str
  s : O3

def absStep (a : AS) : Tok → AS
  | .code c => { out := a.out ++ close a.t a.s, t := [], s := setO3 a.s c }
  | .unit u => { a with t := a.t ++ str u.text }
  | .pad => a

def absFold (a : AS) (ts : List Tok) : AS := ts.foldl absStep a

/-- the runs of the row once the last pending text is closed -/
def absEnd (a : AS) : List Seg := a.out ++ close a.t a.s

def AS.init : AS := { out := [], t := [], s := (none, none, none) }

theorem absFold_append (a : AS) (x y : List Tok) : absFold a (x ++ y) = absFold (absFold a x) y := by
  unfold absFold; rw [List.foldl_append]

theorem absFold_nil (a : AS) : absFold a [] = a := rfl
theorem absFold_cons (a : AS) (t : Tok) (ts : List Tok) : absFold a (t :: ts) = absFold (absStep a t) ts := rfl

theorem absFold_pads (a : AS) (k : Nat) : absFold a (List.replicate k Tok.pad) = a := by
  induction k with
  | zero => rfl
  | succ k ih => rw [List.replicate_succ, absFold_cons]; exact ih

theorem flatMap_pads (k : Nat) : (List.replicate k Tok.pad).flatMap Tok.bytes = List.replicate k 0x8F := by
  induction k with
  | zero => rfl
  | succ k ih => rw [List.replicate_succ, List.flatMap_cons, ih]; rfl

/-- the style triple as the library reader's style record (teletext attributes unset) -/
def lsty (s : O3) : LSty := { italics := s.1, underline := s.2.1, boxing := s.2.2 }

/-- the run the library's reader builds -/
def itemOf (g : Seg) : LItem := { text := g.1, attrs := some (mkAttrs (stlAttrs (lsty g.2))) }

/-- the library reader's row state that stands for the machine state `a`: no diacritic pending -/
def mst (a : AS) : RowSt := { items := a.out.map itemOf, text := a.t, sty := lsty a.s, acc := none, started := false }

theorem stlCode_lsty (s : O3) (c : Nat) (h : isCode c) : stlCode (lsty s) c = some (lsty (setO3 s c)) := by
  rcases isCode_cases h with rfl | rfl | rfl | rfl | rfl | rfl <;> rfl

theorem appendOpen_mst (a : AS) : appendOpen (mst a) = (a.out ++ close a.t a.s).map itemOf := by
  unfold appendOpen close mst
  simp only
  by_cases h : trimSpace a.t = []
  · simp [h]
  · simp [h, itemOf]

theorem model_code (a : AS) (c : Nat) (hc : isCode c) : openFold (mst a) [c] = some (mst (absStep a (.code c))) := by
  have hlo : ¬ c ≤ 0x1F := by unfold isCode at hc; omega
  have hstep : openStep (mst a) c = some (mst (absStep a (.code c))) := by
    unfold openStep
    have e : (mst a).sty = lsty a.s := rfl
    rw [if_neg hlo, e, stlCode_lsty a.s c hc]
    simp only
    by_cases ht : a.t = []
    · have e1 : (mst a).text = [] := ht
      rw [if_neg (by rw [e1]; exact fun h => h rfl)]
      simp [mst, absStep, ht, close_nil]
    · have e1 : (mst a).text ≠ [] := ht
      rw [if_pos e1, appendOpen_mst]
      simp [mst, absStep]
  simp only [openFold, hstep]

/-- the style triple as the independent decoder's style record -/
def ssty (s : O3) : Spec.STL.Sty := { italic := s.1, underline := s.2.1, boxing := s.2.2 }

/-- the run the independent decoder denotes -/
def runOf (g : Seg) : Spec.STL.Run := { text := g.1, italic := g.2.1, underline := g.2.2.1, boxing := g.2.2.2 }

/-- the three style flags of a decoder run, with its text -/
def segOf (r : Spec.STL.Run) : Seg := (r.text, r.italic, r.underline, r.boxing)

theorem segOf_runOf (g : Seg) : segOf (runOf g) = g := rfl

theorem styCode_ssty (s : O3) (c : Nat) (h : isCode c) : Spec.STL.styCode (ssty s) c = some (ssty (setO3 s c)) := by
  rcases isCode_cases h with rfl | rfl | rfl | rfl | rfl | rfl <;> rfl

theorem styCode_none (s : Spec.STL.Sty) (v : Nat) (h : ¬ (0x80 ≤ v ∧ v ≤ 0x85)) : Spec.STL.styCode s v = none := by
  unfold Spec.STL.styCode
  split <;> first | omega | rfl

theorem mkRun_close (t : Str) (s : O3) : (Spec.STL.mkRun (ssty s) t false).toList = (close t s).map runOf := by
  unfold Spec.STL.mkRun close
  by_cases h : trimSpace t = []
  · simp [h]
  · simp [h, runOf, ssty]

theorem carried_spec {e : Nat × List Nat} (he : e ∈ carried) : Spec.STL.isDia e.1 = false ∧ Spec.STL.tab e.1 = some e.2 := by
  refine ⟨?_, carried_get he⟩
  have hacc := carried_not_accent he
  unfold isAccentByte at hacc
  unfold Spec.STL.isDia
  simp only [Bool.and_eq_false_iff, decide_eq_false_iff_not] at hacc ⊢
  omega

theorem accents_spec : ∀ a ∈ accents, (a != 0x8F && Spec.STL.isDia a) = true := by decide +kernel
theorem letters_spec : ∀ l ∈ letters, Spec.STL.isLetter l = true := by decide

theorem spec_openRow_cons (v : Nat) (rest : Bytes) (s : Spec.STL.Sty) (t : Str) (acc : List Spec.STL.Run) :
    Spec.STL.openRow (v :: rest) s t acc =
      if v == 0x8F then Spec.STL.openRow rest s t acc
      else match Spec.STL.styCode s v with
        | some s' => Spec.STL.openRow rest s' [] (acc ++ (Spec.STL.mkRun s t false).toList)
        | none =>
          if Spec.STL.isDia v then
            match rest with
            | k :: rest' =>
              if Spec.STL.isLetter k then Spec.STL.openRow rest' s (t ++ (Spec.STL.compose k v).map Char.ofNat) acc else none
            | [] => none
          else match Spec.STL.tab v with
            | some cps => if v < 0x20 then none else Spec.STL.openRow rest s (t ++ cps.map Char.ofNat) acc
            | none => none := by
  cases rest with
  | nil => rw [Spec.STL.openRow.eq_3]; rfl
  | cons k r => rw [Spec.STL.openRow.eq_2]; rfl

theorem spec_tok (a : AS) (tok : Tok) (h : tok.ok) (rest : Bytes) :
    Spec.STL.openRow (tok.bytes ++ rest) (ssty a.s) a.t (a.out.map runOf)
      = Spec.STL.openRow rest (ssty (absStep a tok).s) (absStep a tok).t ((absStep a tok).out.map runOf) := by
  cases tok with
  | code c =>
    have hc : isCode c := h
    have h8f : (c == 0x8F) = false := by unfold isCode at hc; simp; omega
    simp only [Tok.bytes, List.cons_append, List.nil_append]
    rw [spec_openRow_cons]
    simp only [h8f, Bool.false_eq_true, if_false, styCode_ssty a.s c hc, mkRun_close]
    simp [absStep]
  | unit u =>
    have hu : RepUnit u := h
    cases hu with
    | ch e he =>
      obtain ⟨h2, h3⟩ := carried_spec he
      have hb := carried_tableByte e he
      have h8f : (e.1 == 0x8F) = false := by unfold tableByte at hb; simp; omega
      have h4 : ¬ e.1 < 0x20 := by unfold tableByte at hb; omega
      have hnc : Spec.STL.styCode (ssty a.s) e.1 = none := styCode_none _ _ (by unfold tableByte at hb; omega)
      simp only [Tok.bytes, charUnit, List.cons_append, List.nil_append]
      rw [spec_openRow_cons]
      simp only [h8f, Bool.false_eq_true, if_false, hnc, h2, h3, h4]
      simp [absStep, str]
    | acc ac l ha hl =>
      have hs := accents_spec ac ha
      simp only [Bool.and_eq_true, bne_iff_ne, ne_eq] at hs
      obtain ⟨h1, h2⟩ := hs
      have hb := accents_tableByte ac ha
      have h8f : (ac == 0x8F) = false := by simpa using h1
      have hnc : Spec.STL.styCode (ssty a.s) ac = none := styCode_none _ _ (by unfold tableByte at hb; omega)
      have hl' := letters_spec l hl
      have hcomp : Spec.STL.compose l ac = nfcPair l ac := rfl
      simp only [Tok.bytes, accentUnit, List.cons_append, List.nil_append]
      rw [spec_openRow_cons]
      simp only [h8f, Bool.false_eq_true, if_false, hnc, h2, if_true, hl', hcomp]
      simp [absStep, str]
  | pad =>
    simp only [Tok.bytes, List.cons_append, List.nil_append]
    rw [spec_openRow_cons]
    simp [absStep]

theorem spec_toks (ts : List Tok) (h : ∀ t ∈ ts, t.ok) (a : AS) (rest : Bytes) :
    Spec.STL.openRow (ts.flatMap Tok.bytes ++ rest) (ssty a.s) a.t (a.out.map runOf)
      = Spec.STL.openRow rest (ssty (absFold a ts).s) (absFold a ts).t ((absFold a ts).out.map runOf) := by
  induction ts generalizing a with
  | nil => rfl
  | cons t ts ih =>
    rw [List.flatMap_cons, List.append_assoc, spec_tok a t (h t (by simp)), ih (fun x hx => h x (by simp [hx])), absFold_cons]

theorem spec_row (ts : List Tok) (h : ∀ t ∈ ts, t.ok) :
    Spec.STL.openRow (ts.flatMap Tok.bytes) {} [] [] = some ((absEnd (absFold AS.init ts)).map runOf) := by
  have := spec_toks ts h AS.init []
  rw [List.append_nil] at this
  have e : Spec.STL.openRow (ts.flatMap Tok.bytes) {} [] [] =
      Spec.STL.openRow (ts.flatMap Tok.bytes) (ssty AS.init.s) AS.init.t (AS.init.out.map runOf) := rfl
  rw [e, this, Spec.STL.openRow, mkRun_close]
  simp [absEnd]

end C05
end Astisub
