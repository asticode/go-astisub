import Astisub.Props.C01

/-!
# Lemmas/SRTStr — the `-->` scanner

`strings.Contains(s, "-->")` as a three-state automaton (`scanArrow`/`arrowEnd`) that composes over
concatenation; HTML escaping is invisible to it.  `escapeHTML` over `++` and `[]`, for SubRip and WebVTT.
-/

namespace Astisub
namespace Go
open List

theorem escape_append (a b : Str) : SRT.escapeHTML (a ++ b) = SRT.escapeHTML a ++ SRT.escapeHTML b := by
  rw [C01.escape_eq_flatMap, C01.escape_eq_flatMap, C01.escape_eq_flatMap, flatMap_append]

theorem escape_nil : SRT.escapeHTML [] = [] := by
  rw [C01.escape_eq_flatMap]; rfl

/-- scan for "-->" having just seen `q` dashes (2 = two or more); `true` = found -/
def scanArrow : Nat → Str → Bool
  | _, [] => false
  | q, c :: cs =>
    if c = '-' then scanArrow (if q = 0 then 1 else 2) cs
    else if c = '>' ∧ 2 ≤ q then true
    else scanArrow 0 cs

/-- the state after the scan (meaningful when nothing was found) -/
def arrowEnd : Nat → Str → Nat
  | q, [] => q
  | q, c :: cs =>
    if c = '-' then arrowEnd (if q = 0 then 1 else 2) cs
    else arrowEnd 0 cs

@[simp] theorem scanArrow_nil (q : Nat) : scanArrow q [] = false := by simp [scanArrow]
@[simp] theorem arrowEnd_nil (q : Nat) : arrowEnd q [] = q := by simp [arrowEnd]

theorem scanArrow_dash (q : Nat) (cs : Str) :
    scanArrow q ('-' :: cs) = scanArrow (if q = 0 then 1 else 2) cs := by
  simp [scanArrow]

theorem scanArrow_gt (q : Nat) (cs : Str) :
    scanArrow q ('>' :: cs) = (decide (2 ≤ q) || scanArrow 0 cs) := by
  by_cases h : 2 ≤ q <;> simp [scanArrow, h]

theorem scanArrow_other (q : Nat) {c : Char} (cs : Str) (h1 : c ≠ '-') (h2 : c ≠ '>') :
    scanArrow q (c :: cs) = scanArrow 0 cs := by
  simp [scanArrow, h1, h2]

theorem arrowEnd_dash (q : Nat) (cs : Str) :
    arrowEnd q ('-' :: cs) = arrowEnd (if q = 0 then 1 else 2) cs := by
  simp [arrowEnd]

theorem arrowEnd_other (q : Nat) {c : Char} (cs : Str) (h1 : c ≠ '-') :
    arrowEnd q (c :: cs) = arrowEnd 0 cs := by
  simp [arrowEnd, h1]

theorem scanArrow_ge2 (q : Nat) (s : Str) (h : 2 ≤ q) : scanArrow q s = scanArrow 2 s := by
  cases s with
  | nil => simp
  | cons c cs =>
    have h0 : q ≠ 0 := by omega
    simp [scanArrow, h, h0]

theorem contains_arrow_aux (s : Str) :
    scanArrow 0 s = contains "-->".toList s ∧
    scanArrow 1 s = (hasPrefix "->".toList s || contains "-->".toList s) ∧
    scanArrow 2 s = (hasPrefix ">".toList s || hasPrefix "->".toList s || contains "-->".toList s) := by
  induction s with
  | nil => simp [scanArrow, contains, hasPrefix, dropPrefix?]
  | cons c cs ih =>
    obtain ⟨ih0, ih1, ih2⟩ := ih
    by_cases h1 : c = '-'
    · subst h1
      simp [scanArrow, contains, hasPrefix, dropPrefix?] at ih0 ih1 ih2 ⊢
      simp [ih1, ih2, Bool.or_assoc]
    · by_cases h2 : c = '>'
      · subst h2
        simp [scanArrow, contains, hasPrefix, dropPrefix?] at ih0 ih1 ih2 ⊢
        simp [ih0]
      · have h1' : ¬ '-' = c := fun e => h1 e.symm
        have h2' : ¬ '>' = c := fun e => h2 e.symm
        simp [scanArrow, contains, hasPrefix, dropPrefix?, h1, h2, h1', h2'] at ih0 ih1 ih2 ⊢
        simp [ih0]

theorem contains_arrow_eq (s : Str) : contains "-->".toList s = scanArrow 0 s :=
  (contains_arrow_aux s).1.symm

theorem scanArrow_one_eq (s : Str) :
    scanArrow 1 s = (hasPrefix "->".toList s || contains "-->".toList s) :=
  (contains_arrow_aux s).2.1

theorem scanArrow_two_eq (s : Str) :
    scanArrow 2 s = (hasPrefix ">".toList s || hasPrefix "->".toList s || contains "-->".toList s) :=
  (contains_arrow_aux s).2.2

theorem scanArrow_append (q : Nat) (a b : Str) :
    scanArrow q (a ++ b) = (scanArrow q a || scanArrow (arrowEnd q a) b) := by
  induction a generalizing q with
  | nil => simp
  | cons c cs ih =>
    by_cases h1 : c = '-'
    · simp [scanArrow, arrowEnd, h1, ih]
    · by_cases h2 : c = '>' ∧ 2 ≤ q
      · simp [scanArrow, h2]
      · simp [scanArrow, arrowEnd, h1, h2, ih]

theorem arrowEnd_append (q : Nat) (a b : Str) :
    arrowEnd q (a ++ b) = arrowEnd (arrowEnd q a) b := by
  induction a generalizing q with
  | nil => simp
  | cons c cs ih =>
    by_cases h1 : c = '-'
    · simp [arrowEnd, h1, ih]
    · simp [arrowEnd, h1, ih]

theorem scanArrow_no_gt (q : Nat) (a : Str) (h : '>' ∉ a) : scanArrow q a = false := by
  induction a generalizing q with
  | nil => simp
  | cons c cs ih =>
    have hc : ¬ c = '>' := fun e => h (by simp [e])
    have hcs : '>' ∉ cs := fun e => h (by simp [e])
    by_cases h1 : c = '-'
    · simp [scanArrow, h1, ih _ hcs]
    · simp [scanArrow, h1, hc, ih _ hcs]

theorem scanArrow_zero_no_dash (a : Str) (h : '-' ∉ a) : scanArrow 0 a = false := by
  induction a with
  | nil => simp
  | cons c cs ih =>
    have hc : ¬ c = '-' := fun e => h (by simp [e])
    have hcs : '-' ∉ cs := fun e => h (by simp [e])
    simp [scanArrow, hc, ih hcs]

theorem scanArrow_no_dash (q : Nat) (a : Str) (h : '-' ∉ a) :
    scanArrow q a = (decide (2 ≤ q) && a.head? == some '>') := by
  cases a with
  | nil => simp
  | cons c cs =>
    have hc : ¬ c = '-' := fun e => h (by simp [e])
    have hcs : '-' ∉ cs := fun e => h (by simp [e])
    by_cases h2 : c = '>'
    · subst h2
      rw [scanArrow_gt, scanArrow_zero_no_dash cs hcs]
      simp
    · rw [scanArrow_other q cs hc h2, scanArrow_zero_no_dash cs hcs]
      simp [h2]

theorem scanArrow_no_dash_head (q : Nat) (a : Str) (h : '-' ∉ a) (hh : a.head? ≠ some '>') :
    scanArrow q a = false := by
  rw [scanArrow_no_dash q a h]
  simp [hh]

theorem arrowEnd_snoc (q : Nat) (a : Str) (c : Char) (h : c ≠ '-') : arrowEnd q (a ++ [c]) = 0 := by
  rw [arrowEnd_append, arrowEnd_other _ _ h, arrowEnd_nil]

theorem arrowEnd_snoc_dash (q : Nat) (a : Str) :
    arrowEnd q (a ++ ['-']) = (if arrowEnd q a = 0 then 1 else 2) := by
  rw [arrowEnd_append, arrowEnd_dash, arrowEnd_nil]

theorem arrowEnd_no_dash_last (q : Nat) (a : Str) (hne : a ≠ []) (hl : a.getLast? ≠ some '-') :
    arrowEnd q a = 0 := by
  cases hg : a.getLast? with
  | none => exact absurd (by simpa using hg) hne
  | some c =>
    obtain ⟨pre, hpre⟩ := List.getLast?_eq_some_iff.mp hg
    have hc : c ≠ '-' := fun e => hl (by rw [hg, e])
    rw [hpre]
    exact arrowEnd_snoc q pre c hc

theorem arrowEnd_no_dash (q : Nat) (a : Str) (hne : a ≠ []) (h : '-' ∉ a) : arrowEnd q a = 0 := by
  apply arrowEnd_no_dash_last q a hne
  intro hg
  exact h (List.mem_of_getLast? hg)

theorem arrowEnd_le2 (q : Nat) (a : Str) (h : q ≤ 2) : arrowEnd q a ≤ 2 := by
  induction a generalizing q with
  | nil => simpa using h
  | cons c cs ih =>
    by_cases h1 : c = '-'
    · rw [h1, arrowEnd_dash]; apply ih; split <;> omega
    · rw [arrowEnd_other _ _ h1]; exact ih 0 (by omega)

theorem scanArrow_esc1 (q : Nat) (c : Char) (rest : Str) :
    scanArrow q (C01.esc1 c ++ rest) = scanArrow q (c :: rest) := by
  unfold C01.esc1
  by_cases h1 : c = '&'
  · subst h1; simp [scanArrow]
  · by_cases h2 : c = '<'
    · subst h2; simp [scanArrow]
    · by_cases h3 : c = C01.nbsp
      · subst h3; simp [scanArrow, C01.nbsp]
      · simp [h1, h2, h3]

theorem arrowEnd_esc1 (q : Nat) (c : Char) (rest : Str) :
    arrowEnd q (C01.esc1 c ++ rest) = arrowEnd q (c :: rest) := by
  unfold C01.esc1
  by_cases h1 : c = '&'
  · subst h1; simp [arrowEnd]
  · by_cases h2 : c = '<'
    · subst h2; simp [arrowEnd]
    · by_cases h3 : c = C01.nbsp
      · subst h3; simp [arrowEnd, C01.nbsp]
      · simp [h1, h2, h3]

theorem escapeHTML_cons (c : Char) (t : Str) :
    SRT.escapeHTML (c :: t) = C01.esc1 c ++ SRT.escapeHTML t := by
  simp [C01.escape_eq_flatMap]

theorem scanArrow_escape (q : Nat) (t rest : Str) :
    scanArrow q (SRT.escapeHTML t ++ rest) = scanArrow q (t ++ rest) := by
  induction t generalizing q with
  | nil => simp [C01.escape_eq_flatMap]
  | cons c cs ih =>
    rw [escapeHTML_cons, List.append_assoc, scanArrow_esc1, List.cons_append]
    by_cases h1 : c = '-'
    · simp [scanArrow, h1, ih]
    · by_cases h2 : c = '>' ∧ 2 ≤ q
      · simp [scanArrow, h2]
      · simp [scanArrow, h1, h2, ih]

theorem arrowEnd_escape_append (q : Nat) (t rest : Str) :
    arrowEnd q (SRT.escapeHTML t ++ rest) = arrowEnd q (t ++ rest) := by
  induction t generalizing q with
  | nil => simp [C01.escape_eq_flatMap]
  | cons c cs ih =>
    rw [escapeHTML_cons, List.append_assoc, arrowEnd_esc1, List.cons_append]
    by_cases h1 : c = '-'
    · simp [arrowEnd, h1, ih]
    · simp [arrowEnd, h1, ih]

theorem arrowEnd_escape (q : Nat) (t : Str) : arrowEnd q (SRT.escapeHTML t) = arrowEnd q t := by
  have h := arrowEnd_escape_append q t []
  simpa using h

end Go
end Astisub
