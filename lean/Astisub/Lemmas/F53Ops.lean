import Astisub.Lemmas.F53Round
import Astisub.Props.C15

/-!
# Lemmas/F53Ops — the operations of the binary64 model on values

Each arithmetic operation of `Go.Float53` computes the exact rational result and then applies
`Dy.round`; with `round_val` this gives `val (op x y) = rnd (val x ∘ val y)`. `Dy.trunc` is `C15.tr`.
The file also defines the three further operations `Go.Dy.floor`, `Go.Dy.add`, `Go.Dy.lt` that the timestamp
writers need, next to the lemmas that tie them to `⌊·⌋`, `rnd (· + ·)` and `<` on values.
-/

namespace Astisub
namespace F53
open Go

theorem ofInt_val (n : ℤ) : (Dy.ofInt n).val = rnd (n : ℚ) := by
  unfold Dy.ofInt
  rw [round_val, val_mk]; simp

theorem mul_val (x y : Dy) : (Dy.mul x y).val = rnd (x.val * y.val) := by
  unfold Dy.mul
  rw [round_val, val_mk]
  unfold Dy.val
  rw [p2_add]; push_cast; ring_nf

theorem val_common (x : Dy) (e : ℤ) (he : e ≤ x.e) :
    x.val = ((x.m * (2 : ℤ) ^ (x.e - e).toNat : ℤ) : ℚ) * 2 ^ e := by
  obtain ⟨k, hk⟩ : ∃ k : ℕ, x.e - e = (k : ℤ) := ⟨(x.e - e).toNat, by omega⟩
  have hk' : (x.e - e).toNat = k := by omega
  have hxe : x.e = (k : ℤ) + e := by omega
  unfold Dy.val
  rw [hk', hxe, p2_add, zpow_natCast]
  push_cast; ring

theorem sub_exact (x y : Dy) :
    (Dy.mk (x.m * (2 : ℤ) ^ (x.e - min x.e y.e).toNat - y.m * (2 : ℤ) ^ (y.e - min x.e y.e).toNat)
        (min x.e y.e)).val = x.val - y.val := by
  rw [val_mk, val_common x _ (min_le_left _ _), val_common y _ (min_le_right _ _)]
  push_cast; ring

theorem sub_val (x y : Dy) : (Dy.sub x y).val = rnd (x.val - y.val) := by
  unfold Dy.sub
  simp only []
  rw [round_val, sub_exact]

theorem tr_intCast (z : ℤ) : C15.tr (z : ℚ) = z := by
  unfold C15.tr; split <;> simp

theorem val_nat_exp {x : Dy} {k : ℕ} (hk : x.e = (k : ℤ)) : x.val = ((x.m * 2 ^ k : ℤ) : ℚ) := by
  unfold Dy.val; rw [hk, zpow_natCast]; push_cast; ring

theorem val_neg_exp {x : Dy} {k : ℕ} (hk : x.e = -(k : ℤ)) : x.val = (x.m : ℚ) / ((2 ^ k : ℕ) : ℚ) := by
  unfold Dy.val; rw [hk, zpow_neg, zpow_natCast]; push_cast; ring

theorem tr_natCast_div (a b : ℕ) : C15.tr ((a : ℚ) / (b : ℚ)) = ((a / b : ℕ) : ℤ) := by
  unfold C15.tr
  rw [if_pos (by positivity), ← Int.cast_natCast a, Rat.floor_intCast_div_natCast]
  push_cast; rfl

theorem trunc_val (x : Dy) : x.trunc = C15.tr x.val := by
  unfold Dy.trunc
  by_cases he : x.e ≥ 0
  · simp only [he, ↓reduceIte]
    obtain ⟨k, hk⟩ : ∃ k : ℕ, x.e = (k : ℤ) := ⟨x.e.toNat, by omega⟩
    rw [val_nat_exp hk, tr_intCast, hk]; simp
  · simp only [he, ↓reduceIte]
    obtain ⟨k, hk⟩ : ∃ k : ℕ, x.e = -(k : ℤ) := ⟨(-x.e).toNat, by omega⟩
    rw [show (-x.e).toNat = k by omega, val_neg_exp hk, cast_natAbs_sign x.m]
    by_cases hneg : x.m < 0 <;> simp only [hneg, ↓reduceIte]
    · rw [neg_div, C15.tr_neg, tr_natCast_div]
    · rw [tr_natCast_div]

end F53

/-! `Go/Float53.lean` has `round`, `ofInt`, `mul`, `sub`, `div`, `trunc`. The timestamp writers of
`subtitles.go` / `stl.go` additionally use `math.Floor`, float addition (`time.Duration.Hours()`
is `float64(hour) + float64(nsec)/(60*60*1e9)`) and a float comparison (`d.Hours() < 10`). They are
defined here, executable and in integer arithmetic like the rest of the model, and proved to be
what IEEE-754 prescribes (`floor_val`, `add_val`, `lt_val`). -/

namespace Go

/-- `math.Floor(x)` as an integer (the result of `math.Floor` is an integer-valued double; every
    caller in the package converts or prints it as an integer). Lean's `/` on `Int` with a
    positive divisor is the floor division. -/
def Dy.floor (x : Dy) : Int :=
  if x.e ≥ 0 then x.m * (2 : Int) ^ x.e.toNat else x.m / (2 : Int) ^ (-x.e).toNat

/-- `x + y`: exact sum on the common exponent, then rounded (same scheme as `Dy.sub`) -/
def Dy.add (x y : Dy) : Dy :=
  let e := min x.e y.e
  Dy.round { m := x.m * (2 : Int) ^ (x.e - e).toNat + y.m * (2 : Int) ^ (y.e - e).toNat, e := e }

/-- `x < y` on doubles: compare the significands on the common exponent -/
def Dy.lt (x y : Dy) : Bool :=
  let e := min x.e y.e
  decide (x.m * (2 : Int) ^ (x.e - e).toNat < y.m * (2 : Int) ^ (y.e - e).toNat)

end Go

namespace F53
open Go

theorem floor_val (x : Dy) : x.floor = ⌊x.val⌋ := by
  unfold Dy.floor
  split
  · obtain ⟨k, hk⟩ : ∃ k : ℕ, x.e = (k : ℤ) := ⟨x.e.toNat, by omega⟩
    rw [val_nat_exp hk, Int.floor_intCast, hk]; simp
  · obtain ⟨k, hk⟩ : ∃ k : ℕ, x.e = -(k : ℤ) := ⟨(-x.e).toNat, by omega⟩
    rw [val_neg_exp hk, Rat.floor_intCast_div_natCast, show (-x.e).toNat = k by omega]
    push_cast; rfl

theorem floor_ofInt (n : ℤ) (h : |n| ≤ 2 ^ 53) : (Dy.ofInt n).floor = n := by
  rw [floor_val, ofInt_val, rnd_int n h, Int.floor_intCast]

theorem add_eq_sub_neg (x y : Dy) : Dy.add x y = Dy.sub x ⟨-y.m, y.e⟩ := by
  unfold Dy.add Dy.sub
  simp only [Int.neg_mul, Int.sub_neg]

theorem val_neg_m (y : Dy) : (Dy.mk (-y.m) y.e).val = -y.val := by
  unfold Dy.val; push_cast; ring

theorem add_val (x y : Dy) : (Dy.add x y).val = rnd (x.val + y.val) := by
  rw [add_eq_sub_neg, sub_val, val_neg_m, sub_neg_eq_add]

theorem lt_val (x y : Dy) : Dy.lt x y = true ↔ x.val < y.val := by
  unfold Dy.lt
  simp only [decide_eq_true_eq]
  have hp := p2_pos (min x.e y.e)
  rw [val_common x (min x.e y.e) (min_le_left _ _), val_common y (min x.e y.e) (min_le_right _ _)]
  rw [mul_lt_mul_iff_of_pos_right hp]
  exact Int.cast_lt.symm

end F53
end Astisub
