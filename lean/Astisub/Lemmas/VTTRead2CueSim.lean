import Astisub.Lemmas.VTTRead2Cue

/-!
# Lemmas/VTTRead2CueSim — a cue block of the decoder is read as the same cue by the reader's loop

Main statement: `sim_cue` (a cue block keeps the relation `R2`), from `sim_cue_core` (timing line and text) and
`cueId_facts` (identifier line).
-/

namespace Astisub
namespace VTTRead
open Go Spec.VTT
open VTT (St step run Block)

theorem splitOn_arrow_head {t l : Str} {rest : List Str} (h : splitOn Spec.VTT.arrow t = l :: rest) :
    ∃ k, l = t.take k := by
  obtain ⟨k, tail, e⟩ := splitOn_head (sep := Spec.VTT.arrow) (by decide) t
  exact ⟨k, (List.cons.inj (h.symm.trans e)).1⟩

theorem timing_head_digit {t l r : Str} {s : Nat} (hb : BLine t) (hsp : splitOn Spec.VTT.arrow t = [l, r])
    (ht : timeMs l = some s) : ∃ c tl, t = c :: tl ∧ isDig c = true := by
  obtain ⟨k, hk⟩ := splitOn_arrow_head hsp
  obtain ⟨c, r', htr, hc⟩ := timeMs_head_digit l s ht
  cases t with
  | nil => exact absurd rfl hb.2
  | cons c0 tl0 =>
    have hc0 : isSpace c0 = false := (trimmed_of_bline hb).1 c0 rfl
    cases k with
    | zero =>
      simp only [List.take_zero] at hk
      subst hk
      simp [trimSpace, trimLeft, trimRight] at htr
    | succ k' =>
      simp only [List.take_succ_cons] at hk
      obtain ⟨a, b', hd, ha, _⟩ := trimSpace_decomp l
      rw [htr, hk] at hd
      cases a with
      | nil =>
        simp only [List.nil_append, List.cons_append, List.cons.injEq] at hd
        refine ⟨c0, tl0, rfl, ?_⟩
        rw [hd.1]; exact hc
      | cons x xs =>
        simp only [List.cons_append, List.cons.injEq] at hd
        have := ha x (by simp)
        rw [← hd.1, hc0] at this
        cases this

theorem atoiLoose_unsigned (l : Str) (h : ∀ c r, l = c :: r → c ≠ '-' ∧ c ≠ '+') :
    atoiLoose l = match parseDigits l with
      | some v => if v ≤ int64Max then (v : Int) else (int64Max : Int)
      | none => atoiGarbage false l := by
  unfold atoiLoose
  split
  · rename_i r; exact absurd rfl (h '-' r rfl).1
  · rename_i r; exact absurd rfl (h '+' r rfl).2
  · rfl

theorem cueId_facts {l : Str} {id : Int} (h : cueId l = some id) : opener l = false ∧ atoiLoose l = id := by
  unfold cueId at h
  cases ho : opener l with
  | true => rw [ho] at h; simp at h
  | false =>
    rw [ho] at h
    simp only [Bool.false_eq_true, if_false] at h
    refine ⟨rfl, ?_⟩
    cases hn : natOf l with
    | some n =>
      rw [hn] at h
      simp only at h
      by_cases hlt : n < 2 ^ 62
      · rw [if_pos hlt] at h
        cases h
        exact atoiLoose_of_atoi ((Spec.SRT.natOf_iff_numeral.mp hn).atoi (by unfold int64Max; omega))
      · rw [if_neg hlt] at h; cases h
    | none =>
      rw [hn] at h
      simp only at h
      have hpd : parseDigits l = none := by
        cases hp : parseDigits l with
        | none => rfl
        | some v => exact absurd ((Spec.SRT.natOf_eq_some_iff.mpr (parseDigits_eq_some_iff.mp hp)).symm.trans hn) (by simp)
      cases l with
      | nil =>
        simp only [Option.some.injEq] at h
        rw [← h]; rfl
      | cons c r =>
        simp only at h
        by_cases hs : (c = '+' ∨ c = '-')
        · have : (decide (c = '+') || decide (c = '-')) = true := by simpa using hs
          rw [if_pos this] at h; cases h
        · have : ¬ (decide (c = '+') || decide (c = '-')) = true := by simpa using hs
          rw [if_neg this] at h
          by_cases hg : Go.uint64Max < Go.leadVal (c :: r) 0
          · rw [if_pos hg] at h; cases h
          · rw [if_neg hg] at h
            simp only [Option.some.injEq] at h
            rw [atoiLoose_unsigned _ (by
              intro c' r' e
              simp only [List.cons.injEq] at e
              rw [← e.1]
              exact ⟨fun x => hs (Or.inr x), fun x => hs (Or.inl x)⟩), hpd]
            simp only [atoiGarbage, if_neg hg]
            exact h

theorem flush_append (st : St) (c : CItem) :
    VTT.flush { st with done := VTT.flush st, cur := c, curListed := true } = VTT.flush st ++ [c] := by
  simp [VTT.flush]

theorem normCue_mkCue_congr (ds : DocSt) (id : Int) (s en : Nat) (a : Settings) (pl lines : List GLine)
    (h : pl.map normLine = (lines.map zeroTsLine).map normLine) :
    normCue (mkCue ds id s en a pl) = normCue (zeroTsCue (mkCue ds id s en a lines)) := by
  unfold normCue zeroTsCue mkCue
  simp only
  rw [h]

/-- from the timing line on, in the reader's state after the identifier line (if any) -/
theorem sim_cue_core {ok : Str → Bool} (T : TextLayer2 ok) {ds ds' : DocSt} {ms : St} (hR2 : R2 ds ms) (hB : Between ms)
    (id : Int) (timing : Str) (text : List Str)
    (hbt : BLine timing) (hbx : ∀ x ∈ text, BLine x ∧ ok x = true)
    (hat : contains Spec.VTT.arrow timing = true) (hcore : cueCore ds id timing text = some ds') :
    GoodRun (run { ms with index := id } ((timing :: text).map some)) ds' := by
  obtain ⟨l, r, e, sets, s, en, a, lines, hp⟩ := cueCore_inv hcore
  obtain rfl := hp.eq
  obtain ⟨cs, hR, hc⟩ := hR2
  have htx : ∀ x ∈ text, BLine x ∧ ok x = true ∧ contains Spec.VTT.arrow x = false := fun x hx =>
    ⟨(hbx x hx).1, (hbx x hx).2, by simpa using List.any_eq_false.mp hp.noArrow x hx⟩
  obtain ⟨c, tl, hct, hdig⟩ := timing_head_digit hbt hp.split hp.start
  obtain ⟨d1, d2, d3, d4, _⟩ := VTT.digit_line_tests c tl hdig
  rw [← hct] at d1 d2 d3 d4
  have hnt : noteTest timing = false := by
    unfold noteTest
    rw [d2, Bool.or_false, decide_eq_false (by rw [d1]; exact fun x => x)]
  have hb1 : VTT.settings ms.regions sets {} = some (toAcc a) :=
    settings_of_cueSettings ds.regions ms.regions hR.regions sets {} a hp.settings
  simp only [List.map_cons, run]
  rw [step_timing { ms with index := id } timing l r e sets [] hbt.1 hbt.2 hnt d3 d4 (by rw [arrow_eq_spec]; exact hat)
    (by rw [arrow_eq_spec]; exact hp.split) hp.words]
  by_cases hsm : (!VTT.smallNumbers l || !VTT.smallNumbers e) = true
  · left; rw [if_pos hsm]
  · rw [if_neg hsm, parseVTT_of_timeMs l s hp.start, parseVTT_of_timeMs e en hp.stop]
    simp only [hb1]
    rcases run_text_lines T text [] lines
      { ms with done := VTT.flush ms,
                cur := { index := id, startAt := (s : Int) * 1000000, endAt := (en : Int) * 1000000,
                         region := a.region, comments := ms.comments, lines := [],
                         attrs := some (mkAttrs [("WebVTTAlign", optStr a.align), ("WebVTTLine", optStr a.line),
                           ("WebVTTPosition", optStr a.position), ("WebVTTSize", optStr a.size),
                           ("WebVTTVertical", optStr a.vertical)]) },
                curListed := true, block := .text, index := 0, comments := [] }
      rfl (by rw [List.map_nil]; exact hB.2) T.good_nil htx hp.decoded with hrun | ⟨rl, tags', hlr, hrun⟩
    · left; exact hrun
    · right
      refine ⟨_, hrun, cs ++ [mkCue ds id s en a (rl.map zeroTsLine)],
        { hR with cues := ?_, comments := rfl, index := rfl, fresh := fun hc => by cases hc }, ?_⟩
      · show mapM cueView (VTT.flush ms ++ [_]) = _
        rw [List.map_append]
        apply Spec.VTT.isMapM.snoc hR.cues
        simp only [List.nil_append]
        rw [hR.comments]
        exact cueView_built id s en a ds.comments (keptLines rl) (rl.map zeroTsLine) (mapM_keptLines rl hlr.1)
      · simp only [List.map_append, List.map_cons, List.map_nil]
        rw [hc, normCue_mkCue_congr ds id s en a _ lines hlr.2]

theorem sim_cue {ok : Str → Bool} (T : TextLayer2 ok) {ds ds' : DocSt} {ms : St} (hR2 : R2 ds ms) (hB : Between ms)
    (b : List Str) (id : Int) (timing : Str) (text : List Str) (hl : ∀ l ∈ b, BLine l) (hok : ∀ l ∈ text, ok l = true)
    (hp : partsOf b = some (id, timing, text)) (hcore : cueCore ds id timing text = some ds') :
    GoodRun (run ms (b.map some)) ds' := by
  obtain ⟨hat, hshape⟩ := partsOf_inv hp
  rcases hshape with ⟨hb, hid⟩ | ⟨l1, hb, ha1, hcid⟩
  · subst hb; subst hid
    -- no identifier line: the index is still 0
    have hidx : ms.index = 0 := by obtain ⟨_, hR, _⟩ := hR2; exact hR.index
    have e0 : ({ ms with index := 0 } : St) = ms := by
      cases ms; simp only at hidx; subst hidx; rfl
    have hsim := sim_cue_core T hR2 hB 0 timing text
      (hl timing (by simp)) (fun x hx => ⟨hl x (by simp [hx]), hok x hx⟩) hat hcore
    rwa [e0] at hsim
  · subst hb
    obtain ⟨hop, hal⟩ := cueId_facts hcid
    obtain ⟨o1, o2, o3, o4⟩ := opener_false hop
    have hb1 := hl l1 (by simp)
    rw [List.map_cons, run, step_id ms l1 hb1.1 hb1.2 hB.1 o1 o3 o2 o4 (by rw [arrow_eq_spec]; exact ha1), hal]
    exact sim_cue_core T hR2 hB id timing text
      (hl timing (by simp)) (fun x hx => ⟨hl x (by simp [hx]), hok x hx⟩) hat hcore

end VTTRead
end Astisub
