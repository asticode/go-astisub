import Astisub.Lemmas.VTT3Layer
import Astisub.Lemmas.VTT3WText
import Astisub.Lemmas.VTT3WDoc
import Astisub.Lemmas.VTT3WView

/-!
# Lemmas/VTT3W — W2 assembled: the independent decoder accepts what the writer model produces and denotes
what the check expects

`decode_docLines2` (the decoder accepts the written document) + `inClass_docLines2` (it lies in the class
`InClassWith lineOK2` = `InClass2`) + `read_bytes2` (read clause) + `read_write_bytes2` (the reader returns `wanted2 s`) +
`view_wanted2` (the view of `wanted2 s` is the view the check expects).
-/

namespace Astisub
namespace VTT3W
open Go Spec.VTT VTTRead

/-- **the proviso of W2 beyond `DocOk`** (decidable): `docW2` (fewer than 2^62 cues, comment blocks the decoder
    takes, region `lines` values, unsigned MPEGTS below 2^62), `viewW2` (LOCAL a whole number of milliseconds),
    every text line `lineW2` (inline instants 0 or ≥ 1 ms, tags and voices in the class of the read theorem),
    and the CSS / region lines that the class predicate takes for cue text are in the class -/
def DocW2 (s : Subs) : Bool :=
  docW2 s && viewW2 s && s.items.all (fun it => it.lines.all lineW2) && metaTextW2 lineOK2 s

structure DocW2Facts (s : Subs) : Prop where
  doc : docW2 s = true
  view : viewW2 s = true
  lines : ∀ it ∈ s.items, ∀ l ∈ it.lines, lineW2 l = true
  meta_ : metaTextW2 lineOK2 s = true

theorem docW2Facts {s : Subs} (h : DocW2 s = true) : DocW2Facts s := by
  simp only [DocW2, Bool.and_eq_true, List.all_eq_true] at h
  obtain ⟨⟨⟨h1, h2⟩, h3⟩, h4⟩ := h
  exact ⟨h1, h2, h3, h4⟩

theorem docW2_of_docW2Facts {s : Subs} (F : DocW2Facts s) : DocW2 s = true := by
  simp only [DocW2, Bool.and_eq_true, List.all_eq_true]
  exact ⟨⟨⟨F.doc, F.view⟩, F.lines⟩, F.meta_⟩

/-- **W2.**  For every cue list satisfying `DocOk` and `DocW2`: the written document is accepted by the
    independent decoder, the view the check expects exists, and the two are equal under `norm` — the first
    conjunct of the `vtt.write` predicate of `Driver/VTT.lean`. -/
theorem decode_write (s : Subs) (hok : VTT.DocOk s = true) (hx : DocW2 s = true) (doc : Str)
    (hw : VTT.write s = some doc) :
    (Driver.vttView (Driver.vttWanted s)).isSome = true ∧
    (∃ g, decode doc = some g) ∧
    (decode doc).map norm = (Driver.vttView (Driver.vttWanted s)).map norm := by
  have F := VTT.docOk_facts hok
  have W := docW2Facts hx
  have hdoc : doc = VTT.unlines (VTT.docLines2 s) := by
    rw [VTT.write_lines2 s F.ne] at hw
    exact (Option.some.inj hw).symm
  have hfit : ∀ it ∈ s.items, ∀ l ∈ it.lines, VTT.lineFit l = true ∧ lineW2 l = true :=
    fun it hit l hl => ⟨(VTT.cueOk2_iff.mp (F.cues it hit)).lines l hl, W.lines it hit l hl⟩
  have htext : ∀ it ∈ s.items, ∃ gl, cueText (it.lines.map VTT.lineBody) [] = some gl ∧
      ∀ g ∈ gl, ∀ r ∈ g.runs, r.ts ≠ some 0 :=
    fun it hit => cueText_lineBodies it.lines (hfit it hit)
  have ht : ∀ it ∈ s.items, (cueText (it.lines.map VTT.lineBody) []).isSome = true := by
    intro it hit
    obtain ⟨gl, h1, _⟩ := htext it hit
    rw [h1]; rfl
  obtain ⟨g, hg, hlines⟩ := decode_docLines2 s hok W.doc ht
  have hin : InClass2 doc = true := by
    rw [hdoc]
    exact inClass_docLines2 lineOK2 s hok W.doc
      (fun it hit l hl => lineOK2_lineBody l (hfit it hit l hl).1 (hfit it hit l hl).2) W.meta_
  rw [← hdoc] at hg
  have hz : Driver.zeroTs g = g := by
    apply zeroTs_id
    intro c hc l hl r hr
    have hm : c.lines ∈ g.cues.map (·.lines) := List.mem_map.mpr ⟨c, hc, rfl⟩
    rw [hlines] at hm
    obtain ⟨it, hit, e⟩ := List.mem_map.mp hm
    obtain ⟨gl, h1, h2⟩ := htext it hit
    have : glOf it = gl := by unfold glOf; rw [h1]; rfl
    rw [this] at e
    rw [← e] at hl
    exact h2 l hl r hr
  have hread := read_bytes2 (Driver.utf8 doc) doc g (Driver.decodeLine_utf8 doc) hin hg
  rw [VTT.read_write_bytes2 s hok doc hw] at hread
  obtain ⟨hsome, hview⟩ := view_wanted2 s hok W.view
  refine ⟨hsome, ⟨g, hg⟩, ?_⟩
  rcases hread with h1 | ⟨s', h1, h2⟩
  · cases h1
  · cases h1
    rw [hg, Option.map_some, ← hview, h2, hz]

/-- `exDocW` (comment block, two regions, CSS block, settings, region reference, voice, escaped text) with a
    timestamp map whose LOCAL is a whole number of milliseconds -/
def exWritten : Subs :=
  { exDocW with metadata := some [("WebVTTTimestampMap".toList, "10000000000,900000".toList)] }

theorem exWritten_ok : VTT.DocOk exWritten = true := docOk_metadata exDocW_ok _ (by decide_vector)

theorem exWritten_arrowFree : regionArrowFree exWritten = true := by
  have h : exWritten.regions.all ((fun l => !contains Spec.VTT.arrow l) ∘ VTT.regionLine exWritten) = true := by
    decide_vector
  unfold regionArrowFree regionLines
  rw [List.all_map, List.all_eq_true]
  exact fun d hd => List.all_eq_true.mp h d (Proto.mem_sortDefs.mp hd)

theorem exWritten_w2 : DocW2 exWritten = true := by
  refine docW2_of_docW2Facts ⟨docW2_metadata exDocW_w2 _ (by decide_vector), by decide_vector,
    fun it hit => List.all_eq_true.mp (List.all_eq_true.mp
      (by decide_vector : exWritten.items.all (fun it => it.lines.all lineW2) = true) it hit), ?_⟩
  unfold metaTextW2
  rw [(styleLines_congr (s := exWritten) (t := VTT.exDoc) rfl).trans VTT.exDoc_styleLines,
    cueTextOf_regionLines exWritten (by decide) exWritten_arrowFree]
  decide_vector

/-- what the class of the read theorem asks of a plain written document beyond the hypotheses of
    `C02doc2.decode_write_Statement`: no `|` / form feed in a voice, no form feed in a tag annotation (both are
    inside `<…>` on the written line), no text line that reads as a region definition with a `lines` value of more
    than 18 digits -/
def classW2 (s : Subs) : Bool :=
  s.items.all fun it => it.lines.all fun l =>
    l.voice.all okc && l.items.all (fun li => (VTT.runTags li).all tagW2) && regionOK (VTT.lineBody l)

example : classW2 VTT.exSubs = true := by decide_vector

theorem decode_write_plain (s : Subs) (hne : s.items ≠ []) (hok : ∀ it ∈ s.items, VTT.cueOk s it = true)
    (hlen : s.items.length < 2 ^ 62) (hreg : s.regions = []) (hsty : VTT.styleLines s = [])
    (hmeta : SRT.kvGet s.metadata "WebVTTTimestampMap" = none)
    (hts : ∀ it ∈ s.items, ∀ l ∈ it.lines, ∀ li ∈ l.items, li.startAt = 0 ∨ 1000000 ≤ li.startAt)
    (hcl : classW2 s = true) (doc : Str) (hw : VTT.write s = some doc) :
    (Driver.vttView (Driver.vttWanted s)).isSome = true ∧
    (decode doc).map norm = (Driver.vttView (Driver.vttWanted s)).map norm := by
  simp only [classW2, List.all_eq_true, Bool.and_eq_true] at hcl
  have hcues : ∀ it ∈ s.items, VTT.cueOk2 s it = true := fun it hit => (VTT.cueOk2_of_plain (hok it hit)).ok
  have hdoc := VTT.docOk_of_plain hne hcues
    (by have : (2 : Nat) ^ 62 ≤ int64Max := by decide_vector
        omega) hreg hsty hmeta
  have hw2 : docW2 s = true := by
    refine docW2_of_facts ⟨hlen, ?_, ?_, ?_, ?_⟩
    · intro it hit
      simp only [cueW2, Bool.and_eq_true, List.all_eq_true]
      exact ⟨by rw [(VTT.cueOk2_of_plain (hok it hit)).comments]; rfl, fun l hl => (hcl it hit l hl).2⟩
    · rw [hsty]; exact fun l hl => nomatch hl
    · rw [hreg]; exact fun d hd => nomatch hd
    · unfold tsmapW2; rw [hmeta]
  have hx : DocW2 s = true := by
    refine docW2_of_docW2Facts ⟨hw2, viewW2_of_none s hmeta, ?_, ?_⟩
    · intro it hit l hl
      simp only [lineW2, runW2, tsW2, Bool.and_eq_true, Bool.or_eq_true, List.all_eq_true, beq_iff_eq,
        decide_eq_true_eq]
      exact ⟨(hcl it hit l hl).1.1, fun li hli => ⟨hts it hit l hl li hli, (hcl it hit l hl).1.2 li hli⟩⟩
    · refine metaTextW2_small lineOK2 s (by rw [hsty]; exact Nat.zero_le _) (by rw [hreg]; exact Nat.zero_le _) ?_
      unfold regionArrowFree regionLines
      rw [hreg, VTT.sortDefs_nil]
      rfl
  obtain ⟨h1, _, h3⟩ := decode_write s hdoc hx doc hw
  exact ⟨h1, h3⟩

end VTT3W
end Astisub
