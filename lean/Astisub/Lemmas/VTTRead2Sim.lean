import Astisub.Lemmas.VTTRead2Note

/-!
# Lemmas/VTTRead2Sim — the simulation relation between the decoder's document state and the
reader's loop state (`R`, and `R2`: `R` up to blank runs and zero timestamps in the cues), and the comment / STYLE blocks

The driver compares the reader's view with `Driver.zeroTs` of the denotation, both under `Spec.VTT.norm`: an inline
timestamp of zero is no timestamp to the library (`zeroTsRun`), and runs without text are dropped (`nb`).  In front are
the pieces of that comparison by name, the item the reader builds for a run (`runItem2`), what a cue-text layer has
to provide (`TextLayer2`) and the outcome `Good2`.
-/

namespace Astisub
namespace VTTRead
open Go Spec.VTT

/-- what `norm` does to one cue -/
def normCue (c : GCue) : GCue :=
  { c with comments := c.comments.map trimSpace, lines := (c.lines.map normLine).filter fun l => !l.runs.isEmpty }

def zeroTsRun (r : GRun) : GRun := if r.ts == some 0 then { r with ts := none } else r
def zeroTsLine (l : GLine) : GLine := { l with runs := l.runs.map zeroTsRun }
def zeroTsCue (c : GCue) : GCue := { c with lines := c.lines.map zeroTsLine }

theorem zeroTs_eq (g : GDoc) : Driver.zeroTs g = { g with cues := g.cues.map zeroTsCue } := rfl

/-- a run with text (what `Spec.VTT.normLine` keeps) -/
def nb (r : GRun) : Bool := decide (trimSpace r.text ≠ [])

/-- the cue-list item the reader builds for a run of the decoder: the inline timestamp in nanoseconds,
    none = 0 -/
def runItem2 (r : GRun) : LItem :=
  { text := r.text, startAt := ((r.ts.getD 0 : Nat) : Int) * 1000000, attrs := VTT.tagsAttrs (r.tags.map modelTag) }

/-- what the cue-text layer has to provide for the lines accepted by `ok`: an invariant `good` of the
    decoder's tag stack, and for every line the decoder accepts, the reader's `parseText` returning
    the same stack and voice and a list of items `rs.map runItem2` whose runs-with-text are the decoder's
    runs-with-text, each viewed by the driver as the run with a zero timestamp erased
    (or the line is not covered by the tokenizer model) -/
structure TextLayer2 (ok : Str → Bool) where
  good : List GTag → Prop
  good_nil : good []
  agree : ∀ (l : Str) (stack : List GTag) (st : TextSt), ok l = true → good stack →
    textLine (l.length + 2) l { stack := stack } = some st →
    good st.stack ∧
    (VTT.parseText l (stack.map modelTag) = .unmodelled ∨
     ∃ rs : List GRun,
       VTT.parseText l (stack.map modelTag) =
         .ok (st.stack.map modelTag, { voice := st.voice.getD [], items := rs.map runItem2 }) ∧
       rs.filter nb = st.runs.filter nb ∧
       ∀ r ∈ rs, runView (runItem2 r) = some (zeroTsRun r))

/-- what the `vtt.read` case checks of the reader's answer `r` against the denotation `g`
    (`(Spec.VTT.decode text).map zeroTs` against the view, both under `norm`) -/
def Good2 (r : SRT.Res Subs) (g : GDoc) : Prop := Good r (Driver.zeroTs g)

open VTT (St step run Block)

theorem arrow_eq_spec : VTT.arrow = Spec.VTT.arrow := rfl

/-- a cue as the reader keeps it: text lines without any run are not kept -/
def slim (g : GCue) : GCue := { g with lines := g.lines.filter fun l => !l.runs.isEmpty }

/-- the reader's state `ms` holds what the decoder's state `ds` holds.  `seen`, `closed`, `index`, `fresh` speak of the
    reader alone: a second `STYLE` block keeps the lines of the first (`seen`), a blank line ends a CSS block only after
    a line ending in `}` (`closed`), no identifier is pending between two blocks (`index`), and the timestamp map is
    refused once the current item has a line (`fresh`). -/
structure R (ds : DocSt) (ms : St) : Prop where
  cues : mapM cueView (VTT.flush ms) = some (ds.cues.map slim)
  regions : ms.regions.map regionView = ds.regions
  styles : ms.styles = ds.styles
  seen : ms.styleSeen = false → ms.styles = []
  closed : ∀ l, ms.styles.getLast? = some l → hasSuffix ['}'] l = true
  tsmap : ms.tsmap = ds.tsmap
  comments : ms.comments = ds.comments
  index : ms.index = 0
  fresh : ms.curListed = false → ms.cur.lines = []

/-- the reader's state `ms` holds what the decoder's state `ds` holds, up to blank runs and zero timestamps in the
    cues: `cs` are the cues the reader really built, viewed (no block but a cue block looks at them) -/
def R2 (ds : DocSt) (ms : St) : Prop :=
  ∃ cs : List GCue, R { ds with cues := cs } ms ∧ cs.map normCue = (ds.cues.map zeroTsCue).map normCue

/-- the reader's answer on some lines holds the decoder's state `ds'` (or is not covered by the model) -/
def GoodRun (r : SRT.Res St) (ds' : DocSt) : Prop :=
  r = .unmodelled ∨ ∃ ms', r = .ok ms' ∧ R2 ds' ms'

theorem R2_init : R2 {} {} :=
  ⟨[], ⟨rfl, rfl, rfl, fun _ => rfl, fun l hl => (by cases hl), rfl, rfl, rfl, fun _ => rfl⟩, rfl⟩

def Between (ms : St) : Prop := ms.block = .none ∧ ms.tags = []

theorem between_init : Between {} := ⟨rfl, rfl⟩

theorem step_blank_R2 {ds : DocSt} {ms : St} (hR2 : R2 ds ms) (raw : Str) (h : trimSpace raw = []) :
    ∃ ms', step ms (some raw) = .ok ms' ∧ R2 ds ms' ∧ Between ms' := by
  obtain ⟨cs, hR, hc⟩ := hR2
  have hk : (ms.block = .style && !ms.styles.isEmpty && !(hasSuffix ['}'] (ms.styles.getLast?.getD []))) = false := by
    cases hl : ms.styles.getLast? with
    | none =>
      have : ms.styles = [] := by simpa using hl
      simp [this]
    | some l => simp [hR.closed l hl]
  refine ⟨_, step_blank ms raw h, ?_, ?_⟩
  · rw [hk]
    exact ⟨cs, { hR with }, hc⟩
  · rw [hk]; exact ⟨rfl, rfl⟩

def noteMore (l : Str) : Str := match noteLine l with | some c => c | none => l

theorem run_comment_lines (rest : List Str) : ∀ (st : St), st.block = .comment →
    (∀ l ∈ rest, BLine l) → (∀ l ∈ rest, noteOK l = true) →
    (∀ l ∈ rest, contains Spec.VTT.arrow (noteMore l) = false ∧ noteMore l ≠ []) →
    run st (rest.map some) = .ok { st with comments := st.comments ++ rest.map noteMore } := by
  induction rest with
  | nil => intro st _ _ _ _; simp [run]
  | cons l rest ih =>
    intro st hb hl hok hg
    have hl0 := hl l (by simp)
    have hg0 := hg l (by simp)
    simp only [List.map_cons, run]
    have key : step st (some l) = .ok { st with comments := st.comments ++ [noteMore l] } := by
      unfold noteMore at hg0 ⊢
      cases hn : noteLine l with
      | some c =>
        rw [hn] at hg0
        obtain ⟨ht, hc⟩ := noteLine_some hl0 (hok l (by simp)) hn
        rcases hc with ⟨_, hc⟩ | ⟨hne, _, htp⟩
        · exact absurd hc hg0.2
        · rw [step_note st l hl0.1 (by rw [hb]; decide) ht, if_neg hne, htp]
          cases st; simp_all
      | none =>
        rw [hn] at hg0
        rw [step_comment st l hl0.1 hl0.2 hb (noteLine_none hn) (by rw [arrow_eq_spec]; exact hg0.1)]
    rw [key]
    simp only
    rw [ih { st with comments := st.comments ++ [noteMore l] } hb (fun x hx => hl x (by simp [hx])) (fun x hx => hok x (by simp [hx])) (fun x hx => hg x (by simp [hx]))]
    simp [List.append_assoc]

theorem block_note_inv {ds ds' : DocSt} {first c : Str} {rest : List Str} (hn : noteLine first = some c)
    (h : block ds (first :: rest) = some ds') :
    (∀ l ∈ (if c = [] then [] else [c]) ++ rest.map noteMore, contains Spec.VTT.arrow l = false ∧ l ≠ []) ∧
    ds' = { ds with comments := ds.comments ++ ((if c = [] then [] else [c]) ++ rest.map noteMore) } := by
  simp only [block, hn] at h
  change (if ((if c = [] then [] else [c]) ++ rest.map noteMore).any (fun l => contains Spec.VTT.arrow l || decide (l = [])) = true
    then none else some { ds with comments := ds.comments ++ ((if c = [] then [] else [c]) ++ rest.map noteMore) }) = some ds' at h
  generalize (if c = [] then [] else [c]) ++ rest.map noteMore = all at h ⊢
  by_cases hany : all.any (fun l => contains Spec.VTT.arrow l || decide (l = [])) = true
  · rw [if_pos hany] at h; cases h
  · rw [if_neg hany] at h
    cases h
    refine ⟨fun l hl => ?_, rfl⟩
    have := List.any_eq_false.mp (Bool.eq_false_iff.mpr hany) l hl
    simpa only [Bool.or_eq_true, decide_eq_true_eq, not_or, Bool.not_eq_true] using this

theorem sim_note {ds : DocSt} {ms : St} (hR2 : R2 ds ms) (hB : Between ms)
    (first : Str) (rest : List Str) (c : Str)
    (hl : ∀ l ∈ first :: rest, BLine l) (hok : ∀ l ∈ first :: rest, noteOK l = true)
    (hn : noteLine first = some c)
    (hgood : ∀ l ∈ (if c = [] then [] else [c]) ++ rest.map noteMore, contains Spec.VTT.arrow l = false ∧ l ≠ []) :
    ∃ ms', run ms ((first :: rest).map some) = .ok ms' ∧
      R2 { ds with comments := ds.comments ++ ((if c = [] then [] else [c]) ++ rest.map noteMore) } ms' := by
  obtain ⟨cs, hR, hcs⟩ := hR2
  obtain ⟨ht, hc⟩ := noteLine_some (hl first (by simp)) (hok first (by simp)) hn
  simp only [List.map_cons, run]
  rw [step_note ms first (hl first (by simp)).1 (by rw [hB.1]; decide) ht]
  simp only
  rw [run_comment_lines rest _ rfl (fun x hx => hl x (by simp [hx])) (fun x hx => hok x (by simp [hx]))
    (fun l hlm => hgood _ (List.mem_append_right _ (List.mem_map.mpr ⟨l, hlm, rfl⟩)))]
  refine ⟨_, rfl, cs, { hR with comments := ?_ }, hcs⟩
  show (if first = "NOTE".toList then ms.comments else ms.comments ++ [trimPrefix "NOTE ".toList first]) ++ rest.map noteMore
    = ds.comments ++ _
  rw [hR.comments]
  rcases hc with ⟨h1, h2⟩ | ⟨h1, h2, h3⟩
  · rw [if_pos h1, if_pos h2]; rfl
  · rw [if_neg h1, h3, if_neg h2, List.append_assoc]

theorem opener_false {l : Str} (h : opener l = false) :
    noteTest l = false ∧ hasPrefix "STYLE".toList l = false ∧ hasPrefix "Region: ".toList l = false ∧
    hasPrefix "X-TIMESTAMP-MAP".toList l = false := by
  unfold opener at h
  simp only [Bool.or_eq_false_iff, decide_eq_false_iff_not] at h
  refine ⟨?_, h.1.1.2, h.1.2, h.2⟩
  unfold noteTest
  simp only [Bool.or_eq_false_iff, decide_eq_false_iff_not]
  exact ⟨h.1.1.1.1.1, h.1.1.1.1.2⟩

theorem run_css_lines (rest : List Str) : ∀ (st : St), st.block = .style →
    (∀ l ∈ rest, BLine l) → (∀ l ∈ rest, opener l = false ∧ contains Spec.VTT.arrow l = false) →
    run st (rest.map some) = .ok { st with styles := st.styles ++ rest } := by
  induction rest with
  | nil => intro st _ _ _; simp [run]
  | cons l rest ih =>
    intro st hb hl hg
    have hl0 := hl l (by simp)
    obtain ⟨ho, ha⟩ := hg l (by simp)
    obtain ⟨h1, h2, h3, h4⟩ := opener_false ho
    simp only [List.map_cons, run]
    rw [step_css st l hl0.1 hl0.2 hb h1 h3 h2 h4 (by rw [arrow_eq_spec]; exact ha)]
    simp only
    rw [ih { st with styles := st.styles ++ [l] } hb (fun x hx => hl x (by simp [hx])) (fun x hx => hg x (by simp [hx]))]
    simp [List.append_assoc]

theorem getLast?_append_nil_or {α} (a b : List α) :
    (b = [] ∧ (a ++ b).getLast? = a.getLast?) ∨ (b ≠ [] ∧ (a ++ b).getLast? = b.getLast?) := by
  by_cases h : b = []
  · left; subst h; simp
  · right; exact ⟨h, getLast?_append_ne a b h⟩

theorem block_style_inv {ds ds' : DocSt} {rest : List Str} (h : block ds ("STYLE".toList :: rest) = some ds') :
    (∀ l ∈ rest, opener l = false ∧ contains Spec.VTT.arrow l = false) ∧
    ds' = { ds with styles := ds.styles ++ rest } ∧ (∀ l, rest.getLast? = some l → hasSuffix ['}'] l = true) := by
  have hn : noteLine "STYLE".toList = none := by decide_vector
  simp only [block, hn, if_true] at h
  split at h
  · cases h
  · rename_i hany
    refine ⟨fun l hlm => ?_, ?_⟩
    · have := List.any_eq_false.mp (Bool.eq_false_iff.mpr hany) l hlm
      simpa only [Bool.or_eq_true, not_or, Bool.not_eq_true, and_comm] using this
    · split at h
      · rename_i l hlast
        split at h
        · rename_i hsx; cases h
          exact ⟨rfl, fun l' hl' => by rw [hlast] at hl'; cases hl'; exact hsx⟩
        · cases h
      · rename_i hlast
        cases h
        have : rest = [] := by simpa using hlast
        subst this
        exact ⟨by simp, fun l hl => by cases hl⟩

theorem sim_style {ds : DocSt} {ms : St} (hR2 : R2 ds ms) (hB : Between ms)
    (rest : List Str) (hl : ∀ l ∈ "STYLE".toList :: rest, BLine l)
    (hg : ∀ l ∈ rest, opener l = false ∧ contains Spec.VTT.arrow l = false)
    (hds2 : ∀ l, rest.getLast? = some l → hasSuffix ['}'] l = true) :
    ∃ ms', run ms (("STYLE".toList :: rest).map some) = .ok ms' ∧ R2 { ds with styles := ds.styles ++ rest } ms' := by
  obtain ⟨cs, hR, hcs⟩ := hR2
  have hl' : ∀ l ∈ rest, BLine l := fun x hx => hl x (by simp [hx])
  have hs0 := hl "STYLE".toList (by simp)
  simp only [List.map_cons, run]
  rw [step_style ms "STYLE".toList hs0.1 hs0.2 hB.1 (by decide) (by decide) (by decide)]
  have hclosed : ∀ l, (ms.styles ++ rest).getLast? = some l → hasSuffix ['}'] l = true := by
    intro l hl
    rcases getLast?_append_nil_or ms.styles rest with ⟨_, e⟩ | ⟨_, e⟩
    · rw [e] at hl; exact hR.closed l hl
    · rw [e] at hl; exact hds2 l hl
  by_cases hseen : ms.styleSeen = true
  · rw [if_pos hseen]
    simp only
    rw [run_css_lines rest _ rfl hl' hg]
    exact ⟨_, rfl, cs, { hR with styles := by show ms.styles ++ rest = ds.styles ++ rest; rw [hR.styles],
                                  seen := fun hf => by simp [hseen] at hf, closed := hclosed }, hcs⟩
  · rw [if_neg hseen]
    simp only
    rw [run_css_lines rest _ rfl hl' hg]
    -- the first `STYLE` block: no style line was kept before
    have hs : ms.styles = [] := hR.seen (by simpa using hseen)
    have hds0 : ds.styles = [] := by rw [← hR.styles]; exact hs
    exact ⟨_, rfl, cs, { hR with styles := by show [] ++ rest = ds.styles ++ rest; rw [hds0],
                                  seen := fun hf => by simp at hf, closed := by simpa [hs] using hclosed }, hcs⟩

end VTTRead
end Astisub
