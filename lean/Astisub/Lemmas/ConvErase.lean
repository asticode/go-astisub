import Astisub.Lemmas.ConvVTT
import Astisub.Lemmas.SSA2Fixpoint
import Astisub.Lemmas.ConvTTML

/-!
# Lemmas/ConvErase — the writers ignore foreign attributes (C07)

For each of the SubRip, WebVTT, SSA and TTML writers: an erasure that keeps exactly what the writer reads
(`eraseSRT`, `eraseVTT`, `eraseSSA`, `eraseTTML`), and the written text is the same with and without it.

## SubRip and WebVTT

A cue list read from another format keeps that format's attributes (`TTMLColor`, `STL…`,
`Teletext…`, `SSA…`, …).  `eraseSRT` / `eraseVTT` remove everything the destination's writer does
not look at; the written text is the same, byte for byte.
-/

namespace Astisub
namespace ConvErase
open Go List
open SRT (kvGet)

/-- keep the attributes whose name is in `keys` -/
def keepAttrs (keys : List String) (a : Attrs) : Attrs :=
  a.map fun kv => kv.filter fun p => keys.any fun k => k.toList == p.1

theorem kvGet_keep (keys : List String) (a : Attrs) (k : String) (hk : k ∈ keys) :
    kvGet (keepAttrs keys a) k = kvGet a k := by
  cases a with
  | none => rfl
  | some kv =>
    simp only [keepAttrs, kvGet, Option.map]
    rw [List.lookup_filter_keys kv (fun x => keys.any fun k => k.toList == x) k.toList,
      if_pos (List.any_eq_true.mpr ⟨k, hk, by simp⟩)]

def srtKeys : List String := ["SRTBold", "SRTColor", "SRTItalics", "SRTPosition", "SRTUnderline"]

/-- what the SubRip writer looks at: of a run its text and the five SubRip attributes; of a line its
    runs; of a cue its instants and lines; nothing of the regions, styles and metadata -/
def eraseSRTRun (li : LItem) : LItem := { text := li.text, attrs := keepAttrs srtKeys li.attrs }
def eraseSRTLine (l : Line) : Line := { items := l.items.map eraseSRTRun }
def eraseSRTItem (it : CItem) : CItem := { startAt := it.startAt, endAt := it.endAt, lines := it.lines.map eraseSRTLine }
def eraseSRT (s : Subs) : Subs := { items := s.items.map eraseSRTItem }

theorem srt_runBytes (li : LItem) : SRT.runBytes (eraseSRTRun li) = SRT.runBytes li := by
  unfold SRT.runBytes eraseSRTRun
  simp only [kvGet_keep srtKeys li.attrs "SRTColor" (by decide), kvGet_keep srtKeys li.attrs "SRTBold" (by decide),
    kvGet_keep srtKeys li.attrs "SRTItalics" (by decide), kvGet_keep srtKeys li.attrs "SRTUnderline" (by decide),
    kvGet_keep srtKeys li.attrs "SRTPosition" (by decide)]

theorem srt_itemBytes (k : Nat) (it : CItem) : SRT.itemBytes k (eraseSRTItem it) = SRT.itemBytes k it := by
  unfold SRT.itemBytes eraseSRTItem
  simp only [List.map_map]
  have : SRT.lineBytes ∘ eraseSRTLine = SRT.lineBytes := by
    funext l
    simp only [Function.comp, SRT.lineBytes, eraseSRTLine, List.map_map]
    have : SRT.runBytes ∘ eraseSRTRun = SRT.runBytes := by funext li; exact srt_runBytes li
    rw [this]
  rw [this]

theorem srt_write_erase (s : Subs) : SRT.write (eraseSRT s) = SRT.write s := by
  have e0 : ((s.items.map eraseSRTItem).zipIdx.map fun (x : CItem × Nat) => match x with | (it, k) => SRT.itemBytes k it)
      = (s.items.zipIdx.map fun (x : CItem × Nat) => match x with | (it, k) => SRT.itemBytes k it) :=
    List.zipIdx_map_congr eraseSRTItem (fun x => SRT.itemBytes x.2 x.1) (fun x => SRT.itemBytes x.2 x.1) s.items 0
      fun it _ k => srt_itemBytes k it
  unfold SRT.write eraseSRT
  simp only [List.isEmpty_map, e0]

def vttRunKeys : List String := ["TTMLColor", "WebVTTTags"]
def vttCueKeys : List String := ["WebVTTAlign", "WebVTTLine", "WebVTTPosition", "WebVTTSize", "WebVTTVertical"]

/-- what the WebVTT writer looks at in the cues: of a run its text, start offset, `WebVTTTags` and
    `TTMLColor`; of a line its voice; of a cue its instants, comments, region and style references and
    the five cue settings.  (Regions, styles and metadata are kept whole.) -/
def eraseVTTRun (li : LItem) : LItem := { text := li.text, startAt := li.startAt, attrs := keepAttrs vttRunKeys li.attrs }
def eraseVTTLine (l : Line) : Line := { voice := l.voice, items := l.items.map eraseVTTRun }
def eraseVTTItem (it : CItem) : CItem :=
  { startAt := it.startAt, endAt := it.endAt, style := it.style, region := it.region, comments := it.comments,
    attrs := keepAttrs vttCueKeys it.attrs, lines := it.lines.map eraseVTTLine }
def eraseVTT (s : Subs) : Subs := { s with items := s.items.map eraseVTTItem }

theorem vtt_tags (li : LItem) : VTT.tagsOfAttrs (eraseVTTRun li).attrs = VTT.tagsOfAttrs li.attrs := by
  unfold VTT.tagsOfAttrs eraseVTTRun
  simp only [kvGet_keep vttRunKeys li.attrs "WebVTTTags" (by decide)]

theorem vtt_runBytes (prev next : Option LItem) (li : LItem) :
    VTT.runBytes (prev.map eraseVTTRun) (next.map eraseVTTRun) (eraseVTTRun li) = VTT.runBytes prev next li := by
  have hc : kvGet (eraseVTTRun li).attrs "TTMLColor" = kvGet li.attrs "TTMLColor" :=
    kvGet_keep vttRunKeys li.attrs "TTMLColor" (by decide)
  have ht := vtt_tags li
  unfold VTT.runBytes
  rw [hc, ht]
  cases prev <;> cases next <;> simp only [Option.map, vtt_tags] <;> rfl

theorem vtt_itemsBytes (items : List LItem) (prev : Option LItem) :
    VTT.itemsBytes (prev.map eraseVTTRun) (items.map eraseVTTRun) = VTT.itemsBytes prev items := by
  induction items generalizing prev with
  | nil => rfl
  | cons li rest ih =>
    simp only [List.map_cons, VTT.itemsBytes]
    have h1 : (rest.map eraseVTTRun).head? = rest.head?.map eraseVTTRun := by cases rest <;> rfl
    rw [h1, vtt_runBytes, ← ih (some li)]
    rfl

theorem vtt_lineBytes (l : Line) : VTT.lineBytes (eraseVTTLine l) = VTT.lineBytes l := by
  unfold VTT.lineBytes eraseVTTLine
  have := vtt_itemsBytes l.items none
  simp only [Option.map] at this
  simp only [this]

theorem vtt_getNE (a : Attrs) (k : String) (hk : k ∈ vttCueKeys) : VTT.getNE (keepAttrs vttCueKeys a) k = VTT.getNE a k := by
  unfold VTT.getNE
  rw [kvGet_keep vttCueKeys a k hk]

theorem vtt_fallback (a sty : Attrs) (k : String) (hk : k ∈ vttCueKeys) :
    VTT.fallback (keepAttrs vttCueKeys a) sty k = VTT.fallback a sty k := by
  unfold VTT.fallback
  rw [vtt_getNE a k hk]

theorem vtt_cueBytes (s : Subs) (k : Nat) (it : CItem) :
    VTT.cueBytes (eraseVTT s) k (eraseVTTItem it) = VTT.cueBytes s k it := by
  have hl : (it.lines.map eraseVTTLine).map VTT.lineBytes = it.lines.map VTT.lineBytes := by
    rw [List.map_map]
    apply List.map_congr_left
    intro l _
    exact vtt_lineBytes l
  have hs : VTT.styleAttrs (eraseVTT s) it.style = VTT.styleAttrs s it.style := rfl
  unfold VTT.cueBytes
  simp only [eraseVTTItem, hl, hs, vtt_fallback _ _ "WebVTTAlign" (by decide), vtt_fallback _ _ "WebVTTLine" (by decide),
    vtt_fallback _ _ "WebVTTPosition" (by decide), vtt_fallback _ _ "WebVTTSize" (by decide),
    vtt_fallback _ _ "WebVTTVertical" (by decide)]
  rfl

theorem vtt_write_erase (s : Subs) : VTT.write (eraseVTT s) = VTT.write s :=
  ConvVTT.write_congr s _ rfl rfl rfl rfl eraseVTTItem rfl fun it _ k => vtt_cueBytes s k it

theorem lineTexts_map (f : Line → Line) (it it' : CItem) (hl : it'.lines = it.lines.map f)
    (h : ∀ l, (f l).items.map (·.text) = l.items.map (·.text)) : ConvView.lineTexts it' = ConvView.lineTexts it := by
  simp only [ConvView.lineTexts, hl, List.map_map]
  exact List.map_congr_left fun l _ => by simp only [Function.comp_apply, h]

theorem view_eraseSRT (s : Subs) : Spec.Conv.viewOf (eraseSRT s) = Spec.Conv.viewOf s :=
  ConvView.viewOf_map eraseSRTItem s _ rfl fun it _ => ⟨rfl, rfl, lineTexts_map eraseSRTLine it _ rfl fun l => by
    simp [eraseSRTLine, eraseSRTRun, Function.comp_def]⟩

theorem view_eraseVTT (s : Subs) : Spec.Conv.viewOf (eraseVTT s) = Spec.Conv.viewOf s :=
  ConvView.viewOf_map eraseVTTItem s _ rfl fun it _ => ⟨rfl, rfl, lineTexts_map eraseVTTLine it _ rfl fun l => by
    simp [eraseVTTLine, eraseVTTRun, Function.comp_def]⟩

end ConvErase

/-!
## SSA / ASS

`eraseSSA` removes from a cue list everything `WriteToSSA` does not look at; the written text is the
same, for every cue list (`ssa_write_erase`), and so is the view (`view_eraseSSA`).
-/

namespace Conv2Erase
open Go List SSA ConvErase

/-- what the writer reads of a cue's own attributes -/
def ssaCueKeys : List String :=
  ["SSAEffect", "SSALayer", "SSAMarginLeft", "SSAMarginRight", "SSAMarginVertical", "SSAMarked"]

/-- … of a style: the 23 `SSA…` style attributes -/
def ssaStyleKeys : List String := Fld.all.map Fld.key

/-- … of the metadata: `Comments`, `Title` and the 14 `SSA…` script-info keys -/
def ssaMetaKeys : List String := "Comments" :: SI.all.map SI.key

theorem fld_key_mem (f : Fld) : f.key ∈ ssaStyleKeys := mem_map_of_mem (by cases f <;> decide)
theorem si_key_mem (f : SI) : f.key ∈ ssaMetaKeys := mem_cons_of_mem _ (mem_map_of_mem (by cases f <;> decide))

/-- what the SSA writer looks at: of a run its text and `SSAEffect`; of a line its voice and runs; of a
    cue its instants, style reference, six `SSA…` attributes and lines; of a style its identifier and the
    23 `SSA…` attributes; of the metadata `Comments`, `Title` and the `SSA…` keys; nothing of the regions -/
def eraseRun (li : LItem) : LItem := { text := li.text, attrs := keepAttrs ["SSAEffect"] li.attrs }
def eraseLine (l : Line) : Line := { voice := l.voice, items := l.items.map eraseRun }
def eraseItem (it : CItem) : CItem :=
  { startAt := it.startAt, endAt := it.endAt, style := it.style, attrs := keepAttrs ssaCueKeys it.attrs,
    lines := it.lines.map eraseLine }
def eraseDef (d : Def) : Def := { id := d.id, attrs := keepAttrs ssaStyleKeys d.attrs }
def eraseSSA (s : Subs) : Subs :=
  { items := s.items.map eraseItem, styles := s.styles.map eraseDef, metadata := keepAttrs ssaMetaKeys s.metadata }

theorem foldl_voice_erase (ls : List Line) (n : Str) :
    (ls.map eraseLine).foldl (fun (n : Str) l => if l.voice.isEmpty then n else l.voice) n
      = ls.foldl (fun (n : Str) l => if l.voice.isEmpty then n else l.voice) n := by
  induction ls generalizing n with
  | nil => rfl
  | cons l rest ih => simp only [map_cons, foldl_cons, eraseLine, ih]

theorem eventOfItem_erase (it : CItem) : eventOfItem (eraseItem it) = eventOfItem it := by
  have k : ∀ key, key ∈ ssaCueKeys → SSA.kvGet (keepAttrs ssaCueKeys it.attrs) key = SSA.kvGet it.attrs key :=
    fun key hk => kvGet_keep ssaCueKeys it.attrs key hk
  have htext : (it.lines.map eraseLine).map (fun l => (l.items.map fun li => (SSA.kvGet li.attrs "SSAEffect").getD [] ++ li.text).flatten)
      = it.lines.map (fun l => (l.items.map fun li => (SSA.kvGet li.attrs "SSAEffect").getD [] ++ li.text).flatten) := by
    rw [map_map]
    apply map_congr_left
    intro l _
    simp only [Function.comp_apply, eraseLine, map_map]
    congr 1
    apply map_congr_left
    intro li _
    simp only [Function.comp_apply, eraseRun, SSA.kvGet_eq, kvGet_keep ["SSAEffect"] li.attrs "SSAEffect" (by decide)]
  unfold eventOfItem
  simp only [eraseItem, k "SSAEffect" (by decide), k "SSALayer" (by decide), k "SSAMarginLeft" (by decide),
    k "SSAMarginRight" (by decide), k "SSAMarginVertical" (by decide), k "SSAMarked" (by decide), foldl_voice_erase, htext]

theorem styleOfDef_erase (d : Def) : styleOfDef (eraseDef d) = styleOfDef d := by
  unfold styleOfDef eraseDef
  simp only [SSA.kvGet_eq, kvGet_keep ssaStyleKeys d.attrs _ (fld_key_mem _)]

theorem infoOfMeta_erase (m : Attrs) : infoOfMeta (keepAttrs ssaMetaKeys m) = infoOfMeta m := by
  unfold infoOfMeta
  simp only [SSA.kvGet_eq, kvGet_keep ssaMetaKeys m _ (si_key_mem _), kvGet_keep ssaMetaKeys m "Comments" (by decide)]

theorem writerStyles_erase (s : Subs) : writerStyles (eraseSSA s) = writerStyles s := by
  unfold writerStyles eraseSSA
  simp only
  rw [← map_mergeSort (r := fun a b : Def => !strLt b.id a.id) (f := eraseDef) (fun a _ b _ => rfl), map_map]
  apply map_congr_left
  intro d _
  exact styleOfDef_erase d

theorem isV4plus_erase (s : Subs) : isV4plus (eraseSSA s) = isV4plus s := by
  unfold isV4plus eraseSSA
  rw [show SSA.kvGet (keepAttrs ssaMetaKeys s.metadata) "SSAScriptType" = SSA.kvGet s.metadata "SSAScriptType" from
    kvGet_keep ssaMetaKeys s.metadata "SSAScriptType" (by decide)]

theorem ssa_write_erase (s : Subs) : SSA.write (eraseSSA s) = SSA.write s := by
  rw [write_eq, write_eq, writerStyles_erase, isV4plus_erase]
  have h1 : (eraseSSA s).items.isEmpty = s.items.isEmpty := by simp [eraseSSA]
  have h2 : (eraseSSA s).items.any (fun it => it.startAt < 0 || it.endAt < 0) = s.items.any (fun it => it.startAt < 0 || it.endAt < 0) := by
    simp only [eraseSSA, any_map]
    rfl
  have h3 : (eraseSSA s).items.map (fun it => (eventOfItem it).row (isV4plus s)) = s.items.map (fun it => (eventOfItem it).row (isV4plus s)) := by
    simp only [eraseSSA, map_map]
    apply map_congr_left
    intro it _
    simp only [Function.comp_apply, eventOfItem_erase]
  have h4 : infoOfMeta (eraseSSA s).metadata = infoOfMeta s.metadata := infoOfMeta_erase s.metadata
  rw [h1, h2, h3, h4]

theorem view_eraseSSA (s : Subs) : Spec.Conv.viewOf (eraseSSA s) = Spec.Conv.viewOf s :=
  ConvView.viewOf_map eraseItem s _ rfl fun it _ => ⟨rfl, rfl, lineTexts_map eraseLine it _ rfl fun l => by
    simp [eraseLine, eraseRun, Function.comp_def]⟩

end Conv2Erase

/-!
## TTML

`eraseTTML` removes from a cue list everything `WriteToTTML` does not look at; the element tree handed to
`xml.Encoder` is the same, for every cue list (`ttml_write_erase`), and so are the view (`view_eraseTTML`),
plainness (`plain_eraseTTML`) and the range clause.
-/

namespace Conv3Erase
open Go List TTML ConvErase

/-- what the writer reads of a `StyleAttributes` value: the 24 `TTML…` attributes of `TTML.attrTable` -/
def ttmlKeys : List String := attrTable.map fun p => "TTML" ++ p.1

/-- … of the metadata: `Language`, `TTMLCopyright`, `Title` -/
def ttmlMetaKeys : List String := ["Language", "TTMLCopyright", "Title"]

theorem key_mem {p : String × String} (hp : p ∈ attrTable) : "TTML" ++ p.1 ∈ ttmlKeys :=
  mem_map.mpr ⟨p, hp, rfl⟩

/-- what the TTML writer looks at: of a run its text, inline style reference and `TTML…` attributes; of a
    line its runs; of a cue its instants, style and region references, `TTML…` attributes and lines; of a
    style / region its identifier, reference and `TTML…` attributes; of the metadata `Language`,
    `TTMLCopyright`, `Title` -/
def eraseRun (li : LItem) : LItem := { text := li.text, style := li.style, attrs := keepAttrs ttmlKeys li.attrs }
def eraseLine (l : Line) : Line := { items := l.items.map eraseRun }
def eraseItem (it : CItem) : CItem :=
  { startAt := it.startAt, endAt := it.endAt, style := it.style, region := it.region,
    attrs := keepAttrs ttmlKeys it.attrs, lines := it.lines.map eraseLine }
def eraseDef (d : Def) : Def := { id := d.id, ref := d.ref, attrs := keepAttrs ttmlKeys d.attrs }
def eraseTTML (s : Subs) : Subs :=
  { items := s.items.map eraseItem, regions := s.regions.map eraseDef, styles := s.styles.map eraseDef,
    metadata := keepAttrs ttmlMetaKeys s.metadata }

theorem outAttrs_keep (a : Attrs) : outAttrs (keepAttrs ttmlKeys a) = outAttrs a := by
  unfold outAttrs
  apply List.filterMap_congr_mem
  intro p hp
  obtain ⟨f, x⟩ := p
  simp only [TTML.kvGet_eq, kvGet_keep ttmlKeys a _ (key_mem hp)]

theorem attrsOk_keep (a : Attrs) : TTMLDoc.attrsOk (keepAttrs ttmlKeys a) = TTMLDoc.attrsOk a := by
  unfold TTMLDoc.attrsOk
  rw [TTML.kvGet_eq, kvGet_keep ttmlKeys a "TTMLZIndex" (by decide)]

theorem spanOf_erase (li : LItem) : spanOf (eraseRun li) = spanOf li := by
  unfold spanOf
  show [WTok.start "span".toList (optAttr "style" li.style ++ outAttrs (keepAttrs ttmlKeys li.attrs))] ++ _ ++ _ = _
  rw [outAttrs_keep]
  rfl

theorem lineToks_erase (l : Line) : lineToks (eraseLine l) = lineToks l := by
  simp only [lineToks, eraseLine, map_map]
  congr 2
  apply map_congr_left
  intro li _
  exact spanOf_erase li

theorem subToks_erase (it : CItem) : subToks (eraseItem it) = subToks it := by
  have e : (it.lines.map eraseLine).map lineToks = it.lines.map lineToks := by
    rw [map_map]
    apply map_congr_left
    intro l _
    exact lineToks_erase l
  simp only [subToks, eraseItem, outAttrs_keep, e]

theorem header_erase (name : String) (d : Def) : header name (eraseDef d) = header name d := by
  simp only [header, eraseDef, outAttrs_keep]

theorem sortDefs_erase (l : List Def) : sortDefs (l.map eraseDef) = (sortDefs l).map eraseDef := by
  unfold sortDefs
  rw [← map_mergeSort (r := fun a b : Def => !strLt b.id a.id) (f := eraseDef) (fun a _ b _ => rfl)]

theorem headers_erase (name : String) (l : List Def) :
    (sortDefs (l.map eraseDef)).map (header name) = (sortDefs l).map (header name) := by
  rw [sortDefs_erase, map_map]
  apply map_congr_left
  intro d _
  exact header_erase name d

theorem isSome_keep (keys : List String) (a : Attrs) : (keepAttrs keys a).isSome = a.isSome := by
  cases a <;> rfl

theorem ttml_write_erase (s : Subs) : TTML.write (eraseTTML s) = TTML.write s := by
  have h1 : (eraseTTML s).items.isEmpty = s.items.isEmpty := by simp [eraseTTML]
  have h2 : (eraseTTML s).items.map subToks = s.items.map subToks := by
    simp only [eraseTTML, map_map]
    apply map_congr_left
    intro it _
    exact subToks_erase it
  have h3 : (sortDefs (eraseTTML s).styles).map (header "style") = (sortDefs s.styles).map (header "style") :=
    headers_erase "style" s.styles
  have h4 : (sortDefs (eraseTTML s).regions).map (header "region") = (sortDefs s.regions).map (header "region") :=
    headers_erase "region" s.regions
  have h5 : TTML.kvGet (eraseTTML s).metadata "Title" = TTML.kvGet s.metadata "Title" :=
    kvGet_keep ttmlMetaKeys s.metadata "Title" (by decide)
  have h6 : TTML.kvGet (eraseTTML s).metadata "TTMLCopyright" = TTML.kvGet s.metadata "TTMLCopyright" :=
    kvGet_keep ttmlMetaKeys s.metadata "TTMLCopyright" (by decide)
  have h7 : langOut (eraseTTML s).metadata = langOut s.metadata := by
    unfold langOut
    rw [show TTML.kvGet (eraseTTML s).metadata "Language" = TTML.kvGet s.metadata "Language" from
      kvGet_keep ttmlMetaKeys s.metadata "Language" (by decide)]
  have h8 : (eraseTTML s).metadata.isSome = s.metadata.isSome := isSome_keep _ _
  unfold TTML.write
  simp only [h1, h2, h3, h4, h5, h6, h7, h8]

theorem view_eraseTTML (s : Subs) : Spec.Conv.viewOf (eraseTTML s) = Spec.Conv.viewOf s :=
  ConvView.viewOf_map eraseItem s _ rfl fun it _ => ⟨rfl, rfl, lineTexts_map eraseLine it _ rfl fun l => by
    simp [eraseLine, eraseRun, Function.comp_def]⟩

theorem inRange_eraseTTML (dst : String) (s : Subs) : Driver.inRange dst (eraseTTML s) = Driver.inRange dst s := by
  unfold Driver.inRange
  rw [view_eraseTTML]

theorem legalAttrs_keep (a : Attrs) : Conv3TTML.legalAttrs (keepAttrs ttmlKeys a) = Conv3TTML.legalAttrs a := by
  unfold Conv3TTML.legalAttrs
  rw [outAttrs_keep]

theorem plainRun_erase (ids : List Str) (li : LItem) : Conv3TTML.plainRun ids (eraseRun li) = Conv3TTML.plainRun ids li := by
  simp only [Conv3TTML.plainRun, Conv3TTML.ownRun, eraseRun, attrsOk_keep, legalAttrs_keep]

theorem plainCue_erase (sids rids : List Str) (it : CItem) :
    Conv3TTML.plainCue sids rids (eraseItem it) = Conv3TTML.plainCue sids rids it := by
  have e : ((it.lines.map eraseLine).all fun l => l.items.all (Conv3TTML.plainRun sids))
      = it.lines.all fun l => l.items.all (Conv3TTML.plainRun sids) :=
    all_map_congr (fun l => all_map_congr (plainRun_erase sids) l.items) it.lines
  simp only [Conv3TTML.plainCue, eraseItem, attrsOk_keep, legalAttrs_keep, e, isEmpty_map]

theorem ownDef_erase (sids : List Str) (d : Def) : Conv3TTML.ownDef sids (eraseDef d) = Conv3TTML.ownDef sids d := by
  simp only [Conv3TTML.ownDef, TTMLDoc.defOk, eraseDef, attrsOk_keep, legalAttrs_keep]

theorem plain_eraseTTML (s : Subs) : Conv3TTML.PlainTTML (eraseTTML s) = Conv3TTML.PlainTTML s := by
  have i1 : (eraseTTML s).styles.map Def.id = s.styles.map Def.id := by simp [eraseTTML, eraseDef, Function.comp_def]
  have i2 : (eraseTTML s).regions.map Def.id = s.regions.map Def.id := by simp [eraseTTML, eraseDef, Function.comp_def]
  have t1 : TTMLDoc.titleOf (eraseTTML s) = TTMLDoc.titleOf s :=
    congrArg (Option.getD · []) (kvGet_keep ttmlMetaKeys s.metadata "Title" (by decide))
  have t2 : TTMLDoc.copyrightOf (eraseTTML s) = TTMLDoc.copyrightOf s :=
    congrArg (Option.getD · []) (kvGet_keep ttmlMetaKeys s.metadata "TTMLCopyright" (by decide))
  have d1 : (eraseTTML s).styles.all (Conv3TTML.ownDef (s.styles.map Def.id)) = s.styles.all _ :=
    all_map_congr (ownDef_erase _) s.styles
  have d2 : (eraseTTML s).regions.all (Conv3TTML.ownDef (s.styles.map Def.id)) = s.regions.all _ :=
    all_map_congr (ownDef_erase _) s.regions
  have c1 : (eraseTTML s).items.all (Conv3TTML.plainCue (s.styles.map Def.id) (s.regions.map Def.id)) = s.items.all _ :=
    all_map_congr (plainCue_erase _ _) s.items
  have n1 : (eraseTTML s).items.isEmpty = s.items.isEmpty := by simp [eraseTTML]
  unfold Conv3TTML.PlainTTML
  rw [i1, i2, t1, t2, d1, d2, c1, n1]

end Conv3Erase
end Astisub
