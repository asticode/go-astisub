import Astisub.Lemmas.SSARead2Defs
import Astisub.Lemmas.SSA2Spec
import Astisub.Lemmas.EvalLit
import Astisub.Lemmas.Digits
import Astisub.Props.C16
import Astisub.Lemmas.StrList

/-!
# Lemmas/SSARead2Scalar — the decoder's scalar readers and the model's readers agree on every cell text (boolean, integer,
float, colour, time), and the two ways of cutting `Key: value`
-/

namespace Astisub
namespace SSAR
open Go SSA

theorem spec_kvGet_eq (a : Attrs) (k : String) : Spec.SSA.kvGet a k = SSA.kvGet a k := rfl

theorem style_ne_format : "Style".toList ≠ "Format".toList := by decide_vector

theorem dialogue_ne_format : "Dialogue".toList ≠ "Format".toList := by decide_vector

theorem nil_ne_keyword : ([] : Str) ≠ "Format".toList ∧ ([] : Str) ≠ "Style".toList ∧ ([] : Str) ≠ "Dialogue".toList := by
  decide_vector

theorem join_comma_eq_commaJoin : ∀ l : List Str, join [','] l = Spec.SSA.commaJoin l
  | [] => rfl
  | [a] => rfl
  | a :: b :: rest => by
    have ih := join_comma_eq_commaJoin (b :: rest)
    simp only [join, Spec.SSA.commaJoin] at ih ⊢
    rw [ih]; simp

theorem absorb_eq (n : Nat) (cells : List Str) : absorb n cells = Spec.SSA.absorbLast n cells := by
  unfold absorb Spec.SSA.absorbLast
  rw [join_comma_eq_commaJoin]

theorem atoiLoose_of_boolOf {s : Str} {b : Bool} (h : Spec.SSA.boolOf s = some b) : decide (atoiLoose s ≠ 0) = b := by
  unfold Spec.SSA.boolOf at h
  by_cases h1 : s = ['-', '1']
  · subst h1; simp at h; subst h; decide
  · by_cases h2 : s = ['1']
    · subst h2; simp at h; subst h; decide
    · by_cases h3 : s = ['0']
      · subst h3; simp at h; subst h; decide
      · simp [h1, h2, h3] at h

theorem in64_iff {v : Int} : In64 v = true ↔ -9223372036854775808 ≤ v ∧ v ≤ 9223372036854775807 := by
  unfold In64
  rw [Bool.and_eq_true, decide_eq_true_eq, decide_eq_true_eq]

theorem atoi_of_intOf {s : Str} {v : Int} (h : Spec.SSA.intOf s = some v) (hr : In64 v = true) : atoi s = some v :=
  Spec.SSA.atoi_of_intOf h (by have := in64_iff.mp hr; unfold int64Max; omega)

theorem atoiLoose_of_intOf {s : Str} {v : Int} (h : Spec.SSA.intOf s = some v) (hr : In64 v = true) : atoiLoose s = v :=
  Go.atoiLoose_of_atoi (atoi_of_intOf h hr)

theorem splitC_mem {c : Char} : ∀ {s : Str}, c ∈ s →
    splitC c s = s.takeWhile (· ≠ c) :: splitC c (s.drop ((s.takeWhile (· ≠ c)).length + 1))
  | [], h => by cases h
  | x :: xs, h => by
    by_cases hx : x = c
    · subst hx
      simp [splitC]
    · have hm : c ∈ xs := by
        rcases List.mem_cons.1 h with e | e
        · exact absurd e.symm hx
        · exact e
      have ih := splitC_mem hm
      rw [Go.splitC_cons_ne hx ih]
      simp [hx]

theorem keyValue_split (line : Str) :
    Spec.SSA.keyValue line =
      if (splitC ':' line).length < 2 then none
      else some (trimSpace ((splitC ':' line).headD []), trimSpace (join [':'] (splitC ':' line).tail)) := by
  unfold Spec.SSA.keyValue
  by_cases hm : ':' ∈ line
  · have hc : line.contains ':' = true := by simpa using hm
    rw [if_pos hc, splitC_mem hm]
    have hlen : ¬ (List.takeWhile (fun x => decide (x ≠ ':')) line ::
          splitC ':' (List.drop ((List.takeWhile (fun x => decide (x ≠ ':')) line).length + 1) line)).length < 2 := by
      have := splitC_ne_nil ':' (List.drop ((List.takeWhile (fun x => decide (x ≠ ':')) line).length + 1) line)
      cases hs : splitC ':' (List.drop ((List.takeWhile (fun x => decide (x ≠ ':')) line).length + 1) line) with
      | nil => exact absurd hs this
      | cons a b => simp
    rw [if_neg hlen]
    simp only [List.headD_cons, List.tail_cons, join_splitC]
  · have hc : ¬ line.contains ':' = true := by simpa using hm
    rw [if_neg hc, splitC_not_mem hm]
    simp

/-- the body of `Spec.SSA.floatOf` once the sign is taken off -/
def floatBody (neg : Bool) (body : Str) : Option Nat :=
  let ip := body.takeWhile Spec.SSA.isDigit
  let rest := body.drop ip.length
  let fp : Option Str := match rest with | [] => some [] | '.' :: r => if r.all Spec.SSA.isDigit then some r else none | _ => none
  match fp with
  | none => none
  | some fp =>
    if (ip ++ fp).isEmpty || body.length > 40 then none else
    ratBits neg ((ip ++ fp).foldl (fun a c => a * 10 + (c.toNat - 48)) 0) (10 ^ fp.length)

theorem floatOf_neg (r : Str) : Spec.SSA.floatOf ('-' :: r) = floatBody true r := rfl

theorem floatOf_pos {s : Str} (h : ∀ r, s = '-' :: r → False) : Spec.SSA.floatOf s = floatBody false s := by
  unfold Spec.SSA.floatOf
  split
  rename_i neg body heq
  split at heq
  · exact absurd rfl (h _)
  · cases heq; rfl

theorem floatBody_spec {neg : Bool} {body : Str} {b : Nat} (h : floatBody neg body = some b) :
    ∃ mant k, decimalParts body = some (mant, k) ∧ ratBits neg mant (10 ^ k) = some b ∧ body.length ≤ 40 := by
  unfold floatBody at h
  unfold decimalParts
  rw [← Spec.SSA.isDigit_eq]
  simp only at h ⊢
  generalize List.takeWhile Spec.SSA.isDigit body = ip at h ⊢
  generalize List.drop ip.length body = rest at h ⊢
  rcases rest with _ | ⟨c, r⟩
  · simp only [List.append_nil] at h
    split at h
    · cases h
    · rename_i hc
      simp only [Bool.or_eq_true, decide_eq_true_eq, not_or, Bool.not_eq_true, Nat.not_lt] at hc
      refine ⟨natOfDigits ip, 0, ?_, h, hc.2⟩
      simp [hc.1]
  · by_cases hdot : c = '.'
    · subst hdot
      simp only at h
      by_cases hr : r.all Spec.SSA.isDigit = true
      · rw [if_pos hr] at h
        simp only at h
        split at h
        · cases h
        · rename_i hc
          simp only [Bool.or_eq_true, decide_eq_true_eq, not_or, Bool.not_eq_true, Nat.not_lt] at hc
          refine ⟨natOfDigits (ip ++ r), r.length, ?_, h, hc.2⟩
          have : (ip.isEmpty && r.isEmpty) = false := by
            have := hc.1
            cases ip <;> cases r <;> simp_all
          simp [hr, this]
      · rw [if_neg hr] at h
        cases h
    · exfalso
      split at h
      · cases h
      · rename_i fp' fp heq
        split at heq
        · rename_i e; cases e
        · rename_i e; cases e; exact hdot rfl
        · cases heq

theorem parseFloat_neg {r : Str} {mant k b : Nat} (hl : r.length ≤ 40)
    (hd : decimalParts r = some (mant, k)) (hb : ratBits true mant (10 ^ k) = some b) :
    parseFloat ('-' :: r) = .ok b := by
  unfold parseFloat
  rw [if_neg (by simp only [List.length_cons]; omega)]
  simp only [hd, hb]

theorem parseFloat_pos {s : Str} {mant k b : Nat} (hl : s.length ≤ 40)
    (h1 : ∀ r, s = '-' :: r → False) (h2 : ∀ r, s = '+' :: r → False)
    (hd : decimalParts s = some (mant, k)) (hb : ratBits false mant (10 ^ k) = some b) :
    parseFloat s = .ok b := by
  unfold parseFloat
  rw [if_neg (by omega)]
  split
  rename_i neg body heq
  split at heq
  · exact absurd rfl (h1 _)
  · exact absurd rfl (h2 _)
  · cases heq
    simp only [hd, hb]

theorem floatBody_plus (neg : Bool) (r : Str) : floatBody neg ('+' :: r) = none := by
  unfold floatBody
  have : Spec.SSA.isDigit '+' = false := by decide
  simp [this]

theorem parseFloat_of_floatOf {s : Str} {b : Nat} (h : Spec.SSA.floatOf s = some b) : parseFloat s = .ok b := by
  by_cases h1 : ∃ r, s = '-' :: r
  · obtain ⟨r, rfl⟩ := h1
    rw [floatOf_neg] at h
    obtain ⟨mant, k, hd, hb, hl⟩ := floatBody_spec h
    exact parseFloat_neg hl hd hb
  · have h1' : ∀ r, s = '-' :: r → False := fun r e => h1 ⟨r, e⟩
    rw [floatOf_pos h1'] at h
    have h2 : ∀ r, s = '+' :: r → False := by
      intro r e
      subst e
      rw [floatBody_plus] at h
      cases h
    obtain ⟨mant, k, hd, hb, hl⟩ := floatBody_spec h
    exact parseFloat_pos hl h1' h2 hd hb

/-- `strconv`'s digit loop: the value stays below what `s.length` further digits allow -/
theorem digitsBase_lt (b : Nat) (hb : 0 < b) : ∀ (s : Str) (acc v : Nat), digitsBase b s acc = some v →
    v < (acc + 1) * b ^ s.length
  | [], acc, v, h => by
    cases h
    simp
  | c :: cs, acc, v, h => by
    unfold digitsBase at h
    split at h
    · rename_i d _
      obtain ⟨hd, h⟩ := Option.ite_none_right_eq_some.mp h
      have ih := digitsBase_lt b hb cs _ v h
      have : (acc * b + d + 1) * b ^ cs.length ≤ (acc + 1) * b * b ^ cs.length :=
        Nat.mul_le_mul_right _ (by rw [Nat.add_mul]; omega)
      rw [List.length_cons, Nat.pow_succ, Nat.mul_comm (b ^ cs.length) b, ← Nat.mul_assoc]
      omega
    · cases h

theorem hexVal_sign : Spec.SSA.hexVal '-' = none ∧ Spec.SSA.hexVal '+' = none := by decide

theorem colourOfInt_nat {v : Nat} (h : v < 4294967296) : colourOfInt (v : Int) = v := by
  unfold colourOfInt
  omega

theorem parseIntBase16_of_hexOf {r : Str} {v : Nat} (hne : r ≠ []) (hlen : r.length ≤ 8)
    (h : Spec.SSA.hexOf r 0 = some v) : parseIntBase 16 r = some (v : Int) ∧ v < 4294967296 := by
  have h1 := (hexOf_eq_digitsBase r 0).symm.trans h
  have h2 := digitsBase_lt 16 (by decide) r 0 v h1
  have hb : v < 4294967296 := by
    have : 16 ^ r.length ≤ 16 ^ 8 := Nat.pow_le_pow_right (by decide) hlen
    have e : (16 : Nat) ^ 8 = 4294967296 := by decide
    omega
  refine ⟨?_, hb⟩
  have e : int64Max = 9223372036854775807 := rfl
  unfold parseIntBase
  split
  rename_i neg body heq
  split at heq
  · rw [Spec.SSA.hexOf, hexVal_sign.1] at h; cases h
  · rw [Spec.SSA.hexOf, hexVal_sign.2] at h; cases h
  · cases heq
    have : r.isEmpty = false := by cases r <;> simp_all
    rw [this]
    simp only [Bool.false_eq_true, ↓reduceIte, h1]
    rw [if_pos (by omega)]

theorem digitsBase10_eq : ∀ (s : Str) (acc : Nat), digitsBase 10 s acc = digitsVal s acc
  | [], _ => rfl
  | c :: cs, acc => by
    have hd : (match digitValBase c with | some d => if d < 10 then some d else none | none => none) = digitVal c := by
      unfold digitValBase digitVal
      simp only [char_le_iff]
      have e0 : '0'.toNat = 48 := rfl
      have e9 : '9'.toNat = 57 := rfl
      have ea : 'a'.toNat = 97 := rfl
      have ez : 'z'.toNat = 122 := rfl
      have eA : 'A'.toNat = 65 := rfl
      have eZ : 'Z'.toNat = 90 := rfl
      rw [e0, e9, ea, ez, eA, eZ]
      generalize c.toNat = n
      by_cases h1 : 48 ≤ n ∧ n ≤ 57
      · simp only [if_pos h1]; rw [if_pos (by omega)]
      · simp only [if_neg h1]
        by_cases h2 : 97 ≤ n ∧ n ≤ 122
        · simp only [if_pos h2]; rw [if_neg (by omega)]
        · simp only [if_neg h2]
          by_cases h3 : 65 ≤ n ∧ n ≤ 90
          · simp only [if_pos h3]; rw [if_neg (by omega)]
          · simp only [if_neg h3]
    rw [digitsBase, digitsVal, ← hd]
    cases digitValBase c with
    | none => rfl
    | some d =>
      simp only
      split
      · exact digitsBase10_eq cs _
      · rfl

/-- `strconv.ParseInt(s, 10, 64)` is `strconv.Atoi` -/
theorem parseIntBase10_eq_atoi (s : Str) : parseIntBase 10 s = atoi s := by
  unfold parseIntBase atoi parseDigits
  simp only [digitsBase10_eq]
  -- sign, emptiness, digits: the same tests in the same order
  split <;> simp only <;> split
  all_goals first | rfl | (cases digitsVal _ 0 <;> simp)

theorem ampH : "&H".toList = ['&', 'H'] := by decide

theorem dropPrefix_amp_H_none {s : Str} (h : ∀ r, s = '&' :: 'H' :: r → False) :
    dropPrefix? "&H".toList s = none := by
  rw [ampH]
  rcases s with _ | ⟨x, _ | ⟨y, r⟩⟩
  · rfl
  · by_cases hx : '&' = x <;> simp [dropPrefix?, hx]
  · by_cases hx : '&' = x
    · by_cases hy : 'H' = y
      · subst hx; subst hy; exact absurd rfl (h r)
      · simp [dropPrefix?, hy]
    · simp [dropPrefix?, hx]

theorem parseColour_of_colourOf {s : Str} {c : Nat} (h : Spec.SSA.colourOf s = some c) :
    parseColour s = some c ∧ c < 4294967296 := by
  unfold Spec.SSA.colourOf at h
  split at h
  · rename_i r
    split at h
    · cases h
    · rename_i hc
      simp only [Bool.or_eq_true, decide_eq_true_eq, not_or, Nat.not_lt, List.isEmpty_iff] at hc
      obtain ⟨p1, p2⟩ := parseIntBase16_of_hexOf hc.1 hc.2 h
      refine ⟨?_, p2⟩
      unfold parseColour
      rw [ampH]
      simp only [dropPrefix?, if_true, p1, Option.map_some, colourOfInt_nat p2]
  · rename_i hamp
    cases hv : Spec.SSA.intOf s with
    | none => rw [hv] at h; cases h
    | some v =>
      rw [hv] at h
      simp only at h
      split at h
      · rename_i hb
        have h64 : In64 v = true := in64_iff.mpr (by omega)
        unfold parseColour
        rw [dropPrefix_amp_H_none hamp]
        simp only [parseIntBase10_eq_atoi, atoi_of_intOf hv h64, Option.map_some, colourOfInt]
        cases h
        refine ⟨?_, by omega⟩
        congr 1
        omega
      · cases h

/-- the decoder's `natOf` is SubRip's (`Spec.SSA.natOf_eq`): it reads exactly the numerals -/
theorem natOf_numeral {t : Str} {n : Nat} : Spec.SSA.natOf t = some n ↔ Numeral t n :=
  Spec.SSA.natOf_eq ▸ Spec.SRT.natOf_iff_numeral

/-- a time the decoder accepts is `h:mm:ss.cc` with numerals `h` of any width and two-digit `mm`, `ss` below 60 and `cc`
    (`SSA.spec_timeOf_fields` is the converse) -/
theorem timeOf_spec {s : Str} {cs : Int} (h : Spec.SSA.timeOf s = some cs) :
    ∃ (hs m sec c : Str) (H M S C : Nat), s = hs ++ ':' :: (m ++ ':' :: sec) ++ '.' :: c ∧
      Numeral hs H ∧ Numeral m M ∧ Numeral sec S ∧ Numeral c C ∧
      m.length = 2 ∧ sec.length = 2 ∧ c.length = 2 ∧ M < 60 ∧ S < 60 ∧
      cs = ((((H * 60 + M) * 60 + S) * 100 + C : Nat) : Int) := by
  unfold Spec.SSA.timeOf at h
  split at h
  · rename_i hs m sc h3
    split at h
    · rename_i sec c h2
      split at h
      · cases h
      · rename_i hl
        simp only [ne_eq, Bool.or_eq_true, decide_eq_true_eq, not_or, Decidable.not_not] at hl
        split at h
        · rename_i H M S C eH eM eS eC
          split at h
          · rename_i hb
            simp only [Bool.and_eq_true, decide_eq_true_eq] at hb
            cases h
            obtain ⟨e3, _, _, _⟩ := Go.splitC_three h3
            obtain ⟨e2, _, _⟩ := Go.splitC_two h2
            exact ⟨hs, m, sec, c, H, M, S, C, by rw [e3, e2]; simp, natOf_numeral.mp eH, natOf_numeral.mp eM, natOf_numeral.mp eS, natOf_numeral.mp eC, hl.1.1, hl.1.2,
              hl.2, hb.1, hb.2, rfl⟩
          · cases h
        · cases h
    · cases h
  · cases h

theorem parseSSA_of_timeOf {s : Str} {cs : Int} (h : Spec.SSA.timeOf s = some cs) (hr : hoursOk cs = true) :
    Duration.parseSSA s = some (cs * 10000000) ∧ 0 ≤ cs := by
  obtain ⟨hs, m, sec, c, H, M, S, C, rfl, eH, eM, eS, eC, _, _, lc, bM, bS, rfl⟩ := timeOf_spec h
  have bC := eC.lt
  rw [lc] at bC
  unfold hoursOk at hr
  simp only [decide_eq_true_eq] at hr
  refine ⟨?_, by omega⟩
  have := Ovf.parse_clock_frac (w1 := []) (w2 := []) (.inl rfl) (.three eH eM eS) (by unfold int64Max; omega)
    (by unfold int64Max; omega) (by unfold int64Max; omega) eC (by omega) (fun _ h => nomatch h) (fun _ h => nomatch h) 3
  rw [List.append_nil, List.nil_append, lc] at this
  unfold Duration.parseSSA
  rw [this]
  simp only [Duration.nsPerMs, Duration.nsPerS, Duration.nsPerMin, Duration.nsPerH, show (3 - 2 : Nat) = 1 from rfl, Int.pow_one,
    Option.some.injEq]
  omega

end SSAR
end Astisub
