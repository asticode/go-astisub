import Astisub.Lemmas.VTTLine
import Astisub.Lemmas.VTTRead2TextA

/-!
# Lemmas/VTTRead2TextB — cue text, read side: the tokenizer model and the tag expression on the tags of the
decoder's class (`J'`: the judgement `VTT.J` with the alternative "the tokenizer model does not cover the input")
-/

namespace Astisub
namespace VTTRead
open Go Spec.VTT List
open VTT (PT stepTok foldToks flushSt)

/-- from state `st` with pending text `acc`, input `s` is outside the tokenizer model or ends in state `f` -/
def J' (s acc : Str) (st f : PT) : Prop := tokFrom s acc = .unmodelled ∨ VTT.J s acc st f

theorem J'_nil {acc : Str} {st f : PT} (h : flushSt st acc = some f) : J' [] acc st f := .inr (VTT.J_nil h)

theorem J'_char {c : Char} {s acc : Str} {st f : PT} (h1 : c ≠ '<')
    (h : J' s (c :: acc) st f) : J' (c :: s) acc st f := by
  by_cases h2 : c = '\x00'
  · subst h2; exact .inl (tokFrom_nul s acc)
  · unfold J' VTT.J; rw [tokFrom_plain h1 h2]; exact h

theorem J'_text {x : Str} (hx : ∀ c ∈ x, c ≠ '<') {s acc : Str} {st f : PT}
    (h : J' s (x.reverse ++ acc) st f) : J' (x ++ s) acc st f := by
  induction x generalizing acc with
  | nil => simpa using h
  | cons c x ih =>
    rw [cons_append]
    apply J'_char (hx c (by simp))
    apply ih (fun d hd => hx d (by simp [hd]))
    simpa using h

theorem J'_tok {c s acc : Str} {st st1 st2 f : PT}
    (hc : RawTag c ∨ ∃ tok, TagTok c tok ∧ stepTok st1 tok = some st2)
    (h1 : flushSt st acc = some st1) (h : J' s [] st2 f) : J' (c ++ s) acc st f := by
  rcases hc with hr | ⟨tok, ht, h2⟩
  · exact .inl (hr.tokFrom s acc)
  · rcases h with hu | hJ
    · left; rw [ht.tokFrom, hu]; rfl
    · exact .inr (VTT.J_tok ht h1 h2 hJ)

theorem parseText_of_J' {s : Str} {sa : List VTT.Tag} {f : PT} (h : J' s [] { tags := sa } f) :
    VTT.parseText s sa = .unmodelled ∨
    VTT.parseText s sa = .ok (f.tags, { voice := f.voice, items := f.items }) := by
  rcases h with h1 | hJ
  · left
    unfold VTT.parseText
    rw [tokenize_eq_tokFrom, h1]
  · exact .inr (VTT.parseText_of_J hJ)

theorem flushSt_empty (st : PT) : flushSt st ([] : Str).reverse = some st := by simp [flushSt]

example : tagRe "<c.red.big \t Bob Smith  >".toList = some ("c".toList, ".red.big".toList, "Bob Smith  ".toList) := by decide_vector

theorem blank_ws {d : Char} (h : isBlank d = true) : isTagWS d = true ∧ reWS d = true ∧ isSpace d = true := by
  simp only [isBlank, Bool.or_eq_true, decide_eq_true_eq] at h
  rcases h with rfl | rfl <;> decide

theorem notblank_ws {d : Char} (h : isBlank d = false) (hok : tagCharOK d = true) :
    isTagWS d = false ∧ reWS d = false := by
  simp only [isBlank, Bool.or_eq_false_iff, decide_eq_false_iff_not] at h
  have t := tagChar_of_ok hok
  simp [isTagWS, reWS, h.1, h.2, t.noFF, t.noLF, t.noCR]

theorem drop_length_takeWhile {p : Char → Bool} (l : Str) : l.drop (l.takeWhile p).length = l.dropWhile p :=
  List.drop_length_takeWhile l

/-- `<body>` = `<name cls p w>`: name, class part, white space, annotation -/
structure Shape (body : Str) (c : Char) (xs cls p w : Str) : Prop where
  eq : body = (c :: xs) ++ (cls ++ (p ++ w))
  head : headOf body = (c :: xs) ++ cls
  nameNoDot : ∀ d ∈ c :: xs, d ≠ '.'
  headOK : ∀ d ∈ (c :: xs) ++ cls, isBlank d = false
  cls : cls = [] ∨ ∃ J, cls = '.' :: J
  pws : ∀ d ∈ p, isBlank d = true
  w0 : ∀ d r, w = d :: r → isBlank d = false
  pw : p ≠ [] ∨ w = []
  ann : annOf body = trimSpace w

theorem shape_of_body (c : Char) (tl : Str) (hc : c ≠ '.') (hcb : isBlank c = false) :
    ∃ xs cls p w, Shape (c :: tl) c xs cls p w := by
  have hsplit1 : headOf (c :: tl) ++ (c :: tl).dropWhile (fun ch => !isBlank ch) = c :: tl :=
    List.takeWhile_append_dropWhile
  have hhead : ∀ d ∈ headOf (c :: tl), (fun ch => !isBlank ch) d = true := fun _ => List.mem_takeWhile_imp
  have hh0 : headOf (c :: tl) = c :: tl.takeWhile (fun ch => !isBlank ch) := by
    simp [headOf, List.takeWhile, hcb]
  generalize hH : headOf (c :: tl) = head at hsplit1 hhead hh0
  generalize hR : (c :: tl).dropWhile (fun ch => !isBlank ch) = rem at hsplit1
  have hsplit2 : head.takeWhile (· != '.') ++ head.dropWhile (· != '.') = head := List.takeWhile_append_dropWhile
  have hn0 : head.takeWhile (· != '.') = c :: (tl.takeWhile (fun ch => !isBlank ch)).takeWhile (· != '.') := by
    have hc' : (c != '.') = true := by simp [hc]
    rw [hh0]; simp [List.takeWhile, hc']
  have hname : ∀ d ∈ head.takeWhile (· != '.'), (· != '.') d = true := fun _ => List.mem_takeWhile_imp
  have hsplit3 : rem.takeWhile isBlank ++ rem.dropWhile isBlank = rem := List.takeWhile_append_dropWhile
  generalize (tl.takeWhile (fun ch => !isBlank ch)).takeWhile (· != '.') = xs at hn0
  refine ⟨xs, head.dropWhile (· != '.'), rem.takeWhile isBlank, rem.dropWhile isBlank, ⟨?_, ?_, ?_, ?_, ?_, ?_, ?_, ?_, ?_⟩⟩
  · rw [← hn0, hsplit3, ← List.append_assoc, hsplit2, hsplit1]
  · rw [hH, ← hn0, hsplit2]
  · intro d hd; rw [← hn0] at hd; simpa using hname d hd
  · intro d hd; rw [← hn0, hsplit2] at hd; simpa using hhead d hd
  · cases hcl : head.dropWhile (· != '.') with
    | nil => left; rfl
    | cons d J =>
      right
      have := List.dropWhile_head _ d J hcl
      have hd : d = '.' := by simpa using this
      exact ⟨J, by rw [hd]⟩
  · exact fun _ => List.mem_takeWhile_imp
  · intro d r e; exact List.dropWhile_head _ d r e
  · cases hrem : rem with
    | nil => right; rfl
    | cons d r =>
      left
      have := List.dropWhile_head _ d r (hR.trans hrem)
      have hd : isBlank d = true := by simpa using this
      simp [List.takeWhile, hd]
  · unfold annOf
    rw [hH, ← hsplit1, List.drop_left]
    conv => lhs; rw [← hsplit3]
    exact trimSpace_append_left (fun d hd => (blank_ws (List.mem_takeWhile_imp hd)).2.2) _

theorem splitC_snoc_sep (c : Char) (a : Str) : ∃ init, init ≠ [] ∧ splitC c (a ++ [c]) = init ++ [[]] := by
  induction a with
  | nil => exact ⟨[[]], by simp, by simp [splitC]⟩
  | cons x a ih =>
    obtain ⟨init, hne, e⟩ := ih
    by_cases hx : x = c
    · exact ⟨[] :: init, by simp, by simp [splitC, hx, e]⟩
    · cases init with
      | nil => exact absurd rfl hne
      | cons h t => exact ⟨(x :: h) :: t, by simp, by simp [splitC, hx, e]⟩

theorem trimDots_classes (J : Str) (h : ∀ x ∈ splitC '.' J, x ≠ []) : VTT.trimDots ('.' :: J) = J := by
  cases J with
  | nil => exact absurd rfl (h [] (by simp [splitC]))
  | cons x xs =>
    have hx : x ≠ '.' := by
      intro e; subst e
      exact absurd rfl (h [] (by simp [splitC]))
    cases hr : (x :: xs).reverse with
    | nil => simp at hr
    | cons y ys =>
      have hy : y ≠ '.' := by
        intro e; subst e
        have e2 : x :: xs = ys.reverse ++ ['.'] := by
          have := congrArg List.reverse hr
          simpa using this
        obtain ⟨init, _, e3⟩ := splitC_snoc_sep '.' ys.reverse
        rw [← e2] at e3
        exact absurd rfl (h [] (by rw [e3]; simp))
      exact VTT.trimDots_dot x y xs ys hx hy hr

/-- the decoder's `name :: classes` against the sub-matches 2 and 3 of the tag expression -/
theorem classes_agree (nm cls name : Str) (classes : List Str) (hn : ∀ d ∈ nm, d ≠ '.')
    (hcls : cls = [] ∨ ∃ J, cls = '.' :: J) (hsp : splitC '.' (nm ++ cls) = name :: classes)
    (hne : classes.any (·.isEmpty) = false) :
    name = nm ∧ (if cls ≠ [] then splitC '.' (VTT.trimDots cls) else []) = classes := by
  have hnm : '.' ∉ nm := fun h => hn _ h rfl
  rcases hcls with rfl | ⟨J, rfl⟩
  · rw [List.append_nil, splitC_not_mem hnm] at hsp
    cases hsp
    exact ⟨rfl, by simp⟩
  · rw [splitC_append J hnm] at hsp
    cases hsp
    refine ⟨rfl, ?_⟩
    rw [if_pos (by simp), trimDots_classes]
    intro x hx e
    subst e
    simp only [List.any_eq_false, Bool.not_eq_true] at hne
    have := hne [] hx
    simp at this

/-- the characters of a tag body accepted by the decoder under `lineOK` -/
structure BodyOK (body : Str) : Prop where
  nomk : ∀ d ∈ body, d ≠ '>' ∧ d ≠ '<' ∧ d ≠ '&'
  ok : ∀ d ∈ body, tagCharOK d = true

structure ShapeF (c : Char) (xs cls p w : Str) : Prop where
  letter : isLetter c = true
  nameP : ∀ d ∈ c :: (xs ++ cls), VTT.TokAux.nameP d = true
  pTag : ∀ d ∈ p, isTagWS d = true
  wMark : ∀ d ∈ w, VTT.markup d = false
  w0Tag : ∀ d r, w = d :: r → isTagWS d = false
  cRe : reWS c = false ∧ c ≠ '/'
  nameRe : ∀ d ∈ c :: xs, d ≠ '.' ∧ reWS d = false
  clsRe : cls = [] ∨ ∃ J, cls = '.' :: J ∧ ∀ d ∈ J, reWS d = false ∧ d ≠ '/'
  pRe : ∀ d ∈ p, reWS d = true
  wSl : ∀ d ∈ w, d ≠ '/'
  w0Re : ∀ d r, w = d :: r → reWS d = false

theorem nameP_of {d : Char} (h1 : isTagWS d = false) (h2 : d ≠ '/') (h3 : d ≠ '>') : VTT.TokAux.nameP d = true := by
  simp [VTT.TokAux.nameP, h1, h2, h3]

theorem markup_of {d : Char} (h1 : d ≠ '<') (h2 : d ≠ '>') (h3 : d ≠ '&') (h4 : d ≠ '/') (h5 : tagCharOK d = true) :
    VTT.markup d = false := by
  simp [VTT.markup, h1, h2, h3, h4, (tagChar_of_ok h5).noEq]

theorem shapeF_of {body : Str} {c : Char} {xs cls p w : Str} (sh : Shape body c xs cls p w)
    (ha : isAlpha c = true) (hb : BodyOK body) (hs : ∀ d ∈ body, d ≠ '/') : ShapeF c xs cls p w := by
  have mhead : ∀ d ∈ (c :: xs) ++ cls, d ∈ body := by
    intro d hd; rw [sh.eq, ← List.append_assoc]; exact List.mem_append_left _ hd
  have mp : ∀ d ∈ p, d ∈ body := by
    intro d hd; rw [sh.eq]
    exact List.mem_append_right _ (List.mem_append_right _ (List.mem_append_left _ hd))
  have mw : ∀ d ∈ w, d ∈ body := by
    intro d hd; rw [sh.eq]
    exact List.mem_append_right _ (List.mem_append_right _ (List.mem_append_right _ hd))
  have hheadws : ∀ d ∈ (c :: xs) ++ cls, isTagWS d = false ∧ reWS d = false :=
    fun d hd => notblank_ws (sh.headOK d hd) (hb.ok d (mhead d hd))
  have hl : isLetter c = true := ha
  refine ⟨hl, ?_, ?_, ?_, ?_, VTT.letter_facts hl, ?_, ?_, ?_, ?_, ?_⟩
  · intro d hd
    have hd' : d ∈ (c :: xs) ++ cls := by simpa using hd
    exact nameP_of (hheadws d hd').1 (hs d (mhead d hd')) (hb.nomk d (mhead d hd')).1
  · intro d hd; exact (blank_ws (sh.pws d hd)).1
  · intro d hd
    have hm := hb.nomk d (mw d hd)
    exact markup_of hm.2.1 hm.1 hm.2.2 (hs d (mw d hd)) (hb.ok d (mw d hd))
  · intro d r e
    exact (notblank_ws (sh.w0 d r e) (hb.ok d (mw d (by rw [e]; simp)))).1
  · intro d hd
    exact ⟨sh.nameNoDot d hd, (hheadws d (List.mem_append_left _ hd)).2⟩
  · rcases sh.cls with h | ⟨J, h⟩
    · left; exact h
    · right
      refine ⟨J, h, ?_⟩
      intro d hd
      have hd' : d ∈ (c :: xs) ++ cls := by rw [h]; exact List.mem_append_right _ (List.mem_cons_of_mem _ hd)
      exact ⟨(hheadws d hd').2, hs d (mhead d hd')⟩
  · intro d hd; exact (blank_ws (sh.pws d hd)).2.1
  · intro d hd; exact hs d (mw d hd)
  · intro d r e
    exact (notblank_ws (sh.w0 d r e) (hb.ok d (mw d (by rw [e]; simp)))).2

theorem open_tok {body : Str} {c : Char} {xs cls p w : Str} (sh : Shape body c xs cls p w)
    (sf : ShapeF c xs cls p w) :
    RawTag ('<' :: body ++ ['>']) ∨
    ∃ n a, TagTok ('<' :: body ++ ['>']) (Tok.startTag ('<' :: body ++ ['>']) n a) := by
  have e2 : '<' :: body ++ ['>'] = '<' :: c :: ((xs ++ cls) ++ (p ++ (w ++ ['>']))) := by
    rw [sh.eq]; simp
  rw [e2]
  rcases VTT.TokAux.open_tagTok c (xs ++ cls) p w sf.letter sf.nameP sf.pTag sf.wMark sf.w0Tag sh.pw with
    ⟨_, hr⟩ | ⟨a, ha⟩
  · exact .inl hr
  · exact .inr ⟨_, a, ha⟩

theorem open_step {body : Str} {c : Char} {xs cls p w : Str} (sh : Shape body c xs cls p w)
    (sf : ShapeF c xs cls p w) (name : Str) (classes : List Str)
    (hsp : splitC '.' (headOf body) = name :: classes) (hne : classes.any (·.isEmpty) = false)
    (st : PT) (n : Str) (a : List (Str × Str)) :
    stepTok st (.startTag ('<' :: body ++ ['>']) n a) =
      some (if name = "v".toList then (if st.voice = [] then { st with voice := annOf body } else st)
            else { st with tags := st.tags ++ [{ name := name, classes := classes, annotation := annOf body }] }) := by
  have e2 : '<' :: body ++ ['>'] = '<' :: ((c :: xs) ++ (cls ++ (p ++ (w ++ ['>'])))) := by
    rw [sh.eq]; simp
  have hre := VTT.tagRe_general c xs cls p w sf.cRe sf.nameRe sf.clsRe sf.pRe sf.wSl sf.w0Re sh.pw
  rw [sh.head] at hsp
  obtain ⟨hname, hcl⟩ := classes_agree (c :: xs) cls name classes sh.nameNoDot sh.cls hsp hne
  have hann : (if w ≠ [] then trimSpace w else []) = annOf body := by
    rw [sh.ann]
    by_cases hw : w = []
    · subst hw; simp [trimSpace, trimLeft, trimRight]
    · simp [hw]
  rw [e2]
  simp only [stepTok, hre, hcl, hann, hname]
  split <;> rfl

/-- a tag name the tokenizer reads back from `</name>`: it starts with an ASCII letter and contains
    no white space of the tokenizer, `/` or `>` (every name the decoder pushes under `lineOK` is so) -/
def goodName (n : Str) : Bool :=
  match n with
  | c :: _ => isAlpha c && n.all VTT.TokAux.nameP
  | [] => false

theorem goodName_facts {n : Str} (h : goodName n = true) :
    ∃ e nm, n = e :: nm ∧ isLetter e = true ∧ ∀ c ∈ e :: nm, VTT.TokAux.nameP c = true := by
  cases n with
  | nil => simp [goodName] at h
  | cons e nm =>
    simp only [goodName, Bool.and_eq_true, List.all_eq_true] at h
    exact ⟨e, nm, rfl, h.1, h.2⟩

theorem goodName_of_shape {c : Char} {xs cls p w : Str} (sf : ShapeF c xs cls p w) : goodName (c :: xs) = true := by
  simp only [goodName, Bool.and_eq_true, List.all_eq_true]
  refine ⟨sf.letter, ?_⟩
  intro d hd
  apply sf.nameP d
  simp only [List.mem_cons, List.mem_append] at hd ⊢
  rcases hd with h | h
  · exact Or.inl h
  · exact Or.inr (Or.inl h)

theorem close_tok {name : Str} (h : goodName name = true) :
    TagTok ('<' :: '/' :: name ++ ['>']) (Tok.endTag ('<' :: '/' :: name ++ ['>']) (toLowerAscii name)) := by
  obtain ⟨e, nm, rfl, hl, hnm⟩ := goodName_facts h
  exact TagTok.endName hl hnm

theorem close_step (st : PT) (name n : Str) :
    stepTok st (.endTag ('<' :: '/' :: name ++ ['>']) n) =
      some (if name = "v".toList then st else { st with tags := st.tags.dropLast }) := by
  by_cases hv : name = "v".toList
  · subst hv
    simp only [stepTok, if_true]
    rfl
  · have hne : ¬ ('<' :: '/' :: name ++ ['>'] = "</v>".toList) := by
      intro e
      apply hv
      have e' : name ++ ['>'] = ['v'] ++ ['>'] := by
        have : "</v>".toList = '<' :: '/' :: (['v'] ++ ['>']) := by decide
        rw [this] at e
        simpa using e
      exact List.append_cancel_right e'
    simp only [stepTok, if_neg hne, if_neg hv]

/-- a closing tag with a good name, read side: the analogue of `VTT.J_endTag` -/
theorem J'_close {name s' acc : Str} {st stM2 f : PT} (hg : goodName name = true) (hfl : flushSt st acc = some stM2)
    (h : J' s' [] (if name = "v".toList then stM2 else { stM2 with tags := stM2.tags.dropLast }) f) :
    J' (('<' :: '/' :: name ++ ['>']) ++ s') acc st f :=
  J'_tok (.inr ⟨_, close_tok hg, close_step stM2 name _⟩) hfl h

/-- an opening tag of the decoder's class, read side: the analogue of `VTT.J_startTag` / `J_voice` -/
theorem J'_open {body : Str} {c : Char} {xs cls p w : Str} (sh : Shape body c xs cls p w) (sf : ShapeF c xs cls p w)
    {name : Str} {classes : List Str} (hsp : splitC '.' (headOf body) = name :: classes)
    (hne : classes.any (·.isEmpty) = false) {s' acc : Str} {st stM2 f : PT} (hfl : flushSt st acc = some stM2)
    (h : J' s' [] (if name = "v".toList then (if stM2.voice = [] then { stM2 with voice := annOf body } else stM2)
            else { stM2 with tags := stM2.tags ++ [{ name := name, classes := classes, annotation := annOf body }] }) f) :
    J' (('<' :: body ++ ['>']) ++ s') acc st f := by
  refine J'_tok ?_ hfl h
  rcases open_tok sh sf with hu | ⟨n, a, e⟩
  · exact .inl hu
  · exact .inr ⟨_, e, open_step sh sf name classes hsp hne stM2 n a⟩

end VTTRead
end Astisub
