import Astisub.Lemmas.Bytes
import Astisub.Lemmas.StrList
import Astisub.Model.SSA

/-!
# Lemmas/Lines — a written document as lines, and the ways it is cut back into them

Every line-based writer (SubRip, WebVTT, SSA) emits `lfLines ls`: the lines `ls`, each ended by LF; the three codecs'
`unlines` are this function.  When no line holds LF or CR (`OneLine`), every line cutter of the development gives `ls`
back: `strings.Split` at LF (`splitC_lfLines`, with one empty string more), the decoders' `splitLines`
(`splitLines_lfLines`; the SSA and WebVTT copies are the SubRip one, `Lemmas/Bytes`), the scanner on the UTF-8 bytes
(`linesOf_lfLines`, `docLines_lfLines`).

A written line of SubRip or WebVTT (`WLine`) is moreover trimmed and not blank, and the lines come in groups with blank lines
between them (`segLines`).  The decoders' `blocks` (SubRip and WebVTT carry the same function,
`Spec.VTT.blocks_eq_srt`) is characterised without its accumulator: by equations (`blocks_blank`, `blocks_group`,
`blocks_last`), whence `blocks_segLines`, `blocks_head_segLines` for what a writer produces, and as a relation `Blocks.Cut`
between any lines, trimmed, and their groups (`Blocks.cut_blocks`), on which the read clauses do their induction.

The byte-order mark: the decoders drop U+FEFF from the front of the text, the readers trim the first line and then drop
the mark from it; so behind a mark the reader sees `trimRight l` where the decoder sees `trimSpace l` (`prep_bom`).
-/

namespace Astisub
namespace Go
open List

/-- the lines, each ended by LF -/
def lfLines (ls : List Str) : Str := ls.flatMap (· ++ ['\n'])

theorem lfLines_cons (a : Str) (b : List Str) : lfLines (a :: b) = a ++ '\n' :: lfLines b := by
  simp [lfLines]

theorem lfLines_append (a b : List Str) : lfLines (a ++ b) = lfLines a ++ lfLines b := by
  simp [lfLines]

theorem mem_lfLines {c : Char} {ls : List Str} : c ∈ lfLines ls ↔ (c = '\n' ∧ ls ≠ []) ∨ ∃ l ∈ ls, c ∈ l := by
  simp only [lfLines, mem_flatMap, mem_append, mem_singleton]
  constructor
  · rintro ⟨l, hl, h | h⟩
    · exact .inr ⟨l, hl, h⟩
    · exact .inl ⟨h, ne_nil_of_mem hl⟩
  · rintro (⟨h, hne⟩ | ⟨l, hl, h⟩)
    · obtain ⟨l, hl⟩ := exists_mem_of_ne_nil _ hne
      exact ⟨l, hl, .inr h⟩
    · exact ⟨l, hl, .inl h⟩

theorem _root_.Astisub.SSA.unlines_lf (ls : List Str) : SSA.unlines ls = lfLines ls := rfl

theorem splitC_lfLines {ls : List Str} (h : ∀ l ∈ ls, '\n' ∉ l) : splitC '\n' (lfLines ls) = ls ++ [[]] := by
  induction ls with
  | nil => rfl
  | cons a ls ih =>
    rw [lfLines_cons, splitC_append _ (h a mem_cons_self), ih fun l hl => h l (mem_cons_of_mem _ hl)]
    rfl

theorem splitLines_lfLines {ls : List Str} (h : ∀ l ∈ ls, OneLine l) : Spec.SRT.splitLines (lfLines ls) [] = ls :=
  Spec.SRT.splitLines_flatMap_lf h

theorem linesOf_lfLines {ls : List Str} (h : ∀ l ∈ ls, OneLine l) :
    linesOf (Driver.utf8 (lfLines ls)) = ls.map Driver.utf8 := by
  rw [Driver.linesOf_utf8, splitLines_lfLines h]

theorem docLines_lfLines {ls : List Str} (h : ∀ l ∈ ls, OneLine l) :
    Driver.docLines (Driver.utf8 (lfLines ls)) = ls.map some := by
  rw [Driver.docLines_utf8, splitLines_lfLines h]

theorem cr_not_mem_lfLines {ls : List Str} (h : ∀ l ∈ ls, '\r' ∉ l) : '\r' ∉ lfLines ls := fun hm =>
  (mem_lfLines.mp hm).elim (fun e => absurd e.1 (by decide)) fun ⟨l, hl, hc⟩ => h l hl hc

/-- a line of a written document: the readers' `strings.TrimSpace` leaves it as it is, it is not taken for a blank
    line, and no line cutter cuts inside -/
structure WLine (l : Str) : Prop where
  trim : trimSpace l = l
  ne : l ≠ []
  one : OneLine l

theorem WLine.bline {l : Str} (h : WLine l) : BLine l := ⟨h.trim, h.ne⟩

theorem WLine.of_noSpace {l : Str} (hne : l ≠ []) (h : ∀ c ∈ l, isSpace c = false) : WLine l :=
  ⟨trimSpace_id h, hne, .of_noSpace h⟩

/-- the groups, each preceded by one blank line (WebVTT; SubRip from the second cue on) -/
def segLines : List (List Str) → List Str
  | [] => []
  | b :: bs => ([] :: b) ++ segLines bs

theorem segLines_append (a b : List (List Str)) : segLines (a ++ b) = segLines a ++ segLines b := by
  induction a with
  | nil => rfl
  | cons x xs ih => simp [segLines, ih]

theorem forall_segLines {P : Str → Prop} (h0 : P []) : ∀ {bs : List (List Str)}, (∀ b ∈ bs, ∀ l ∈ b, P l) →
    ∀ l ∈ segLines bs, P l
  | [], _, _, hl => nomatch hl
  | b :: bs, h, l, hl => by
    rw [segLines, mem_append, mem_cons] at hl
    rcases hl with (rfl | hl) | hl
    · exact h0
    · exact h b mem_cons_self l hl
    · exact forall_segLines h0 (fun x hx => h x (mem_cons_of_mem _ hx)) l hl

end Go

/-! ### the decoders' `blocks` (SubRip and WebVTT carry the same function) -/

namespace Spec
open Go List

namespace SRT

theorem blocks_go_nil (cur : List Str) : blocks.go [] cur = if cur.isEmpty then [] else [cur.reverse] := by
  simp [blocks.go]

theorem blocks_go_cons (l : Str) (ls cur : List Str) :
    blocks.go (l :: ls) cur =
      if trimSpace l = [] then (if cur.isEmpty then blocks.go ls [] else cur.reverse :: blocks.go ls [])
      else blocks.go ls (trimSpace l :: cur) := by
  simp [blocks.go]

theorem blocks_go_wlines {b : List Str} (hb : ∀ l ∈ b, BLine l) (rest cur : List Str) :
    blocks.go (b ++ rest) cur = blocks.go rest (b.reverse ++ cur) := by
  induction b generalizing cur with
  | nil => rfl
  | cons l b ih =>
    rw [cons_append, blocks_go_cons, (hb l mem_cons_self).1, if_neg (hb l mem_cons_self).2,
      ih (fun x hx => hb x (mem_cons_of_mem _ hx)), reverse_cons, append_assoc, singleton_append]

theorem blocks_go_blank (rest cur : List Str) :
    blocks.go ([] :: rest) cur = (if cur.isEmpty then [] else [cur.reverse]) ++ blocks.go rest [] := by
  rw [blocks_go_cons, show trimSpace ([] : Str) = [] from rfl, if_pos rfl]; split <;> rfl

/-! `blocks` without its accumulator: a blank line separates (`blocks_blank`); a group of trimmed non-blank lines is a block
when a blank line (`blocks_group`) or nothing (`blocks_last`) follows. -/

theorem blocks_blank (rest : List Str) : blocks ([] :: rest) = blocks rest := by
  unfold blocks; rw [blocks_go_blank]; rfl

theorem blocks_group {b : List Str} (hne : b ≠ []) (hb : ∀ l ∈ b, BLine l) (rest : List Str) :
    blocks (b ++ [] :: rest) = b :: blocks rest := by
  unfold blocks
  rw [blocks_go_wlines hb, blocks_go_blank, append_nil, reverse_reverse,
    if_neg (by simpa using hne)]
  rfl

theorem blocks_last {b : List Str} (hne : b ≠ []) (hb : ∀ l ∈ b, BLine l) : blocks b = [b] := by
  have := blocks_go_wlines hb [] []
  rw [append_nil] at this
  unfold blocks
  rw [this, blocks_go_nil, append_nil, reverse_reverse, if_neg (by simpa using hne)]

theorem blocks_segLines {bs : List (List Str)} (hne : ∀ b ∈ bs, b ≠ [])
    (hb : ∀ b ∈ bs, ∀ l ∈ b, BLine l) : blocks (segLines bs) = bs := by
  induction bs with
  | nil => rfl
  | cons b bs ih =>
    have ih' := ih (fun x hx => hne x (mem_cons_of_mem _ hx)) fun x hx => hb x (mem_cons_of_mem _ hx)
    rw [segLines, cons_append, blocks_blank]
    cases bs with
    | nil => rw [segLines, append_nil, blocks_last (hne b mem_cons_self) (hb b mem_cons_self)]
    | cons c cs =>
      rw [segLines, cons_append, blocks_group (hne b mem_cons_self) (hb b mem_cons_self), ← blocks_blank, ← cons_append,
        ← segLines, ih']

/-- a first group, not preceded by a blank line (SubRip: the first cue; WebVTT: nothing), then groups each behind one -/
theorem blocks_head_segLines {b : List Str} {bs : List (List Str)} (hne : ∀ x ∈ b :: bs, x ≠ [])
    (hb : ∀ x ∈ b :: bs, ∀ l ∈ x, BLine l) : blocks (b ++ segLines bs) = b :: bs := by
  have := blocks_segLines hne hb
  rwa [segLines, cons_append, blocks_blank] at this

end SRT

theorem VTT.blocks_go_eq : ∀ ls cur, VTT.blocks.go ls cur = SRT.blocks.go ls cur
  | [], cur => by simp [VTT.blocks.go, SRT.blocks.go]
  | l :: ls, cur => by
    simp only [VTT.blocks.go, SRT.blocks.go, VTT.blocks_go_eq ls]

theorem VTT.blocks_eq_srt : VTT.blocks = SRT.blocks := by
  funext ls; exact VTT.blocks_go_eq ls []

end Spec

namespace Blocks
open Go List Spec.SRT

/-- **`blocks` as a relation**: the trimmed lines `ls` are the groups `bs` of non-blank lines, with blank lines before,
    between and after them.  A reader's loop is compared with the decoder's blocks by induction on `Cut`: one case per
    kind of step (a blank line, a group ended by a blank line, the last group). -/
inductive Cut : List Str → List (List Str) → Prop
  | nil : Cut [] []
  | blank {ls bs} : Cut ls bs → Cut ([] :: ls) bs
  | last {b} : b ≠ [] → (∀ l ∈ b, BLine l) → Cut b [b]
  | group {b ls bs} : b ≠ [] → (∀ l ∈ b, BLine l) → Cut ls bs → Cut (b ++ [] :: ls) (b :: bs)

theorem cut_go : ∀ (ls cur : List Str), (∀ l ∈ cur, BLine l) → Cut (cur.reverse ++ ls.map trimSpace) (blocks.go ls cur)
  | [], cur, hc => by
    rw [blocks_go_nil, map_nil, append_nil]
    by_cases he : cur = []
    · subst he; exact .nil
    · rw [if_neg (by simpa using he)]
      exact .last (by simpa using he) fun l hl => hc l (mem_reverse.mp hl)
  | l :: ls, cur, hc => by
    rw [blocks_go_cons, map_cons]
    split
    · rename_i hb
      rw [hb]
      by_cases he : cur = []
      · subst he; exact .blank (cut_go ls [] fun _ h => nomatch h)
      · rw [if_neg (by simpa using he)]
        exact .group (by simpa using he) (fun l hl => hc l (mem_reverse.mp hl)) (cut_go ls [] fun _ h => nomatch h)
    · rename_i hb
      have := cut_go ls (trimSpace l :: cur) (forall_mem_cons.mpr ⟨⟨trimSpace_idem l, hb⟩, hc⟩)
      rwa [reverse_cons, append_assoc, singleton_append] at this

theorem cut_blocks (ls : List Str) : Cut (ls.map trimSpace) (blocks ls) := cut_go ls [] fun _ h => nomatch h

theorem Cut.mem {ls : List Str} {bs : List (List Str)} (h : Cut ls bs) : ∀ b ∈ bs, ∀ l ∈ b, l ∈ ls := by
  induction h with
  | nil => exact fun _ hb => nomatch hb
  | blank _ ih => exact fun b hb l hl => mem_cons_of_mem _ (ih b hb l hl)
  | last => exact fun b hb l hl => mem_singleton.mp hb ▸ hl
  | group _ _ _ ih =>
    intro b hb l hl
    rcases mem_cons.mp hb with rfl | hb
    · exact mem_append_left _ hl
    · exact mem_append_right _ (mem_cons_of_mem _ (ih b hb l hl))

end Blocks

namespace Go
open List

def bomChar : Char := Char.ofNat 0xFEFF

theorem splitLines_bom (d : Str) :
    Spec.SRT.splitLines (bomChar :: d) [] = match Spec.SRT.splitLines d [] with
      | [] => [[bomChar]]
      | l :: ls => (bomChar :: l) :: ls :=
  Spec.SRT.splitLines_cons (by decide) (by decide) d

theorem trimPrefix_bom_cons (x : Str) : trimPrefix [bomChar] (bomChar :: x) = x := by
  simp [trimPrefix, dropPrefix?]

theorem trimPrefix_bom_of_head {l : Str} (h : l.head? ≠ some bomChar) : trimPrefix [bomChar] l = l := by
  cases l with
  | nil => rfl
  | cons c xs =>
    have : ¬ bomChar = c := fun e => h (by rw [e]; rfl)
    simp [trimPrefix, dropPrefix?, this]

theorem prep_bom (l : Str) : trimPrefix [bomChar] (trimSpace (bomChar :: l)) = trimRight l := by
  have : trimLeft (bomChar :: l) = bomChar :: l := by simp [trimLeft, dropWhile, show isSpace bomChar = false by decide]
  rw [trimSpace, this, trimRight_cons_ink (by decide), trimPrefix_bom_cons]

end Go
end Astisub
