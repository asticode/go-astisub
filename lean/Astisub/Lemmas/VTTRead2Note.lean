import Astisub.Lemmas.VTTRead2Defs
import Astisub.Lemmas.VTTRead2Step

/-!
# Lemmas/VTTRead2Note — comment blocks: decoder (`noteLine`) against the reader's loop
-/

namespace Astisub
namespace VTTRead
open Go Spec.VTT
open VTT (St step run Block)

theorem lit_note_tab : "NOTE\t".toList = ['N', 'O', 'T', 'E', '\t'] := by rw [String.toList_ofList]

/-- one more character of a prefix: decided by the character that follows the shorter prefix -/
theorem dropPrefix?_snoc {p l rest : Str} {ch : Char} (hd : dropPrefix? p l = some (ch :: rest)) (x : Char) :
    dropPrefix? (p ++ [x]) l = if x = ch then some rest else none := by
  induction p generalizing l with
  | nil => cases hd; rfl
  | cons a p ih =>
    cases l with
    | nil => cases hd
    | cons y l =>
      rw [dropPrefix?] at hd
      split at hd
      · rename_i e; rw [List.cons_append, dropPrefix?, if_pos e]; exact ih hd
      · cases hd

theorem note_sp : "NOTE ".toList = "NOTE".toList ++ [' '] := by decide_vector
theorem note_tab : "NOTE\t".toList = "NOTE".toList ++ ['\t'] := by decide_vector

theorem noteLine_eq_none_iff {l : Str} :
    noteLine l = none ↔
      l ≠ "NOTE".toList ∧ hasPrefix "NOTE ".toList l = false ∧ hasPrefix "NOTE\t".toList l = false := by
  unfold noteLine hasPrefix
  by_cases e : l = "NOTE".toList
  · rw [if_pos e]; exact ⟨nofun, fun h => absurd e h.1⟩
  rw [if_neg e, note_sp, note_tab]
  cases hd : dropPrefix? "NOTE".toList l with
  | none =>
    have : ∀ x, dropPrefix? ("NOTE".toList ++ [x]) l = none := by
      intro x
      cases hp : dropPrefix? ("NOTE".toList ++ [x]) l with
      | none => rfl
      | some r =>
        have := dropPrefix?_eq_some_iff.mp hp
        rw [List.append_assoc] at this
        rw [this, Go.dropPrefix?_append] at hd; cases hd
    exact ⟨fun _ => ⟨e, by rw [this]; rfl, by rw [this]; rfl⟩, fun _ => rfl⟩
  | some r =>
    cases r with
    | nil => exact absurd (by simpa using dropPrefix?_eq_some_iff.mp hd) e
    | cons ch rest =>
      rw [dropPrefix?_snoc hd, dropPrefix?_snoc hd]
      have hb : isBlank ch = (decide (' ' = ch) || decide ('\t' = ch)) := by simp [isBlank, eq_comm]
      simp only [hb, and_iff_right e]
      by_cases h1 : ' ' = ch
      · subst h1; simp
      by_cases h2 : '\t' = ch
      · subst h2; simp
      simp [h1, h2]

theorem noteLine_none {l : Str} (h : noteLine l = none) : noteTest l = false := by
  obtain ⟨h1, h2, _⟩ := noteLine_eq_none_iff.mp h
  rw [noteTest, h2, decide_eq_false h1]; rfl

theorem getLast?_append_ne {α} (a b : List α) (h : b ≠ []) : (a ++ b).getLast? = b.getLast? := by
  cases b with
  | nil => exact absurd rfl h
  | cons x xs =>
    rw [List.getLast?_append]
    have : (x :: xs).getLast? = some ((x :: xs).getLast (by simp)) := List.getLast?_eq_some_getLast _
    rw [this]; rfl

theorem noteLine_some {l c : Str} (hl : BLine l) (hok : noteOK l = true) (h : noteLine l = some c) :
    noteTest l = true ∧
    ((l = "NOTE".toList ∧ c = []) ∨ (l ≠ "NOTE".toList ∧ c ≠ [] ∧ trimPrefix "NOTE ".toList l = c)) := by
  unfold noteLine at h
  unfold noteTest
  split at h
  · rename_i e
    cases h
    exact ⟨by rw [decide_eq_true e, Bool.true_or], Or.inl ⟨e, rfl⟩⟩
  · rename_i e
    split at h
    · rename_i ch rest hd
      split at h
      · rename_i hbk
        cases h
        unfold noteOK at hok
        simp only [Bool.and_eq_true, Bool.not_eq_true'] at hok
        unfold hasPrefix at hok ⊢
        unfold trimPrefix
        rw [note_tab, dropPrefix?_snoc hd] at hok
        rw [note_sp, dropPrefix?_snoc hd] at hok ⊢
        -- the blank after `NOTE` is a space: a tab is excluded by `noteOK`
        have hch : ' ' = ch := by
          simp only [isBlank, Bool.or_eq_true, decide_eq_true_eq] at hbk
          rcases hbk with hbk | hbk
          · exact hbk.symm
          · rw [if_pos hbk.symm] at hok; exact absurd hok.1 (by simp)
        subst hch
        rw [if_pos rfl] at hok ⊢
        have htr := trimmed_of_bline hl
        have e2 : l = "NOTE".toList ++ ' ' :: rest := dropPrefix?_eq_some_iff.mp hd
        -- `l` is trimmed: something follows the space, and it ends like `l`; `noteOK`: it starts with no space
        have hrne : rest ≠ [] := by
          intro hr; subst hr
          exact absurd (htr.2 ' ' (by rw [e2]; rfl)) (by decide)
        have hrt : Trimmed rest := by
          constructor
          · intro c0 hc0
            cases rest with
            | nil => exact absurd rfl hrne
            | cons x xs => cases hc0; simpa using hok.2
          · intro c0 hc0
            apply htr.2 c0
            rw [e2, show "NOTE".toList ++ ' ' :: rest = ("NOTE".toList ++ [' ']) ++ rest by simp,
              getLast?_append_ne _ _ hrne]
            exact hc0
        rw [trimSpace_of_trimmed hrt]
        exact ⟨by rw [Option.isSome_some, Bool.or_true], Or.inr ⟨e, hrne, rfl⟩⟩
      · cases h
    · cases h

end VTTRead
end Astisub
