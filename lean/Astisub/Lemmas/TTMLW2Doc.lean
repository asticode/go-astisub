import Astisub.Lemmas.TTMLW2Run

/-!
# Lemmas/TTMLW2Doc — the independent decoder on a whole written document

`Spec.TTML.decode` on `specToks (resolve w)` for `TTML.write s = some w`: the decoder's state machine is run over the
writer's token sequence segment by segment (`run_written`), the final checks pass (`finalOk_docW`), and the decoded
document is `docW s`, whose normal form is `Driver.TTMLD.docOf s`.  Then the second clause of the `ttml.write` check: on the
class `repB` the reader model's answer `TTMLDoc.norm s` passes `readOk (docOf s)`, and `repB s` implies `TTMLDoc.rep s`.
-/

namespace Astisub
namespace TTMLW2
open Go TTML List
open Driver.TTMLD (specToks resolve nsTTML nsTTS nsTTM nsXML ttmlAttrsOf docOf normDoc defsOf sortG linesOf' runsOf readOk)
open Spec.TTML (St PState GDoc GRun GCue GDef step run decode)
open TTMLR (pPara inP closeP finalOk okR okR_iff)
open TTMLDoc (pHead pMeta pStyling pLayout titleOf copyrightOf langIn bodyOf bodyW subToks_eq bodyW_eq write_eq metaToks normRef inKV inVal normDef normItem
  normLItem normLine normLines normMeta norm truncMs)

/-- a cue the decoder reads back as it is: non-negative instants, references not the empty string, canonical
    `zIndex`, no line feed in a reference, an attribute value or the text of a run -/
def cueW (it : CItem) : Bool := cueHeadW it && it.lines.all fun l => l.items.all runW

/-- the clauses of `cueW` -/
structure CueW (it : CItem) : Prop where
  head : cueHeadW it = true
  runs : ∀ l ∈ it.lines, ∀ li ∈ l.items, runW li = true

theorem cueW_iff {it : CItem} : cueW it = true ↔ CueW it := by
  simp only [cueW, Bool.and_eq_true, all_eq_true]
  exact ⟨fun ⟨a, b⟩ => ⟨a, b⟩, fun h => ⟨h.head, h.runs⟩⟩

/-- **the class of the W2 theorem** (decidable): the proviso of the `ttml.write` check (`Driver.TTMLD.rep`: non-negative
    instants, XML-legal text, non-empty identifiers, references defined) and, in addition: at least one cue, style and
    region identifiers pairwise distinct, `zIndex` in canonical form, and no line feed in an
    identifier, a reference, an attribute value or the text of a run -/
def repW (s : Subs) : Bool :=
  Driver.TTMLD.rep s && !s.items.isEmpty &&
  decide (s.styles.map Def.id).Nodup && decide (s.regions.map Def.id).Nodup &&
  s.styles.all defW && s.regions.all defW && s.items.all cueW

/-- the clauses of `repW` -/
structure RepW (s : Subs) : Prop where
  rep : Driver.TTMLD.rep s = true
  nonempty : s.items.isEmpty = false
  stylesNodup : (s.styles.map Def.id).Nodup
  regionsNodup : (s.regions.map Def.id).Nodup
  styles : ∀ d ∈ s.styles, defW d = true
  regions : ∀ d ∈ s.regions, defW d = true
  cues : ∀ it ∈ s.items, cueW it = true

theorem repW_iff {s : Subs} : repW s = true ↔ RepW s := by
  simp only [repW, Bool.and_eq_true, all_eq_true, decide_eq_true_eq, Bool.not_eq_true']
  exact ⟨fun ⟨⟨⟨⟨⟨⟨a, b⟩, c⟩, d⟩, e⟩, f⟩, g⟩ => ⟨a, b, c, d, e, f, g⟩,
    fun h => ⟨⟨⟨⟨⟨⟨h.rep, h.nonempty⟩, h.stylesNodup⟩, h.regionsNodup⟩, h.styles⟩, h.regions⟩, h.cues⟩⟩

/-- what the decoder makes of a cue -/
def cueG (it : CItem) : GCue :=
  { b := ((it.startAt - it.startAt % 1000000).toNat, 1), e := ((it.endAt - it.endAt % 1000000).toNat, 1),
    style := it.style, region := it.region, attrs := ttmlAttrsOf it.attrs, lines := linesOf' it.lines }

/-- **the document the decoder returns for what `WriteToTTML` wrote from `s`** (definitions in identifier order) -/
def docW (s : Subs) : GDoc :=
  { cues := s.items.map cueG, styles := (sortDefs s.styles).map toG, regions := (sortDefs s.regions).map toG,
    title := titleOf s, copyright := copyrightOf s, lang := langIn s.metadata }

theorem closeP_eq (doc : GDoc) (buf : Str) (p : PState) (dc : List (List GRun) × List GRun) :
    closeP (mkS pPara doc buf) p dc = mkS pDiv { doc with cues := doc.cues ++
      [{ b := p.b, e := p.e, style := p.style, region := p.region, attrs := p.attrs, lines := dc.1 ++ [dc.2] }] } buf := rfl

theorem runsOf_eq (l : Line) : runsOf l = l.items.map runG := rfl

/-- the decoder's paragraph state right after the start tag of the cue's `<p>` -/
def cueP (it : CItem) : PState :=
  { b := ((it.startAt - it.startAt % 1000000).toNat, 1), e := ((it.endAt - it.endAt % 1000000).toNat, 1),
    style := it.style, region := it.region, attrs := ttmlAttrsOf it.attrs }

theorem run_sub (doc : GDoc) (buf : Str) (it : CItem) (h : cueW it = true) :
    run ((subToks it).map sTok) (mkS pDiv doc buf) = some (mkS pDiv { doc with cues := doc.cues ++ [cueG it] } buf) := by
  have hh := (cueW_iff.mp h).head
  have hl := (cueW_iff.mp h).runs
  obtain ⟨h1, h2, h3, h4, h5, h6, h7, h8⟩ := p_fields it hh 0 0
  rw [subToks_eq, map_cons, map_append, bodyW_eq]
  simp only [sTok, el_p, map_cons, map_nil]
  have hstep : step (mkS pDiv doc buf) (.start nsTTML ['p'] ((TTMLDoc.pAttrs it).map rAttr))
      = some (inP (mkS pPara doc buf) [] (pst (cueP it) [] [])) := by
    rw [step_p doc buf nsTTML _ _ _ _ _ _ _ _ h1 h2 h3 h4 h5 h6 h7 h8]
    rfl
  rw [run_step _ hstep]
  cases hls : it.lines with
  | nil =>
    simp only [bodyOf, map_nil, nil_append]
    rw [run_one (TTMLR.step_top_stop _ _ rfl rfl (base_len doc buf)), closeP_eq]
    simp only [pst, cueP, cueG, hls, linesOf', List.isEmpty_nil, if_true, nil_append]
  | cons l ls =>
    obtain ⟨d, cu, hr, hd⟩ := run_bodyOf doc buf (cueP it) l ls (by rw [← hls]; exact hl) []
    rw [run_append_some _ hr, run_one (TTMLR.step_top_stop _ _ rfl rfl (base_len doc buf)), closeP_eq]
    simp only [pst, cueP, cueG, hls, linesOf', List.isEmpty_cons, Bool.false_eq_true, if_false, hd, nil_append]
    rfl

theorem run_subs (buf : Str) (l : List CItem) (h : ∀ it ∈ l, cueW it = true) (doc : GDoc) :
    run (((l.map subToks).flatten).map sTok) (mkS pDiv doc buf)
      = some (mkS pDiv { doc with cues := doc.cues ++ l.map cueG } buf) :=
  run_groups subToks cueG (fun acc => mkS pDiv { doc with cues := acc } buf) l
    (fun it hit _ => run_sub _ buf it (h it hit)) doc.cues

theorem run_styles (buf : Str) (l : List Def) (h : ∀ d ∈ l, defW d = true) (doc : GDoc) :
    run (((l.map (header "style")).flatten).map sTok) (mkS pStyling doc buf)
      = some (mkS pStyling { doc with styles := doc.styles ++ l.map toG } buf) := by
  refine run_groups (header "style") toG (fun acc => mkS pStyling { doc with styles := acc } buf) l
    (fun d hd acc => ?_) doc.styles
  obtain ⟨hg, hnl⟩ := mkDef_header d (h d hd)
  show run [.start (Driver.TTMLD.resolveEl _).1 (Driver.TTMLD.resolveEl _).2 ((TTMLDoc.headerAttrs d).map rAttr), .stop] _ = _
  rw [el_style, run_step _ (step_style _ buf nsTTML _ _ hg hnl),
    run_one (step_close' _ buf _ _ (by simp) (by decide) (by decide))]

theorem run_regions (buf : Str) (l : List Def) (h : ∀ d ∈ l, defW d = true) (doc : GDoc) :
    run (((l.map (header "region")).flatten).map sTok) (mkS pLayout doc buf)
      = some (mkS pLayout { doc with regions := doc.regions ++ l.map toG } buf) := by
  refine run_groups (header "region") toG (fun acc => mkS pLayout { doc with regions := acc } buf) l
    (fun d hd acc => ?_) doc.regions
  obtain ⟨hg, hnl⟩ := mkDef_header d (h d hd)
  show run [.start (Driver.TTMLD.resolveEl _).1 (Driver.TTMLD.resolveEl _).2 ((TTMLDoc.headerAttrs d).map rAttr), .stop] _ = _
  rw [el_region, run_step _ (step_region _ buf nsTTML _ _ hg hnl),
    run_one (step_close' _ buf _ _ (by simp) (by decide) (by decide))]

theorem run_copyright (doc : GDoc) (buf s : Str) :
    run ((elemText "ttm:copyright" s).map sTok) (mkS pMeta doc buf)
      = some (mkS pMeta { doc with copyright := if s.isEmpty then doc.copyright else s } (if s.isEmpty then buf else s)) := by
  unfold elemText
  by_cases h : s.isEmpty = true
  · simp [h, run]
  · simp only [h, Bool.false_eq_true, if_false, map_cons, map_nil, sTok, el_copyright]
    rw [run_step _ (step_copy_open doc nsTTM buf), run_step _ (step_copy_text doc [] s),
      run_one (step_copy_close doc ([] ++ s))]
    rfl

theorem run_title (doc : GDoc) (buf s : Str) :
    run ((elemText "ttm:title" s).map sTok) (mkS pMeta doc buf)
      = some (mkS pMeta { doc with title := if s.isEmpty then doc.title else s } (if s.isEmpty then buf else s)) := by
  unfold elemText
  by_cases h : s.isEmpty = true
  · simp [h, run]
  · simp only [h, Bool.false_eq_true, if_false, map_cons, map_nil, sTok, el_title]
    rw [run_step _ (step_title_open doc nsTTM buf), run_step _ (step_title_text doc [] s),
      run_one (step_title_close doc ([] ++ s))]
    rfl

theorem run_metaToks (s : Subs) (lang : Str) :
    ∃ buf, run ((metaToks s).map sTok) (mkS pHead { lang := lang } [])
      = some (mkS pHead { title := titleOf s, copyright := copyrightOf s, lang := lang } buf) := by
  unfold metaToks
  by_cases h : s.metadata.isSome ∧ (copyrightOf s ≠ [] ∨ titleOf s ≠ [])
  · rw [if_pos h]
    refine ⟨TTMLDoc.metaBuf s, ?_⟩
    unfold TTMLDoc.metaBuf
    rw [append_assoc, append_assoc, singleton_append, map_cons, map_append, map_append]
    simp only [sTok, el_metadata, map_cons, map_nil]
    rw [run_step _ (step_metadata _ [] nsTTML), run_append_some _ (run_copyright _ _ _),
      run_append_some _ (run_title _ _ _), run_one (step_close' _ _ _ _ (by simp) (by decide) (by decide))]
    simp only [TTMLDoc.ite_empty]
  · rw [if_neg h]
    obtain ⟨h1, h2⟩ := TTMLDoc.titles_empty s h
    exact ⟨[], by rw [h1, h2]; rfl⟩

theorem run_written (s : Subs) (hst : ∀ d ∈ s.styles, defW d = true) (hrg : ∀ d ∈ s.regions, defW d = true)
    (hit : ∀ it ∈ s.items, cueW it = true) (w : List WTok) (hw : write s = some w) :
    ∃ buf, run (w.map sTok) {} = some { mkS [] (docW s) buf with finished := true } := by
  have hne : s.items.isEmpty = false := by
    cases h : s.items.isEmpty with
    | false => rfl
    | true => simp [write, h] at hw
  rw [write_eq s hne] at hw
  simp only [Option.some.injEq] at hw
  subst hw
  obtain ⟨buf, hmeta⟩ := run_metaToks s (langIn s.metadata)
  refine ⟨buf, ?_⟩
  simp only [map_append, map_cons, map_nil, sTok, el_tt, el_head, el_styling, el_layout, el_body, el_div, cons_append,
    nil_append]
  rw [← rootR, run_step _ (step_root nsTTML s.metadata), run_step _ (step_head _ _ _),
    run_append_some _ hmeta, run_step _ (step_styling _ _ _),
    run_append_some _ (run_styles buf (sortDefs s.styles) (fun d hd => hst d (TTMLDoc.mem_sortDefs.mp hd)) _),
    run_step _ (step_close' _ _ _ _ (by simp) (by decide) (by decide)), run_step _ (step_layout _ _ _),
    run_append_some _ (run_regions buf (sortDefs s.regions) (fun d hd => hrg d (TTMLDoc.mem_sortDefs.mp hd)) _),
    run_step _ (step_close' _ _ _ _ (by simp) (by decide) (by decide)),
    run_step _ (step_close' _ _ _ _ (by simp) (by decide) (by decide)),
    run_step _ (step_body _ _ _), run_step _ (step_div _ _ _),
    run_append_some _ (run_subs buf s.items hit _),
    run_step _ (step_close' _ _ _ _ (by simp) (by decide) (by decide)),
    run_step _ (step_close' _ _ _ _ (by simp) (by decide) (by decide)),
    run_one (step_close _ _ _ _ (by decide) (by decide))]
  simp [docW]

theorem decode_of_run (toks : List Spec.TTML.Tok) (stF : St) (hr : run toks {} = some stF) (hf : stF.finished = true)
    (hok : finalOk stF.doc = true) : decode toks = some stF.doc := by
  unfold decode
  rw [hr]
  simp only [hf, Bool.not_true, Bool.false_eq_true, if_false]
  exact if_pos hok

def RefIn (r : Option Str) (ids : List Str) : Prop := ∀ v, r = some v → v ∈ ids

theorem refIn_of {r : Option Str} {ids : List Str}
    (h : (match r with | none => true | some x => !x.isEmpty && ids.contains x) = true) : RefIn r ids := by
  intro v hv
  subst hv
  simp only [Bool.and_eq_true, List.contains_eq_mem, decide_eq_true_eq] at h
  exact h.2

theorem rep_refs (s : Subs) (h : Driver.TTMLD.rep s = true) :
    (∀ d ∈ s.styles, RefIn d.ref (s.styles.map (·.id))) ∧
    (∀ d ∈ s.regions, RefIn d.ref (s.styles.map (·.id))) ∧
    (∀ it ∈ s.items, RefIn it.style (s.styles.map (·.id)) ∧ RefIn it.region (s.regions.map (·.id)) ∧
      ∀ l ∈ it.lines, ∀ li ∈ l.items, RefIn li.style (s.styles.map (·.id))) := by
  simp only [Driver.TTMLD.rep, Bool.and_eq_true, all_eq_true] at h
  obtain ⟨⟨⟨_, hs⟩, hr⟩, hi⟩ := h
  refine ⟨fun d hd => refIn_of (hs d hd).1.2, fun d hd => refIn_of (hr d hd).1.2, fun it hit => ?_⟩
  obtain ⟨⟨⟨⟨_, h1⟩, h2⟩, _⟩, h3⟩ := hi it hit
  exact ⟨refIn_of h1, refIn_of h2, fun l hl li hli => refIn_of (h3 l hl li hli).1.2⟩

theorem okR_of {r : Option Str} {ids ids' : List Str} (h : RefIn r ids) (hp : ids.Perm ids') : okR r ids' = true :=
  (okR_iff r ids').mpr fun v hv => hp.mem_iff.mp (h v hv)

theorem ids_toG (l : List Def) : (l.map toG).map (·.id) = l.map (·.id) := by
  rw [map_map]; rfl

theorem finalOk_docW (s : Subs) (hrep : Driver.TTMLD.rep s = true) (hsn : (s.styles.map Def.id).Nodup)
    (hrn : (s.regions.map Def.id).Nodup) : finalOk (docW s) = true := by
  obtain ⟨h1, h2, h3⟩ := rep_refs s hrep
  have ps := (TTMLDoc.sortDefs_ids_perm s.styles).symm
  have pr := (TTMLDoc.sortDefs_ids_perm s.regions).symm
  simp only [finalOk, docW, ids_toG, Bool.and_eq_true, all_eq_true]
  refine ⟨⟨⟨⟨Spec.TTML.nodup_iff.mpr (ps.nodup_iff.mp hsn), Spec.TTML.nodup_iff.mpr (pr.nodup_iff.mp hrn)⟩, ?_⟩, ?_⟩, ?_⟩
  · intro g hg
    obtain ⟨d, hd, rfl⟩ := mem_map.mp hg
    exact okR_of (h1 d (TTMLDoc.mem_sortDefs.mp hd)) ps
  · intro g hg
    obtain ⟨d, hd, rfl⟩ := mem_map.mp hg
    exact okR_of (h2 d (TTMLDoc.mem_sortDefs.mp hd)) ps
  · intro c hc
    obtain ⟨it, hit, rfl⟩ := mem_map.mp hc
    obtain ⟨a1, a2, a3⟩ := h3 it hit
    refine ⟨⟨okR_of a1 ps, okR_of a2 pr⟩, ?_⟩
    intro l hl r hr
    simp only [cueG, linesOf'] at hl
    cases hls : it.lines with
    | nil =>
      simp only [hls, List.isEmpty_nil, if_true, mem_singleton] at hl
      subst hl
      simp at hr
    | cons l0 ls =>
      simp only [hls, List.isEmpty_cons, Bool.false_eq_true, if_false] at hl
      obtain ⟨l1, hl1, rfl⟩ := mem_map.mp hl
      obtain ⟨li, hli, rfl⟩ := mem_map.mp hr
      exact okR_of (a3 l1 (by rw [hls]; exact hl1) li hli) ps

/-- the writer (`sortDefs`) and the check (`sortG`) sort definitions by identifier -/
theorem sortG_eq (l : List GDef) : sortG l = l.mergeSort (keyLe GDef.id) := rfl

theorem sortG_idem (l : List GDef) : sortG (sortG l) = sortG l := by
  rw [sortG_eq, sortG_eq]; exact mergeSort_keyLe_idem _ l

theorem sortDefs_eq (l : List Def) : sortDefs l = l.mergeSort (keyLe Def.id) := rfl

theorem sortDefs_toG (l : List Def) : (sortDefs l).map toG = sortG (l.map toG) := by
  rw [sortDefs_eq, sortG_eq]
  exact List.map_mergeSort (r := keyLe Def.id) (s := keyLe GDef.id) (f := toG) (l := l) (fun _ _ _ _ => rfl)

theorem sortG_written (l : List Def) : sortG ((sortDefs l).map toG) = defsOf l := by
  rw [sortDefs_toG, sortG_idem, ← sortDefs_toG]
  rfl

def langNames : List Str :=
  ["chinese".toList, "english".toList, "french".toList, "japanese".toList, "norwegian".toList]

theorem lang_names : ∀ p ∈ languages, p.2 ∈ langNames := by decide

/-- the two language tables agree: the code the writer puts on `<tt>` is the code the specification expects -/
theorem lang_agree (l : Str) :
    (TTMLDoc.normRef ((languages.find? fun p => p.2 = l).map (·.1))).getD [] = (Spec.TTML.languageCode l).getD [] := by
  by_cases h1 : l = "chinese".toList
  · subst h1; decide
  by_cases h2 : l = "english".toList
  · subst h2; decide
  by_cases h3 : l = "french".toList
  · subst h3; decide
  by_cases h4 : l = "japanese".toList
  · subst h4; decide
  by_cases h5 : l = "norwegian".toList
  · subst h5; decide
  have hl : l ∉ langNames := by
    simp only [langNames, mem_cons, not_mem_nil, or_false, not_or]
    exact ⟨h1, h2, h3, h4, h5⟩
  have e1 : languages.find? (fun p => p.2 = l) = none := by
    rw [find?_eq_none]
    intro p hp
    simp only [decide_eq_true_eq]
    intro e
    exact hl (e ▸ lang_names p hp)
  have e2 : Spec.TTML.languageCode l = none := by
    unfold Spec.TTML.languageCode Spec.TTML.languageTable
    simp only [findSome?_cons, findSome?_nil, h1, h2, h3, h4, h5, if_false]
  rw [e1, e2]
  rfl

theorem lang_written (m : Attrs) :
    langIn m = (match kvGet m "Language" with | some l => (Spec.TTML.languageCode l).getD [] | none => []) := by
  unfold langIn langOut
  cases kvGet m "Language" with
  | none => rfl
  | some l => exact lang_agree l

theorem normDoc_docW (s : Subs) : normDoc (docW s) = docOf s := by
  unfold normDoc docW docOf
  simp only [sortG_written, lang_written]
  rfl

/-- `zIndex`, if set, fits `int64` (the library parses it with `strconv.ParseInt(…, 10, 64)`) -/
def zFit (a : Attrs) : Bool :=
  match kvGet a "TTMLZIndex" with
  | some v => TTMLR.zFits v
  | none => true

/-- every `zIndex` of the cue list fits `int64` -/
def zFitAll (s : Subs) : Bool :=
  s.styles.all (fun d => zFit d.attrs) && s.regions.all (fun d => zFit d.attrs) &&
  s.items.all fun it => zFit it.attrs && it.lines.all fun l => l.items.all fun li => zFit li.attrs

/-- every instant is below 100 h (the class on which the write → read theorem `C03doc.write_read` is proved) -/
def timeAll (s : Subs) : Bool := s.items.all fun it => TTMLDoc.timeOk it.startAt && TTMLDoc.timeOk it.endAt

/-- **the class of the whole `ttml.write` predicate**: `repW`, every `zIndex` within 64 bits, instants below 100 h -/
def repB (s : Subs) : Bool := repW s && zFitAll s && timeAll s

/-- the clauses of `repB`: the class `repW`, every `zIndex` within 64 bits, every instant printable -/
structure RepB (s : Subs) : Prop extends RepW s where
  zStyles : ∀ d ∈ s.styles, zFit d.attrs = true
  zRegions : ∀ d ∈ s.regions, zFit d.attrs = true
  zCues : ∀ it ∈ s.items, zFit it.attrs = true ∧ ∀ l ∈ it.lines, ∀ li ∈ l.items, zFit li.attrs = true
  times : ∀ it ∈ s.items, TTMLDoc.timeOk it.startAt = true ∧ TTMLDoc.timeOk it.endAt = true

theorem repB_iff {s : Subs} : repB s = true ↔ RepB s := by
  simp only [repB, zFitAll, timeAll, Bool.and_eq_true, all_eq_true, repW_iff]
  exact ⟨fun ⟨⟨w, ⟨a, b⟩, c⟩, d⟩ => ⟨w, a, b, c, d⟩, fun h => ⟨⟨h.toRepW, ⟨h.zStyles, h.zRegions⟩, h.zCues⟩, h.times⟩⟩

theorem zindex_back (a : Attrs) (hz : zCanon a = true) (hf : zFit a = true) (v : Str) (hk : kvGet a "TTMLZIndex" = some v) :
    (parseIntAttr v).map itoa = some v := by
  simp only [zCanon, hk] at hz
  simp only [zFit, hk] at hf
  cases hi : Spec.TTML.int? (Spec.TTML.trimS v) with
  | none => rw [hi] at hz; simp at hz
  | some z =>
    rw [hi] at hz
    simp only [Option.map_some, beq_iff_eq, Option.some.injEq] at hz
    obtain ⟨h1, h2⟩ := TTMLR.zIndex_value v z hi hf
    rw [h1, Option.map_some, h2, hz]

theorem attrsOk_of (a : Attrs) (hz : zCanon a = true) (hf : zFit a = true) : TTMLDoc.attrsOk a = true := by
  unfold TTMLDoc.attrsOk
  cases hk : kvGet a "TTMLZIndex" with
  | none => rfl
  | some v =>
    have := zindex_back a hz hf v hk
    cases hp : parseIntAttr v with
    | none => rw [hp] at this; simp at this
    | some z => simp [hp]

theorem attrs_back (a : Attrs) (hz : zCanon a = true) (hf : zFit a = true) :
    ttmlAttrsOf (some (styleAttributes (inKV a))) = ttmlAttrsOf a := by
  rw [TTMLR.view_styleAttributes, TTMLR.ttmlAttrsOf_eq]
  apply List.filterMap_congr_mem
  intro p hp
  rw [TTMLDoc.inKV_get a hp]
  cases hk : kvGet a ("TTML" ++ p.1) with
  | none => rfl
  | some v =>
    simp only [Option.bind_some, Option.map_some]
    unfold inVal
    by_cases hzz : p.1 = "ZIndex"
    · rw [if_pos hzz]
      rw [hzz, TTMLDoc.zindex_key] at hk
      rw [zindex_back a hz hf v hk]
      rfl
    · rw [if_neg hzz]
      rfl

theorem toG_normDef (d : Def) (h : defW d = true) (hf : zFit d.attrs = true) : toG (normDef d) = toG d := by
  have hd := defW_iff.mp h
  simp only [toG, normDef, refW_norm hd.ref, attrs_back d.attrs (zCanon_of hd.attrs) hf]

theorem runG_norm (li : LItem) (h : runW li = true) (hf : zFit li.attrs = true) : runG (normLItem li) = runG li := by
  have hr := runW_iff.mp h
  simp only [runG, normLItem, refW_norm hr.style, attrs_back li.attrs (zCanon_of hr.attrs) hf]

theorem linesOf_norm (ls : List Line) (h : ∀ l ∈ ls, ∀ li ∈ l.items, runW li = true)
    (hf : ∀ l ∈ ls, ∀ li ∈ l.items, zFit li.attrs = true) : linesOf' (normLines ls) = linesOf' ls := by
  cases ls with
  | nil => rfl
  | cons l ls =>
    simp only [normLines, linesOf', List.isEmpty_cons, Bool.false_eq_true, if_false, map_map, List.map_cons]
    show map (runsOf ∘ normLine) (l :: ls) = map runsOf (l :: ls)
    apply map_congr_left
    intro l' hl'
    simp only [Function.comp, runsOf_eq, normLine, map_map]
    apply map_congr_left
    intro li hli
    exact runG_norm li (h l' hl' li hli) (hf l' hl' li hli)

theorem sortDefs_idem (l : List Def) : sortDefs (sortDefs l) = sortDefs l := by
  rw [sortDefs_eq, sortDefs_eq]; exact mergeSort_keyLe_idem _ l

theorem sortDefs_normDef (l : List Def) : (sortDefs l).map normDef = sortDefs (l.map normDef) := by
  rw [sortDefs_eq, sortDefs_eq]
  exact List.map_mergeSort (r := keyLe Def.id) (s := keyLe Def.id) (f := normDef) (l := l) (fun _ _ _ _ => rfl)

theorem defsOf_eq (l : List Def) : defsOf l = (sortDefs l).map toG := rfl

theorem defs_back (l : List Def) (h : ∀ d ∈ l, defW d = true) (hf : ∀ d ∈ l, zFit d.attrs = true) :
    defsOf ((sortDefs l).map normDef) = sortG (defsOf l) := by
  rw [defsOf_eq, sortDefs_normDef, sortDefs_idem, ← sortDefs_normDef, map_map, defsOf_eq, sortDefs_toG, sortG_idem,
    ← sortDefs_toG]
  apply map_congr_left
  intro d hd
  have hd' := TTMLDoc.mem_sortDefs.mp hd
  exact toG_normDef d (h d hd') (hf d hd')

theorem within1_trunc (t : Int) (h0 : 0 ≤ t) : Spec.TTML.within1 (truncMs t) ((t - t % 1000000).toNat, 1) = true := by
  apply TTMLR.within1_exact
  unfold truncMs
  omega

/-- the metadata read back are `TTMLIn.metadata()` of a document with the written language code, title and copyright -/
theorem normMeta_eq (m : Attrs) :
    normMeta m = metadataOf { framerate := 0, tickrate := 0, lang := langIn m, title := (kvGet m "Title").getD []
                              copyright := (kvGet m "TTMLCopyright").getD [], regions := [], styles := [], subs := [] } := by
  simp [metadataOf, normMeta]

/-- **`readOk (docOf s) (norm s)`**: what the reader model answers for the written document passes the check against
    the document the cue list should denote. -/
theorem readOk_norm (s : Subs) (h : repB s = true) : readOk (docOf s) (norm s) = true := by
  have h := repB_iff.mp h
  unfold readOk
  simp only [Bool.and_eq_true]
  refine ⟨⟨⟨⟨⟨⟨?_, ?_⟩, ?_⟩, ?_⟩, ?_⟩, ?_⟩, ?_⟩
  · simp [norm, docOf]
  · simp only [norm, docOf, List.zip_map', all_eq_true, mem_map]
    rintro _ ⟨it, hi, rfl⟩
    have hc := cueW_iff.mp (h.cues it hi)
    have hh := cueHeadW_iff.mp hc.head
    obtain ⟨fa, fl⟩ := h.zCues it hi
    simp only [normItem, Bool.and_eq_true, beq_iff_eq]
    exact ⟨⟨⟨⟨⟨within1_trunc _ hh.start, within1_trunc _ hh.stop⟩, refW_norm hh.style⟩, refW_norm hh.region⟩,
      attrs_back it.attrs (zCanon_of hh.attrs) fa⟩, linesOf_norm it.lines hc.runs fl⟩
  · simp only [beq_iff_eq]
    exact defs_back s.styles h.styles h.zStyles
  · simp only [beq_iff_eq]
    exact defs_back s.regions h.regions h.zRegions
  · simp only [beq_iff_eq, norm, normMeta_eq s.metadata, TTMLR.metadata_title]
    rfl
  · simp only [beq_iff_eq, norm, normMeta_eq s.metadata, TTMLR.metadata_copyright]
    rfl
  · cases hn : Spec.TTML.languageName (docOf s).lang with
    | none => rfl
    | some n =>
      simp only [beq_iff_eq, norm, normMeta_eq s.metadata, TTMLR.metadata_language]
      have e : (docOf s).lang = langIn s.metadata := (lang_written s.metadata).symm
      rw [e] at hn
      exact TTMLR.language_view _ n hn

theorem refOk_of {r : Option Str} {ids : List Str} (h : RefIn r ids) : TTMLDoc.refOk ids r = true := by
  rw [TTMLDoc.refOk_iff]
  intro v hv
  cases r with
  | none => simp [normRef] at hv
  | some x =>
    by_cases hx : x = []
    · simp [normRef, hx] at hv
    · simp [normRef, hx] at hv
      exact h v (by rw [hv])

theorem rep_of_repB (s : Subs) (h : repB s = true) : TTMLDoc.rep s = true := by
  have h := repB_iff.mp h
  obtain ⟨r1, r2, r3⟩ := rep_refs s h.rep
  have hdef : ∀ d, defW d = true → zFit d.attrs = true → TTMLDoc.attrsOk d.attrs = true :=
    fun d hd hf => attrsOk_of _ (zCanon_of (defW_iff.mp hd).attrs) hf
  refine TTMLDoc.rep_iff.mpr ⟨h.nonempty, h.stylesNodup, h.regionsNodup,
    fun d hd => TTMLDoc.defOk_iff.mpr ⟨hdef d (h.styles d hd) (h.zStyles d hd), refOk_of (r1 d hd)⟩,
    fun d hd => TTMLDoc.defOk_iff.mpr ⟨hdef d (h.regions d hd) (h.zRegions d hd), refOk_of (r2 d hd)⟩, fun it hi => ?_⟩
  have hc := cueW_iff.mp (h.cues it hi)
  obtain ⟨hs, he⟩ := h.times it hi
  obtain ⟨fa, fl⟩ := h.zCues it hi
  obtain ⟨a1, a2, a3⟩ := r3 it hi
  refine TTMLDoc.cueOk_iff.mpr ⟨TTMLDoc.timeOk_iff.mp hs, TTMLDoc.timeOk_iff.mp he,
    attrsOk_of _ (zCanon_of (cueHeadW_iff.mp hc.head).attrs) fa, refOk_of a1, refOk_of a2, fun l hl li hli => ?_⟩
  have hr := runW_iff.mp (hc.runs l hl li hli)
  exact TTMLDoc.runOk_iff.mpr ⟨attrsOk_of _ (zCanon_of hr.attrs) (fl l hl li hli),
    TTMLR.hasNL_false (by simpa [okStr] using hr.text), refOk_of (a3 l hl li hli)⟩

end TTMLW2
end Astisub
