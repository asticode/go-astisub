import Astisub.Lemmas.VTTRead2TextA

/-!
# Lemmas/VTTRead2TagView — the tags of a run through the protocol's `WebVTTTags` attribute: which tags survive it
(`tagOK`; what the round trip needs of them is `TagCanon`, which every tag read from an attribute string has, so the
tags of an attribute list are canonical), and that the decoder only pushes such tags on lines of the class
-/

namespace Astisub
namespace VTTRead
open Go Spec.VTT

/-- a character of a tag name or class: not the separators of the attribute string -/
def tagCh (c : Char) : Bool := c != ' ' && c != '.' && c != '|'

/-- the tags the attribute string carries faithfully -/
def tagOK (t : GTag) : Bool :=
  !t.name.isEmpty && t.name.all tagCh && t.classes.all (fun cl => cl.all tagCh) && t.annotation.all (· != '|')

example : tagOK { name := "c".toList, classes := ["red".toList], annotation := "Bob Smith".toList } = true := by decide_vector

theorem tagCh_facts {c : Char} (h : tagCh c = true) : c ≠ ' ' ∧ c ≠ '.' ∧ c ≠ '|' := by
  simp only [tagCh, Bool.and_eq_true, bne_iff_ne, ne_eq] at h
  exact ⟨h.1.1, h.1.2, h.2⟩

/-- what the round trip through the attribute string needs of a tag (every tag read from an attribute string is of this
    kind, `tagCanon_tagOfStr`) -/
structure TagCanon (t : GTag) : Prop where
  name : ∀ c ∈ t.name, c ≠ ' ' ∧ c ≠ '.' ∧ c ≠ '|'
  cls : ∀ cl ∈ t.classes, ∀ c ∈ cl, c ≠ ' ' ∧ c ≠ '.' ∧ c ≠ '|'
  ann : ∀ c ∈ t.annotation, c ≠ '|'

structure TagGood (t : GTag) : Prop extends TagCanon t where
  ne : t.name ≠ []

theorem tagOK_iff (t : GTag) : tagOK t = true ↔ TagGood t := by
  constructor
  · intro h
    simp only [tagOK, Bool.and_eq_true, List.all_eq_true, Bool.not_eq_true', bne_iff_ne, ne_eq] at h
    obtain ⟨⟨⟨h1, h2⟩, h3⟩, h4⟩ := h
    refine ⟨⟨fun c hc => tagCh_facts (h2 c hc), fun cl hcl c hc => tagCh_facts (h3 cl hcl c hc), h4⟩, ?_⟩
    intro e; rw [e] at h1; simp at h1
  · intro ⟨⟨h2, h3, h4⟩, h1⟩
    simp only [tagOK, Bool.and_eq_true, List.all_eq_true, Bool.not_eq_true', bne_iff_ne, ne_eq, tagCh]
    refine ⟨⟨⟨?_, fun c hc => ?_⟩, fun cl hcl c hc => ?_⟩, h4⟩
    · cases hn : t.name with
      | nil => exact absurd hn h1
      | cons _ _ => rfl
    · obtain ⟨a, b, c'⟩ := h2 c hc; exact ⟨⟨a, b⟩, c'⟩
    · obtain ⟨a, b, c'⟩ := h3 cl hcl c hc; exact ⟨⟨a, b⟩, c'⟩

/-- the part of a tag's text before the annotation -/
def tagHead (t : GTag) : Str := join ['.'] (t.name :: t.classes)

theorem tagStr_eq (t : GTag) :
    VTT.Tag.str (modelTag t) = tagHead t ++ (if t.annotation.isEmpty then [] else ' ' :: t.annotation) := by
  obtain ⟨n, cls, a⟩ := t
  cases cls with
  | nil => simp [VTT.Tag.str, modelTag, tagHead, join]
  | cons c cs => simp [VTT.Tag.str, modelTag, tagHead, join_cons_cons]

theorem tagHead_mem {t : GTag} (h : TagCanon t) : ∀ c ∈ tagHead t, c ≠ ' ' ∧ c ≠ '|' := by
  intro c hc
  rcases mem_join hc with e | ⟨cl, hcl, hc⟩
  · rw [List.mem_singleton.mp e]; decide
  · rcases List.mem_cons.mp hcl with e | hcl
    · subst e; exact ⟨(h.name c hc).1, (h.name c hc).2.2⟩
    · exact ⟨(h.cls cl hcl c hc).1, (h.cls cl hcl c hc).2.2⟩

theorem tagHead_split {t : GTag} (h : TagCanon t) : splitC '.' (tagHead t) = t.name :: t.classes := by
  apply splitC_join (by simp)
  intro cl hcl hm
  rcases List.mem_cons.mp hcl with e | hcl
  · subst e; exact (h.name _ hm).2.1 rfl
  · exact (h.cls cl hcl _ hm).2.1 rfl

theorem tagStr_noBar {t : GTag} (h : TagCanon t) : '|' ∉ VTT.Tag.str (modelTag t) := by
  rw [tagStr_eq]
  intro hm
  rcases List.mem_append.mp hm with hm | hm
  · exact (tagHead_mem h _ hm).2 rfl
  · by_cases he : t.annotation.isEmpty = true
    · simp [he] at hm
    · simp only [he, Bool.false_eq_true, if_false, List.mem_cons] at hm
      rcases hm with e | hm
      · exact absurd e (by decide)
      · exact h.ann _ hm rfl

theorem tagOfStr_str {t : GTag} (h : TagCanon t) : VTT.tagOfStr (VTT.Tag.str (modelTag t)) = modelTag t := by
  have hh : ∀ c ∈ tagHead t, (fun c => c != ' ') c = true := by
    intro c hc; simpa using (tagHead_mem h c hc).1
  rw [tagStr_eq]
  by_cases he : t.annotation.isEmpty = true
  · have ha : t.annotation = [] := by simpa using he
    simp only [he, if_true, List.append_nil]
    unfold VTT.tagOfStr
    simp only [List.takeWhile_eq_self_of_all _ hh, List.drop_length, List.drop_nil, tagHead_split h]
    simp [modelTag, ha]
  · simp only [he, Bool.false_eq_true, if_false]
    unfold VTT.tagOfStr
    have ht : (tagHead t ++ ' ' :: t.annotation).takeWhile (fun c => c != ' ') = tagHead t := by
      rw [List.takeWhile_append_of_pos hh]; simp
    simp only [ht, List.drop_left, tagHead_split h]
    simp [modelTag]

theorem specTag_modelTag (t : GTag) : Driver.specTag (modelTag t) = t := rfl

theorem tagsView_canon (tags : List GTag) (hg : ∀ t ∈ tags, TagCanon t) :
    (VTT.tagsOfAttrs (VTT.tagsAttrs (tags.map modelTag))).map Driver.specTag = tags := by
  cases tags with
  | nil => rfl
  | cons t ts =>
    have hsplit : splitC '|' (VTT.tagsStr ((t :: ts).map modelTag)) = ((t :: ts).map modelTag).map VTT.Tag.str := by
      unfold VTT.tagsStr
      apply splitC_join (by simp)
      intro s hs
      simp only [List.map_map, List.mem_map, Function.comp] at hs
      obtain ⟨x, hx, rfl⟩ := hs
      exact tagStr_noBar (hg x hx)
    have hget : VTT.tagsOfAttrs (VTT.tagsAttrs ((t :: ts).map modelTag))
        = (splitC '|' (VTT.tagsStr ((t :: ts).map modelTag))).map VTT.tagOfStr := by
      simp [VTT.tagsOfAttrs, VTT.tagsAttrs, SRT.kvGet, List.lookup]
    rw [hget, hsplit]
    simp only [List.map_map]
    have : ∀ l : List GTag, (∀ x ∈ l, TagCanon x) →
        l.map (Driver.specTag ∘ VTT.tagOfStr ∘ VTT.Tag.str ∘ modelTag) = l := by
      intro l hl
      induction l with
      | nil => rfl
      | cons a l ih =>
        simp only [List.map_cons, Function.comp]
        rw [tagOfStr_str (hl a (by simp)), specTag_modelTag]
        congr 1
        exact ih (fun x hx => hl x (by simp [hx]))
    exact this _ hg

theorem tagsView_roundtrip (tags : List GTag) (h : ∀ t ∈ tags, tagOK t = true) :
    (VTT.tagsOfAttrs (VTT.tagsAttrs (tags.map modelTag))).map Driver.specTag = tags :=
  tagsView_canon tags fun t ht => ((tagOK_iff t).mp (h t ht)).toTagCanon

theorem tagOfStr_eq (s : Str) : VTT.tagOfStr s =
    match splitC '.' (s.takeWhile (· != ' ')) with
    | n :: cls => { name := n, classes := cls, annotation := (s.drop (s.takeWhile (· != ' ')).length).drop 1 }
    | [] => { name := [], annotation := (s.drop (s.takeWhile (· != ' ')).length).drop 1 } := rfl

theorem tagCanon_tagOfStr (s : Str) (h : '|' ∉ s) : TagCanon (Driver.specTag (VTT.tagOfStr s)) := by
  have hhead : ∀ x ∈ s.takeWhile (· != ' '), x ∈ s ∧ x ≠ ' ' := fun x hx =>
    ⟨(List.takeWhile_sublist _).subset hx, by simpa using List.mem_takeWhile_imp hx⟩
  have hann : ∀ c ∈ (s.drop (s.takeWhile (· != ' ')).length).drop 1, c ≠ '|' :=
    fun c hm e => h (e ▸ List.mem_of_mem_drop (List.mem_of_mem_drop hm))
  have hpart : ∀ p ∈ splitC '.' (s.takeWhile (· != ' ')), ∀ c ∈ p, c ≠ ' ' ∧ c ≠ '.' ∧ c ≠ '|' := by
    intro p hp c hc
    have hm := hhead c (mem_of_mem_splitC hp hc)
    exact ⟨hm.2, fun e => Go.sep_not_mem_of_mem_splitC hp (e ▸ hc), fun e => h (e ▸ hm.1)⟩
  rw [tagOfStr_eq]
  split
  · rename_i n cls hsp
    exact ⟨hpart n (by rw [hsp]; simp),
      fun cl (hcl : cl ∈ cls) => hpart cl (by rw [hsp]; exact List.mem_cons_of_mem _ hcl), hann⟩
  · exact ⟨fun c (hc : c ∈ ([] : Str)) => (nomatch hc), fun cl (hcl : cl ∈ ([] : List Str)) => (nomatch hcl), hann⟩

/-- the library splits the attribute at `|`: the tags of an attribute list hold none -/
theorem tagCanon_tagsOfAttrs (a : Attrs) : ∀ t ∈ VTT.tagsOfAttrs a, TagCanon (Driver.specTag t) := by
  intro t ht
  unfold VTT.tagsOfAttrs at ht
  split at ht
  · obtain ⟨p, hp, rfl⟩ := List.mem_map.mp ht
    exact tagCanon_tagOfStr p (Go.sep_not_mem_of_mem_splitC hp)
  · cases ht

theorem tagsOfAttrs_idem (a : Attrs) :
    VTT.tagsOfAttrs (VTT.tagsAttrs (VTT.tagsOfAttrs a)) = VTT.tagsOfAttrs a := by
  have h := tagsView_canon ((VTT.tagsOfAttrs a).map Driver.specTag) fun t ht => by
    obtain ⟨u, hu, rfl⟩ := List.mem_map.mp ht
    exact tagCanon_tagsOfAttrs a u hu
  -- `Driver.specTag` is one to one: `modelTag` undoes it
  have inj : ∀ l : List VTT.Tag, (l.map Driver.specTag).map modelTag = l := fun l => by
    rw [List.map_map]; exact List.map_id' _
  rw [inj] at h
  rw [← inj (VTT.tagsOfAttrs (VTT.tagsAttrs (VTT.tagsOfAttrs a))), h, inj]

theorem runView_runItem (r : GRun) (hts : r.ts = none) (h : ∀ t ∈ r.tags, tagOK t = true) :
    runView (runItem r) = some r := by
  obtain ⟨text, tags, ts⟩ := r
  simp only at hts h
  subst hts
  simp [runView, runItem, tagsView_roundtrip tags h]

theorem flushText_stack (st : TextSt) : (flushText st).stack = st.stack := by
  unfold flushText
  split
  · rfl
  · simp only
    split
    · split <;> rfl
    · rfl

theorem dropLast_ok {stack : List GTag} (h : ∀ t ∈ stack, tagOK t = true) : ∀ t ∈ stack.dropLast, tagOK t = true :=
  fun t ht => h t ((List.dropLast_sublist _).subset ht)

theorem pushed_tagOK (c : Char) (tl : Str) (name : Str) (classes : List Str)
    (hb : ∀ x ∈ c :: tl, x ≠ '|') (ha : isAlpha c = true)
    (hs : splitC '.' ((c :: tl).takeWhile (fun ch => !isBlank ch)) = name :: classes) :
    tagOK { name := name, classes := classes,
            annotation := trimSpace ((c :: tl).drop ((c :: tl).takeWhile (fun ch => !isBlank ch)).length) } = true := by
  obtain ⟨hc2, hc1, _⟩ := alpha_facts ha
  have hhead : ∀ x ∈ (c :: tl).takeWhile (fun ch => !isBlank ch), x ≠ ' ' ∧ x ≠ '|' := by
    intro x hx
    have h1 := List.mem_takeWhile_imp hx
    have h2 := (List.takeWhile_sublist _).subset hx
    refine ⟨?_, hb x h2⟩
    intro e; subst e; revert h1; decide
  have hpiece : ∀ p ∈ name :: classes, ∀ x ∈ p, x ≠ ' ' ∧ x ≠ '.' ∧ x ≠ '|' := by
    intro p hp x hx
    rw [← hs] at hp
    have hm := hhead x (mem_of_mem_splitC hp hx)
    refine ⟨hm.1, ?_, hm.2⟩
    intro e; subst e; exact sep_not_mem_of_mem_splitC hp hx
  have hne : name ≠ [] := by
    have : (c :: tl).takeWhile (fun ch => !isBlank ch) = c :: tl.takeWhile (fun ch => !isBlank ch) := by
      simp [hc1]
    rw [this] at hs
    cases hsp : splitC '.' (tl.takeWhile (fun ch => !isBlank ch)) with
    | nil => exact absurd hsp (splitC_ne_nil _ _)
    | cons h t =>
      rw [splitC_cons_ne hc2 hsp] at hs
      rintro rfl
      cases hs
  rw [tagOK_iff]
  refine ⟨⟨hpiece name (by simp), fun cl hcl => hpiece cl (by simp [hcl]), ?_⟩, hne⟩
  intro x hx
  exact hb x (List.mem_of_mem_drop (mem_of_mem_trimSpace hx))

end VTTRead
end Astisub
