/-!
# Lemmas/EvalLit — evaluating closed goals that contain string literals

`decide_vector` rewrites the literals of the goal to character lists, so that the kernel does not decode UTF-8,
then decides the goal.
-/

macro "decide_vector" : tactic => `(tactic| ((repeat rw [String.toList_ofList]); decide +kernel))
