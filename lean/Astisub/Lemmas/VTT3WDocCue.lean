import Astisub.Lemmas.VTT3WDocDefs

/-!
# Lemmas/VTT3WDocCue — the independent decoder's cue block on the written cue lines

`cueBlock_written`: on the lines `VTT.cueCore s k it` (number, timing line, text lines) of a `cueOk2` cue the
decoder `Spec.VTT.block` appends one cue whose lines are `glOf it`.
-/

namespace Astisub
namespace VTT3W
open Go Spec.VTT

theorem no_arrow_itoaNat (n : Nat) : contains Spec.VTT.arrow (itoaNat n) = false := by
  show contains VTT.arrow (itoaNat n) = false
  apply VTT.contains_arrow_false
  intro c hc e
  obtain ⟨j, hj, rfl⟩ := Go.digitStr_itoaNat n c hc
  exact (digitChar_ne_minus hj).mp e

/-- a cue number starts with a digit: it fails every keyword test of the decoder (`VTTRead.head_tests`,
    `VTT.digit_line_tests`) -/
theorem noteLine_itoaNat (n : Nat) : Spec.VTT.noteLine (itoaNat n) = none := by
  obtain ⟨k, tl, hk, he⟩ := itoaNat_head n
  rw [he]
  exact (VTTRead.head_tests _ tl (digitChar_ne_of_not_isDigC hk (by decide)).symm
    (digitChar_ne_of_not_isDigC hk (by decide)).symm).noteLine

theorem itoaNat_ne_style (n : Nat) : itoaNat n ≠ "STYLE".toList := by
  obtain ⟨k, tl, hk, he⟩ := itoaNat_head n
  rw [he]
  exact (VTTRead.head_tests _ tl (digitChar_ne_of_not_isDigC hk (by decide)).symm
    (digitChar_ne_of_not_isDigC hk (by decide)).symm).noStyle

theorem metaT_itoaNat (n : Nat) : VTTRead.metaT (itoaNat n) = false := by
  obtain ⟨k, tl, hk, he⟩ := itoaNat_head n
  obtain ⟨_, _, hR, _, hX⟩ := VTT.digit_line_tests (digitChar k) tl (isDigC_digitChar hk)
  rw [he]
  unfold VTTRead.metaT
  rw [hR, hX]
  rfl

theorem opener_itoaNat (n : Nat) : opener (itoaNat n) = false := by
  obtain ⟨k, tl, hk, he⟩ := itoaNat_head n
  obtain ⟨hN, hNs, hR, hS, hX⟩ := VTT.digit_line_tests (digitChar k) tl (isDigC_digitChar hk)
  have hNt : hasPrefix "NOTE\t".toList (digitChar k :: tl) = false := by
    rw [VTTRead.lit_note_tab]; exact hasPrefix_cons_ne (VTT.isDig_ne (isDigC_digitChar hk) _ (by decide)) _ tl
  rw [he]
  unfold opener
  rw [hNs, hNt, hS, hR, hX, decide_eq_false (of_eq_false hN)]
  rfl

theorem cueId_itoaNat (n : Nat) (h : n < 2 ^ 62) : Spec.VTT.cueId (itoaNat n) = some (n : Int) := by
  unfold cueId
  rw [opener_itoaNat, Spec.VTT.natOf_eq, Spec.SRT.natOf_eq_parseDigits, parseDigits_itoaNat]
  simp only [Bool.false_eq_true, if_false]
  rw [if_pos h]

/-- what the part `k:v` does to the settings decoded so far; `none` = not well-formed (a key that is unknown or given
    twice, a region that is not defined) -/
def setD (regs : List GRegion) (k v : Str) (s : Settings) : Option Settings :=
  if k = "align".toList && s.align = [] then some { s with align := v }
  else if k = "line".toList && s.line = [] then some { s with line := v }
  else if k = "position".toList && s.position = [] then some { s with position := v }
  else if k = "size".toList && s.size = [] then some { s with size := v }
  else if k = "vertical".toList && s.vertical = [] then some { s with vertical := v }
  else if k = "region".toList && s.region.isNone && regs.any (·.id = v) then some { s with region := some v }
  else none

theorem cueSettings_split (regs : List GRegion) (p k v : Str) (ps : List Str) (s : Settings)
    (h : splitC ':' p = [k, v]) (hv : v ≠ []) :
    cueSettings regs (p :: ps) s = (setD regs k v s).bind (cueSettings regs ps) := by
  have he : v.isEmpty = false := by cases v with
    | nil => exact absurd rfl hv
    | cons x xs => rfl
  rw [cueSettings, h]
  unfold setD
  simp only [he, Bool.false_eq_true, if_false, apply_ite (fun o : Option Settings => o.bind (cueSettings regs ps)),
    Option.bind_some, Option.bind_none]

/-- an optional written word `label v` (`label` = key and colon) whose key sets the field `get`/`set`: the decoder's
    side of `VTT.settings_word` -/
theorem cueSettings_opt {β : Type} (regs : List GRegion) (label : String) (k : Str) (get : Settings → β)
    (set : β → Settings → Settings) (inj : Str → β) (hget : ∀ s, set (get s) s = s)
    (hl : label.toList = k ++ [':']) (hk : ':' ∉ k) (o : Option Str) (ho : VTT.optOk o = true) (ps : List Str)
    (s : Settings) (hf : ∀ v, o = some v → setD regs k v s = some (set (inj v) s)) :
    cueSettings regs (VTT.word label o ++ ps) s = cueSettings regs ps (set ((o.map inj).getD (get s)) s) := by
  cases o with
  | none => rw [Option.map_none, Option.getD_none, hget]; rfl
  | some v =>
    rw [VTT.word_some _ k ':' v hl, List.singleton_append,
      cueSettings_split _ _ k v _ _ (Go.splitC_two_mk hk fun hc => VTT.settingVal_noColon ho _ hc rfl)
        (VTT.settingVal_spec ho).1, hf v rfl]
    rfl

theorem cueSettings_all (regs : List GRegion) (al ln po rg sz ve : Option Str)
    (hal : VTT.optOk al = true) (hln : VTT.optOk ln = true) (hpo : VTT.optOk po = true) (hrg : VTT.optOk rg = true)
    (hsz : VTT.optOk sz = true) (hve : VTT.optOk ve = true)
    (hdef : ∀ r, rg = some r → regs.any (·.id = r) = true) :
    Spec.VTT.cueSettings regs (VTT.allWords al ln po rg sz ve) {}
      = some { align := al.getD [], line := ln.getD [], position := po.getD [], size := sz.getD [],
               vertical := ve.getD [], region := rg } := by
  unfold VTT.allWords
  rw [cueSettings_opt _ "align:" "align".toList (·.align) (fun v s => { s with align := v }) id (fun _ => rfl)
      (by decide_vector) (by decide_vector) _ hal _ _ (fun _ _ => by simp [setD]),
    cueSettings_opt _ "line:" "line".toList (·.line) (fun v s => { s with line := v }) id (fun _ => rfl)
      (by decide_vector) (by decide_vector) _ hln _ _ (fun _ _ => by simp [setD]),
    cueSettings_opt _ "position:" "position".toList (·.position) (fun v s => { s with position := v }) id (fun _ => rfl)
      (by decide_vector) (by decide_vector) _ hpo _ _ (fun _ _ => by simp [setD]),
    cueSettings_opt _ "region:" "region".toList (·.region) (fun v s => { s with region := v }) some (fun _ => rfl)
      (by decide_vector) (by decide_vector) _ hrg _ _ (fun v e => by simp [setD, hdef v e]),
    cueSettings_opt _ "size:" "size".toList (·.size) (fun v s => { s with size := v }) id (fun _ => rfl)
      (by decide_vector) (by decide_vector) _ hsz _ _ (fun _ _ => by simp [setD]),
    cueSettings_opt _ "vertical:" "vertical".toList (·.vertical) (fun v s => { s with vertical := v }) id (fun _ => rfl)
      (by decide_vector) (by decide_vector) _ hve _ _ (fun _ _ => by simp [setD])]
  simp only [Option.map_id_fun, id_eq]
  cases rg <;> rfl

theorem cueCore_timing (ds : DocSt) (id : Int) (t1 t2 : Str) (ws : List Str) (text : List Str)
    (sMs eMs : Nat) (a : Settings) (lines : List GLine)
    (ht1 : ∀ c ∈ t1, VTT.timeChar c = true) (ht2 : ∀ c ∈ t2, VTT.timeChar c = true) (hne : t2 ≠ [])
    (hws : ∀ w ∈ ws, VTT.WordOk w ∧ '>' ∉ w)
    (htext : ∀ l ∈ text, contains Spec.VTT.arrow l = false)
    (hs : timeMs (t1 ++ [' ']) = some sMs) (he : timeMs t2 = some eMs)
    (hset : cueSettings ds.regions ws {} = some a) (hlines : cueText text [] = some lines) :
    VTTRead.cueCore ds id (t1 ++ [' '] ++ Spec.VTT.arrow ++ VTT.spaced (t2 :: ws)) text
      = some { ds with comments := [], cues := ds.cues ++ [VTTRead.mkCue ds id sMs eMs a lines] } := by
  have hall : ∀ w ∈ t2 :: ws, VTT.WordOk w ∧ '>' ∉ w := by
    intro w hw
    rcases List.mem_cons.mp hw with rfl | hw
    · exact ⟨⟨hne, fun c hc => VTT.timeChar_noSpace (ht2 c hc)⟩, fun hc => VTT.timeChar_ne_gt (ht2 _ hc) rfl⟩
    · exact hws w hw
  have hany : text.any (contains Spec.VTT.arrow) = false := by
    rw [List.any_eq_false]
    intro l hl
    rw [htext l hl]
    exact Bool.false_ne_true
  have hsplit : splitOn Spec.VTT.arrow (t1 ++ [' '] ++ Spec.VTT.arrow ++ VTT.spaced (t2 :: ws))
      = [t1 ++ [' '], VTT.spaced (t2 :: ws)] := by
    apply VTT.splitOn_arrow
    · intro x hx
      rcases List.mem_append.mp hx with hx | hx
      · exact VTT.timeChar_ne_minus (ht1 x hx)
      · simp only [List.mem_singleton] at hx; subst hx; decide
    · exact VTT.spaced_noGt _ (fun w hw => (hall w hw).2)
  have hfields : fields (VTT.spaced (t2 :: ws)) = t2 :: ws := VTT.fields_spaced _ (fun w hw => (hall w hw).1)
  unfold VTTRead.cueCore
  rw [hany, hsplit]
  simp only [Bool.false_eq_true, if_false]
  rw [hfields]
  simp only [hs, he, hset, hlines]

theorem partsOf_written (num timing : Str) (text : List Str) (id : Int)
    (h1 : contains Spec.VTT.arrow num = false) (h2 : contains Spec.VTT.arrow timing = true)
    (hid : cueId num = some id) :
    VTTRead.partsOf (num :: timing :: text) = some (id, timing, text) := by
  unfold VTTRead.partsOf
  simp only [h1, h2, hid, Bool.false_eq_true, if_false, if_true, Option.map_some]

theorem cueBlock_written (ds : DocSt) (s : Subs) (k : Nat) (it : CItem) (hok : VTT.cueOk2 s it = true)
    (hk : k + 1 < 2 ^ 62)
    (hreg : ∀ r, it.region = some r → ds.regions.any (·.id = r) = true)
    (ht : (Spec.VTT.cueText (it.lines.map VTT.lineBody) []).isSome = true) :
    ∃ c : GCue, c.lines = glOf it ∧
      Spec.VTT.block ds (VTT.cueCore s k it) = some { ds with comments := [], cues := ds.cues ++ [c] } := by
  obtain ⟨_, hr, hs0, hs1, he0, he1, hal, hln, hpo, hsz, hve, hlines⟩ := VTT.cueOk2_iff.mp hok
  have hrg := VTT.optOk_of_ref hr
  obtain ⟨lines, hl⟩ := Option.isSome_iff_exists.mp ht
  obtain ⟨sMs, hsm⟩ := timeMs_format it.startAt hs0 hs1 [' '] (Or.inr rfl)
  obtain ⟨eMs, hem⟩ := timeMs_format it.endAt he0 he1 [] (Or.inl rfl)
  rw [List.append_nil] at hem
  obtain ⟨a, ha⟩ : ∃ a, Spec.VTT.cueSettings ds.regions _ {} = some a :=
    ⟨_, cueSettings_all ds.regions _ _ _ _ _ _ hal hln hpo hrg hsz hve hreg⟩
  have hgl : glOf it = lines := by unfold glOf; rw [hl]; rfl
  have htext : ∀ l ∈ it.lines.map VTT.lineBody, contains Spec.VTT.arrow l = false := by
    intro l hl'
    obtain ⟨x, hx, rfl⟩ := List.mem_map.mp hl'
    exact (VTT.lineFit_facts (hlines x hx)).arrow
  refine ⟨VTTRead.mkCue ds ((k + 1 : Nat) : Int) sMs eMs a lines, hgl.symm, ?_⟩
  have hcore : VTT.cueCore s k it = itoaNat (k + 1) :: VTT.cueTiming s it :: it.lines.map VTT.lineBody := rfl
  rw [hcore, VTTRead.block_cases ds _ _ (noteLine_itoaNat (k + 1)) (itoaNat_ne_style (k + 1))]
  have hmeta : (itoaNat (k + 1) :: VTT.cueTiming s it :: it.lines.map VTT.lineBody).all VTTRead.metaT = false := by
    rw [List.all_cons, metaT_itoaNat]; rfl
  rw [hmeta]
  simp only [Bool.false_eq_true, if_false]
  have htim : VTT.cueTiming s it = Duration.formatVTT it.startAt ++ [' '] ++ Spec.VTT.arrow
      ++ VTT.spaced (Duration.formatVTT it.endAt :: VTT.allWords (VTT.cueSetting s it "WebVTTAlign")
          (VTT.cueSetting s it "WebVTTLine") (VTT.cueSetting s it "WebVTTPosition") it.region
          (VTT.cueSetting s it "WebVTTSize") (VTT.cueSetting s it "WebVTTVertical")) := by
    unfold VTT.cueTiming
    rw [VTT.timingLine_eq]
    rfl
  rw [VTTRead.cueBlock_eq, htim,
    partsOf_written _ _ _ ((k + 1 : Nat) : Int) (no_arrow_itoaNat (k + 1)) (Go.contains_append_mid (by decide) _ _)
      (cueId_itoaNat (k + 1) hk)]
  exact cueCore_timing ds _ _ _ _ _ sMs eMs a lines (VTT.format_facts _ hs0 hs1).1 (VTT.format_facts _ he0 he1).1
    (by obtain ⟨_, _, _, e⟩ := VTT.format_head it.endAt he0 he1; rw [e]; exact List.cons_ne_nil _ _) (VTT.allWords_ok _ _ _ _ _ _ hal hln hpo hrg hsz hve) htext hsm hem ha hl

end VTT3W
end Astisub
