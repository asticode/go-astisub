import Astisub.Lemmas.VTT3Text

/-!
# Lemmas/VTT3Layer — the read clause from the document loop (`read_rel`), the cue-text layer for `lineOK2`, and its
timestamp-free corner

First one cue-text line without inline timestamp, class `lineOK`: `parseText_of_textLine` (on a line the decoder
`Spec.VTT.textLine` accepts from a stack of tags with `goodName`s, the reader model `VTT.parseText` — unless the
tokenizer model does not cover the line — leaves the same stack, finds the same voice and, run by run, the same texts
under the same tags).  This is the simulation of `Lemmas/VTT3Text` (class `lineOK2`) on a line without `<` + digit:
the decoder meets no inline timestamp there (`Run.noTs`), and as long as it has met none the simulation is exact
(`RelB.exact`); nothing but `goodName` is asked of the stack (`K := False`).

Then, for any cue-text layer `TextLayer2`: the final state of the reader, related by `R2` to the decoder's, has under `norm`
the view `Driver.zeroTs` of the denotation (`view_result2`), hence `read_decode_chars2` / `read_decode_bytes2`;
`textLayer2` (lines of `lineOK2`, inline timestamps included) and the read clause for `InClass2`; the one for `InClass`
(`read_chars`, `read_bytes`) is its timestamp-free corner.
-/

namespace Astisub
namespace VTTRead
open Go Spec.VTT List
open VTT (PT stepTok foldToks flushSt)
open SRT (unescapeHTML)

theorem runItem2_of_ts_none (r : GRun) (h : r.ts = none) : runItem2 r = runItem r := by
  simp [runItem2, runItem, h]

theorem sim_line (l : Str) (stack : List GTag) (st : TextSt) (hok : lineOK l = true)
    (hstack : ∀ t ∈ stack, goodName t.name = true)
    (h : textLine (l.length + 2) l { stack := stack } = some st) :
    ∃ fM, RelB False st fM ∧ J' l [] { tags := stack.map modelTag } fM := by
  have h2 := lineOK2_of_lineOK hok
  simp only [lineOK2, Bool.and_eq_true, Bool.or_eq_true, Bool.not_eq_true'] at h2
  exact sim_line2 l stack st h2.1 h2.2.symm hstack (fun k => k.elim) h

theorem parseText_of_textLine (l : Str) (stack : List GTag) (st : TextSt)
    (hok : lineOK l = true) (hstack : ∀ t ∈ stack, goodName t.name = true)
    (h : textLine (l.length + 2) l { stack := stack } = some st) :
    VTT.parseText l (stack.map modelTag) = .unmodelled ∨
    VTT.parseText l (stack.map modelTag) =
      .ok (st.stack.map modelTag, { voice := st.voice.getD [], items := st.runs.map runItem }) := by
  obtain ⟨fM, R, hJ⟩ := sim_line l stack st hok hstack h
  have hN : NoTs st := (run_of_line l _ st h).noTs hok ⟨rfl, fun r hr => by cases hr⟩
  refine (parseText_of_J' hJ).imp id fun h1 => ?_
  rw [h1, R.tags, R.voice, R.exact hN]
  congr 3
  exact List.map_congr_left fun r hr => runItem2_of_ts_none r (hN.2 r hr)

theorem textLine_voice_ne (l : Str) (stack : List GTag) (st : TextSt) (hok : lineOK l = true)
    (hstack : ∀ t ∈ stack, goodName t.name = true)
    (h : textLine (l.length + 2) l { stack := stack } = some st) : ∀ v, st.voice = some v → v ≠ [] := by
  obtain ⟨fM, R, _⟩ := sim_line l stack st hok hstack h
  exact R.voiceNe

example : lineOK "<c.red.big Bob Smith>Hello &amp; <b>bye</b>".toList = true := by decide_vector

theorem lineOK_of_no_lt (l : Str) (h : '<' ∉ l) : lineOK l = true := by
  have := scanOK_text l [] (fun c hc e => h (e ▸ hc))
  rw [List.append_nil] at this
  rw [lineOK, this]; rfl

theorem parseText_of_textLine_plain (l : Str) (stack : List GTag) (st : TextSt) (hl : '<' ∉ l)
    (hstack : ∀ t ∈ stack, goodName t.name = true)
    (h : textLine (l.length + 2) l { stack := stack } = some st) :
    VTT.parseText l (stack.map modelTag) = .unmodelled ∨
    VTT.parseText l (stack.map modelTag) =
      .ok (st.stack.map modelTag, { voice := st.voice.getD [], items := st.runs.map runItem }) :=
  parseText_of_textLine l stack st (lineOK_of_no_lt l hl) hstack h

/-- the hypotheses are satisfiable: the example line is in the class and the decoder accepts it -/
example : (textLine ("<c.red.big Bob Smith>Hello &amp; <b>bye</b>".toList.length + 2)
    "<c.red.big Bob Smith>Hello &amp; <b>bye</b>".toList { stack := [] }).isSome = true := by decide_vector

example : goodName "c".toList = true ∧ goodName "ruby".toList = true ∧ goodName "1".toList = false := by decide_vector

/-- without `hstack` the statement is false: with the tag `1` open, the decoder closes it on `</1>`
    (stack left: empty) while the tokenizer reads `</1>` as a bogus comment and the reader keeps the tag -/
example :
    lineOK "x</1>".toList = true ∧
    (textLine 7 "x</1>".toList { stack := [{ name := "1".toList, classes := [], annotation := [] }] }).map (·.stack)
      = some [] ∧
    (match VTT.parseText "x</1>".toList [{ name := "1".toList }] with
     | .ok (tags, _) => some tags
     | _ => none) = some [{ name := "1".toList }] := by
  decide_vector

open VTT (St step run Block)

/-- the final view: the cues the reader has built (the `cs` of `R2`: the decoder's up to blank runs and zero
    timestamps) are, under `norm`, the denotation's under `zeroTs` and `norm` -/
theorem view_result2 {ds' : DocSt} {ms' : St} (hR : R2 ds' ms') (hD : ViewFits ds') :
    (Driver.vttView (VTT.result ms')).map norm = some (norm (Driver.zeroTs (docOf ds'))) := by
  obtain ⟨cs, hR1, hc⟩ := hR
  have hst : ms'.styles = ds'.styles := hR1.styles
  have hts : ms'.tsmap = ds'.tsmap := hR1.tsmap
  have hrg : ms'.regions.map regionView = ds'.regions := hR1.regions
  have := view_result ms' cs ds'.regions hR1.cues hrg hR1.seen
    (by rw [hst]; exact hD.1) (by rw [hts]; exact hD.2)
  rw [this, hst, hts, norm_eq, norm_eq, zeroTs_eq]
  simp only [docOf]
  rw [hc]

theorem read_decode_chars2 {ok : Str → Bool} (T : TextLayer2 ok) (text : Str) (g : GDoc)
    (hin : InClassWith ok text = true) (h : decode text = some g) :
    Good2 (VTT.read ((splitLines text []).map some)) g := by
  obtain ⟨ds', rfl, hD, hu | ⟨ms', hrun, hR⟩⟩ := read_rel T text g hin h
  · exact Or.inl hu
  · exact Or.inr ⟨_, hrun, view_result2 hR hD⟩

/-- on bytes, as the `vtt.read` case of the driver evaluates it -/
theorem read_decode_bytes2 {ok : Str → Bool} (T : TextLayer2 ok) (doc : List UInt8) (text : Str) (g : GDoc)
    (hdec : Driver.decodeLine doc = some text)
    (hin : InClassWith ok text = true) (h : decode text = some g) :
    Good2 (VTT.read (Driver.docLines doc)) g := by
  rw [docLines_of_decodeLine doc text hdec]
  exact read_decode_chars2 T text g hin h

/-- the cue-text layer: tokenizer + tag expression + text tokens (with the inline-timestamp expression)
    against the decoder's `textLine`, for the lines of `lineOK2` -/
def textLayer2 : TextLayer2 lineOK2 where
  good stack := (∀ t ∈ stack, goodName t.name = true) ∧ (∀ t ∈ stack, tagOK t = true)
  good_nil := ⟨fun t ht => (by cases ht), fun t ht => (by cases ht)⟩
  agree := by
    intro l stack st hok hg h
    simp only [lineOK2, Bool.and_eq_true, Bool.or_eq_true, Bool.not_eq_true'] at hok
    exact parseText2_of_textLine l stack st hok.1 hok.2.symm hg.1 hg.2 h

theorem inClass2_of_inClass (doc : Str) (h : InClass doc = true) : InClass2 doc = true := by
  rw [InClass_eq] at h
  unfold InClass2
  unfold InClassWith at h ⊢
  cases hb : docBlocks doc with
  | none => rfl
  | some bs =>
    rw [hb] at h
    simp only [List.all_eq_true] at h ⊢
    intro b hbm
    have hb1 := h b hbm
    unfold blockOKWith at hb1 ⊢
    cases b with
    | nil => rfl
    | cons first rest =>
      simp only at hb1 ⊢
      by_cases hn : (noteLine first).isSome = true
      · rw [if_pos hn] at hb1 ⊢; exact hb1
      · rw [if_neg hn] at hb1 ⊢
        simp only [Bool.and_eq_true, List.all_eq_true] at hb1 ⊢
        exact ⟨hb1.1, fun l hl => lineOK2_of_lineOK (hb1.2 l hl)⟩

theorem read_chars2 (text : Str) (g : GDoc) (hin : InClass2 text = true) (h : decode text = some g) :
    Good2 (VTT.read ((splitLines text []).map some)) g :=
  read_decode_chars2 textLayer2 text g hin h

theorem read_bytes2 (doc : List UInt8) (text : Str) (g : GDoc) (hdec : Driver.decodeLine doc = some text)
    (hin : InClass2 text = true) (h : decode text = some g) :
    Good2 (VTT.read (Driver.docLines doc)) g :=
  read_decode_bytes2 textLayer2 doc text g hdec hin h

theorem zeroTs_id (g : GDoc) (h : ∀ c ∈ g.cues, ∀ l ∈ c.lines, ∀ r ∈ l.runs, r.ts ≠ some 0) : Driver.zeroTs g = g := by
  rw [zeroTs_eq]
  have : g.cues.map zeroTsCue = g.cues := List.map_eq_self fun c hc => by
    unfold zeroTsCue
    rw [List.map_eq_self fun l hl => by
      unfold zeroTsLine
      rw [List.map_eq_self fun r hr => by simp [zeroTsRun, h c hc l hl r hr]]]
  rw [this]

theorem zeroTs_of_noTs (g : GDoc) (h : ∀ c ∈ g.cues, ∀ l ∈ c.lines, ∀ r ∈ l.runs, r.ts = none) :
    Driver.zeroTs g = g :=
  zeroTs_id g fun c hc l hl r hr e => by rw [h c hc l hl r hr] at e; cases e

/-- The read clause for `InClass` is the timestamp-free corner of the one for `InClass2`: such a document is denoted
    without inline timestamps (`decode_noTs`), so `Good2` is `Good`. -/
theorem good_of_good2 {r : SRT.Res Subs} {text : Str} {g : GDoc} (hin : InClass text = true) (h : decode text = some g)
    (hg : Good2 r g) : Good r g := by
  unfold Good2 at hg
  rwa [zeroTs_of_noTs g (decode_noTs text g hin h)] at hg

theorem read_chars (text : Str) (g : GDoc) (hin : InClass text = true) (h : decode text = some g) :
    Good (VTT.read ((splitLines text []).map some)) g :=
  good_of_good2 hin h (read_chars2 text g (inClass2_of_inClass text hin) h)

theorem read_bytes (doc : List UInt8) (text : Str) (g : GDoc) (hdec : Driver.decodeLine doc = some text)
    (hin : InClass text = true) (h : decode text = some g) :
    Good (VTT.read (Driver.docLines doc)) g :=
  good_of_good2 hin h (read_bytes2 doc text g hdec (inClass2_of_inClass text hin) h)

end VTTRead
end Astisub
