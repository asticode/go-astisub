import Astisub.Model.VTT
import Astisub.Lemmas.EvalLit
import Astisub.Props.C16
import Astisub.Lemmas.StrList
import Astisub.Lemmas.Digits
import Astisub.Lemmas.KV
import Astisub.Lemmas.VTTRead2Step

/-!
# Lemmas/VTTTiming — the WebVTT cue timing line and cue number line, written then read

Vocabulary the later files use: words of a line (`spaced`, `WordOk`, `fields_spaced`), the characters of a rendered
instant (`timeChar`, `format_facts`), values of cue settings that survive (`settingVal`, `optOk`, `word`), and an optional
written word through the loop over the cue settings (`settings_word`, over `setS` of `Lemmas/VTTRead2Step`).
`step_timing`: the timing line `WriteToWebVTT` emits for a cue (any subset of the six cue settings)
is read by one iteration of the reader's loop as a new cue with the same instants (truncated to the
millisecond) and the same settings.  `step_number`: the cue number line sets the pending index.
-/

namespace Astisub
namespace VTT
open Go

theorem arrow_eq : arrow = ['-', '-', '>'] := rfl

theorem dropPrefix?_arrow_noGt {s : Str} (h : '>' ∉ s) : dropPrefix? arrow s = none := by
  cases hd : dropPrefix? arrow s with
  | none => rfl
  | some r => exact absurd (by rw [dropPrefix?_eq_some_iff.mp hd, arrow_eq]; simp) h

theorem contains_arrow_false {s : Str} (h : ∀ c ∈ s, c ≠ '-') : contains arrow s = false :=
  contains_of_head_not_mem _ fun hc => h _ hc rfl

theorem contains_arrow_noGt {s : Str} (h : '>' ∉ s) : Go.contains arrow s = false := by
  induction s with
  | nil => rfl
  | cons x xs ih =>
    rw [contains_cons, hasPrefix, dropPrefix?_arrow_noGt h, ih fun hc => h (List.mem_cons_of_mem _ hc)]
    rfl

theorem splitOn_arrow (a b : Str) (ha : ∀ c ∈ a, c ≠ '-') (hb : '>' ∉ b) :
    splitOn arrow (a ++ arrow ++ b) = [a, b] := by
  rw [show arrow = '-' :: ['-', '>'] from rfl, splitOn_block '-' _ a b (fun h => ha _ h rfl)]
  exact congrArg _ (splitOn_of_not_contains (List.cons_ne_nil _ _) (contains_arrow_noGt hb))

/-- the words, each preceded by one blank -/
def spaced (ws : List Str) : Str := (ws.map (' ' :: ·)).flatten

theorem spaced_nil : spaced [] = [] := rfl
theorem spaced_cons (w : Str) (ws : List Str) : spaced (w :: ws) = ' ' :: w ++ spaced ws := rfl
theorem spaced_append (a b : List Str) : spaced (a ++ b) = spaced a ++ spaced b := by
  simp [spaced]

/-- a word `strings.Fields` gives back: non-empty and free of white space -/
def WordOk (w : Str) : Prop := w ≠ [] ∧ ∀ c ∈ w, isSpace c = false

theorem fields_spaced : ∀ (ws : List Str), (∀ w ∈ ws, WordOk w) → fields (spaced ws) = ws
  | [], _ => rfl
  | w :: ws, h => by
    rw [spaced_cons, List.cons_append, fields_space (by decide), fields_word (h w List.mem_cons_self).1 (h w List.mem_cons_self).2
      (by cases ws with
          | nil => exact fun _ h => nomatch h
          | cons v vs => intro c hc; cases hc; decide),
      fields_spaced ws fun x hx => h x (List.mem_cons_of_mem _ hx)]

theorem spaced_last (ws : List Str) (hne : ws ≠ []) (h : ∀ w ∈ ws, WordOk w) :
    ∃ pre c, spaced ws = pre ++ [c] ∧ isSpace c = false := by
  have hw := h _ (List.getLast_mem hne)
  refine ⟨spaced ws.dropLast ++ ' ' :: (ws.getLast hne).dropLast, (ws.getLast hne).getLast hw.1, ?_,
    hw.2 _ (List.getLast_mem _)⟩
  conv => lhs; rw [← List.dropLast_concat_getLast hne, spaced_append, spaced_cons, spaced_nil,
    ← List.dropLast_concat_getLast hw.1]
  simp

def timeChar (c : Char) : Bool := isDig c || c == ':' || c == '.'

theorem timeChar_digit {k : Nat} (h : k < 10) : timeChar (digitChar k) = true := by
  simp [timeChar, show isDig (digitChar k) = true from isDigC_digitChar h]

theorem timeChar_noSpace {c : Char} (h : timeChar c = true) : isSpace c = false := by
  simp only [timeChar, Bool.or_eq_true, beq_iff_eq] at h
  rcases h with (h | rfl) | rfl
  · exact isSpace_of_isDigC h
  · decide
  · decide

theorem timeChar_ne_minus {c : Char} (h : timeChar c = true) : c ≠ '-' := by
  intro e; subst e; exact absurd h (by decide)

theorem timeChar_ne_gt {c : Char} (h : timeChar c = true) : c ≠ '>' := by
  intro e; subst e; exact absurd h (by decide)

theorem timeChar_digitStr {s : Str} (h : DigitStr s) : ∀ c ∈ s, timeChar c = true := fun c hc => by
  obtain ⟨k, hk, rfl⟩ := h c hc
  exact timeChar_digit hk

theorem timeChar_canon3 (h m s f : Nat) (hh : h < 100) (hm : m < 100) (hs : s < 100) (hf : f < 1000) :
    ∀ c ∈ C16.canon3 h m s f '.', timeChar c = true := by
  intro c hc
  simp only [C16.canon3, List.mem_append, List.mem_cons] at hc
  rcases hc with ((hc | rfl | hc) | rfl | hc) | rfl | hc
  · exact timeChar_digitStr (digitStr_dd hh) c hc
  · decide
  · exact timeChar_digitStr (digitStr_dd hm) c hc
  · decide
  · exact timeChar_digitStr (digitStr_dd hs) c hc
  · decide
  · exact timeChar_digitStr (digitStr_ddd hf) c hc

theorem canon3_head (h m s f : Nat) :
    C16.canon3 h m s f '.' = digitChar (h / 10) :: (digitChar (h % 10) :: ':' :: dd m ++ ':' :: dd s ++ '.' :: ddd f) := rfl

theorem smallNumbers_go_digits {d : Str} (hd : ∀ x ∈ d, isDig x = true) (rest : Str) (n : Nat) (hn : n + d.length ≤ 6) :
    smallNumbers.go (d ++ rest) n = smallNumbers.go rest (n + d.length) := by
  induction d generalizing n with
  | nil => rfl
  | cons c d ih =>
    rw [List.length_cons] at hn
    rw [List.cons_append, smallNumbers.go, if_pos (hd c List.mem_cons_self), if_neg (by omega),
      ih (fun x hx => hd x (List.mem_cons_of_mem _ hx)) (n + 1) (by omega), List.length_cons]
    congr 1; omega

theorem smallNumbers_go_sep {c : Char} (hc : isDig c = false) (rest : Str) (n : Nat) :
    smallNumbers.go (c :: rest) n = smallNumbers.go rest 0 := by
  rw [smallNumbers.go, if_neg (by rw [hc]; exact Bool.false_ne_true)]

/-- no group of a rendered instant has more than three digits; what follows is met with three digits seen -/
theorem smallNumbers_canon3 (h m s f : Nat) (hh : h < 100) (hm : m < 100) (hs : s < 100) (hf : f < 1000) (tl : Str) :
    smallNumbers (C16.canon3 h m s f '.' ++ tl) = smallNumbers.go tl 3 := by
  have c1 : isDig ':' = false := by decide
  have c2 : isDig '.' = false := by decide
  simp only [smallNumbers, C16.canon3, List.append_assoc, List.cons_append]
  rw [smallNumbers_go_digits (digitStr_dd hh).isDigC _ 0 (by simp [dd]), smallNumbers_go_sep c1,
    smallNumbers_go_digits (digitStr_dd hm).isDigC _ 0 (by simp [dd]), smallNumbers_go_sep c1,
    smallNumbers_go_digits (digitStr_dd hs).isDigC _ 0 (by simp [dd]), smallNumbers_go_sep c2,
    smallNumbers_go_digits (digitStr_ddd hf).isDigC _ 0 (by simp [ddd])]
  rfl

/-- the start time is handed to `parseDuration` with the blank that precedes the arrow -/
theorem parse_canon3_blank (h m s f : Nat) (hh : h < 100) (hm : m < 100) (hs : s < 100) (hf : f < 1000) :
    Duration.parseVTT (C16.canon3 h m s f '.' ++ [' '])
      = some ((f : Int) * Duration.nsPerMs + (s : Int) * Duration.nsPerS + (m : Int) * Duration.nsPerMin
              + (h : Int) * Duration.nsPerH) := by
  have := Ovf.parse_clock_frac (w1 := []) (w2 := [' ']) (.inl rfl) (C16.hms_dd hh hm hs) (C16.le64 (by omega))
    (C16.le64 (by omega)) (C16.le64 (by omega)) (.ddd hf) (Nat.le_refl 3) (fun _ h => nomatch h)
    (fun c hc => by rw [List.mem_singleton.mp hc]; rfl) 3
  rw [show 3 - (ddd f).length = 0 from rfl, Int.pow_zero, Int.mul_one] at this
  rw [← this]
  simp [Duration.parseVTT, C16.canon3]

theorem format_facts (t : Int) (h0 : 0 ≤ t) (h1 : t < 360000000000000) :
    (∀ c ∈ Duration.formatVTT t, timeChar c = true) ∧ smallNumbers (Duration.formatVTT t) = true ∧
    Duration.parseVTT (Duration.formatVTT t) = some (t - t % 1000000) := by
  obtain ⟨h, m, s, f, hh, hm, hs, hf, hfmt, _⟩ := C16.format_shape3 t '.' h0 h1
  have hF : Duration.formatVTT t = C16.canon3 h m s f '.' := hfmt
  refine ⟨?_, ?_, C16.vtt_roundtrip t h0 h1⟩
  · rw [hF]; exact timeChar_canon3 h m s f hh (by omega) (by omega) hf
  · rw [hF, ← List.append_nil (C16.canon3 h m s f '.'), smallNumbers_canon3 h m s f hh (by omega) (by omega) hf]; rfl

theorem format_blank (t : Int) (h0 : 0 ≤ t) (h1 : t < 360000000000000) :
    smallNumbers (Duration.formatVTT t ++ [' ']) = true ∧
    Duration.parseVTT (Duration.formatVTT t ++ [' ']) = some (t - t % 1000000) := by
  obtain ⟨h, m, s, f, hh, hm, hs, hf, hfmt, hval⟩ := C16.format_shape3 t '.' h0 h1
  have hF : Duration.formatVTT t = C16.canon3 h m s f '.' := hfmt
  rw [hF, smallNumbers_canon3 h m s f hh (by omega) (by omega) hf,
    parse_canon3_blank h m s f hh (by omega) (by omega) hf, hval]
  exact ⟨by decide, rfl⟩

theorem format_head (t : Int) (h0 : 0 ≤ t) (h1 : t < 360000000000000) :
    ∃ k r, k < 10 ∧ Duration.formatVTT t = digitChar k :: r := by
  obtain ⟨h, m, s, f, hh, _, _, _, hfmt, _⟩ := C16.format_shape3 t '.' h0 h1
  exact ⟨h / 10, _, by omega, hfmt.trans (canon3_head h m s f)⟩

/-- a value of a cue setting that survives the reader: non-empty, no white space, no `:` and no `>` -/
def settingVal (v : Str) : Bool := v != [] && v.all fun c => !(isSpace c || c == ':' || c == '>')
def optOk (o : Option Str) : Bool := match o with | none => true | some v => settingVal v

example : settingVal "line-left".toList = true := by decide_vector
example : optOk (some "50%".toList) = true ∧ optOk none = true := by decide_vector

theorem settingVal_spec {v : Str} (h : settingVal v = true) :
    v ≠ [] ∧ ∀ c ∈ v, isSpace c = false ∧ c ≠ ':' ∧ c ≠ '>' := by
  simp only [settingVal, Bool.and_eq_true, bne_iff_ne, ne_eq, List.all_eq_true, Bool.not_eq_true',
    Bool.or_eq_false_iff, beq_eq_false_iff_ne] at h
  exact ⟨h.1, fun c hc => ⟨(h.2 c hc).1.1, (h.2 c hc).1.2, (h.2 c hc).2⟩⟩

/-- the word a setting contributes to the timing line -/
def word (label : String) (o : Option Str) : List Str :=
  match o with
  | some v => [label.toList ++ v]
  | none => []

theorem setting_eq (label : String) (o : Option Str) : setting label o = spaced (word label o) := by
  cases o <;> simp [setting, word, spaced]

def labelOk (label : String) : Bool := label.toList.all fun c => !(isSpace c || c == '>')

theorem word_wordOk (label : String) (hl : labelOk label = true) (o : Option Str)
    (ho : ∀ v, o = some v → v ≠ [] ∧ ∀ c ∈ v, isSpace c = false) : ∀ w ∈ word label o, WordOk w := by
  intro w hw
  cases o with
  | none => simp [word] at hw
  | some v =>
    simp only [word, List.mem_singleton] at hw
    subst hw
    obtain ⟨hne, hv⟩ := ho v rfl
    simp only [labelOk, List.all_eq_true, Bool.not_eq_true', Bool.or_eq_false_iff, beq_eq_false_iff_ne] at hl
    exact ⟨by simp [hne], fun c hc => (List.mem_append.mp hc).elim (fun h => (hl c h).1) (hv c)⟩

theorem word_ok (label : String) (hl : labelOk label = true) (o : Option Str) (ho : optOk o = true) :
    ∀ w ∈ word label o, WordOk w ∧ '>' ∉ w := by
  refine fun w hw => ⟨word_wordOk label hl o (fun v e => ?_) w hw, ?_⟩
  · subst e; exact ⟨(settingVal_spec ho).1, fun c hc => ((settingVal_spec ho).2 c hc).1⟩
  · cases o with
    | none => simp [word] at hw
    | some v =>
      simp only [word, List.mem_singleton] at hw
      subst hw
      simp only [labelOk, List.all_eq_true, Bool.not_eq_true', Bool.or_eq_false_iff, beq_eq_false_iff_ne] at hl
      intro hc
      rcases List.mem_append.mp hc with hc | hc
      · exact (hl _ hc).2 rfl
      · exact ((settingVal_spec ho).2 _ hc).2.2 rfl

theorem word_some (label : String) (key : Str) (c : Char) (v : Str) (h : label.toList = key ++ [c]) :
    word label (some v) = [key ++ c :: v] := by
  rw [word, h, List.append_assoc, List.singleton_append]

theorem settingVal_noColon {v : Str} (h : settingVal v = true) : ∀ c ∈ v, c ≠ ':' :=
  fun c hc => ((settingVal_spec h).2 c hc).2.1

/-- an optional written word `label v` (`label` = key and colon) whose key sets the field `get`/`set` -/
theorem settings_word {β : Type} (regions : List Def) (label : String) (k : Str) (get : SetAcc → β)
    (set : β → SetAcc → SetAcc) (inj : Str → β) (hget : ∀ a, set (get a) a = a)
    (hl : label.toList = k ++ [':']) (hk : ':' ∉ k) (o : Option Str) (ho : optOk o = true)
    (hf : ∀ v a, o = some v → setS regions k v a = some (set (inj v) a)) (ps : List Str) (a : SetAcc) :
    settings regions (word label o ++ ps) a = settings regions ps (set ((o.map inj).getD (get a)) a) := by
  cases o with
  | none => rw [Option.map_none, Option.getD_none, hget]; rfl
  | some v =>
    rw [word_some _ k ':' v hl, List.singleton_append,
      settings_split _ _ k v [] _ _ (splitC_two_mk hk fun hc => settingVal_noColon ho _ hc rfl), hf v a rfl]
    rfl

theorem optOk_ne {o : Option Str} (ho : optOk o = true) : o ≠ some [] := fun e => by subst e; cases ho

theorem settings_all (regions : List Def) (al ln po rg sz ve : Option Str)
    (hal : optOk al = true) (hln : optOk ln = true) (hpo : optOk po = true) (hrg : optOk rg = true)
    (hsz : optOk sz = true) (hve : optOk ve = true)
    (hdef : ∀ r, rg = some r → regions.any (·.id = r) = true) :
    settings regions (word "align:" al ++ (word "line:" ln ++ (word "position:" po ++ (word "region:" rg
        ++ (word "size:" sz ++ (word "vertical:" ve ++ [])))))) {}
      = some { align := al.getD [], line := ln.getD [], position := po.getD [], size := sz.getD [],
               vertical := ve.getD [], region := rg } := by
  rw [settings_word _ "align:" "align".toList (·.align) (fun v a => { a with align := v }) id (fun _ => rfl)
      (by decide_vector) (by decide_vector) _ hal (fun _ _ _ => by simp [setS]),
    settings_word _ "line:" "line".toList (·.line) (fun v a => { a with line := v }) id (fun _ => rfl)
      (by decide_vector) (by decide_vector) _ hln (fun _ _ _ => by simp [setS]),
    settings_word _ "position:" "position".toList (·.position) (fun v a => { a with position := v }) id (fun _ => rfl)
      (by decide_vector) (by decide_vector) _ hpo (fun _ _ _ => by simp [setS]),
    settings_word _ "region:" "region".toList (·.region) (fun v a => { a with region := v }) some (fun _ => rfl)
      (by decide_vector) (by decide_vector) _ hrg (fun v _ e => by simp [setS, hdef v e]),
    settings_word _ "size:" "size".toList (·.size) (fun v a => { a with size := v }) id (fun _ => rfl)
      (by decide_vector) (by decide_vector) _ hsz (fun _ _ _ => by simp [setS]),
    settings_word _ "vertical:" "vertical".toList (·.vertical) (fun v a => { a with vertical := v }) id (fun _ => rfl)
      (by decide_vector) (by decide_vector) _ hve (fun _ _ _ => by simp [setS])]
  simp only [Option.map_id_fun, id_eq]
  cases rg <;> rfl

theorem isDig_ne {c : Char} (h : isDig c = true) (x : Char) (hx : isDig x = false) : x ≠ c := by
  intro e; subst e; rw [h] at hx; exact absurd hx (by decide)

theorem noteTest_false {l : Str} (h1 : l ≠ "NOTE".toList) (h2 : hasPrefix "NOTE ".toList l = false) :
    VTTRead.noteTest l = false := by
  unfold VTTRead.noteTest; rw [h2, decide_eq_false h1]; rfl

theorem noteTest_head {c : Char} (h : 'N' ≠ c) (tl : Str) : VTTRead.noteTest (c :: tl) = false :=
  noteTest_false (fun e => h (List.cons.inj (VTTRead.lit_note ▸ e)).1.symm)
    (by rw [VTTRead.lit_note_sp]; exact hasPrefix_cons_ne h _ _)

/-- the tests of the reader's `switch` that precede the arrow test all fail on the line -/
structure LineTests (l : Str) : Prop where
  neNote : l ≠ "NOTE".toList
  notePre : hasPrefix "NOTE ".toList l = false
  region : hasPrefix "Region: ".toList l = false
  style : hasPrefix "STYLE".toList l = false
  tsmap : hasPrefix "X-TIMESTAMP-MAP".toList l = false

theorem LineTests.note {l : Str} (T : LineTests l) : VTTRead.noteTest l = false := noteTest_false T.neNote T.notePre

/-- they look at the first character: a line that starts with none of `N`, `R`, `S`, `X` -/
theorem LineTests.of_head {c : Char} (hN : 'N' ≠ c) (hR : 'R' ≠ c) (hS : 'S' ≠ c) (hX : 'X' ≠ c) (tl : Str) :
    LineTests (c :: tl) := by
  refine ⟨fun e => hN (List.cons.inj (VTTRead.lit_note ▸ e)).1.symm, ?_, ?_, ?_, ?_⟩ <;>
    simp only [String.reduceToList]
  · exact hasPrefix_cons_ne hN _ _
  · exact hasPrefix_cons_ne hR _ _
  · exact hasPrefix_cons_ne hS _ _
  · exact hasPrefix_cons_ne hX _ _

theorem LineTests.of_digit {c : Char} (hc : isDig c = true) (tl : Str) : LineTests (c :: tl) :=
  .of_head (isDig_ne hc _ (by decide)) (isDig_ne hc _ (by decide)) (isDig_ne hc _ (by decide))
    (isDig_ne hc _ (by decide)) tl

theorem digit_line_tests (c : Char) (tl : Str) (hc : isDig c = true) :
    (c :: tl = "NOTE".toList) = False ∧ hasPrefix "NOTE ".toList (c :: tl) = false ∧
    hasPrefix "Region: ".toList (c :: tl) = false ∧ hasPrefix "STYLE".toList (c :: tl) = false ∧
    hasPrefix "X-TIMESTAMP-MAP".toList (c :: tl) = false :=
  have T := LineTests.of_digit hc tl
  ⟨eq_false T.neNote, T.notePre, T.region, T.style, T.tsmap⟩

theorem step_arrow (st : St) (c : Char) (tl left endTok : Str) (ws : List Str) (sv ev : Int) (a : SetAcc)
    (hline : c :: tl = left ++ arrow ++ spaced (endTok :: ws))
    (hc : isDig c = true)
    (htrim : trimSpace (c :: tl) = c :: tl)
    (hleft : ∀ x ∈ left, x ≠ '-')
    (hgt : '>' ∉ spaced (endTok :: ws))
    (hws : ∀ w ∈ endTok :: ws, WordOk w)
    (hsl : smallNumbers left = true) (hse : smallNumbers endTok = true)
    (hpl : Duration.parseVTT left = some sv) (hpe : Duration.parseVTT endTok = some ev)
    (hset : settings st.regions ws {} = some a) :
    step st (some (c :: tl)) =
      .ok { st with done := flush st,
                    cur := { index := st.index, startAt := sv, endAt := ev, region := a.region,
                             comments := st.comments, lines := [],
                             attrs := some (mkAttrs [("WebVTTAlign", optStr a.align), ("WebVTTLine", optStr a.line),
                                ("WebVTTPosition", optStr a.position), ("WebVTTSize", optStr a.size),
                                ("WebVTTVertical", optStr a.vertical)]) },
                    curListed := true, block := .text, index := 0, comments := [] } := by
  have T := LineTests.of_digit hc tl
  rw [VTTRead.step_timing st _ left _ endTok ws [] htrim (List.cons_ne_nil _ _)
    T.note T.region T.style
    (by rw [hline]; exact contains_append_mid (by decide) _ _)
    (by rw [hline]; exact splitOn_arrow _ _ hleft hgt) (fields_spaced _ hws), hsl, hse, hpl, hpe, hset]
  rfl

/-- the timing line of `cueBytes` -/
def timingLine (s e : Int) (al ln po rg sz ve : Option Str) : Str :=
  Duration.formatVTT s ++ " --> ".toList ++ Duration.formatVTT e
    ++ setting "align:" al ++ setting "line:" ln ++ setting "position:" po
    ++ setting "region:" rg ++ setting "size:" sz ++ setting "vertical:" ve

/-- the words of the settings in the order of the writer -/
def allWords (al ln po rg sz ve : Option Str) : List Str :=
  word "align:" al ++ (word "line:" ln ++ (word "position:" po ++ (word "region:" rg
    ++ (word "size:" sz ++ (word "vertical:" ve ++ [])))))

theorem timingLine_eq (s e : Int) (al ln po rg sz ve : Option Str) :
    timingLine s e al ln po rg sz ve
      = Duration.formatVTT s ++ [' '] ++ arrow ++ spaced (Duration.formatVTT e :: allWords al ln po rg sz ve) := by
  have e1 : " --> ".toList = [' '] ++ arrow ++ [' '] := by simp only [String.reduceToList, arrow_eq]; rfl
  unfold timingLine allWords
  rw [e1]
  simp only [setting_eq, spaced_cons, spaced_append, List.append_assoc, List.cons_append,
    List.nil_append, List.append_nil]

theorem allWords_ok (al ln po rg sz ve : Option Str)
    (hal : optOk al = true) (hln : optOk ln = true) (hpo : optOk po = true) (hrg : optOk rg = true)
    (hsz : optOk sz = true) (hve : optOk ve = true) :
    ∀ w ∈ allWords al ln po rg sz ve, WordOk w ∧ '>' ∉ w := by
  intro w hw
  simp only [allWords, List.mem_append, List.not_mem_nil, or_false] at hw
  rcases hw with hw | hw | hw | hw | hw | hw
  · exact word_ok _ (by unfold labelOk; decide_vector) _ hal w hw
  · exact word_ok _ (by unfold labelOk; decide_vector) _ hln w hw
  · exact word_ok _ (by unfold labelOk; decide_vector) _ hpo w hw
  · exact word_ok _ (by unfold labelOk; decide_vector) _ hrg w hw
  · exact word_ok _ (by unfold labelOk; decide_vector) _ hsz w hw
  · exact word_ok _ (by unfold labelOk; decide_vector) _ hve w hw

theorem spaced_noGt (ws : List Str) (h : ∀ w ∈ ws, '>' ∉ w) : '>' ∉ spaced ws := by
  induction ws with
  | nil => simp [spaced_nil]
  | cons w ws ih =>
    rw [spaced_cons]
    intro hc
    have hc' : '>' ∈ ' ' :: (w ++ spaced ws) := hc
    rcases List.mem_cons.mp hc' with hc' | hc'
    · exact absurd hc' (by decide)
    · rcases List.mem_append.mp hc' with hc' | hc'
      · exact h w (by simp) hc'
      · exact ih (fun w' hw' => h w' (by simp [hw'])) hc'

theorem trimSpace_line (c : Char) (tlS m1 m2 : Str) (ws : List Str) (hc : isSpace c = false)
    (hne : ws ≠ []) (hws : ∀ w ∈ ws, WordOk w) :
    trimSpace ((c :: tlS) ++ m1 ++ m2 ++ spaced ws) = (c :: tlS) ++ m1 ++ m2 ++ spaced ws := by
  obtain ⟨pre, z, hp, hz⟩ := spaced_last ws hne hws
  refine trimSpace_eq_self (fun x hx => ?_) (fun x hx => ?_)
  · cases hx; exact hc
  · rw [hp, ← List.append_assoc, List.getLast?_concat] at hx; cases hx; exact hz

/-- whatever the state, the written timing line opens a new cue with the instants
    truncated to the millisecond and exactly the settings written -/
theorem step_timing (st : St) (s e : Int) (hs0 : 0 ≤ s) (hs1 : s < 360000000000000)
    (he0 : 0 ≤ e) (he1 : e < 360000000000000) (al ln po rg sz ve : Option Str)
    (hal : optOk al = true) (hln : optOk ln = true) (hpo : optOk po = true) (hrg : optOk rg = true)
    (hsz : optOk sz = true) (hve : optOk ve = true)
    (hdef : ∀ r, rg = some r → st.regions.any (·.id = r) = true) :
    step st (some (timingLine s e al ln po rg sz ve)) =
      .ok { st with done := flush st,
                    cur := { index := st.index, startAt := s - s % 1000000, endAt := e - e % 1000000,
                             region := rg, comments := st.comments, lines := [],
                             attrs := some (mkAttrs [("WebVTTAlign", al), ("WebVTTLine", ln), ("WebVTTPosition", po),
                                                     ("WebVTTSize", sz), ("WebVTTVertical", ve)]) },
                    curListed := true, block := .text, index := 0, comments := [] } := by
  obtain ⟨htc1, _, _⟩ := format_facts s hs0 hs1
  obtain ⟨htc2, hsm2, hp2⟩ := format_facts e he0 he1
  obtain ⟨hsm1, hp1⟩ := format_blank s hs0 hs1
  obtain ⟨k, r, hk, hF⟩ := format_head s hs0 hs1
  obtain ⟨_, _, _, hF2⟩ := format_head e he0 he1
  have hws : ∀ w ∈ Duration.formatVTT e :: allWords al ln po rg sz ve, WordOk w ∧ '>' ∉ w := by
    intro w hw
    rcases List.mem_cons.mp hw with h | hw
    · rw [h]
      exact ⟨⟨by rw [hF2]; exact List.cons_ne_nil _ _, fun c hc => timeChar_noSpace (htc2 c hc)⟩,
        fun hc => timeChar_ne_gt (htc2 _ hc) rfl⟩
    · exact allWords_ok al ln po rg sz ve hal hln hpo hrg hsz hve w hw
  have htrim := trimSpace_line (digitChar k) r [' '] arrow _ (isSpace_digitChar hk) (List.cons_ne_nil _ _)
    (fun w hw => (hws w hw).1)
  rw [timingLine_eq]
  rw [hF] at htc1 hsm1 hp1 ⊢
  simp only [List.cons_append] at htrim ⊢
  rw [step_arrow st _ _ (digitChar k :: r ++ [' ']) (Duration.formatVTT e) (allWords al ln po rg sz ve)
    (s - s % 1000000) (e - e % 1000000)
    { align := al.getD [], line := ln.getD [], position := po.getD [], size := sz.getD [],
      vertical := ve.getD [], region := rg }
    (by simp only [List.cons_append, List.append_assoc]) (isDigC_digitChar hk) htrim
    (by
      intro x hx
      rcases List.mem_append.mp hx with hx | hx
      · exact timeChar_ne_minus (htc1 x hx)
      · rw [List.mem_singleton.mp hx]; decide)
    (spaced_noGt _ (fun w hw => (hws w hw).2)) (fun w hw => (hws w hw).1) hsm1 hsm2 hp1 hp2
    (settings_all st.regions al ln po rg sz ve hal hln hpo hrg hsz hve hdef)]
  simp only [optStr_getD_of_ne (optOk_ne hal), optStr_getD_of_ne (optOk_ne hln), optStr_getD_of_ne (optOk_ne hpo),
    optStr_getD_of_ne (optOk_ne hsz), optStr_getD_of_ne (optOk_ne hve)]

theorem step_number (st : St) (k : Nat) (hb : st.block = .none) (hk : k + 1 ≤ int64Max) :
    step st (some (itoaNat (k + 1))) = .ok { st with index := (k : Int) + 1 } := by
  obtain ⟨d, tl, hd, he'⟩ := itoaNat_head (k + 1)
  have hds := digitStr_itoaNat (k + 1)
  have hval := Go.atoiLoose_itoaNat (k + 1) hk
  have htrim : trimSpace (itoaNat (k + 1)) = itoaNat (k + 1) := trimSpace_id hds.noSpace
  have hcont : contains arrow (itoaNat (k + 1)) = false :=
    contains_of_head_not_mem _ (hds.not_mem_of_not_isDigC rfl)
  rw [he'] at htrim hcont hval ⊢
  have T := LineTests.of_digit (isDigC_digitChar hd) tl
  rw [VTTRead.step_id st _ htrim (List.cons_ne_nil _ _) hb
    T.note T.region T.style T.tsmap hcont, hval]
  rfl

theorem styleLines_nil (s : Subs) (h : s.styles = []) : styleLines s = [] := by
  simp [styleLines, sortDefs, h]

end VTT
end Astisub
