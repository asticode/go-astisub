import Astisub.Driver.VTT

/-!
# Lemmas/VTTRead2Defs — vocabulary of the WebVTT *read* clause (C02read)

* the pieces of `Driver.vttView` by name (`runView`, `lineView`, `cueView`, `regionView`);
* the class of documents of the theorem: `InClass` — decidable, on the decoder's own block
  structure (`docBlocks`), excluding exactly the kinds of documents of the decoder's class on which the
  reader model is known to differ (each with a witness in `Props/C02read.lean`);
* the outcome `Good`: what the `vtt.read` case of the driver checks.
-/

namespace Astisub
namespace VTTRead
open Go Spec.VTT

/-! ### the view, piece by piece -/

def modelTag (g : GTag) : VTT.Tag := { name := g.name, classes := g.classes, annotation := g.annotation }

def runView (li : LItem) : Option GRun :=
  if li.startAt % 1000000 ≠ 0 || li.startAt < 0 then none else
  some { text := li.text, tags := (VTT.tagsOfAttrs li.attrs).map Driver.specTag,
         ts := if li.startAt = 0 then none else some (li.startAt / 1000000).toNat }

def lineView (l : Line) : Option GLine :=
  match mapM runView l.items with
  | some runs => some { voice := l.voice, runs := runs }
  | none => none

def cueView (it : CItem) : Option GCue :=
  if it.startAt % 1000000 ≠ 0 || it.endAt % 1000000 ≠ 0 || it.startAt < 0 || it.endAt < 0 then none else
  match mapM lineView it.lines with
  | none => none
  | some lines =>
    some { id := it.index, comments := it.comments, startMs := (it.startAt / 1000000).toNat, endMs := (it.endAt / 1000000).toNat,
           align := Driver.attrStr it.attrs "WebVTTAlign", line := Driver.attrStr it.attrs "WebVTTLine",
           position := Driver.attrStr it.attrs "WebVTTPosition", size := Driver.attrStr it.attrs "WebVTTSize",
           vertical := Driver.attrStr it.attrs "WebVTTVertical", region := it.region, lines := lines }

def regionView (d : Def) : GRegion :=
  { id := d.id, lines := Driver.attrStr d.attrs "WebVTTLines", anchor := Driver.attrStr d.attrs "WebVTTRegionAnchor",
    scroll := Driver.attrStr d.attrs "WebVTTScroll", viewport := Driver.attrStr d.attrs "WebVTTViewportAnchor",
    width := Driver.attrStr d.attrs "WebVTTWidth" }

def tsmapView (s : Subs) : Option (Int × Int) :=
  match SRT.kvGet s.metadata "WebVTTTimestampMap" with
  | some v => match splitC ',' v with
    | [l, m] => match atoi l, atoi m with
      | some l, some m => some (l, m)
      | _, _ => none
    | _ => none
  | none => none

theorem vttView_eq (s : Subs) :
    Driver.vttView s =
      match mapM cueView s.items with
      | none => none
      | some cues => some { cues := cues, regions := (Proto.sortDefs s.regions).map regionView,
                            styles := VTT.styleLines s, tsmap := tsmapView s } := rfl

/-! ### the decoder's block list -/

/-- a line of header metadata (may follow `WEBVTT` without a blank line) -/
def metaLine (l : Str) : Bool :=
  hasPrefix "Region: ".toList (trimSpace l) || hasPrefix "X-TIMESTAMP-MAP".toList (trimSpace l)

def stripBom (doc : Str) : Str :=
  match doc with | c :: rest => if c = Char.ofNat 0xFEFF then rest else doc | [] => doc

def okHeader (first : Str) : Bool :=
  match dropPrefix? "WEBVTT".toList first with
  | some [] => true
  | some (c :: _) => isBlank c
  | none => false

/-- the blocks `Spec.VTT.decode` folds `Spec.VTT.block` over; `none` = no `WEBVTT` line -/
def docBlocks (doc : Str) : Option (List (List Str)) :=
  match splitLines (stripBom doc) [] with
  | [] => none
  | first :: rest =>
    if !okHeader first then none else
    let hdr := rest.takeWhile metaLine
    some ((if hdr.isEmpty then [] else [hdr.map trimSpace]) ++ blocks (rest.drop hdr.length))

def foldBlocks (bs : List (List Str)) : Option DocSt :=
  bs.foldl (fun (acc : Option DocSt) b => match acc with | some st => block st b | none => none) (some {})

def docOf (st : DocSt) : GDoc := { cues := st.cues, regions := st.regions, styles := st.styles, tsmap := st.tsmap }

theorem decode_eq (doc : Str) :
    decode doc = match docBlocks doc with
      | none => none
      | some bs => (foldBlocks bs).map docOf := by
  unfold decode docBlocks
  show (match splitLines (stripBom doc) [] with
    | [] => none
    | first :: rest =>
      if !okHeader first then none else
      match foldBlocks ((if (rest.takeWhile metaLine).isEmpty then [] else [(rest.takeWhile metaLine).map trimSpace]) ++
          blocks (rest.drop (rest.takeWhile metaLine).length)) with
      | some st => some (docOf st)
      | none => none) = _
  split
  · rfl
  · rename_i _ first rest _
    by_cases h : (!okHeader first) = true
    · simp only [h, if_true]
    · simp only [h, Bool.false_eq_true, if_false]
      cases foldBlocks _ <;> rfl

/-! ### the class -/

/-- the text lines of a cue block (what follows the timing line) -/
def cueTextOf (b : List Str) : List Str :=
  match b with
  | l1 :: rest =>
    if contains arrow l1 then rest
    else match rest with
      | _ :: rest' => rest'
      | [] => []
  | [] => []

/-- a comment line the library reads like the standard does: `NOTE` is followed by exactly one
    space (the library knows neither `NOTE<tab>` nor that further white space is not text) -/
def noteOK (l : Str) : Bool :=
  !hasPrefix "NOTE\t".toList l &&
  (match dropPrefix? "NOTE ".toList l with
   | some (c :: _) => !isSpace c
   | _ => true)

/-- the number of lines of a region fits the library's `int` -/
def regionOK (l : Str) : Bool :=
  match regionLine l with
  | some r => decide (r.lines.length ≤ 18)
  | none => true

/-- cue text: no inline timestamp (`<` + digit), and inside a tag none of `=` (the HTML tokenizer
    reads quoted attribute values), form feed (white space to the tokenizer and to `\s`, not to the
    standard), `|` (separator of the tag list in the protocol's `WebVTTTags` attribute) and CR / LF
    (never inside a line of a document).
    The flag says whether the scan is inside a tag. -/
def scanOK : Bool → Str → Bool
  | _, [] => true
  | false, c :: cs =>
    if c = '<' then (match cs with | d :: _ => !isDigit d | [] => true) && scanOK true cs
    else scanOK false cs
  | true, c :: cs =>
    if c = '>' then scanOK false cs
    else !(c = '=' || c = '\x0c' || c = '|' || c = '\n' || c = '\r') && scanOK true cs

def lineOK (l : Str) : Bool := scanOK false l

def blockOK (b : List Str) : Bool :=
  match b with
  | [] => true
  | first :: _ =>
    if (noteLine first).isSome then b.all noteOK
    else b.all regionOK && (cueTextOf b).all lineOK

/-- the documents of the theorem (inside the decoder's class) -/
def InClass (doc : Str) : Bool :=
  match docBlocks doc with
  | some bs => bs.all blockOK
  | none => true

/-- the cue-list item the reader builds for a run of the decoder (no inline timestamp) -/
def runItem (r : GRun) : LItem := { text := r.text, startAt := 0, attrs := VTT.tagsAttrs (r.tags.map modelTag) }

/-! ### the outcome -/

/-- what the `vtt.read` case checks of the reader's answer `r` against the denotation `g`:
    unless the model does not cover the input (`unmodelled`: the case is not judged), the answer is
    a cue list whose normalised view is the normalised denotation -/
def Good (r : SRT.Res Subs) (g : GDoc) : Prop :=
  r = .unmodelled ∨ ∃ s, r = .ok s ∧ (Driver.vttView s).map norm = some (norm g)

end VTTRead
end Astisub
