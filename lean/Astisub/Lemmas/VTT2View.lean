import Astisub.Driver.VTT
import Astisub.Lemmas.VTT2Final
import Astisub.Props.C02doc

/-!
# Lemmas/VTT2View — the round trip on bytes as the check computes it, `wanted2` against the check's
`Driver.vttWanted`, and "regions are defined before they are used"; the general round trip specialised to the
statement `Props/C02doc` states (cue lists with comments, no regions / STYLE block / timestamp map)
-/

namespace Astisub
namespace VTT
open Go List

/-- the model side of the `vtt.write` stream: encode the written text
    as UTF-8, cut it into lines with the scanner model, decode each line, read -/
theorem read_write_bytes2 (s : Subs) (hok : DocOk s = true) (doc : Str) (hw : write s = some doc) :
    read (Driver.docLines (Driver.utf8 doc)) = .ok (wanted2 s) := by
  have F := docOk_facts hok
  rw [write_lines2 s F.ne] at hw
  cases hw
  rw [unlines_lf, docLines_lfLines (noBreak_docLines2 s hok)]
  exact read_docLines2 s hok

/-- what the WebVTT reader cannot tell apart in a run: the style reference is not written, and
    of the attributes only the tag stack is -/
def normRun (li : LItem) : LItem := { li with style := none, attrs := tagsAttrs (tagsOfAttrs li.attrs) }

/-- … and in a cue: the style reference is resolved into the settings by the writer -/
def normCue (c : CItem) : CItem :=
  { c with style := none, lines := c.lines.map fun l => { l with items := l.items.map normRun } }

theorem wanted2_items (s : Subs) : (wanted2 s).items = (Driver.vttWanted s).items.map normCue := by
  simp only [wanted2, Driver.vttWanted, map_map]
  apply map_congr_left
  intro x _
  simp only [Function.comp, readCue2, readCue, normCue, map_map, cueSetting]
  congr 1
  apply map_congr_left
  intro l _
  simp only [Function.comp, readLine, map_map]
  congr 1

/-- a region as the check wants it back (`Driver.vttWanted`) -/
def wantedRegion (s : Subs) (d : Def) : Def :=
  { d with attrs := some (mkAttrs [("WebVTTLines", fallback d.attrs (styleAttrs s d.ref) "WebVTTLines"),
      ("WebVTTRegionAnchor", fallback d.attrs (styleAttrs s d.ref) "WebVTTRegionAnchor"),
      ("WebVTTScroll", fallback d.attrs (styleAttrs s d.ref) "WebVTTScroll"),
      ("WebVTTViewportAnchor", fallback d.attrs (styleAttrs s d.ref) "WebVTTViewportAnchor"),
      ("WebVTTWidth", fallback d.attrs (styleAttrs s d.ref) "WebVTTWidth")]) }

theorem wanted2_regions (s : Subs) :
    (wanted2 s).regions = (VTT.sortDefs (Driver.vttWanted s).regions).map fun d => { d with ref := none } := by
  show _ = (VTT.sortDefs (s.regions.map (wantedRegion s))).map _
  have h := map_mergeSort (r := fun (a b : Def) => !strLt b.id a.id) (s := fun (a b : Def) => !strLt b.id a.id)
    (f := wantedRegion s) (l := s.regions) (fun a _ b _ => by simp only [wantedRegion])
  simp only [wanted2, readRegions]
  unfold VTT.sortDefs
  rw [← h, map_map]
  apply map_congr_left
  intro d _
  rfl

theorem regionLine_mem (s : Subs) (d : Def) (hd : d ∈ s.regions) : regionLine s d ∈ regionBlock s := by
  unfold regionBlock
  have hne : s.regions.isEmpty = false := by
    cases h : s.regions with
    | nil => rw [h] at hd; cases hd
    | cons a b => rfl
  simp only [hne, Bool.false_eq_true, if_false]
  apply mem_cons_of_mem
  apply mem_map_of_mem
  exact (Proto.sortDefs_perm _).mem_iff.mpr hd

theorem cueTiming_mem (s : Subs) (items : List CItem) : ∀ (k : Nat) (it : CItem), it ∈ items →
    cueTiming s it ∈ cuesLines2 s k items := by
  induction items with
  | nil => intro k it h; cases h
  | cons a rest ih =>
    intro k it h
    simp only [cuesLines2, cueLines2, cueCore, cons_append, mem_cons, mem_append]
    rcases mem_cons.mp h with rfl | h
    · right; left; right; right; left; rfl
    · right; right; exact ih (k + 1) it h

/-- in a `DocOk` document, a cue that refers to a region `r` has its timing
    line (carrying `region:r`) after the region block, and the region block holds the line
    `Region: id=r …` of a region of the list -/
theorem region_defined_before_use (s : Subs) (hok : DocOk s = true) (it : CItem) (hit : it ∈ s.items)
    (r : Str) (hr : it.region = some r) :
    ∃ d ∈ s.regions, d.id = r ∧ ("Region: id=".toList ++ r) <+: regionLine s d ∧
      ∃ pre, docLines2 s = pre ++ regionBlock s ++ cuesLines2 s 0 s.items ∧
        regionLine s d ∈ regionBlock s ∧ cueTiming s it ∈ cuesLines2 s 0 s.items := by
  have F := docOk_facts hok
  have := region_of_cueOk2 (F.cues it hit) r hr
  simp only [any_eq_true, decide_eq_true_eq] at this
  obtain ⟨d, hd, hid⟩ := this
  refine ⟨d, hd, hid, ?_, ("WEBVTT".toList :: tsmapLines s) ++ styleBlock s, rfl, regionLine_mem s d hd,
    cueTiming_mem s s.items 0 it hit⟩
  rw [← hid]
  unfold regionLine
  simp only [append_assoc]
  exact (prefix_append_right_inj _).2 (prefix_append _ _)

/-- `C02doc.commentOk` is `styleLineOk` with `noBreakB` written out -/
theorem commentOk_style {c : Str} (h : C02doc.commentOk c = true) : StyleLineFacts c := styleLineOk_facts h

theorem commentOk_first {c : Str} (h : C02doc.commentOk c = true) : firstCommentOk c = true := by
  have F := commentOk_style h
  simp only [firstCommentOk, Bool.and_eq_true, bne_iff_ne, ne_eq, beq_iff_eq]
  exact ⟨⟨F.ne, F.trim⟩, F.nb⟩

theorem commentOk_cont {c : Str} (h : C02doc.commentOk c = true) : contCommentOk c = true := by
  have F := commentOk_style h
  simp only [contCommentOk, Bool.and_eq_true, bne_iff_ne, ne_eq, Bool.not_eq_true']
  exact ⟨⟨⟨commentOk_first h, F.arrow⟩, F.note⟩, F.notePre⟩

theorem commentsOk_of_all {cs : List Str} (h : cs.all C02doc.commentOk = true) : commentsOk cs = true := by
  cases cs with
  | nil => rfl
  | cons c cs =>
    simp only [all_cons, Bool.and_eq_true, all_eq_true] at h
    simp only [commentsOk, Bool.and_eq_true, all_eq_true]
    exact ⟨commentOk_first h.1, fun x hx => commentOk_cont (h.2 x hx)⟩

theorem cueOk2_of_cueOk {s : Subs} {it : CItem} (h : cueOk s { it with comments := [] } = true)
    (hc : it.comments.all C02doc.commentOk = true) : cueOk2 s it = true ∧ it.region = none := by
  obtain ⟨h2, _, hr⟩ := cueOk2_of_plain h
  have F := cueOk2_iff.mp h2
  exact ⟨cueOk2_iff.mpr ⟨commentsOk_of_all hc, F.region, F.s0, F.s1, F.e0, F.e1, F.align, F.line, F.position, F.size,
    F.vertical, F.lines⟩, hr⟩

theorem write_read_comments_proof : C02doc.write_read_comments_Statement := by
  intro s hne hok hlen hreg hsty hmeta
  have hcues : ∀ it ∈ s.items, cueOk2 s it = true ∧ it.region = none :=
    fun it hit => cueOk2_of_cueOk (hok it hit).1 (hok it hit).2
  have hdoc := docOk_of_plain hne (fun it hit => (hcues it hit).1) hlen hreg hsty hmeta
  obtain ⟨doc, hw, hcr, hrd⟩ := read_write2 s hdoc
  refine ⟨doc, hw, hcr, ?_⟩
  rw [hrd]
  congr 1
  have h1 : readRegions s = [] := by simp [readRegions, hreg, sortDefs_nil]
  have h2 : tsmapVal s = none := by simp [tsmapVal, hmeta]
  have h3 : (s.items.zipIdx.map fun x => readCue2 s x.2 x.1)
      = s.items.zipIdx.map fun x => { readCue s x.2 x.1 with comments := x.1.comments } := by
    apply map_congr_left
    intro x hx
    have hr := (hcues x.1 (fst_mem_of_mem_zipIdx hx)).2
    simp [readCue2, readCue, hr]
  simp only [wanted2, h1, h2, h3, hsty, readSubs]
  rfl

end VTT
end Astisub
