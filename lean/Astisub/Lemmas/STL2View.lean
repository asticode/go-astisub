import Astisub.Lemmas.STL2Tti

/-!
# Lemmas/STL2View — the check's views (`Driver.STLD.linesView`, `specLines`, `runView`, `effSty`, `floorFrame`) of what the two
readers return — `effSty` and `linesView` are `runView` followed by the decoder-side view, on any item; the attributes of
an open-subtitling item are looked up by key —, and lifting a writer-side cue (`WCue`) with repertoire text to runs of
units (`MCue`, `lift_cue`)
-/

namespace Astisub
namespace C05
open Go STL

theorem stlAttrs_keys (s : LSty) : (stlAttrs s).Pairwise (fun a b => a.1 ≠ b.1) := by
  simp [stlAttrs, List.pairwise_cons]

theorem lookup_stlAttrs (s : LSty) :
    (mkAttrs (stlAttrs s)).lookup "STLItalics".toList = optB s.italics ∧
    (mkAttrs (stlAttrs s)).lookup "STLUnderline".toList = optB s.underline ∧
    (mkAttrs (stlAttrs s)).lookup "STLBoxing".toList = optB s.boxing :=
  ⟨lookup_mkAttrs_of_mem (stlAttrs_keys s) (by simp [stlAttrs]), lookup_mkAttrs_of_mem (stlAttrs_keys s) (by simp [stlAttrs]),
   lookup_mkAttrs_of_mem (stlAttrs_keys s) (by simp [stlAttrs])⟩

theorem lookup_absent (s : LSty) (k : String) (hk : k ≠ "STLBoxing" ∧ k ≠ "STLItalics" ∧ k ≠ "STLUnderline") :
    (mkAttrs (stlAttrs s)).lookup k.toList = none := by
  apply lookup_mkAttrs (stlAttrs_keys _)
  intro v
  simp [stlAttrs, hk.1, hk.2.1, hk.2.2]

theorem runView_itemOf (g : Seg) : Driver.STLD.runView (itemOf g) = runOf g := by
  obtain ⟨t, s1, s2, s3⟩ := g
  obtain ⟨k1, k2, k3⟩ := lookup_stlAttrs (lsty (s1, s2, s3))
  have a1 := lookup_absent (lsty (s1, s2, s3)) "TeletextColor" (by decide)
  have a2 := lookup_absent (lsty (s1, s2, s3)) "TeletextDoubleHeight" (by decide)
  have a3 := lookup_absent (lsty (s1, s2, s3)) "TeletextDoubleSize" (by decide)
  have a4 := lookup_absent (lsty (s1, s2, s3)) "TeletextDoubleWidth" (by decide)
  have a5 := lookup_absent (lsty (s1, s2, s3)) "TeletextSpacesBefore" (by decide)
  have a6 := lookup_absent (lsty (s1, s2, s3)) "TeletextSpacesAfter" (by decide)
  unfold Driver.STLD.runView Driver.STLD.optBool Driver.STLD.natOf Driver.STLD.kv itemOf runOf
  simp only [k1, k2, k3, a1, a2, a3, a4, a5, a6]
  rcases s1 with _ | (_ | _) <;> rcases s2 with _ | (_ | _) <;> rcases s3 with _ | (_ | _) <;> rfl

/-- the check's two views of a run agree on every line item, whoever built it: the effective style is the run's
    attributes compared with "on" -/
theorem effSty_runView (li : LItem) :
    Driver.STLD.effSty li = ((Driver.STLD.runView li).italic == some true, (Driver.STLD.runView li).underline == some true,
      (Driver.STLD.runView li).boxing == some true) := by
  have key : ∀ k, Driver.STLD.isTrue li.attrs k = (Driver.STLD.optBool li.attrs k == some true) := by
    intro k
    unfold Driver.STLD.isTrue Driver.STLD.optBool
    cases Driver.STLD.kv li.attrs k with
    | none => rfl
    | some v => cases h : (v == "true".toList) <;> simp
  simp only [Driver.STLD.effSty, Driver.STLD.runView, key]

theorem linesView_runView (it : CItem) :
    Driver.STLD.linesView it = Driver.STLD.specLines
      { startNs := 0, endNs := 0, just := 0, vp := 0, nrows := 0, lines := it.lines.map fun l => l.items.map Driver.STLD.runView } := by
  simp only [Driver.STLD.linesView, Driver.STLD.specLines, List.map_map]
  refine List.map_congr_left fun l _ => ?_
  simp only [Function.comp, effSty_runView, List.map_map]
  rfl

/-- the runs of a line as the `stl.write` stream compares them: (text, italics, underline, boxing), adjacent runs
    of equal style merged -/
def wLine (l : List RRun) : List (Str × B3) := Driver.STLD.mergeRuns (l.map wv)

theorem wv_ne (l : List RRun) (h : ∀ r ∈ l, r.okT) : ∀ x ∈ l.map wv, x.1 ≠ [] := by
  intro x hx
  obtain ⟨r, hr, rfl⟩ := List.mem_map.mp hx
  exact (h r hr).ne

theorem lineOf_runs (l : List RRun) (h : ∀ r ∈ l, r.okT) :
    ((lineOf l).items.map fun li => (li.text, Driver.STLD.effSty li)) = mergePlain (l.map wv) := by
  rw [← lineSegs_view l (fun r hr => (h r hr).tr)]
  unfold lineOf
  rw [List.map_map]
  apply List.map_congr_left
  intro g _
  simp only [Function.comp, effSty_runView, runView_itemOf]
  rfl

theorem specRuns (l : List RRun) (h : ∀ r ∈ l, r.okT) :
    (((lineSegs l).map runOf).map fun r => (r.text, (r.italic == some true, r.underline == some true, r.boxing == some true)))
      = mergePlain (l.map wv) := by
  rw [← lineSegs_view l (fun r hr => (h r hr).tr), List.map_map]
  rfl

theorem linesView_ttiCueM (R : GSI) (G : WGSI) (off : Int) (c : MCue) (h : ∀ l ∈ c.rows, ∀ r ∈ l, r.okT) :
    Driver.STLD.linesView (ttiCueM R G off c) = c.rows.map wLine := by
  unfold Driver.STLD.linesView ttiCueM wLine
  simp only [List.map_map]
  apply List.map_congr_left
  intro l hl
  simp only [Function.comp]
  rw [lineOf_runs l (h l hl), mergeRuns_mergePlain _ (wv_ne l (h l hl))]

theorem specLines_specCueM (fr : Nat) (G : WGSI) (off : Int) (c : MCue) (h : ∀ l ∈ c.rows, ∀ r ∈ l, r.okT) :
    Driver.STLD.specLines (specCueM fr G off c) = c.rows.map wLine := by
  unfold Driver.STLD.specLines specCueM wLine
  simp only [List.map_map]
  apply List.map_congr_left
  intro l hl
  simp only [Function.comp]
  rw [specRuns l (h l hl), mergeRuns_mergePlain _ (wv_ne l (h l hl))]

theorem floorFrame_eq (T : Int) (fr : Nat) (hfr : fr = 25 ∨ fr = 30) (h1 : T < 921600000000000) :
    Driver.STLD.floorFrame fr T = frameInstant (fr : Int) T := by
  by_cases h0 : 0 ≤ T
  · obtain ⟨n, rfl⟩ : ∃ n : Nat, T = (n : Int) := ⟨T.toNat, by omega⟩
    rw [frameInstant_nat n fr hfr (by omega)]
    unfold Driver.STLD.floorFrame
    simp only [Int.toNat_natCast]
  · have hz : T.toNat = 0 := by omega
    have e : frameInstant (fr : Int) T = frameInstant (fr : Int) 0 := by
      unfold frameInstant Duration.formatSTLBytes
      simp only [hz, Int.toNat_natCast]
      rfl
    rw [e]
    unfold Driver.STLD.floorFrame
    simp only [hz]
    rcases hfr with rfl | rfl <;> decide

theorem lift_run (r : WRun) (h : RepText r.text ∧ trimSpace (str r.text) = str r.text ∧ r.text ≠ []) :
    ∃ rr : RRun, rr.toW = r ∧ rr.okT := by
  obtain ⟨⟨us, hus, ht⟩, htr, hne⟩ := h
  refine ⟨{ units := us, italics := r.italics, underline := r.underline, boxing := r.boxing }, ?_, ?_⟩
  · obtain ⟨t, i, u, b⟩ := r
    simp only [RRun.toW, RRun.text] at ht ⊢
    rw [← ht]
  · refine ⟨hus, ?_, ?_⟩
    · simp only [RRun.text, ← ht]
      intro e; apply hne
      unfold str at e; simpa using e
    · simp only [RRun.text, ← ht]; exact htr

theorem lift_list {α β} (f : β → α) (P : α → Prop) (Q : β → Prop) (hl : ∀ a, P a → ∃ b, f b = a ∧ Q b) (l : List α)
    (h : ∀ a ∈ l, P a) : ∃ l' : List β, l'.map f = l ∧ ∀ b ∈ l', Q b := by
  induction l with
  | nil => exact ⟨[], rfl, fun b hb => by cases hb⟩
  | cons a as ih =>
    obtain ⟨b, hb, hq⟩ := hl a (h a (by simp))
    obtain ⟨bs, hbs, hqs⟩ := ih (fun x hx => h x (by simp [hx]))
    refine ⟨b :: bs, by simp [hb, hbs], ?_⟩
    intro x hx
    rcases List.mem_cons.mp hx with rfl | hx
    · exact hq
    · exact hqs x hx

theorem lift_cue (c : WCue)
    (hl : ∀ l ∈ c.lines, l ≠ [] ∧ ∀ r ∈ l, RepText r.text ∧ trimSpace (str r.text) = str r.text ∧ r.text ≠ [])
    (hfit : (encodeText (cueString c)).length ≤ 112) : ∃ mc : MCue, mc.toW = c ∧ mc.ok := by
  have hline : ∀ l, (l ≠ [] ∧ ∀ r ∈ l, RepText r.text ∧ trimSpace (str r.text) = str r.text ∧ r.text ≠ []) →
      ∃ l' : List RRun, l'.map RRun.toW = l ∧ (l' ≠ [] ∧ ∀ r ∈ l', r.okT) := by
    intro l ⟨hne, hr⟩
    obtain ⟨l', e, hq⟩ := lift_list RRun.toW _ RRun.okT lift_run l hr
    exact ⟨l', e, fun e' => hne (by rw [← e, e']; rfl), hq⟩
  obtain ⟨rows, hrows, hq⟩ := lift_list (fun l' : List RRun => l'.map RRun.toW) _ _ hline c.lines hl
  have hc : ({ startAt := c.startAt, endAt := c.endAt, just := c.just, vp := c.vp, rows := rows } : MCue).toW = c := by
    obtain ⟨s, e, j, v, ls⟩ := c
    simp only [MCue.toW] at hrows ⊢
    rw [hrows]
  exact ⟨_, hc, hq, by rw [hc]; exact hfit⟩

end C05
end Astisub
