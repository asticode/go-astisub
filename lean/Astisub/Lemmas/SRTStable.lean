import Astisub.Lemmas.SRTSpec

/-!
# Lemmas/SRTStable — the SubRip normal form is stable

`norm s` is what a SubRip write → read round trip makes of a representable cue list.  It is a fixed point of
everything in sight: writing it reproduces the file byte for byte (`write_norm`), it is itself representable
(`rep_norm`), and normalising twice is normalising once (`norm_idem`).
-/

namespace Astisub
namespace SRTDoc
open Go SRT

/-- the reader never produces an `SRTPosition` attribute -/
theorem kvGet_runAttrs_position (r : Run) : kvGet (runAttrs r) "SRTPosition" = none :=
  kvGet_runAttrs r _ _ (fun _ => rfl) (fun t v => by simp [runPairs])

theorem styleOf_color_ne_nil (li : LItem) (c : Str) (h : (styleOf li).color = some c) : c ≠ [] := by
  unfold styleOf at h
  simp only at h
  cases hc : kvGet li.attrs "SRTColor" with
  | none => rw [hc] at h; simp at h
  | some d =>
    rw [hc] at h
    simp only at h
    by_cases hd : d = []
    · simp [hd] at h
    · simp only [ne_eq, hd, not_false_eq_true, ↓reduceIte, Option.some.injEq] at h
      rw [← h]; exact hd

theorem styleOf_normRun (li : LItem) : styleOf (normRun li) = styleOf li := by
  have hne := styleOf_color_ne_nil li
  unfold normRun
  generalize styleOf li = r at hne ⊢
  unfold styleOf
  simp only [kvGet_runAttrs_bold, kvGet_runAttrs_italics, kvGet_runAttrs_underline, kvGet_runAttrs_color,
    optBool_isSome]
  rcases r with ⟨b, i, u, c⟩
  cases c with
  | none => rfl
  | some c =>
    have : c ≠ [] := hne c rfl
    simp [this]

theorem normRun_text (li : LItem) : (normRun li).text = li.text := rfl

theorem normRun_pos (li : LItem) : NoPos (normRun li) := by
  show (kvGet (runAttrs (styleOf li)) "SRTPosition").getD [] = []
  rw [kvGet_runAttrs_position]; rfl

theorem normRun_idem (li : LItem) : normRun (normRun li) = normRun li := by
  show ({ text := li.text, attrs := runAttrs (styleOf (normRun li)) } : LItem) = _
  rw [styleOf_normRun]; rfl

theorem plainRun_normRun (li : LItem) : plainRun (normRun li) = plainRun li := by
  unfold plainRun; rw [styleOf_normRun]

theorem runToks_normRun (li : LItem) : runToks (normRun li) = runToks li := by
  unfold runToks; rw [styleOf_normRun, normRun_text]

theorem runBytes_normRun (li : LItem) (hpos : NoPos li) :
    runBytes (normRun li) = runBytes li := by
  rw [runBytes_eq li hpos, runBytes_eq (normRun li) (normRun_pos li), runToks_normRun]

theorem lineBytes_normLine (l : Line) (h : ∀ li ∈ l.items, NoPos li) :
    lineBytes (normLine l) = lineBytes l := by
  have e : (l.items.map normRun).map runBytes = l.items.map runBytes := by
    rw [List.map_map]
    apply List.map_congr_left
    intro li hli
    exact runBytes_normRun li (h li hli)
  show ((l.items.map normRun).map runBytes).flatten ++ ['\n'] = _
  rw [e]; rfl

theorem truncMs_format (t : Int) (h0 : 0 ≤ t) : Duration.formatSRT (truncMs t) = Duration.formatSRT t :=
  C16.format_idem3 t ',' h0

theorem itemBytes_normItem (j k : Nat) (it : CItem) (h : RepItem it = true) :
    itemBytes j (normItem k it) = itemBytes j it := by
  have hs0 := (repItem_iff.mp h).start0; have he0 := (repItem_iff.mp h).end0
  have hl : (it.lines.map normLine).map lineBytes = it.lines.map lineBytes := by
    rw [List.map_map]
    apply List.map_congr_left
    intro l hl
    exact lineBytes_normLine l (fun li hli => repRun_pos (repLine_runs (repItem_lines h l hl) li hli))
  unfold itemBytes normItem
  simp only [truncMs_format _ hs0, truncMs_format _ he0, hl]

theorem bytes_normItems (items : List CItem) (k j : Nat) (h : ∀ it ∈ items, RepItem it = true) :
    (((normItems k items).zipIdx j).map fun (it, k) => itemBytes k it).flatten
      = ((items.zipIdx j).map fun (it, k) => itemBytes k it).flatten := by
  induction items generalizing k j with
  | nil => rfl
  | cons it rest ih =>
    simp only [normItems, List.zipIdx_cons, List.map_cons, List.flatten_cons,
      ih (k + 1) (j + 1) (fun x hx => h x (by simp [hx])), itemBytes_normItem j k it (h it (by simp))]

theorem normItems_isEmpty (k : Nat) (items : List CItem) : (normItems k items).isEmpty = items.isEmpty := by
  cases items <;> rfl

theorem write_norm (s : Subs) (h : Rep s = true) : SRT.write (norm s) = SRT.write s := by
  have hit := rep_repItem h
  unfold write norm
  simp only [normItems_isEmpty, bytes_normItems s.items 0 0 hit]

theorem repRun_normRun {li : LItem} (h : RepRun li = true) : RepRun (normRun li) = true := by
  have hp := repRun_pos h
  unfold RepRun at h ⊢
  rw [styleOf_normRun, normRun_pos, normRun_text]
  rw [hp] at h
  exact h

theorem noAdjPlain_normRun : ∀ items : List LItem, noAdjPlain (items.map normRun) = noAdjPlain items
  | [] => rfl
  | [_] => rfl
  | a :: b :: r => by
    show (!(plainRun (normRun a) && plainRun (normRun b)) && noAdjPlain ((b :: r).map normRun))
      = (!(plainRun a && plainRun b) && noAdjPlain (b :: r))
    rw [plainRun_normRun, plainRun_normRun, noAdjPlain_normRun (b :: r)]

theorem repLine_normLine {l : Line} (h : RepLine l = true) : RepLine (normLine l) = true := by
  have F := repLine_iff.mp h
  refine repLine_iff.mpr { ne := ?_, runs := ?_, noAdj := ?_, head := ?_, last := ?_ }
  · simpa [normLine] using F.ne
  · intro x hx
    obtain ⟨li, hli, rfl⟩ := List.mem_map.mp hx
    exact repRun_normRun (F.runs li hli)
  · show noAdjPlain (l.items.map normRun) = true
    rw [noAdjPlain_normRun]; exact F.noAdj
  · have h4 := F.head
    show (match (l.items.map normRun).head? with | some li => _ | none => _) = true
    rw [List.head?_map]
    cases hh : l.items.head? with
    | none => rw [hh] at h4; exact absurd h4 (by simp)
    | some li =>
      rw [hh] at h4
      show (styled (styleOf (normRun li)) || (normRun li).text.head?.any visible) = true
      rw [styleOf_normRun]; exact h4
  · have h5 := F.last
    show (match (l.items.map normRun).getLast? with | some li => _ | none => _) = true
    rw [List.getLast?_map]
    cases hh : l.items.getLast? with
    | none => rw [hh] at h5; exact absurd h5 (by simp)
    | some li =>
      rw [hh] at h5
      show (styled (styleOf (normRun li)) || (normRun li).text.getLast?.any visible) = true
      rw [styleOf_normRun]; exact h5

theorem repItem_normItem (k : Nat) {it : CItem} (h : RepItem it = true) : RepItem (normItem k it) = true := by
  have F := repItem_iff.mp h
  have a := F.start0; have b := F.startLt; have c := F.end0; have d := F.endLt
  simp only [hundredHours] at b d
  refine repItem_iff.mpr
    { start0 := by simp only [normItem, truncMs]; omega, startLt := by simp only [normItem, truncMs, hundredHours]; omega,
      end0 := by simp only [normItem, truncMs]; omega, endLt := by simp only [normItem, truncMs, hundredHours]; omega,
      lines := ?_ }
  intro x hx
  obtain ⟨l, hl', rfl⟩ := List.mem_map.mp hx
  exact repLine_normLine (F.lines l hl')

theorem normItems_length (k : Nat) (items : List CItem) : (normItems k items).length = items.length := by
  induction items generalizing k with
  | nil => rfl
  | cons it rest ih => simp only [normItems, List.length_cons, ih]

theorem repItem_normItems (k : Nat) (items : List CItem) (h : ∀ it ∈ items, RepItem it = true) :
    ∀ x ∈ normItems k items, RepItem x = true := by
  induction items generalizing k with
  | nil => intro x hx; simp [normItems] at hx
  | cons it rest ih =>
    intro x hx
    simp only [normItems, List.mem_cons] at hx
    rcases hx with rfl | hx
    · exact repItem_normItem k (h it (by simp))
    · exact ih (k + 1) (fun y hy => h y (by simp [hy])) x hx

theorem rep_norm (s : Subs) (h : Rep s = true) : Rep (norm s) = true := by
  have F := rep_iff.mp h
  exact rep_iff.mpr
    { ne := by
        have : (normItems 0 s.items).isEmpty = false := by rw [normItems_isEmpty]; simpa using F.ne
        simpa [norm] using this
      count := by simpa [norm, normItems_length] using F.count
      items := repItem_normItems 0 s.items F.items }

theorem truncMs_idem (t : Int) : truncMs (truncMs t) = truncMs t := by
  unfold truncMs; omega

theorem normLine_idem (l : Line) : normLine (normLine l) = normLine l := by
  show ({ items := (l.items.map normRun).map normRun } : Line) = { items := l.items.map normRun }
  rw [List.map_map]
  congr 1
  apply List.map_congr_left
  intro li _
  exact normRun_idem li

theorem normItem_idem (j k : Nat) (it : CItem) : normItem j (normItem k it) = normItem j it := by
  have hl : (it.lines.map normLine).map normLine = it.lines.map normLine := by
    rw [List.map_map]
    apply List.map_congr_left
    intro l _
    exact normLine_idem l
  unfold normItem
  simp only [truncMs_idem, hl]

theorem normItems_idem (j k : Nat) (items : List CItem) : normItems j (normItems k items) = normItems j items := by
  induction items generalizing j k with
  | nil => rfl
  | cons it rest ih => simp only [normItems, normItem_idem, ih]

theorem norm_idem (s : Subs) : norm (norm s) = norm s := by
  unfold norm
  simp only [normItems_idem]

end SRTDoc
end Astisub
