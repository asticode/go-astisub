import Astisub.Lemmas.SSARead2Info
import Astisub.Lemmas.SSARead2EventAux

/-!
# Lemmas/SSARead2Doc — a styles section, an events section, one section of any kind in the terms of what the decoder takes
from it (`run_section`), and the reader's loop over all the decoder's sections, one section at a time
-/

namespace Astisub
namespace SSAR
open Go SSA

section
open Spec.SSA (SecKind secKind classify stylesOf normCol nodup styleTable)

/-- one step of `Spec.SSA.stylesOf`, with the row computation named (`specStyleRow`) -/
theorem stylesOf_cons (l : Str) (ls : List Str) (fmt : Option (List String)) :
    stylesOf (l :: ls) fmt =
      match classify l with
      | .comment _ => stylesOf ls fmt
      | .junk => stylesOf ls fmt
      | .kv k v =>
        if k = "Format".toList then
          if fmt.isSome then none else
          if nodup ((splitC ',' v).map fun c => normCol (trimSpace c)) &&
              ((splitC ',' v).map fun c => normCol (trimSpace c)).all (fun c => c = "Name" || (styleTable.lookup c).isSome)
          then stylesOf ls (some ((splitC ',' v).map fun c => normCol (trimSpace c))) else none
        else if k = "Style".toList then
          match fmt with
          | none => none
          | some cols =>
            match specStyleRow cols v, stylesOf ls (some cols) with
            | some g, some rest => some (g :: rest)
            | _, _ => none
        else if fmt.isNone then none else stylesOf ls fmt := by
  rw [stylesOf]
  cases classify l with
  | comment c => rfl
  | junk => rfl
  | kv k v =>
    simp only
    by_cases h1 : k = "Format".toList
    · simp only [h1, ↓reduceIte]
    · simp only [h1, ↓reduceIte]
      by_cases h2 : k = "Style".toList
      · simp only [h2, ↓reduceIte]
        cases fmt with
        | none => rfl
        | some cols =>
          simp only [specStyleRow]
          by_cases h3 : (splitC ',' v).length ≠ cols.length
          · rw [if_pos h3, if_pos h3]
          · rw [if_neg h3, if_neg h3]
            cases Spec.SSA.mapM id _ <;> cases stylesOf ls (some cols) <;> rfl
      · simp only [h2, ↓reduceIte]

/-- the reader's Format list and the decoder's column list of the current section correspond -/
def FmtS (format : List Str) (fmt : Option (List String)) : Prop :=
  match fmt with
  | none => format = []
  | some cols => format ≠ [] ∧ cols = format.map normCol ∧ nodup cols = true ∧
      cols.all (fun c => c = "Name" || (styleTable.lookup c).isSome) = true

theorem stylesLine_format (st : St) (v : Str) :
    stylesLine st "Format".toList v = .ok { st with format := mergeFormat st.format ((splitC ',' v).map trimSpace) } := by
  unfold stylesLine; simp

theorem stylesLine_style (st : St) (v : Str) (hf : st.format ≠ []) :
    stylesLine st "Style".toList v = match styleRow v st.format with
      | .ok s => .ok { st with styles := st.styles ++ [s] }
      | .err => .err
      | .unmodelled => .unmodelled := by
  unfold stylesLine
  have : st.format.isEmpty = false := by cases h : st.format <;> simp_all
  rw [if_neg style_ne_format, this]
  simp only [Bool.false_eq_true, ↓reduceIte]
  rw [if_neg (fun h => h rfl)]
  cases styleRow v st.format <;> rfl

theorem run_styles_sec : ∀ (body : List Str) (st : St) (fmt : Option (List String)) (gss : List Spec.SSA.GStyle),
    st.sec = .styles → st.first = false → (∀ l ∈ body, BodyLine l) → FmtS st.format fmt →
    stylesOf body fmt = some gss → (∀ gs ∈ gss, attrs64 gs.attrs = true) →
    ∃ st' ms, runL st body = .ok st' ∧ st'.sec = .styles ∧ st'.info.vals = st.info.vals ∧
      SecEff st st' (Spec.SSA.commentsOf body) ms [] ∧ ms.map styleView = gss.map some := by
  -- the decoder's step (`stylesOf_cons`) and the reader's (`stepL_body`) are split in lockstep, line by line; only the
  -- `Style:` row needs a lemma of its own (`styleRow_spec`)
  intro body
  induction body with
  | nil =>
    intro st fmt gss hs hf _ _ hd _
    simp only [stylesOf, Option.some.injEq] at hd
    subst hd
    exact ⟨st, [], rfl, hs, rfl, .refl hf, rfl⟩
  | cons l ls ih =>
    intro st fmt gss hs hf hb hfmt hd h64
    have hl := hb l (by simp)
    have hu : ¬ st.sec = .unknown := by rw [hs]; decide
    have hb' : ∀ x ∈ ls, BodyLine x := fun x hx => hb x (by simp [hx])
    rw [runL, stepL_body st l hl.1 hl.2 hf, if_neg hu, commentsOf_cons]
    rw [stylesOf_cons] at hd
    cases hc : classify l with
    | comment c =>
      rw [hc] at hd
      simp only at hd ⊢
      obtain ⟨st', xs, h1, h2, h5, E, h7⟩ :=
        ih { st with info := { st.info with comments := st.info.comments ++ [c] } } fmt gss hs hf hb' hfmt hd h64
      exact ⟨st', xs, h1, h2, h5, E.comment, h7⟩
    | junk =>
      rw [hc] at hd
      simp only at hd ⊢
      exact ih st fmt gss hs hf hb' hfmt hd h64
    | kv k v =>
      rw [hc] at hd
      simp only at hd ⊢
      by_cases hcol : l.head? = some ':'
      · rw [if_pos hcol]
        have hk := classify_kv_colon hc hcol
        subst hk
        rw [if_neg nil_ne_keyword.1, if_neg nil_ne_keyword.2.1] at hd
        cases fmt with
        | none => simp at hd
        | some cols =>
          simp only [Option.isNone_some, Bool.false_eq_true, ↓reduceIte] at hd
          exact ih st (some cols) gss hs hf hb' hfmt hd h64
      · rw [if_neg hcol, kvStep_styles st k v hs]
        by_cases hF : k = "Format".toList
        · subst hF
          rw [if_pos rfl] at hd
          cases fmt with
          | some cols => simp at hd
          | none =>
            simp only [Option.isSome_none, Bool.false_eq_true, ↓reduceIte] at hd
            split at hd
            · rename_i hcond
              rw [Bool.and_eq_true] at hcond
              have hfe : st.format = [] := hfmt
              rw [stylesLine_format]
              simp only
              have hm : mergeFormat st.format ((splitC ',' v).map trimSpace) = (splitC ',' v).map trimSpace := by
                rw [hfe]; simp [mergeFormat]
              rw [hm]
              have hfmt' : FmtS ((splitC ',' v).map trimSpace) (some ((splitC ',' v).map fun c => normCol (trimSpace c))) := by
                refine ⟨?_, by rw [List.map_map]; rfl, hcond.1, hcond.2⟩
                intro e
                exact splitC_ne_nil ',' v (List.map_eq_nil_iff.mp e)
              obtain ⟨st', xs, h1, h2, h5, E, h7⟩ :=
                ih { st with format := (splitC ',' v).map trimSpace } _ gss hs hf hb' hfmt' hd h64
              exact ⟨st', xs, h1, h2, h5, E.of_eq rfl rfl rfl, h7⟩
            · cases hd
        · rw [if_neg hF] at hd
          by_cases hS : k = "Style".toList
          · subst hS
            rw [if_pos rfl] at hd
            cases fmt with
            | none => simp at hd
            | some cols =>
              simp only at hd
              obtain ⟨hne, hcols, hnd, hall⟩ := hfmt
              cases hrow : specStyleRow cols v with
              | none => simp [hrow] at hd
              | some g =>
                cases hrest : stylesOf ls (some cols) with
                | none => simp [hrow, hrest] at hd
                | some rest =>
                  simp only [hrow, hrest, Option.some.injEq] at hd
                  subst hd
                  rw [hcols] at hrow hnd hall
                  obtain ⟨m, hm1, hm2⟩ := styleRow_spec st.format v g hnd hrow (h64 g (by simp))
                  rw [stylesLine_style st v hne, hm1]
                  simp only
                  obtain ⟨st', ms, h1, h2, h5, E, h8⟩ :=
                    ih { st with styles := st.styles ++ [m] } (some cols) rest hs hf hb' ⟨hne, hcols, by rw [hcols]; exact hnd, by rw [hcols]; exact hall⟩ hrest
                      (fun gs hgs => h64 gs (by simp [hgs]))
                  refine ⟨st', m :: ms, h1, h2, h5, E.style, ?_⟩
                  simp [hm2, h8]
          · rw [if_neg hS] at hd
            cases fmt with
            | none => simp at hd
            | some cols =>
              simp only [Option.isNone_some, Bool.false_eq_true, ↓reduceIte] at hd
              rw [C04.other_style_line_ignored st k v hfmt.1 hS hF]
              exact ih st (some cols) gss hs hf hb' hfmt hd h64

end

section
open Spec.SSA (SecKind secKind classify eventsOf eventOf nodup eventCols)

/-- the reader's Format list and the decoder's column list of the current `[Events]` section correspond -/
def FmtE (format : List Str) (fmt : Option (List String)) : Prop :=
  match fmt with
  | none => format = []
  | some cols => format ≠ [] ∧ cols = format.map String.ofList ∧ nodup cols = true ∧
      cols.all (fun c => eventCols.contains c) = true

/-- the reader's events and the decoder's events correspond: for every set of style names (none starting with `*`)
    the view of the item the reader builds is the decoder's event with its style reference resolved -/
def EvRel (es : List Event) (rs : List Spec.SSA.REvent) : Prop :=
  (∀ e ∈ es, e.category = "Dialogue".toList) ∧
  ∀ names : List Str, (∀ n ∈ names, n.head? ≠ some '*') →
    es.map (fun e => Spec.SSA.eventView (eventItem names e)) =
      rs.map (fun r => some { r.ev with style := Spec.SSA.resolve names r.styleName })

theorem evRel_append {es1 es2 : List Event} {rs1 rs2 : List Spec.SSA.REvent} (h1 : EvRel es1 rs1) (h2 : EvRel es2 rs2) :
    EvRel (es1 ++ es2) (rs1 ++ rs2) := by
  refine ⟨?_, ?_⟩
  · intro e he
    rcases List.mem_append.mp he with h | h
    · exact h1.1 e h
    · exact h2.1 e h
  · intro names hn
    rw [List.map_append, List.map_append, h1.2 names hn, h2.2 names hn]

theorem evRel_nil : EvRel [] [] := ⟨by simp, by simp⟩

theorem eventsLine_format (st : St) (v : Str) :
    eventsLine st "Format".toList v = .ok { st with format := mergeFormat st.format ((splitC ',' v).map trimSpace) } := by
  unfold eventsLine; simp

theorem eventsLine_dialogue (st : St) (v : Str) (hf : st.format ≠ []) :
    eventsLine st "Dialogue".toList v = match eventRow "Dialogue".toList v st.format with
      | some e => .ok { st with events := st.events ++ [e] }
      | none => .err := by
  unfold eventsLine
  have : st.format.isEmpty = false := by cases h : st.format <;> simp_all
  rw [if_neg dialogue_ne_format, this]
  simp only [Bool.false_eq_true, ↓reduceIte]
  rw [if_neg (fun h => h rfl)]
  cases eventRow "Dialogue".toList v st.format <;> rfl

theorem run_events_sec : ∀ (body : List Str) (st : St) (fmt : Option (List String)) (rs : List Spec.SSA.REvent),
    st.sec = .events → st.first = false → (∀ l ∈ body, BodyLine l) → FmtE st.format fmt →
    eventsOf body fmt = some rs → (∀ r ∈ rs, event64 r.ev = true) →
    ∃ st' es, runL st body = .ok st' ∧ st'.sec = .events ∧ st'.info.vals = st.info.vals ∧
      SecEff st st' (Spec.SSA.commentsOf body) [] es ∧ EvRel es rs := by
  -- as `run_styles_sec`, with `eventRow_spec` for the `Dialogue:` row
  intro body
  induction body with
  | nil =>
    intro st fmt rs hs hf _ _ hd _
    simp only [eventsOf, Option.some.injEq] at hd
    subst hd
    exact ⟨st, [], rfl, hs, rfl, .refl hf, evRel_nil⟩
  | cons l ls ih =>
    intro st fmt rs hs hf hb hfmt hd h64
    have hl := hb l (by simp)
    have hu : ¬ st.sec = .unknown := by rw [hs]; decide
    have hb' : ∀ x ∈ ls, BodyLine x := fun x hx => hb x (by simp [hx])
    rw [runL, stepL_body st l hl.1 hl.2 hf, if_neg hu, commentsOf_cons]
    rw [eventsOf] at hd
    cases hc : classify l with
    | comment c =>
      rw [hc] at hd
      simp only at hd ⊢
      obtain ⟨st', xs, h1, h2, h5, E, h7⟩ :=
        ih { st with info := { st.info with comments := st.info.comments ++ [c] } } fmt rs hs hf hb' hfmt hd h64
      exact ⟨st', xs, h1, h2, h5, E.comment, h7⟩
    | junk =>
      rw [hc] at hd
      simp only at hd ⊢
      exact ih st fmt rs hs hf hb' hfmt hd h64
    | kv k v =>
      rw [hc] at hd
      simp only at hd ⊢
      by_cases hcol : l.head? = some ':'
      · rw [if_pos hcol]
        have hk := classify_kv_colon hc hcol
        subst hk
        rw [if_neg nil_ne_keyword.1, if_neg nil_ne_keyword.2.2] at hd
        cases fmt with
        | none => simp at hd
        | some cols =>
          simp only [Option.isNone_some, Bool.false_eq_true, ↓reduceIte] at hd
          exact ih st (some cols) rs hs hf hb' hfmt hd h64
      · rw [if_neg hcol, kvStep_events st k v hs]
        by_cases hF : k = "Format".toList
        · subst hF
          rw [if_pos rfl] at hd
          cases fmt with
          | some cols => simp at hd
          | none =>
            simp only [Option.isSome_none, Bool.false_eq_true, ↓reduceIte] at hd
            split at hd
            · rename_i hcond
              rw [Bool.and_eq_true] at hcond
              have hfe : st.format = [] := hfmt
              rw [eventsLine_format]
              simp only
              have hm : mergeFormat st.format ((splitC ',' v).map trimSpace) = (splitC ',' v).map trimSpace := by
                rw [hfe]; simp [mergeFormat]
              rw [hm]
              have hfmt' : FmtE ((splitC ',' v).map trimSpace) (some ((splitC ',' v).map fun c => String.ofList (trimSpace c))) := by
                refine ⟨?_, by rw [List.map_map]; rfl, hcond.1, hcond.2⟩
                intro e
                exact splitC_ne_nil ',' v (List.map_eq_nil_iff.mp e)
              obtain ⟨st', xs, h1, h2, h5, E, h7⟩ :=
                ih { st with format := (splitC ',' v).map trimSpace } _ rs hs hf hb' hfmt' hd h64
              exact ⟨st', xs, h1, h2, h5, E.of_eq rfl rfl rfl, h7⟩
            · cases hd
        · rw [if_neg hF] at hd
          by_cases hS : k = "Dialogue".toList
          · subst hS
            rw [if_pos rfl] at hd
            cases fmt with
            | none => simp at hd
            | some cols =>
              simp only at hd
              obtain ⟨hne, hcols, hnd, hall⟩ := hfmt
              cases hrow : eventOf cols v with
              | none => simp [hrow] at hd
              | some r =>
                cases hrest : eventsOf ls (some cols) with
                | none => simp [hrow, hrest] at hd
                | some rest =>
                  simp only [hrow, hrest, Option.some.injEq] at hd
                  subst hd
                  rw [hcols] at hrow hnd hall
                  obtain ⟨e, hm1, hm2, hm3⟩ := eventRow_spec st.format v r hnd hrow (h64 r (by simp))
                  rw [eventsLine_dialogue st v hne, hm1]
                  simp only
                  obtain ⟨st', es, h1, h2, h5, E, h8, h9⟩ :=
                    ih { st with events := st.events ++ [e] } (some cols) rest hs hf hb' ⟨hne, hcols, by rw [hcols]; exact hnd, by rw [hcols]; exact hall⟩ hrest
                      (fun x hx => h64 x (by simp [hx]))
                  refine ⟨st', e :: es, h1, h2, h5, E.event, ?_, ?_⟩
                  · intro x hx
                    rcases List.mem_cons.mp hx with rfl | hx
                    · exact hm2
                    · exact h8 x hx
                  · intro names hn
                    simp only [List.map_cons, hm3 names hn, h9 names hn]
          · rw [if_neg hS] at hd
            cases fmt with
            | none => simp at hd
            | some cols =>
              simp only [Option.isNone_some, Bool.false_eq_true, ↓reduceIte] at hd
              rw [C04.other_event_ignored st k v hfmt.1 hS hF]
              exact ih st (some cols) rs hs hf hb' hfmt hd h64

end

section
open Spec.SSA (SecKind secKind classify stylesOf eventsOf)

@[simp] theorem enter_first (k : SecKind) (st : St) : (enter k st).first = false := by cases k <;> rfl
@[simp] theorem enter_info (k : SecKind) (st : St) : (enter k st).info = st.info := by cases k <;> rfl
@[simp] theorem enter_styles (k : SecKind) (st : St) : (enter k st).styles = st.styles := by cases k <;> rfl
@[simp] theorem enter_events (k : SecKind) (st : St) : (enter k st).events = st.events := by cases k <;> rfl

/-- the lines of all `[Script Info]` sections -/
def infoLines (secs : List (SecKind × List Str)) : List Str :=
  ((secs.filter fun s => s.1 = .info).map (·.2)).flatten

/-- the comments of all known sections -/
def knownComments (secs : List (SecKind × List Str)) : List Str :=
  ((secs.filter fun s => s.1 ≠ .unknown).map fun s => Spec.SSA.commentsOf s.2).flatten

theorem headersOk_plain {lines : List Str} (hp : headersOk lines = true) {h : Str} (hm : h ∈ lines) {k : SecKind}
    (hk : secKind h = some k) : plainName h = true := by
  unfold headersOk at hp
  have := List.all_eq_true.mp hp h hm
  rw [hk] at this
  simpa [plainName] using this

/-- one more element in front of a filtered `mapM`: its answer, or nothing when the filter drops it -/
theorem mapM_filter_cons {α β} (p : α → Prop) [DecidablePred p] (f : α → Option (List β)) (a : α) (as : List α)
    (L : List (List β)) (h : Spec.SSA.mapM f ((a :: as).filter fun x => p x) = some L) :
    ∃ g L', (if p a then f a else some []) = some g ∧ Spec.SSA.mapM f (as.filter fun x => p x) = some L' ∧
      L.flatten = g ++ L'.flatten := by
  by_cases hp : p a
  · rw [List.filter_cons_of_pos (by simpa using hp)] at h
    obtain ⟨g, L', hg, hL', rfl⟩ := Spec.SSA.isMapM.cons_inv h
    exact ⟨g, L', by rw [if_pos hp, hg], hL', rfl⟩
  · rw [List.filter_cons_of_neg (by simpa using hp)] at h
    exact ⟨[], L, by rw [if_neg hp], h, rfl⟩

theorem knownComments_cons (k : SecKind) (body : List Str) (rest : List (SecKind × List Str)) :
    knownComments ((k, body) :: rest) = (if k = .unknown then [] else Spec.SSA.commentsOf body) ++ knownComments rest := by
  cases k <;> simp [knownComments]

theorem infoLines_cons (k : SecKind) (body : List Str) (rest : List (SecKind × List Str)) :
    infoLines ((k, body) :: rest) = (if k = .info then body else []) ++ infoLines rest := by
  cases k <;> simp [infoLines]

/-- **One section.** From the state a header of kind `k` leaves, the loop over the body succeeds and adds what the decoder
    takes from a section of that kind: its comments (unless unknown), its `Key: value` lines (script info), its styles,
    its events -/
theorem run_section (k : SecKind) (body : List Str) (st : St) (kvs : List (String × Str))
    (gs : List Spec.SSA.GStyle) (rs : List Spec.SSA.REvent) (hB : ∀ l ∈ body, BodyLine l)
    (hi : k = .info → ∀ l ∈ body, lineSyn l = true ∧ infoLineOk l = true)
    (hS : (if k = .styles then stylesOf body none else some []) = some gs)
    (hE : (if k = .events then eventsOf body none else some []) = some rs)
    (hS64 : ∀ g ∈ gs, attrs64 g.attrs = true) (hE64 : ∀ r ∈ rs, event64 r.ev = true)
    (hrel : InfoRel st.info.vals kvs) :
    ∃ st' ms es, runL (enter k st) body = .ok st' ∧
      SecEff st st' (if k = .unknown then [] else Spec.SSA.commentsOf body) ms es ∧
      InfoRel st'.info.vals (kvs ++ kvsOf (if k = .info then body else [])) ∧
      ms.map styleView = gs.map some ∧ EvRel es rs := by
  cases k with
  | unknown =>
    cases Option.some.inj hS; cases Option.some.inj hE
    exact ⟨_, [], [], run_unknown body _ rfl (enter_first _ _) hB, (SecEff.refl (enter_first _ _)).of_eq rfl rfl rfl,
      by simpa [kvsOf] using hrel, rfl, evRel_nil⟩
  | info =>
    cases Option.some.inj hS; cases Option.some.inj hE
    obtain ⟨st1, r1, _, eff, r7⟩ := run_info_sec body (enter .info st) kvs rfl (enter_first _ _) hB
      (fun l hl => (hi rfl l hl).1) (fun l hl => (hi rfl l hl).2) (by simpa using hrel)
    exact ⟨st1, [], [], r1, eff.of_eq rfl rfl rfl, by simpa using r7, rfl, evRel_nil⟩
  | styles =>
    cases Option.some.inj hE
    obtain ⟨st1, ms, r1, _, r5, eff, r8⟩ :=
      run_styles_sec body (enter .styles st) none gs rfl (enter_first _ _) hB rfl hS hS64
    exact ⟨st1, ms, [], r1, eff.of_eq rfl rfl rfl, by simpa [kvsOf, r5] using hrel, r8, evRel_nil⟩
  | events =>
    cases Option.some.inj hS
    obtain ⟨st1, es, r1, _, r5, eff, r8⟩ :=
      run_events_sec body (enter .events st) none rs rfl (enter_first _ _) hB rfl hE hE64
    exact ⟨st1, [], es, r1, eff.of_eq rfl rfl rfl, by simpa [kvsOf, r5] using hrel, rfl, r8⟩

theorem run_grouped : ∀ (secs : List (SecKind × List Str)) (lines : List Str) (st : St) (kvs : List (String × Str))
    (S : List (List Spec.SSA.GStyle)) (E : List (List Spec.SSA.REvent)),
    Grouped lines secs → (∀ l ∈ lines, l ≠ []) → headersOk lines = true → infoOk secs = true →
    (∀ l ∈ infoLines secs, lineSyn l = true) →
    Spec.SSA.mapM (fun s => stylesOf s.2 none) (secs.filter fun s => s.1 = .styles) = some S →
    Spec.SSA.mapM (fun s => eventsOf s.2 none) (secs.filter fun s => s.1 = .events) = some E →
    (∀ gs ∈ S.flatten, attrs64 gs.attrs = true) → (∀ r ∈ E.flatten, event64 r.ev = true) →
    st.first = false → InfoRel st.info.vals kvs →
    ∃ st' ms es, runL st lines = .ok st' ∧ SecEff st st' (knownComments secs) ms es ∧
      InfoRel st'.info.vals (kvs ++ kvsOf (infoLines secs)) ∧
      ms.map styleView = S.flatten.map some ∧ EvRel es E.flatten := by
  intro secs
  induction secs with
  | nil =>
    intro lines st kvs S E hg _ _ _ _ hS hE _ _ hf hrel
    have : lines = [] := hg
    subst this
    simp only [List.filter_nil, Spec.SSA.mapM, Option.some.injEq] at hS hE
    subst hS; subst hE
    exact ⟨st, [], [], rfl, .refl hf, by simpa [infoLines, kvsOf] using hrel, rfl, evRel_nil⟩
  | cons s rest ih =>
    intro lines st kvs S E hg hne hp hio hsyn hS hE hS64 hE64 hf hrel
    obtain ⟨k, body⟩ := s
    obtain ⟨h, tail, rfl, hk, hbody, hgt⟩ := hg
    obtain ⟨gs, S', hgs, hS', eS⟩ := mapM_filter_cons (fun s : SecKind × List Str => s.1 = .styles) _ _ _ _ hS
    obtain ⟨rs, E', hrs, hE', eE⟩ := mapM_filter_cons (fun s : SecKind × List Str => s.1 = .events) _ _ _ _ hE
    rw [eS] at hS64 ⊢
    rw [eE] at hE64 ⊢
    rw [infoLines_cons] at hsyn ⊢
    rw [knownComments_cons]
    rw [infoOk, List.all_cons, Bool.and_eq_true] at hio
    obtain ⟨st1, ms1, es1, r1, eff1, r7, r4', r5'⟩ := run_section k body st kvs gs rs
      (fun l hl => ⟨hbody l hl, hne l (by simp [hl])⟩)
      (fun e l hl => ⟨hsyn l (by simp [e, hl]), by
        have := hio.1
        simp only [e, ne_eq, not_true_eq_false, decide_false, Bool.false_or] at this
        exact List.all_eq_true.mp this l hl⟩)
      hgs hrs (fun g hg => hS64 g (by simp [hg])) (fun r hr => hE64 r (by simp [hr])) hrel
    obtain ⟨st', ms, es, h1, eff2, h3, h4', h5'⟩ := ih tail st1 _ S' E' hgt (fun l hl => hne l (by simp [hl]))
      (List.all_eq_true.mpr fun x hx => List.all_eq_true.mp hp x (by simp [hx])) hio.2
      (fun l hl => hsyn l (by simp [hl])) hS' hE' (fun g hg => hS64 g (by simp [hg])) (fun r hr => hE64 r (by simp [hr])) eff1.first r7
    refine ⟨st', ms1 ++ ms, es1 ++ es, ?_, eff1.trans eff2, ?_, ?_, evRel_append r5' h5'⟩
    · rw [runL, stepL_header st h k hk (headersOk_plain hp List.mem_cons_self hk)]
      simp only
      rw [runL_append, r1]
      exact h1
    · rw [kvsOf_append, ← List.append_assoc]; exact h3
    · rw [List.map_append, List.map_append, r4', h4']

end

end SSAR
end Astisub
