import Astisub.Lemmas.SSARead2Scalar

/-!
# Lemmas/SSARead2Step — one iteration of the reader's scan loop on the decoder's classification of the line, the clean loop
`runL`, and the decoder's grouping of the lines into sections (`Grouped`: exactly the lists `Spec.SSA.sections` answers on)
-/

namespace Astisub
namespace SSAR
open Go SSA

/-- `step` after the line has been trimmed and the byte-order mark removed -/
def stepL (st : St) (line : Str) : Res St :=
  let st := { st with first := false }
  if line.isEmpty then .ok st
  else if hasPrefix ['['] line && hasSuffix [']'] line then
    let n := toLowerSec (line.drop 1).dropLast
    if n = "events".toList then .ok { st with sec := .events, format := [] }
    else if n = "script info".toList then .ok { st with sec := .scriptInfo }
    else if n = "v4 styles".toList || n = "v4+ styles".toList || n = "v4 styles+".toList then
      .ok { st with sec := .styles, format := [] }
    else .ok { st with sec := .unknown }
  else if st.sec = .unknown then .ok st
  else if line.head? = some ';' then
    .ok { st with info := { st.info with comments := st.info.comments ++ [trimSpace (line.drop 1)] } }
  else
    let split := splitC ':' line
    if split.length < 2 || split.head? = some [] then .ok st else
    let header := trimSpace (split.headD [])
    let content := trimSpace (join [':'] split.tail)
    match st.sec with
    | .scriptInfo =>
      match st.info.parse header content with
      | .ok i => .ok { st with info := i }
      | .err => .err
      | .unmodelled => .unmodelled
    | .events => eventsLine st header content
    | .styles => stylesLine st header content
    | _ => .ok st

theorem step_eq (st : St) (raw : Str) :
    step st raw = stepL st (if st.first then trimPrefix bom (trimSpace raw) else trimSpace raw) := rfl

def runL : St → List Str → Res St
  | st, [] => .ok st
  | st, l :: ls =>
    match stepL st l with
    | .ok st' => runL st' ls
    | .err => .err
    | .unmodelled => .unmodelled

theorem hasSuffix_single (c : Char) (s : Str) : hasSuffix [c] s = (s.getLast? == some c) := by
  unfold hasSuffix
  rw [List.reverse_singleton, hasPrefix_single, List.head?_reverse]

theorem ofList_eq_iff (n : Str) (s : String) : String.ofList n = s ↔ n = s.toList :=
  ⟨fun h => by rw [← h, String.toList_ofList], fun h => by rw [h, String.ofList_toList]⟩

theorem header_test (l : Str) : (hasPrefix ['['] l && hasSuffix [']'] l) = (Spec.SSA.secKind l).isSome := by
  rw [hasPrefix_single, hasSuffix_single]
  cases l with
  | nil => simp [Spec.SSA.secKind]
  | cons x xs =>
    by_cases hx : x = '['
    · subst hx
      simp only [List.head?_cons, beq_self_eq_true, Bool.true_and, Spec.SSA.secKind, List.getLast?_cons]
      cases hg : xs.getLast? with
      | none => simp
      | some y =>
        by_cases hy : y = ']'
        · subst hy; simp
        · simp [hy]
    · have : Spec.SSA.secKind (x :: xs) = none := by
        unfold Spec.SSA.secKind
        split
        · rename_i h; cases h; exact absurd rfl hx
        · rfl
      simp [this, hx]

theorem lowerFin : ∀ k : Fin 26, Char.ofNat (65 + k.val + 32) ≠ Char.ofNat 0x130 ∧ Char.ofNat (65 + k.val + 32) ≠ Char.ofNat 0x212A := by
  decide

theorem lower_not_special (c : Char) (h1 : 'A' ≤ c) (h2 : c ≤ 'Z') :
    Char.ofNat (c.toNat + 32) ≠ Char.ofNat 0x130 ∧ Char.ofNat (c.toNat + 32) ≠ Char.ofNat 0x212A := by
  rw [Char.le_def, UInt32.le_iff_toNat_le] at h1 h2
  have e1 : c.val.toNat = c.toNat := rfl
  have a1 : ('A' : Char).val.toNat = 65 := by decide
  have a2 : ('Z' : Char).val.toNat = 90 := by decide
  rw [e1, a1] at h1
  rw [e1, a2] at h2
  have := lowerFin ⟨c.toNat - 65, by omega⟩
  have e : 65 + (c.toNat - 65) + 32 = c.toNat + 32 := by omega
  simp only [e] at this
  exact this

def plainName (l : Str) : Bool := !(l.any fun c => c = Char.ofNat 0x130 || c = Char.ofNat 0x212A)

theorem toLowerSec_plain (n : Str) (h : plainName n = true) : toLowerSec n = Spec.SSA.lowerAscii n := by
  unfold toLowerSec toLowerAscii Spec.SSA.lowerAscii
  rw [List.map_map]
  apply List.map_congr_left
  intro c hc
  have hs : c ≠ Char.ofNat 0x130 ∧ c ≠ Char.ofNat 0x212A := by
    unfold plainName at h
    simp only [Bool.not_eq_true', List.any_eq_false, Bool.or_eq_true, decide_eq_true_eq, not_or] at h
    exact h c hc
  simp only [Function.comp]
  by_cases hu : 'A' ≤ c ∧ c ≤ 'Z'
  · have := lower_not_special c hu.1 hu.2
    simp [hu, this.1, this.2]
  · simp [hu, hs.1, hs.2]

theorem plainName_sub (x : Char) (rest : Str) (h : plainName (x :: rest) = true) : plainName rest.dropLast = true := by
  unfold plainName at *
  simp only [Bool.not_eq_true', List.any_eq_false, Bool.or_eq_true, decide_eq_true_eq, not_or] at *
  intro c hc
  exact h c (List.mem_cons_of_mem _ (List.dropLast_subset _ hc))

/-- the state after a section header of kind `k` -/
def enter (k : Spec.SSA.SecKind) (st : St) : St :=
  match k with
  | .events => { st with first := false, sec := .events, format := [] }
  | .info => { st with first := false, sec := .scriptInfo }
  | .styles => { st with first := false, sec := .styles, format := [] }
  | .unknown => { st with first := false, sec := .unknown }

theorem secKind_cons (rest : Str) (k : Spec.SSA.SecKind) (hk : Spec.SSA.secKind ('[' :: rest) = some k) :
    k = (let n := Spec.SSA.lowerAscii rest.dropLast
      if n = "script info".toList then .info else if n = "events".toList then .events
      else if n = "v4 styles".toList ∨ n = "v4+ styles".toList ∨ n = "v4 styles+".toList then .styles else .unknown) := by
  unfold Spec.SSA.secKind at hk
  simp only at hk
  split at hk
  · simp only [Option.some.injEq, ofList_eq_iff, Bool.or_eq_true, decide_eq_true_eq, or_assoc] at hk
    exact hk.symm
  · cases hk

theorem or3 (n a b c : Str) : ((decide (n = a) || decide (n = b) || decide (n = c)) = true) ↔ (n = a ∨ n = b ∨ n = c) := by
  simp [or_assoc]

theorem enter_chain (st : St) (n : Str) :
    (if n = "events".toList then Res.ok { st with first := false, sec := .events, format := [] }
      else if n = "script info".toList then .ok { st with first := false, sec := .scriptInfo }
      else if (n = "v4 styles".toList || n = "v4+ styles".toList || n = "v4 styles+".toList) = true then
        .ok { st with first := false, sec := .styles, format := [] }
      else .ok { st with first := false, sec := .unknown }) =
    .ok (enter (if n = "script info".toList then .info else if n = "events".toList then .events
      else if n = "v4 styles".toList ∨ n = "v4+ styles".toList ∨ n = "v4 styles+".toList then .styles else .unknown) st) := by
  by_cases h2 : n = "events".toList
  · have h1 : ¬ n = "script info".toList := by rw [h2]; decide
    rw [if_pos h2, if_neg h1, if_pos h2]; rfl
  · rw [if_neg h2]
    by_cases h1 : n = "script info".toList
    · rw [if_pos h1, if_pos h1]; rfl
    · rw [if_neg h1, if_neg h1, if_neg h2]
      by_cases h3 : n = "v4 styles".toList ∨ n = "v4+ styles".toList ∨ n = "v4 styles+".toList
      · rw [if_pos h3, if_pos ((or3 _ _ _ _).mpr h3)]; rfl
      · rw [if_neg h3, if_neg (fun h => h3 ((or3 _ _ _ _).mp h))]; rfl

theorem stepL_header (st : St) (l : Str) (k : Spec.SSA.SecKind) (hk : Spec.SSA.secKind l = some k)
    (hp : plainName l = true) : stepL st l = .ok (enter k st) := by
  have ht := header_test l
  rw [hk] at ht
  cases l with
  | nil => simp [Spec.SSA.secKind] at hk
  | cons x rest =>
    have hx : x = '[' := by
      unfold Spec.SSA.secKind at hk
      split at hk
      · rename_i h; cases h; rfl
      · cases hk
    subst hx
    have hlow := toLowerSec_plain _ (plainName_sub _ _ hp)
    rw [secKind_cons rest k hk]
    unfold stepL
    simp only [ht, List.isEmpty_cons, Bool.false_eq_true, ↓reduceIte, Option.isSome_some, List.drop_succ_cons, List.drop_zero, hlow]
    exact enter_chain st _

theorem st_first_eta (st : St) (hf : st.first = false) : { st with first := false } = st := by
  cases st; simp at hf; subst hf; rfl

theorem splitC_head_nil (x : Char) (xs : Str) : (splitC ':' (x :: xs)).head? = some [] ↔ x = ':' := by
  unfold splitC
  by_cases h : x = ':'
  · simp [h]
  · simp only [h, ↓reduceIte, iff_false]
    cases splitC ':' xs <;> simp

theorem classify_cons_ne {x : Char} (xs : Str) (hx : x ≠ ';') :
    Spec.SSA.classify (x :: xs) = match Spec.SSA.keyValue (x :: xs) with
      | some (k, v) => .kv k v | none => .junk := by
  unfold Spec.SSA.classify
  split
  · rename_i h; cases h; exact absurd rfl hx
  · rfl

/-- what the body of a `match` on the section does with a `Key: value` line -/
def kvStep (st : St) (k v : Str) : Res St :=
  match st.sec with
  | .scriptInfo =>
    match st.info.parse k v with
    | .ok i => .ok { st with info := i }
    | .err => .err
    | .unmodelled => .unmodelled
  | .events => eventsLine st k v
  | .styles => stylesLine st k v
  | _ => .ok st

theorem stepL_body (st : St) (l : Str) (hl : Spec.SSA.secKind l = none) (hne : l ≠ []) (hf : st.first = false) :
    stepL st l =
      if st.sec = .unknown then .ok st else
      match Spec.SSA.classify l with
      | .comment c => .ok { st with info := { st.info with comments := st.info.comments ++ [c] } }
      | .junk => .ok st
      | .kv k v => if l.head? = some ':' then .ok st else kvStep st k v := by
  have ht := header_test l
  rw [hl] at ht
  unfold stepL
  rw [st_first_eta st hf]
  cases l with
  | nil => exact absurd rfl hne
  | cons x xs =>
    simp only [List.isEmpty_cons, Bool.false_eq_true, ↓reduceIte, ht, Option.isSome_none]
    by_cases hu : st.sec = .unknown
    · simp [hu]
    · simp only [hu, ↓reduceIte, List.head?_cons, Option.some.injEq]
      by_cases hx : x = ';'
      · subst hx
        simp [Spec.SSA.classify]
      · rw [classify_cons_ne xs hx, keyValue_split]
        simp only [hx, ↓reduceIte]
        by_cases hlen : (splitC ':' (x :: xs)).length < 2
        · simp [hlen]
        · simp only [hlen, decide_false, Bool.false_or, ↓reduceIte]
          by_cases hh : x = ':'
          · have := (splitC_head_nil x xs).mpr hh
            subst hh
            simp [this]
          · have h1 : ¬ (splitC ':' (x :: xs)).head? = some [] := fun h => hh ((splitC_head_nil x xs).mp h)
            simp only [hh, ↓reduceIte]
            rw [if_neg (by simpa using h1)]
            rfl

theorem kvStep_info (st : St) (k v : Str) (h : st.sec = .scriptInfo) :
    kvStep st k v = match st.info.parse k v with
      | .ok i => .ok { st with info := i }
      | .err => .err
      | .unmodelled => .unmodelled := by
  unfold kvStep
  split
  · rfl
  · rename_i h'; rw [h] at h'; cases h'
  · rename_i h'; rw [h] at h'; cases h'
  · rename_i h1 h2 h3; exact absurd h h1

theorem kvStep_events (st : St) (k v : Str) (h : st.sec = .events) : kvStep st k v = eventsLine st k v := by
  unfold kvStep
  split
  · rename_i h'; rw [h] at h'; cases h'
  · rfl
  · rename_i h'; rw [h] at h'; cases h'
  · rename_i h1 h2 h3; exact absurd h h2

theorem kvStep_styles (st : St) (k v : Str) (h : st.sec = .styles) : kvStep st k v = stylesLine st k v := by
  unfold kvStep
  split
  · rename_i h'; rw [h] at h'; cases h'
  · rename_i h'; rw [h] at h'; cases h'
  · rfl
  · rename_i h1 h2 h3; exact absurd h h3

section
open Spec.SSA (SecKind secKind sectionsAux sections classify)

/-- `lines` is the concatenation of the sections `secs`, each a header line of its kind followed by its body lines
    (none of which is a header) -/
def Grouped : List Str → List (SecKind × List Str) → Prop
  | lines, [] => lines = []
  | lines, s :: rest =>
    ∃ h tail, lines = h :: (s.2 ++ tail) ∧ secKind h = some s.1 ∧ (∀ l ∈ s.2, secKind l = none) ∧ Grouped tail rest

theorem sectionsAux_cur : ∀ (ls : List Str) (k : SecKind) (rb : List Str) (acc out : List (SecKind × List Str)),
    sectionsAux ls (some (k, rb)) acc = some out →
    ∃ body tail rest, ls = body ++ tail ∧ (∀ l ∈ body, secKind l = none) ∧
      out = acc ++ (k, rb.reverse ++ body) :: rest ∧ Grouped tail rest := by
  intro ls
  induction ls with
  | nil =>
    intro k rb acc out h
    simp only [sectionsAux, Option.some.injEq] at h
    exact ⟨[], [], [], rfl, by simp, by simp [← h], rfl⟩
  | cons l ls ih =>
    intro k rb acc out h
    rw [sectionsAux] at h
    cases hk : secKind l with
    | some k' =>
      simp only [hk] at h
      obtain ⟨body', tail', rest', e1, e2, e3, e4⟩ := ih k' [] _ out h
      refine ⟨[], l :: ls, (k', body') :: rest', rfl, by simp, ?_, ?_⟩
      · rw [e3]; simp
      · exact ⟨l, tail', by simp [e1], hk, e2, e4⟩
    | none =>
      simp only [hk] at h
      obtain ⟨body', tail', rest', e1, e2, e3, e4⟩ := ih k (l :: rb) acc out h
      refine ⟨l :: body', tail', rest', by simp [e1], ?_, ?_, e4⟩
      · intro x hx
        rcases List.mem_cons.mp hx with rfl | hx
        · exact hk
        · exact e2 x hx
      · rw [e3]; simp

theorem sections_grouped (lines : List Str) (secs : List (SecKind × List Str)) (h : sections lines = some secs) :
    Grouped lines secs := by
  unfold sections at h
  cases lines with
  | nil =>
    simp only [sectionsAux, Option.some.injEq] at h
    subst h; rfl
  | cons l ls =>
    rw [sectionsAux] at h
    cases hk : secKind l with
    | some k =>
      simp only [hk] at h
      obtain ⟨body, tail, rest, e1, e2, e3, e4⟩ := sectionsAux_cur ls k [] [] secs h
      simp only [List.reverse_nil, List.nil_append] at e3
      subst e3
      exact ⟨l, tail, by simp [e1], hk, e2, e4⟩
    | none => simp [hk] at h

theorem sectionsAux_body : ∀ (body rest : List Str) (k : SecKind) (rb : List Str) (acc : List (SecKind × List Str)),
    (∀ l ∈ body, secKind l = none) →
    sectionsAux (body ++ rest) (some (k, rb)) acc = sectionsAux rest (some (k, body.reverse ++ rb)) acc := by
  intro body
  induction body with
  | nil => intro rest k rb acc _; rfl
  | cons l ls ih =>
    intro rest k rb acc h
    rw [List.cons_append, sectionsAux]
    simp only [h l List.mem_cons_self]
    rw [ih rest k (l :: rb) acc (fun x hx => h x (List.mem_cons_of_mem _ hx))]
    simp

theorem sectionsAux_of_grouped : ∀ (rest : List (SecKind × List Str)) (tail : List Str) (k : SecKind) (rb : List Str)
    (acc : List (SecKind × List Str)), Grouped tail rest →
    sectionsAux tail (some (k, rb)) acc = some (acc ++ (k, rb.reverse) :: rest) := by
  intro rest
  induction rest with
  | nil =>
    intro tail k rb acc hg
    have : tail = [] := hg
    subst this
    rfl
  | cons s rest ih =>
    intro tail k rb acc hg
    obtain ⟨h, tail', rfl, hk, hb, hg'⟩ := hg
    rw [sectionsAux]
    simp only [hk]
    rw [sectionsAux_body s.2 tail' s.1 [] _ hb, ih tail' s.1 _ _ hg']
    simp

theorem sections_iff_grouped (lines : List Str) (secs : List (SecKind × List Str)) :
    sections lines = some secs ↔ Grouped lines secs := by
  refine ⟨sections_grouped lines secs, fun hg => ?_⟩
  cases secs with
  | nil =>
    have : lines = [] := hg
    subst this
    rfl
  | cons s rest =>
    obtain ⟨h, tail, rfl, hk, hb, hg'⟩ := hg
    unfold sections
    rw [sectionsAux]
    simp only [hk]
    rw [sectionsAux_body s.2 tail s.1 [] _ hb, sectionsAux_of_grouped rest tail s.1 _ _ hg']
    simp

theorem runL_append : ∀ (a b : List Str) (st : St),
    runL st (a ++ b) = match runL st a with | .ok st' => runL st' b | .err => .err | .unmodelled => .unmodelled := by
  intro a
  induction a with
  | nil => intro b st; rfl
  | cons x xs ih =>
    intro b st
    simp only [List.cons_append, runL]
    cases stepL st x with
    | ok st' => exact ih b st'
    | err => rfl
    | unmodelled => rfl

/-- a body line: not a header, not empty -/
def BodyLine (l : Str) : Prop := secKind l = none ∧ l ≠ []

theorem run_unknown : ∀ (body : List Str) (st : St), st.sec = .unknown → st.first = false →
    (∀ l ∈ body, BodyLine l) → runL st body = .ok st := by
  intro body
  induction body with
  | nil => intro st _ _ _; rfl
  | cons l ls ih =>
    intro st hs hf hb
    have hl := hb l (by simp)
    rw [runL, stepL_body st l hl.1 hl.2 hf, if_pos hs]
    exact ih st hs hf (fun x hx => hb x (by simp [hx]))

end

/-- what the loop has added to the state between `st` and `st'`: the comments `C`, the styles `ms`, the events `es`; the
    `first` flag is down.  (The Format, the section and the script-info values are not its business.) -/
structure SecEff (st st' : St) (C : List Str) (ms : List Style) (es : List Event) : Prop where
  first : st'.first = false
  comments : st'.info.comments = st.info.comments ++ C
  styles : st'.styles = st.styles ++ ms
  events : st'.events = st.events ++ es

namespace SecEff

theorem refl {st : St} (hf : st.first = false) : SecEff st st [] [] [] :=
  ⟨hf, (List.append_nil _).symm, (List.append_nil _).symm, (List.append_nil _).symm⟩

theorem trans {a b c : St} {C1 C2 : List Str} {m1 m2 : List Style} {e1 e2 : List Event} (h1 : SecEff a b C1 m1 e1)
    (h2 : SecEff b c C2 m2 e2) : SecEff a c (C1 ++ C2) (m1 ++ m2) (e1 ++ e2) :=
  ⟨h2.first, by rw [h2.comments, h1.comments, List.append_assoc], by rw [h2.styles, h1.styles, List.append_assoc],
    by rw [h2.events, h1.events, List.append_assoc]⟩

/-- the same effect seen from a state that agrees with `st0` in comments, styles and events -/
theorem of_eq {st st0 st' : St} {C : List Str} {ms : List Style} {es : List Event} (E : SecEff st0 st' C ms es)
    (hc : st0.info.comments = st.info.comments) (hs : st0.styles = st.styles) (he : st0.events = st.events) :
    SecEff st st' C ms es :=
  ⟨E.first, hc ▸ E.comments, hs ▸ E.styles, he ▸ E.events⟩

theorem comment {st st' : St} {c : Str} {C : List Str} {ms : List Style} {es : List Event}
    (E : SecEff { st with info := { st.info with comments := st.info.comments ++ [c] } } st' C ms es) :
    SecEff st st' (c :: C) ms es :=
  ⟨E.first, by rw [E.comments]; simp, E.styles, E.events⟩

theorem style {st st' : St} {m : Style} {C : List Str} {ms : List Style} {es : List Event}
    (E : SecEff { st with styles := st.styles ++ [m] } st' C ms es) : SecEff st st' C (m :: ms) es :=
  ⟨E.first, E.comments, by rw [E.styles]; simp, E.events⟩

theorem event {st st' : St} {e : Event} {C : List Str} {ms : List Style} {es : List Event}
    (E : SecEff { st with events := st.events ++ [e] } st' C ms es) : SecEff st st' C ms (e :: es) :=
  ⟨E.first, E.comments, E.styles, by rw [E.events]; simp⟩

end SecEff

end SSAR
end Astisub
