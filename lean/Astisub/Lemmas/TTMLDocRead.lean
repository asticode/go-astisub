import Astisub.Lemmas.TTMLDocBody
import Astisub.Lemmas.TTMLRead2Para
import Astisub.Lemmas.TTMLDocDecode

/-!
# Lemmas/TTMLDocRead — `TTML.read` on what `encoding/xml` delivers for a written document

First: the paragraph the writer produces is a paragraph of the read clause's grammar.  `ParaBody r its`
(`Lemmas/TTMLRead2Defs`) is where the write clause and the read clause meet: the re-tokenised children of a written
`<p>` are one `PItem.span a [text]` per run and one `PItem.br []` between two lines (`paraBody_body`), so what the
reader decodes from them is `TTMLR.decodeItems_para` on that paragraph (`decodeItems_pToks`).

Then the writer's time text under `UnmarshalText` (`timeExpr_formatTTML_int64`).  Then the document: `norm s` is the
cue list the reader returns for the document written from `s`; `rep s` is the (decidable) proviso.
-/

namespace Astisub
namespace TTMLDoc
open Go TTML List

section paragraph
open TTMLR (PItem ParaBody SpanBody BrBody itemM itemsM XAttr)

/-- the attributes of a written `span` as re-tokenised -/
def spanA (li : LItem) : List XAttr := (optAttr "style" li.style ++ outAttrs li.attrs).map rawAttr

def runP (li : LItem) : PItem := .span (spanA li) [li.text]

/-- the items of a written paragraph: its runs, one `br` between two lines -/
def itsOfLines : List Line → List PItem
  | [] => []
  | [l] => l.items.map runP
  | l :: l' :: ls => l.items.map runP ++ .br [] :: itsOfLines (l' :: ls)

theorem spanBody_text (t : Str) (h : Spec.TTML.hasNL t = false) :
    SpanBody ((if t.isEmpty then [] else [XTok.text t]) ++ [XTok.stop [] "span".toList]) [t] := by
  cases t with
  | nil => exact .stop _ _
  | cons c cs =>
    have := SpanBody.text (s := c :: cs) (seg := []) h (.stop [] "span".toList)
    simpa using this

theorem paraBody_spans (items : List LItem) (hnl : ∀ li ∈ items, Spec.TTML.hasNL li.text = false)
    {r : List XTok} {its : List PItem} (h : ParaBody r its) :
    ParaBody ((items.map spanOf).flatten.map rawTok ++ r) (items.map runP ++ its) := by
  induction items with
  | nil => exact h
  | cons li items ih =>
    have ih' := ih fun x hx => hnl x (mem_cons_of_mem _ hx)
    rw [map_cons, flatten_cons, map_append, rawTok_spanOf, spanX, append_assoc, cons_append, map_cons, cons_append]
    exact .span (spanBody_text li.text (hnl li mem_cons_self)) ih'

theorem paraBody_body (ls : List Line) (hnl : ∀ l ∈ ls, ∀ li ∈ l.items, Spec.TTML.hasNL li.text = false) :
    ParaBody ((bodyOf ls).map rawTok ++ [pStop]) (itsOfLines ls) := by
  induction ls with
  | nil => exact .stop [] "p".toList
  | cons l ls ih =>
    cases ls with
    | nil =>
      have := paraBody_spans l.items (hnl l mem_cons_self) (.stop [] "p".toList)
      simpa [bodyOf, spansW, itsOfLines, pStop] using this
    | cons l' ls =>
      have ih' := ih fun x hx => hnl x (mem_cons_of_mem _ hx)
      have hbr : ParaBody (XTok.start [] "br".toList [] :: [XTok.stop [] "br".toList] ++ (map rawTok (bodyOf (l' :: ls)) ++ [pStop]))
          (.br [] :: itsOfLines (l' :: ls)) := .br (.stop _ _) ih'
      have := paraBody_spans l.items (hnl l mem_cons_self) hbr
      rw [bodyOf, itsOfLines, map_append, map_append, append_assoc, append_assoc]
      exact this

theorem itemsM_append {a b : List PItem} {x y : List InItem} (ha : itemsM a = some x) (hb : itemsM b = some y) :
    itemsM (a ++ b) = some (x ++ y) := by
  induction a generalizing x with
  | nil => cases ha; exact hb
  | cons p a ih =>
    obtain ⟨i, is, h1, h2, rfl⟩ := TTMLR.itemsM_cons ha
    simp only [cons_append, itemsM, h1, ih h2]

theorem itemM_runP (li : LItem) (hok : attrsOk li.attrs = true) : itemM (runP li) = some (inItemOf li) := by
  simp only [runP, itemM, spanA, itemOfStart_written "span".toList li.style li.attrs hok, Option.map_some, Go.join, inItemOf]

theorem itemsM_runs (items : List LItem) (hok : ∀ li ∈ items, attrsOk li.attrs = true) :
    itemsM (items.map runP) = some (items.map inItemOf) := by
  induction items with
  | nil => rfl
  | cons li items ih =>
    simp only [map_cons, itemsM, itemM_runP li (hok li mem_cons_self), ih fun x hx => hok x (mem_cons_of_mem _ hx)]

theorem itemsM_lines (ls : List Line) (hok : ∀ l ∈ ls, ∀ li ∈ l.items, attrsOk li.attrs = true) :
    itemsM (itsOfLines ls) = some (itemsOf ls) := by
  induction ls with
  | nil => rfl
  | cons l ls ih =>
    cases ls with
    | nil => simpa [itsOfLines, itemsOf, C03.itemsOfLines] using itemsM_runs l.items (hok l mem_cons_self)
    | cons l' ls =>
      have ih' := ih fun x hx => hok x (mem_cons_of_mem _ hx)
      have hb : itemsM (.br [] :: itsOfLines (l' :: ls)) = some (C03.brItem :: itemsOf (l' :: ls)) := by
        simp only [itemsM, itemM, itemOfStart, Option.map_some, ih']; rfl
      have := itemsM_append (itemsM_runs l.items (hok l mem_cons_self)) hb
      simpa [itsOfLines, itemsOf, C03.itemsOfLines] using this

/-- the written paragraph is decoded into its runs and `br`s: `TTMLR.decodeItems_para` on `paraBody_body` -/
theorem decodeItems_pToks (ls : List Line) (hok : ∀ l ∈ ls, ∀ li ∈ l.items, attrsOk li.attrs = true)
    (hnl : ∀ l ∈ ls, ∀ li ∈ l.items, Spec.TTML.hasNL li.text = false) :
    decodeItems (pToks ls) true = .ok (itemsOf ls) := by
  rw [pToks, bodyW_eq]
  exact TTMLR.decodeItems_para [] "p".toList [] _ _ _ (by decide) (paraBody_body ls hnl) (itemsM_lines ls hok)

theorem hasNL_of_not_mem {s : Str} (h : '\n' ∉ s) : Spec.TTML.hasNL s = false :=
  Bool.eq_false_iff.mpr fun hh => h ((TTMLR.hasNL_iff s).mp hh)

/-- … for representable runs -/
theorem decodeItems_runs (styleIds : List Str) (ls : List Line) (h : ∀ l ∈ ls, ∀ li ∈ l.items, runOk styleIds li = true) :
    decodeItems (pToks ls) true = .ok (itemsOf ls) :=
  decodeItems_pToks ls (fun l hl li hli => (runOk_iff.mp (h l hl li hli)).attrs)
    (fun l hl li hli => hasNL_of_not_mem (runOk_iff.mp (h l hl li hli)).noNL)

end paragraph

section time
open Duration C16

/-- the instant `t` is printable by the TTML writer: `0 ≤ t < 100 h` (decidable) -/
def timeOk (t : Int) : Bool := decide (0 ≤ t) && decide (t < 360000000000000)

example : timeOk 359999999999999 = true := by decide
example : timeOk 3723004000001 = true := by decide

theorem timeOk_iff {t : Int} : timeOk t = true ↔ 0 ≤ t ∧ t < 360000000000000 := by
  simp [timeOk]

/-- truncation to the millisecond -/
def truncMs (t : Int) : Int := t - t % 1000000

/-- what `UnmarshalText` makes of the written text, for every non-negative `int64` instant (hours of any width): the
    truncated instant, no frames, no ticks -/
theorem timeExpr_formatTTML_int64 (t : Int) (h0 : 0 ≤ t) (h1 : t ≤ 9223372036854775807) :
    timeExpr (formatTTML t) = some { d := truncMs t } := by
  obtain ⟨n, rfl⟩ : ∃ n : Nat, t = (n : Int) := ⟨t.toNat, by omega⟩
  have bf : n % 1000000000 / 1000000 / 10 ^ (3 - 3) < 1000 := by simp; omega
  have e := C16.format_eq n '.' 3
  rw [padLeft0_3 bf] at e
  have hx := C16.hms_pad2 (n / 3600000000000) (by omega : n % 3600000000000 / 60000000000 < 100)
    (by omega : n % 60000000000 / 1000000000 < 100)
  unfold formatTTML
  rw [e, timeExpr_frac_parse hx (digitStr_ddd bf), ← padLeft0_3 bf, ← C16.format_eq,
    C16.parse_format3_int64 n '.' (.inl rfl) h0 h1]
  rfl

theorem duration_formatTTML (t : Int) (fr tr : Int) :
    duration { d := truncMs t } fr tr = truncMs t :=
  C03.duration_plain _ fr tr rfl rfl rfl rfl

theorem instant_formatTTML (t : Int) (h0 : 0 ≤ t) (h1 : t < 360000000000000) (fr tr : Int) :
    instant (formatTTML t) fr tr = some (truncMs t) :=
  C03.instant_plain fr tr (timeExpr_formatTTML_int64 t h0 (by omega))

theorem parseTimes_formatTTML (t : Int) (h0 : 0 ≤ t) (h1 : t < 360000000000000) :
    parseTimes [formatTTML t] = some (some { d := truncMs t }) := by
  simp [parseTimes, timeExpr_formatTTML_int64 t h0 (by omega)]

end time

/-- a style / region definition as read back: identifier and parent reference kept, attributes through
    `TTMLInStyleAttributes.styleAttributes()` -/
def normDef (d : Def) : Def := { id := d.id, ref := normRef d.ref, attrs := some (styleAttributes (inKV d.attrs)) }

/-- a cue as read back: instants truncated to the millisecond, no index, no comments -/
def normItem (it : CItem) : CItem :=
  { index := 0, startAt := truncMs it.startAt, endAt := truncMs it.endAt, style := normRef it.style,
    region := normRef it.region, attrs := some (styleAttributes (inKV it.attrs)), comments := [],
    lines := normLines it.lines }

/-- the metadata as read back: title, copyright and the language when it is one of the five the library knows -/
def normMeta (m : Attrs) : Attrs :=
  some (mkAttrs [("Framerate", none), ("Language", languageOf (langIn m)),
                 ("TTMLCopyright", optStr ((kvGet m "TTMLCopyright").getD [])), ("Title", optStr ((kvGet m "Title").getD []))])

/-- **the cue list `ReadFromTTML` returns for the document `WriteToTTML` wrote from `s`** -/
def norm (s : Subs) : Subs :=
  { items := s.items.map normItem, regions := (sortDefs s.regions).map normDef,
    styles := (sortDefs s.styles).map normDef, metadata := normMeta s.metadata }

/-- representable definition: `zIndex` an integer, the parent reference empty or a defined style -/
def defOk (styleIds : List Str) (d : Def) : Bool := attrsOk d.attrs && refOk styleIds d.ref

/-- the clauses of `defOk` -/
structure DefOk (styleIds : List Str) (d : Def) : Prop where
  attrs : attrsOk d.attrs = true
  ref : refOk styleIds d.ref = true

theorem defOk_iff {styleIds : List Str} {d : Def} : defOk styleIds d = true ↔ DefOk styleIds d := by
  simp only [defOk, Bool.and_eq_true]
  exact ⟨fun ⟨a, b⟩ => ⟨a, b⟩, fun h => ⟨h.attrs, h.ref⟩⟩

/-- representable cue: instants in `[0, 100 h)`, `zIndex` an integer, style / region references empty or
    defined, every run representable (`runOk`: no line feed in the text) -/
def cueOk (styleIds regionIds : List Str) (it : CItem) : Bool :=
  timeOk it.startAt && timeOk it.endAt && attrsOk it.attrs && refOk styleIds it.style && refOk regionIds it.region &&
  it.lines.all fun l => l.items.all (runOk styleIds)

/-- the clauses of `cueOk` -/
structure CueOk (styleIds regionIds : List Str) (it : CItem) : Prop where
  start : 0 ≤ it.startAt ∧ it.startAt < 360000000000000
  stop : 0 ≤ it.endAt ∧ it.endAt < 360000000000000
  attrs : attrsOk it.attrs = true
  style : refOk styleIds it.style = true
  region : refOk regionIds it.region = true
  runs : ∀ l ∈ it.lines, ∀ li ∈ l.items, runOk styleIds li = true

theorem cueOk_iff {styleIds regionIds : List Str} {it : CItem} :
    cueOk styleIds regionIds it = true ↔ CueOk styleIds regionIds it := by
  simp only [cueOk, Bool.and_eq_true, all_eq_true, timeOk_iff]
  exact ⟨fun ⟨⟨⟨⟨⟨a, b⟩, c⟩, d⟩, e⟩, f⟩ => ⟨a, b, c, d, e, f⟩,
    fun h => ⟨⟨⟨⟨⟨h.start, h.stop⟩, h.attrs⟩, h.style⟩, h.region⟩, h.runs⟩⟩

/-- **representable cue list** (decidable): at least one cue; style and region identifiers pairwise
    distinct (they are map keys in Go); every definition and every cue representable -/
def rep (s : Subs) : Bool :=
  !s.items.isEmpty && decide (s.styles.map Def.id).Nodup && decide (s.regions.map Def.id).Nodup &&
  s.styles.all (defOk (s.styles.map Def.id)) && s.regions.all (defOk (s.styles.map Def.id)) &&
  s.items.all (cueOk (s.styles.map Def.id) (s.regions.map Def.id))

/-- the clauses of `rep` -/
structure Rep (s : Subs) : Prop where
  nonempty : s.items.isEmpty = false
  stylesNodup : (s.styles.map Def.id).Nodup
  regionsNodup : (s.regions.map Def.id).Nodup
  styles : ∀ d ∈ s.styles, defOk (s.styles.map Def.id) d = true
  regions : ∀ d ∈ s.regions, defOk (s.styles.map Def.id) d = true
  cues : ∀ it ∈ s.items, cueOk (s.styles.map Def.id) (s.regions.map Def.id) it = true

theorem rep_iff {s : Subs} : rep s = true ↔ Rep s := by
  simp only [rep, Bool.and_eq_true, all_eq_true, decide_eq_true_eq, Bool.not_eq_true']
  exact ⟨fun ⟨⟨⟨⟨⟨a, b⟩, c⟩, d⟩, e⟩, f⟩ => ⟨a, b, c, d, e, f⟩,
    fun h => ⟨⟨⟨⟨⟨h.nonempty, h.stylesNodup⟩, h.regionsNodup⟩, h.styles⟩, h.regions⟩, h.cues⟩⟩

/-- the contract of `Lemmas/TTMLDocXml` speaks about XML-legal character data only (`Encoder.EscapeText`
    replaces every other character by U+FFFD): all texts, identifiers, references, attribute values, title
    and copyright are XML-legal.  No proof uses this; it delimits where the contract is claimed. -/
def xmlCarries (s : Subs) : Bool :=
  let okS (x : Str) : Bool := x.all xmlLegal
  let okR (r : Option Str) : Bool := match r with | some x => okS x | none => true
  let okA (a : Attrs) : Bool := (outAttrs a).all fun kv => okS kv.2
  okS (titleOf s) && okS (copyrightOf s) &&
  s.styles.all (fun d => okS d.id && okR d.ref && okA d.attrs) &&
  s.regions.all (fun d => okS d.id && okR d.ref && okA d.attrs) &&
  s.items.all fun it => okR it.style && okR it.region && okA it.attrs &&
    it.lines.all fun l => l.items.all fun li => okS li.text && okR li.style && okA li.attrs

/-- a non-trivial representable value: two styles (one with a parent and a `zIndex`), a region, a cue with a
    style, a region, an inline attribute, three lines (the second one empty), an empty run, white space, metadata -/
def sample : Subs :=
  { items := [{ startAt := 1500000001, endAt := 359999999999999, style := some "b".toList, region := some "r".toList, attrs := some [("TTMLOrigin".toList, "10% 20%".toList)], lines := [{ items := [{ text := "x".toList, style := some "a".toList }, { text := [], attrs := some [("TTMLColor".toList, "blue".toList)] }] }, { items := [] }, { items := [{ text := " y ".toList }] }] }, { startAt := 0, endAt := 1, lines := [] }],
    styles := [{ id := "b".toList, ref := some "a".toList }, { id := "a".toList, attrs := some [("TTMLColor".toList, "red".toList), ("TTMLZIndex".toList, " +7".toList)] }],
    regions := [{ id := "r".toList, ref := some "a".toList }],
    metadata := some [("Language".toList, "french".toList), ("Title".toList, "T".toList)] }

example : rep sample = true := by unfold sample; decide_vector
example : xmlCarries sample = true := by decide +kernel

theorem refOk_iff {ids : List Str} {r : Option Str} : refOk ids r = true ↔ ∀ v, normRef r = some v → v ∈ ids := by
  unfold refOk
  cases normRef r with
  | none => simp
  | some v => simp

theorem refOk_perm {ids ids' : List Str} (h : ids.Perm ids') : refOk ids = refOk ids' := by
  funext r
  unfold refOk
  cases normRef r with
  | none => rfl
  | some v => exact h.contains_eq

theorem runOk_perm {ids ids' : List Str} (h : ids.Perm ids') : runOk ids = runOk ids' := by
  funext li; unfold runOk; rw [refOk_perm h]

/-- the reader's test "reference set and not defined" fails -/
theorem ref_check {ids : List Str} {r : Option Str} (h : refOk ids r = true) :
    ¬ ((normRef r).getD [] ≠ [] ∧ (!ids.contains ((normRef r).getD [])) = true) := by
  rw [refOk_iff] at h
  cases hr : normRef r with
  | none => simp
  | some v =>
    have := h v hr
    simp [this]

theorem sortDefs_perm (l : List Def) : (sortDefs l).Perm l := mergeSort_perm l _

theorem sortDefs_ids_perm (l : List Def) : ((sortDefs l).map (·.id)).Perm (l.map (·.id)) :=
  (sortDefs_perm l).map _

/-- the `Def` the reader makes of a decoded `TTMLInStyle` / `TTMLInRegion` -/
def defOfIn (s : InDef) : Def :=
  { id := s.id, ref := if s.style ≠ [] then some s.style else none, attrs := some (styleAttributes s.attrs) }

theorem normRef_some_ne {r : Option Str} {v : Str} (h : normRef r = some v) : v ≠ [] := by
  cases r with
  | none => simp [normRef] at h
  | some x =>
    by_cases hx : x = []
    · simp [normRef, hx] at h
    · simp [normRef, hx] at h; exact h ▸ hx

theorem defOfIn_inDef (d : Def) : defOfIn (inDef d) = normDef d := by
  cases h : normRef d.ref with
  | none => simp [defOfIn, inDef, normDef, h]
  | some v => simp [defOfIn, inDef, normDef, h, normRef_some_ne h]

theorem ids_inDef (l : List Def) : (l.map inDef).map (·.id) = l.map (·.id) := by
  rw [map_map]; rfl

theorem ids_normDef (l : List Def) : (l.map normDef).map (·.id) = l.map (·.id) := by
  rw [map_map]; rfl

theorem lastWins_written (l : List Def) (hnd : (l.map (·.id)).Nodup) :
    lastWins (((sortDefs l).map inDef).map defOfIn) = (sortDefs l).map normDef := by
  have e : ((sortDefs l).map inDef).map defOfIn = (sortDefs l).map normDef := by
    rw [map_map]
    apply map_congr_left
    intro d _
    exact defOfIn_inDef d
  rw [e]
  apply C03.lastWins_nodup
  rw [ids_normDef]
  exact (sortDefs_ids_perm l).nodup_iff.mpr hnd

theorem parents_ok (ids : List Str) (l : List Def) (h : ∀ d ∈ l, refOk ids d.ref = true) :
    (l.map inDef).any (fun s => s.style ≠ [] ∧ !ids.contains s.style) = false := by
  rw [any_eq_false]
  intro x hx
  obtain ⟨d, hd, rfl⟩ := mem_map.mp hx
  have := ref_check (h d hd)
  simpa [inDef] using this

theorem mapMRes_map {α β γ : Type} (f : β → Res γ) (g : α → β) (k : α → γ) (l : List α)
    (h : ∀ a ∈ l, f (g a) = .ok (k a)) : mapMRes f (l.map g) = .ok (l.map k) := by
  induction l with
  | nil => rfl
  | cons a l ih =>
    rw [map_cons, mapMRes, h a (by simp), ih (fun x hx => h x (by simp [hx]))]
    rfl

theorem readSub_inSub (ix : List XTok → Str) (t : TIn) (styleIds regionIds : List Str) (it : CItem)
    (hok : cueOk styleIds regionIds it = true) :
    readSub t styleIds regionIds (inSub ix it) = .ok (normItem it) := by
  have hc := cueOk_iff.mp hok
  have hitems := decodeItems_runs styleIds it.lines hc.runs
  have hlines := linesLoop_itemsOf styleIds it.lines hc.runs
  have hb := parseTimes_formatTTML _ hc.start.1 hc.start.2
  have hen := parseTimes_formatTTML _ hc.stop.1 hc.stop.2
  unfold readSub
  simp only [inSub, inSub0, hb, hen, if_neg (ref_check hc.region), if_neg (ref_check hc.style), if_neg (not_not_intro rfl), hitems,
    hlines, duration_formatTTML]
  unfold normItem
  congr 2 <;> exact normRef_getD _

/-- **The reader on the written document.**  On the `TTMLIn` value the contract delivers for the document written from a
    representable `s` (whatever the inner XML bytes `ix` are) `ReadFromTTML` answers `norm s`: no parent or style check
    fails, `lastWins` keeps every definition, every cue is read back by `readSub_inSub`. -/
theorem read_tinOfSubs (ix : List XTok → Str) (s : Subs) (h : rep s = true) :
    read (some (tinOfSubs ix s)) = .ok (norm s) := by
  have h := rep_iff.mp h
  have hsp := sortDefs_ids_perm s.styles
  have hrp := sortDefs_ids_perm s.regions
  -- the identifiers the reader collects
  have e1 : ((sortDefs s.styles).map inDef).map (·.id) = (sortDefs s.styles).map (·.id) := ids_inDef _
  have e2 : ((sortDefs s.regions).map inDef).map (·.id) = (sortDefs s.regions).map (·.id) := ids_inDef _
  have es := refOk_perm hsp
  have er := refOk_perm hrp
  have p1 := parents_ok ((sortDefs s.styles).map (·.id)) (sortDefs s.styles) (fun d hd =>
    es ▸ (defOk_iff.mp (h.styles d (mem_sortDefs.mp hd))).ref)
  have p2 := parents_ok ((sortDefs s.styles).map (·.id)) (sortDefs s.regions) (fun d hd =>
    es ▸ (defOk_iff.mp (h.regions d (mem_sortDefs.mp hd))).ref)
  have l1 := lastWins_written s.styles h.stylesNodup
  have l2 := lastWins_written s.regions h.regionsNodup
  have hsubs := mapMRes_map (readSub (tinOfSubs ix s) ((sortDefs s.styles).map (·.id)) ((sortDefs s.regions).map (·.id)))
    (inSub ix) normItem s.items (fun it hi => readSub_inSub ix _ _ _ it (by
      have := h.cues it hi
      simp only [cueOk] at this ⊢
      rw [es, er, runOk_perm hsp]
      exact this))
  have hmeta : metadataOf (tinOfSubs ix s) = normMeta s.metadata := by
    simp [metadataOf, normMeta, tinOfSubs, titleOf, copyrightOf]
  unfold TTML.read
  simp only [tinOfSubs] at hsubs hmeta ⊢
  simp only [e1, e2, map_map] at p1 p2 l1 l2 hsubs ⊢
  simp only [defOfIn, Function.comp_def] at l1 l2
  simp only [Function.comp_def, p1, p2, Bool.false_eq_true, ↓reduceIte, l1, l2, hsubs, hmeta, norm]

end TTMLDoc
end Astisub
