import Astisub.Lemmas.TTMLRead2XAttr
import Astisub.Lemmas.TTMLStyleAttrParts
import Astisub.Lemmas.TTMLDocAttrs

/-!
# Lemmas/TTMLRead2SAttr — the reader's attribute conversion, its view, the metadata look-ups

`styleAttributes` and `metadataOf` both end in `mkAttrs` of a list with pairwise distinct keys, so an entry of the
result is the value listed for its key (`SRT.kvGet_mkAttrs_of_mem`).  The check's view `ttmlAttrsOf` of any attribute
list is its `TTML<Field>` entries by attribute name (`ttmlAttrsOf_eq`); of the converted attributes, the fields themselves.
-/

namespace Astisub
namespace TTMLR
open Go TTML

/-- the first block of `Tot.TTML.styleAttributes_eq`: every field under its `TTML…` key -/
def saTtml (a : KV) : List (String × Option Str) := attrTable.map fun p => ("TTML" ++ p.1, get a p.1)

def webKeys : List String :=
  ["WebVTTAlign"] ++ ["WebVTTWidth", "WebVTTLines", "WebVTTSize"] ++
    (["WebVTTRegionAnchor", "WebVTTViewportAnchor", "WebVTTScroll"] ++ ["WebVTTLine", "WebVTTPosition"])

theorem webKeys_nodup : webKeys.Nodup := by decide +kernel

theorem webKeys_head : ∀ k ∈ webKeys, k.toList.head? = some 'W' := by
  simp only [webKeys, List.cons_append, List.nil_append, List.forall_mem_cons, List.not_mem_nil, false_imp_iff,
    implies_true, and_true]
  decide_vector

theorem alOf_keys (t : Option Str) : ((Tot.TTML.alOf t).map (·.1)).Sublist ["WebVTTAlign"] := by
  cases t with
  | none => exact List.nil_sublist _
  | some t => exact List.Sublist.refl _

theorem extOf_keys (tb : Bool) (e : Option Str) :
    ((Tot.TTML.extOf tb e).map (·.1)).Sublist ["WebVTTWidth", "WebVTTLines", "WebVTTSize"] := by
  unfold Tot.TTML.extOf
  cases e with
  | none => exact List.nil_sublist _
  | some e =>
    simp only
    split
    · exact List.Sublist.refl _
    · exact List.nil_sublist _

theorem orgOf_keys (tb : Bool) (o : Option Str) :
    ((Tot.TTML.orgOf tb o).map (·.1)).Sublist
      (["WebVTTRegionAnchor", "WebVTTViewportAnchor", "WebVTTScroll"] ++ ["WebVTTLine", "WebVTTPosition"]) := by
  unfold Tot.TTML.orgOf
  cases o with
  | none => exact List.nil_sublist _
  | some o =>
    simp only
    rw [List.map_append]
    apply List.Sublist.append (List.Sublist.refl _)
    split
    · exact List.Sublist.refl _
    · exact List.nil_sublist _

theorem saWeb_keys (t ex o : Option Str) (tb : Bool) :
    ((Tot.TTML.alOf t ++ Tot.TTML.extOf tb ex ++ Tot.TTML.orgOf tb o).map (·.1)).Sublist webKeys := by
  rw [List.map_append, List.map_append]
  exact ((alOf_keys t).append (extOf_keys tb ex)).append (orgOf_keys tb o)

theorem ttml_head (f : String) : ("TTML" ++ f).toList.head? = some 'T' := by
  rw [String.toList_append]
  rfl

theorem ttml_append_inj {f g : String} (h : "TTML" ++ f = "TTML" ++ g) : f = g := by
  have h' := congrArg String.toList h
  rw [String.toList_append, String.toList_append] at h'
  exact String.toList_injective (List.append_cancel_left h')

theorem saTtml_pairwise (a : KV) : (saTtml a).Pairwise (fun x y => x.1 ≠ y.1) := by
  unfold saTtml
  rw [List.pairwise_map]
  exact (List.pairwise_map.mp TTMLDoc.fields_nodup).imp fun hne e => hne (congrArg String.toList (ttml_append_inj e))

theorem saList_pairwise (a : KV) (t ex o : Option Str) (tb : Bool) :
    (saTtml a ++ Tot.TTML.alOf t ++ Tot.TTML.extOf tb ex ++ Tot.TTML.orgOf tb o).Pairwise (fun x y => x.1 ≠ y.1) := by
  rw [List.append_assoc, List.append_assoc, ← List.append_assoc (Tot.TTML.alOf t)]
  rw [List.pairwise_append]
  refine ⟨saTtml_pairwise a, ?_, ?_⟩
  · exact List.pairwise_keys_iff_nodup.mpr ((saWeb_keys t ex o tb).nodup webKeys_nodup)
  · intro x hx y hy e
    unfold saTtml at hx
    obtain ⟨p, _, rfl⟩ := List.mem_map.mp hx
    have hy' : y.1 ∈ webKeys := (saWeb_keys t ex o tb).subset (List.mem_map_of_mem (f := (·.1)) hy)
    have h1 := webKeys_head _ hy'
    rw [← e, ttml_head] at h1
    exact absurd h1 (by decide)

/-- the entry `"TTML" ++ Field` of `styleAttributes kv` is the field of `kv` (= `C03doc.styleAttributes_field_Statement`) -/
theorem styleAttributes_field (kv : KV) (p : String × String) (hp : p ∈ attrTable) :
    kvGet (some (styleAttributes kv)) ("TTML" ++ p.1) = TTML.get kv p.1 := by
  rw [Tot.TTML.styleAttributes_eq]
  apply SRT.kvGet_mkAttrs_of_mem (saList_pairwise kv _ _ _ _)
  rw [List.append_assoc, List.append_assoc]
  apply List.mem_append_left
  unfold saTtml
  exact List.mem_map.mpr ⟨p, hp, rfl⟩

/-- a field of `TTMLInStyleAttributes` is named as its attribute with a capital initial -/
theorem capital_row : ∀ p ∈ attrTable,
    String.ofList (match p.2.toList with | c :: r => c.toUpper :: r | [] => []) = p.1 := by
  have h : (TTMLDoc.rowNames.map fun r => String.ofList (match r with | c :: r => c.toUpper :: r | [] => []))
      = attrTable.map (·.1) := by decide +kernel
  rw [← TTMLDoc.rowNames_eq, List.map_map] at h
  exact List.map_inj_left.mp h

theorem ttmlAttrsOf_eq (a : Attrs) :
    Driver.TTMLD.ttmlAttrsOf a = attrTable.filterMap fun p => (kvGet a ("TTML" ++ p.1)).map fun v => (p.2.toList, v) := by
  unfold Driver.TTMLD.ttmlAttrsOf
  rw [stylingNames_eq, List.filterMap_map]
  apply List.filterMap_congr_mem
  intro p hp
  have e : ("TTML" ++ String.ofList (match p.2.toList with | c :: r => c.toUpper :: r | [] => [])) = "TTML" ++ p.1 :=
    congrArg (fun x => "TTML" ++ x) (capital_row p hp)
  exact congrArg (fun k => Option.map (fun v => (p.2.toList, v)) (kvGet a k)) e

theorem view_styleAttributes (kv : KV) :
    Driver.TTMLD.ttmlAttrsOf (some (styleAttributes kv)) =
      attrTable.filterMap (fun p => (TTML.get kv p.1).map fun v => (p.2.toList, v)) := by
  rw [ttmlAttrsOf_eq]
  exact List.filterMap_congr_mem fun p hp => by rw [styleAttributes_field kv p hp]

theorem view_styleAttributes_nil : Driver.TTMLD.ttmlAttrsOf (some (styleAttributes [])) = [] := by
  rw [view_styleAttributes]
  apply List.filterMap_eq_nil_iff.mpr
  intro p _
  rfl

theorem view_get_congr (kv kv' : KV) (h : ∀ p ∈ attrTable, TTML.get kv p.1 = TTML.get kv' p.1) :
    Driver.TTMLD.ttmlAttrsOf (some (styleAttributes kv)) = Driver.TTMLD.ttmlAttrsOf (some (styleAttributes kv')) := by
  rw [view_styleAttributes, view_styleAttributes]
  apply List.filterMap_congr_mem
  intro p hp
  rw [h p hp]

def metaList (t : TIn) : List (String × Option Str) :=
  [("Framerate", if t.framerate = 0 then none else some (itoa t.framerate)),
   ("Language", languageOf t.lang), ("TTMLCopyright", optStr t.copyright), ("Title", optStr t.title)]

theorem metadataOf_eq (t : TIn) : metadataOf t = some (mkAttrs (metaList t)) := rfl

theorem metaList_pairwise (t : TIn) : (metaList t).Pairwise (fun x y => x.1 ≠ y.1) := by
  apply List.pairwise_keys_iff_nodup.mpr
  have : (metaList t).map (·.1) = ["Framerate", "Language", "TTMLCopyright", "Title"] := rfl
  rw [this]
  decide

theorem metadata_title (t : TIn) : (kvGet (metadataOf t) "Title").getD [] = t.title := by
  rw [metadataOf_eq, TTML.kvGet_eq, SRT.kvGet_mkAttrs_of_mem (metaList_pairwise t) (o := optStr t.title) (by simp [metaList]),
    optStr_getD]

theorem metadata_copyright (t : TIn) : (kvGet (metadataOf t) "TTMLCopyright").getD [] = t.copyright := by
  rw [metadataOf_eq, TTML.kvGet_eq,
    SRT.kvGet_mkAttrs_of_mem (metaList_pairwise t) (o := optStr t.copyright) (by simp [metaList]), optStr_getD]

theorem metadata_language (t : TIn) : kvGet (metadataOf t) "Language" = languageOf t.lang := by
  rw [metadataOf_eq]
  exact SRT.kvGet_mkAttrs_of_mem (metaList_pairwise t) (by simp [metaList])

theorem takeWhile_two {p : Char → Bool} {lang : Str} {a b : Char}
    (h : lang.takeWhile p = [a, b]) : ∃ rest, lang = a :: b :: rest := by
  cases lang with
  | nil => simp at h
  | cons x r =>
    rw [List.takeWhile_cons] at h
    split at h
    · cases r with
      | nil => simp at h
      | cons y r' =>
        rw [List.takeWhile_cons] at h
        split at h
        · simp only [List.cons.injEq] at h
          exact ⟨r', by rw [h.1, h.2.1]⟩
        · simp at h
    · simp at h

theorem languageOf_cons2 (a b : Char) (rest : Str) : languageOf (a :: b :: rest) = languages.lookup [a, b] := rfl

theorem languageTable_row : ∀ r ∈ Spec.TTML.languageTable,
    r.1.toList.length = 2 ∧ languages.lookup r.1.toList = some r.2.toList := by decide +kernel

theorem language_view (lang : Str) (n : Str) (h : Spec.TTML.languageName lang = some n) :
    TTML.languageOf lang = some n := by
  obtain ⟨⟨c, nm⟩, hr, hc⟩ := List.exists_of_findSome?_eq_some h
  obtain ⟨hlen, hlook⟩ := languageTable_row _ hr
  replace hc : (if lang.takeWhile (· != '-') = c.toList then some nm.toList else none) = some n := hc
  split at hc
  · rename_i hp
    cases hc
    match hcl : c.toList, hlen with
    | [a, b], _ =>
      obtain ⟨rest, rfl⟩ := takeWhile_two (hp.trans hcl)
      rw [languageOf_cons2, ← hcl]
      exact hlook
  · cases hc

end TTMLR
end Astisub
