import Astisub.Lemmas.VTTRead2Defs
import Astisub.Lemmas.ClockSpec
import Astisub.Lemmas.VTTTiming

/-!
# Lemmas/VTTRead2Time — the specification's time syntax is read by the model's `parseDuration`

`Spec.VTT.timeMs s = some ms → Duration.parseVTT s = some (ms * 10⁶)` and the timestamp-map line.  The clock part the
decoder accepts is a clock text of `Lemmas/Clock` (`timeMs_fields`), so the model's answer is `Ovf.parse_clock(_frac)`;
conversely the decoder accepts every clock text with bounded fields that has a `.` fraction of one to three digits
(`timeMs_of_clock_frac`; only this direction with a fraction is proved: it is what the writer prints).
-/

namespace Astisub
namespace VTTRead
open Go List Spec.VTT Clock

/-! The decoder's digit test and number reader are the shared ones (`Spec.VTT.isDigit_eq`,
`Spec.VTT.natOf_eq`); these are the forms the proofs below use. -/

theorem isDigit_isDig {c : Char} (h : isDigit c = true) : Go.isDig c = true := h

theorem natOf_digits {t : Str} {n : Nat} (h : natOf t = some n) : ∀ c ∈ t, isDigit c = true :=
  (Spec.SRT.natOf_eq_some_iff.mp h).2.1.isDigC

/-- `timeMs` once the fraction is cut off: `f` its milliseconds, `x` the clock part -/
def timeOf (f : Option Nat) (x : Str) : Option Nat :=
  match f, (splitC ':' x).map natOf with
  | some f, [some h, some m, some sec] =>
    if m < 60 && sec < 60 && h < 1000000 then some (((h * 60 + m) * 60 + sec) * 1000 + f) else none
  | some f, [some m, some sec] =>
    if m < 60 && sec < 60 then some ((m * 60 + sec) * 1000 + f) else none
  | _, _ => none

theorem timeMs_eq (s : Str) : timeMs s =
    match splitC '.' (trimSpace s) with
    | [x, y] => timeOf (if y.length > 3 then none else (natOf y).map (· * 10 ^ (3 - y.length))) x
    | _ => timeOf (some 0) (trimSpace s) := by
  unfold timeMs
  dsimp only
  generalize trimSpace s = T
  rcases splitC '.' T with _ | ⟨a, _ | ⟨b, _ | ⟨c, l⟩⟩⟩ <;> rfl

theorem timeOf_fields {fo : Option Nat} {x : Str} {ms : Nat} (h : timeOf fo x = some ms) :
    ∃ H M S f, HMS x H M S ∧ M < 60 ∧ S < 60 ∧ H < 1000000 ∧ fo = some f ∧ ms = ((H * 60 + M) * 60 + S) * 1000 + f := by
  unfold timeOf at h
  split at h
  · rename_i f hh m sec hs
    split at h
    · rename_i hc
      simp only [Bool.and_eq_true, decide_eq_true_eq] at hc
      exact ⟨hh, m, sec, f, .of_map3 hs, hc.1.1, hc.1.2, hc.2, rfl, (Option.some.inj h).symm⟩
    · cases h
  · rename_i f m sec hs
    split at h
    · rename_i hc
      simp only [Bool.and_eq_true, decide_eq_true_eq] at hc
      exact ⟨0, m, sec, f, .of_map2 hs, hc.1, hc.2, by decide, rfl, by rw [← Option.some.inj h]; omega⟩
    · cases h
  · cases h

theorem timeMs_fields {s : Str} {ms : Nat} (h : timeMs s = some ms) :
    ∃ x H M S f, HMS x H M S ∧ M < 60 ∧ S < 60 ∧ H < 1000000 ∧ ms = ((H * 60 + M) * 60 + S) * 1000 + f ∧
      ((∃ y F, trimSpace s = x ++ '.' :: y ∧ y.length ≤ 3 ∧ Numeral y F ∧ f = F * 10 ^ (3 - y.length)) ∨
        (trimSpace s = x ∧ f = 0)) := by
  rw [timeMs_eq] at h
  split at h
  · rename_i x y hsp
    obtain ⟨H, M, S, f, hx, bM, bS, bH, hf, rfl⟩ := timeOf_fields h
    refine ⟨x, H, M, S, f, hx, bM, bS, bH, rfl, .inl ?_⟩
    split at hf
    · cases hf
    · rename_i hl
      obtain ⟨F, hy, e⟩ := Option.map_eq_some_iff.mp hf
      exact ⟨y, F, (splitC_two hsp).1, by omega, Spec.SRT.natOf_iff_numeral.mp hy, e.symm⟩
  · obtain ⟨H, M, S, f, hx, bM, bS, bH, hf, rfl⟩ := timeOf_fields h
    exact ⟨_, H, M, S, f, hx, bM, bS, bH, rfl, .inr ⟨rfl, (Option.some.inj hf).symm⟩⟩

theorem small_int64 {n : Nat} (h : n < 1000000) : n ≤ int64Max := by
  unfold int64Max; omega

theorem natOf_not_mem {y : Str} {n : Nat} (h : natOf y = some n) {x : Char} (hx : isDigit x = false) : x ∉ y :=
  fun hm => VTT.isDig_ne (natOf_digits h x hm) x hx rfl

theorem parseVTT_of_timeMs (s : Str) (ms : Nat) (h : Spec.VTT.timeMs s = some ms) :
    Duration.parseVTT s = some ((ms : Int) * 1000000) := by
  obtain ⟨a, b, hs, ha, hb⟩ := trimSpace_decomp s
  obtain ⟨x, H, M, S, f, hX, bM, bS, bH, rfl, hcase⟩ := timeMs_fields h
  have hsum : ∀ X : Nat, (X : Int) * Duration.nsPerMs + (S : Int) * Duration.nsPerS + (M : Int) * Duration.nsPerMin
      + (H : Int) * Duration.nsPerH = ((((H * 60 + M) * 60 + S) * 1000 + X : Nat) : Int) * 1000000 := by
    intro X
    unfold Duration.nsPerMs Duration.nsPerS Duration.nsPerMin Duration.nsPerH
    omega
  unfold Duration.parseVTT
  rcases hcase with ⟨y, F, ht, hl, hy, rfl⟩ | ⟨ht, rfl⟩
  · rw [ht, show a ++ (x ++ '.' :: y) ++ b = a ++ x ++ '.' :: (y ++ b) by simp] at hs
    rw [hs, Ovf.parse_clock_frac (.inl rfl) hX (small_int64 bH) (small_int64 (by omega)) (small_int64 (by omega))
      hy hl ha hb 3, ← hsum]
    push_cast
    rfl
  · rw [ht] at hs
    rw [hs, Ovf.parse_clock (.inl rfl) hX (small_int64 bH) (small_int64 (by omega)) (small_int64 (by omega)) ha hb 3,
      ← hsum 0]
    simp

theorem timeMs_of_clock_frac {s x f : Str} {H M S F : Nat} (hx : HMS x H M S) (hM : M < 60) (hS : S < 60)
    (hH : H < 1000000) (hf : Numeral f F) (hl : f.length ≤ 3) (ht : trimSpace s = x ++ '.' :: f) :
    timeMs s = some (((H * 60 + M) * 60 + S) * 1000 + F * 10 ^ (3 - f.length)) := by
  have hb : (decide (M < 60) && decide (S < 60)) = true := by simp [hM, hS]
  rw [timeMs_eq, ht, splitC_two_mk (hx.not_mem_sep (.inl rfl)) (hf.digitStr.not_mem (by decide))]
  simp only [timeOf, if_neg (by omega : ¬ f.length > 3), Spec.VTT.natOf_eq, hf.natOf, Option.map_some]
  rcases hx.map_natOf with e | ⟨rfl, e⟩
  · simp only [e, hb, hH, decide_true, Bool.and_self, if_true]
  · simp only [e, hb, if_true]
    simp

example : Spec.VTT.timeMs "01:02:03.5".toList = some 3723500 := by decide_vector

theorem timeMs_head_digit (s : Str) (ms : Nat) (h : Spec.VTT.timeMs s = some ms) :
    ∃ c r, trimSpace s = c :: r ∧ Spec.VTT.isDigit c = true := by
  obtain ⟨x, _, _, _, _, hX, _, _, _, _, hcase⟩ := timeMs_fields h
  obtain ⟨k, r, hk, rfl⟩ := hX.head
  rcases hcase with ⟨y, _, ht, _⟩ | ⟨ht, _⟩
  · exact ⟨_, r ++ '.' :: y, ht, isDigC_digitChar hk⟩
  · exact ⟨_, r, ht, isDigC_digitChar hk⟩

theorem clockChar_val {c : Char} (h : ClockChar c) : isDigit c = true ∨ c = ':' :=
  h.elim (fun ⟨_, hk, e⟩ => .inl (e ▸ isDigC_digitChar hk)) .inr

theorem timeMs_chars {s : Str} {ms : Nat} (h : timeMs s = some ms) :
    ∀ c ∈ s, isSpace c = true ∨ isDigit c = true ∨ c = ':' ∨ c = '.' := by
  obtain ⟨a, b, hs, ha, hb⟩ := trimSpace_decomp s
  obtain ⟨x, _, _, _, _, hX, _, _, _, _, hcase⟩ := timeMs_fields h
  have hxc : ∀ c ∈ x, isDigit c = true ∨ c = ':' ∨ c = '.' :=
    fun c hc => (clockChar_val (hX.chars c hc)).elim .inl (.inr ∘ .inl)
  intro c hc
  rw [hs] at hc
  simp only [mem_append] at hc
  rcases hc with (hc | hc) | hc
  · exact Or.inl (ha c hc)
  · rcases hcase with ⟨y, _, ht, _, hy, _⟩ | ⟨ht, _⟩
    · rw [ht] at hc
      simp only [mem_append, mem_cons] at hc
      rcases hc with hc | hc | hc
      · exact Or.inr (hxc c hc)
      · exact Or.inr (Or.inr (Or.inr hc))
      · obtain ⟨k, hk, rfl⟩ := hy.digitStr c hc
        exact Or.inr (Or.inl (isDigC_digitChar hk))
    · exact Or.inr (hxc c (ht ▸ hc))
  · exact Or.inl (hb c hc)

/-- one `key:value` part as the specification reads it -/
def kvSpec (p : Str) : Option (Str × Str) :=
  match splitOnce [':'] p with
  | [k, v] => some (toLowerAscii (trimSpace k), v)
  | _ => none

theorem kvSpec_inv {p k v : Str} (h : kvSpec p = some (k, v)) :
    ∃ k', splitOnce [':'] p = [k', v] ∧ toLowerAscii (trimSpace k') = k := by
  unfold kvSpec at h
  split at h
  · rename_i k' v' hs
    simp only [Option.some.injEq, Prod.mk.injEq] at h
    exact ⟨k', by rw [hs, h.2], h.1⟩
  · cases h

def tsPrefix : Str := "X-TIMESTAMP-MAP=".toList

def tsVal (loc ts : Str) : Option (Int × Int) :=
  match timeMs loc, natOf ts with
  | some l, some m => if m < 2 ^ 62 then some ((l : Int) * 1000000, (m : Int)) else none
  | _, _ => none

theorem tsVal_inv {loc ts : Str} {m : Int × Int} (h : tsVal loc ts = some m) :
    ∃ lms mv : Nat, timeMs loc = some lms ∧ natOf ts = some mv ∧ mv < 2 ^ 62 ∧ m = ((lms : Int) * 1000000, (mv : Int)) := by
  unfold tsVal at h
  split at h
  · rename_i lms mv h1 h2
    split at h
    · rename_i hb
      injection h with h
      exact ⟨lms, mv, h1, h2, hb, h.symm⟩
    · cases h
  · cases h

def tsCore (k1 v1 k2 v2 : Str) : Option (Int × Int) :=
  let (loc, ts) := if k1 = "local".toList then (v1, v2) else (v2, v1)
  if !((k1 = "local".toList && k2 = "mpegts".toList) || (k1 = "mpegts".toList && k2 = "local".toList)) then none else
  tsVal loc ts

theorem keys_inv {k1 k2 L M : Str}
    (hc : ¬ (!((k1 = L && k2 = M) || (k1 = M && k2 = L))) = true) : (k1 = L ∧ k2 = M) ∨ (k1 = M ∧ k2 = L) := by
  have hX : ((k1 = L && k2 = M) || (k1 = M && k2 = L)) = true := by
    cases hb : ((decide (k1 = L) && decide (k2 = M)) || (decide (k1 = M) && decide (k2 = L)))
    · rw [hb] at hc; exact absurd rfl hc
    · rfl
  simp only [Bool.or_eq_true, Bool.and_eq_true, decide_eq_true_eq] at hX
  exact hX

theorem local_ne_mpegts : "local".toList ≠ "mpegts".toList := by decide_vector

theorem tsCore_inv {k1 v1 k2 v2 : Str} {m : Int × Int} (h : tsCore k1 v1 k2 v2 = some m) :
    ∃ lms mv : Nat, mv < 2 ^ 62 ∧ m = ((lms : Int) * 1000000, (mv : Int)) ∧
      ((k1 = "local".toList ∧ k2 = "mpegts".toList ∧ timeMs v1 = some lms ∧ natOf v2 = some mv) ∨
       (k1 = "mpegts".toList ∧ k2 = "local".toList ∧ timeMs v2 = some lms ∧ natOf v1 = some mv)) := by
  unfold tsCore at h
  split at h
  rename_i loc ts hpair
  split at h
  · cases h
  · rename_i hc
    obtain ⟨lms, mv, a1, a2, a3, a4⟩ := tsVal_inv h
    refine ⟨lms, mv, a3, a4, ?_⟩
    rcases keys_inv hc with ⟨e1, e2⟩ | ⟨e1, e2⟩
    · rw [if_pos e1] at hpair
      injection hpair with q1 q2
      subst q1 q2
      exact Or.inl ⟨e1, e2, a1, a2⟩
    · rw [if_neg (by rw [e1]; exact local_ne_mpegts.symm)] at hpair
      injection hpair with q1 q2
      subst q1 q2
      exact Or.inr ⟨e1, e2, a1, a2⟩

theorem tsmapLine_eq2 (l : Str) : tsmapLine l =
    match dropPrefix? tsPrefix l with
    | none => none
    | some rest =>
      match (splitC ',' rest).map kvSpec with
      | [some (k1, v1), some (k2, v2)] => tsCore k1 v1 k2 v2
      | _ => none := rfl

/-- What the decoder found in a timestamp-map line it accepts: the text `rest` after the prefix, its two parts
    `p1`, `p2` cut into key and value, and the values `lms` (the `LOCAL` time, ms) and `mv` (`MPEGTS`) in either order. -/
structure TsMapLine (l : Str) (m : Int × Int) (rest p1 p2 ka va kb vb : Str) (lms mv : Nat) : Prop where
  line : l = tsPrefix ++ rest
  parts : splitC ',' rest = [p1, p2]
  first : splitOnce [':'] p1 = [ka, va]
  second : splitOnce [':'] p2 = [kb, vb]
  mpegts_lt : mv < 2 ^ 62
  value : m = ((lms : Int) * 1000000, (mv : Int))
  keys : (toLowerAscii (trimSpace ka) = "local".toList ∧ toLowerAscii (trimSpace kb) = "mpegts".toList ∧
            timeMs va = some lms ∧ natOf vb = some mv) ∨
         (toLowerAscii (trimSpace ka) = "mpegts".toList ∧ toLowerAscii (trimSpace kb) = "local".toList ∧
            timeMs vb = some lms ∧ natOf va = some mv)

theorem tsmapLine_inv {l : Str} {m : Int × Int} (h : tsmapLine l = some m) :
    ∃ (rest p1 p2 ka va kb vb : Str) (lms mv : Nat), TsMapLine l m rest p1 p2 ka va kb vb lms mv := by
  rw [tsmapLine_eq2] at h
  split at h
  · cases h
  · rename_i rest hpre
    split at h
    · rename_i k1 v1 k2 v2 hparts
      obtain ⟨p1, p2, hsp, g1, g2⟩ := List.map2_inv hparts
      obtain ⟨ka, s1, c1⟩ := kvSpec_inv g1
      obtain ⟨kb, s2, c2⟩ := kvSpec_inv g2
      have hl := dropPrefix?_eq_some_iff.mp hpre
      obtain ⟨lms, mv, b1, b2, b3⟩ := tsCore_inv h
      rw [← c1, ← c2] at b3
      exact ⟨rest, p1, p2, ka, v1, kb, v2, lms, mv, ⟨hl, hsp, s1, s2, b1, b2, b3⟩⟩
    · cases h

/-- a character that cannot occur after `X-TIMESTAMP-MAP=` in an accepted line -/
structure OddC (x : Char) : Prop where
  noSpace : isSpace x = false
  noDigit : isDigit x = false
  noColon : x ≠ ':'
  noDot : x ≠ '.'
  noComma : x ≠ ','
  noUpper : ¬('A' ≤ x ∧ x ≤ 'Z')
  notLocal : x ∉ "local".toList
  notMpegts : x ∉ "mpegts".toList

theorem oddC_eq : OddC '=' := by constructor <;> decide
theorem oddC_gt : OddC '>' := by constructor <;> decide

/-- white space, digits, `:` and `.` -/
def ValC (v : Str) : Prop := ∀ c ∈ v, isSpace c = true ∨ isDigit c = true ∨ c = ':' ∨ c = '.'

def KeyC (k : Str) : Prop :=
  toLowerAscii (trimSpace k) = "local".toList ∨ toLowerAscii (trimSpace k) = "mpegts".toList

theorem valC_time {v : Str} {ms : Nat} (h : timeMs v = some ms) : ValC v := timeMs_chars h

theorem valC_nat {v : Str} {n : Nat} (h : natOf v = some n) : ValC v :=
  fun c hc => Or.inr (Or.inl (natOf_digits h c hc))

theorem valC_not_mem {v : Str} (h : ValC v) {x : Char} (hx : OddC x) : x ∉ v := by
  intro hm
  rcases h x hm with e | e | e | e
  · rw [hx.noSpace] at e; cases e
  · rw [hx.noDigit] at e; cases e
  · exact hx.noColon e
  · exact hx.noDot e

theorem mem_toLower {x : Char} (hx : ¬('A' ≤ x ∧ x ≤ 'Z')) {t : Str} (h : x ∈ t) : x ∈ toLowerAscii t := by
  unfold toLowerAscii
  exact mem_map.mpr ⟨x, h, by simp only [hx, if_false]⟩

theorem keyC_not_mem {k : Str} (h : KeyC k) {x : Char} (hx : OddC x) : x ∉ k := by
  intro hm
  obtain ⟨a, b, hs, ha, hb⟩ := trimSpace_decomp k
  rw [hs] at hm
  simp only [mem_append] at hm
  rcases hm with (hm | hm) | hm
  · exact not_mem_of_not_isSpace hx.noSpace ha hm
  · have := mem_toLower hx.noUpper hm
    rcases h with e | e
    · rw [e] at this; exact hx.notLocal this
    · rw [e] at this; exact hx.notMpegts this
  · exact not_mem_of_not_isSpace hx.noSpace hb hm

theorem part_not_mem {k v : Str} (hk : KeyC k) (hv : ValC v) {x : Char} (hx : OddC x) : x ∉ k ++ ':' :: v := by
  simp only [mem_append, mem_cons, not_or]
  exact ⟨keyC_not_mem hk hx, hx.noColon, valC_not_mem hv hx⟩

theorem tsmapLine_shape {l : Str} {m : Int × Int} (h : tsmapLine l = some m) :
    ∃ (ka va kb vb : Str), l = tsPrefix ++ ((ka ++ ':' :: va) ++ ',' :: (kb ++ ':' :: vb)) ∧
      KeyC ka ∧ ValC va ∧ KeyC kb ∧ ValC vb := by
  obtain ⟨rest, p1, p2, ka, va, kb, vb, lms, mv, ht⟩ := tsmapLine_inv h
  have hj := join_splitC ',' rest
  rw [ht.parts] at hj
  simp only [join] at hj
  refine ⟨ka, va, kb, vb, ?_, ?_⟩
  · rw [ht.line, ← hj, splitOnce_inv ht.first, splitOnce_inv ht.second]; simp
  · rcases ht.keys with ⟨a1, a2, a3, a4⟩ | ⟨a1, a2, a3, a4⟩
    · exact ⟨Or.inl a1, valC_time a3, Or.inr a2, valC_nat a4⟩
    · exact ⟨Or.inr a1, valC_nat a4, Or.inl a2, valC_time a3⟩

theorem tsmapLine_not_mem {l : Str} {m : Int × Int} (h : tsmapLine l = some m) {x : Char} (hx : OddC x) :
    ∀ rest, l = tsPrefix ++ rest → x ∉ rest := by
  obtain ⟨ka, va, kb, vb, hl, c1, c2, c3, c4⟩ := tsmapLine_shape h
  intro rest hr
  have : rest = (ka ++ ':' :: va) ++ ',' :: (kb ++ ':' :: vb) := append_cancel_left (hr.symm.trans hl)
  rw [this]
  intro hm
  rcases mem_append.mp hm with hm | hm
  · exact part_not_mem c1 c2 hx hm
  · rcases mem_cons.mp hm with e | hm
    · exact hx.noComma e
    · exact part_not_mem c3 c4 hx hm

theorem tsmapLine_no_arrow (l : Str) (m : Int × Int) (h : Spec.VTT.tsmapLine l = some m) :
    Go.contains Spec.VTT.arrow l = false := by
  obtain ⟨rest, _, _, _, _, _, _, _, _, ht⟩ := tsmapLine_inv h
  have hl := ht.line
  have hr := tsmapLine_not_mem h oddC_gt rest hl
  have : '>' ∉ l := by
    rw [hl]
    simp only [mem_append, not_or]
    exact ⟨by decide, hr⟩
  exact VTT.contains_arrow_noGt this

theorem tsParts_local {p k v : Str} (ps : List Str) (acc : Int × Int) {d : Int} (hs : splitOnce [':'] p = [k, v])
    (hk : toLowerAscii (trimSpace k) = "local".toList) (hsm : VTT.smallNumbers v = true)
    (hp : Duration.parseVTT v = some d) : VTT.tsParts (p :: ps) acc = VTT.tsParts ps (d, acc.2) := by
  rw [VTT.tsParts, hs]
  simp only [hk, hsm, hp, Bool.not_true, Bool.false_eq_true, if_false, if_true]

theorem tsParts_local_un {p k v : Str} (ps : List Str) (acc : Int × Int) (hs : splitOnce [':'] p = [k, v])
    (hk : toLowerAscii (trimSpace k) = "local".toList) (hsm : VTT.smallNumbers v = false) :
    VTT.tsParts (p :: ps) acc = .unmodelled := by
  rw [VTT.tsParts, hs]
  simp only [hk, hsm, Bool.not_false, if_true]

theorem tsParts_mpegts {p k v : Str} (ps : List Str) (acc : Int × Int) {n : Int} (hs : splitOnce [':'] p = [k, v])
    (hk : toLowerAscii (trimSpace k) = "mpegts".toList) (ha : atoi v = some n) :
    VTT.tsParts (p :: ps) acc = VTT.tsParts ps (acc.1, n) := by
  rw [VTT.tsParts, hs]
  simp only [hk, eq_false local_ne_mpegts.symm, if_false, if_true, VTT.parseInt, ha]

theorem tsParts_nil (acc : Int × Int) : VTT.tsParts [] acc = .ok acc := by rw [VTT.tsParts]

theorem lt62_int64 {n : Nat} (h : n < 2 ^ 62) : n ≤ int64Max := by
  unfold int64Max; omega

theorem tsPrefix_eq : tsPrefix = "X-TIMESTAMP-MAP".toList ++ ['='] := by decide_vector

/-- **the timestamp-map line of the specification is read by the model with the same values** (or
    the model steps outside its regex-free class: a digit run longer than six in the `LOCAL` time) -/
theorem parseTsMap_of_tsmapLine (l : Str) (m : Int × Int) (h : Spec.VTT.tsmapLine l = some m) :
    VTT.parseTsMap l = .ok m ∨ VTT.parseTsMap l = .unmodelled := by
  obtain ⟨rest, p1, p2, ka, va, kb, vb, lms, mv, ht⟩ := tsmapLine_inv h
  have hne : '=' ∉ rest := tsmapLine_not_mem h oddC_eq rest ht.line
  have e1 : splitC '=' l = ["X-TIMESTAMP-MAP".toList, rest] := by
    rw [ht.line, tsPrefix_eq, append_assoc]
    exact splitC_two_mk (by decide) hne
  have hmodel : VTT.parseTsMap l = VTT.tsParts [p1, p2] (0, 0) := by
    unfold VTT.parseTsMap
    rw [e1]
    simp only [ht.parts]
  rw [hmodel, ht.value]
  rcases ht.keys with ⟨k1, k2, hv, hn⟩ | ⟨k1, k2, hv, hn⟩
  · cases hsm : VTT.smallNumbers va with
    | false => exact Or.inr (tsParts_local_un _ _ ht.first k1 hsm)
    | true =>
      left
      rw [tsParts_local _ _ ht.first k1 hsm (parseVTT_of_timeMs va lms hv),
        tsParts_mpegts _ _ ht.second k2 ((Spec.SRT.natOf_iff_numeral.mp hn).atoi (lt62_int64 ht.mpegts_lt)), tsParts_nil]
  · rw [tsParts_mpegts _ _ ht.first k1 ((Spec.SRT.natOf_iff_numeral.mp hn).atoi (lt62_int64 ht.mpegts_lt))]
    cases hsm : VTT.smallNumbers vb with
    | false => exact Or.inr (tsParts_local_un _ _ ht.second k2 hsm)
    | true =>
      left
      rw [tsParts_local _ _ ht.second k2 hsm (parseVTT_of_timeMs vb lms hv), tsParts_nil]

example : Spec.VTT.tsmapLine "X-TIMESTAMP-MAP=LOCAL:00:01.5,MPEGTS:900".toList = some (1500000000, 900) := by decide_vector

theorem timeMs_bound {s : Str} {ms : Nat} (h : timeMs s = some ms) : ms < 3700000000000 := by
  obtain ⟨x, H, M, S, f, _, h1, h2, h3, rfl, hf⟩ := timeMs_fields h
  have hf' : f < 1000 := by
    rcases hf with ⟨y, F, _, hlen, hy, rfl⟩ | ⟨_, rfl⟩
    · have hb := hy.lt
      have : y.length = 0 ∨ y.length = 1 ∨ y.length = 2 ∨ y.length = 3 := by omega
      rcases this with e | e | e | e <;> rw [e] at hb ⊢ <;> simp at hb ⊢ <;> omega
    · omega
  omega

end VTTRead
end Astisub
