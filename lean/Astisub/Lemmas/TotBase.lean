import Astisub.Go.Strings

/-!
# Lemmas/TotBase — Go's run-time panics made explicit

The models of this development totalise Go's indexing (`getD`, `head?`, `take`/`drop`, pattern
matching with a catch-all arm).  Here the run-time checks of the Go code are primitives that can *fail*:

* `idx l i`      — `l[i]`: panics unless `i < len(l)`;
* `slc l lo hi`  — `l[lo:hi]`: panics unless `lo ≤ hi ≤ len(l)` (we check against the length, which is
                   stricter than Go's check against the capacity: a proof of "no panic" here is a
                   proof for Go);
* `slcFrom l lo` — `l[lo:]`, `slcTo l hi` — `l[:hi]`;
* `tdivC a b`    — integer `a / b`: panics when `b = 0`;
* `deref p`      — `*p` or `p.f`: panics on the nil pointer;
* `idxI`, `slcToI`, `slcI`, `lastC`, `initC` — the same with a Go `int` operand, which may be negative.

A *checked* variant of a model function is the same code written with these primitives in the
`Chk = Except Panic` monad.  For each one two facts are proved (files `Tot*.lean`): it never
answers `.error _` on the inputs the guards let through, and its value is the value of the
totalised model function — so no default of the model is ever used.  A variant `…U` is the same code
without one guard, with the input on which it panics.  Where a writer's guard is shown to be needed *exactly*
when its part is absent and that has to pass through a chain or a loop (`Tot2SSA`, `Tot2VTT`), it is said with
`PanicsIff`, which is closed under `>>=` and under the loops (`RLoop`, `LLoop`).

Vocabulary of these files: the *pinned* code is the commit of go-astisub under study; it was *repaired* by
`fix:` commits, one per defect D1 … D32 (DESIGN.md, section 0.3); "fix-N of C05" / "of C06" numbers the
repairs as the heads of `Model/STL.lean` / `Props/C06.lean` do (`Model/Teletext.lean` marks them where they act).
-/

namespace Astisub
namespace Tot

/-- the run-time panics of Go that the readers and writers could meet -/
inductive Panic where
  | index      -- "index out of range"
  | slice      -- "slice bounds out of range"
  | divZero    -- "integer divide by zero"
  | nilDeref   -- "invalid memory address or nil pointer dereference"
  deriving Repr, DecidableEq

abbrev Chk := Except Panic

/-- did the computation end without a panic? -/
def Chk.safe {α} (c : Chk α) : Bool := match c with | .ok _ => true | .error _ => false

/-- lets the test vectors of the `Tot*` files run the checked functions in the kernel (`decide +kernel`) -/
instance {α} [DecidableEq α] : DecidableEq (Chk α)
  | .ok a, .ok b => if h : a = b then isTrue (h ▸ rfl) else isFalse fun e => h (Except.ok.inj e)
  | .error a, .error b => if h : a = b then isTrue (h ▸ rfl) else isFalse fun e => h (Except.error.inj e)
  | .ok _, .error _ => isFalse nofun
  | .error _, .ok _ => isFalse nofun

/-- `l[i]` -/
def idx {α} (l : List α) (i : Nat) : Chk α :=
  match l[i]? with
  | some a => .ok a
  | none => .error .index

/-- `l[lo:hi]` -/
def slc {α} (l : List α) (lo hi : Nat) : Chk (List α) :=
  if lo ≤ hi ∧ hi ≤ l.length then .ok ((l.drop lo).take (hi - lo)) else .error .slice

/-- `l[lo:]` -/
def slcFrom {α} (l : List α) (lo : Nat) : Chk (List α) :=
  if lo ≤ l.length then .ok (l.drop lo) else .error .slice

/-- `l[:hi]` -/
def slcTo {α} (l : List α) (hi : Nat) : Chk (List α) :=
  if hi ≤ l.length then .ok (l.take hi) else .error .slice

/-- Go's integer division (truncating); divisor zero panics -/
def tdivC (a b : Int) : Chk Int := if b = 0 then .error .divZero else .ok (Int.tdiv a b)

/-- dereference of a pointer that may be nil -/
def deref {α} (p : Option α) : Chk α := match p with | some a => .ok a | none => .error .nilDeref

theorem idx_ok {α} {l : List α} {i : Nat} (h : i < l.length) (d : α) : idx l i = .ok (l.getD i d) := by
  unfold idx
  rw [List.getD_eq_getElem?_getD, List.getElem?_eq_getElem h]
  rfl

theorem idx_panics {α} {l : List α} {i : Nat} (h : l.length ≤ i) : idx l i = .error .index := by
  unfold idx
  rw [List.getElem?_eq_none h]

theorem slc_ok {α} {l : List α} {lo hi : Nat} (h1 : lo ≤ hi) (h2 : hi ≤ l.length) :
    slc l lo hi = .ok ((l.drop lo).take (hi - lo)) := by
  unfold slc; rw [if_pos ⟨h1, h2⟩]

theorem slc_panics {α} {l : List α} {lo hi : Nat} (h : l.length < hi) : slc l lo hi = .error .slice := by
  unfold slc; rw [if_neg]; omega

theorem slcFrom_ok {α} {l : List α} {lo : Nat} (h : lo ≤ l.length) : slcFrom l lo = .ok (l.drop lo) := by
  unfold slcFrom; rw [if_pos h]

theorem slcTo_ok {α} {l : List α} {hi : Nat} (h : hi ≤ l.length) : slcTo l hi = .ok (l.take hi) := by
  unfold slcTo; rw [if_pos h]

theorem tdivC_ok {a b : Int} (h : b ≠ 0) : tdivC a b = .ok (Int.tdiv a b) := by
  unfold tdivC; rw [if_neg h]

theorem tdivC_panics (a : Int) : tdivC a 0 = .error .divZero := rfl

@[simp] theorem ok_bind {α β} (a : α) (f : α → Chk β) : (Except.ok a >>= f) = f a := rfl
@[simp] theorem error_bind {α β} (e : Panic) (f : α → Chk β) : ((Except.error e : Chk α) >>= f) = .error e := rfl
@[simp] theorem pure_eq {α} (a : α) : (pure a : Chk α) = .ok a := rfl
@[simp] theorem map_ok {α β} (f : α → β) (a : α) : (f <$> (Except.ok a : Chk α)) = .ok (f a) := rfl
@[simp] theorem safe_ok {α} (a : α) : Chk.safe (Except.ok a : Chk α) = true := rfl

theorem safe_of_eq_ok {α} {c : Chk α} {a : α} (h : c = .ok a) : c.safe = true := by subst h; rfl

/-- a step that is known to answer hands its value to the rest of the `do` block.  Used as
    `simp (disch := omega) only [↓ bind_eq_of_ok (idx_ok _ d), …]`: rewriting at the head of the block first,
    each step is visited once; rewriting the step to `.ok _` and then `ok_bind` would simplify the rest of
    the block again after every step. -/
theorem bind_eq_of_ok {α β} {x : Chk α} {a : α} (h : x = .ok a) (f : α → Chk β) : x >>= f = f a := by
  rw [h]; rfl

theorem safe_guard_bind {α β} (c : Bool) (a : α) (e : Panic) (f : α → Chk β) :
    ((if c then Except.ok a else Except.error e : Chk α) >>= f).safe = (c && (f a).safe) := by
  cases c <;> rfl

/-- shows that a guard is necessary without asking which of the reads it protects fails first -/
theorem bind_not_safe {α β} {x : Chk α} {f : α → Chk β} (h : ∀ a, (f a).safe = false) :
    (x >>= f).safe = false := by
  cases x with
  | error _ => rfl
  | ok a => exact h a

/-- a guard of the Go code, copied into the checked variant, is passed on both sides at once -/
theorem ite_ok {α} {c : Prop} [Decidable c] {x y : Chk α} {a b : α}
    (hx : c → x = .ok a) (hy : ¬c → y = .ok b) : (if c then x else y) = .ok (if c then a else b) := by
  split
  · exact hx ‹_›
  · exact hy ‹_›

/-- non-vacuity: the primitives do panic outside their bounds -/
example : idx [1, 2, 3] 3 = .error .index := rfl
example : slc [1, 2, 3] 2 4 = .error .slice := rfl
example : slc [1, 2, 3] 1 3 = .ok [2, 3] := rfl
example : tdivC 7 0 = .error .divZero := rfl

/-! ### Go `int` index arithmetic

Go computes `len(l)-1` in `int`: on an empty slice the value is `-1` and the index / slice
expression panics.  Lean's natural-number subtraction would silently turn it into `0`.  The
primitives below take the index as an `Int`, answer the panic for a negative one and otherwise
fall back on the primitives above — so `l[len(l)-1]` on an empty `l` *does* panic here.
-/

/-- `l[i]` for a Go `int` index: negative ⇒ panic -/
def idxI {α} (l : List α) (i : Int) : Chk α := if i < 0 then .error .index else idx l i.toNat

/-- `l[:hi]` for a Go `int` bound: negative ⇒ panic -/
def slcToI {α} (l : List α) (hi : Int) : Chk (List α) := if hi < 0 then .error .slice else slcTo l hi.toNat

/-- `l[lo:hi]` for Go `int` bounds -/
def slcI {α} (l : List α) (lo hi : Int) : Chk (List α) :=
  if lo < 0 ∨ hi < 0 then .error .slice else slc l lo.toNat hi.toNat

/-- `l[len(l)-1]` -/
def lastC {α} (l : List α) : Chk α := idxI l ((l.length : Int) - 1)

/-- `l[:len(l)-1]` -/
def initC {α} (l : List α) : Chk (List α) := slcToI l ((l.length : Int) - 1)

theorem lastC_nil {α} : lastC ([] : List α) = .error .index := rfl

theorem initC_nil {α} : initC ([] : List α) = .error .slice := rfl

theorem lastC_ok {α} {l : List α} (h : l ≠ []) (d : α) : lastC l = .ok (l.getLast?.getD d) := by
  have hl : 0 < l.length := List.length_pos_iff.mpr h
  unfold lastC idxI
  rw [if_neg (by omega)]
  have : ((l.length : Int) - 1).toNat = l.length - 1 := by omega
  rw [this, idx_ok (by omega) d, List.getLast?_eq_getElem?, List.getD_eq_getElem?_getD]

theorem initC_ok {α} {l : List α} (h : l ≠ []) : initC l = .ok l.dropLast := by
  have hl : 0 < l.length := List.length_pos_iff.mpr h
  unfold initC slcToI
  rw [if_neg (by omega)]
  have : ((l.length : Int) - 1).toNat = l.length - 1 := by omega
  rw [this, slcTo_ok (by omega), List.dropLast_eq_take]

theorem slcI_ok {α} {l : List α} {lo hi : Nat} (h1 : lo ≤ hi) (h2 : hi ≤ l.length) :
    slcI l (lo : Int) (hi : Int) = .ok ((l.drop lo).take (hi - lo)) := by
  unfold slcI
  rw [if_neg (by omega)]
  exact slc_ok h1 h2

theorem slcToI_ok {α} {l : List α} {hi : Nat} (h : hi ≤ l.length) : slcToI l (hi : Int) = .ok (l.take hi) := by
  unfold slcToI
  rw [if_neg (by omega)]
  exact slcTo_ok h

theorem idx_cons_zero {α} (a : α) (l : List α) : idx (a :: l) 0 = .ok a := rfl

theorem idx_cons_succ {α} (a : α) (l : List α) (n : Nat) : idx (a :: l) (n + 1) = idx l n := by
  unfold idx; rw [List.getElem?_cons_succ]

/-- `for _, a := range l { … f(a) … }` collecting the results; the first panic ends it -/
def mapC {α β} (f : α → Chk β) : List α → Chk (List β)
  | [] => pure []
  | a :: as => do
    let b ← f a
    let bs ← mapC f as
    pure (b :: bs)

theorem mapC_panics {α β} {f : α → Chk β} {a : α} {e : Panic} (h : f a = .error e) (as : List α) :
    mapC f (a :: as) = .error e := by
  unfold mapC
  rw [h]
  rfl

/-! ### when a checked computation panics

`PanicsIff c e P` is the form of the "guard needed exactly when the part is absent" statements of `Tot2SSA` and
`Tot2VTT` (and the `…_panics_iff` read off them).  The other files say necessity in the shape their proof gives: one
direction only (`… = .error e` / `.safe = false` on the offending input: the readers, `Tot2Duration`, `Tot2TTML(W)`,
`Tot2SRT`), or `(c).safe = b` for a Boolean `b` of the guards and the parts (`Tot2STL`, where every guard is a flag
and the chain is computed by `safe_guard_bind`).  The notion is closed under `>>=` (the first failing step of a chain decides) and under the
two shapes of a `for … range` loop: `RLoop`, one result per element, combined on the way back (`mapC`, the
writers' concatenating loops, with or without the index), and `LLoop`, a state threaded through.
`PanicsIff c e False` is "never panics". -/

/-- `c` panics with `e` when `P` holds and answers otherwise -/
def PanicsIff {α} (c : Chk α) (e : Panic) (P : Prop) : Prop :=
  (P → c = .error e) ∧ (¬ P → ∃ a, c = .ok a)

namespace PanicsIff
universe u
variable {α β : Type u} {c : Chk α} {e : Panic} {P Q : Prop}

theorem of_ok {a : α} (h : c = .ok a) : PanicsIff c e False := ⟨False.elim, fun _ => ⟨a, h⟩⟩

theorem ok_of {a : α} (h : c = .ok a) (hP : ¬ P) : PanicsIff c e P := ⟨fun p => absurd p hP, fun _ => ⟨a, h⟩⟩

theorem error_of (h : c = .error e) (hP : P) : PanicsIff c e P := ⟨fun _ => h, fun n => absurd hP n⟩

theorem of_spec {a : α} (h : (P → c = .error e) ∧ (¬ P → c = .ok a)) : PanicsIff c e P :=
  ⟨h.1, fun n => ⟨a, h.2 n⟩⟩

theorem congr (h : PanicsIff c e P) (hpq : P ↔ Q) : PanicsIff c e Q :=
  ⟨fun q => h.1 (hpq.2 q), fun nq => h.2 fun p => nq (hpq.1 p)⟩

theorem deref (p : Option α) : PanicsIff (Tot.deref p) .nilDeref (p = none) := by
  cases p with
  | none => exact ⟨fun _ => rfl, fun n => absurd rfl n⟩
  | some a => exact ⟨nofun, fun _ => ⟨a, rfl⟩⟩

theorem readings (h : PanicsIff c e P) :
    (c = .error e ↔ P) ∧ (c.safe = false ↔ P) ∧ ∀ e', c = .error e' → e' = e := by
  by_cases hp : P
  · rw [h.1 hp]
    exact ⟨⟨fun _ => hp, fun _ => rfl⟩, ⟨fun _ => hp, fun _ => rfl⟩, fun e' he => (Except.error.inj he).symm⟩
  · obtain ⟨a, ha⟩ := h.2 hp
    rw [ha]
    exact ⟨⟨nofun, fun h => absurd h hp⟩, ⟨nofun, fun h => absurd h hp⟩, nofun⟩

theorem error_iff (h : PanicsIff c e P) : c = .error e ↔ P := h.readings.1
theorem safe_iff (h : PanicsIff c e P) : c.safe = false ↔ P := h.readings.2.1
theorem kind (h : PanicsIff c e P) {e' : Panic} (he : c = .error e') : e' = e := h.readings.2.2 e' he
theorem answers (h : PanicsIff c e False) : ∃ a, c = .ok a := h.2 id

theorem bind' {f : α → Chk β} (hc : PanicsIff c e P) (hf : ∀ a, c = .ok a → PanicsIff (f a) e Q) :
    PanicsIff (c >>= f) e (P ∨ Q) := by
  by_cases hp : P
  · exact ⟨fun _ => by rw [hc.1 hp]; rfl, fun n => absurd (.inl hp) n⟩
  · obtain ⟨a, ha⟩ := hc.2 hp
    have hfa := hf a ha
    subst ha
    exact ⟨fun h => hfa.1 (h.resolve_left hp), fun n => hfa.2 fun hq => n (.inr hq)⟩

theorem bind_answers {f : α → Chk β} (hc : PanicsIff c e P) (hf : ∀ a, c = .ok a → ∃ b, f a = .ok b) :
    PanicsIff (c >>= f) e P := by
  refine ⟨fun p => by rw [hc.1 p]; rfl, fun n => ?_⟩
  obtain ⟨a, ha⟩ := hc.2 n
  obtain ⟨b, hb⟩ := hf a ha
  exact ⟨b, by rw [ha]; exact hb⟩

end PanicsIff

/-- `for k, x := range xs { b := f k x; … }` collecting on the way back.  A loop definition of this shape is an
    instance by `⟨fun _ => rfl, fun _ _ _ => rfl⟩`. -/
structure RLoop {α β γ} (f : Nat → α → Chk β) (op : β → γ → γ) (z : γ) (L : Nat → List α → Chk γ) : Prop where
  nil : ∀ k, L k [] = .ok z
  cons : ∀ k x xs, L k (x :: xs) = f k x >>= fun b => L (k + 1) xs >>= fun r => pure (op b r)

namespace RLoop
universe u v
variable {α : Type u} {β γ : Type v} {f : Nat → α → Chk β} {op : β → γ → γ} {z : γ} {L : Nat → List α → Chk γ}

/-- the loop answers the model's recursion `M` when every turn answers the model's turn `g` -/
theorem eq (hL : RLoop f op z L) {g : Nat → α → β} {M : Nat → List α → γ} (xs : List α) (k : Nat)
    (h : ∀ x ∈ xs, ∀ k, f k x = .ok (g k x)) (hnil : ∀ k, M k [] = z := by intros; rfl)
    (hcons : ∀ k x xs, M k (x :: xs) = op (g k x) (M (k + 1) xs) := by intros; rfl) : L k xs = .ok (M k xs) := by
  induction xs generalizing k with
  | nil => rw [hL.nil, hnil]
  | cons x xs ih =>
    rw [hL.cons, h x (List.mem_cons_self ..), hcons, ih (k + 1) fun y hy => h y (List.mem_cons_of_mem _ hy)]
    rfl

theorem unique {L' : Nat → List α → Chk γ} (hL : RLoop f op z L) (hL' : RLoop f op z L') :
    ∀ (xs : List α) (k : Nat), L k xs = L' k xs
  | [], k => by rw [hL.nil, hL'.nil]
  | x :: xs, k => by rw [hL.cons, hL'.cons]; simp only [unique hL hL' xs]

theorem panicsIff (hL : RLoop f op z L) {e : Panic} {P : α → Prop} :
    ∀ (xs : List α) (k : Nat), (∀ x ∈ xs, ∀ k, PanicsIff (f k x) e (P x)) → PanicsIff (L k xs) e (∃ x ∈ xs, P x)
  | [], k, _ => by rw [hL.nil]; exact .ok_of rfl fun ⟨_, h, _⟩ => nomatch h
  | x :: xs, k, h => by
    rw [hL.cons]
    refine ((h x (List.mem_cons_self ..) k).bind' fun b _ =>
      (panicsIff hL xs (k + 1) fun y hy => h y (List.mem_cons_of_mem _ hy)).bind_answers fun r _ => ⟨op b r, rfl⟩).congr ?_
    simp only [List.mem_cons, exists_eq_or_imp]

theorem answers (hL : RLoop f op z L) (xs : List α) (k : Nat) (h : ∀ x ∈ xs, ∀ k, ∃ b, f k x = .ok b) :
    ∃ r, L k xs = .ok r :=
  ((panicsIff hL (e := .index) (P := fun _ => False) xs k fun x hx k =>
    let ⟨_, hb⟩ := h x hx k; PanicsIff.of_ok hb).congr ⟨fun ⟨_, _, h⟩ => h, False.elim⟩).answers

end RLoop

/-- `for _, x := range xs { st = f st x }`: a state threaded through -/
structure LLoop {σ α} (f : σ → α → Chk σ) (L : σ → List α → Chk σ) : Prop where
  nil : ∀ st, L st [] = .ok st
  cons : ∀ st x xs, L st (x :: xs) = f st x >>= fun st' => L st' xs

/-- the loop is the model's `foldl` when every turn is the model's turn, on the states that satisfy the invariant `I` -/
theorem LLoop.eq {σ α} {f : σ → α → Chk σ} {L : σ → List α → Chk σ} (hL : LLoop f L) {g : σ → α → σ} (I : σ → Prop) :
    ∀ (xs : List α) (st : σ), (∀ st, I st → ∀ x ∈ xs, f st x = .ok (g st x)) → (∀ st, I st → ∀ x ∈ xs, I (g st x)) →
      I st → L st xs = .ok (xs.foldl g st) ∧ I (xs.foldl g st)
  | [], st, _, _, hI => ⟨hL.nil st, hI⟩
  | x :: xs, st, hv, hi, hI => by
    rw [hL.cons, hv st hI x (List.mem_cons_self ..)]
    exact LLoop.eq hL I xs _ (fun st' h' y hy => hv st' h' y (List.mem_cons_of_mem _ hy))
      (fun st' h' y hy => hi st' h' y (List.mem_cons_of_mem _ hy)) (hi st hI x (List.mem_cons_self ..))

theorem LLoop.panicsIff {σ α} {f : σ → α → Chk σ} {L : σ → List α → Chk σ} (hL : LLoop f L) {e : Panic} {P : α → Prop} :
    ∀ (xs : List α) (st : σ), (∀ x ∈ xs, ∀ st, PanicsIff (f st x) e (P x)) → PanicsIff (L st xs) e (∃ x ∈ xs, P x)
  | [], st, _ => by rw [hL.nil]; exact .ok_of rfl fun ⟨_, h, _⟩ => nomatch h
  | x :: xs, st, h => by
    rw [hL.cons]
    refine ((h x (List.mem_cons_self ..) st).bind' fun st' _ =>
      panicsIff hL xs st' fun y hy => h y (List.mem_cons_of_mem _ hy)).congr ?_
    simp only [List.mem_cons, exists_eq_or_imp]

theorem mapC_loop {α β} (f : α → Chk β) : RLoop (fun _ => f) List.cons [] (fun _ => mapC f) :=
  ⟨fun _ => rfl, fun _ _ _ => rfl⟩

theorem mapC_eq_of_mem {α β} {f : α → Chk β} {g : α → β} (l : List α) (h : ∀ a ∈ l, f a = .ok (g a)) :
    mapC f l = .ok (l.map g) :=
  (mapC_loop f).eq (M := fun _ l => l.map g) l 0 fun a ha _ => h a ha

theorem mapC_eq {α β} {f : α → Chk β} {g : α → β} (h : ∀ a, f a = .ok (g a)) (l : List α) :
    mapC f l = .ok (l.map g) :=
  mapC_eq_of_mem l fun a _ => h a

/-! ### maps whose values carry their own key

The pinned `WriteToTTML` and `WriteToWebVTT` collected `region.ID` of every *value* of `s.Regions`, sorted these
strings and then read `s.Regions[id].ID`, `s.Regions[id].InlineStyle`, … — a map look-up by the value's `ID` field
followed by a dereference.  When every value is stored under its own `ID` the look-up cannot miss; a value stored
under another key makes it miss (nil pointer).  The repaired writers (`fix:` fc5e17e) collect the keys of the map
and skip nil values, so their look-ups cannot miss at all. -/

/-- `m[id]` then dereference, for every `id` collected from the values -/
def byIdC {α} (idOf : α → Go.Str) (m : List (Go.Str × α)) : Chk (List α) :=
  mapC (fun id => deref (m.lookup id)) (m.map fun p => idOf p.2)

theorem byIdC_safe {α} (idOf : α → Go.Str) (m : List (Go.Str × α)) (h : ∀ p ∈ m, p.1 = idOf p.2) :
    (byIdC idOf m).safe = true := by
  obtain ⟨r, hr⟩ := (mapC_loop fun id => deref (m.lookup id)).answers (m.map fun p => idOf p.2) 0 fun id hid _ => by
    obtain ⟨p, hp, rfl⟩ := List.mem_map.mp hid
    obtain ⟨v, hv⟩ := Option.isSome_iff_exists.mp
      (List.lookup_isSome_iff.mpr ⟨p, hp, by rw [h p hp]; exact beq_self_eq_true _⟩)
    exact ⟨v, by rw [hv]; rfl⟩
  exact safe_of_eq_ok hr

/-- a value stored under a key that is not its identifier, its identifier being no key: nil dereference -/
example : byIdC (fun (v : Go.Str × Nat) => v.1) [("a".toList, ("b".toList, 1))] = .error .nilDeref := by rfl

/-- non-vacuity: the `int` primitives panic where the `Nat` ones would not -/
example : lastC ([] : List Nat) = .error .index := rfl
example : lastC [1, 2, 3] = .ok 3 := rfl
example : initC [1, 2, 3] = .ok [1, 2] := rfl
example : slcI [1, 2, 3] 2 1 = .error .slice := rfl

@[simp] theorem deref_some {α} (a : α) : deref (some a) = .ok a := rfl
@[simp] theorem deref_none {α} : deref (none : Option α) = .error .nilDeref := rfl

theorem idx_get {α} {l : List α} {i : Nat} (h : i < l.length) : idx l i = .ok l[i] := by
  unfold idx
  rw [List.getElem?_eq_getElem h]

theorem idxI_get {α} {l : List α} {i : Nat} (h : i < l.length) : idxI l (i : Int) = .ok l[i] := by
  unfold idxI
  rw [if_neg (by omega), Int.toNat_natCast, idx_get h]

theorem idxI_neg {α} (l : List α) {i : Int} (h : i < 0) : idxI l i = .error .index := by
  unfold idxI
  rw [if_pos h]

theorem idxI_last_nil {α} : idxI ([] : List α) ((([] : List α).length : Int) - 1) = .error .index := rfl

theorem slcFrom_panics {α} {l : List α} {lo : Nat} (h : l.length < lo) : slcFrom l lo = .error .slice := by
  unfold slcFrom
  rw [if_neg (by omega)]

theorem slcToI_nil {α} : slcToI ([] : List α) ((([] : List α).length : Int) - 1) = .error .slice := rfl

end Tot
end Astisub
