import Astisub.Lemmas.VTT2Final
import Astisub.Lemmas.VTT3Defs

/-!
# Lemmas/VTT3WDocDefs — vocabulary of "the independent decoder accepts every written `DocOk` document"

`docW2 s`: the (decidable) extra proviso, beyond `VTT.DocOk s`, under which `Spec.VTT.decode` accepts the
written document and the document lies in the class `InClassWith ok`.  The closing comment of
`Lemmas/VTT3WDoc.lean` says why each conjunct is asked; of the hypotheses of `DocW2` beyond `DocOk` only `metaTextW2`
(defined there) has a machine-checked witness.
`tsmapView_of_parts`: the view of the timestamp map and `tsmapW2` in terms of the two parts of the value (`VTT.tsmapParts`).
-/

namespace Astisub
namespace VTT3W
open Go Spec.VTT

/-- the decoder's lines of cue `it` -/
def glOf (it : CItem) : List GLine := (cueText (it.lines.map VTT.lineBody) []).getD []

/-- the line starts with `NOTE<tab>` -/
def tabNote (l : Str) : Bool := hasPrefix "NOTE\t".toList l

/-- comment block: no `-->` in the first line (`commentsOk` allows it there; the decoder rejects any
    comment line with `-->`); no later line starts with `NOTE<tab>` (class `noteOK`) -/
def commentsW2 (cs : List Str) : Bool :=
  match cs with
  | [] => true
  | c :: rest => !contains Spec.VTT.arrow c && rest.all (fun l => !tabNote l)

/-- CSS lines: none starts with `NOTE<tab>` (the decoder's `opener`) -/
def styleW2 (s : Subs) : Bool := (VTT.styleLines s).all (fun l => !tabNote l)

/-- the `lines=` value of a region: digits only (no sign: the decoder's `natOf`), at most 18 of them
    (class `regionOK`) -/
def linesW2 (o : Option Str) : Bool :=
  match o with
  | none => true
  | some v => v.all isDigit && decide (v.length ≤ 18)

def regionW2 (s : Subs) (d : Def) : Bool := linesW2 (VTT.regSetting s d "WebVTTLines")

/-- timestamp map: `MPEGTS` is an unsigned decimal below 2^62 -/
def tsmapW2 (s : Subs) : Bool :=
  match SRT.kvGet s.metadata "WebVTTTimestampMap" with
  | none => true
  | some v =>
    match splitC ',' v with
    | [_, m] => (match natOf m with | some n => decide (n < 2 ^ 62) | none => false)
    | _ => true

/-- a cue: its comment block `commentsW2`; no text line is a region definition line with a `lines` value of
    more than 18 digits (class `regionOK`, which `blockOKWith` asks of every line of a cue block) -/
def cueW2 (it : CItem) : Bool :=
  commentsW2 it.comments && it.lines.all (fun l => VTTRead.regionOK (VTT.lineBody l))

/-- **the extra proviso**: fewer than 2^62 cues (the decoder's identifier bound), every cue `cueW2`,
    CSS lines `styleW2`, region `lines` values `regionW2`, timestamp map `tsmapW2` -/
def docW2 (s : Subs) : Bool :=
  decide (s.items.length < 2 ^ 62) && s.items.all cueW2 && styleW2 s && s.regions.all (regionW2 s) && tsmapW2 s

structure W2Facts (s : Subs) : Prop where
  len : s.items.length < 2 ^ 62
  cues : ∀ it ∈ s.items, cueW2 it = true
  sty : ∀ l ∈ VTT.styleLines s, tabNote l = false
  regs : ∀ d ∈ s.regions, regionW2 s d = true
  ts : tsmapW2 s = true

theorem docW2_facts {s : Subs} (h : docW2 s = true) : W2Facts s := by
  simp only [docW2, styleW2, Bool.and_eq_true, List.all_eq_true, decide_eq_true_eq, Bool.not_eq_true'] at h
  obtain ⟨⟨⟨⟨h1, h2⟩, h3⟩, h4⟩, h5⟩ := h
  exact ⟨h1, h2, h3, h4, h5⟩

theorem docW2_of_facts {s : Subs} (W : W2Facts s) : docW2 s = true := by
  simp only [docW2, styleW2, Bool.and_eq_true, List.all_eq_true, decide_eq_true_eq, Bool.not_eq_true']
  exact ⟨⟨⟨⟨W.len, W.cues⟩, W.sty⟩, W.regs⟩, W.ts⟩

/-- the view of the timestamp map and the proviso `tsmapW2` in terms of the two parts of the value (`VTT.tsmapParts`;
    `VTT.tsmap_of_parts` has the writer's line, the reader's value and `tsmapOk`) -/
theorem tsmapView_of_parts (s : Subs) :
    match VTT.tsmapParts s with
    | none => VTTRead.tsmapView s = none ∧ tsmapW2 s = true
    | some (l, m) =>
      VTTRead.tsmapView s = (match atoi l, atoi m with | some l, some m => some (l, m) | _, _ => none) ∧
      tsmapW2 s = (match natOf m with | some n => decide (n < 2 ^ 62) | none => false) := by
  unfold VTT.tsmapParts VTTRead.tsmapView tsmapW2
  cases SRT.kvGet s.metadata "WebVTTTimestampMap" with
  | none => exact ⟨rfl, rfl⟩
  | some v =>
    simp only []
    generalize splitC ',' v = parts
    match parts with
    | [] => exact ⟨rfl, rfl⟩
    | [_] => exact ⟨rfl, rfl⟩
    | _ :: _ :: _ :: _ => exact ⟨rfl, rfl⟩
    | [l, m] => exact ⟨rfl, rfl⟩

/-! ### documents that differ in the metadata only

`VTT.styleLines` does not look at the metadata, `VTT.DocOk` only through `VTT.tsmapOk`, `docW2` only through
`tsmapW2`: the example documents below are `VTT.exDoc` with another timestamp map. -/

theorem styleLines_congr {s t : Subs} (h : s.styles = t.styles) : VTT.styleLines s = VTT.styleLines t := by
  unfold VTT.styleLines; rw [h]

theorem cueOk2_congr {s t : Subs} (hr : s.regions = t.regions) (hs : s.styles = t.styles) (it : CItem) :
    VTT.cueOk2 s it = VTT.cueOk2 t it := by
  unfold VTT.cueOk2 VTT.regionRefOk VTT.cueSetting VTT.styleAttrs; rw [hr, hs]

theorem regionOk_congr {s t : Subs} (hs : s.styles = t.styles) (d : Def) : VTT.regionOk s d = VTT.regionOk t d := by
  unfold VTT.regionOk VTT.regSetting VTT.styleAttrs; rw [hs]

theorem docOk_transfer {s t : Subs} (h : VTT.DocOk t = true) (hr : s.regions = t.regions) (hs : s.styles = t.styles)
    (hne : s.items ≠ []) (hlen : s.items.length ≤ int64Max) (hc : ∀ it ∈ s.items, VTT.cueOk2 t it = true)
    (hm : VTT.tsmapOk s = true) : VTT.DocOk s = true := by
  have F := VTT.docOk_facts h
  have hl := styleLines_congr hs
  refine VTT.docOk_iff.mpr ⟨hne, fun it hit => (cueOk2_congr hr hs it).trans (hc it hit), hlen,
    fun d hd => (regionOk_congr hs d).trans (F.regs d (hr ▸ hd)), hr ▸ F.nodup, hl ▸ F.sty, ?_, hm⟩
  unfold VTT.styleEndOk
  rw [hl]
  exact F.styEnd

theorem docOk_metadata {s : Subs} (h : VTT.DocOk s = true) (m : Attrs)
    (hm : VTT.tsmapOk { s with metadata := m } = true) : VTT.DocOk { s with metadata := m } = true :=
  have F := VTT.docOk_facts h
  docOk_transfer h rfl rfl F.ne F.len F.cues hm

theorem docW2_metadata {s : Subs} (h : docW2 s = true) (m : Attrs)
    (hm : tsmapW2 { s with metadata := m } = true) : docW2 { s with metadata := m } = true :=
  have W := docW2_facts h
  docW2_of_facts ⟨W.len, W.cues, W.sty, W.regs, hm⟩

def exCueW : CItem :=
  { VTT.exCue1 with comments := ["first line".toList, "STYLE is fine here".toList, "Region: id=too".toList] }

def exDocW : Subs :=
  { VTT.exDoc with items := [exCueW, VTT.exCue2],
                   metadata := some [("WebVTTTimestampMap".toList, "10000000123,900000".toList)] }

example : cueW2 exCueW = true ∧ cueW2 VTT.exCue2 = true := by decide_vector
example : exDocW.regions.all (regionW2 exDocW) = true := by decide_vector
example : tsmapW2 exDocW = true := by decide_vector
example : linesW2 (some "3".toList) = true ∧ linesW2 (some "-3".toList) = false := by decide_vector
example : commentsW2 ["a".toList, "NOTE x".toList] = true ∧ commentsW2 ["a --> b".toList] = false := by decide_vector

end VTT3W
end Astisub
