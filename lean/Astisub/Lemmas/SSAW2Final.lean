import Astisub.Lemmas.SSAW2Shape
import Astisub.Lemmas.SSAW2Text
import Astisub.Lemmas.SSAW2Events
import Astisub.Lemmas.SSAW2BridgeMeta
import Astisub.Lemmas.SSAW2BridgeEvents
import Astisub.Lemmas.SSAW2CR

/-!
# Lemmas/SSAW2Final — `decode (write s) = denote s`: assembling the layers; the written text is in `SSAR.InClass`; the view of what is
read back; the driver's predicate
-/

namespace Astisub
namespace SSAW
open Go SSA SSAR List

section
open Spec.SSA (SecKind secKind sections stylesOf eventsOf infoOf commentsOf GDoc GStyle GEvent GRun REvent resolve strLe nodup)

/-- **Bridge.** Under `RepRead` (distinct style identifiers) and `Extra` (64-bit integers, no empty style reference),
    the denotation of a cue list is the document spelled out from the writer's typed values. -/
theorem bridge (s : Subs) (want : GDoc) (hd : Spec.SSA.denote s = some want) (hr : RepRead s) (hx : Extra s want) :
    want = docG s := by
  obtain ⟨gi, L, evs, _, _, hitems, hgi, hL, hevs, rfl⟩ := denote_some s want hd
  have h64 := hx.ints
  unfold wantInts64 ints64 at h64
  simp only [Bool.and_eq_true] at h64
  obtain ⟨h64i, h64s, h64e⟩ := h64
  have hLs : ∀ g ∈ L, attrs64 g.attrs = true := by
    intro g hg
    exact all_eq_true.mp h64s g (mem_mergeSort.mpr hg)
  unfold docG
  rw [← bridge_info s.metadata gi hgi h64i, ← bridge_styles s L hL hLs hr.ids,
    ← bridge_events s evs hitems hevs (fun g hg => all_eq_true.mp h64e g hg) hx.styleRef]

theorem allSome_map_eq_nil {α β} (f : α → Option β) (l : List α) (h : allSome (l.map f) = some []) : l = [] := by
  cases l with
  | nil => rfl
  | cons a l =>
    simp only [map_cons, allSome] at h
    split at h <;> simp at h

/-- the lines of an event's text as the decoder cuts them (`[]` when it refuses the text) -/
def tlOf (e : Event) : List (List GRun) := (Spec.SSA.textOf e.text).getD []

theorem textOf_item (s : Subs) (want : GDoc) (hd : Spec.SSA.denote s = some want) (hx : Extra s want) (it : CItem)
    (hit : it ∈ s.items) : Spec.SSA.textOf (eventOfItem it).text = some ((itemRuns it).map fun l => l.map grun) := by
  obtain ⟨hne, hlines⟩ := denote_item_lines s want hd hx it hit
  rw [eventOfItem_text]
  exact textOf_written (itemRuns it) hne (fun l hl => (hlines l hl).1) (fun l hl => (hlines l hl).2)

theorem decode_docG (s : Subs) (out : Str) (want : GDoc) (hd : Spec.SSA.denote s = some want) (hr : RepRead s)
    (hx : Extra s want) (hw : write s = .ok out) (hcr : '\r' ∉ out) :
    Spec.SSA.decode out = some (docG s) := by
  obtain ⟨rows, hrows, rfl⟩ := written_lines s out hw
  have hb : InfoDec (infoOfMeta s.metadata) := ⟨hr.info, hx.timer⟩
  have hrT : ∀ r ∈ rows, Trimmed r :=
    allSome_map_forall hrows fun st hst r hrow => trimmed_style_row st _ (hr.style hst).trimmed r hrow
  have heT : ∀ e ∈ s.items.map eventOfItem, Trimmed e.text := fun e he => (hr.event he).trimmed
  rw [decode_eq, specLines_written s rows hb hrT heT (docLinesW_nl s rows hr hrows) hcr, sections_written s rows hrT heT]
  -- the three parsers
  obtain ⟨hcom, hinfo⟩ := infoOf_written _ hb
  have htext : ∀ e ∈ s.items.map eventOfItem,
      EventCells e ∧ Trimmed e.text ∧ Spec.SSA.textOf e.text = some (tlOf e) := by
    intro e he
    obtain ⟨it, hit, rfl⟩ := mem_map.mp he
    refine ⟨(hr.event he).cells, (hr.event he).trimmed, ?_⟩
    unfold tlOf
    rw [textOf_item s want hd hx it hit]
    rfl
  have hE : eventsOf (eventsBodyT (isV4plus s) (s.items.map eventOfItem)) none
      = some ((s.items.map eventOfItem).map fun e => eventR (isV4plus s) e (tlOf e)) :=
    eventsOf_block (isV4plus s) (s.items.map eventOfItem) tlOf htext
  have hev : ∀ names : List Str,
      ((s.items.map eventOfItem).map fun e => eventR (isV4plus s) e (tlOf e)).map
        (fun r => ({ r.ev with style := resolve names r.styleName } : GEvent))
      = s.items.map (eventG (isV4plus s) names) := by
    intro names
    rw [map_map, map_map]
    apply map_congr_left
    intro it hit
    simp only [Function.comp, eventG, tlOf, textOf_item s want hd hx it hit, Option.getD_some]
    rfl
  have hcE := (eventsBodyT_facts (isV4plus s) _ heT).1
  by_cases h0 : rows = []
  · rw [if_pos h0]
    simp only
    have hws : writerStyles s = [] := by
      subst h0
      exact allSome_map_eq_nil _ _ hrows
    rw [decodeSecs_two _ _ _ _ hinfo hE, hev, hcom, hcE, append_nil]
    unfold docG styleIds
    rw [hws]
    simp [mergeSort]
  · rw [if_neg h0]
    simp only
    have hS : stylesOf (stylesBodyT (formatFlds (writerStyles s)) rows) none = some ((writerStyles s).map styleG) :=
      stylesOf_block (formatFlds (writerStyles s)) (formatFlds_nodup _) (writerStyles s) rows
      (fun st hst => ⟨(hr.style hst).ok, (hr.style hst).trimmed, hx.floats st hst,
        fun f hf => formatFlds_covering _ st hst f hf⟩) hrows
    have hnames : ((writerStyles s).map styleG).map (·.name) = styleIds s := by
      unfold styleIds; rw [map_map]; rfl
    have hcS := (stylesBodyT_facts (formatFlds (writerStyles s)) rows hrT).1
    rw [decodeSecs_three _ _ _ _ _ _ hinfo hS hE
      (by rw [hnames]; exact (nodup_map_ofList _).mpr hr.ids)
      (by
        rw [hnames, any_eq_false]
        intro n hn
        simpa using denote_names_star s want hd n hn),
      hnames, hev, hcom, hcS, hcE, append_nil, append_nil]
    rfl

end

section
open Spec.SSA (SecKind secKind sections classify infoTable intOf GDoc)

theorem infoLineOk_body (b : Info) (hb : InfoDec b) : ∀ l ∈ infoBody b, infoLineOk l = true := by
  intro l hl
  unfold infoBody at hl
  rcases mem_append.mp hl with hl | hl
  · obtain ⟨c, hc, rfl⟩ := mem_map.mp hl
    unfold infoLineOk
    rw [classify_commentTrim c (hb.comment hc)]
  · obtain ⟨⟨f, v, t⟩, hp, rfl⟩ := mem_map.mp hl
    obtain ⟨_, hget, ht⟩ := mem_infoTriples.mp hp
    have hs : SIOK f v := hb.val hget
    obtain ⟨htr, hcase⟩ := value_text f v t hs (valTimer_of b hb f v hget) ht
    unfold infoLineOk
    rw [classify_kvTrim _ _ (si_headerOK f) htr]
    simp only [String.ofList_toList, infoTable_lookup]
    rcases hcase with ⟨e, i, rfl, hi⟩ | ⟨e, bits, rfl, _⟩ | ⟨e, rfl, _⟩ <;> rw [e]
    · have h64 : Int64 i := hs.2
      simp [gk, hi, in64_iff.mpr h64]
    · rfl
    · rfl

theorem inClass_written (s : Subs) (out : Str) (want : GDoc) (hr : RepRead s)
    (hx : Extra s want) (hw : write s = .ok out) (hcr : '\r' ∉ out) (hdec : Spec.SSA.decode out = some want) :
    InClass out = true := by
  obtain ⟨rows, hrows, rfl⟩ := written_lines s out hw
  have hb : InfoDec (infoOfMeta s.metadata) := ⟨hr.info, hx.timer⟩
  have hrT : ∀ r ∈ rows, Trimmed r :=
    allSome_map_forall hrows fun st hst r hrow => trimmed_style_row st _ (hr.style hst).trimmed r hrow
  have heT : ∀ e ∈ s.items.map eventOfItem, Trimmed e.text := fun e he => (hr.event he).trimmed
  have hbom : bomOk (unlines (docLinesW s rows)) = true := by
    unfold docLinesW
    rw [cons_append, cons_append, unlines_cons]
    rfl
  have h64 : ints64 want = true := by
    have := hx.ints
    unfold wantInts64 at this
    simp only [Bool.and_eq_true] at this
    exact this.2
  unfold InClass
  rw [hbom, specLines_written s rows hb hrT heT (docLinesW_nl s rows hr hrows) hcr, headersOk_written s rows hrT heT,
    sections_written s rows hrT heT, hdec]
  simp only [Bool.and_self, Bool.true_and, h64, Bool.and_true]
  have hinfo : (infoBody (infoOfMeta s.metadata)).all infoLineOk = true :=
    all_eq_true.mpr (infoLineOk_body _ hb)
  unfold infoOk
  by_cases h0 : rows = []
  · rw [if_pos h0]
    simp [hinfo]
  · rw [if_neg h0]
    simp [hinfo]

end

section
open Spec.SSA (GDoc decode view denote)

theorem decode_write_first (s : Subs) (out : Str) (want : GDoc) (hd : denote s = some want) (hr : RepRead s)
    (hx : Extra s want) (hw : write s = .ok out) : decode out = some want := by
  rw [decode_docG s out want hd hr hx hw (out_no_cr_extra s out want hd hr hx hw), bridge s want hd hr hx]

theorem written_inClass (s : Subs) (out : Str) (want : GDoc) (hd : denote s = some want) (hr : RepRead s)
    (hx : Extra s want) (hw : write s = .ok out) : InClass out = true :=
  inClass_written s out want hr hx hw (out_no_cr_extra s out want hd hr hx hw) (decode_write_first s out want hd hr hx hw)

/-- **Both conjuncts** of `C04doc2.decode_write_Statement`. -/
theorem decode_write_both (s : Subs) (out : Str) (want : GDoc) (hd : denote s = some want) (hr : RepRead s)
    (hx : Extra s want) (hw : write s = .ok out) : decode out = some want ∧ view (norm s) = some want :=
  ⟨decode_write_first s out want hd hr hx hw,
   decode_write_view s out want hr hw (out_no_cr_extra s out want hd hr hx hw) (decode_write_first s out want hd hr hx hw)
     (written_inClass s out want hd hr hx hw)⟩

theorem floatOK_of_decFloat3 (bits : Nat) (h : decFloat3 bits = true) : floatOK bits = true := by
  unfold decFloat3 at h
  unfold floatOK
  cases hs : formatFloat3 bits with
  | none => rw [hs] at h; cases h
  | some str =>
    rw [hs] at h
    simp only [beq_iff_eq] at h ⊢
    exact parseFloat_of_floatOf h

theorem timerOK_of_decTimer (bits : Nat) (h : decTimer bits = true) : timerOK bits = true := by
  unfold decTimer at h
  unfold timerOK
  cases hs : formatFloatShortest bits with
  | none => rw [hs] at h; cases h
  | some str =>
    rw [hs] at h
    simp only [beq_iff_eq] at h ⊢
    exact parseFloat_of_floatOf h

theorem readBytes_written (s : Subs) (out : Str) (want : GDoc) (hd : denote s = some want) (hr : RepRead s)
    (hx : Extra s want) (hw : write s = .ok out) (r : Res Subs)
    (hrb : Driver.SSAD.readBytes (Driver.utf8 out) = some r) : r = .ok (norm s) := by
  have hdl : Driver.decodeLine (Driver.utf8 out) = some out := Driver.decodeLine_utf8 out
  have hread : SSA.read (Spec.SSA.splitLines out []) = .ok (norm s) := by
    rw [← read_splitC out (out_no_cr_extra s out want hd hr hx hw)]
    exact SSA.write_read s out hr hw
  unfold Driver.SSAD.readBytes at hrb
  split at hrb
  · cases hrb
  · rw [docLines_of_decode _ _ hdl, Conv2.allSomeL_map_some] at hrb
    simp only [hread] at hrb
    split at hrb
    · injection hrb with hrb; exact hrb.symm
    · cases hrb

end

end SSAW
end Astisub
