import Astisub.Lemmas.SRTRead2Block
import Astisub.Lemmas.Lines

/-!
# Lemmas/SRTRead2Doc — whole documents: `SRT.read` on the lines of a text against `Spec.SRT.decode`

`main_cut` runs the block-by-block simulation by induction on `Blocks.Cut` (the decoder's `blocks` as a relation between
the lines and the groups); `run_eq_runG` connects
`SRT.run` (which trims every scanned line and strips a byte order mark from the first one) with `runG`
on the prepared lines.

The first line: the decoder removes a byte order mark when it is the first character of the document;
the reader removes one from the front of the first line *after* trimming it.  The two views of the first
line (`d` for the decoder, `m` for the reader) are related by `HeadRel d m` in every case: that is all the
block simulation needs (`block_sim`).  `read_decode_text` assembles the read clause.

The reader model answers `unmodelled` only where the tokenizer model does.  `LineClass` is a decidable,
syntactic condition on one prepared line under which it does not: the line contains `-->` (then it is
never tokenized), or it has no NUL and either no `<` at all or only what the decoder's run scanner
`runsOf` accepts (text, stray `<`, the eight emphasis tags).
-/

namespace Astisub
namespace SRTRead2
open Go SRT SRTDoc
open Spec.SRT (GRun GCue Sty runsOf cueLines timing timeMs decodeBlock)

theorem trimSpace_idem (s : Str) : trimSpace (trimSpace s) = trimSpace s := Go.trimSpace_idem s

/-- decoder lines / reader lines: equal, except for the first line -/
def HeadRelL (dls mls : List Str) : Prop :=
  (dls = [] ∧ mls = []) ∨ ∃ d m rest, dls = d :: rest ∧ mls = m :: rest ∧ HeadRel d m

theorem headRelL_refl (ls : List Str) : HeadRelL ls ls := by
  cases ls with
  | nil => exact Or.inl ⟨rfl, rfl⟩
  | cons l ls => exact Or.inr ⟨l, l, ls, rfl, rfl, headRel_refl l⟩

open List in
/-- along the decoder's blocks (`Blocks.Cut`): from a state that holds `cues`, the reader on the lines `mls` (the decoder's
    lines `dls`, up to `HeadRelL` on the first) ends in a state that holds `cues` and the cues `cs` the decoder makes of the blocks -/
theorem main_cut {dls : List Str} {bs : List (List Str)} (hc : Blocks.Cut dls bs) :
    ∀ (mls : List Str), HeadRelL dls mls → ∀ (st : St) (cues : List GCue) (n : Nat), Good st cues n [] → (cues = [] ∨ 1 ≤ n) →
    ∀ cs, Spec.SRT.mapM decodeBlock bs = some cs → (∀ c ∈ cs, InRangeCue c) →
    runG st mls ≠ .unmodelled → ∃ st' n', runG st mls = .ok st' ∧ Good st' (cues ++ cs) n' [] := by
  -- one block `d :: tl` of the decoder, read from `st` with `m` in the place of `d`; `more` is what follows the block
  have one : ∀ {d m : Str} {tl more : List Str} {st : St} {cues : List GCue} {n : Nat} {c : GCue}, Good st cues n [] →
      (cues = [] ∨ 1 ≤ n) → HeadRel d m → (∀ l ∈ d :: tl, BLine l) → decodeBlock (d :: tl) = some c →
      InRangeCue c → runG st (m :: tl ++ more) ≠ .unmodelled →
      ∃ st1, runG st (m :: tl ++ more) = runG st1 more ∧ Good st1 (cues ++ [c]) 0 [] := by
    intro d m tl more st cues n c hg hn hdm hb hdc hr hm
    obtain ⟨st1, hrun, hg1⟩ := block_sim hg hn d m tl hdm c hdc hr
      (fun l hl => by rw [(hb l (mem_cons_of_mem _ hl)).1]; exact (hb l (mem_cons_of_mem _ hl)).2)
      (runG_prefix_modelled (a := m :: tl) hm)
    exact ⟨st1, by rw [runG_append, hrun], hg1⟩
  induction hc with
  | nil =>
    intro mls hrel st cues n hg _ cs hdec _ _
    rcases hrel with ⟨_, rfl⟩ | ⟨_, _, _, h, _, _⟩
    · cases hdec; exact ⟨st, n, rfl, by simpa using hg⟩
    · cases h
  | blank _ ih =>
    intro mls hrel st cues n hg _ cs hdec hr hm
    rcases hrel with ⟨h, _⟩ | ⟨d, m, rest, h, rfl, hdm⟩
    · cases h
    · cases h
      obtain rfl := (headRel_iff.mp hdm).nil rfl
      obtain ⟨st1, hstep, hg1⟩ := good_blank hg
      rw [runG_cons_ok _ hstep] at hm ⊢
      exact ih _ (headRelL_refl _) st1 cues (n + 1) hg1 (.inr (by omega)) cs hdec hr hm
  | @last b hne hb =>
    intro mls hrel st cues n hg hn cs hdec hr hm
    rcases hrel with ⟨h, _⟩ | ⟨d, m, tl, rfl, rfl, hdm⟩
    · exact absurd h hne
    · obtain ⟨c, cs', hdc, hdec', rfl⟩ := Spec.SRT.isMapM.cons_inv hdec
      cases hdec'
      rw [← append_nil (m :: tl)] at hm ⊢
      obtain ⟨st1, hrun, hg1⟩ := one hg hn hdm hb hdc (hr c mem_cons_self) hm
      exact ⟨st1, 0, hrun, hg1⟩
  | @group b ls bs hne hb _ ih =>
    intro mls hrel st cues n hg hn cs hdec hr hm
    obtain ⟨d, tl, rfl⟩ := exists_cons_of_ne_nil hne
    rcases hrel with ⟨h, _⟩ | ⟨d', m, rest, h, rfl, hdm⟩
    · cases h
    · rw [cons_append, cons.injEq] at h
      obtain ⟨rfl, rfl⟩ := h
      obtain ⟨c, cs', hdc, hdec', rfl⟩ := Spec.SRT.isMapM.cons_inv hdec
      rw [← cons_append] at hm ⊢
      obtain ⟨st1, hrun, hg1⟩ := one hg hn hdm hb hdc (hr c mem_cons_self) hm
      rw [hrun] at hm ⊢
      obtain ⟨st2, hstep, hg2⟩ := good_blank hg1
      rw [runG_cons_ok _ hstep] at hm ⊢
      obtain ⟨st3, n3, hrun3, hg3⟩ := ih _ (headRelL_refl _) st2 (cues ++ [c]) 1 hg2 (.inr (by omega)) cs' hdec'
        (fun x hx => hr x (mem_cons_of_mem _ hx)) hm
      exact ⟨st3, n3, hrun3, by simpa using hg3⟩

theorem stepG_lineNum {st st' : St} {l : Str} (h : stepG st l = .ok st') : st'.lineNum = st.lineNum + 1 := by
  unfold stepG at h
  split at h
  · dsimp only at h
    repeat' split at h
    all_goals first | (injection h with h; rw [← h]) | cases h
  · repeat' split at h
    all_goals first | (injection h with h; rw [← h]) | cases h

theorem run_eq_runG : ∀ (ls : List Str) (st : St), 1 ≤ st.lineNum →
    run st (ls.map some) = runG st (ls.map trimSpace) := by
  intro ls
  induction ls with
  | nil => intro st _; rfl
  | cons l ls ih =>
    intro st h
    have hp : prepLine st.lineNum l = trimSpace l := by
      unfold prepLine
      have : ¬ (st.lineNum + 1 = 1) := by omega
      simp only [this, ↓reduceIte]
    simp only [List.map_cons, run, runG, step_eq, hp]
    cases hs : stepG st (trimSpace l) with
    | ok st' => exact ih st' (by rw [stepG_lineNum hs]; omega)
    | err => rfl
    | unmodelled => rfl

theorem run_first (l : Str) (ls : List Str) :
    run {} ((l :: ls).map some) = runG {} (prepLine 0 l :: ls.map trimSpace) := by
  simp only [List.map_cons, run, runG, step_eq]
  cases hs : stepG {} (prepLine 0 l) with
  | ok st' => exact run_eq_runG ls st' (by rw [stepG_lineNum hs]; exact Nat.le_add_left 1 _)
  | err => rfl
  | unmodelled => rfl

theorem read_eq (lines : List (Option Str)) :
    read lines = match run {} lines with
      | .ok st => .ok (finish st)
      | .err => .err
      | .unmodelled => .unmodelled := rfl

def bomC : Char := Char.ofNat 0xFEFF

theorem bom_eq : bom = [bomC] := rfl
theorem bomC_not_space : isSpace bomC = false := by decide
theorem bomC_ne_dash : bomC ≠ '-' := by decide

/-- white space in front of `x` survives `trimRight` exactly when `x` has something else -/
theorem trimRight_ws_append (w x : Str) (hw : ∀ c ∈ w, isSpace c = true) :
    trimRight (w ++ x) = if trimRight x = [] then [] else w ++ trimRight x := by
  unfold trimRight
  rw [List.reverse_append]
  by_cases h : x.reverse.dropWhile isSpace = []
  · rw [List.dropWhile_append_of_pos (List.dropWhile_eq_nil_iff_all.mp h), h,
      List.dropWhile_eq_nil_iff_all.mpr (fun c hc => hw c (by simpa using hc))]
    simp
  · rw [List.dropWhile_append_of_ne _ _ _ h]
    have : (x.reverse.dropWhile isSpace).reverse ≠ [] := by simpa using h
    simp [this]

theorem timeMs_ws_append (w x : Str) (hw : ∀ c ∈ w, isSpace c = true) : timeMs (w ++ x) = timeMs x := by
  unfold Spec.SRT.timeMs
  rw [trimSpace_append_left hw x]

theorem contains_cons_ne (c : Char) (xs : Str) (h : c ≠ '-') : contains arrow (c :: xs) = contains arrow xs := by
  rw [contains]
  have : hasPrefix arrow (c :: xs) = false := by
    unfold hasPrefix; rw [show dropPrefix? arrow (c :: xs) = none from dropPrefix?_cons_ne (Ne.symm h) _ _]; rfl
  rw [this, Bool.false_or]

theorem contains_ws_append (w x : Str) (hw : ∀ c ∈ w, isSpace c = true) :
    contains arrow (w ++ x) = contains arrow x := by
  induction w with
  | nil => rfl
  | cons c w ih =>
    rw [List.cons_append, contains_cons_ne c _ (space_ne (hw c (by simp)) rfl)]
    exact ih (fun d hd => hw d (by simp [hd]))

theorem headRel_ws (w d : Str) (hw : ∀ c ∈ w, isSpace c = true) (hd : d ≠ []) : HeadRel d (w ++ d) := by
  refine headRel_iff.mpr { nil := fun e => absurd e hd, noArrow := fun h => by rw [contains_ws_append w d hw]; exact h, ofTiming := ?_ }
  intro s e ht hs he
  obtain ⟨l, r, e', rest, h1, h2, h3, h4⟩ := timing_parts ht
  have hsp : splitOn arrow (w ++ d) = consHead w (splitOn arrow d) :=
    splitOn_skip '-' _ (fun h => space_ne (hw _ h) rfl rfl) d
  rw [h1] at hsp
  exact timingOK_iff.mpr ⟨w ++ l, r, e', [], rest,
    { hasArrow := by rw [contains_ws_append w d hw]; exact timing_contains ht, split := hsp, endField := h2,
      start := parseSRT_of_timeMs (w ++ l) s (by rw [timeMs_ws_append w l hw]; exact h3) hs,
      stop := parseSRT_of_timeMs e' e h4 he }⟩

theorem timeMs_head {s : Str} {ms : Nat} (h : timeMs s = some ms) :
    ∃ k rest, k < 10 ∧ trimSpace s = digitChar k :: rest := by
  obtain ⟨sep, hms, frac, f, hh, m, sec, _, ht, _, _, hx, _⟩ := timeMs_fields h
  obtain ⟨k, r, hk, rfl⟩ := hx.head
  exact ⟨k, _, hk, ht⟩

theorem timing_bom_none (x : Str) : timing (bomC :: x) = none := by
  cases ht : timing (bomC :: x) with
  | none => rfl
  | some t =>
    exfalso
    obtain ⟨s, e⟩ := t
    obtain ⟨l, r, e', rest, h1, _, h3, _⟩ := timing_parts ht
    have hsp : splitOn arrow ([bomC] ++ x) = consHead [bomC] (splitOn arrow x) :=
      splitOn_skip '-' _ (fun h => bomC_ne_dash (List.mem_singleton.mp h).symm) x
    rw [List.singleton_append, h1] at hsp
    cases hx : splitOn arrow x with
    | nil => rw [hx] at hsp; cases hsp
    | cons h t =>
      rw [hx] at hsp
      injection hsp with hl _
      obtain ⟨k, rest', hk, hh⟩ := timeMs_head h3
      rw [hl] at hh
      unfold trimSpace at hh
      have : trimLeft ([bomC] ++ h) = bomC :: h := by
        simp [trimLeft, bomC_not_space]
      rw [this, trimRight_cons_ink bomC_not_space h] at hh
      injection hh with hh _
      exact digitChar_ne_of_not_isDigC hk (c := bomC) (by decide) hh.symm

theorem trimPrefix_bom_other (d : Str) (h : ∀ x, d ≠ bomC :: x) : trimPrefix bom d = d :=
  trimPrefix_bom_of_head (by
    cases d with
    | nil => nofun
    | cons c xs => intro e; exact h xs (by rw [Option.some.inj e]; rfl))

/-- first line of a document that does not begin with a byte order mark: the reader strips a mark
    that only shows after trimming, the decoder keeps it (an index line either way) -/
theorem headRel_strip (d : Str) : HeadRel d (trimPrefix bom d) := by
  by_cases h : ∃ x, d = bomC :: x
  · obtain ⟨x, rfl⟩ := h
    rw [show trimPrefix bom (bomC :: x) = x from Go.trimPrefix_bom_cons x]
    exact headRel_iff.mpr
      { nil := fun e => by cases e
        ofTiming := fun s e ht => by rw [timing_bom_none] at ht; cases ht
        noArrow := fun hc => by rw [contains_cons_ne bomC x bomC_ne_dash] at hc; exact hc }
  · rw [trimPrefix_bom_other d (fun x e => h ⟨x, e⟩)]
    exact headRel_refl d

/-- first line of a document that begins with a byte order mark: the decoder sees the trimmed line, the
    reader the line trimmed on the right only -/
theorem headRel_bom (l : Str) : HeadRel (trimSpace l) (trimPrefix bom (trimSpace (bomC :: l))) := by
  rw [show trimPrefix bom (trimSpace (bomC :: l)) = trimRight l from prep_bom l]
  have hl : l = l.takeWhile isSpace ++ trimLeft l := by
    unfold trimLeft; exact (List.takeWhile_append_dropWhile).symm
  have hw : ∀ c ∈ l.takeWhile isSpace, isSpace c = true := fun c hc => List.mem_takeWhile_imp hc
  have e2 : trimRight l = if trimSpace l = [] then [] else l.takeWhile isSpace ++ trimSpace l := by
    conv => lhs; rw [hl]
    exact trimRight_ws_append _ _ hw
  rw [e2]
  by_cases hb : trimSpace l = []
  · simp only [hb, ↓reduceIte]
    exact headRel_refl []
  · simp only [hb, ↓reduceIte]
    exact headRel_ws _ _ hw hb

theorem read_modelled {lines : List (Option Str)} (h : read lines ≠ .unmodelled) : run {} lines ≠ .unmodelled := by
  intro e; apply h; rw [read_eq, e]

theorem prepLine_bom : prepLine 0 [bomC] = [] := by decide

/-- **Core.** decoder lines `DL`, reader lines `ML`: the same lines, except that the first may differ as
    `HeadRel` allows (and a lone byte order mark is an empty document for the decoder) -/
theorem read_core (DL ML : List Str) (cues : List GCue)
    (hrel : (DL = [] ∧ (ML = [] ∨ ML = [[bomC]])) ∨
      ∃ l l' ls, DL = l :: ls ∧ ML = l' :: ls ∧ HeadRel (trimSpace l) (prepLine 0 l'))
    (hdec : Spec.SRT.mapM decodeBlock (Spec.SRT.blocks DL) = some cues) (hr : ∀ c ∈ cues, InRangeCue c)
    (hm : read (ML.map some) ≠ .unmodelled) :
    ∃ s, read (ML.map some) = .ok s ∧ Driver.srtView s = some cues := by
  have hm' := read_modelled hm
  rw [read_eq]
  rcases hrel with ⟨rfl, hML⟩ | ⟨l, l', ls, rfl, rfl, hh⟩
  · have : cues = [] := by
      simp only [Spec.SRT.blocks, Spec.SRT.blocks.go, List.isEmpty_nil, ↓reduceIte, Spec.SRT.mapM,
        Option.some.injEq] at hdec
      exact hdec.symm
    subst this
    rcases hML with rfl | rfl
    · exact ⟨finish {}, rfl, good_finish good_init⟩
    · rw [run_first, List.map_nil, prepLine_bom]
      obtain ⟨st1, hstep, hg1⟩ := good_blank good_init
      rw [runG_cons_ok _ hstep]
      exact ⟨finish st1, rfl, good_finish hg1⟩
  · rw [run_first] at hm' ⊢
    obtain ⟨st', n', hrun, hg⟩ := main_cut (Blocks.cut_blocks (l :: ls)) (prepLine 0 l' :: ls.map trimSpace)
      (Or.inr ⟨trimSpace l, prepLine 0 l', ls.map trimSpace, rfl, rfl, hh⟩) {} [] 0 good_init (Or.inl rfl) cues hdec hr hm'
    rw [hrun]
    exact ⟨finish st', rfl, by simpa using good_finish hg⟩

/-- **The read clause on the lines of a text.**  If the independent decoder accepts `text` as the cues
    `cues` (all hours fields within Go's `int`), and the reader model is defined on the lines of `text`
    (the HTML tokenizer model answers on every line), then the reader model succeeds and the view of
    its result is exactly `cues` -/
theorem read_decode_text (text : Str) (cues : List GCue) (h : Spec.SRT.decode text = some cues)
    (hr : ∀ c ∈ cues, InRangeCue c) (hm : read ((Spec.SRT.splitLines text []).map some) ≠ .unmodelled) :
    ∃ s, read ((Spec.SRT.splitLines text []).map some) = .ok s ∧ Driver.srtView s = some cues := by
  unfold Spec.SRT.decode at h
  by_cases hb : ∃ rest, text = bomC :: rest
  · obtain ⟨rest, rfl⟩ := hb
    have hd : Spec.SRT.mapM decodeBlock (Spec.SRT.blocks (Spec.SRT.splitLines rest [])) = some cues := by
      simpa [bomC] using h
    have hsplit : Spec.SRT.splitLines (bomC :: rest) [] = _ := splitLines_bom rest
    apply read_core (Spec.SRT.splitLines rest []) _ cues ?_ hd hr hm
    rw [hsplit]
    cases hL : Spec.SRT.splitLines rest [] with
    | nil => exact Or.inl ⟨rfl, Or.inr rfl⟩
    | cons l ls =>
      refine Or.inr ⟨l, bomC :: l, ls, rfl, rfl, ?_⟩
      exact headRel_bom l
  · have hd : Spec.SRT.mapM decodeBlock (Spec.SRT.blocks (Spec.SRT.splitLines text [])) = some cues := by
      cases text with
      | nil => exact h
      | cons c rest =>
        have : ¬ (c = Char.ofNat 0xFEFF) := fun e => hb ⟨rest, by rw [e]; rfl⟩
        simpa [this] using h
    apply read_core (Spec.SRT.splitLines text []) _ cues ?_ hd hr hm
    cases hL : Spec.SRT.splitLines text [] with
    | nil => exact Or.inl ⟨rfl, Or.inl rfl⟩
    | cons l ls =>
      refine Or.inr ⟨l, l, ls, rfl, rfl, ?_⟩
      exact headRel_strip (trimSpace l)

/-- one prepared line on which the reader model is defined, syntactically: it contains `-->` (a timing
    line for the reader: never tokenized), or it has no NUL and either no `<` or only text, stray `<` and
    emphasis tags as the decoder's run scanner accepts them -/
def LineClass (l : Str) : Bool :=
  contains arrow l || (!l.contains '\x00' && (!l.contains '<' || (runsOf (l.length + 2) l {} [] []).isSome))

theorem lineClass_tokenize {l : Str} (h : LineClass l = true) (hc : contains arrow l = false) :
    tokenize l ≠ .unmodelled := by
  unfold LineClass at h
  simp only [hc, Bool.false_or, Bool.and_eq_true, Bool.not_eq_true', Bool.or_eq_true] at h
  obtain ⟨h0, h1⟩ := h
  have h0' : '\x00' ∉ l := fun hm => by rw [List.contains_iff_mem.mpr hm] at h0; cases h0
  rcases h1 with h1 | h1
  · -- no `<`: the line is one text token (or empty)
    have h1' : '<' ∉ l := fun hm => by rw [List.contains_iff_mem.mpr hm] at h1; cases h1
    cases l with
    | nil => intro e; cases e
    | cons c cs =>
      rw [tokenize_text _ (by simp) (fun x hx => by
        have hx1 : x ≠ '<' := fun e => h1' (e ▸ hx)
        have hx0 : x ≠ '\x00' := fun e => h0' (e ▸ hx)
        simp [plainChar, hx1, hx0])]
      intro e; cases e
  · obtain ⟨res, hres⟩ := Option.isSome_iff_exists.mp h1
    rcases sim _ l {} [] [] ({}, []) res hres ⟨rfl, rfl⟩ with ⟨_, hn⟩ | ⟨ts, ht, _⟩
    · exact absurd hn h0'
    · rw [tokenize_eq_tokFrom, ht]; intro e; cases e

theorem parseText_unmodelled {l : Str} {sa : Run} (h : parseText l sa = .unmodelled) : tokenize l = .unmodelled := by
  unfold parseText at h
  split at h
  · cases h
  · cases hk : tokenize l with
    | unmodelled => rfl
    | ok toks => rw [hk] at h; cases h

theorem stepG_lineClass (st : St) {l : Str} (h : LineClass l = true) : stepG st l ≠ .unmodelled := by
  cases hc : contains arrow l with
  | true =>
    unfold stepG
    simp only [hc, ↓reduceIte]
    repeat' split
    all_goals (intro e; cases e)
  | false =>
    rw [stepG_plain st l hc]
    have ht := lineClass_tokenize h hc
    cases hp : parseText l st.sa with
    | unmodelled => exact absurd (parseText_unmodelled hp) ht
    | err => intro e; cases e
    | ok r => intro e; cases e

theorem runG_lineClass : ∀ (ls : List Str) (st : St), (∀ l ∈ ls, LineClass l = true) → runG st ls ≠ .unmodelled := by
  intro ls
  induction ls with
  | nil => intro st _ e; cases e
  | cons l ls ih =>
    intro st h
    have h1 := stepG_lineClass st (h l (by simp))
    simp only [runG]
    cases hs : stepG st l with
    | ok st' => exact ih st' (fun x hx => h x (by simp [hx]))
    | err => intro e; cases e
    | unmodelled => exact absurd hs h1

/-- the lines of a text as the reader prepares them: cut at LF / CRLF / CR, trimmed, a byte order mark
    removed from the front of the (trimmed) first line -/
def readerLines (text : Str) : List Str :=
  match Spec.SRT.splitLines text [] with
  | [] => []
  | l :: ls => prepLine 0 l :: ls.map trimSpace

theorem run_readerLines (text : Str) :
    run {} ((Spec.SRT.splitLines text []).map some) = runG {} (readerLines text) := by
  unfold readerLines
  cases Spec.SRT.splitLines text [] with
  | nil => rfl
  | cons l ls => exact run_first l ls

theorem read_lineClass (text : Str) (h : ∀ l ∈ readerLines text, LineClass l = true) :
    read ((Spec.SRT.splitLines text []).map some) ≠ .unmodelled := by
  rw [read_eq, run_readerLines]
  have := runG_lineClass (readerLines text) {} h
  cases hr : runG {} (readerLines text) with
  | ok st => intro e; cases e
  | err => intro e; cases e
  | unmodelled => exact absurd hr this

end SRTRead2
end Astisub
