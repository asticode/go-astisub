import Astisub.Lemmas.STLRead2View
import Astisub.Lemmas.EvalLit

/-!
# Lemmas/STLRead2Why — the predicate of the `stl.read` stream (`Driver.STLD.readWhy`) on the reader model's answer

`readWhy ig doc impl` parses the answer tokens `impl` into a `Subs` value `s` (`Proto.decSubs`) and evaluates nine
clauses on `s` against `Spec.STL.decode ig doc`.  Here: if `s` carries the reader model's answer — its cues are the
model's cues and its metadata attribute list carries the model's metadata (`MetaCarried`: what the clauses look up,
key by key) — every clause holds.  The canonical print / parse round trip itself (`decSubs ∘ encRead`) is outside
(it is exercised on every case by the stream).
-/

namespace Astisub
namespace C05
open Go STL Driver.STLD

/-- the attribute list `a` of an answer carries the metadata `m`, key by key, as `readWhy` looks it up (byte values
    through `utf8N`, numbers through `intOf`, absent = empty / zero — the conventions of `Driver.STLD.encMeta`) -/
structure MetaCarried (a : Attrs) (m : Meta) : Prop where
  framerate : ((kv a "Framerate").bind intOf).getD 0 = m.framerate
  dsc : ((kv a "STLDisplayStandardCode").map utf8N).getD [] = m.dsc
  language : ((kv a "Language").map utf8N).getD [] = m.language
  title : ((kv a "Title").map utf8N).getD [] = m.title
  origEpisode : ((kv a "STLOriginalEpisodeTitle").map utf8N).getD [] = m.origEpisode
  translProgram : ((kv a "STLTranslatedProgramTitle").map utf8N).getD [] = m.translProgram
  translEpisode : ((kv a "STLTranslatedEpisodeTitle").map utf8N).getD [] = m.translEpisode
  translName : ((kv a "STLTranslatorName").map utf8N).getD [] = m.translName
  translContact : ((kv a "STLTranslatorContactDetails").map utf8N).getD [] = m.translContact
  slr : ((kv a "STLSubtitleListReferenceCode").map utf8N).getD [] = m.slr
  country : ((kv a "STLCountryOfOrigin").map utf8N).getD [] = m.country
  publisher : ((kv a "STLPublisher").map utf8N).getD [] = m.publisher
  editorName : ((kv a "STLEditorName").map utf8N).getD [] = m.editorName
  editorContact : ((kv a "STLEditorContactDetails").map utf8N).getD [] = m.editorContact
  creation : ((kv a "STLCreationDate").map utf8N).getD [] = (m.creation.map formatDate).getD []
  revisionDate : ((kv a "STLRevisionDate").map utf8N).getD [] = (m.revisionDate.map formatDate).getD []
  revisionNumber : ((kv a "STLRevisionNumber").bind intOf).getD 0 = m.revisionNumber
  maxChars : kv a "STLMaximumNumberOfDisplayableCharactersInAnyTextRow" = m.maxChars.map fun v => (toString v).toList
  maxRows : kv a "STLMaximumNumberOfDisplayableRows" = m.maxRows.map fun v => (toString v).toList
  tcp : ((kv a "STLTimecodeStartOfProgramme").bind intOf).getD 0 = m.tcp

instance (a : Attrs) (m : Meta) : Decidable (MetaCarried a m) :=
  decidable_of_iff
    ((((kv a "Framerate").bind intOf).getD 0 = m.framerate ∧ ((kv a "STLDisplayStandardCode").map utf8N).getD [] = m.dsc ∧
      ((kv a "Language").map utf8N).getD [] = m.language ∧ ((kv a "Title").map utf8N).getD [] = m.title ∧
      ((kv a "STLOriginalEpisodeTitle").map utf8N).getD [] = m.origEpisode) ∧
     (((kv a "STLTranslatedProgramTitle").map utf8N).getD [] = m.translProgram ∧
      ((kv a "STLTranslatedEpisodeTitle").map utf8N).getD [] = m.translEpisode ∧
      ((kv a "STLTranslatorName").map utf8N).getD [] = m.translName ∧
      ((kv a "STLTranslatorContactDetails").map utf8N).getD [] = m.translContact ∧
      ((kv a "STLSubtitleListReferenceCode").map utf8N).getD [] = m.slr) ∧
     (((kv a "STLCountryOfOrigin").map utf8N).getD [] = m.country ∧ ((kv a "STLPublisher").map utf8N).getD [] = m.publisher ∧
      ((kv a "STLEditorName").map utf8N).getD [] = m.editorName ∧
      ((kv a "STLEditorContactDetails").map utf8N).getD [] = m.editorContact ∧
      ((kv a "STLCreationDate").map utf8N).getD [] = (m.creation.map formatDate).getD []) ∧
     (((kv a "STLRevisionDate").map utf8N).getD [] = (m.revisionDate.map formatDate).getD [] ∧
      ((kv a "STLRevisionNumber").bind intOf).getD 0 = m.revisionNumber ∧
      kv a "STLMaximumNumberOfDisplayableCharactersInAnyTextRow" = m.maxChars.map (fun v => (toString v).toList) ∧
      kv a "STLMaximumNumberOfDisplayableRows" = m.maxRows.map (fun v => (toString v).toList) ∧
      ((kv a "STLTimecodeStartOfProgramme").bind intOf).getD 0 = m.tcp))
    ⟨fun ⟨⟨a1, a2, a3, a4, a5⟩, ⟨b1, b2, b3, b4, b5⟩, ⟨c1, c2, c3, c4, c5⟩, ⟨d1, d2, d3, d4, d5⟩⟩ =>
      ⟨a1, a2, a3, a4, a5, b1, b2, b3, b4, b5, c1, c2, c3, c4, c5, d1, d2, d3, d4, d5⟩,
     fun h => ⟨⟨h.framerate, h.dsc, h.language, h.title, h.origEpisode⟩,
       ⟨h.translProgram, h.translEpisode, h.translName, h.translContact, h.slr⟩,
       ⟨h.country, h.publisher, h.editorName, h.editorContact, h.creation⟩,
       ⟨h.revisionDate, h.revisionNumber, h.maxChars, h.maxRows, h.tcp⟩⟩⟩

theorem toString_natCast (n : Nat) : toString ((n : Nat) : Int) = toString n := rfl

theorem language_table :
    (languageOf (lit "0F")).getD [] = lit "french" ∧ (languageOf (lit "09")).getD [] = lit "english" ∧
    (languageOf (lit "1E")).getD [] = lit "norwegian" ∧ (languageOf (lit "69")).getD [] = lit "japanese" ∧
    (languageOf (lit "75")).getD [] = lit "chinese" := by
  unfold lit
  decide_vector

theorem beq_ite {α} [BEq α] [LawfulBEq α] {c : Bool} {x a b : α} (h1 : c = true → x = a) (h2 : (x == b) = true) :
    (x == if c = true then a else b) = true := by
  cases c
  · exact h2
  · exact beq_of_eq (h1 rfl)

/-- the language clause: for the five codes the library names, the name; otherwise nothing is claimed -/
theorem language_clause (lang : Bytes) :
    ((languageOf lang).getD [] ==
      (if lang == asc "0F" then asc "french" else if lang == asc "09" then asc "english"
       else if lang == asc "1E" then asc "norwegian" else if lang == asc "69" then asc "japanese"
       else if lang == asc "75" then asc "chinese" else (languageOf lang).getD [])) = true := by
  obtain ⟨l1, l2, l3, l4, l5⟩ := language_table
  refine beq_ite (fun h => by rw [eq_of_beq h]; exact l1) ?_
  refine beq_ite (fun h => by rw [eq_of_beq h]; exact l2) ?_
  refine beq_ite (fun h => by rw [eq_of_beq h]; exact l3) ?_
  refine beq_ite (fun h => by rw [eq_of_beq h]; exact l4) ?_
  exact beq_ite (fun h => by rw [eq_of_beq h]; exact l5) (beq_self_eq_true _)

theorem texts_eleven (l : List Bytes) (hl : l.length = 11) :
    [l.getD 0 [], l.getD 1 [], l.getD 2 [], l.getD 3 [], l.getD 4 [], l.getD 5 [], l.getD 6 [], l.getD 7 [], l.getD 8 [],
     l.getD 9 [], l.getD 10 []] = l :=
  match l, hl with
  | [_, _, _, _, _, _, _, _, _, _, _], _ => rfl

theorem cues_view (ig : Bool) (doc : Bytes) (d : Spec.STL.Doc) (h : Spec.STL.decode ig doc = some d)
    (items : List CItem) (hi : items = d.cues.map (docCue d.dsc (d.mnr : Int))) :
    items.map (fun it => (it.startAt, it.endAt)) = d.cues.map (fun c => (c.startNs, c.endNs)) ∧
    items.map cueView = d.cues.map some ∧ items.all propagationOK = true ∧
    (items.all fun it => (posOf it.attrs).any fun p => p.2.1 == (d.mnr : Int)) = true := by
  have hok := decode_cues_ok ig doc d h
  subst hi
  refine ⟨by rw [List.map_map]; rfl, ?_, ?_, ?_⟩
  · rw [List.map_map]
    exact List.map_congr_left fun c hc => cueView_docCue d.dsc d.mnr c (hok c hc)
  · rw [List.all_eq_true]
    intro it hit
    obtain ⟨c, hc, rfl⟩ := List.mem_map.mp hit
    exact propagationOK_docCue d.dsc d.mnr c (hok c hc)
  · rw [List.all_eq_true]
    intro it hit
    obtain ⟨c, _, rfl⟩ := List.mem_map.mp hit
    exact maxRows_docCue d.dsc d.mnr c

theorem readWhy_model (ig : Bool) (doc : Bytes) (d : Spec.STL.Doc) (rest : List String) (s : Subs)
    (h : Spec.STL.decode ig doc = some d) (hdec : Proto.decSubs rest = some (s, []))
    (hitems : s.items = d.cues.map (docCue d.dsc (d.mnr : Int))) (hmeta : MetaCarried s.metadata (docMeta d)) :
    readWhy ig doc ("ok" :: rest) = [] := by
  have k1 : (s.items.length == d.cues.length) = true := by rw [hitems]; simp
  obtain ⟨k2, k3, k4, k5⟩ := cues_view ig doc d h s.items hitems
  unfold readWhy
  rw [h]
  simp only [hdec, hmeta.framerate, hmeta.dsc, hmeta.language, hmeta.title, hmeta.origEpisode, hmeta.translProgram,
    hmeta.translEpisode, hmeta.translName, hmeta.translContact, hmeta.slr, hmeta.country, hmeta.publisher, hmeta.editorName,
    hmeta.editorContact, hmeta.revisionNumber, hmeta.tcp, hmeta.creation, hmeta.revisionDate, hmeta.maxChars, hmeta.maxRows,
    docMeta, Option.map_some, Option.getD_some, formatDate, show ∀ n, STL.two n = Driver.STLD.two n from fun _ => rfl,
    toString_natCast, k1, k2, k3, k4, k5, texts_eleven d.texts (decode_inv ig doc d h).texts, language_clause, beq_self_eq_true, Bool.and_self, clause,
    if_true, List.append_nil]

end C05
end Astisub
