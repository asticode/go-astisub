import Astisub.Lemmas.VTT2View
import Astisub.Lemmas.VTTRead2TagView
import Astisub.Lemmas.VTT3WDocDefs
import Astisub.Lemmas.MapMOpt

/-!
# Lemmas/VTT3WView — W2, view part: the view of the reader's answer is the view the check expects

`view_wanted2`: for a cue list satisfying `DocOk` whose timestamp map (if it has one in the
two-part shape) has a `LOCAL` value that is a whole number of milliseconds (`viewW2`), the
normalised view of `VTT.wanted2 s` — what the reader model returns for the written document,
`C02doc2.write_read_doc_bytes` — is the normalised view of `Driver.vttWanted s`, and that view
exists.  This is what the `vtt.write` case of `Driver/VTT.lean` compares.

`wanted2 s` is `VTT.result` of an explicit final state of the reader's loop (`wantedSt`, `wanted2_eq_result`), so its normalised
view is the read clause's view of a final state (`VTTRead.view_norm_result`: cues, sorted regions, CSS lines, timestamp map as the
state holds them); what is left is to compare that, field by field, with the view of `Driver.vttWanted s`:
* cues — `cueView_normCue`: the view does not see what `VTT.normCue` erases (of the run attributes only the tag
  stack is looked at, and the tags of an attribute list are canonical, `VTTRead.tagsOfAttrs_idem`); `cues_isSome`:
  under `DocOk` the view exists;
* regions — `regionView` ignores `ref`; `VTT.sortDefs` is `Proto.sortDefs`; sorted twice = once;
* CSS lines — the same lines on both sides (they hold no LF under `DocOk`, which the state's view needs);
* timestamp map — `tsmapVal_view`: the check parses the ORIGINAL metadata string, `wanted2` holds `LOCAL`
  truncated to the millisecond and re-printed: equal iff `LOCAL % 1000000 = 0` (`viewW2`;
  counter-example `VTT.exDoc`, LOCAL = 10000000123: `exDoc_not_viewW2`, `exDoc_tsmap_differs`).
  Non-canonical decimals (`+010…`, `-09…`) are harmless: both sides compare parsed integers.
-/

namespace Astisub
namespace VTT3W
open Go List VTTRead

theorem runView_normRun (li : LItem) : runView (VTT.normRun li) = runView li := by
  unfold runView VTT.normRun
  simp only
  rw [tagsOfAttrs_idem]

theorem lineView_normLine (l : Line) :
    lineView { l with items := l.items.map VTT.normRun } = lineView l := by
  unfold lineView
  simp only
  rw [Spec.VTT.isMapM.map_congr runView VTT.normRun l.items (fun x _ => runView_normRun x)]

theorem cueView_normCue (c : CItem) : cueView (VTT.normCue c) = cueView c := by
  unfold cueView VTT.normCue
  simp only
  rw [Spec.VTT.isMapM.map_congr lineView (fun l : Line => { l with items := l.items.map VTT.normRun }) c.lines
    (fun l _ => lineView_normLine l)]

theorem cues_wanted2 (s : Subs) :
    Spec.VTT.mapM cueView (VTT.wanted2 s).items = Spec.VTT.mapM cueView (Driver.vttWanted s).items := by
  rw [VTT.wanted2_items, Spec.VTT.isMapM.map_congr cueView VTT.normCue _ (fun c _ => cueView_normCue c)]

theorem trunc_mod (x : Int) : (x - x % 1000000) % 1000000 = 0 := by omega

theorem trunc_nonneg (x : Int) (h : 0 ≤ x) : ¬ (x - x % 1000000 < 0) := by omega

theorem runView_isSome (li : LItem) (h1 : li.startAt % 1000000 = 0) (h2 : ¬ li.startAt < 0) :
    (runView li).isSome = true := by
  unfold runView
  have : (decide (li.startAt % 1000000 ≠ 0) || decide (li.startAt < 0)) = false := by
    simp only [ne_eq, h1, not_true_eq_false, decide_false, h2, Bool.or_self]
  rw [if_neg (by rw [this]; exact Bool.false_ne_true)]
  rfl

theorem lineView_isSome (l : Line) (h : ∀ li ∈ l.items, li.startAt % 1000000 = 0 ∧ ¬ li.startAt < 0) :
    (lineView l).isSome = true := by
  unfold lineView
  have := Spec.VTT.isMapM.isSome runView l.items (fun li hli => runView_isSome li (h li hli).1 (h li hli).2)
  cases hm : Spec.VTT.mapM runView l.items with
  | none => rw [hm] at this; cases this
  | some runs => rfl

theorem cueView_isSome (c : CItem) (h1 : c.startAt % 1000000 = 0) (h2 : c.endAt % 1000000 = 0)
    (h3 : ¬ c.startAt < 0) (h4 : ¬ c.endAt < 0)
    (hl : ∀ l ∈ c.lines, ∀ li ∈ l.items, li.startAt % 1000000 = 0 ∧ ¬ li.startAt < 0) :
    (cueView c).isSome = true := by
  unfold cueView
  have hc : (decide (c.startAt % 1000000 ≠ 0) || decide (c.endAt % 1000000 ≠ 0) || decide (c.startAt < 0)
      || decide (c.endAt < 0)) = false := by
    simp only [ne_eq, h1, h2, not_true_eq_false, decide_false, h3, h4, Bool.or_self]
  rw [if_neg (by rw [hc]; exact Bool.false_ne_true)]
  have := Spec.VTT.isMapM.isSome lineView c.lines (fun l hl' => lineView_isSome l (hl l hl'))
  cases hm : Spec.VTT.mapM lineView c.lines with
  | none => rw [hm] at this; cases this
  | some lines => rfl

/-- a cue of `Driver.vttWanted` -/
def wcue (s : Subs) (it : CItem) (k : Nat) : CItem :=
  { it with index := (k : Int) + 1,
            startAt := it.startAt - it.startAt % 1000000, endAt := it.endAt - it.endAt % 1000000,
            attrs := some (mkAttrs [("WebVTTAlign", VTT.fallback it.attrs (VTT.styleAttrs s it.style) "WebVTTAlign"),
              ("WebVTTLine", VTT.fallback it.attrs (VTT.styleAttrs s it.style) "WebVTTLine"),
              ("WebVTTPosition", VTT.fallback it.attrs (VTT.styleAttrs s it.style) "WebVTTPosition"),
              ("WebVTTSize", VTT.fallback it.attrs (VTT.styleAttrs s it.style) "WebVTTSize"),
              ("WebVTTVertical", VTT.fallback it.attrs (VTT.styleAttrs s it.style) "WebVTTVertical")]),
            lines := it.lines.map fun l =>
              { l with items := l.items.map fun li => { li with startAt := li.startAt - li.startAt % 1000000 } } }

theorem vttWanted_items (s : Subs) :
    (Driver.vttWanted s).items = s.items.zipIdx.map (fun x => wcue s x.1 x.2) := rfl

theorem wcue_startAt (s : Subs) (it : CItem) (k : Nat) :
    (wcue s it k).startAt = it.startAt - it.startAt % 1000000 := rfl
theorem wcue_endAt (s : Subs) (it : CItem) (k : Nat) :
    (wcue s it k).endAt = it.endAt - it.endAt % 1000000 := rfl
theorem wcue_lines (s : Subs) (it : CItem) (k : Nat) :
    (wcue s it k).lines = it.lines.map fun l =>
      { l with items := l.items.map fun li => { li with startAt := li.startAt - li.startAt % 1000000 } } := rfl

/-- the instants of a cue are not negative -/
structure CueTimes (it : CItem) : Prop where
  s0 : 0 ≤ it.startAt
  e0 : 0 ≤ it.endAt
  runs : ∀ l ∈ it.lines, ∀ li ∈ l.items, 0 ≤ li.startAt

theorem cueTimes_of_ok {s : Subs} {it : CItem} (h : VTT.cueOk2 s it = true) : CueTimes it := by
  have C := VTT.cueOk2_iff.mp h
  refine ⟨C.s0, C.e0, ?_⟩
  intro l hl li hli
  have hlo := (VTT.lineFit_facts (C.lines l hl)).ok
  simp only [VTT.lineOk, Bool.and_eq_true, all_eq_true] at hlo
  exact (VTT.runOk_facts (hlo.1.2 li hli)).t0

theorem cueView_wcue (s : Subs) (it : CItem) (k : Nat) (h : CueTimes it) :
    (cueView (wcue s it k)).isSome = true := by
  apply cueView_isSome
  · rw [wcue_startAt]; exact trunc_mod _
  · rw [wcue_endAt]; exact trunc_mod _
  · rw [wcue_startAt]; exact trunc_nonneg _ h.s0
  · rw [wcue_endAt]; exact trunc_nonneg _ h.e0
  · intro l hl li hli
    rw [wcue_lines] at hl
    simp only [mem_map] at hl
    obtain ⟨l0, hl0, rfl⟩ := hl
    simp only [mem_map] at hli
    obtain ⟨li0, hli0, rfl⟩ := hli
    exact ⟨trunc_mod _, trunc_nonneg _ (h.runs l0 hl0 li0 hli0)⟩

theorem cues_isSome (s : Subs) (hok : VTT.DocOk s = true) :
    (Spec.VTT.mapM cueView (Driver.vttWanted s).items).isSome = true := by
  have F := VTT.docOk_facts hok
  rw [vttWanted_items]
  apply Spec.VTT.isMapM.isSome
  intro c hc
  simp only [mem_map] at hc
  obtain ⟨x, hx, rfl⟩ := hc
  exact cueView_wcue s x.1 x.2 (cueTimes_of_ok (F.cues x.1 (List.fst_mem_of_mem_zipIdx hx)))

/-- the `LOCAL` value of the timestamp map, as the check's view parses it, is a whole number of
    milliseconds (no timestamp map, or one that is not written at all: nothing to ask) -/
def viewW2 (s : Subs) : Bool :=
  match tsmapView s with
  | some (l, _) => l % 1000000 == 0
  | none => true

/-- `VTT.exDoc` with a `LOCAL` value carried exactly (written with a sign and a leading zero) -/
def exDocV : Subs :=
  { VTT.exDoc with metadata := some [("WebVTTTimestampMap".toList, "+010000000000,-0900000".toList)] }

example : viewW2 exDocV = true := by unfold exDocV; decide_vector
example : tsmapView exDocV = some (10000000000, -900000) := by unfold exDocV; decide_vector

/-- the witness for the proviso: `VTT.exDoc` (`DocOk`) has `LOCAL = 10000000123` -/
theorem exDoc_not_viewW2 : viewW2 VTT.exDoc = false := by unfold VTT.exDoc; decide_vector

/-- … and there the two views differ: the check sees the original value, the reader's answer the truncated one -/
theorem exDoc_tsmap_differs :
    tsmapView (Driver.vttWanted VTT.exDoc) = some (10000000123, -900000) ∧
    VTT.tsmapVal VTT.exDoc = some (10000000000, -900000) := by unfold VTT.exDoc; decide_vector

theorem regionView_noref (ds : List Def) :
    (ds.map fun d => ({ d with ref := none } : Def)).map regionView = ds.map regionView := by
  rw [map_map]
  apply map_congr_left
  intro d _
  rfl

/-- the final loop state of the reader on the written document: `wanted2 s` is its `VTT.result`, so the view of `wanted2 s`
    is the read clause's view of a final state (`VTTRead.view_norm_result`) -/
def wantedSt (s : Subs) : VTT.St :=
  { done := s.items.zipIdx.map fun x => VTT.readCue2 s x.2 x.1, regions := VTT.readRegions s,
    styleSeen := !(VTT.styleLines s).isEmpty, styles := VTT.styleLines s, tsmap := VTT.tsmapVal s }

theorem wanted2_eq_result (s : Subs) : VTT.wanted2 s = VTT.result (wantedSt s) := by
  unfold VTT.wanted2 VTT.result wantedSt VTT.flush
  cases (VTT.styleLines s).isEmpty <;> simp

theorem trunc_whole (l : Int) (h : l % 1000000 = 0) : l - l % 1000000 = l := by omega

theorem tsmapVal_view (s : Subs) (hok : VTT.tsmapOk s = true) (hx : viewW2 s = true) :
    (∀ l m, VTT.tsmapVal s = some (l, m) → Go.Int64 l ∧ Go.Int64 m) ∧ VTT.tsmapVal s = tsmapView s := by
  have h := VTT.tsmap_of_parts s
  have h' := tsmapView_of_parts s
  unfold viewW2 at hx
  cases hp : VTT.tsmapParts s with
  | none => rw [hp] at h h'; rw [h.2.1, h'.1]; exact ⟨fun _ _ e => (nomatch e), rfl⟩
  | some p =>
    obtain ⟨l, m⟩ := p
    rw [hp] at h h'
    obtain ⟨_, hV, hO⟩ := h
    have hview := h'.1
    rw [hO, Bool.and_eq_true] at hok
    cases hal : atoi l with
    | none => rw [hal] at hok; cases hok.1
    | some lv =>
      cases ham : atoi m with
      | none => rw [ham] at hok; cases hok.2
      | some mv =>
        rw [hal] at hok
        simp only [hal, ham, Option.getD_some, Bool.and_eq_true, decide_eq_true_eq] at hV hview hok
        rw [hview] at hx ⊢
        simp only [beq_iff_eq] at hx
        rw [trunc_whole lv hx] at hV
        refine ⟨fun l' m' e => ?_, hV⟩
        cases hV.symm.trans e
        exact ⟨by unfold Go.Int64; omega, by have := atoi_range ham; unfold Go.Int64; omega⟩

theorem view_wanted2 (s : Subs) (hok : VTT.DocOk s = true) (hx : viewW2 s = true) :
    (Driver.vttView (Driver.vttWanted s)).isSome = true ∧
    (Driver.vttView (VTT.wanted2 s)).map Spec.VTT.norm = (Driver.vttView (Driver.vttWanted s)).map Spec.VTT.norm := by
  have F := VTT.docOk_facts hok
  have hsome := cues_isSome s hok
  obtain ⟨hts, hv⟩ := tsmapVal_view s F.ts hx
  rw [vttView_eq (Driver.vttWanted s)]
  cases hm : Spec.VTT.mapM cueView (Driver.vttWanted s).items with
  | none => rw [hm] at hsome; cases hsome
  | some cues =>
    refine ⟨rfl, ?_⟩
    have hc : Spec.VTT.mapM cueView (VTT.flush (wantedSt s)) = some cues := (cues_wanted2 s).trans hm
    rw [wanted2_eq_result, view_norm_result (wantedSt s) cues hc (fun h => List.isEmpty_iff.mp (by simpa [wantedSt] using h))
      (fun l hl => (VTT.wline_styleLine (F.sty l hl)).one.1) hts]
    simp only [Option.map_some, norm_eq]
    -- the cues and CSS lines agree as they stand, the timestamp map by `hv`; the regions are left
    congr 2
    show Spec.VTT.sortRegions ((VTT.wanted2 s).regions.map regionView) = _
    rw [VTT.wanted2_regions, regionView_noref, VTT.sortDefs_eq, regions_result]

theorem viewW2_of_none (s : Subs) (h : SRT.kvGet s.metadata "WebVTTTimestampMap" = none) : viewW2 s = true := by
  have h2 : tsmapView s = none := by unfold tsmapView; rw [h]
  unfold viewW2
  rw [h2]

/-- **W2, view part, no timestamp map**: no extra proviso (the hypotheses on regions and CSS lines are not used) -/
theorem view_wanted2_simple (s : Subs) (hok : VTT.DocOk s = true)
    (_hreg : s.regions = []) (_hsty : VTT.styleLines s = [])
    (hmeta : SRT.kvGet s.metadata "WebVTTTimestampMap" = none) :
    (Driver.vttView (Driver.vttWanted s)).isSome = true ∧
    (Driver.vttView (VTT.wanted2 s)).map Spec.VTT.norm = (Driver.vttView (Driver.vttWanted s)).map Spec.VTT.norm :=
  view_wanted2 s hok (viewW2_of_none s hmeta)

theorem exDocV_ok : VTT.DocOk exDocV = true := docOk_metadata VTT.exDoc_ok _ (by decide_vector)

/-- the theorem applies to a document with comments, regions, a CSS block and a timestamp map -/
theorem view_wanted2_example :
    (Driver.vttView (Driver.vttWanted exDocV)).isSome = true ∧
    (Driver.vttView (VTT.wanted2 exDocV)).map Spec.VTT.norm
      = (Driver.vttView (Driver.vttWanted exDocV)).map Spec.VTT.norm :=
  view_wanted2 exDocV exDocV_ok (by decide_vector)

end VTT3W
end Astisub
