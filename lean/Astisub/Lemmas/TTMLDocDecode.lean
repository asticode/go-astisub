import Astisub.Lemmas.TTMLDocElems
import Astisub.Lemmas.TTMLDocBody

/-!
# Lemmas/TTMLDocDecode — `unmarshal` (the `encoding/xml` contract) on the output of `TTML.write`

The decoder state machine of `Lemmas/TTMLDocXml` is run over the writer's token sequence, segment by
segment; the result is the `TTMLIn` value `tinOfSubs ix s`, given explicitly.
-/

namespace Astisub
namespace TTMLDoc
open Go TTML List

theorem lnc_head : localName ['h', 'e', 'a', 'd'] = ['h', 'e', 'a', 'd'] := by decide
theorem lnc_metadata : localName ['m', 'e', 't', 'a', 'd', 'a', 't', 'a'] = ['m', 'e', 't', 'a', 'd', 'a', 't', 'a'] := by decide
theorem lnc_styling : localName ['s', 't', 'y', 'l', 'i', 'n', 'g'] = ['s', 't', 'y', 'l', 'i', 'n', 'g'] := by decide
theorem lnc_layout : localName ['l', 'a', 'y', 'o', 'u', 't'] = ['l', 'a', 'y', 'o', 'u', 't'] := by decide
theorem lnc_body : localName ['b', 'o', 'd', 'y'] = ['b', 'o', 'd', 'y'] := by decide
theorem lnc_div : localName ['d', 'i', 'v'] = ['d', 'i', 'v'] := by decide
theorem lnc_xmlns : localName ['x', 'm', 'l', 'n', 's'] = ['x', 'm', 'l', 'n', 's'] := by decide
theorem lnc_xmllang : localName ['x', 'm', 'l', ':', 'l', 'a', 'n', 'g'] = ['l', 'a', 'n', 'g'] := by decide
theorem lnc_xmlnsttm : localName ['x', 'm', 'l', 'n', 's', ':', 't', 't', 'm'] = ['t', 't', 'm'] := by decide
theorem lnc_xmlnstts : localName ['x', 'm', 'l', 'n', 's', ':', 't', 't', 's'] = ['t', 't', 's'] := by decide
theorem lnc_tt : localName ['t', 't'] = ['t', 't'] := by decide
theorem lnc_copyright : localName ['t', 't', 'm', ':', 'c', 'o', 'p', 'y', 'r', 'i', 'g', 'h', 't'] = ['c', 'o', 'p', 'y', 'r', 'i', 'g', 'h', 't'] := by decide
theorem lnc_title : localName ['t', 't', 'm', ':', 't', 'i', 't', 'l', 'e'] = ['t', 'i', 't', 'l', 'e'] := by decide
theorem lnc_style : localName ['s', 't', 'y', 'l', 'e'] = ['s', 't', 'y', 'l', 'e'] := by decide
theorem lnc_region : localName ['r', 'e', 'g', 'i', 'o', 'n'] = ['r', 'e', 'g', 'i', 'o', 'n'] := by decide
theorem lnc_p : localName ['p'] = ['p'] := by decide
theorem ln_tt : localName "tt".toList = ['t', 't'] := by decide_vector
theorem ln_copyright : localName "ttm:copyright".toList = ['c', 'o', 'p', 'y', 'r', 'i', 'g', 'h', 't'] := by decide_vector
theorem ln_title : localName "ttm:title".toList = ['t', 'i', 't', 'l', 'e'] := by decide_vector
theorem ln_style : localName "style".toList = ['s', 't', 'y', 'l', 'e'] := by decide_vector
theorem ln_region : localName "region".toList = ['r', 'e', 'g', 'i', 'o', 'n'] := by decide_vector
theorem ln_p : localName "p".toList = ['p'] := by decide_vector

abbrev pTT : List Str := [['t', 't']]
abbrev pHead : List Str := ['h', 'e', 'a', 'd'] :: pTT
abbrev pMeta : List Str := ['m', 'e', 't', 'a', 'd', 'a', 't', 'a'] :: pHead
abbrev pStyling : List Str := ['s', 't', 'y', 'l', 'i', 'n', 'g'] :: pHead
abbrev pLayout : List Str := ['l', 'a', 'y', 'o', 'u', 't'] :: pHead
abbrev pBody : List Str := ['b', 'o', 'd', 'y'] :: pTT
abbrev pDiv : List Str := ['d', 'i', 'v'] :: pBody
abbrev pPara : List Str := ['p'] :: pDiv

section steps
variable (ix : List XTok → Str) {st : DSt} (hf : st.finished = false) (hc : st.cur = none)
include hf hc

theorem step_open (n : String) {l : Str} (a : List (Str × Str)) (hl : localName n.toList = l) (hne : st.path ≠ [])
    (hx : ctxOf (l :: st.path) = .other) :
    step ix st (.start n.toList a) = some { st with path := l :: st.path } := by
  have he : st.path.isEmpty = false := by cases h : st.path <;> simp_all
  simp [step, hf, hc, hl, hx, he]

theorem step_close (n : Str) {l : Str} {rest : List Str} (hp : st.path = l :: rest) (hne : rest ≠ [])
    (h1 : ctxOf (l :: rest) ≠ .title) (h2 : ctxOf (l :: rest) ≠ .copyright) :
    step ix st (.stop n) = some { st with path := rest } := by
  have he : rest.isEmpty = false := by cases rest <;> simp_all
  -- `cases st`: the state as a record, so that the hypotheses about its fields rewrite `{ st with … }` (here and below)
  cases st
  cases h : ctxOf (l :: rest) <;> simp_all [step]

theorem step_style (d : Def) (hok : attrsOk d.attrs = true) (hp : st.path = pStyling) :
    step ix st (.start "style".toList (headerAttrs d))
      = some { st with path := ['s', 't', 'y', 'l', 'e'] :: pStyling, styles := st.styles ++ [inDef d] } := by
  have hx : ctxOf (['s', 't', 'y', 'l', 'e'] :: pStyling) = .style := by decide
  simp [step, hf, hc, hp, lnc_style, hx, mkDef_header d hok]

theorem step_region (d : Def) (hok : attrsOk d.attrs = true) (hp : st.path = pLayout) :
    step ix st (.start "region".toList (headerAttrs d))
      = some { st with path := ['r', 'e', 'g', 'i', 'o', 'n'] :: pLayout, regions := st.regions ++ [inDef d] } := by
  have hx : ctxOf (['r', 'e', 'g', 'i', 'o', 'n'] :: pLayout) = .region := by decide
  simp [step, hf, hc, hp, lnc_region, hx, mkDef_header d hok]

end steps

/-- a run over the concatenation of one token group per list element, each group appending one entry -/
theorem run_groups {α β : Type} (ix : List XTok → Str) (toks : α → List WTok) (g : α → β) (S : List β → DSt)
    (l : List α) (h : ∀ a ∈ l, ∀ acc, run ix (toks a) (S acc) = some (S (acc ++ [g a]))) :
    ∀ acc, run ix ((l.map toks).flatten) (S acc) = some (S (acc ++ l.map g)) := by
  induction l with
  | nil => intro acc; simp [run]
  | cons a l ih =>
    intro acc
    rw [map_cons, flatten_cons, run_append_some _ (h a (by simp) acc), ih fun x hx => h x (by simp [hx])]
    simp

/-- an element that is no field of `TTMLIn` and has only elements inside (`styling`, `layout`, `div`): entered, its
    content run, left -/
theorem run_elem (ix : List XTok → Str) (n : String) {l : Str} (hl : localName n.toList = l) {st st' : DSt}
    (hf : st.finished = false) (hc : st.cur = none) (hne : st.path ≠ []) (hx : ctxOf (l :: st.path) = .other)
    (inner rest : List WTok) (hin : run ix inner { st with path := l :: st.path } = some st')
    (hf' : st'.finished = false) (hc' : st'.cur = none) (hp' : st'.path = l :: st.path) :
    run ix (.start n.toList [] :: (inner ++ .stop n.toList :: rest)) st = run ix rest { st' with path := st.path } := by
  rw [run, step_open ix hf hc n [] hl hne hx]
  show run ix (inner ++ _) _ = _
  rw [run_append_some _ hin, run, step_close ix hf' hc' _ hp' hne (by rw [hx]; decide) (by rw [hx]; decide)]

/-- the attributes of `<tt>` -/
def rootAttrs (m : Attrs) : List (Str × Str) :=
  [("xmlns".toList, "http://www.w3.org/ns/ttml".toList)] ++ optAttr "xml:lang" (langOut m) ++
    [("xmlns:ttm".toList, "http://www.w3.org/ns/ttml#metadata".toList),
     ("xmlns:tts".toList, "http://www.w3.org/ns/ttml#styling".toList)]

/-- the `xml:lang` the decoder sees -/
def langIn (m : Attrs) : Str := (normRef (langOut m)).getD []

/-- the values `<tt>` carries under a local name: only `xml:lang` can be one of the decoder's fields -/
theorem allAttr_rootAttrs (m : Attrs) (nm : String) (h1 : nm.toList ≠ ['x', 'm', 'l', 'n', 's'])
    (h2 : nm.toList ≠ ['t', 't', 'm']) (h3 : nm.toList ≠ ['t', 't', 's']) :
    allAttr (rootAttrs m) nm = if ['l', 'a', 'n', 'g'] = nm.toList then (normRef (langOut m)).toList else [] := by
  have e1 : "xmlns".toList = ['x', 'm', 'l', 'n', 's'] := String.toList_ofList
  have e2 : "xml:lang".toList = ['x', 'm', 'l', ':', 'l', 'a', 'n', 'g'] := String.toList_ofList
  have e3 : "xmlns:ttm".toList = ['x', 'm', 'l', 'n', 's', ':', 't', 't', 'm'] := String.toList_ofList
  have e4 : "xmlns:tts".toList = ['x', 'm', 'l', 'n', 's', ':', 't', 't', 's'] := String.toList_ofList
  rw [rootAttrs, allAttr_append, allAttr_append, allAttr_cons, allAttr_cons, allAttr_cons, allAttr_optAttr, e1, e2, e3,
    e4, lnc_xmlns, lnc_xmllang, lnc_xmlnsttm, lnc_xmlnstts, if_neg (Ne.symm h1), if_neg (Ne.symm h2),
    if_neg (Ne.symm h3)]
  simp only [allAttr, filter_nil, map_nil, nil_append, append_nil]

theorem rootAttrs_fields (m : Attrs) :
    lastAttr (rootAttrs m) "frameRate" = [] ∧ lastAttr (rootAttrs m) "tickRate" = [] ∧
    lastAttr (rootAttrs m) "lang" = langIn m := by
  refine ⟨?_, ?_, ?_⟩
  · rw [lastAttr_eq, allAttr_rootAttrs m _ (by decide_vector) (by decide_vector) (by decide_vector),
      if_neg (by decide_vector)]; rfl
  · rw [lastAttr_eq, allAttr_rootAttrs m _ (by decide_vector) (by decide_vector) (by decide_vector),
      if_neg (by decide_vector)]; rfl
  · rw [lastAttr_eq, allAttr_rootAttrs m _ (by decide_vector) (by decide_vector) (by decide_vector),
      if_pos String.toList_ofList.symm, toList_getLast]; rfl

theorem run_root (ix : List XTok → Str) (m : Attrs) :
    run ix [.start "tt".toList (rootAttrs m), .start "head".toList []] {} = some { path := pHead, lang := langIn m } := by
  obtain ⟨h1, h2, h3⟩ := rootAttrs_fields m
  have hp : parseIntAttr [] = some 0 := by decide
  have hx : ctxOf pTT = .root := by decide
  have s1 : step ix {} (.start "tt".toList (rootAttrs m)) = some { path := pTT, lang := langIn m } := by
    simp [step, lnc_tt, hx, h1, h2, h3, hp]
  rw [run, s1]
  show run ix [.start "head".toList []] { path := pTT, lang := langIn m } = _
  rw [run, step_open ix (st := { path := pTT, lang := langIn m }) rfl rfl "head" [] (by decide_vector)
    (cons_ne_nil _ _) (show ctxOf (['h', 'e', 'a', 'd'] :: pTT) = .other by decide)]
  rfl

section metadata
variable (ix : List XTok → Str) {st : DSt} (hf : st.finished = false) (hc : st.cur = none) (hp : st.path = pMeta)
include hf hc hp

theorem run_copyright (s : Str) :
    run ix (elemText "ttm:copyright" s) st
      = some (if s.isEmpty then st else { st with copyright := s, buf := s }) := by
  have hx : ctxOf (['c', 'o', 'p', 'y', 'r', 'i', 'g', 'h', 't'] :: pMeta) = .copyright := by decide
  unfold elemText
  by_cases h : s.isEmpty = true
  · simp [h, run]
  · cases st; simp_all [run, step, lnc_copyright]

theorem run_title (s : Str) :
    run ix (elemText "ttm:title" s) st = some (if s.isEmpty then st else { st with title := s, buf := s }) := by
  have hx : ctxOf (['t', 'i', 't', 'l', 'e'] :: pMeta) = .title := by decide
  unfold elemText
  by_cases h : s.isEmpty = true
  · simp [h, run]
  · cases st; simp_all [run, step, lnc_title]

end metadata

theorem ite_empty (s : Str) : (if s.isEmpty then [] else s) = s := by
  cases s <;> rfl

section para
variable (ix : List XTok → Str) {st : DSt} (hf : st.finished = false) (hl : st.path.length = 4)
include hf hl

/-- inside a paragraph a childless element (`<span>…</span>`, `<br></br>`) is copied to the paragraph's tokens -/
theorem run_group (p : InSub) (hc : st.cur = some p) (n : Str) (a : List (Str × Str)) (mid : List WTok)
    (hmid : mid = [] ∨ ∃ s, mid = [.text s]) :
    run ix (.start n a :: (mid ++ [.stop n])) st
      = some { st with cur := some { p with toks := p.toks ++ (WTok.start n a :: (mid ++ [.stop n])).map rawTok } } := by
  cases st
  rcases hmid with rfl | ⟨s, rfl⟩ <;> simp_all [run, step]

end para

section sub
variable (ix : List XTok → Str)

/-- the `TTMLInSubtitle` of a cue: its start tag, and the tokens of its re-tokenised children -/
def inSub (it : CItem) : InSub :=
  { inSub0 it with inner := ix ((bodyW it.lines).map rawTok), stripped := stripIndent (ix ((bodyW it.lines).map rawTok)),
                   toks := pToks it.lines }

theorem subToks_eq (it : CItem) :
    subToks it = WTok.start "p".toList (pAttrs it) :: (bodyW it.lines ++ [.stop "p".toList]) := by
  simp [subToks, pAttrs, bodyW]

variable {st : DSt} (hf : st.finished = false) (hl : st.path.length = 4)
include hf hl

theorem run_bodyOf (ls : List Line) (p : InSub) (hc : st.cur = some p) :
    run ix (bodyOf ls) st = some { st with cur := some { p with toks := p.toks ++ (bodyOf ls).map rawTok } } := by
  have hspan : ∀ (li : LItem) (q : List XTok),
      run ix (spanOf li) { st with cur := some { p with toks := q } }
        = some { st with cur := some { p with toks := q ++ (spanOf li).map rawTok } } := fun li q =>
    run_group ix (st := { st with cur := some { p with toks := q } }) hf hl _ rfl _ _ _
      (by by_cases h : li.text.isEmpty = true <;> simp [h])
  have hspans : ∀ (l : List LItem) (q : List XTok),
      run ix ((l.map spanOf).flatten) { st with cur := some { p with toks := q } }
        = some { st with cur := some { p with toks := q ++ ((l.map spanOf).flatten).map rawTok } } := by
    intro l
    induction l with
    | nil => intro q; simp [run]
    | cons li l ih => intro q; rw [map_cons, flatten_cons, run_append_some _ (hspan li q), ih]; simp
  have hbr : ∀ q : List XTok, run ix brTok { st with cur := some { p with toks := q } }
      = some { st with cur := some { p with toks := q ++ brTok.map rawTok } } := fun q =>
    run_group ix (st := { st with cur := some { p with toks := q } }) hf hl _ rfl "br".toList [] [] (.inl rfl)
  have key : ∀ q, run ix (bodyOf ls) { st with cur := some { p with toks := q } }
      = some { st with cur := some { p with toks := q ++ (bodyOf ls).map rawTok } } := by
    induction ls with
    | nil => intro q; simp [run, bodyOf]
    | cons l ls ih =>
      cases ls with
      | nil => exact hspans l.items
      | cons l' ls =>
        intro q
        rw [bodyOf, append_assoc, spansW, run_append_some _ (hspans l.items q), run_append_some _ (hbr _), ih]
        simp
  have := key p.toks
  cases st
  simp_all

end sub

theorem run_sub (ix : List XTok → Str) {st : DSt} (hf : st.finished = false) (hc : st.cur = none)
    (hp : st.path = pDiv) (it : CItem) (hok : attrsOk it.attrs = true) :
    run ix (subToks it) st = some { st with subs := st.subs ++ [inSub ix it] } := by
  have hx : ctxOf pPara = .para := by decide
  have s1 : step ix st (.start "p".toList (pAttrs it)) = some { st with path := pPara, cur := some (inSub0 it) } := by
    simp [step, hf, hc, hp, lnc_p, hx, mkSub_pAttrs it hok]
  rw [subToks_eq, run, s1, bodyW_eq]
  show run ix (bodyOf it.lines ++ _) _ = _
  rw [run_append_some _ (run_bodyOf ix (st := { st with path := pPara, cur := some (inSub0 it) }) hf rfl it.lines _ rfl)]
  cases st
  simp_all [run, step, inSub, inSub0, pToks, bodyW_eq]

/-- title and copyright as the writer takes them from the metadata -/
def titleOf (s : Subs) : Str := (kvGet s.metadata "Title").getD []
def copyrightOf (s : Subs) : Str := (kvGet s.metadata "TTMLCopyright").getD []

/-- **what `encoding/xml` hands to `ReadFromTTML` for the document written from `s`** -/
def tinOfSubs (ix : List XTok → Str) (s : Subs) : TIn :=
  { framerate := 0, tickrate := 0, lang := langIn s.metadata, title := titleOf s, copyright := copyrightOf s,
    regions := (sortDefs s.regions).map inDef, styles := (sortDefs s.styles).map inDef,
    subs := s.items.map (inSub ix) }

/-- the `<metadata>` element as `write` emits it -/
def metaToks (s : Subs) : List WTok :=
  if s.metadata.isSome ∧ (copyrightOf s ≠ [] ∨ titleOf s ≠ []) then
    [.start "metadata".toList []] ++ elemText "ttm:copyright" (copyrightOf s) ++ elemText "ttm:title" (titleOf s)
      ++ [.stop "metadata".toList]
  else []

theorem write_eq (s : Subs) (h : s.items.isEmpty = false) :
    write s = some (
      [.start "tt".toList (rootAttrs s.metadata), .start "head".toList []] ++ (metaToks s ++
      (WTok.start "styling".toList [] :: (((sortDefs s.styles).map (header "style")).flatten ++
      (WTok.stop "styling".toList :: WTok.start "layout".toList [] :: (((sortDefs s.regions).map (header "region")).flatten ++
      (WTok.stop "layout".toList :: WTok.stop "head".toList :: WTok.start "body".toList [] :: WTok.start "div".toList [] ::
      ((s.items.map subToks).flatten ++
      [.stop "div".toList, .stop "body".toList, .stop "tt".toList])))))))) := by
  unfold write
  simp only [h, Bool.false_eq_true, ↓reduceIte, metaToks, titleOf, copyrightOf, rootAttrs]
  simp only [append_assoc, cons_append, nil_append]

theorem titles_empty (s : Subs) (h : ¬ (s.metadata.isSome ∧ (copyrightOf s ≠ [] ∨ titleOf s ≠ []))) :
    copyrightOf s = [] ∧ titleOf s = [] := by
  cases hm : s.metadata with
  | none => simp [copyrightOf, titleOf, kvGet, hm]
  | some kv =>
    rw [hm] at h
    simp only [Option.isSome_some, true_and, not_or, Decidable.not_not] at h
    exact h

/-- what the text buffer holds after `<metadata>`: the last of copyright and title that was written -/
def metaBuf (s : Subs) : Str :=
  if (titleOf s).isEmpty then (if (copyrightOf s).isEmpty then [] else copyrightOf s) else titleOf s

theorem run_metaToks (ix : List XTok → Str) (s : Subs) (lang : Str) :
    ∃ buf, run ix (metaToks s) { path := pHead, lang := lang }
      = some { path := pHead, lang := lang, title := titleOf s, copyright := copyrightOf s, buf := buf } := by
  unfold metaToks
  by_cases h : s.metadata.isSome ∧ (copyrightOf s ≠ [] ∨ titleOf s ≠ [])
  · refine ⟨metaBuf s, ?_⟩
    unfold metaBuf
    rw [if_pos h, append_assoc, append_assoc, singleton_append, run,
      step_open ix (st := { path := pHead, lang := lang }) rfl rfl "metadata" [] (by decide_vector) (cons_ne_nil _ _)
        (show ctxOf (['m', 'e', 't', 'a', 'd', 'a', 't', 'a'] :: pHead) = .other by decide)]
    show run ix _ { path := pMeta, lang := lang } = _
    rw [run_append_some _ (run_copyright ix rfl rfl rfl _), run_append_some _ (run_title ix _ _ _ _), run,
      step_close ix _ _ _ (l := ['m', 'e', 't', 'a', 'd', 'a', 't', 'a']) (rest := pHead) _ (cons_ne_nil _ _)
        (by decide) (by decide)]
    · cases hc : (copyrightOf s).isEmpty <;> cases ht : (titleOf s).isEmpty <;> simp_all [run]
    all_goals cases hc : (copyrightOf s).isEmpty <;> cases ht : (titleOf s).isEmpty <;> rfl
  · rw [if_neg h]
    obtain ⟨h1, h2⟩ := titles_empty s h
    exact ⟨[], by rw [h1, h2]; rfl⟩

/-- representable for the decoder: every `zIndex` in the document is an integer -/
def attrsOkAll (s : Subs) : Bool :=
  s.styles.all (fun d => attrsOk d.attrs) && s.regions.all (fun d => attrsOk d.attrs) &&
  s.items.all (fun it => attrsOk it.attrs)

theorem mem_sortDefs {l : List Def} {d : Def} : d ∈ sortDefs l ↔ d ∈ l :=
  (mergeSort_perm l _).mem_iff

theorem run_style (ix : List XTok → Str) {st : DSt} (hf : st.finished = false) (hc : st.cur = none)
    (hp : st.path = pStyling) (d : Def) (hok : attrsOk d.attrs = true) :
    run ix (header "style" d) st = some { st with styles := st.styles ++ [inDef d] } := by
  rw [header, run]
  show (match step ix st (.start _ (headerAttrs d)) with | some st' => run ix _ st' | none => none) = _
  rw [step_style ix hf hc d hok hp]
  dsimp only
  rw [run, step_close ix (by exact hf) (by exact hc) _ (l := ['s', 't', 'y', 'l', 'e']) (rest := pStyling) rfl
    (cons_ne_nil _ _) (by decide) (by decide)]
  simp [run, hp]

theorem run_region (ix : List XTok → Str) {st : DSt} (hf : st.finished = false) (hc : st.cur = none)
    (hp : st.path = pLayout) (d : Def) (hok : attrsOk d.attrs = true) :
    run ix (header "region" d) st = some { st with regions := st.regions ++ [inDef d] } := by
  rw [header, run]
  show (match step ix st (.start _ (headerAttrs d)) with | some st' => run ix _ st' | none => none) = _
  rw [step_region ix hf hc d hok hp]
  dsimp only
  rw [run, step_close ix (by exact hf) (by exact hc) _ (l := ['r', 'e', 'g', 'i', 'o', 'n']) (rest := pLayout) rfl
    (cons_ne_nil _ _) (by decide) (by decide)]
  simp [run, hp]

/-- **The contract on the writer's output.**  The machine is run over the segments of `write_eq` in turn — root and
    `head`, `metadata`, the `style`s inside `styling`, the `region`s inside `layout`, the cues inside `body`/`div`
    (`run_groups` for the three lists) — and ends, finished, with the fields of `tinOfSubs ix s`. -/
theorem unmarshal_write (ix : List XTok → Str) (s : Subs) (hne : s.items.isEmpty = false)
    (hok : attrsOkAll s = true) :
    ∃ w, write s = some w ∧ unmarshal ix w = some (tinOfSubs ix s) := by
  simp only [attrsOkAll, Bool.and_eq_true, all_eq_true] at hok
  obtain ⟨⟨hs, hr⟩, hi⟩ := hok
  refine ⟨_, write_eq s hne, ?_⟩
  obtain ⟨buf, hmeta⟩ := run_metaToks ix s (langIn s.metadata)
  have hst := run_groups ix (header "style") inDef
    (fun acc => { path := pStyling, lang := langIn s.metadata, title := titleOf s, copyright := copyrightOf s, buf := buf,
                  styles := acc }) (sortDefs s.styles)
    (fun d hd acc => run_style ix rfl rfl rfl d (hs d (mem_sortDefs.mp hd))) []
  have hrg := run_groups ix (header "region") inDef
    (fun acc => { path := pLayout, lang := langIn s.metadata, title := titleOf s, copyright := copyrightOf s, buf := buf,
                  styles := (sortDefs s.styles).map inDef, regions := acc }) (sortDefs s.regions)
    (fun d hd acc => run_region ix rfl rfl rfl d (hr d (mem_sortDefs.mp hd))) []
  have hsub := run_groups ix subToks (inSub ix)
    (fun acc => { path := pDiv, lang := langIn s.metadata, title := titleOf s, copyright := copyrightOf s, buf := buf,
                  styles := (sortDefs s.styles).map inDef, regions := (sortDefs s.regions).map inDef, subs := acc })
    s.items (fun it h acc => run_sub ix rfl rfl rfl it (hi it h)) []
  rw [nil_append] at hst hrg hsub
  unfold unmarshal
  rw [run_append_some _ (run_root ix s.metadata), run_append_some _ hmeta,
    run_elem ix "styling" (by decide_vector) rfl rfl (cons_ne_nil _ _)
      (show ctxOf (['s', 't', 'y', 'l', 'i', 'n', 'g'] :: pHead) = .other by decide) _ _ hst rfl rfl rfl]
  dsimp only
  rw [run_elem ix "layout" (by decide_vector) rfl rfl (cons_ne_nil _ _)
    (show ctxOf (['l', 'a', 'y', 'o', 'u', 't'] :: pHead) = .other by decide) _ _ hrg rfl rfl rfl]
  dsimp only
  rw [run, step_close ix (by rfl) (by rfl) _ (l := ['h', 'e', 'a', 'd']) (rest := pTT) (by rfl) (cons_ne_nil _ _)
    (by decide) (by decide)]
  dsimp only
  rw [run, step_open ix (by rfl) (by rfl) "body" [] (by decide_vector) (cons_ne_nil _ _)
    (show ctxOf (['b', 'o', 'd', 'y'] :: pTT) = .other by decide)]
  dsimp only
  rw [run_elem ix "div" (by decide_vector) rfl rfl (cons_ne_nil _ _)
    (show ctxOf (['d', 'i', 'v'] :: pBody) = .other by decide) _ _ hsub rfl rfl rfl]
  dsimp only
  rw [run, step_close ix (by rfl) (by rfl) _ (l := ['b', 'o', 'd', 'y']) (rest := pTT) (by rfl) (cons_ne_nil _ _)
    (by decide) (by decide)]
  have hx : ctxOf pTT = .root := by decide
  simp [run, step, tinOf, tinOfSubs, hx]

end TTMLDoc
end Astisub
