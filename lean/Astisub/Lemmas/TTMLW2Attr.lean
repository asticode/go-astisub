import Astisub.Lemmas.TTMLW2Defs
import Astisub.Lemmas.EvalLit

/-!
# Lemmas/TTMLW2Attr — the decoder's attribute functions on the attribute lists the writer emits

`Spec.TTML.attr?`, `ref?`, `styling` through `vals`, the list of values under a local name (`Lemmas/TTMLRead2XAttr`).  On a written list
(`A.map rAttr`, no name-space declaration in `A`) `vals` is the contract's `TTMLDoc.allAttr A` (`vals_written`), so the
decoder reads what `Lemmas/TTMLDocElems` computes for the contract; `styling_written` for `E ++ tts:*`.
-/

namespace Astisub
namespace TTMLW2
open Go TTML List
open Driver.TTMLD (nsTTML nsTTS nsTTM nsXML ttmlAttrsOf)
open Spec.TTML (isDecl attr? ref? styling hasNL)
open TTMLDoc (normRef optAttr_norm NotRow)

theorem vals_append (A B : List XAttr) (name : String) : vals (A ++ B) name = vals A name ++ vals B name := by
  simp [vals]

theorem vals_nil (name : String) : vals [] name = [] := rfl

theorem vals_cons_miss (x : XAttr) (A : List XAttr) (name : String) (h : isDecl x = true ∨ x.2.1 ≠ name.toList) :
    vals (x :: A) name = vals A name := by
  rcases h with h | h
  · simp [vals, h]
  · simp [vals, h]

theorem attr_none {A : List XAttr} {name : String} (h : vals A name = []) : attr? A name = none := by
  rw [attr_eq, h]

theorem attr_one {A : List XAttr} {name : String} {v : Str} (h : vals A name = [v]) : attr? A name = some (some v) := by
  rw [attr_eq, h]

theorem attr_opt {A : List XAttr} {name : String} {o : Option Str} (h : vals A name = o.toList) :
    attr? A name = o.map some := by
  cases o with
  | none => exact attr_none h
  | some v => exact attr_one h

theorem ref_opt {A : List XAttr} {name : String} {r : Option Str} (h : vals A name = (normRef r).toList) :
    ref? A name = some (normRef r) := by
  unfold ref?
  rw [attr_opt h]
  cases hr : normRef r with
  | none => rfl
  | some v =>
    have := TTMLDoc.normRef_some_ne hr
    cases v with
    | nil => exact absurd rfl this
    | cons c cs => rfl

/-- the resolved `tts:*` attributes of `a` -/
def outR (a : Attrs) : List XAttr := (outAttrs a).map rAttr

def nlAttr (A : List XAttr) : Bool := A.any (fun x => x.2.2.any fun c => c = '\n')

def okStr (s : Str) : Bool := !hasNL s

theorem nlAttr_nil : nlAttr [] = false := rfl

theorem mem_ttmlAttrsOf {a : Attrs} {p : String × String} (hp : p ∈ attrTable) {v : Str}
    (h : kvGet a ("TTML" ++ p.1) = some v) : (p.2.toList, v) ∈ ttmlAttrsOf a := by
  rw [TTMLR.ttmlAttrsOf_eq]
  exact mem_filterMap.mpr ⟨p, hp, by rw [h]; rfl⟩

/-- `zIndex`, if set, is an integer in canonical form (what `strconv.Itoa` prints: the Go field is `*int`) -/
def zCanon (a : Attrs) : Bool :=
  match kvGet a "TTMLZIndex" with
  | some v => (Spec.TTML.int? (Spec.TTML.trimS v)).map Spec.TTML.showInt == some v
  | none => true

/-- styling attributes the decoder reads back as they are: canonical `zIndex`, no line feed in a value -/
def attrsW (a : Attrs) : Bool := zCanon a && (ttmlAttrsOf a).all fun kv => okStr kv.2

example : attrsW (some [("TTMLColor".toList, "red".toList), ("TTMLZIndex".toList, "-7".toList)]) = true := by
  decide_vector
example : zCanon (some [("TTMLZIndex".toList, "+7".toList)]) = false := by decide_vector

open TTMLR (rowD styling_eq styling_fold ttmlAttrsOf_eq)

/-- `E` holds no styling attribute -/
def Plain (E : List XAttr) : Prop := ∀ p ∈ attrTable, vals E p.2 = []

/-! ## the decoder's view of a written attribute list is the contract's view

`vals (A.map rAttr) nm` selects by the same local name as `TTMLDoc.allAttr A nm`; the two differ only on name-space
declarations.  What a written start tag carries under a local name is therefore computed on the writer's own list
(`allAttr_optAttr`, `allAttr_outAttrs`, `allAttr_pAttrs` of `Lemmas/TTMLDocElems`) and carried over by `vals_written`. -/

section written
open Driver.TTMLD (resolveAttr)
open TTMLDoc (allAttr localName splitName)

theorem rAttr_local (kv : Str × Str) : (rAttr kv).2.1 = localName kv.1 := by
  unfold rAttr resolveAttr localName
  rw [splitName_eq]
  split <;> rename_i p l h <;> rw [h] <;> (repeat' split) <;> rfl

theorem nsXML_ne : nsXML ≠ "xmlns".toList := by unfold nsXML; decide_vector
theorem nsTTS_ne : nsTTS ≠ "xmlns".toList := by unfold nsTTS; decide_vector

theorem resolveAttr_fst {k : Str} (h : (splitName k).1 ≠ "xmlns".toList) : (resolveAttr k).1 ≠ "xmlns".toList := by
  have hn : ([] : Str) ≠ "xmlns".toList := by decide_vector
  unfold resolveAttr
  rw [splitName_eq]
  generalize splitName k = pl at h ⊢
  obtain ⟨p, l⟩ := pl
  dsimp only at h ⊢
  rw [if_neg h]
  -- `dsimp only` takes the projection off the pair first: left to `exact`, the unifier evaluates the name-space literal
  by_cases b : p = "xml".toList
  · rw [if_pos b]; dsimp only; exact nsXML_ne
  · rw [if_neg b]
    by_cases c : p = "tts".toList
    · rw [if_pos c]; dsimp only; exact nsTTS_ne
    · rw [if_neg c]; dsimp only; exact hn

theorem isDecl_rAttr {k : Str} (v : Str) (h1 : (splitName k).1 ≠ "xmlns".toList) (h2 : localName k ≠ "xmlns".toList) :
    isDecl (rAttr (k, v)) = false := by
  have hl : (rAttr (k, v)).2.1 ≠ "xmlns".toList := (rAttr_local (k, v)).symm ▸ h2
  show (decide ((resolveAttr k).1 = "xmlns".toList) || (decide ((resolveAttr k).1 = []) && decide ((rAttr (k, v)).2.1 = "xmlns".toList))) = false
  rw [decide_eq_false (resolveAttr_fst h1), decide_eq_false hl, Bool.and_false]
  rfl

/-- the writer's attribute list holds no name-space declaration -/
def NoDecl (A : List (Str × Str)) : Prop := ∀ kv ∈ A, isDecl (rAttr kv) = false

theorem NoDecl.append {A B : List (Str × Str)} (ha : NoDecl A) (hb : NoDecl B) : NoDecl (A ++ B) :=
  fun kv h => (mem_append.mp h).elim (ha kv) (hb kv)

theorem NoDecl.left {A B : List (Str × Str)} (h : NoDecl (A ++ B)) : NoDecl A := fun kv hkv => h kv (mem_append_left _ hkv)

theorem noDecl_cons {k : String} {v : Str} {A : List (Str × Str)} (h1 : (splitName k.toList).1 ≠ "xmlns".toList)
    (h2 : localName k.toList ≠ "xmlns".toList) (h : NoDecl A) : NoDecl ((k.toList, v) :: A) :=
  fun kv hkv => (mem_cons.mp hkv).elim (fun e => e ▸ isDecl_rAttr v h1 h2) (h kv)

theorem noDecl_nil : NoDecl [] := fun _ h => nomatch h

theorem noDecl_optAttr (k : String) (r : Option Str) (h1 : (splitName k.toList).1 ≠ "xmlns".toList)
    (h2 : localName k.toList ≠ "xmlns".toList) : NoDecl (optAttr k r) := by
  rw [optAttr_norm]
  cases normRef r with
  | none => exact noDecl_nil
  | some v => exact noDecl_cons h1 h2 noDecl_nil

theorem notRow_xmlns : NotRow "xmlns" :=
  TTMLDoc.notRow_of (cs := ['x', 'm', 'l', 'n', 's']) String.toList_ofList (by decide +kernel)

theorem noDecl_outAttrs (a : Attrs) : NoDecl (outAttrs a) := by
  intro kv hkv
  obtain ⟨p, hp, he⟩ := mem_filterMap.mp hkv
  obtain ⟨v, -, rfl⟩ := Option.map_eq_some_iff.mp he
  apply isDecl_rAttr
  · rw [TTMLDoc.splitName_tts p hp]; show "tts".toList ≠ "xmlns".toList; decide_vector
  · rw [TTMLDoc.localName_tts hp]; exact notRow_xmlns p hp

theorem vals_written {A : List (Str × Str)} (h : NoDecl A) (nm : String) : vals (A.map rAttr) nm = allAttr A nm := by
  unfold vals allAttr
  rw [filter_map, map_map]
  have e : A.filter ((fun a => !isDecl a && decide (a.2.1 = nm.toList)) ∘ rAttr)
      = A.filter fun kv => decide (localName kv.1 = nm.toList) := by
    apply filter_congr
    intro kv hkv
    simp only [Function.comp, h kv hkv, Bool.not_false, Bool.true_and, rAttr_local]
  rw [e]
  rfl

theorem plain_written {E : List (Str × Str)} (hd : NoDecl E) (h : ∀ p ∈ attrTable, allAttr E p.2 = []) : Plain (E.map rAttr) :=
  fun p hp => (vals_written hd p.2).trans (h p hp)

theorem nlAttr_map (A : List (Str × Str)) : nlAttr (A.map rAttr) = A.any fun kv => hasNL kv.2 := by
  unfold nlAttr hasNL
  rw [any_map]
  rfl

theorem zCanon_of {a : Attrs} (h : attrsW a = true) : zCanon a = true := by
  simp only [attrsW, Bool.and_eq_true] at h; exact h.1

theorem vals_outR_row (a : Attrs) {p : String × String} (hp : p ∈ attrTable) :
    vals (outR a) p.2 = (kvGet a ("TTML" ++ p.1)).toList :=
  (vals_written (noDecl_outAttrs a) p.2).trans (TTMLDoc.allAttr_outAttrs_row a hp)

theorem hasNL_outAttrs (a : Attrs) (h : attrsW a = true) : (outAttrs a).any (fun kv => hasNL kv.2) = false := by
  simp only [attrsW, Bool.and_eq_true, all_eq_true] at h
  rw [any_eq_false]
  intro kv hkv
  obtain ⟨q, hq, he⟩ := mem_filterMap.mp hkv
  obtain ⟨w, hw, rfl⟩ := Option.map_eq_some_iff.mp he
  simpa [okStr] using h.2 _ (mem_ttmlAttrsOf hq hw)

end written

/-- **Styling attributes.**  On `E ++ tts:*` (`E` without styling attributes) the decoder reads exactly the view the
    driver takes of `a`. -/
theorem styling_written (E : List XAttr) (a : Attrs) (hE : Plain E) (hz : zCanon a = true) :
    styling (E ++ outR a) = some (ttmlAttrsOf a) := by
  have key : ∀ p ∈ attrTable, rowD (E ++ outR a) p.2 = some ((kvGet a ("TTML" ++ p.1)).map fun v => (p.2.toList, v)) := by
    intro p hp
    have hv : vals (E ++ outR a) p.2 = (kvGet a ("TTML" ++ p.1)).toList := by
      rw [vals_append, hE p hp, vals_outR_row a hp, nil_append]
    unfold rowD
    rw [attr_opt hv]
    cases hk : kvGet a ("TTML" ++ p.1) with
    | none => rfl
    | some v =>
      simp only [Option.map_some]
      by_cases hn : p.2 = "zIndex"
      · rw [if_pos hn]
        have hf : p.1 = "ZIndex" := (TTMLR.zrow_iff p hp).mp hn
        rw [hf, TTMLDoc.zindex_key] at hk
        simp only [zCanon, hk] at hz
        cases hi : Spec.TTML.int? (Spec.TTML.trimS v) with
        | none => rw [hi] at hz; simp at hz
        | some z =>
          rw [hi] at hz
          simp only [Option.map_some, beq_iff_eq, Option.some.injEq] at hz
          simp only [Option.map_some, hz]
      · rw [if_neg hn]
  rw [styling_eq, styling_fold, ttmlAttrsOf_eq, TTMLR.stylingNames_eq,
    if_pos fun n hn => by obtain ⟨p, hp, rfl⟩ := mem_map.mp hn; rw [key p hp]; rfl, filterMap_map]
  exact congrArg some (filterMap_congr_mem fun p hp => by rw [Function.comp, key p hp]; rfl)

end TTMLW2
end Astisub
