import Astisub.Lemmas.TotBase
import Astisub.Model.SSA

/-!
# Lemmas/TotSSA — the rows and the line loop of the SSA reader, with Go's index checks made explicit

Sites of `ssa.go`:

* `newSSAEventFromString`: `items[len(format)-1] = strings.Join(items[len(format)-1:], ",")`,
  `items = items[:len(format)]`, then `format[idx]` for every item — safe because of
  `len(items) < len(format) ⇒ error` in the function and `len(format) == 0 ⇒ error` in the caller;
* `newSSAStyleFromString`: `format[idx]` for every item — safe because of
  `len(items) != len(format) ⇒ error`;
* `ReadFromSSAWithOptions`: `line[1:len(line)-1]` of a `[section]` line, `line[0]`, `line[1:]` of a
  comment line, `split[0]`, `split[1:]` of a `key: value` line behind `len(split) < 2 ⇒ continue`.

The Format is a list here (a `map[int]string` with keys `0 … n-1` in Go); we check its look-ups as
list indexing, which is the stronger obligation.
-/

namespace Astisub
namespace Tot
namespace SSA
open Astisub.SSA Go

/-- `for idx, item := range items { attr := format[idx] … }` from position `k` on -/
def pairC (format : List Str) : Nat → List Str → Chk (List (Str × Str))
  | _, [] => pure []
  | k, it :: its => do
    let a ← idx format k
    let rest ← pairC format (k + 1) its
    pure ((a, it) :: rest)

theorem pairC_eq (format : List Str) : ∀ (items : List Str) (k : Nat), k + items.length ≤ format.length →
    pairC format k items = .ok ((format.drop k).zip items) := by
  intro items
  induction items with
  | nil => intro k _; simp [pairC]
  | cons it its ih =>
    intro k hk
    have hk' : k < format.length := by simp at hk; omega
    unfold pairC
    rw [idx_get hk', ih (k + 1) (by simp at hk ⊢; omega), List.drop_eq_getElem_cons hk']
    rfl

theorem take_succ_set {α} (x : α) : ∀ (l : List α) (k : Nat), k < l.length → (l.set k x).take (k + 1) = l.take k ++ [x] := by
  intro l
  induction l with
  | nil => intro k h; simp at h
  | cons a as ih =>
    intro k h
    cases k with
    | zero => simp
    | succ k => simp at h; simp [ih k h]

/-- the "last item may contain commas" fix-up of `newSSAEventFromString`:
    `items[n-1] = strings.Join(items[n-1:], ",")`, `items = items[:n]` with `n = len(format)` -/
def absorbC (n : Nat) (items : List Str) : Chk (List Str) := do
  let k ← (if n = 0 then (.error .slice : Chk Nat) else pure (n - 1))   -- `items[-1:]`
  let tl ← slcFrom items k
  let _old ← idx items k                                               -- the assignment needs `k < len(items)`
  slcTo (items.set k (join [','] tl)) n

theorem absorbC_eq (n : Nat) (items : List Str) (hn : n ≠ 0) (hl : n ≤ items.length) :
    absorbC n items = .ok (absorb n items) := by
  obtain ⟨m, rfl⟩ : ∃ m, n = m + 1 := ⟨n - 1, by omega⟩
  unfold absorbC absorb
  rw [if_neg hn]
  simp only [pure_eq, ok_bind, Nat.add_sub_cancel]
  rw [slcFrom_ok (by omega), idx_ok (by omega) []]
  simp only [ok_bind]
  rw [slcTo_ok (by rw [List.length_set]; exact hl), take_succ_set _ _ _ (by omega)]

theorem absorb_length (n : Nat) (items : List Str) (hn : n ≠ 0) (hl : n ≤ items.length) :
    (absorb n items).length = n := by
  unfold absorb
  simp [List.length_take]; omega

/-- `newSSAEventFromString` (`format` as the caller passes it) -/
def eventRowC (header content : Str) (format : List Str) : Chk (Option Event) := do
  let items := splitC ',' content
  if items.length < format.length then pure none else do
  let items ← absorbC format.length items
  let pairs ← pairC format 0 items
  pure (eventFields { category := header } pairs)

theorem eventRowC_eq (header content : Str) (format : List Str) (hf : format ≠ []) :
    eventRowC header content format = .ok (eventRow header content format) := by
  refine ite_ok (fun _ => rfl) fun h => ?_
  have hn : format.length ≠ 0 := fun h0 => hf (List.length_eq_zero_iff.mp h0)
  rw [absorbC_eq _ _ hn (by omega), ok_bind,
    pairC_eq format _ 0 (by rw [absorb_length _ _ hn (by omega)]; omega)]
  rfl

/-- `newSSAStyleFromString` -/
def styleRowC (content : Str) (format : List Str) : Chk (Res Style) := do
  let items := splitC ',' content
  if items.length ≠ format.length then pure .err else do
  let pairs ← pairC format 0 items
  pure (styleFields {} pairs)

theorem styleRowC_eq (content : Str) (format : List Str) : styleRowC content format = .ok (styleRow content format) := by
  refine ite_ok (fun _ => rfl) fun h => ?_
  rw [pairC_eq format _ 0 (by omega)]
  rfl

def eventsLineC (st : St) (header content : Str) : Chk (Res St) :=
  if header = "Format".toList then
    pure (.ok { st with format := mergeFormat st.format ((splitC ',' content).map trimSpace) })
  else if st.format.isEmpty then pure .err
  else if header ≠ "Dialogue".toList then pure (.ok st)
  else do
    let e? ← eventRowC header content st.format
    match e? with
    | some e => pure (.ok { st with events := st.events ++ [e] })
    | none => pure .err

theorem eventsLineC_eq (st : St) (header content : Str) : eventsLineC st header content = .ok (eventsLine st header content) := by
  refine ite_ok (fun _ => rfl) fun _ => ite_ok (fun _ => rfl) fun hf => ite_ok (fun _ => rfl) fun _ => ?_
  rw [eventRowC_eq _ _ _ (by intro h0; rw [h0] at hf; exact hf rfl)]
  cases eventRow header content st.format <;> rfl

def stylesLineC (st : St) (header content : Str) : Chk (Res St) :=
  if header = "Format".toList then
    pure (.ok { st with format := mergeFormat st.format ((splitC ',' content).map trimSpace) })
  else if st.format.isEmpty then pure .err
  else if header ≠ "Style".toList then pure (.ok st)
  else do
    let s? ← styleRowC content st.format
    match s? with
    | .ok s => pure (.ok { st with styles := st.styles ++ [s] })
    | .err => pure .err
    | .unmodelled => pure .unmodelled

theorem stylesLineC_eq (st : St) (header content : Str) : stylesLineC st header content = .ok (stylesLine st header content) := by
  refine ite_ok (fun _ => rfl) fun _ => ite_ok (fun _ => rfl) fun _ => ite_ok (fun _ => rfl) fun _ => ?_
  rw [styleRowC_eq]
  cases styleRow content st.format <;> rfl

/-- a line that starts with `[` and ends with `]` has at least two characters -/
theorem bracket_length (line : Str) (h1 : hasPrefix ['['] line = true) (h2 : hasSuffix [']'] line = true) : 2 ≤ line.length := by
  match line with
  | [] => simp [hasPrefix, dropPrefix?] at h1
  | [c] =>
    simp [hasPrefix, hasSuffix, dropPrefix?] at h1 h2
    subst h1
    exact absurd h2 (by decide)
  | _ :: _ :: _ => simp

/-- one iteration of the scan loop of `ReadFromSSAWithOptions` -/
def stepC (st : St) (raw : Str) : Chk (Res St) :=
  let line := trimSpace raw
  let line := if st.first then trimPrefix bom line else line
  let st := { st with first := false }
  if line.isEmpty then pure (.ok st)
  else if hasPrefix ['['] line && hasSuffix [']'] line then do
    let name ← slc line 1 (line.length - 1)                 -- `line[1:len(line)-1]`
    let n := toLowerSec name
    if n = "events".toList then pure (.ok { st with sec := .events, format := [] })
    else if n = "script info".toList then pure (.ok { st with sec := .scriptInfo })
    else if n = "v4 styles".toList || n = "v4+ styles".toList || n = "v4 styles+".toList then
      pure (.ok { st with sec := .styles, format := [] })
    else pure (.ok { st with sec := .unknown })
  else if st.sec = .unknown then pure (.ok st)
  else do
    let c0 ← idx line 0                                     -- `line[0] == ';'`
    if c0 = ';' then do
      let body ← slcFrom line 1                             -- `line[1:]`
      pure (.ok { st with info := { st.info with comments := st.info.comments ++ [trimSpace body] } })
    else
      let split := splitC ':' line
      if split.length < 2 then pure (.ok st) else do
      let s0 ← idx split 0                                  -- `split[0]`
      if s0 = [] then pure (.ok st) else do
      let tl ← slcFrom split 1                              -- `split[1:]`
      let header := trimSpace s0
      let content := trimSpace (join [':'] tl)
      match st.sec with
      | .scriptInfo =>
        match st.info.parse header content with
        | .ok i => pure (.ok { st with info := i })
        | .err => pure .err
        | .unmodelled => pure .unmodelled
      | .events => eventsLineC st header content
      | .styles => stylesLineC st header content
      | _ => pure (.ok st)

theorem stepC_eq (st : St) (raw : Str) : stepC st raw = .ok (step st raw) := by
  refine ite_ok (fun _ => rfl) fun he => ite_ok (fun hb => ?_) fun _ => ite_ok (fun _ => rfl) fun _ => ?_
  all_goals generalize (if st.first = true then trimPrefix bom (trimSpace raw) else trimSpace raw) = line at *
  · -- `line[1:len(line)-1]` of a bracketed line
    rw [Bool.and_eq_true] at hb
    have h2 := bracket_length line hb.1 hb.2
    rw [slc_ok (by omega) (by omega), ok_bind,
      show List.take (line.length - 1 - 1) (List.drop 1 line) = (line.drop 1).dropLast by
        rw [List.dropLast_eq_take, List.length_drop]]
    exact ite_ok (fun _ => rfl) fun _ => ite_ok (fun _ => rfl) fun _ => ite_ok (fun _ => rfl) fun _ => rfl
  · -- `line[0]`, `line[1:]` of a non-empty line; `split[0]`, `split[1:]` behind `len(split) < 2`
    match line, he with
    | c :: cs, _ =>
    simp only [idx, List.getElem?_cons_zero, ok_bind, List.head?_cons, Option.some.injEq]
    refine ite_ok (fun _ => rfl) fun _ => ?_
    match splitC ':' (c :: cs) with
    | [] => rfl
    | [_] => rfl
    | s0 :: s1 :: t =>
      simp only [List.length_cons, List.getElem?_cons_zero, ok_bind, List.head?_cons, Option.some.injEq,
        List.headD_cons, List.tail_cons, show ¬ (t.length + 1 + 1 < 2) by omega, if_false, decide_false,
        Bool.false_or, decide_eq_true_eq]
      refine ite_ok (fun _ => rfl) fun _ => ?_
      rw [slcFrom_ok (Nat.le_add_left ..), ok_bind, List.drop_succ_cons, List.drop_zero]
      cases st.sec with
      | scriptInfo =>
        simp only
        cases st.info.parse (trimSpace s0) (trimSpace (join [':'] (s1 :: t))) <;> rfl
      | events => exact eventsLineC_eq _ _ _
      | styles => exact stylesLineC_eq _ _ _
      | _ => rfl

/-- the loop of `ReadFromSSAWithOptions` -/
def runC : St → List Str → Chk (Res St)
  | st, [] => pure (.ok st)
  | st, l :: ls => do
    let r ← stepC st l
    match r with
    | .ok st' => runC st' ls
    | .err => pure .err
    | .unmodelled => pure .unmodelled

theorem runC_eq : ∀ (ls : List Str) (st : St), runC st ls = .ok (run st ls)
  | [], _ => rfl
  | l :: ls, st => by
    unfold runC run
    rw [stepC_eq, ok_bind]
    cases step st l with
    | ok st' => exact runC_eq ls st'
    | err => rfl
    | unmodelled => rfl

/-- `ReadFromSSA` on the scanned lines -/
def readC (lines : List Str) : Chk (Res Subs) := do
  let r ← runC {} lines
  match r with
  | .ok st =>
    let styles := styleMap st.styles
    let ids := styles.map (·.name)
    pure (.ok { items := (st.events.filter fun e => e.category = "Dialogue".toList).map (eventItem ids),
                styles := styles.map Style.toDef,
                metadata := st.info.metadata })
  | .err => pure .err
  | .unmodelled => pure .unmodelled

theorem readC_eq (lines : List Str) : readC lines = .ok (Astisub.SSA.read lines) := by
  unfold readC Astisub.SSA.read
  rw [runC_eq]
  simp only [ok_bind]
  cases run {} lines <;> rfl

end SSA
end Tot
end Astisub
