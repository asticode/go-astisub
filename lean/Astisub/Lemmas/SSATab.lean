import Astisub.Lemmas.SSAStr
import Astisub.Props.C04
import Astisub.Lemmas.KV

/-!
# Lemmas/SSATab — one typed attribute table for the 23 style attributes and the 15 script-info keys

`newSSAStyleFromStyle` / `ssaStyle.style` (keys `Fld`) and `newSSAScriptInfo` / `ssaScriptInfo.metadata` (keys `SI`) are the
same two functions over a table `(all, key, kind)`: attribute list → typed values (`Tab.ofAttrs`) and back
(`Tab.toAttrs`).  The laws — what a key's value is, what a key's attribute is, that the round trip tabulates the values
(`ofCanon ∘ canon = id` on good values) — are proved once over the table; `styleOfDef`, `Style.toDef`, `infoOfMeta`,
`Info.metadata` are the instances `fldTab`, `siTab` (`styleOfDef_vals`, `toDef_attrs`, `infoOfMeta_vals`, `metadata_eq`).
-/

namespace Astisub
namespace SSA
open Go List

def Val.kind : Val → Kind
  | .b _ => .bool | .c _ => .colour | .f _ => .float | .i _ => .int | .s _ => .str

theorem kvGet_mkAttrs_mem (l : List (String × Option Str)) (hd : l.Pairwise (fun a b => a.1 ≠ b.1)) (k : String)
    (o : Option Str) (hm : (k, o) ∈ l) : kvGet (some (mkAttrs l)) k = o := SRT.kvGet_mkAttrs_of_mem hd hm

theorem hexNat_hex8 (c : Nat) (h : c < 4294967296) : hexNat (hex8 c) = c := by
  unfold hexNat hex8
  simp only [foldl_cons, foldl_nil, C04.digitValBase_hex16, Option.getD_some]
  exact C04.hex8_value c h

/-- a value whose canonical text denotes it: a 32-bit colour, a 64-bit integer (anything else always) -/
def CanonOK : Val → Prop
  | .c c => c < 4294967296
  | .i i => Int64 i
  | _ => True

theorem ofCanon_canon (v : Val) (h : CanonOK v) : Val.ofCanon v.kind v.canon = v := by
  cases v with
  | b w => cases w <;> simp [Val.ofCanon, Val.kind, Val.canon]
  | c c => simp only [Val.ofCanon, Val.kind, Val.canon, hexNat_hex8 c h]
  | f bits => simp only [Val.ofCanon, Val.kind, Val.canon, drop_succ_cons, drop_zero, natOfDigits_itoaNat]
  | i i => simp only [Val.ofCanon, Val.kind, Val.canon, atoiLoose_itoa i h]
  | s str => rfl

theorem vals_set_fresh {κ} [DecidableEq κ] (l : Vals κ) (k : κ) (v : Val) (h : ∀ p ∈ l, p.1 ≠ k) :
    l.set k v = l ++ [(k, v)] := by
  unfold Vals.set
  rw [filter_eq_self.mpr (by intro p hp; simpa using h p hp)]

theorem lookup_tab {κ} [DecidableEq κ] (g : κ → Option Val) (fs : List κ) (k : κ) :
    (fs.filterMap fun f => (g f).map fun v => (f, v)).lookup k = if k ∈ fs then g k else none := by
  induction fs with
  | nil => simp
  | cons f fs ih =>
    rw [filterMap_cons]
    by_cases hk : k = f
    · subst hk; cases hg : g k <;> simp [hg, ih]
    · have hb : (k == f) = false := by simpa using hk
      cases hg : g f <;> simp [ih, hk, hb, lookup_cons]

/-- the keys in writing order, the attribute each lands in, its type; every key is listed -/
structure Tab (κ : Type) where
  all : List κ
  key : κ → String
  kind : κ → Kind
  complete : ∀ f, f ∈ all

namespace Tab
variable {κ : Type} [DecidableEq κ] (T : Tab κ)

/-- attributes → typed values of the table's keys -/
def ofAttrs (a : Attrs) : Vals κ := T.all.filterMap fun f => (kvGet a (T.key f)).map fun s => (f, Val.ofCanon (T.kind f) s)

/-- typed values → the attributes of the table's keys, before sorting -/
def toAttrs (l : Vals κ) : List (String × Option Str) := T.all.map fun f => (T.key f, (l.get f).map Val.canon)

/-- the values of the keys `fs`, in that order -/
def pick (l : Vals κ) (fs : List κ) : Vals κ := fs.filterMap fun f => (l.get f).map fun v => (f, v)

theorem pick_get_covering (l : Vals κ) (fs : List κ) (hcov : ∀ f, (l.get f).isSome → f ∈ fs) (g : κ) :
    Vals.get (pick l fs) g = l.get g := by
  rw [show Vals.get (pick l fs) g = _ from lookup_tab (fun f => l.get f) fs g]
  split
  · rfl
  · cases h : l.get g with
    | none => rfl
    | some v => exact absurd (hcov g (by simp [h])) ‹_›

theorem ofAttrs_get (a : Attrs) (f : κ) : Vals.get (T.ofAttrs a) f = (kvGet a (T.key f)).map (Val.ofCanon (T.kind f)) := by
  have := lookup_tab (fun f => (kvGet a (T.key f)).map (Val.ofCanon (T.kind f))) T.all f
  simp only [Option.map_map, Function.comp_def] at this
  unfold ofAttrs Vals.get
  rw [this, if_pos (T.complete f)]

theorem pick_ofAttrs (a : Attrs) : pick (T.ofAttrs a) T.all = T.ofAttrs a := by
  unfold pick
  simp only [ofAttrs_get, Option.map_map]
  rfl

theorem ofAttrs_str (a : Attrs) (f : κ) (str : Str) (h : Vals.get (T.ofAttrs a) f = some (.s str)) :
    T.kind f = .str ∧ kvGet a (T.key f) = some str := by
  rw [ofAttrs_get] at h
  cases hk : kvGet a (T.key f) with
  | none => rw [hk] at h; cases h
  | some t =>
    rw [hk] at h
    cases hkind : T.kind f <;> simp [hkind, Val.ofCanon] at h
    exact ⟨rfl, congrArg some h⟩

/-- a table key looked up in the written attributes, whatever differently named entries stand in front -/
theorem kvGet_toAttrs (extra : List (String × Option Str)) (l : Vals κ)
    (hd : (extra.map (·.1) ++ T.all.map T.key).Pairwise (· ≠ ·)) (f : κ) :
    kvGet (some (mkAttrs (extra ++ T.toAttrs l))) (T.key f) = (l.get f).map Val.canon := by
  refine kvGet_mkAttrs_mem _ (pairwise_keys_iff_nodup.mpr ?_) _ _ (mem_append_right _ (mem_map.mpr ⟨f, T.complete f, rfl⟩))
  rw [map_append, toAttrs, map_map]
  exact hd

theorem ofAttrs_toAttrs (extra : List (String × Option Str)) (l : Vals κ)
    (hd : (extra.map (·.1) ++ T.all.map T.key).Pairwise (· ≠ ·))
    (h : ∀ f v, l.get f = some v → v.kind = T.kind f ∧ CanonOK v) :
    T.ofAttrs (some (mkAttrs (extra ++ T.toAttrs l))) = pick l T.all := by
  unfold ofAttrs pick
  simp only [kvGet_toAttrs T extra l hd]
  apply filterMap_congr_mem
  intro f _
  cases hget : l.get f with
  | none => rfl
  | some v =>
    obtain ⟨hk, hc⟩ := h f v hget
    simp only [Option.map_some]
    rw [← hk, ofCanon_canon v hc]

end Tab

theorem si_all_nodup : SI.all.Nodup := by decide +kernel

theorem si_keys_pairwise : ("Comments" :: SI.all.map SI.key).Pairwise (· ≠ ·) := by decide +kernel

def fldTab : Tab Fld := ⟨Fld.all, Fld.key, Fld.kind, C04.fld_all_complete⟩

def siTab : Tab SI := ⟨SI.all, SI.key, SI.kind, C04.si_all_complete⟩

theorem styleOfDef_vals (d : Def) : (styleOfDef d).vals = fldTab.ofAttrs d.attrs := rfl

theorem toDef_attrs (s : Style) : s.toDef.attrs = some (mkAttrs ([] ++ fldTab.toAttrs s.vals)) := rfl

theorem infoOfMeta_vals (m : Attrs) : (infoOfMeta m).vals = siTab.ofAttrs m := rfl

theorem metadata_eq (b : Info) : b.metadata = some (mkAttrs
    ([("Comments", if b.comments.isEmpty then none else some (join ['\n'] b.comments))] ++ siTab.toAttrs b.vals)) := rfl

theorem kvGet_metadata_comments (b : Info) :
    kvGet b.metadata "Comments" = if b.comments.isEmpty then none else some (join ['\n'] b.comments) :=
  kvGet_mkAttrs_mem _ (pairwise_keys_iff_nodup.mpr (by rw [map_cons, map_map]; exact si_keys_pairwise)) _ _ mem_cons_self

end SSA
end Astisub
