import Astisub.Lemmas.VTT2Region

/-!
# Lemmas/VTT2TsMap — the written `X-TIMESTAMP-MAP` header line through the reader: `parseTsMap_tsLine`,
`step_tsLine`
-/

namespace Astisub
namespace VTT
open Go List

def signDig (c : Char) : Bool := isDig c || c == '-' || c == '+'

/-- characters the timestamp map line is made of after `=` -/
def plainC (c : Char) : Bool := timeChar c || c == '-' || c == '+' || ('A' ≤ c && c ≤ 'Z')

theorem plainC_of_time {c : Char} (h : timeChar c = true) : plainC c = true := by simp [plainC, h]
theorem plainC_of_sign {c : Char} (h : signDig c = true) : plainC c = true := by
  simp only [signDig, Bool.or_eq_true] at h
  rcases h with (h | h) | h <;> simp [plainC, timeChar, h]

/-- what a character of the timestamp map line is not -/
structure PlainC (c : Char) : Prop where
  noSpace : isSpace c = false
  neGt : c ≠ '>'
  neEq : c ≠ '='
  neComma : c ≠ ','

theorem plainC_spec {c : Char} (h : plainC c = true) : PlainC c := by
  have : isSpace c = false ∧ c ≠ '>' ∧ c ≠ '=' ∧ c ≠ ',' := by
    simp only [plainC, Bool.or_eq_true, beq_iff_eq, Bool.and_eq_true, decide_eq_true_eq] at h
    rcases h with ((h | rfl) | rfl) | ⟨h1, h2⟩
    · refine ⟨timeChar_noSpace h, timeChar_ne_gt h, ?_, ?_⟩ <;> (intro e; subst e; exact absurd h (by decide))
    · decide
    · decide
    · have a1 : 65 ≤ c.toNat := h1
      have a2 : c.toNat ≤ 90 := h2
      refine ⟨?_, ?_, ?_, ?_⟩
      · cases hs : isSpace c with
        | false => rfl
        | true =>
          simp only [isSpace, Bool.or_eq_true, Bool.and_eq_true, decide_eq_true_eq, beq_iff_eq] at hs
          omega
      all_goals (intro e; subst e; revert a1 a2; decide)
  exact ⟨this.1, this.2.1, this.2.2.1, this.2.2.2⟩

/-- the header line for a rendered instant `F` and a tick count `m` -/
def tsLine (F m : Str) : Str := "X-TIMESTAMP-MAP=LOCAL:".toList ++ F ++ ",MPEGTS:".toList ++ m

theorem tsLine_eq (F m : Str) :
    tsLine F m = "X-TIMESTAMP-MAP".toList ++ '=' :: ("LOCAL".toList ++ ':' :: F ++ ',' :: ("MPEGTS".toList ++ ':' :: m)) := by
  unfold tsLine
  repeat rw [String.toList_ofList]
  simp only [List.append_assoc, List.cons_append, List.nil_append]

theorem tsLine_plain (F m : Str) (hF : ∀ c ∈ F, timeChar c = true) (hm : ∀ c ∈ m, signDig c = true) :
    ∀ c ∈ "LOCAL".toList ++ ':' :: F ++ ',' :: ("MPEGTS".toList ++ ':' :: m), c ≠ ',' → plainC c = true := by
  intro c hc hne
  simp only [mem_append, mem_cons] at hc
  rcases hc with (hc | rfl | hc) | rfl | hc | rfl | hc
  · exact (show ∀ c ∈ "LOCAL".toList, plainC c = true by decide_vector) c hc
  · decide
  · exact plainC_of_time (hF c hc)
  · exact absurd rfl hne
  · exact (show ∀ c ∈ "MPEGTS".toList, plainC c = true by decide_vector) c hc
  · decide
  · exact plainC_of_sign (hm c hc)

theorem parseTsMap_tsLine (F m : Str) (lv mv : Int) (hF : ∀ c ∈ F, timeChar c = true) (hm : ∀ c ∈ m, signDig c = true)
    (hsm : smallNumbers F = true) (hp : Duration.parseVTT F = some lv) (ha : atoi m = some mv) :
    parseTsMap (tsLine F m) = .ok (lv, mv) := by
  have hpl := tsLine_plain F m hF hm
  have hFp : ∀ c ∈ F, plainC c = true := fun c hc => plainC_of_time (hF c hc)
  have hmp : ∀ c ∈ m, plainC c = true := fun c hc => plainC_of_sign (hm c hc)
  have e1 : splitC '=' (tsLine F m)
      = ["X-TIMESTAMP-MAP".toList, "LOCAL".toList ++ ':' :: F ++ ',' :: ("MPEGTS".toList ++ ':' :: m)] := by
    rw [tsLine_eq, splitC_two_mk (by simp)]
    intro hc
    by_cases hcomma : ('=' : Char) = ','
    · exact absurd hcomma (by decide)
    · exact (plainC_spec (hpl _ hc hcomma)).neEq rfl
  have e2 : splitC ',' ("LOCAL".toList ++ ':' :: F ++ ',' :: ("MPEGTS".toList ++ ':' :: m))
      = ["LOCAL".toList ++ ':' :: F, "MPEGTS".toList ++ ':' :: m] := by
    apply splitC_two_mk
    · intro hc
      simp only [mem_append, mem_cons] at hc
      rcases hc with hc | hc | hc
      · simp at hc
      · simp at hc
      · exact (plainC_spec (hFp _ hc)).neComma rfl
    · intro hc
      simp only [mem_append, mem_cons] at hc
      rcases hc with hc | hc | hc
      · simp at hc
      · simp at hc
      · exact (plainC_spec (hmp _ hc)).neComma rfl
  unfold parseTsMap
  rw [e1]
  simp only [e2]
  rw [VTTRead.tsParts_local _ _ (splitOnce_char _ _ (by simp)) (by decide_vector) hsm hp,
    VTTRead.tsParts_mpegts _ _ (splitOnce_char _ _ (by simp)) (by decide_vector) ha, VTTRead.tsParts_nil]

theorem tsLine_chars (F m : Str) (hF : ∀ c ∈ F, timeChar c = true) (hm : ∀ c ∈ m, signDig c = true) :
    ∀ c ∈ tsLine F m, isSpace c = false ∧ c ≠ '>' := by
  have hpl := tsLine_plain F m hF hm
  intro c hc
  rw [tsLine_eq] at hc
  rcases mem_append.mp hc with hc' | hc
  · exact (show ∀ c ∈ "X-TIMESTAMP-MAP".toList, isSpace c = false ∧ c ≠ '>' by decide_vector) c hc'
  · rcases mem_cons.mp hc with rfl | hc
    · decide
    · by_cases hcomma : c = ','
      · subst hcomma; decide
      · exact ⟨(plainC_spec (hpl c hc hcomma)).noSpace, (plainC_spec (hpl c hc hcomma)).neGt⟩

theorem wline_tsLine (F m : Str) (hF : ∀ c ∈ F, timeChar c = true) (hm : ∀ c ∈ m, signDig c = true) :
    WLine (tsLine F m) :=
  .of_noSpace (by rw [tsLine_eq]; simp) fun c hc => (tsLine_chars F m hF hm c hc).1

theorem step_tsLine (st : St) (F m : Str) (lv mv : Int) (hF : ∀ c ∈ F, timeChar c = true)
    (hm : ∀ c ∈ m, signDig c = true) (hsm : smallNumbers F = true) (hp : Duration.parseVTT F = some lv)
    (ha : atoi m = some mv) (hb : st.block = .none) (hl : st.cur.lines = []) :
    step st (some (tsLine F m)) = .ok { st with tsmap := some (lv, mv) } := by
  have hall := tsLine_chars F m hF hm
  have hx : hasPrefix "X-TIMESTAMP-MAP".toList (tsLine F m) = true := by rw [tsLine_eq]; exact hasPrefix_append _ _
  obtain ⟨tl, e⟩ : ∃ tl, tsLine F m = 'X' :: tl := ⟨_, by rw [tsLine_eq, VTTRead.lit_tsmap]; rfl⟩
  rw [VTTRead.step_tsmap st _ (wline_tsLine F m hF hm).trim (wline_tsLine F m hF hm).ne hb
    (by rw [e]; exact noteTest_head (by decide) tl)
    (by rw [e, VTTRead.lit_region]; exact hasPrefix_cons_ne (by decide) _ _)
    (by rw [e, VTTRead.lit_style]; exact hasPrefix_cons_ne (by decide) _ _)
    (contains_arrow_noGt fun hc => (hall _ hc).2 rfl) hx hl, parseTsMap_tsLine F m lv mv hF hm hsm hp ha]

theorem atoi_signDig {m : Str} (h : (atoi m).isSome = true) : ∀ c ∈ m, signDig c = true := by
  obtain ⟨x, hx⟩ := Option.isSome_iff_exists.mp h
  have dig : ∀ {r : Str} {v : Nat}, Numeral r v → ∀ c ∈ r, signDig c = true :=
    fun hp c hc => by simp [signDig, show isDig c = true from (Numeral.digitStr hp).isDigC c hc]
  obtain ⟨r, v, hp, ⟨rfl | rfl, -⟩ | ⟨rfl, -⟩⟩ := Numeral.of_atoi hx
  · exact dig hp
  · exact forall_mem_cons.mpr ⟨by decide, dig hp⟩
  · exact forall_mem_cons.mpr ⟨by decide, dig hp⟩

end VTT
end Astisub
