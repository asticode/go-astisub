import Astisub.Lemmas.ListFacts
import Astisub.Model.SRT
import Astisub.Model.SSA
import Astisub.Model.TTML
import Astisub.Spec.SSA
import Astisub.Spec.TTML

/-! # Lemmas/KV — `mkAttrs`, `optStr`, `kvGet`, `nodup` over association lists with distinct keys

`List.lookup` finds exactly the entries of a list whose keys are pairwise distinct
(`Lemmas/ListFacts`), so it is invariant under permutation (`mkAttrs` sorts); the formats' copies of
`kvGet` are identified with one of them, the specifications' two `nodup` each with `List.Nodup`; sorting by a string key (`keyLe`) is total, transitive and idempotent; the copies of `sortDefs` are in `Lemmas/VTT2Final`. -/

namespace Astisub
open Go List

theorem optStr_getD (s : Str) : (optStr s).getD [] = s := by
  cases s <;> rfl

theorem optStr_getD_of_ne {o : Option Str} (h : o ≠ some []) : optStr (o.getD []) = o := by
  rcases o with _ | _ | ⟨x, xs⟩
  · rfl
  · exact absurd rfl h
  · rfl

theorem pairwise_keys_mkAttrs_raw {l : List (String × Option Str)} (hd : l.Pairwise (fun a b => a.1 ≠ b.1)) :
    (l.filterMap fun (k, v) => v.map fun v => (k.toList, v)).Pairwise (fun a b => a.1 ≠ b.1) := by
  refine Pairwise.filterMap _ (fun a a' hne b hb b' hb' => ?_) hd
  obtain ⟨ka, _ | x⟩ := a
  · cases hb
  obtain ⟨ka', _ | x'⟩ := a'
  · cases hb'
  obtain rfl := Option.some.inj hb
  obtain rfl := Option.some.inj hb'
  exact fun e => hne (String.toList_injective e)

theorem lookup_mkAttrs {l : List (String × Option Str)} (hd : l.Pairwise (fun a b => a.1 ≠ b.1))
    {k : String} {o : Option Str} (h : ∀ v, (k, some v) ∈ l ↔ o = some v) :
    (mkAttrs l).lookup k.toList = o := by
  have hd' := pairwise_keys_mkAttrs_raw hd
  rw [mkAttrs, sortKV, (mergeSort_perm _ _).lookup_eq
    (((mergeSort_perm _ _).pairwise_iff fun hxy => Ne.symm hxy).mpr hd')]
  refine Option.ext fun v => ?_
  rw [lookup_eq_some_iff_of_pairwise hd', ← h v, mem_filterMap]
  constructor
  · rintro ⟨⟨ka, _ | x⟩, hm, he⟩
    · cases he
    · obtain ⟨e1, rfl⟩ := Prod.mk.inj (Option.some.inj he)
      obtain rfl := String.toList_injective e1
      exact hm
  · exact fun hm => ⟨(k, some v), hm, rfl⟩

theorem lookup_mkAttrs_of_mem {l : List (String × Option Str)} (hd : l.Pairwise (fun a b => a.1 ≠ b.1))
    {k : String} {o : Option Str} (hm : (k, o) ∈ l) : (mkAttrs l).lookup k.toList = o :=
  lookup_mkAttrs hd fun _ =>
    ⟨fun hv => (Prod.mk.inj (eq_of_pairwise_keys hd hm hv rfl)).2, fun e => e ▸ hm⟩

theorem SSA.kvGet_eq : SSA.kvGet = SRT.kvGet := rfl
theorem TTML.kvGet_eq : TTML.kvGet = SRT.kvGet := rfl
theorem Spec.SSA.kvGet_eq : Spec.SSA.kvGet = SRT.kvGet := rfl

theorem SRT.kvGet_mkAttrs {l : List (String × Option Str)} (hd : l.Pairwise (fun a b => a.1 ≠ b.1))
    {k : String} {o : Option Str} (h : ∀ v, (k, some v) ∈ l ↔ o = some v) :
    SRT.kvGet (some (mkAttrs l)) k = o :=
  lookup_mkAttrs hd h

theorem SRT.kvGet_mkAttrs_of_mem {l : List (String × Option Str)} (hd : l.Pairwise (fun a b => a.1 ≠ b.1))
    {k : String} {o : Option Str} (hm : (k, o) ∈ l) : SRT.kvGet (some (mkAttrs l)) k = o :=
  lookup_mkAttrs_of_mem hd hm

/-! ### sorting by a string key (Go's `sort.Strings` order): one comparator for definitions, regions and styles -/

/-- `a` comes no later than `b` by the key -/
def keyLe {α : Type} (key : α → Str) (a b : α) : Bool := !strLt (key b) (key a)

theorem keyLe_iff {α : Type} (key : α → Str) (a b : α) :
    keyLe key a b = true ↔ String.ofList (key a) ≤ String.ofList (key b) := by
  simp only [keyLe, strLt, Bool.not_eq_true', decide_eq_false_iff_not, String.not_lt]

theorem keyLe_trans {α : Type} (key : α → Str) (a b c : α) (h1 : keyLe key a b = true) (h2 : keyLe key b c = true) :
    keyLe key a c = true := by
  rw [keyLe_iff] at *; exact String.le_trans h1 h2

theorem keyLe_total {α : Type} (key : α → Str) (a b : α) : (keyLe key a b || keyLe key b a) = true := by
  rw [Bool.or_eq_true, keyLe_iff, keyLe_iff]; exact String.le_total _ _

theorem keyLe_antisymm {α : Type} (key : α → Str) (a b : α) (h1 : keyLe key a b = true) (h2 : keyLe key b a = true) :
    key a = key b := by
  rw [keyLe_iff] at *; exact String.ofList_injective (String.le_antisymm h1 h2)

theorem pairwise_mergeSort_keyLe {α : Type} (key : α → Str) (l : List α) :
    (l.mergeSort (keyLe key)).Pairwise fun a b => keyLe key a b = true :=
  pairwise_mergeSort (keyLe_trans key) (keyLe_total key) l

theorem mergeSort_keyLe_idem {α : Type} (key : α → Str) (l : List α) :
    (l.mergeSort (keyLe key)).mergeSort (keyLe key) = l.mergeSort (keyLe key) :=
  mergeSort_of_pairwise (pairwise_mergeSort_keyLe key l)

/-- the decoders' duplicate tests (one copy per specification, by the same two equations) decide `List.Nodup` -/
theorem nodup_iff_of_eqs {α} [BEq α] [LawfulBEq α] {nd : List α → Bool} (h0 : nd [] = true)
    (h1 : ∀ a as, nd (a :: as) = (!as.contains a && nd as)) : ∀ {l : List α}, nd l = true ↔ l.Nodup
  | [] => by simp [h0]
  | a :: as => by simp [h1, nodup_iff_of_eqs h0 h1 (l := as)]

theorem Spec.SSA.nodup_iff {l : List String} : Spec.SSA.nodup l = true ↔ l.Nodup :=
  nodup_iff_of_eqs rfl fun _ _ => rfl

theorem Spec.TTML.nodup_iff {l : List Str} : Spec.TTML.nodup l = true ↔ l.Nodup :=
  nodup_iff_of_eqs rfl fun _ _ => rfl

end Astisub
