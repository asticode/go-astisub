import Astisub.Lemmas.VTTText
import Astisub.Lemmas.VTTTok
import Astisub.Lemmas.VTTTagRe
import Astisub.Props.C02

/-!
# Lemmas/VTTLine — a written WebVTT line is parsed back run by run

`J s acc st f`: with the parser in state `st` and the tokenizer holding the pending text `acc`
(reversed), the remaining input `s` leads to the final state `f`.  Each piece the writer emits
(text, inline timestamp, start tag, end tag, voice tag) is one backward step of `J`; `GoodAcc` says what the
pending text looks like between two pieces.  The lines covered: `runOk` (one run), `sepRuns` (neighbouring runs
can be told apart), `lineOk`; `lineBody` is the written line without its line feed, and `parseText_lineBody`
the round trip.
-/

namespace Astisub
namespace VTT
open Go List
open SRT (escapeHTML unescapeHTML)

theorem exists_nonspace {s : Str} (h : trimSpace s ≠ []) : ∃ c ∈ s, isSpace c = false := by
  apply Decidable.byContradiction
  intro hn
  refine h (trimSpace_eq_nil_iff.mpr fun c hc => ?_)
  cases hs : isSpace c with
  | true => rfl
  | false => exact absurd ⟨c, hc, hs⟩ hn

theorem esc1_mem_escape {c : Char} {t : Str} (h : c ∈ t) : ∀ x ∈ C01.esc1 c, x ∈ escapeHTML t := by
  intro x hx
  rw [C01.escape_eq_flatMap]
  exact mem_flatMap.mpr ⟨c, h, hx⟩

theorem escape_nonblank {t : Str} (h : trimSpace t ≠ []) : trimSpace (escapeHTML t) ≠ [] := by
  obtain ⟨c, hc, hs⟩ := exists_nonspace h
  by_cases h1 : c = '&'
  · exact trimSpace_ne_nil_of_mem (esc1_mem_escape hc '&' (by simp [C01.esc1, h1])) (by decide)
  · by_cases h2 : c = '<'
    · exact trimSpace_ne_nil_of_mem (esc1_mem_escape hc '&' (by simp [C01.esc1, h2])) (by decide)
    · by_cases h3 : c = C01.nbsp
      · subst h3; exact absurd hs (by decide)
      · exact trimSpace_ne_nil_of_mem (esc1_mem_escape hc c (by simp [C01.esc1, h1, h2, h3])) hs

theorem escape_no_nul {t : Str} (h : '\x00' ∉ t) : '\x00' ∉ escapeHTML t := by
  rw [C01.escape_eq_flatMap]
  intro hm
  obtain ⟨c, hc, hx⟩ := mem_flatMap.mp hm
  unfold C01.esc1 at hx
  split at hx
  · simp at hx
  · split at hx
    · simp at hx
    · split at hx
      · simp at hx
      · simp at hx; subst hx; exact h hc

theorem foldToks_append (st : PT) (a b : List Tok) :
    foldToks st (a ++ b) = (foldToks st a).bind fun st' => foldToks st' b := by
  induction a generalizing st with
  | nil => simp [foldToks]
  | cons t a ih =>
    simp only [cons_append, foldToks]
    cases stepTok st t with
    | none => simp
    | some st' => simp [ih]

/-- the state once the pending text (if any) has been handed over as a text token -/
def flushSt (st : PT) (acc : Str) : Option PT :=
  if acc = [] then some st else stepTok st (.text acc.reverse)

theorem foldToks_flush (st : PT) (acc : Str) : foldToks st (Tok.flush acc []) = flushSt st acc := by
  unfold Tok.flush flushSt
  cases acc with
  | nil => rfl
  | cons c acc =>
    simp only [isEmpty_cons, Bool.false_eq_true, if_false, foldToks, reduceCtorEq]
    cases stepTok st (Tok.text (c :: acc).reverse) <;> rfl

/-- from state `st` with pending text `acc`, input `s` ends in state `f` -/
def J (s acc : Str) (st f : PT) : Prop :=
  ∃ ts, tokFrom s acc = .ok ts ∧ foldToks st ts = some f

theorem J_nil {acc : Str} {st f : PT} (h : flushSt st acc = some f) : J [] acc st f :=
  ⟨_, tokFrom_nil acc, by rw [foldToks_flush, h]⟩

theorem J_text {x : Str} (hx : ∀ c ∈ x, c ≠ '<' ∧ c ≠ '\x00') {s acc : Str} {st f : PT}
    (h : J s (x.reverse ++ acc) st f) : J (x ++ s) acc st f := by
  unfold J; rw [tokFrom_text hx]; exact h

/-- the bytes `b`, met in state `st` with pending text `acc`, lead to state `st'` with pending text `acc'`:
    whatever follows them is read from there -/
def Piece (b : Str) (st : PT) (acc : Str) (st' : PT) (acc' : Str) : Prop :=
  ∀ s f, J s acc' st' f → J (b ++ s) acc st f

theorem Piece.trans {b₁ b₂ : Str} {st st₁ st₂ : PT} {acc acc₁ acc₂ : Str} (h₁ : Piece b₁ st acc st₁ acc₁)
    (h₂ : Piece b₂ st₁ acc₁ st₂ acc₂) : Piece (b₁ ++ b₂) st acc st₂ acc₂ :=
  fun s f h => by rw [append_assoc]; exact h₁ _ f (h₂ s f h)

theorem Piece.cast {b b' : Str} {st st' : PT} {acc acc' : Str} (h : Piece b st acc st' acc') (e : b = b') :
    Piece b' st acc st' acc' := e ▸ h

theorem digitChar_not_markup_open {k : Nat} (h : k < 10) :
    isLetter (digitChar k) = false ∧ digitChar k ≠ '/' ∧ digitChar k ≠ '!' ∧ digitChar k ≠ '?' := by
  rcases digitChar_lt h with h|h|h|h|h|h|h|h|h|h <;> subst h <;> decide

theorem J_ts {t : Int} (h0 : 0 ≤ t) (h1 : t < 360000000000000) {s acc : Str} {st f : PT}
    (h : J s ((tsText t).reverse ++ acc) st f) : J (tsText t ++ s) acc st f := by
  obtain ⟨k, r, hk, hfmt⟩ := format_head t h0 h1
  have hchars := format_chars t h0 h1
  have hJ : J ((Duration.formatVTT t ++ ['>']) ++ s) ('<' :: acc) st f := by
    apply J_text
    · intro c hc
      rcases mem_append.mp hc with hc | hc
      · exact hchars c hc
      · simp at hc; subst hc; exact ⟨by decide, by decide⟩
    · simpa [tsText] using h
  have e : tsText t ++ s = '<' :: digitChar k :: (r ++ ['>'] ++ s) := by simp [tsText, hfmt]
  have e2 : digitChar k :: (r ++ ['>'] ++ s) = (Duration.formatVTT t ++ ['>']) ++ s := by simp [hfmt]
  unfold J at hJ ⊢
  rw [e, tokFrom_lt_other (digitChar_not_markup_open hk), e2]
  exact hJ

theorem J_tok {c s acc : Str} {tok : Tok} {st st1 st2 f : PT} (hc : TagTok c tok)
    (h1 : flushSt st acc = some st1) (h2 : stepTok st1 tok = some st2)
    (h : J s [] st2 f) : J (c ++ s) acc st f := by
  obtain ⟨ts, e, hf⟩ := h
  refine ⟨Tok.flush acc [] ++ tok :: ts, by rw [hc.tokFrom, e]; simp [TokRes.prepend], ?_⟩
  rw [foldToks_append, foldToks_flush, h1]
  simp [foldToks, h2, hf]

theorem J_startTag {t : Tag} (ht : t.wf = true) {s acc : Str} {st st1 f : PT}
    (h1 : flushSt st acc = some st1) (h : J s [] { st1 with tags := st1.tags ++ [t] } f) :
    J (Tag.startTag t ++ s) acc st f := by
  obtain ⟨n, a, hc⟩ := startTag_tagTok t ht
  exact J_tok hc h1 (stepTok_startTag st1 t ht n a) h

theorem J_endTag {t : Tag} (ht : t.wf = true) {s acc : Str} {st st1 f : PT}
    (h1 : flushSt st acc = some st1) (h : J s [] { st1 with tags := st1.tags.dropLast } f) :
    J (Tag.endTag t ++ s) acc st f := by
  obtain ⟨n, hc⟩ := endTag_tagTok t ht
  exact J_tok hc h1 (stepTok_endTag st1 t ht n) h

theorem J_voice {v : Str} (hv : voiceOk v = true) {s acc : Str} {st st1 f : PT}
    (h1 : flushSt st acc = some st1) (h : J s [] (if st1.voice = [] then { st1 with voice := v } else st1) f) :
    J (("<v ".toList ++ v ++ ['>']) ++ s) acc st f := by
  obtain ⟨n, a, hc⟩ := voice_tagTok v hv
  exact J_tok hc h1 (stepTok_voice st1 v hv n a) h

theorem parseText_of_J {s : Str} {sa : List Tag} {f : PT} (h : J s [] { tags := sa } f) :
    parseText s sa = .ok (f.tags, { voice := f.voice, items := f.items }) := by
  obtain ⟨ts, h1, h2⟩ := h
  unfold parseText
  rw [tokenize_eq_tokFrom, h1]; simp only [h2]

/-- the pending text is a written text token: `<`-free text that is empty or visible, then
    timestamp segments -/
def GoodAcc (acc : Str) : Prop :=
  ∃ pre segs, acc.reverse = segsBytes pre segs ∧ '<' ∉ pre ∧ (pre = [] ∨ trimSpace pre ≠ []) ∧ SegsOk segs

theorem goodAcc_nil : GoodAcc [] :=
  ⟨[], [], rfl, by simp, Or.inl rfl, by intro p hp; simp at hp⟩

theorem flushSt_nil (st : PT) : flushSt st [] = some st := by simp [flushSt]

theorem flushSt_keeps {st st1 : PT} {acc : Str} (h : flushSt st acc = some st1) :
    st1.tags = st.tags ∧ st1.voice = st.voice := by
  unfold flushSt at h
  split at h
  · cases h; exact ⟨rfl, rfl⟩
  · simp only [stepTok] at h
    split at h
    · cases h; exact ⟨rfl, rfl⟩
    · cases h

theorem segBytes_ne_nil (p : Int × Str) : segBytes p ≠ [] := by simp [segBytes, tsText]

theorem segsBytes_eq_nil {pre : Str} {segs : List (Int × Str)} (h : segsBytes pre segs = []) :
    pre = [] ∧ segs = [] := by
  unfold segsBytes at h
  obtain ⟨h1, h2⟩ := append_eq_nil_iff.mp h
  refine ⟨h1, ?_⟩
  cases segs with
  | nil => rfl
  | cons p segs =>
    simp only [map_cons, flatten_cons] at h2
    exact absurd (append_eq_nil_iff.mp h2).1 (segBytes_ne_nil p)

theorem flushSt_good (st : PT) (acc pre : Str) (segs : List (Int × Str)) (h : acc.reverse = segsBytes pre segs)
    (hpre : '<' ∉ pre) (hgood : pre = [] ∨ trimSpace pre ≠ []) (hs : SegsOk segs) :
    flushSt st acc = some { st with
      items := st.items ++ (ttVal (tagsAttrs st.tags) pre segs st.pending).1,
      pending := (ttVal (tagsAttrs st.tags) pre segs st.pending).2 } := by
  unfold flushSt
  by_cases ha : acc = []
  · subst ha
    obtain ⟨rfl, rfl⟩ := segsBytes_eq_nil (by simpa using h.symm)
    simp [ttVal, VTTRead.tokVal_nil_nil]
  · have hne : pre ≠ [] ∨ segs ≠ [] := by
      cases pre with
      | cons _ _ => exact Or.inl (cons_ne_nil _ _)
      | nil =>
        cases segs with
        | cons _ _ => exact Or.inr (cons_ne_nil _ _)
        | nil => exact absurd (by simpa [segsBytes] using h) ha
    rw [if_neg ha, h]
    simp only [stepTok, textToken_segsBytes _ pre segs st.pending hpre hs hgood hne]

theorem flush_text (st : PT) (x : Str) (hx : '<' ∉ x) (hnb : trimSpace x ≠ []) :
    GoodAcc x.reverse ∧
    flushSt st x.reverse = some { st with
      items := st.items ++ [{ text := unescapeHTML x, startAt := st.pending, attrs := tagsAttrs st.tags }],
      pending := 0 } := by
  have hs : SegsOk [] := by intro p hp; simp at hp
  refine ⟨⟨x, [], by simp [segsBytes], hx, Or.inr hnb, hs⟩, ?_⟩
  rw [flushSt_good st x.reverse x [] (by simp [segsBytes]) hx (Or.inr hnb) hs]
  simp [ttVal, VTTRead.tokVal, VTTRead.tokFirst, VTTRead.mkItem, hnb]

theorem flush_seg (st st1 : PT) (acc : Str) (t : Int) (y : Str) (hg : GoodAcc acc)
    (h1 : flushSt st acc = some st1) (h0 : 0 ≤ t) (ht : t < 360000000000000) (hy : '<' ∉ y) :
    GoodAcc ((tsText t ++ y).reverse ++ acc) ∧
    flushSt st ((tsText t ++ y).reverse ++ acc) = some { st1 with
      items := st1.items ++ (if trimSpace y = [] then []
                else [{ text := unescapeHTML y, startAt := truncMs t, attrs := tagsAttrs st.tags }]),
      pending := if trimSpace y = [] then truncMs t else 0 } := by
  obtain ⟨pre, segs, hacc, hpre, hgood, hs⟩ := hg
  have hs' : SegsOk (segs ++ [(t, y)]) := by
    intro p hp
    rcases mem_append.mp hp with hp | hp
    · exact hs p hp
    · simp at hp; subst hp; exact ⟨h0, ht, hy⟩
  have hacc' : ((tsText t ++ y).reverse ++ acc).reverse = segsBytes pre (segs ++ [(t, y)]) := by
    simp [segsBytes, hacc, segBytes]
  refine ⟨⟨pre, segs ++ [(t, y)], hacc', hpre, hgood, hs'⟩, ?_⟩
  rw [flushSt_good st acc pre segs hacc hpre hgood hs] at h1
  cases h1
  rw [flushSt_good st _ pre (segs ++ [(t, y)]) hacc' hpre hgood hs', ttVal_snoc]
  simp only [VTTRead.segStep, rendered, C16.vtt_roundtrip t h0 ht, Option.getD_some, VTTRead.mkItem, truncMs]
  by_cases hb : trimSpace y = []
  · simp [hb]
  · simp [hb]

/-- the start tags of a list of tags, as `runBytes` concatenates them -/
def opensBytes (l : List Tag) : Str := (l.map Tag.startTag).flatten
def closesBytes (l : List Tag) : Str := (l.map Tag.endTag).flatten

/-- start tags: the first one hands over the pending text, the others find it empty -/
theorem J_opens (l : List Tag) (hl : ∀ t ∈ l, t.wf = true) {st st1 : PT} {acc : Str} (hne : l ≠ [] ∨ acc = [])
    (h1 : flushSt st acc = some st1) {s : Str} {f : PT}
    (h : J s [] { st1 with tags := st1.tags ++ l } f) : J (opensBytes l ++ s) acc st f := by
  induction l generalizing st st1 acc with
  | nil =>
    obtain rfl : acc = [] := hne.resolve_left (fun h => h rfl)
    cases (flushSt_nil st).symm.trans h1
    simpa [opensBytes] using h
  | cons t l ih =>
    simp only [opensBytes, map_cons, flatten_cons, append_assoc]
    apply J_startTag (hl t mem_cons_self) h1
    apply ih (fun u hu => hl u (mem_cons_of_mem _ hu)) (Or.inr rfl) (flushSt_nil _)
    simpa using h

theorem J_closes (r : List Tag) (hr : ∀ t ∈ r, t.wf = true) (base : List Tag) {st st1 : PT} {acc : Str}
    (hne : r ≠ [] ∨ acc = []) (h1 : flushSt st acc = some st1) (htags : st1.tags = base ++ r.reverse)
    {s : Str} {f : PT} (h : J s [] { st1 with tags := base } f) : J (closesBytes r ++ s) acc st f := by
  induction r generalizing st st1 acc with
  | nil =>
    obtain rfl : acc = [] := hne.resolve_left (fun h => h rfl)
    cases (flushSt_nil st).symm.trans h1
    have : ({ st with tags := base } : PT) = st := by cases st; simp_all
    simpa [closesBytes, this] using h
  | cons t r ih =>
    simp only [closesBytes, map_cons, flatten_cons, append_assoc]
    apply J_endTag (hr t mem_cons_self) h1
    apply ih (fun u hu => hr u (mem_cons_of_mem _ hu)) (Or.inr rfl) (flushSt_nil _)
    · simp [htags, ← append_assoc]
    · simpa using h

def runTags (li : LItem) : List Tag := tagsOfAttrs li.attrs

/-- the colour class the writer derives from `TTMLColor` (empty: none) -/
def runColor (li : LItem) : Str :=
  match SRT.kvGet li.attrs "TTMLColor" with | some c => cssColor c | none => []

/-- a run the reader rebuilds exactly: well-formed tags, instant in the writer's range, visible
    text without NUL (outside the tokenizer model), no colour class -/
def runOk (li : LItem) : Bool :=
  (runTags li).all Tag.wf && decide (0 ≤ li.startAt) && decide (li.startAt < 360000000000000) &&
  (trimSpace li.text != []) && !(li.text.contains '\x00') && (runColor li == [])

structure RunFacts (li : LItem) : Prop where
  wf : ∀ t ∈ runTags li, t.wf = true
  t0 : 0 ≤ li.startAt
  t1 : li.startAt < 360000000000000
  nb : trimSpace li.text ≠ []
  nul : '\x00' ∉ li.text
  col : runColor li = []

theorem runOk_facts {li : LItem} (h : runOk li = true) : RunFacts li := by
  simp only [runOk, Bool.and_eq_true, all_eq_true, decide_eq_true_eq, bne_iff_ne, ne_eq,
    Bool.not_eq_true', beq_iff_eq] at h
  obtain ⟨⟨⟨⟨⟨h1, h2⟩, h3⟩, h4⟩, h5⟩, h6⟩ := h
  exact ⟨h1, h2, h3, h4, by simpa using h5, h6⟩

/-- what the reader makes of a run written under the outer stack `o` -/
def readItem (o : List Tag) (li : LItem) : LItem :=
  { text := li.text, startAt := truncMs li.startAt, attrs := tagsAttrs (o ++ runTags li) }

def tsPart (li : LItem) : Str := if li.startAt > 0 then tsText li.startAt else []

theorem truncMs_zero : truncMs 0 = 0 := by decide

/-- The opening half of a run.  The pending text `acc` is a written text token (`GoodAcc`) and nothing is
    pending once it is handed over (`hpend`).  Then the inline timestamp (if any), the start tags `l` and the escaped
    text lead to a state which, once ITS pending text is handed over, holds the run under the stack extended by `l`.
    `hsep`: the text is set off from what precedes it by a timestamp, by a tag, or because nothing precedes it. -/
theorem J_run_open (li : LItem) (hok : runOk li = true) (l : List Tag) (hl : ∀ t ∈ l, t.wf = true)
    {st st1 : PT} {acc : Str} (hg : GoodAcc acc) (h1 : flushSt st acc = some st1) (hpend : st1.pending = 0)
    (hsep : 0 < li.startAt ∨ l ≠ [] ∨ acc = []) :
    ∃ st' acc', GoodAcc acc' ∧
      flushSt st' acc' = some { st1 with
        items := st1.items ++ [{ text := li.text, startAt := truncMs li.startAt, attrs := tagsAttrs (st1.tags ++ l) }],
        tags := st1.tags ++ l, pending := 0 } ∧
      Piece (tsPart li ++ opensBytes l ++ escapeHTML li.text) st acc st' acc' := by
  have F := runOk_facts hok
  have hx : '<' ∉ escapeHTML li.text := C01.escape_no_lt li.text
  have hnb : trimSpace (escapeHTML li.text) ≠ [] := escape_nonblank F.nb
  have hun : unescapeHTML (escapeHTML li.text) = li.text := C01.unescape_escape li.text
  have hchars : ∀ c ∈ escapeHTML li.text, c ≠ '<' ∧ c ≠ '\x00' := by
    intro c hc
    exact ⟨fun e => hx (e ▸ hc), fun e => escape_no_nul F.nul (e ▸ hc)⟩
  have hk := flushSt_keeps h1
  by_cases hl0 : l = []
  · subst hl0
    by_cases ht : 0 < li.startAt
    · obtain ⟨hg', hf'⟩ := flush_seg st st1 acc li.startAt (escapeHTML li.text) hg h1 F.t0 F.t1 hx
      refine ⟨st, _, hg', ?_, ?_⟩
      · rw [hf']; simp [hnb, hun, hk.1]
      · intro s f hJ
        simp only [tsPart, ht, if_true, opensBytes, map_nil, flatten_nil, append_nil, append_assoc]
        apply J_ts F.t0 F.t1
        apply J_text hchars
        simpa using hJ
    · have hacc : acc = [] := by
        rcases hsep with h | h | h
        · exact absurd h ht
        · exact absurd rfl h
        · exact h
      subst hacc
      have hst : st1 = st := by simpa [flushSt] using h1.symm
      subst hst
      have ht0 : li.startAt = 0 := by have := F.t0; omega
      obtain ⟨hg', hf'⟩ := flush_text st1 (escapeHTML li.text) hx hnb
      refine ⟨st1, _, hg', ?_, ?_⟩
      · rw [hf']; simp [hun, hpend, ht0, truncMs_zero]
      · intro s f hJ
        simp only [tsPart, ht, if_false, opensBytes, map_nil, flatten_nil, append_nil, nil_append]
        apply J_text hchars
        simpa using hJ
  · -- the timestamp (if any) is flushed by the first opening tag and stays pending
    have hA : ∃ accA, flushSt st accA = some { st1 with pending := truncMs li.startAt } ∧
        ∀ s f, J s accA st f → J (tsPart li ++ s) acc st f := by
      by_cases ht : 0 < li.startAt
      · obtain ⟨_, hf'⟩ := flush_seg st st1 acc li.startAt [] hg h1 F.t0 F.t1 (by simp)
        refine ⟨(tsText li.startAt ++ []).reverse ++ acc, ?_, ?_⟩
        · rw [hf']; simp [trimSpace, trimLeft, trimRight]
        · intro s f hJ
          simp only [tsPart, ht, if_true]
          apply J_ts F.t0 F.t1
          simpa using hJ
      · have ht0 : li.startAt = 0 := by have := F.t0; omega
        refine ⟨acc, ?_, ?_⟩
        · rw [h1, ht0, truncMs_zero, ← hpend]
        · intro s f hJ
          simpa [tsPart, ht] using hJ
    obtain ⟨accA, hfA, hJA⟩ := hA
    obtain ⟨hg', hf'⟩ := flush_text
      { st1 with pending := truncMs li.startAt, tags := st1.tags ++ l } (escapeHTML li.text) hx hnb
    refine ⟨{ st1 with pending := truncMs li.startAt, tags := st1.tags ++ l }, _, hg', ?_, ?_⟩
    · rw [hf']; simp [hun]
    · intro s f hJ
      rw [append_assoc, append_assoc]
      apply hJA
      apply J_opens l hl (Or.inl hl0) hfA
      apply J_text hchars
      simpa using hJ

/-- the bytes of a run that shares `p` tags with the previous run and `n` with the next one -/
def runBytesPN (p n : Nat) (li : LItem) : Str :=
  tsPart li ++ opensBytes ((runTags li).drop p) ++ escapeHTML li.text
    ++ closesBytes ((runTags li).drop n).reverse

/-- number of leading tags a run shares with a neighbour (none: 0) -/
def sharedWith (o : Option LItem) (li : LItem) : Nat :=
  match o with | some x => commonTags (runTags li) (runTags x) | none => 0

theorem runBytes_eq (prev next : Option LItem) (li : LItem) (hc : runColor li = []) :
    runBytes prev next li = runBytesPN (sharedWith prev li) (sharedWith next li) li := by
  have e : runBytes prev next li = tsPart li ++ (if runColor li ≠ [] then "<c.".toList ++ runColor li ++ ['>'] else [])
      ++ opensBytes ((runTags li).drop (sharedWith prev li)) ++ escapeHTML li.text
      ++ closesBytes ((runTags li).drop (sharedWith next li)).reverse
      ++ (if runColor li ≠ [] then "</c>".toList else []) := rfl
  rw [e, hc]
  simp only [ne_eq, not_true_eq_false, if_false, append_nil, runBytesPN]

/-- From a state whose open tags are the outer stack `o` plus the `p` tags shared with
    the previous run, the bytes of the run add exactly the run (text, truncated instant, stack
    `o ++ tags`) and leave `o` plus the `n` tags shared with the next run open. -/
theorem J_run (o : List Tag) (li : LItem) (hok : runOk li = true) (p n : Nat)
    {st st1 : PT} {acc : Str} (hg : GoodAcc acc) (h1 : flushSt st acc = some st1)
    (htags : st1.tags = o ++ (runTags li).take p) (hpend : st1.pending = 0)
    (hsep : 0 < li.startAt ∨ (runTags li).drop p ≠ [] ∨ acc = []) :
    ∃ st' acc', GoodAcc acc' ∧
      flushSt st' acc' = some { st1 with
        items := st1.items ++ [readItem o li], tags := o ++ (runTags li).take n, pending := 0 } ∧
      ((runTags li).drop n ≠ [] → acc' = []) ∧
      Piece (runBytesPN p n li) st acc st' acc' := by
  have F := runOk_facts hok
  obtain ⟨stC, accC, hgC, hfC, hJC⟩ := J_run_open li hok ((runTags li).drop p)
    (fun t ht => F.wf t (mem_of_mem_drop ht)) hg h1 hpend hsep
  have e1 : st1.tags ++ (runTags li).drop p = o ++ runTags li := by
    rw [htags, append_assoc, take_append_drop]
  rw [e1] at hfC
  by_cases hr : (runTags li).drop n = []
  · refine ⟨stC, accC, hgC, ?_, fun h => absurd hr h, ?_⟩
    · have : (runTags li).take n = runTags li := by
        have := take_append_drop n (runTags li)
        rw [hr, append_nil] at this; exact this
      rw [hfC, this]; rfl
    · intro s f hJ
      have := hJC s f hJ
      simpa [runBytesPN, hr, closesBytes] using this
  · refine ⟨_, [], goodAcc_nil, flushSt_nil _, fun _ => rfl, ?_⟩
    · intro s f hJ
      have hcl : J (closesBytes ((runTags li).drop n).reverse ++ s) accC stC f := by
        apply J_closes _ (fun t ht => F.wf t (mem_of_mem_drop (mem_reverse.mp ht))) (o ++ (runTags li).take n)
          (Or.inl (by simpa using hr)) hfC
        · simp
        · exact hJ
      have := hJC _ f hcl
      simpa [runBytesPN] using this

/-- adjacent runs can be told apart by the reader: their stacks differ, or the later one carries
    an inline timestamp (two adjacent runs under the same stack and without a timestamp are
    written as one text, hence read as one run) -/
def sepRuns : List LItem → Bool
  | a :: b :: rest => (runTags a != runTags b || decide (0 < b.startAt)) && sepRuns (b :: rest)
  | _ => true

theorem eq_of_drop_common_nil (a b : List Tag) (ha : a.drop (commonTags a b) = [])
    (hb : b.drop (commonTags a b) = []) : a = b := by
  have h1 := take_append_drop (commonTags a b) a
  have h2 := take_append_drop (commonTags a b) b
  rw [ha, append_nil] at h1
  rw [hb, append_nil] at h2
  exact h1.symm.trans ((C02.take_commonTags a b).trans h2)

theorem J_items (o : List Tag) (rest : List LItem) :
    ∀ (li : LItem) (prev : Option LItem) (st st1 : PT) (acc : Str),
      (∀ x ∈ li :: rest, runOk x = true) → sepRuns (li :: rest) = true →
      GoodAcc acc → flushSt st acc = some st1 →
      st1.tags = o ++ (runTags li).take (sharedWith prev li) → st1.pending = 0 →
      (0 < li.startAt ∨ (runTags li).drop (sharedWith prev li) ≠ [] ∨ acc = []) →
      ∃ st' acc', flushSt st' acc' = some { st1 with
          items := st1.items ++ (li :: rest).map (readItem o), tags := o, pending := 0 } ∧
        Piece (itemsBytes prev (li :: rest)) st acc st' acc' := by
  induction rest with
  | nil =>
    intro li prev st st1 acc hok _ hg h1 htags hpend hsep
    have hli := hok li (by simp)
    obtain ⟨st', acc', _, hf', _, hJ'⟩ := J_run o li hli (sharedWith prev li) 0 hg h1 htags hpend hsep
    refine ⟨st', acc', ?_, ?_⟩
    · rw [hf']; simp
    · exact hJ'.cast (by simp [itemsBytes, runBytes_eq prev none li (runOk_facts hli).col, sharedWith])
  | cons b rest ih =>
    intro li prev st st1 acc hok hsepr hg h1 htags hpend hsep
    have hli := hok li (by simp)
    simp only [sepRuns, Bool.and_eq_true, Bool.or_eq_true, bne_iff_ne, ne_eq, decide_eq_true_eq] at hsepr
    obtain ⟨hab, hsepr'⟩ := hsepr
    obtain ⟨st', acc', hg', hf', hacc', hJ'⟩ :=
      J_run o li hli (sharedWith prev li) (sharedWith (some b) li) hg h1 htags hpend hsep
    have hn : sharedWith (some li) b = sharedWith (some b) li := by
      simp [sharedWith, C02.commonTags_comm]
    have htk : (runTags li).take (sharedWith (some b) li) = (runTags b).take (sharedWith (some li) b) := by
      rw [hn]; exact C02.take_commonTags _ _
    -- the next run is set off from this one by its timestamp or by a tag it opens; if it opens none and the stacks
    -- differ, this run has closed a tag, so no text is pending
    have hsep2 : 0 < b.startAt ∨ (runTags b).drop (sharedWith (some li) b) ≠ [] ∨ acc' = [] := by
      rcases hab with hab | hab
      · by_cases hd : (runTags b).drop (sharedWith (some li) b) = []
        · right; right
          apply hacc'
          intro hd2
          apply hab
          rw [hn] at hd
          exact eq_of_drop_common_nil _ _ hd2 hd
        · right; left; exact hd
      · left; exact hab
    obtain ⟨st'', acc'', hf'', hJ''⟩ := ih b (some li) st' _ acc'
      (fun x hx => hok x (by simp [mem_cons.mp hx])) hsepr' hg' hf' (by simp [htk]) rfl hsep2
    refine ⟨st'', acc'', ?_, ?_⟩
    · rw [hf'']; simp
    · exact (hJ'.trans hJ'').cast (by simp [itemsBytes, runBytes_eq prev (some b) li (runOk_facts hli).col])

/-- a written line without its line feed -/
def lineBody (l : Line) : Str :=
  (if l.voice ≠ [] then "<v ".toList ++ l.voice ++ ['>'] else []) ++ itemsBytes none l.items

theorem lineBytes_eq (l : Line) : lineBytes l = lineBody l ++ ['\n'] := rfl

/-- a line the reader rebuilds exactly -/
def lineOk (l : Line) : Bool :=
  (l.voice == [] || voiceOk l.voice) && l.items.all runOk && sepRuns l.items

/-! non-vacuity: a voiced line of four runs with nested, classed and annotated tags, an inline
    timestamp and text that needs escaping -/
def exRun1 : LItem := { text := "a & b".toList, attrs := tagsAttrs [{ name := "b".toList }] }
def exRun2 : LItem := { text := " c".toList, startAt := 1500000000, attrs := tagsAttrs [{ name := "b".toList }] }
def exRun3 : LItem :=
  { text := "d<".toList,
    attrs := tagsAttrs [{ name := "b".toList }, { name := "c".toList, classes := ["red".toList], annotation := "x y".toList }] }
def exRun4 : LItem := { text := "e".toList }
def exLine : Line := { voice := "Bob".toList, items := [exRun1, exRun2, exRun3, exRun4] }

example : runOk exRun3 = true := by decide_vector
example : sepRuns exLine.items = true := by decide_vector
example : lineOk exLine = true := by decide_vector
example : lineBody exLine = "<v Bob><b>a &amp; b<00:00:01.500> c<c.red x y>d&lt;</c></b>e".toList := by decide_vector

theorem J_line (l : Line) (hok : lineOk l = true) (sa : List Tag) :
    J (lineBody l) [] { tags := sa }
      { tags := sa, voice := l.voice, items := l.items.map (readItem sa), pending := 0 } := by
  simp only [lineOk, Bool.and_eq_true, Bool.or_eq_true, beq_iff_eq, all_eq_true] at hok
  obtain ⟨⟨hv, hitems⟩, hsep⟩ := hok
  have hrest : J (itemsBytes none l.items) [] { tags := sa, voice := l.voice }
      { tags := sa, voice := l.voice, items := l.items.map (readItem sa), pending := 0 } := by
    cases hi : l.items with
    | nil => exact J_nil (by simp [flushSt])
    | cons li rest =>
      rw [hi] at hitems hsep
      obtain ⟨st', acc', hf', hJ'⟩ := J_items sa rest li none { tags := sa, voice := l.voice }
        { tags := sa, voice := l.voice } [] hitems hsep goodAcc_nil (flushSt_nil _)
        (by simp [sharedWith]) rfl (Or.inr (Or.inr rfl))
      have := hJ' [] _ (J_nil hf')
      simpa using this
  unfold lineBody
  by_cases hvn : l.voice = []
  · simpa [hvn] using hrest
  · have hvo : voiceOk l.voice = true := by
      rcases hv with h | h
      · exact absurd h hvn
      · exact h
    rw [if_pos hvn]
    apply J_voice hvo (flushSt_nil _)
    simpa using hrest

theorem parseText_lineBody (l : Line) (hok : lineOk l = true) (sa : List Tag) :
    parseText (lineBody l) sa = .ok (sa, { voice := l.voice, items := l.items.map (readItem sa) }) :=
  parseText_of_J (J_line l hok sa)

end VTT
end Astisub
