import Astisub.Lemmas.TTMLDocXml
import Astisub.Lemmas.Str
import Astisub.Lemmas.ListFacts
import Astisub.Props.C03

/-!
# Lemmas/TTMLDocAttrs — the `tts:*` attributes and the `style` reference of an element, written and read back

`TTML.outAttrs` writes the `TTML*` entries of a `StyleAttributes` value as `tts:<name>` attributes in
the order of `TTML.attrTable`; `TTML.itemOfStart` (the decoder of `TTMLInStyleAttributes` and of the
`style` attribute) reads every one of them back into the field it came from.
-/

namespace Astisub
namespace TTMLDoc
open Go TTML List

/-- an optional reference as the reader stores it: `""` (written as no attribute at all) is no reference -/
def normRef (r : Option Str) : Option Str :=
  match r with
  | some v => if v = [] then none else some v
  | none => none

/-- the value of a `TTMLIn*` attribute field: `zIndex` is an `int` (parsed, printed canonically), the others strings -/
def inVal (f : String) (v : Str) : Option Str := if f = "ZIndex" then (parseIntAttr v).map itoa else some v

/-- the field of `TTMLInStyleAttributes` that the table row `p` fills from `a` -/
def inEntry (a : Attrs) (p : String × String) : Option (Str × Str) :=
  (kvGet a ("TTML" ++ p.1)).bind fun v => (inVal p.1 v).map fun v' => (p.1.toList, v')

/-- the set fields of `TTMLInStyleAttributes` after decoding what `outAttrs a` wrote: keyed by field name, in struct order -/
def inKV (a : Attrs) : KV := attrTable.filterMap (inEntry a)

/-- the style attributes are representable: `TTMLZIndex`, if set, is an integer (`*int` in `TTMLInStyleAttributes`;
    anything else makes `xml.Decode` fail) -/
def attrsOk (a : Attrs) : Bool :=
  match kvGet a "TTMLZIndex" with
  | some v => (parseIntAttr v).isSome
  | none => true

example : attrsOk (some [("TTMLColor".toList, "red".toList), ("TTMLZIndex".toList, " +7".toList)]) = true := by decide_vector
example : attrsOk (some [("TTMLZIndex".toList, "x".toList)]) = false := by decide_vector
example : inKV (some [("TTMLColor".toList, "red".toList), ("TTMLZIndex".toList, " +7".toList)])
    = [("Color".toList, "red".toList), ("ZIndex".toList, "7".toList)] := by decide_vector

/-- the raw attribute the table row `p` contributes -/
def rawEntry (a : Attrs) (p : String × String) : Option (Str × Str × Str) :=
  (kvGet a ("TTML" ++ p.1)).map fun v => ("tts".toList, p.2.toList, v)

/-- the XML local names of the table as character lists: closed facts about the names are decided on these -/
def rowNames : List Str :=
  [['b', 'a', 'c', 'k', 'g', 'r', 'o', 'u', 'n', 'd', 'C', 'o', 'l', 'o', 'r'],
   ['c', 'o', 'l', 'o', 'r'],
   ['d', 'i', 'r', 'e', 'c', 't', 'i', 'o', 'n'],
   ['d', 'i', 's', 'p', 'l', 'a', 'y'],
   ['d', 'i', 's', 'p', 'l', 'a', 'y', 'A', 'l', 'i', 'g', 'n'],
   ['e', 'x', 't', 'e', 'n', 't'],
   ['f', 'o', 'n', 't', 'F', 'a', 'm', 'i', 'l', 'y'],
   ['f', 'o', 'n', 't', 'S', 'i', 'z', 'e'],
   ['f', 'o', 'n', 't', 'S', 't', 'y', 'l', 'e'],
   ['f', 'o', 'n', 't', 'W', 'e', 'i', 'g', 'h', 't'],
   ['l', 'i', 'n', 'e', 'H', 'e', 'i', 'g', 'h', 't'],
   ['o', 'p', 'a', 'c', 'i', 't', 'y'],
   ['o', 'r', 'i', 'g', 'i', 'n'],
   ['o', 'v', 'e', 'r', 'f', 'l', 'o', 'w'],
   ['p', 'a', 'd', 'd', 'i', 'n', 'g'],
   ['s', 'h', 'o', 'w', 'B', 'a', 'c', 'k', 'g', 'r', 'o', 'u', 'n', 'd'],
   ['t', 'e', 'x', 't', 'A', 'l', 'i', 'g', 'n'],
   ['t', 'e', 'x', 't', 'D', 'e', 'c', 'o', 'r', 'a', 't', 'i', 'o', 'n'],
   ['t', 'e', 'x', 't', 'O', 'u', 't', 'l', 'i', 'n', 'e'],
   ['u', 'n', 'i', 'c', 'o', 'd', 'e', 'B', 'i', 'd', 'i'],
   ['v', 'i', 's', 'i', 'b', 'i', 'l', 'i', 't', 'y'],
   ['w', 'r', 'a', 'p', 'O', 'p', 't', 'i', 'o', 'n'],
   ['w', 'r', 'i', 't', 'i', 'n', 'g', 'M', 'o', 'd', 'e'],
   ['z', 'I', 'n', 'd', 'e', 'x']]

theorem rowNames_eq : attrTable.map (fun p => p.2.toList) = rowNames :=
  (map_map (f := Prod.snd) (g := String.toList)).symm.trans (toList_map_ofList rowNames)

theorem row_mem {p : String × String} (hp : p ∈ attrTable) : p.2.toList ∈ rowNames := by
  rw [← rowNames_eq]; exact mem_map_of_mem (f := fun p : String × String => p.2.toList) hp

theorem rowNames_no_colon : ∀ x ∈ rowNames, ':' ∉ x := by decide +kernel

theorem tts_toList : "tts:".toList = ['t', 't', 's'] ++ [':'] := String.toList_ofList
theorem tts_toList' : "tts".toList = ['t', 't', 's'] := String.toList_ofList

theorem splitName_plain {n : Str} (h : ':' ∉ n) : splitName n = ([], n) := by
  unfold splitName; rw [splitC_not_mem h]

theorem splitName_pre {p l : Str} (hp : ':' ∉ p) (hl : ':' ∉ l) : splitName (p ++ ':' :: l) = (p, l) := by
  unfold splitName; rw [splitC_append _ hp, splitC_not_mem hl]

theorem splitName_tts : ∀ p ∈ attrTable, splitName ("tts:" ++ p.2).toList = ("tts".toList, p.2.toList) := by
  intro p hp
  rw [String.toList_append, tts_toList, append_assoc, singleton_append,
    splitName_pre (by decide) (rowNames_no_colon _ (row_mem hp)), tts_toList']

theorem rawAttr_tts {p : String × String} (hp : p ∈ attrTable) (v : Str) :
    rawAttr (("tts:" ++ p.2).toList, v) = ("tts".toList, p.2.toList, v) := by
  unfold rawAttr
  rw [splitName_tts p hp]
  rfl

theorem rawAttrs_outAttrs (a : Attrs) : (outAttrs a).map rawAttr = attrTable.filterMap (rawEntry a) := by
  unfold outAttrs
  rw [map_filterMap]
  apply filterMap_congr_mem
  intro p hp
  obtain ⟨f, x⟩ := p
  simp only [rawEntry]
  cases kvGet a ("TTML" ++ f) with
  | none => rfl
  | some v => simp only [Option.map_some]; rw [rawAttr_tts hp]

theorem style_toList : "style".toList = ['s', 't', 'y', 'l', 'e'] := String.toList_ofList

theorem row_not_style : ∀ p ∈ attrTable, p.2.toList ≠ "style".toList := by
  intro p hp e
  have h : ['s', 't', 'y', 'l', 'e'] ∉ rowNames := by decide +kernel
  rw [style_toList] at e
  exact h (e ▸ row_mem hp)

theorem rows_nodup : (attrTable.map fun q => q.2.toList).Nodup :=
  (map_map (f := Prod.snd) (g := String.toList)) ▸
    C03.attrTable_names_nodup.map String.toList fun _ _ hne h => hne (String.toList_injective h)

theorem row_find : ∀ p ∈ attrTable, attrTable.find? (fun q => q.2.toList = p.2.toList) = some p := by
  intro p hp
  exact find_self (fun q : String × String => q.2.toList) attrTable rows_nodup hp

theorem fields_nodup : (attrTable.map (·.1.toList)).Nodup :=
  (map_map (f := Prod.fst) (g := String.toList)) ▸
    C03.attrTable_fields_nodup.map String.toList fun _ _ hne h => hne (String.toList_injective h)

theorem kvSet_fresh (kv : KV) (k v : Str) (h : k ∉ kv.map (·.1)) : kvSet kv k v = kv ++ [(k, v)] := by
  unfold kvSet
  congr 1
  rw [filter_eq_self]
  intro p hp
  have : p.1 ≠ k := fun e => h (e ▸ mem_map_of_mem hp)
  simpa using this

theorem itemOfStart_row (name : Str) {p : String × String} (hp : p ∈ attrTable) (v v' : Str)
    (hv : inVal p.1 v = some v') (rest : List (Str × Str × Str)) (it : InItem) :
    itemOfStart name (("tts".toList, p.2.toList, v) :: rest) it
      = itemOfStart name rest { it with attrs := kvSet it.attrs p.1.toList v' } := by
  rw [itemOfStart]
  simp only [row_not_style p hp, ↓reduceIte, row_find p hp]
  unfold inVal at hv
  by_cases hz : p.1 = "ZIndex"
  · simp only [hz, ↓reduceIte] at hv ⊢
    cases hpi : parseIntAttr v with
    | none => rw [hpi] at hv; simp at hv
    | some z =>
      rw [hpi] at hv
      simp only [Option.map_some, Option.some.injEq] at hv
      simp only [hv]
  · simp only [hz, ↓reduceIte, Option.some.injEq] at hv ⊢
    rw [hv]

/-- the key of the one field that is not a string -/
theorem zindex_key : ("TTML" ++ "ZIndex" : String) = "TTMLZIndex" := by decide

theorem inVal_ok (a : Attrs) (hok : attrsOk a = true) (f : String) (v : Str)
    (hv : kvGet a ("TTML" ++ f) = some v) : ∃ v', inVal f v = some v' := by
  unfold inVal
  by_cases hz : f = "ZIndex"
  · subst hz
    rw [zindex_key] at hv
    unfold attrsOk at hok
    rw [hv] at hok
    simp only [↓reduceIte]
    cases hpi : parseIntAttr v with
    | none => simp [hpi] at hok
    | some z => exact ⟨_, rfl⟩
  · simp [hz]

/-- **the written `tts:*` attributes are read back field by field** (rows `tbl` of the table, accumulator `it`
    holding none of their fields yet) -/
theorem itemOfStart_rows (a : Attrs) (hok : attrsOk a = true) (name : Str) :
    ∀ (tbl : List (String × String)) (it : InItem),
      (∀ p ∈ tbl, p ∈ attrTable) → (tbl.map (·.1.toList)).Nodup →
      (∀ p ∈ tbl, p.1.toList ∉ it.attrs.map (·.1)) →
      itemOfStart name (tbl.filterMap (rawEntry a)) it
        = some { it with name := name, attrs := it.attrs ++ tbl.filterMap (inEntry a) } := by
  intro tbl
  induction tbl with
  | nil => intro it _ _ _; simp [itemOfStart]
  | cons p tbl ih =>
    intro it hmem hnd hfresh
    rw [map_cons, nodup_cons] at hnd
    have hp : p ∈ attrTable := hmem p (by simp)
    have hmem' : ∀ q ∈ tbl, q ∈ attrTable := fun q hq => hmem q (by simp [hq])
    cases hk : kvGet a ("TTML" ++ p.1) with
    | none =>
      have e1 : rawEntry a p = none := by simp [rawEntry, hk]
      have e2 : inEntry a p = none := by simp [inEntry, hk]
      rw [filterMap_cons, e1, filterMap_cons, e2]
      exact ih it hmem' hnd.2 (fun q hq => hfresh q (by simp [hq]))
    | some v =>
      obtain ⟨v', hv'⟩ := inVal_ok a hok p.1 v hk
      have e1 : rawEntry a p = some ("tts".toList, p.2.toList, v) := by simp [rawEntry, hk]
      have e2 : inEntry a p = some (p.1.toList, v') := by simp [inEntry, hk, hv']
      rw [filterMap_cons, e1, filterMap_cons, e2]
      simp only
      rw [itemOfStart_row name hp v v' hv', kvSet_fresh _ _ _ (hfresh p (by simp))]
      rw [ih _ hmem' hnd.2 ?_]
      · simp
      · intro q hq
        simp only [map_append, map_cons, map_nil, mem_append, mem_singleton, not_or]
        refine ⟨hfresh q (by simp [hq]), fun e => hnd.1 ?_⟩
        rw [← e]
        exact mem_map_of_mem (f := fun x : String × String => x.1.toList) hq

theorem rawAttr_style (v : Str) : rawAttr ("style".toList, v) = ([], "style".toList, v) := by
  unfold rawAttr
  have : splitName "style".toList = ([], "style".toList) := by decide
  rw [this]; rfl

theorem rawAttrs_optStyle (r : Option Str) :
    (optAttr "style" r).map rawAttr = (match normRef r with | some v => [([], "style".toList, v)] | none => []) := by
  cases r with
  | none => rfl
  | some v =>
    cases v with
    | nil => rfl
    | cons c cs =>
      have e : optAttr "style" (some (c :: cs)) = [("style".toList, c :: cs)] := rfl
      rw [e, map_cons, map_nil, rawAttr_style]
      rfl

/-- **Attributes of an element.** The `style` reference and the `tts:*` attributes the writer
    puts on a `span`, `p`, `style` or `region` are decoded into: the reference (`""` when absent) and
    the fields `inKV a`, in struct order, each under the name of the field it was written from. -/
theorem itemOfStart_written (name : Str) (r : Option Str) (a : Attrs) (hok : attrsOk a = true) :
    itemOfStart name ((optAttr "style" r ++ outAttrs a).map rawAttr) {}
      = some { name := name, style := (normRef r).getD [], text := [], attrs := inKV a } := by
  rw [map_append, rawAttrs_optStyle, rawAttrs_outAttrs]
  have hrows := fun it h => itemOfStart_rows a hok name attrTable it (fun _ h => h) fields_nodup h
  cases hr : normRef r with
  | none =>
    simp only [nil_append]
    rw [hrows {} (by simp)]
    rfl
  | some v =>
    simp only [cons_append, nil_append]
    rw [itemOfStart]
    simp only [↓reduceIte]
    rw [hrows _ (by simp)]
    rfl

theorem inEntry_key (a : Attrs) (q : String × String) (e : Str × Str) (he : inEntry a q = some e) : e.1 = q.1.toList := by
  obtain ⟨v, -, he⟩ := Option.bind_eq_some_iff.mp he
  obtain ⟨w, -, rfl⟩ := Option.map_eq_some_iff.mp he
  rfl

theorem inKV_get (a : Attrs) {p : String × String} (hp : p ∈ attrTable) :
    TTML.get (inKV a) p.1 = (kvGet a ("TTML" ++ p.1)).bind (inVal p.1) := by
  refine (lookup_filterMap_row (fun q : String × String => q.1.toList) _ attrTable (fun q _ => inEntry_key a q)
    fields_nodup hp).trans ?_
  unfold inEntry
  cases kvGet a ("TTML" ++ p.1) with
  | none => rfl
  | some v => rw [Option.bind_some, Option.bind_some]; cases inVal p.1 v <;> rfl

theorem inKV_get_str (a : Attrs) {p : String × String} (hp : p ∈ attrTable) (hz : p.1 ≠ "ZIndex") :
    TTML.get (inKV a) p.1 = kvGet a ("TTML" ++ p.1) := by
  rw [inKV_get a hp]
  cases kvGet a ("TTML" ++ p.1) with
  | none => rfl
  | some v => simp [inVal, hz]

theorem itemOfStart_skip (name sp loc v : Str) (rest : List (Str × Str × Str)) (it : InItem)
    (h1 : loc ≠ "style".toList) (h2 : attrTable.find? (fun p => p.2.toList = loc) = none) :
    itemOfStart name ((sp, loc, v) :: rest) it = itemOfStart name rest it := by
  rw [itemOfStart]
  simp only [h1, ↓reduceIte, h2]

end TTMLDoc
end Astisub
