import Astisub.Lemmas.TotBase
import Astisub.Model.STL

/-!
# Lemmas/Tot2STL — the EBU STL writer with Go's index, slice and nil-pointer checks made explicit

Checked variants (monad `Chk`) of the functions `WriteToSTL` is made of (`stl.go`, and
`bytesPadder.pad` of `astikit/bytes.go`), each proved (a) never to panic and (b) to compute what the
totalised model (`Model/STL.lean`, writer part) computes; then, guard by guard, the variant without
the guard is proved to panic exactly when the guarded part is absent.  The Go sites:

* `newGSIBlock`: `s.Metadata.…` behind `if s.Metadata != nil` (defect D15: the pinned code had no such
  guard); `*s.Metadata.STLCreationDate`, `*…STLMaximumNumberOfDisplayableCharactersInAnyTextRow`,
  `*…STLMaximumNumberOfDisplayableRows`, `*…STLRevisionDate`, each behind its `!= nil`;
  `s.Items[0].StartAt` behind `len(s.Items) > 0`  — `newGSIG`, `newGSIC`;
* `gsiBlock.bytes`: `bs[1:]`, `bs[:2]` on the 4-byte scratch buffer, the `_ = b[3]` / `_ = b[1]` bounds
  checks of `binary.BigEndian.PutUint32/16`, 36 calls of `astikit.BytesPad(…, PadCut)`.  The model's
  `WGSI` keeps the four optional values as `Option`s and reads them with `getD`: here they are
  dereferenced (`deref`) and `newGSI_filled` shows `newGSIBlock` always filled them — `gsiBytesC`;
* `bytesPadder.pad`: `i[:p.length]` behind `len(i) > p.length`, and `o = o[:p.length]` after the padding
  loop (which appends *two* bytes per missing byte when padding to the right, and one on each side when
  padding to the left: the final slice is in range and cuts the surplus) — `padC`, `padRC`, `padLC`;
* `encodeTextSTL`: `append(o[:len(o)-1], v, o[len(o)-1])` behind `len(o) == 0` (defect D17: a text that
  starts with a combining mark).  `len(o)-1` is a Go `int`, −1 for the empty slice: the index is
  computed in `Int` here (`lastIx`, `slcToI`, `idxI`) so that the unguarded variant really panics —
  `encStepC`, `encodeTextC` (on the *forward* slice as in Go; the model keeps it reversed);
* `newTTIBlock`, `stlJustificationCodeFromStyle`, `stlVerticalPositionFromStyle`:
  `*sa.STLJustification` behind `sa == nil || sa.STLJustification == nil`,
  `sa.STLPosition.VerticalPosition` behind `sa != nil && sa.STLPosition != nil` (the model's `WCue` is
  the flattened view: `just`, `vp : Option Int`) — `justCodeC`, `vpC`.  `LineItem.STLString`'s
  `li.InlineStyle != nil`, `….STLItalics != nil && *…` are Booleans already in the model's `WRun`:
  no dereference is left to check there;
* `ttiBlock.bytes`: the `_ = b[1]` check of `binary.LittleEndian.PutUint16` on the 2-byte buffer,
  `BytesPad(encodeTextSTL(…), 0x8f, 112, PadRight, PadCut)` — `ttiBytesC`;
* `WriteToSTL`: `len(s.Items) == 0 ⇒ ErrNoSubtitlesToWrite`, the `range s.Items` loop — `writeBodyC`,
  `writeC`.

No panic site: `formatDurationSTL`, `formatDurationSTLBytes` (no index expression; their only integer
division is by the constant `1e9`, see `framesC_eq`; the rest is `float64`), `validateVerticalPosition`,
`strings.Join`.  Not representable in `Panic` and not modelled: the type assertions `v.(string)` /
`v.(byte)` on the values of the package's own `BiMap` tables (the tables are homogeneous).
-/

namespace Astisub
namespace Tot
namespace STLW
open Astisub.STL Go

/-- `l[i]` for a Go `int` index: a negative index panics -/
def idxI {α} (l : List α) (i : Int) : Chk α := if i < 0 then .error .index else idx l i.toNat

/-- `l[:hi]` for a Go `int` bound: a negative bound panics -/
def slcToI {α} (l : List α) (hi : Int) : Chk (List α) := if hi < 0 then .error .slice else slcTo l hi.toNat

/-- `len(o)-1` as Go computes it: −1 for the empty slice (Lean's `Nat` subtraction would answer 0) -/
def lastIx {α} (o : List α) : Int := (o.length : Int) - 1

theorem idxI_lastIx_nil {α} : idxI ([] : List α) (lastIx ([] : List α)) = .error .index := rfl

theorem slcToI_lastIx_nil {α} : slcToI ([] : List α) (lastIx ([] : List α)) = .error .slice := rfl

theorem idxI_lastIx_concat {α} (xs : List α) (x : α) : idxI (xs ++ [x]) (lastIx (xs ++ [x])) = .ok x :=
  (lastC_ok (l := xs ++ [x]) (by simp) x).trans (by simp)

theorem slcToI_lastIx_concat {α} (xs : List α) (x : α) : slcToI (xs ++ [x]) (lastIx (xs ++ [x])) = .ok xs :=
  (initC_ok (l := xs ++ [x]) (by simp)).trans (by simp)

/-- one rune of the loop of `encodeTextSTL`, on the forward slice `o` as in Go.  `guard = false` is the
    pinned code, without `if len(o) == 0`.  Go evaluates the arguments of `append` left to right: the
    slice expression first -/
def encStepG (guard : Bool) (o : Bytes) (c : Nat) : Chk Bytes :=
  match Generated.STL.unicodeInv.lookup c with
  | some b => pure (o ++ [b])
  | none =>
    match Generated.STL.diacriticInv.lookup c with
    | some b =>
      if guard && o.length == 0 then pure (o ++ [b])
      else do
        let init ← slcToI o (lastIx o)
        let last ← idxI o (lastIx o)
        pure (init ++ [b, last])
    | none => pure (o ++ [c % 256])

/-- the repaired loop body -/
def encStepC (o : Bytes) (c : Nat) : Chk Bytes := encStepG true o c

/-- the pinned loop body -/
def encStepU (o : Bytes) (c : Nat) : Chk Bytes := encStepG false o c

/-- `encodeTextSTL` (`norm.NFD` is the model's `nfd`: no index site of this package) -/
def encodeTextG (guard : Bool) (s : List Nat) : Chk Bytes := (nfd s).foldlM (encStepG guard) []

/-- the repaired `encodeTextSTL` -/
def encodeTextC (s : List Nat) : Chk Bytes := encodeTextG true s

/-- the pinned `encodeTextSTL` -/
def encodeTextU (s : List Nat) : Chk Bytes := encodeTextG false s

theorem encStepC_eq (o : Bytes) (c : Nat) : encStepC o c = .ok (encStep o.reverse c).reverse := by
  unfold encStepC encStepG encStep
  cases Generated.STL.unicodeInv.lookup c with
  | some b => simp
  | none =>
    cases Generated.STL.diacriticInv.lookup c with
    | none => simp
    | some b =>
      rcases o.eq_nil_or_concat with rfl | ⟨xs, x, rfl⟩
      · rfl
      · simp [List.concat_eq_append, slcToI_lastIx_concat, idxI_lastIx_concat]

theorem foldlM_encStepC (l : List Nat) : ∀ o : Bytes,
    l.foldlM encStepC o = .ok (l.foldl encStep o.reverse).reverse := by
  induction l with
  | nil => intro o; simp
  | cons c cs ih =>
    intro o
    rw [List.foldlM_cons, encStepC_eq, ok_bind, ih]
    simp

theorem encodeTextC_eq (s : List Nat) : encodeTextC s = .ok (encodeText s) := by
  unfold encodeTextC encodeTextG encodeText
  exact foldlM_encStepC (nfd s) []

/-- what makes a rune take the diacritic branch of `encodeTextSTL` -/
def isDiacritic (c : Nat) : Bool :=
  (Generated.STL.unicodeInv.lookup c).isNone && (Generated.STL.diacriticInv.lookup c).isSome

/-- **the guard `len(o) == 0` is necessary**: the pinned loop body panics (`o[:-1]`) on the empty slice for
    every floating diacritic -/
theorem encStepU_nil_panics (c : Nat) (b : Nat) (hu : Generated.STL.unicodeInv.lookup c = none)
    (hd : Generated.STL.diacriticInv.lookup c = some b) : encStepU [] c = .error .slice := by
  unfold encStepU encStepG
  rw [hu, hd]
  rfl

theorem encStepU_eq_of_ne_nil (o : Bytes) (c : Nat) (h : o ≠ []) : encStepU o c = encStepC o c := by
  unfold encStepU encStepC encStepG
  have : (o.length == 0) = false := by
    cases o with
    | nil => exact absurd rfl h
    | cons _ _ => rfl
  simp [this]

theorem encodeTextU_panics (s : List Nat) (c : Nat) (rest : List Nat) (hs : nfd s = c :: rest)
    (hc : isDiacritic c = true) : encodeTextU s = .error .slice := by
  unfold encodeTextU encodeTextG
  rw [hs, List.foldlM_cons]
  unfold isDiacritic at hc
  cases hu : Generated.STL.unicodeInv.lookup c with
  | some b => rw [hu] at hc; simp at hc
  | none =>
    cases hd : Generated.STL.diacriticInv.lookup c with
    | none => rw [hd] at hc; simp at hc
    | some b =>
      rw [show encStepG false [] c = _ from encStepU_nil_panics c b hu hd]
      rfl

/-- U+0301 COMBINING ACUTE ACCENT is a floating diacritic (byte 0xC2) and no entry of `stlUnicodeMapping` -/
example : Generated.STL.diacriticInv.lookup 0x0301 = some 0xC2 := by decide
example : isDiacritic 0x0301 = true := by decide

/-- U+0301 alone is its own canonical decomposition -/
theorem nfd_acute : nfd [0x0301] = [0x0301] := by decide +kernel

/-- **D17, concretely**: the pinned `encodeTextSTL` panics on the text U+0301 — -/
example : encodeTextU [0x0301] = .error .slice := encodeTextU_panics _ _ _ nfd_acute (by decide)

/-- — the repaired one answers the diacritic byte -/
example : encodeText [0x0301] = [0xC2] := by decide +kernel

/-- "é" (decomposed by NFD into e + U+0301) never met the defect: the diacritic is swapped in front of the letter -/
example : encodeText [0xE9] = [0xC2, 0x65] := by decide +kernel
example : (encodeTextU [0xE9]).safe = true := by decide +kernel

/-- the padding loop `for idx := 0; idx < p.length-len(i); idx++`: one `repeat` on the chosen side, and
    then one more at the end (sic) -/
def padLoop (right : Bool) (fill : Nat) : Nat → Bytes → Bytes
  | 0, o => o
  | k + 1, o => padLoop right fill k ((if right then o ++ [fill] else [fill] ++ o) ++ [fill])

/-- `bytesPadder.pad(i)` with `direction = right?`, `cut`, `repeat = fill`, `length = n`: the slice
    expressions `i[:p.length]` and `o = o[:p.length]` checked -/
def padC (right cut : Bool) (fill n : Nat) (s : Bytes) : Chk Bytes :=
  if s.length = n then pure s
  else if s.length > n then (if cut then slcTo s n else pure s)
  else slcTo (padLoop right fill (n - s.length) s) n

/-- `astikit.BytesPad(s, fill, n, astikit.PadRight, astikit.PadCut)` -/
def padRC (fill n : Nat) (s : Bytes) : Chk Bytes := padC true true fill n s

/-- `astikit.BytesPad(s, fill, n, astikit.PadCut)` (the default direction is left) -/
def padLC (fill n : Nat) (s : Bytes) : Chk Bytes := padC false true fill n s

theorem padLoop_right (fill : Nat) : ∀ (k : Nat) (o : Bytes), padLoop true fill k o = o ++ List.replicate (2 * k) fill := by
  intro k
  induction k with
  | zero => intro o; simp [padLoop]
  | succ k ih =>
    intro o
    have h2 : 2 * (k + 1) = 2 * k + 1 + 1 := by omega
    rw [padLoop, ih, h2]
    simp [List.replicate_succ]

theorem padLoop_left (fill : Nat) : ∀ (k : Nat) (o : Bytes),
    padLoop false fill k o = List.replicate k fill ++ o ++ List.replicate k fill := by
  intro k
  induction k with
  | zero => intro o; simp [padLoop]
  | succ k ih =>
    intro o
    rw [padLoop, ih]
    simp only [Bool.false_eq_true, if_false]
    have hc : [fill] ++ List.replicate k fill = List.replicate k fill ++ [fill] := by
      rw [← List.replicate_succ']; rfl
    rw [List.replicate_succ' (n := k)]
    simp only [List.append_assoc]
    rw [hc]

theorem padRC_eq (fill n : Nat) (s : Bytes) : padRC fill n s = .ok (padR fill n s) := by
  unfold padRC padC padR
  by_cases h1 : s.length = n
  · rw [if_pos h1]
    simp [← h1]
  · rw [if_neg h1]
    by_cases h2 : s.length > n
    · rw [if_pos h2, if_pos rfl, slcTo_ok (by omega)]
      have : n - s.length = 0 := by omega
      simp [this]
    · rw [if_neg h2, padLoop_right, slcTo_ok (by simp; omega)]
      congr 1
      rw [List.take_append, List.take_append, List.take_replicate, List.take_replicate]
      congr 2
      omega

theorem padLC_eq (fill n : Nat) (s : Bytes) : padLC fill n s = .ok (padL fill n s) := by
  unfold padLC padC padL
  by_cases h1 : s.length = n
  · rw [if_pos h1]
    simp [← h1]
  · rw [if_neg h1]
    by_cases h2 : s.length > n
    · rw [if_pos h2, if_pos rfl, slcTo_ok (by omega)]
      have : n - s.length = 0 := by omega
      simp [this]
    · rw [if_neg h2, padLoop_left, slcTo_ok (by simp; omega)]
      congr 1
      have hl : (List.replicate (n - s.length) fill ++ s).length = n := by simp; omega
      rw [List.take_append, hl]
      simp

/-- the numeric fields of the GSI block: `BytesPad([]byte(strconv.Itoa(v)), '0', w, PadCut)` -/
def numC (w : Nat) (v : Int) : Chk Bytes := padLC 0x30 w (ascii (itoa v))

theorem numC_eq (w : Nat) (v : Int) : numC w v = .ok (num w v) := padLC_eq _ _ _

/-- `i[:p.length]` without the test `len(i) > p.length` in front of it -/
def padCutU (n : Nat) (s : Bytes) : Chk Bytes := slcTo s n

/-- the final `o = o[:p.length]` is needed too: the loop builds more than `n` bytes as soon as one is missing -/
theorem padLoop_length (right : Bool) (fill n : Nat) (s : Bytes) (h : s.length < n) :
    (padLoop right fill (n - s.length) s).length = 2 * n - s.length := by
  cases right
  · rw [padLoop_left]; simp; omega
  · rw [padLoop_right]; simp; omega

example : padRC 0x20 3 [1, 2, 3, 4, 5] = .ok [1, 2, 3] := rfl
example : padRC 0x20 3 [1] = .ok [1, 0x20, 0x20] := rfl
example : padLC 0x30 3 [1] = .ok [0x30, 0x30, 1] := rfl
example : padLC 0x30 2 [1, 2, 3] = .ok [1, 2] := rfl
example : padCutU 3 [1] = .error .slice := rfl
example : padLoop true 0x20 2 [1] = [1, 0x20, 0x20, 0x20, 0x20] := rfl

/-- which of the nil / length guards of `newGSIBlock` are in place (all of them in the repaired code) -/
structure Guards where
  /-- `if s.Metadata != nil` -/
  metadata : Bool := true
  /-- `if s.Metadata.STLCreationDate != nil` -/
  creation : Bool := true
  /-- `if s.Metadata.STLMaximumNumberOfDisplayableCharactersInAnyTextRow != nil` -/
  maxChars : Bool := true
  /-- `if s.Metadata.STLMaximumNumberOfDisplayableRows != nil` -/
  maxRows : Bool := true
  /-- `if s.Metadata.STLRevisionDate != nil` -/
  revisionDate : Bool := true
  /-- `if len(s.Items) > 0` -/
  items : Bool := true
  deriving Repr, DecidableEq

/-- `if p != nil { x = *p }` over the default `dflt`; without the guard: `x = *p` -/
def optG {α} (guard : Bool) (p : Option α) (dflt : α) : Chk α :=
  if !guard || p.isSome then deref p else pure dflt

theorem optG_true {α} (p : Option α) (d : α) : optG true p d = .ok (p.getD d) := by
  cases p <;> rfl

theorem optG_eq {α} (guard : Bool) (p : Option α) (d : α) :
    optG guard p d = if guard || p.isSome then .ok (p.getD d) else .error .nilDeref := by
  cases guard <;> cases p <;> rfl

/-- the `gsiBlock` literal `newGSIBlock` starts from -/
def gsiDefault (now : Date) (n : Nat) : WGSI := { m := defaultMeta now, langCode := lit "0F", n := n, tcf := 0 }

/-- the "Add metadata" part of `newGSIBlock`: every `s.Metadata.X` dereferences `s.Metadata` -/
def gsiMetaG (g : Guards) (now : Date) (md : Option Meta) (n : Nat) : Chk WGSI :=
  if !g.metadata || md.isSome then do
    let m ← deref md
    let creation ← optG g.creation m.creation now
    let maxChars ← optG g.maxChars m.maxChars 40
    let maxRows ← optG g.maxRows m.maxRows 23
    let revisionDate ← optG g.revisionDate m.revisionDate now
    pure { m := { m with creation := some creation,
                         dsc := if m.dsc.isEmpty then (defaultMeta now).dsc else m.dsc,
                         framerate := if (dfcOf m.framerate).isSome then m.framerate else 25,
                         maxChars := some maxChars, maxRows := some maxRows,
                         revisionDate := some revisionDate },
           langCode := (languageCodeOf m.language).getD (lit "0F"), n := n, tcf := 0 }
  else pure (gsiDefault now n)

/-- the "Timecode first in cue" part: `if len(s.Items) > 0 { … s.Items[0].StartAt + g.timecodeStartOfProgramme }` -/
def firstCueG (guard : Bool) (cues : List WCue) (tcp : Int) : Chk Int :=
  if !guard || cues.length > 0 then do
    let c ← idx cues 0
    pure (c.startAt + tcp)
  else pure 0

/-- `newGSIBlock(s)` with the guards `g` -/
def newGSIG (g : Guards) (now : Date) (md : Option Meta) (cues : List WCue) : Chk WGSI := do
  let g1 ← gsiMetaG g now md cues.length
  let tcf ← firstCueG g.items cues g1.m.tcp
  pure { g1 with tcf := tcf }

/-- `newGSIBlock(s)` as repaired -/
def newGSIC (now : Date) (md : Option Meta) (cues : List WCue) : Chk WGSI := newGSIG {} now md cues

/-- `newGSIBlock(s)` as pinned: no `if s.Metadata != nil` -/
def newGSIU (now : Date) (md : Option Meta) (cues : List WCue) : Chk WGSI := newGSIG { metadata := false } now md cues

/-- the value of the timecode-first-in-cue part: Go leaves the field 0 for an empty list, the model adds the
    programme start even then (not observable: `WriteToSTL` has returned `ErrNoSubtitlesToWrite` before) -/
theorem firstCueG_true (cues : List WCue) (tcp : Int) :
    firstCueG true cues tcp = .ok (match cues with | c :: _ => c.startAt + tcp | [] => 0) := by
  cases cues <;> rfl

theorem newGSIC_eq' (now : Date) (md : Option Meta) (cues : List WCue) :
    newGSIC now md cues =
      .ok { newGSI now md cues with tcf := if cues.isEmpty then 0 else (newGSI now md cues).tcf } := by
  unfold newGSIC newGSIG gsiMetaG
  cases md with
  | none => cases cues <;> simp [firstCueG_true, newGSI, gsiDefault, defaultMeta]
  | some m => cases cues <;> simp [firstCueG_true, newGSI, optG_true, deref]

theorem newGSIC_eq (now : Date) (md : Option Meta) (cues : List WCue) (h : cues ≠ []) :
    newGSIC now md cues = .ok (newGSI now md cues) := by
  rw [newGSIC_eq']
  cases cues with
  | nil => exact absurd rfl h
  | cons c cs => rfl

/-- non-vacuity of the discrepancy on the empty list: Go 0, model the programme start -/
example : newGSIC default (some { tcp := 5 }) [] = .ok { newGSI default (some { tcp := 5 }) [] with tcf := 0 } ∧
    (newGSI default (some { tcp := 5 }) []).tcf = 5 := ⟨by rw [newGSIC_eq']; rfl, rfl⟩

/-- what the model's `newGSI` always fills: the four values `gsiBytes` reads with `getD` -/
structure Filled (g : WGSI) : Prop where
  creation : g.m.creation.isSome = true
  revisionDate : g.m.revisionDate.isSome = true
  maxChars : g.m.maxChars.isSome = true
  maxRows : g.m.maxRows.isSome = true

theorem newGSI_filled (now : Date) (md : Option Meta) (cues : List WCue) : Filled (newGSI now md cues) := by
  cases md <;> exact ⟨rfl, rfl, rfl, rfl⟩

theorem firstCueG_eq (guard : Bool) (cues : List WCue) (tcp : Int) :
    firstCueG guard cues tcp =
      if guard || !cues.isEmpty then .ok (match cues with | c :: _ => c.startAt + tcp | [] => 0)
      else .error .index := by
  cases guard <;> cases cues <;> rfl

/-- **each guard of `newGSIBlock` is necessary, and together they suffice**: with the guards `g` the function
    panics exactly when a dropped guard meets an absent part -/
theorem newGSIG_safe (g : Guards) (now : Date) (md : Option Meta) (cues : List WCue) :
    (newGSIG g now md cues).safe =
      ((g.metadata || md.isSome) &&
       (match md with
        | none => true
        | some m => (g.creation || m.creation.isSome) && (g.maxChars || m.maxChars.isSome) &&
                    (g.maxRows || m.maxRows.isSome) && (g.revisionDate || m.revisionDate.isSome)) &&
       (g.items || !cues.isEmpty)) := by
  unfold newGSIG gsiMetaG
  cases md with
  | none =>
    cases g.metadata
    · rfl
    · simp only [firstCueG_eq, gsiDefault, Bool.not_true, Option.isSome_none, Bool.or_self, Bool.false_eq_true,
        if_false, pure_eq, ok_bind, safe_guard_bind, safe_ok, Bool.and_true, Bool.or_false, Bool.true_and]
  | some m =>
    simp only [optG_eq, firstCueG_eq, deref, Option.isSome_some, Bool.or_true, if_true, ok_bind, pure_eq, bind_assoc,
      safe_guard_bind, safe_ok, Bool.and_true, Bool.true_and, Bool.and_assoc]

/-- **D15**: the pinned `newGSIBlock` (no `if s.Metadata != nil`) panics on subtitles without metadata, whatever the cues -/
theorem newGSIU_none (now : Date) (cues : List WCue) : newGSIU now none cues = .error .nilDeref := rfl

theorem newGSIU_some (now : Date) (m : Meta) (cues : List WCue) : newGSIU now (some m) cues = newGSIC now (some m) cues := rfl

theorem newGSIU_safe (now : Date) (md : Option Meta) (cues : List WCue) : (newGSIU now md cues).safe = md.isSome := by
  rw [newGSIU, newGSIG_safe]
  cases md <;> simp

theorem newGSIG_creation (now : Date) (m : Meta) (cues : List WCue) :
    (newGSIG { creation := false } now (some m) cues).safe = m.creation.isSome := by
  rw [newGSIG_safe]; simp

theorem newGSIG_revisionDate (now : Date) (m : Meta) (cues : List WCue) :
    (newGSIG { revisionDate := false } now (some m) cues).safe = m.revisionDate.isSome := by
  rw [newGSIG_safe]; simp

theorem newGSIG_maxChars (now : Date) (m : Meta) (cues : List WCue) :
    (newGSIG { maxChars := false } now (some m) cues).safe = m.maxChars.isSome := by
  rw [newGSIG_safe]; simp

theorem newGSIG_maxRows (now : Date) (m : Meta) (cues : List WCue) :
    (newGSIG { maxRows := false } now (some m) cues).safe = m.maxRows.isSome := by
  rw [newGSIG_safe]; simp

theorem newGSIG_items (now : Date) (md : Option Meta) (cues : List WCue) :
    (newGSIG { items := false } now md cues).safe = !cues.isEmpty := by
  rw [newGSIG_safe]; cases md <;> simp

theorem newGSIG_items_nil (now : Date) (md : Option Meta) : newGSIG { items := false } now md [] = .error .index := by
  cases md with
  | none => rfl
  | some m => simp [newGSIG, gsiMetaG, optG_true, deref, firstCueG_eq]

/-- the repaired `newGSIBlock` is safe: all guards in place -/
example (now : Date) (md : Option Meta) (cues : List WCue) : (newGSIC now md cues).safe = true := by
  rw [newGSIC, newGSIG_safe]; cases md <;> rfl

/-- non-vacuity: metadata with every optional field nil, no cue -/
example : (newGSIC default (some {}) []).safe = true := rfl
example : (newGSIG { creation := false } default (some {}) []).safe = false := rfl
example : (newGSIG { creation := false } default (some { creation := some default }) []).safe = true := rfl

/-- `binary.BigEndian.PutUint32(bs, v)`: the early bounds check `_ = b[3]`, then four stores -/
def putUint32BE (bs : Bytes) (v : Nat) : Chk Bytes := do
  let _ ← idx bs 3
  pure ([v / 16777216 % 256, v / 65536 % 256, v / 256 % 256, v % 256] ++ bs.drop 4)

/-- `binary.BigEndian.PutUint16(bs, v)`: the early bounds check `_ = b[1]`, then two stores -/
def putUint16BE (bs : Bytes) (v : Nat) : Chk Bytes := do
  let _ ← idx bs 1
  pure ([v / 256 % 256, v % 256] ++ bs.drop 2)

/-- `binary.LittleEndian.PutUint16(bs, v)` -/
def putUint16LE (bs : Bytes) (v : Nat) : Chk Bytes := do
  let _ ← idx bs 1
  pure ([v % 256, v / 256 % 256] ++ bs.drop 2)

/-- the code page number field: `bs := make([]byte, 4)`, `PutUint32(bs, 3683632)`, `BytesPad(bs[1:], ' ', 3, …)`;
    answers the field and the buffer -/
def cpnFieldC : Chk (Bytes × Bytes) := do
  let bs ← putUint32BE (List.replicate 4 0) 3683632
  let s ← slcFrom bs 1
  let f ← padRC 0x20 3 s
  pure (f, bs)

/-- the character code table field: `PutUint16(bs, 12336)`, `BytesPad(bs[:2], ' ', 2, …)` -/
def cctFieldC (bs : Bytes) : Chk Bytes := do
  let bs ← putUint16BE bs 12336
  let s ← slcTo bs 2
  padRC 0x20 2 s

/-- the constant sites of `gsiBlock.bytes` are in range: "850" -/
theorem cpnFieldC_eq : cpnFieldC = .ok ([0x38, 0x35, 0x30], [0, 0x38, 0x35, 0x30]) := rfl

/-- the constant sites of `gsiBlock.bytes` are in range: "00" -/
theorem cctFieldC_eq : cctFieldC [0, 0x38, 0x35, 0x30] = .ok [0x30, 0x30] := rfl

/-- a scratch buffer of 3 bytes instead of 4 would make `PutUint32` panic: the sites are real -/
example : putUint32BE (List.replicate 3 0) 3683632 = .error .index := rfl

/-- `gsiBlock.bytes()`.  The four values the model keeps as `Option`s are dereferenced (no `getD` default) -/
def gsiBytesC (g : WGSI) : Chk Bytes := do
  let m := g.m
  let fr := m.framerate.toNat
  let (cpn, bs) ← cpnFieldC
  let dfc ← padRC 0x20 8 ((dfcOf m.framerate).getD [])
  let dsc ← padRC 0x20 1 m.dsc
  let cct ← cctFieldC bs
  let lc ← padRC 0x20 2 g.langCode
  let opt ← padRC 0x20 32 m.title
  let oet ← padRC 0x20 32 m.origEpisode
  let tpt ← padRC 0x20 32 m.translProgram
  let tet ← padRC 0x20 32 m.translEpisode
  let tn ← padRC 0x20 32 m.translName
  let tcd ← padRC 0x20 32 m.translContact
  let slr ← padRC 0x20 16 m.slr
  let cdv ← deref m.creation
  let cd ← padRC 0x20 6 (formatDate cdv)
  let rdv ← deref m.revisionDate
  let rd ← padRC 0x20 6 (formatDate rdv)
  let rn ← numC 2 m.revisionNumber
  let tnb ← numC 5 (g.n : Int)
  let tns ← numC 5 (g.n : Int)
  let tng ← numC 3 1
  let mncv ← deref m.maxChars
  let mnc ← numC 2 mncv
  let mnrv ← deref m.maxRows
  let mnr ← numC 2 mnrv
  let tcs ← padRC 0x20 1 (lit "1")
  let tcp ← padRC 0x20 8 (ascii (Duration.formatSTL m.tcp fr))
  let tcf ← padRC 0x20 8 (ascii (Duration.formatSTL g.tcf fr))
  let tnd ← padRC 0x20 1 (ascii (itoa 1))
  let dsn ← padRC 0x20 1 (ascii (itoa 1))
  let co ← padRC 0x20 3 m.country
  let pub ← padRC 0x20 32 m.publisher
  let en ← padRC 0x20 32 m.editorName
  let ecd ← padRC 0x20 32 m.editorContact
  let spare ← padRC 0x20 651 []
  pure (cpn ++ dfc ++ dsc ++ cct ++ lc ++ opt ++ oet ++ tpt ++ tet ++ tn ++ tcd ++ slr ++ cd ++ rd ++ rn ++ tnb ++ tns
        ++ tng ++ mnc ++ mnr ++ tcs ++ tcp ++ tcf ++ (tnd ++ dsn) ++ co ++ pub ++ en ++ ecd ++ spare)

/-- the timecode status field "1" -/
theorem padR_one : padR 0x20 1 (lit "1") = [0x31] := rfl

theorem gsiBytesC_eq (g : WGSI) (h : Filled g) : gsiBytesC g = .ok (gsiBytes g) := by
  obtain ⟨h1, h2, h3, h4⟩ := h
  obtain ⟨cd, hcd⟩ := Option.isSome_iff_exists.mp h1
  obtain ⟨rd, hrd⟩ := Option.isSome_iff_exists.mp h2
  obtain ⟨mc, hmc⟩ := Option.isSome_iff_exists.mp h3
  obtain ⟨mr, hmr⟩ := Option.isSome_iff_exists.mp h4
  -- the fields `strconv.Itoa(1)` (number of disks, disk sequence number) and the spare bytes
  have h1 : padR 0x20 1 (ascii (itoa 1)) = [0x31] := by decide
  have h0 : ∀ n, padR 0x20 n [] = List.replicate n 0x20 := fun n => by simp [padR]
  unfold gsiBytesC gsiBytes
  simp only [cpnFieldC_eq, cctFieldC_eq, padRC_eq, numC_eq, hcd, hrd, hmc, hmr, deref, ok_bind, pure_eq,
    Option.getD_some, padR_one, h1, h0]
  rfl

/-- the defaults `getD zeroDate` / `getD 0` of the model's `gsiBytes` are dead code: **the block `newGSIBlock`
    built is always filled** -/
theorem gsiBytesC_newGSI (now : Date) (md : Option Meta) (cues : List WCue) :
    gsiBytesC (newGSI now md cues) = .ok (gsiBytes (newGSI now md cues)) :=
  gsiBytesC_eq _ (newGSI_filled now md cues)

/-- an unfilled block would be a nil dereference: the `Filled` hypothesis is exactly what is needed -/
theorem gsiBytesC_safe (g : WGSI) :
    (gsiBytesC g).safe = (g.m.creation.isSome && g.m.revisionDate.isSome && g.m.maxChars.isSome && g.m.maxRows.isSome) := by
  unfold gsiBytesC
  simp only [cpnFieldC_eq, cctFieldC_eq, padRC_eq, numC_eq, ok_bind, pure_eq]
  cases g.m.creation with
  | none => rfl
  | some _ =>
    cases g.m.revisionDate with
    | none => rfl
    | some _ =>
      cases g.m.maxChars with
      | none => rfl
      | some _ =>
        cases g.m.maxRows with
        | none => rfl
        | some _ => rfl

/-- `stlJustificationCodeFromStyle(sa)`: `*sa.STLJustification` behind `sa == nil || sa.STLJustification == nil`
    (`guard = false`: the dereference alone) -/
def justCodeG (guard : Bool) (j : Option Int) : Chk Nat :=
  if guard && j.isNone then pure 1
  else do
    let v ← deref j
    pure (if v == 3 then 2 else if v == 2 then 1 else if v == 4 then 3 else if v == 1 then 0 else 1)

/-- `stlJustificationCodeFromStyle` as it is -/
def justCodeC (j : Option Int) : Chk Nat := justCodeG true j

/-- `stlVerticalPositionFromStyle(sa)`: `sa.STLPosition.VerticalPosition` behind `sa != nil && sa.STLPosition != nil` -/
def vpG (guard : Bool) (vp : Option Int) : Chk Int :=
  if !guard || vp.isSome then deref vp else pure 20

/-- `stlVerticalPositionFromStyle` as it is -/
def vpC (vp : Option Int) : Chk Int := vpG true vp

theorem justCodeC_eq (j : Option Int) : justCodeC j = .ok (justCode j) := by
  cases j <;> rfl

theorem vpC_eq (vp : Option Int) : vpC vp = .ok (vp.getD 20) := by
  cases vp <;> rfl

theorem justCodeG_false_safe (j : Option Int) : (justCodeG false j).safe = j.isSome := by
  cases j <;> rfl

theorem vpG_false_safe (vp : Option Int) : (vpG false vp).safe = vp.isSome := by
  cases vp <;> rfl

example : justCodeG false none = .error .nilDeref := rfl
example : vpG false none = .error .nilDeref := rfl

/-- `int(d.Nanoseconds()) * framerate / 1e9` of `formatDurationSTLBytes`: the only integer division of the two
    time code formatters, by a constant -/
def framesC (ns fr : Int) : Chk Int := tdivC (ns * fr) 1000000000

/-- the division by `1e9` never panics; on non-negative operands it is the `Nat` division of the model's `formatSTLBytes` -/
theorem framesC_eq (ns fr : Nat) : framesC (ns : Int) (fr : Int) = .ok ((ns * fr / 1000000000 : Nat) : Int) := by
  unfold framesC
  rw [tdivC_ok (by decide), ← Int.natCast_mul]
  rfl

theorem framesC_safe (ns fr : Int) : (framesC ns fr).safe = true := rfl

/-- `newTTIBlock(item, idx)` then `t.bytes(g)` (the two `t.timecode… += g.timecodeStartOfProgramme` of
    `WriteToSTL` included); `enc = false`: with the pinned `encodeTextSTL` -/
def ttiBytesG (enc : Bool) (g : WGSI) (k : Nat) (c : WCue) : Chk Bytes := do
  let fr := g.m.framerate.toNat
  let jc ← justCodeC c.just
  let vp ← vpC c.vp
  let sn ← putUint16LE (List.replicate 2 0) k
  let text ← encodeTextG enc (cueString c)
  let tf ← padRC 0x8F 112 text
  pure ([0] ++ sn ++ [255, 0] ++ Duration.formatSTLBytes (c.startAt + g.m.tcp) fr
        ++ Duration.formatSTLBytes (c.endAt + g.m.tcp) fr ++ [vpByte vp g.m.dsc, jc, 0] ++ tf)

/-- the TTI block with the repaired encoder -/
def ttiBytesC (g : WGSI) (k : Nat) (c : WCue) : Chk Bytes := ttiBytesG true g k c

theorem encodeTextG_true (s : List Nat) : encodeTextG true s = .ok (encodeText s) := encodeTextC_eq s

theorem ttiBytesC_eq (g : WGSI) (k : Nat) (c : WCue) : ttiBytesC g k c = .ok (ttiBytes g k c) := by
  unfold ttiBytesC ttiBytesG ttiBytes
  simp only [justCodeC_eq, vpC_eq, encodeTextG_true, padRC_eq, ok_bind, pure_eq]
  rfl

theorem ttiBytesG_false_panics (g : WGSI) (k : Nat) (c : WCue) (d : Nat) (rest : List Nat)
    (hs : nfd (cueString c) = d :: rest) (hd : isDiacritic d = true) : ttiBytesG false g k c = .error .slice := by
  unfold ttiBytesG
  have := encodeTextU_panics (cueString c) d rest hs hd
  unfold encodeTextU at this
  simp only [justCodeC_eq, vpC_eq, ok_bind, this]
  rfl

/-- `for idx, item := range s.Items { … o.Write(newTTIBlock(item, idx+1).bytes(g)) }` from index `k` on -/
def ttiLoopG (enc : Bool) (g : WGSI) : Nat → List WCue → Chk Bytes
  | _, [] => pure []
  | k, c :: cs => do
    let b ← ttiBytesG enc g (k + 1) c
    let rest ← ttiLoopG enc g (k + 1) cs
    pure (b ++ rest)

theorem ttiLoopC_eq (g : WGSI) (cs : List WCue) (k : Nat) :
    ttiLoopG true g k cs = .ok ((cs.zipIdx k).map fun (c, k) => ttiBytes g (k + 1) c).flatten :=
  RLoop.eq (L := ttiLoopG true g) (f := fun k c => ttiBytesG true g (k + 1) c)
    (M := fun k cs => ((cs.zipIdx k).map fun (c, k) => ttiBytes g (k + 1) c).flatten)
    ⟨fun _ => rfl, fun _ _ _ => rfl⟩ cs k fun c _ k => ttiBytesC_eq g (k + 1) c

/-- everything `WriteToSTL` does after the `len(s.Items) == 0` test, with the guards `gs` of `newGSIBlock` and
    the guard `enc` of `encodeTextSTL` -/
def writeBodyG (gs : Guards) (enc : Bool) (now : Date) (md : Option Meta) (cues : List WCue) : Chk Bytes := do
  let g ← newGSIG gs now md cues
  let hd ← gsiBytesC g
  let body ← ttiLoopG enc g 0 cues
  pure (hd ++ body)

/-- the body with every guard in place -/
def writeBodyC (now : Date) (md : Option Meta) (cues : List WCue) : Chk Bytes := writeBodyG {} true now md cues

/-- **the body of `WriteToSTL` never panics** — modelled domain or not (negative times, runes outside the NFD
    table: `writeUnmodelled` plays no part here) — and writes the model's `writeBody` -/
theorem writeBodyC_eq (now : Date) (md : Option Meta) (cues : List WCue) (h : cues ≠ []) :
    writeBodyC now md cues = .ok (writeBody now md cues) := by
  have hg := newGSIC_eq now md cues h
  unfold newGSIC at hg
  unfold writeBodyC writeBodyG writeBody
  rw [hg, ok_bind, gsiBytesC_newGSI, ok_bind, ttiLoopC_eq, ok_bind]
  rfl

/-- on the empty list too (never reached from `WriteToSTL`) the body does not panic -/
theorem writeBodyC_safe (now : Date) (md : Option Meta) (cues : List WCue) : (writeBodyC now md cues).safe = true := by
  cases cues with
  | nil =>
    have hg := newGSIC_eq' now md []
    unfold newGSIC at hg
    unfold writeBodyC writeBodyG
    rw [hg, ok_bind, gsiBytesC_eq _ ?_]
    · rfl
    · have := newGSI_filled now md []
      exact ⟨this.1, this.2, this.3, this.4⟩
  | cons c cs => rw [writeBodyC_eq now md (c :: cs) (by simp)]; rfl

/-- `Subtitles.WriteToSTL` with every index, slice and nil-pointer site checked.  The body runs on every
    non-empty cue list: whether the input lies in the modelled domain only decides how the *model* names the answer -/
def writeG (gs : Guards) (enc : Bool) (now : Date) (md : Option Meta) (cues : List WCue) : Chk (Res Bytes) :=
  if cues.length = 0 then pure .err
  else do
    let b ← writeBodyG gs enc now md cues
    pure (if writeUnmodelled md cues then .unmodelled else .ok b)

/-- `WriteToSTL` as repaired -/
def writeC (now : Date) (md : Option Meta) (cues : List WCue) : Chk (Res Bytes) := writeG {} true now md cues

/-- `WriteToSTL` as pinned: no `if s.Metadata != nil`, no `if len(o) == 0` -/
def writeU (now : Date) (md : Option Meta) (cues : List WCue) : Chk (Res Bytes) :=
  writeG { metadata := false } false now md cues

theorem writeC_eq (now : Date) (md : Option Meta) (cues : List WCue) : writeC now md cues = .ok (write now md cues) := by
  unfold writeC writeG write
  cases cues with
  | nil => rfl
  | cons c cs =>
    have h1 : ¬ ((c :: cs).length = 0) := by simp
    have h2 : ¬ ((c :: cs).isEmpty = true) := by simp
    have hb := writeBodyC_eq now md (c :: cs) (by simp)
    unfold writeBodyC at hb
    rw [if_neg h1, if_neg h2, hb]
    rfl

theorem writeC_safe (now : Date) (md : Option Meta) (cues : List WCue) : (writeC now md cues).safe = true :=
  safe_of_eq_ok (writeC_eq now md cues)

/-- **D15 end to end**: the pinned `WriteToSTL` panics on every non-empty document without metadata -/
theorem writeU_no_metadata (now : Date) (cues : List WCue) (h : cues ≠ []) : writeU now none cues = .error .nilDeref := by
  cases cues with
  | nil => exact absurd rfl h
  | cons c cs => rfl

/-- **D17 end to end**: without the guard of `encodeTextSTL`, `WriteToSTL` panics on every document whose first
    cue's (decomposed) text starts with a floating diacritic — metadata or not, other guards in place -/
theorem writeG_enc_panics (now : Date) (md : Option Meta) (c : WCue) (cs : List WCue) (d : Nat) (rest : List Nat)
    (hs : nfd (cueString c) = d :: rest) (hd : isDiacritic d = true) :
    writeG {} false now md (c :: cs) = .error .slice := by
  have hg := newGSIC_eq now md (c :: cs) (by simp)
  unfold newGSIC at hg
  have h1 : ¬ ((c :: cs).length = 0) := by simp
  unfold writeG writeBodyG
  rw [if_neg h1, hg, ok_bind, gsiBytesC_newGSI, ok_bind, ttiLoopG, ttiBytesG_false_panics _ _ c d rest hs hd]
  rfl

/-- a cue whose only run is U+0301 -/
def acuteCue : WCue := { startAt := 0, endAt := 1000000000, lines := [[{ text := [0x0301] }]] }

/-- the pinned writer panics on it even with metadata; the repaired one writes 1024 + 128 bytes -/
example (now : Date) (md : Option Meta) : writeG {} false now md [acuteCue] = .error .slice :=
  writeG_enc_panics now md acuteCue [] 0x0301 [] nfd_acute (by decide)
example (now : Date) : writeU now none [acuteCue] = .error .nilDeref := writeU_no_metadata now _ (by simp)
example (now : Date) (md : Option Meta) : (writeC now md [acuteCue]).safe = true := writeC_safe _ _ _

/-- the length of an answer (0 when there is none) -/
def resLen (r : Chk (Res Bytes)) : Nat := match r with | .ok (.ok b) => b.length | _ => 0

/-- non-vacuity: no metadata, a text that starts with a combining mark — one GSI block and one TTI block -/
example : resLen (writeC default none [acuteCue]) = 1152 := by rw [writeC_eq]; decide +kernel

/-- non-vacuity: metadata with every optional field nil, a cue without lines, a cue whose only run is empty -/
example : resLen (writeC default (some {}) [{ startAt := 0, endAt := 1, lines := [] },
    { startAt := 0, endAt := 1, lines := [[{ text := [] }]] }]) = 1280 := by rw [writeC_eq]; decide +kernel

/-- non-vacuity: no cue is the error `ErrNoSubtitlesToWrite`, not a panic -/
example : writeC default none [] = .ok .err := rfl

end STLW
end Tot
end Astisub
