import Astisub.Lemmas.TTMLRead2XAttr
import Astisub.Lemmas.TTMLRead2Dec
import Astisub.Props.C03
import Astisub.Lemmas.StrList

/-!
# Lemmas/TTMLRead2Para — one `<p>` on the model side (READ clause of C03)

`decodeItems` sees a re-tokenised paragraph only up to `canon` (`decodeItems_canon`, all token lists); on a paragraph
of the decoder's class (`ParaBody r its`) it returns `itemsM its` (`decodeItems_para`), and line splitting of those
items is the generic line builder `semP` with the model's run makers (`linesLoop_para`).
-/

namespace Astisub
namespace TTMLR
open Go TTML

theorem canon_nil (d : Nat) : canon d [] = [] := by cases d <;> rfl

theorem canon_start (d : Nat) (sp n : Str) (a : List XAttr) (r : List XTok) :
    canon d (.start sp n a :: r) = .start [] n (a.map eraseA) :: canon (d + 1) r := by
  cases d <;> simp [canon]

theorem canon_stop (d : Nat) (sp n : Str) (r : List XTok) :
    canon d (.stop sp n :: r) = .stop [] n :: canon (d - 1) r := by
  cases d <;> simp [canon]

theorem canon_other (d : Nat) (r : List XTok) : canon d (.other :: r) = .other :: canon d r := by
  cases d <;> simp [canon]

theorem canon_text_zero (s : Str) (r : List XTok) :
    canon 0 (.text s :: r) = if s.all isSpace then canon 0 r else .text s :: canon 0 r := by
  simp [canon]

theorem canon_text_succ (d : Nat) (s : Str) (r : List XTok) :
    canon (d + 1) (.text s :: r) = .text s :: canon (d + 1) r := by
  simp [canon]

theorem brTrick_stop (sp n : Str) (r : List XTok) : brTrick (.stop sp n :: r) = .stop sp n :: brTrick r := by
  simp [brTrick]
theorem brTrick_text (s : Str) (r : List XTok) : brTrick (.text s :: r) = .text s :: brTrick r := by
  simp [brTrick]
theorem brTrick_comment (r : List XTok) : brTrick (.other :: r) = .other :: brTrick r := by
  simp [brTrick]
theorem brTrick_start (sp n : Str) (a : List XAttr) (r : List XTok) :
    brTrick (.start sp n a :: r) =
      if isBr n then .text ['\n'] :: .start sp n a :: brTrick r else .start sp n a :: brTrick r := by
  simp [brTrick]

theorem trimSpace_eq_nil_of (s : Str) (h : s.all isSpace = true) : trimSpace s = [] := by
  rw [← List.isEmpty_iff, trimSpace_isEmpty, h]

theorem trimSpace_ne_nil_of (s : Str) (h : s.all isSpace = false) : trimSpace s ≠ [] := by
  rw [Ne, ← List.isEmpty_iff, trimSpace_isEmpty, h]
  exact Bool.false_ne_true

theorem elemBody_length (r : List XTok) : ∀ (d : Nat) (acc t : Str) (r' : List XTok),
    elemBody r d acc = some (t, r') → r'.length < r.length := by
  induction r with
  | nil => intro d acc t r' h; simp [elemBody] at h
  | cons x r ih =>
    intro d acc t r' h
    have sub : ∀ d' acc', elemBody r d' acc' = some (t, r') → r'.length < (x :: r).length :=
      fun _ _ h' => Nat.lt_succ_of_lt (ih _ _ _ _ h')
    cases x with
    | start sp n a => exact sub _ _ (by rwa [elemBody] at h)
    | stop sp n =>
      cases d with
      | zero => rw [elemBody] at h; cases h; exact Nat.lt_succ_self _
      | succ d => exact sub _ _ (by rwa [elemBody] at h)
    | text s => cases d <;> exact sub _ _ (by rwa [elemBody] at h)
    | other => exact sub _ _ (by rwa [elemBody] at h)

theorem elemBody_canon (r : List XTok) : ∀ (d : Nat) (acc : Str),
    elemBody (canon (d + 1) r) d acc = (elemBody r d acc).map (fun x => (x.1, canon 0 x.2)) := by
  induction r with
  | nil => intro d acc; simp [canon_nil, elemBody]
  | cons x r ih =>
    intro d acc
    cases x with
    | start sp n a =>
      rw [canon_start, elemBody, elemBody, ih]
    | stop sp n =>
      cases d with
      | zero => rw [canon_stop, elemBody, elemBody]; rfl
      | succ d => rw [canon_stop, elemBody, elemBody]; exact ih d acc
    | text s =>
      cases d with
      | zero => rw [canon_text_succ, elemBody, elemBody]; exact ih 0 _
      | succ d => rw [canon_text_succ, elemBody, elemBody]; exact ih (d + 1) _
    | other => rw [canon_other, elemBody, elemBody, ih]

theorem itemsLoop_canon : ∀ (f f' : Nat) (X : List XTok) (acc : List InItem),
    X.length < f → (canon 0 X).length < f' → itemsLoop f X acc = itemsLoop f' (canon 0 X) acc := by
  -- the two fuels need not agree: each only has to exceed the length of its own list, and `elemBody` hands back a shorter one
  intro f
  induction f with
  | zero => intro f' X acc h; omega
  | succ f ih =>
    intro f' X acc h h'
    obtain ⟨g, rfl⟩ : ∃ g, f' = g + 1 := ⟨f' - 1, by omega⟩
    cases X with
    | nil => simp [canon_nil, itemsLoop]
    | cons x X =>
      simp only [List.length_cons] at h
      cases x with
      | start sp n a =>
        rw [canon_start] at h' ⊢
        simp only [List.length_cons, Nat.zero_add] at h' ⊢
        rw [itemsLoop, itemsLoop, itemOfStart_erase, elemBody_canon]
        cases hi : itemOfStart n a {} with
        | none => rfl
        | some it =>
          cases he : elemBody X 0 [] with
          | none => rfl
          | some p =>
            obtain ⟨txt, X'⟩ := p
            have hl := elemBody_length _ _ _ _ _ he
            have he' : elemBody (canon 1 X) 0 [] = some (txt, canon 0 X') := by
              rw [elemBody_canon, he]; rfl
            have hl' := elemBody_length _ _ _ _ _ he'
            simp only [Option.map_some]
            rw [if_pos (by omega), if_pos (by omega)]
            exact ih g X' _ (by omega) (by omega)
      | stop sp n =>
        rw [canon_stop, itemsLoop, itemsLoop]
      | text s =>
        rw [canon_text_zero] at h' ⊢
        cases hs : s.all isSpace with
        | true =>
          rw [hs] at h'
          simp only [↓reduceIte] at h' ⊢
          rw [itemsLoop, if_neg (by simp [trimSpace_eq_nil_of s hs])]
          exact ih (g + 1) X acc (by omega) h'
        | false =>
          rw [hs] at h'
          simp only [Bool.false_eq_true, ↓reduceIte, List.length_cons] at h' ⊢
          rw [itemsLoop, itemsLoop, if_pos (trimSpace_ne_nil_of s hs), if_pos (trimSpace_ne_nil_of s hs)]
          exact ih g X _ (by omega) (by omega)
      | other =>
        rw [canon_other] at h' ⊢
        simp only [List.length_cons] at h'
        rw [itemsLoop, itemsLoop]
        exact ih g X _ (by omega) (by omega)

/-- `brTrick` on canonical tokens: the `"\n"` token only at depth ≥ 1 (at depth 0 `canon` drops it again) -/
def brTrickAt : Nat → List XTok → List XTok
  | _, [] => []
  | d, .start sp n a :: r =>
    if isBr n && decide (1 ≤ d) then .text ['\n'] :: .start sp n a :: brTrickAt (d + 1) r
    else .start sp n a :: brTrickAt (d + 1) r
  | d, .stop sp n :: r => .stop sp n :: brTrickAt (d - 1) r
  | d, .text s :: r => .text s :: brTrickAt d r
  | d, .other :: r => .other :: brTrickAt d r

theorem canon_brTrick (r : List XTok) : ∀ d : Nat, canon d (brTrick r) = brTrickAt d (canon d r) := by
  induction r with
  | nil => intro d; simp [brTrick, canon_nil, brTrickAt]
  | cons x r ih =>
    intro d
    cases x with
    | start sp n a =>
      rw [brTrick_start, canon_start, brTrickAt]
      cases hb : isBr n with
      | false =>
        simp only [Bool.false_eq_true, ↓reduceIte, Bool.false_and]
        rw [canon_start, ih]
      | true =>
        simp only [↓reduceIte, Bool.true_and]
        cases d with
        | zero =>
          have : (['\n'] : Str).all isSpace = true := by decide
          rw [canon_text_zero, this]
          simp only [↓reduceIte, Nat.le_zero_eq, Nat.succ_ne_self, decide_false, Bool.false_eq_true]
          rw [canon_start, ih]
        | succ d =>
          rw [canon_text_succ, canon_start, ih]
          simp
    | stop sp n => rw [brTrick_stop, canon_stop, canon_stop, brTrickAt, ih]
    | text s =>
      cases d with
      | zero =>
        rw [brTrick_text, canon_text_zero, canon_text_zero]
        cases hs : s.all isSpace with
        | true => simp only [↓reduceIte]; exact ih 0
        | false => simp only [Bool.false_eq_true, ↓reduceIte]; rw [brTrickAt, ih]
      | succ d => rw [brTrick_text, canon_text_succ, canon_text_succ, brTrickAt, ih]
    | other => rw [brTrick_comment, canon_other, canon_other, brTrickAt, ih]

theorem decodeItems_start (sp n : Str) (a : List XAttr) (r : List XTok) (hn : isBr n = false) :
    decodeItems (.start sp n a :: r) true = itemsLoop ((brTrick r).length + 1) (brTrick r) [] := by
  unfold decodeItems
  simp only [Bool.not_true, Bool.false_eq_true, ↓reduceIte, brTrick, hn]

theorem decodeItems_canon (sp n sp' n' : Str) (a a' : List XAttr) (r₁ r₂ : List XTok)
    (hn : isBr n = false) (hn' : isBr n' = false) (h : canon 0 r₁ = canon 0 r₂) :
    decodeItems (.start sp n a :: r₁) true = decodeItems (.start sp' n' a' :: r₂) true := by
  rw [decodeItems_start _ _ _ _ hn, decodeItems_start _ _ _ _ hn']
  have e : canon 0 (brTrick r₁) = canon 0 (brTrick r₂) := by
    rw [canon_brTrick, canon_brTrick, h]
  rw [itemsLoop_canon _ ((canon 0 (brTrick r₁)).length + 1) (brTrick r₁) [] (by omega) (by omega),
    itemsLoop_canon _ ((canon 0 (brTrick r₁)).length + 1) (brTrick r₂) [] (by omega) (by rw [e]; omega), e]

theorem isBr_br : isBr "br".toList = true := by decide
theorem isBr_span : isBr "span".toList = false := by decide

theorem brTrick_brBody {b : List XTok} (h : BrBody b) : brTrick b = b := by
  induction h with
  | stop sp n => rfl
  | other _ ih => rw [brTrick_comment, ih]

theorem elemBody_brBody_one {b : List XTok} (h : BrBody b) (rest : List XTok) (acc : Str) :
    elemBody (b ++ rest) 1 acc = elemBody rest 0 acc := by
  induction h with
  | stop sp n => rw [List.singleton_append, elemBody]
  | other _ ih => rw [List.cons_append, elemBody, ih]

theorem elemBody_brBody_zero {b : List XTok} (h : BrBody b) (rest : List XTok) (acc : Str) :
    elemBody (b ++ rest) 0 acc = some (acc, rest) := by
  induction h with
  | stop sp n => rw [List.singleton_append, elemBody]
  | other _ ih => rw [List.cons_append, elemBody, ih]

theorem join_cons_append (s seg : Str) (segs : List Str) :
    Go.join ['\n'] ((s ++ seg) :: segs) = s ++ Go.join ['\n'] (seg :: segs) := by
  cases segs with
  | nil => simp [Go.join]
  | cons x xs => simp [Go.join]

theorem elemBody_spanBody {b : List XTok} {segs : List Str} (h : SpanBody b segs) (rest : List XTok) :
    ∀ acc : Str, elemBody (brTrick b ++ rest) 0 acc = some (acc ++ Go.join ['\n'] segs, rest) := by
  induction h with
  | stop sp n => intro acc; rw [brTrick_stop, List.cons_append, elemBody]; simp [brTrick, Go.join]
  | other _ ih => intro acc; rw [brTrick_comment, List.cons_append, elemBody, ih]
  | @text s r seg segs _ _ ih =>
    intro acc
    rw [brTrick_text, List.cons_append, elemBody, ih, join_cons_append, List.append_assoc]
  | @br sp a b r segs hb hr ih =>
    intro acc
    rw [List.cons_append, brTrick_start, isBr_br]
    simp only [↓reduceIte]
    rw [C03.brTrick_append, brTrick_brBody hb, List.cons_append, List.cons_append, elemBody, elemBody,
      List.append_assoc, elemBody_brBody_one hb, ih, join_cons_of_ne_nil ['\n'] [] (spanBody_ne hr)]
    simp

theorem itemsM_cons {p : PItem} {its : List PItem} {items : List InItem} (h : itemsM (p :: its) = some items) :
    ∃ i is, itemM p = some i ∧ itemsM its = some is ∧ items = i :: is := by
  rw [itemsM] at h
  cases hp : itemM p with
  | none => rw [hp] at h; simp at h
  | some i =>
    cases hr : itemsM its with
    | none => rw [hp, hr] at h; simp at h
    | some is =>
      rw [hp, hr] at h
      simp only [Option.some.injEq] at h
      exact ⟨i, is, rfl, rfl, h.symm⟩

theorem nl_trim : trimSpace ['\n'] = [] := by decide

theorem itemsLoop_para {r : List XTok} {its : List PItem} (h : ParaBody r its) :
    ∀ (items : List InItem), itemsM its = some items → ∀ (fuel : Nat) (acc : List InItem),
      (brTrick r).length < fuel → itemsLoop fuel (brTrick r) acc = .ok (acc.reverse ++ items) := by
  induction h with
  | stop sp n =>
    intro items hi fuel acc hf
    obtain ⟨f, rfl⟩ : ∃ f, fuel = f + 1 := ⟨fuel - 1, by omega⟩
    simp only [itemsM, Option.some.injEq] at hi
    rw [brTrick_stop, itemsLoop, ← hi, List.append_nil]
  | other _ ih =>
    intro items hi fuel acc hf
    rw [brTrick_comment, List.length_cons] at hf
    obtain ⟨f, rfl⟩ : ∃ f, fuel = f + 1 := ⟨fuel - 1, by omega⟩
    rw [brTrick_comment, itemsLoop]
    exact ih items hi f acc (by omega)
  | @ws s r its hs _ ih =>
    intro items hi fuel acc hf
    rw [brTrick_text, List.length_cons] at hf
    obtain ⟨f, rfl⟩ : ∃ f, fuel = f + 1 := ⟨fuel - 1, by omega⟩
    rw [brTrick_text, itemsLoop, if_neg (by simp [trimSpace_eq_nil_of s hs])]
    exact ih items hi f acc (by omega)
  | @text s r its hs _ _ ih =>
    intro items hi fuel acc hf
    rw [brTrick_text, List.length_cons] at hf
    obtain ⟨f, rfl⟩ : ∃ f, fuel = f + 1 := ⟨fuel - 1, by omega⟩
    obtain ⟨i, is, h1, h2, rfl⟩ := itemsM_cons hi
    simp only [itemM, Option.some.injEq] at h1
    rw [brTrick_text, itemsLoop, if_pos (trimSpace_ne_nil_of s hs), ih is h2 f _ (by omega), ← h1]
    simp
  | @br sp a b r its hb _ ih =>
    intro items hi fuel acc hf
    obtain ⟨i, is, h1, h2, rfl⟩ := itemsM_cons hi
    obtain ⟨it, h3, rfl⟩ := Option.map_eq_some_iff.mp h1
    have e : brTrick (.start sp "br".toList a :: b ++ r)
        = .text ['\n'] :: .start sp "br".toList a :: (b ++ brTrick r) := by
      rw [List.cons_append, brTrick_start, isBr_br, C03.brTrick_append, brTrick_brBody hb]; rfl
    rw [e] at hf ⊢
    simp only [List.length_cons, List.length_append] at hf
    obtain ⟨f, rfl⟩ : ∃ f, fuel = f + 2 := ⟨fuel - 2, by omega⟩
    rw [itemsLoop, if_neg (by simp [nl_trim]), itemsLoop, h3]
    simp only [elemBody_brBody_zero hb]
    rw [if_pos (by simp), ih is h2 f _ (by omega)]
    simp
  | @span sp a b r segs its hb _ ih =>
    intro items hi fuel acc hf
    obtain ⟨i, is, h1, h2, rfl⟩ := itemsM_cons hi
    obtain ⟨it, h3, rfl⟩ := Option.map_eq_some_iff.mp h1
    have e : brTrick (.start sp "span".toList a :: b ++ r)
        = .start sp "span".toList a :: (brTrick b ++ brTrick r) := by
      rw [List.cons_append, brTrick_start, isBr_span, C03.brTrick_append]; rfl
    rw [e] at hf ⊢
    simp only [List.length_cons, List.length_append] at hf
    obtain ⟨f, rfl⟩ : ∃ f, fuel = f + 1 := ⟨fuel - 1, by omega⟩
    rw [itemsLoop, h3]
    simp only [elemBody_spanBody hb, List.nil_append]
    rw [if_pos (by simp), ih is h2 f _ (by omega)]
    simp

theorem decodeItems_para (sp n : Str) (a : List XAttr) (r : List XTok) (its : List PItem) (items : List InItem)
    (hn : isBr n = false) (h : ParaBody r its) (hi : itemsM its = some items) :
    decodeItems (.start sp n a :: r) true = .ok items := by
  rw [decodeItems_start _ _ _ _ hn, itemsLoop_para h items hi _ _ (by omega)]
  rfl

theorem hasNL_false {s : Str} (h : Spec.TTML.hasNL s = false) : '\n' ∉ s :=
  fun hm => Bool.false_ne_true (h.symm.trans ((hasNL_iff s).mpr hm))

theorem spanBody_segs {b : List XTok} {segs : List Str} (h : SpanBody b segs) : ∀ s ∈ segs, '\n' ∉ s := by
  induction h with
  | stop sp n => intro s hs; simp at hs; subst hs; simp
  | other _ ih => exact ih
  | @text s r seg segs hnl _ ih =>
    intro x hx
    rcases List.mem_cons.mp hx with rfl | hx
    · intro hm
      rcases List.mem_append.mp hm with hm | hm
      · exact hasNL_false hnl hm
      · exact ih seg (by simp) hm
    · exact ih x (by simp [hx])
  | br _ _ ih =>
    intro x hx
    rcases List.mem_cons.mp hx with rfl | hx
    · simp
    · exact ih x hx

/-- what the line splitter needs of an item: no line feed inside a bare text or a segment (the only line feeds of a
    span's text are the ones `brTrick` puts in), a bare text is not blank, a span has at least one segment -/
def segsOk : PItem → Prop
  | .text s => '\n' ∉ s ∧ s.all isSpace = false
  | .br _ => True
  | .span _ segs => segs ≠ [] ∧ ∀ s ∈ segs, '\n' ∉ s

theorem para_segs {r : List XTok} {its : List PItem} (h : ParaBody r its) : ∀ it ∈ its, segsOk it := by
  induction h with
  | stop => exact fun _ h => absurd h List.not_mem_nil
  | other _ ih => exact ih
  | ws _ _ ih => exact ih
  | text hs hnl _ ih => exact List.forall_mem_cons.mpr ⟨⟨hasNL_false hnl, hs⟩, ih⟩
  | br _ _ ih => exact List.forall_mem_cons.mpr ⟨trivial, ih⟩
  | span hb _ ih => exact List.forall_mem_cons.mpr ⟨⟨spanBody_ne hb, spanBody_segs hb⟩, ih⟩

theorem spanFin_map {α β : Type} (f : α → β) (mk : Str → α) (d : List (List α)) (c : List α) (segs : List Str) :
    spanFin (fun s => f (mk s)) (d.map (List.map f)) (c.map f) segs =
      ((spanFin mk d c segs).1.map (List.map f), (spanFin mk d c segs).2.map f) := by
  cases segs with
  | nil => rfl
  | cons first more =>
    simp only [spanFin]
    cases more.getLast? with
    | none => simp
    | some last => simp [Function.comp_def]

theorem semP_map {α β : Type} (f : α → β) (mkT : Str → α) (mkS : List XAttr → Str → α) (its : List PItem)
    (d : List (List α)) (c : List α) :
    semP (fun s => f (mkT s)) (fun a s => f (mkS a s)) its (d.map (List.map f), c.map f) =
      (((semP mkT mkS its (d, c)).1).map (List.map f), ((semP mkT mkS its (d, c)).2).map f) := by
  induction its generalizing d c with
  | nil => rfl
  | cons p its ih =>
    cases p with
    | text s =>
      rw [semP, semP, ← ih]
      simp
    | br a =>
      rw [semP, semP, ← ih]
      simp
    | span a segs =>
      rw [semP, semP, spanFin_map f (mkS a), ← ih]

theorem semP_congr {α : Type} (mkT : Str → α) (mkS mkS' : List XAttr → Str → α) (its : List PItem)
    (h : ∀ a segs, PItem.span a segs ∈ its → mkS a = mkS' a) (s : List (List α) × List α) :
    semP mkT mkS its s = semP mkT mkS' its s := by
  induction its generalizing s with
  | nil => rfl
  | cons p its ih =>
    obtain ⟨d, c⟩ := s
    have ih' := ih (fun a segs hm => h a segs (List.mem_cons_of_mem _ hm))
    cases p with
    | text x => rw [semP, semP, ih']
    | br a => rw [semP, semP, ih']
    | span a segs => rw [semP, semP, ih', h a segs (List.mem_cons_self ..)]

theorem mkLine_append (d : List (List LItem)) (c : List LItem) :
    d.map mkLine ++ [({ items := c } : Line)] = (d ++ [c]).map mkLine := by
  simp [mkLine]

theorem linesLoop_textM (styles : List Str) (s : Str) (hs : '\n' ∉ s) (rest : List InItem) (done : List Line)
    (cur : List LItem) :
    linesLoop styles ({ text := s } :: rest) done cur = linesLoop styles rest done (cur ++ [mkTM s]) := by
  have hb : isBr [] = false := by decide
  rw [C03.linesLoop_run styles { text := s } ⟨⟨hb, Or.inl rfl⟩, hs⟩]
  rfl

theorem linesLoop_brM (styles : List Str) (i : InItem) (hb : isBr i.name = true) (rest : List InItem)
    (d : List (List LItem)) (c : List LItem) :
    linesLoop styles (i :: rest) (d.map mkLine) c = linesLoop styles rest ((d ++ [c]).map mkLine) [] := by
  rw [linesLoop]
  simp only [hb, ↓reduceIte]
  rw [mkLine_append]

/-- the read clause's run maker is the one `Props/C03` states the line splitter with -/
theorem mkLI_eq (it : InItem) : mkLI it = C03.mkItem it := rfl

/-- … which does not look at the item's text -/
theorem mkItem_text (it : InItem) (t x : Str) : C03.mkItem { it with text := t } x = C03.mkItem it x := rfl

theorem linesLoop_spanM (styles : List Str) (it : InItem) (segs : List Str) (hr : C03.Run styles it)
    (hne : segs ≠ []) (hseg : ∀ s ∈ segs, '\n' ∉ s) (rest : List InItem) (d : List (List LItem)) (c : List LItem) :
    linesLoop styles ({ it with text := Go.join ['\n'] segs } :: rest) (d.map mkLine) c =
      linesLoop styles rest ((spanFin (mkLI it) d c segs).1.map mkLine) (spanFin (mkLI it) d c segs).2 := by
  have hr' : C03.Run styles { it with text := Go.join ['\n'] segs } := hr
  cases segs with
  | nil => exact absurd rfl hne
  | cons first more =>
    cases hm : more.getLast? with
    | none =>
      have e : more = [] := List.getLast?_eq_none_iff.mp hm
      subst e
      rw [C03.linesLoop_run styles _ ⟨hr', by simpa [Go.join] using hseg first (by simp)⟩]
      simp only [spanFin, List.getLast?_nil]
      rfl
    | some last =>
      rw [C03.linesLoop_segs styles _ hr' first last more hm rfl hseg]
      simp only [spanFin, hm]
      congr 1
      simp [mkLine, Function.comp_def, mkLI_eq, mkItem_text]

theorem linesLoop_para (styles : List Str) (its : List PItem) :
    ∀ (items : List InItem), itemsM its = some items → stylesOk styles its = true →
      (∀ it ∈ its, segsOk it) →
      ∀ (d : List (List LItem)) (c : List LItem),
        linesLoop styles items (d.map mkLine) c =
          some (((semP mkTM mkSM its (d, c)).1 ++ [(semP mkTM mkSM its (d, c)).2]).map mkLine) := by
  induction its with
  | nil =>
    intro items hi _ _ d c
    simp only [itemsM, Option.some.injEq] at hi
    rw [← hi, linesLoop, semP, mkLine_append]
  | cons p its ih =>
    intro items hi hs hsg d c
    obtain ⟨i, is, h1, h2, rfl⟩ := itemsM_cons hi
    obtain ⟨hp, hsg'⟩ := List.forall_mem_cons.mp hsg
    cases p with
    | text s =>
      simp only [itemM, Option.some.injEq] at h1
      simp only [stylesOk] at hs
      rw [← h1, linesLoop_textM styles s hp.1, semP]
      exact ih is h2 hs hsg' d _
    | br a =>
      obtain ⟨it, h3, rfl⟩ := Option.map_eq_some_iff.mp h1
      simp only [stylesOk] at hs
      have hb : isBr ({ it with text := [] } : InItem).name = true := by
        show isBr it.name = true
        rw [itemOfStart_name _ _ _ _ h3]; exact isBr_br
      rw [linesLoop_brM styles _ hb, semP]
      exact ih is h2 hs hsg' _ _
    | span a segs =>
      obtain ⟨it, h3, rfl⟩ := Option.map_eq_some_iff.mp h1
      simp only [stylesOk, h3] at hs
      simp only [Bool.and_eq_true, Bool.or_eq_true, List.isEmpty_iff, List.contains_eq_mem,
        decide_eq_true_eq] at hs
      have hr : C03.Run styles it := by
        refine ⟨?_, hs.1⟩
        rw [itemOfStart_name _ _ _ _ h3]; exact isBr_span
      obtain ⟨hne, hseg⟩ := hp
      have hm : mkSM a = mkLI it := by
        funext s
        simp only [mkSM, h3, Option.getD_some]
      rw [linesLoop_spanM styles it segs hr hne hseg, semP, hm]
      exact ih is h2 hs.2 hsg' _ _

def exToks : List XTok :=
  [.text "hi".toList, .start [] "span".toList [([], "style".toList, "s1".toList)], .text "a".toList, .other,
   .start [] "br".toList [], .stop [] "br".toList, .text "b".toList, .stop [] "span".toList,
   .start [] "br".toList [], .stop [] "br".toList, .text "\n ".toList, .stop [] "p".toList]

def exItems : List PItem :=
  [.text "hi".toList, .span [([], "style".toList, "s1".toList)] ["a".toList, "b".toList], .br []]

/-- `hi<span style="s1">a<!-- --><br/>b</span><br/>\n </p>`: a bare text, a span with text, a comment and a `br`,
    a top-level `br`, white space -/
theorem exPara : ParaBody exToks exItems :=
  .text (by decide) (by decide)
    (.span (b := [.text "a".toList, .other, .start [] "br".toList [], .stop [] "br".toList, .text "b".toList,
                  .stop [] "span".toList])
      (.text (seg := []) (by decide) (.other (.br (b := [.stop [] "br".toList]) (.stop _ _)
        (.text (seg := []) (by decide) (.stop _ _)))))
      (.br (b := [.stop [] "br".toList]) (.stop _ _) (.ws (by decide) (.stop _ _))))

example :
    decodeItems (.start [] "p".toList [] :: exToks) true
    = .ok [{ text := "hi".toList }, { name := "span".toList, style := "s1".toList, text := "a\nb".toList },
           { name := "br".toList }] :=
  decodeItems_para _ _ _ _ _ _ (by decide) exPara rfl

example :
    linesLoop ["s1".toList]
      [{ text := "hi".toList }, { name := "span".toList, style := "s1".toList, text := "a\nb".toList },
       { name := "br".toList }] [] []
    = some ([[mkTM "hi".toList, mkSM [([], "style".toList, "s1".toList)] "a".toList],
             [mkSM [([], "style".toList, "s1".toList)] "b".toList], []].map mkLine) :=
  linesLoop_para ["s1".toList] _ _ rfl (by decide) (para_segs exPara) [] []

end TTMLR
end Astisub
