import Astisub.Lemmas.TTMLW2Attr
import Astisub.Lemmas.TTMLW2Time
import Astisub.Lemmas.EvalLit

/-!
# Lemmas/TTMLW2Elems — the start tags the writer emits (`tt`, `style`, `region`, `p`, `span`) under the decoder
-/

namespace Astisub
namespace TTMLW2
open Go TTML List
open Driver.TTMLD (nsTTML nsTTS nsTTM nsXML ttmlAttrsOf)
open Spec.TTML (isDecl attr? ref? styling hasNL natAttr denote)
open TTMLDoc (normRef optAttr_norm NotRow headerAttrs pAttrs)

/-- a reference the decoder reads back as it is: not the empty string, no line feed -/
def refW (r : Option Str) : Bool :=
  match r with
  | none => true
  | some x => !x.isEmpty && okStr x

example : refW (some "a".toList) = true ∧ refW none = true ∧ refW (some []) = false := by decide

theorem refW_norm {r : Option Str} (h : refW r = true) : normRef r = r := by
  cases r with
  | none => rfl
  | some x =>
    cases x with
    | nil => simp [refW] at h
    | cons c cs => rfl

theorem refW_ok {r : Option Str} (h : refW r = true) {v : Str} (hv : normRef r = some v) : hasNL v = false := by
  rw [refW_norm h] at hv
  subst hv
  simp [refW, okStr] at h
  exact h.2

/-- a definition the decoder reads back as it is -/
def defW (d : Def) : Bool := !d.id.isEmpty && okStr d.id && refW d.ref && attrsW d.attrs

/-- the clauses of `defW` -/
structure DefW (d : Def) : Prop where
  idNe : d.id ≠ []
  idOk : okStr d.id = true
  ref : refW d.ref = true
  attrs : attrsW d.attrs = true

theorem defW_iff {d : Def} : defW d = true ↔ DefW d := by
  simp only [defW, Bool.and_eq_true, Bool.not_eq_true', List.isEmpty_eq_false_iff]
  exact ⟨fun ⟨⟨⟨a, b⟩, c⟩, e⟩ => ⟨a, b, c, e⟩, fun h => ⟨⟨⟨h.idNe, h.idOk⟩, h.ref⟩, h.attrs⟩⟩

/-- what the decoder makes of a definition -/
def toG (d : Def) : Spec.TTML.GDef := { id := d.id, ref := d.ref, attrs := ttmlAttrsOf d.attrs }

/-- the start tag of a cue the decoder reads back as it is (the runs apart) -/
def cueHeadW (it : CItem) : Bool :=
  decide (0 ≤ it.startAt) && decide (0 ≤ it.endAt) && refW it.style && refW it.region && attrsW it.attrs

/-- the clauses of `cueHeadW` -/
structure CueHeadW (it : CItem) : Prop where
  start : 0 ≤ it.startAt
  stop : 0 ≤ it.endAt
  style : refW it.style = true
  region : refW it.region = true
  attrs : attrsW it.attrs = true

theorem cueHeadW_iff {it : CItem} : cueHeadW it = true ↔ CueHeadW it := by
  simp only [cueHeadW, Bool.and_eq_true, decide_eq_true_eq]
  exact ⟨fun ⟨⟨⟨⟨a, b⟩, c⟩, d⟩, e⟩ => ⟨a, b, c, d, e⟩, fun h => ⟨⟨⟨⟨h.start, h.stop⟩, h.style⟩, h.region⟩, h.attrs⟩⟩

/-- a run the decoder reads back as it is -/
def runW (li : LItem) : Bool := okStr li.text && refW li.style && attrsW li.attrs

/-- the clauses of `runW` -/
structure RunW (li : LItem) : Prop where
  text : okStr li.text = true
  style : refW li.style = true
  attrs : attrsW li.attrs = true

theorem runW_iff {li : LItem} : runW li = true ↔ RunW li := by
  simp only [runW, Bool.and_eq_true]
  exact ⟨fun ⟨⟨a, b⟩, c⟩ => ⟨a, b, c⟩, fun h => ⟨⟨h.text, h.style⟩, h.attrs⟩⟩

/-- the attributes of the `span` of a run, resolved -/
def spanAttrs (li : LItem) : List XAttr := (optAttr "style" li.style ++ outAttrs li.attrs).map rAttr

/-- the attributes of `<tt>`, resolved -/
def rootR (m : Attrs) : List XAttr := (TTMLDoc.rootAttrs m).map rAttr

theorem langOut_noNL (m : Attrs) {v : Str} (h : normRef (langOut m) = some v) : hasNL v = false := by
  have key : ∀ p ∈ languages, hasNL p.1 = false := by decide +kernel
  unfold langOut at h
  cases hk : kvGet m "Language" with
  | none => simp [hk, normRef] at h
  | some l =>
    simp only [hk] at h
    cases hf : languages.find? (fun p => p.2 = l) with
    | none => simp [hf, normRef] at h
    | some p =>
      simp only [hf, Option.map_some] at h
      have := key p (List.mem_of_find?_eq_some hf)
      cases hp1 : p.1 with
      | nil => simp [hp1, normRef] at h
      | cons c cs =>
        rw [hp1] at h this
        simp [normRef] at h
        rw [← h]; exact this

section tags
open TTMLDoc (allAttr localName splitName)

theorem hasNL_optAttr (k : String) (r : Option Str) (h : refW r = true) : (optAttr k r).any (fun kv => hasNL kv.2) = false := by
  rw [optAttr_norm]
  cases hr : normRef r with
  | none => rfl
  | some v => simp [refW_ok h hr]

theorem noDecl_headerAttrs (d : Def) : NoDecl (headerAttrs d) :=
  ((noDecl_optAttr _ _ (by decide_vector) (by decide_vector)).append
    (noDecl_optAttr _ _ (by decide_vector) (by decide_vector))).append (noDecl_outAttrs _)

theorem mkDef_header (d : Def) (h : defW d = true) :
    Spec.TTML.mkDef ((headerAttrs d).map rAttr) = some (toG d) ∧ nlAttr ((headerAttrs d).map rAttr) = false := by
  have hd := defW_iff.mp h
  have hidW : refW (some d.id) = true := by simp [refW, hd.idOk, hd.idNe]
  have hv : ∀ (nm : String) {l : List Str}, allAttr (headerAttrs d) nm = l → vals ((headerAttrs d).map rAttr) nm = l :=
    fun nm _ e => (vals_written (noDecl_headerAttrs d) nm).trans e
  have h1 : attr? ((headerAttrs d).map rAttr) "id" = some (some d.id) :=
    (attr_opt (o := normRef (some d.id)) (hv _ ((TTMLDoc.allAttr_headerAttrs d TTMLDoc.notRow_id).trans (by simp)))).trans
      (by rw [refW_norm hidW]; rfl)
  have h2 : ref? ((headerAttrs d).map rAttr) "style" = some d.ref :=
    (ref_opt (hv _ ((TTMLDoc.allAttr_headerAttrs d TTMLDoc.row_not_style).trans (by simp)))).trans (congrArg some (refW_norm hd.ref))
  have h3 : styling ((headerAttrs d).map rAttr) = some (ttmlAttrsOf d.attrs) := by
    unfold headerAttrs
    rw [map_append]
    refine styling_written _ d.attrs (plain_written (noDecl_headerAttrs d).left ?_)
      (zCanon_of hd.attrs)
    intro p hp
    rw [TTMLDoc.allAttr_append, TTMLDoc.allAttr_optAttr, TTMLDoc.allAttr_optAttr, TTMLDoc.localName_xmlid,
      TTMLDoc.localName_style, if_neg (fun e => TTMLDoc.notRow_id p hp e.symm),
      if_neg (fun e => TTMLDoc.row_not_style p hp e.symm)]
    rfl
  refine ⟨?_, ?_⟩
  · unfold Spec.TTML.mkDef
    rw [h1, h2, h3]
    simp only [isEmpty_false hd.idNe, Bool.false_eq_true, if_false, toG]
  · rw [nlAttr_map]
    unfold headerAttrs
    rw [any_append, any_append, hasNL_optAttr _ _ hidW, hasNL_optAttr _ _ hd.ref, hasNL_outAttrs _ hd.attrs]
    rfl

theorem noDecl_pAttrs (it : CItem) : NoDecl (pAttrs it) :=
  (((noDecl_cons (by decide_vector) (by decide_vector) (noDecl_cons (by decide_vector) (by decide_vector) noDecl_nil)).append
    (noDecl_optAttr _ _ (by decide_vector) (by decide_vector))).append
    (noDecl_optAttr _ _ (by decide_vector) (by decide_vector))).append (noDecl_outAttrs _)

theorem p_fields (it : CItem) (h : cueHeadW it = true) (fr tr : Nat) :
    attr? ((pAttrs it).map rAttr) "begin" = some (some (Duration.formatTTML it.startAt)) ∧
    attr? ((pAttrs it).map rAttr) "end" = some (some (Duration.formatTTML it.endAt)) ∧
    ref? ((pAttrs it).map rAttr) "style" = some it.style ∧
    ref? ((pAttrs it).map rAttr) "region" = some it.region ∧
    styling ((pAttrs it).map rAttr) = some (ttmlAttrsOf it.attrs) ∧
    denote (Duration.formatTTML it.startAt) fr tr = some ((it.startAt - it.startAt % 1000000).toNat, 1) ∧
    denote (Duration.formatTTML it.endAt) fr tr = some ((it.endAt - it.endAt % 1000000).toNat, 1) ∧
    nlAttr ((pAttrs it).map rAttr) = false := by
  have hc := cueHeadW_iff.mp h
  have hv : ∀ (nm : String) {l : List Str}, allAttr (pAttrs it) nm = l → vals ((pAttrs it).map rAttr) nm = l :=
    fun nm _ e => (vals_written (noDecl_pAttrs it) nm).trans e
  have hsty : styling ((pAttrs it).map rAttr) = some (ttmlAttrsOf it.attrs) := by
    unfold pAttrs
    rw [map_append]
    exact styling_written _ it.attrs (plain_written (noDecl_pAttrs it).left (TTMLDoc.pHead_plain it))
      (zCanon_of hc.attrs)
  refine ⟨attr_one (hv _ (TTMLDoc.allAttr_pAttrs it TTMLDoc.notRow_begin)),
    attr_one (hv _ (TTMLDoc.allAttr_pAttrs it TTMLDoc.notRow_end)),
    (ref_opt (hv _ (TTMLDoc.allAttr_pAttrs it TTMLDoc.row_not_style))).trans (congrArg some (refW_norm hc.style)),
    (ref_opt (hv _ ((TTMLDoc.allAttr_pAttrs it TTMLDoc.notRow_region).trans (by simp)))).trans (congrArg some (refW_norm hc.region)),
    hsty, (denote_formatTTML_any _ hc.start fr tr).1, (denote_formatTTML_any _ hc.stop fr tr).1, ?_⟩
  rw [nlAttr_map]
  unfold pAttrs
  rw [any_append, any_append, any_append, hasNL_optAttr _ _ hc.region, hasNL_optAttr _ _ hc.style, hasNL_outAttrs _ hc.attrs]
  simp only [any_cons, any_nil, (denote_formatTTML_any _ hc.start 0 0).2, (denote_formatTTML_any _ hc.stop 0 0).2, Bool.or_false]

theorem span_fields (li : LItem) (h : runW li = true) :
    ref? (spanAttrs li) "style" = some li.style ∧ styling (spanAttrs li) = some (ttmlAttrsOf li.attrs) ∧
    nlAttr (spanAttrs li) = false := by
  have hr := runW_iff.mp h
  have hd : NoDecl (optAttr "style" li.style ++ outAttrs li.attrs) :=
    (noDecl_optAttr _ _ (by decide_vector) (by decide_vector)).append (noDecl_outAttrs _)
  unfold spanAttrs
  refine ⟨?_, ?_, ?_⟩
  · refine (ref_opt ((vals_written hd _).trans ?_)).trans (congrArg some (refW_norm hr.style))
    rw [TTMLDoc.allAttr_append, TTMLDoc.allAttr_outAttrs _ TTMLDoc.row_not_style, TTMLDoc.allAttr_optAttr,
      if_pos TTMLDoc.localName_style, append_nil]
  · rw [map_append]
    refine styling_written _ li.attrs (plain_written hd.left ?_)
      (zCanon_of hr.attrs)
    intro p hp
    rw [TTMLDoc.allAttr_optAttr, TTMLDoc.localName_style, if_neg (fun e => TTMLDoc.row_not_style p hp e.symm)]
  · rw [nlAttr_map, any_append, hasNL_optAttr _ _ hr.style, hasNL_outAttrs _ hr.attrs]
    rfl

/-- `<tt>`: the three `xmlns` attributes are declarations, which leaves `xml:lang` -/
theorem vals_rootR (m : Attrs) (nm : String) :
    vals (rootR m) nm = if "lang".toList = nm.toList then (normRef (langOut m)).toList else [] := by
  -- whether an attribute is a declaration does not depend on its value
  have val : ∀ k v : Str, isDecl (rAttr (k, v)) = isDecl (rAttr (k, [])) := fun _ _ => rfl
  have d1 : ∀ v, isDecl (rAttr ("xmlns".toList, v)) = true := fun v => (val _ v).trans (by decide_vector)
  have d2 : ∀ v, isDecl (rAttr ("xmlns:ttm".toList, v)) = true := fun v => (val _ v).trans (by decide_vector)
  have d3 : ∀ v, isDecl (rAttr ("xmlns:tts".toList, v)) = true := fun v => (val _ v).trans (by decide_vector)
  have hl : localName "xml:lang".toList = "lang".toList := by decide_vector
  unfold rootR TTMLDoc.rootAttrs
  rw [map_append, map_append, vals_append, vals_append]
  simp only [map_cons, map_nil]
  rw [vals_cons_miss _ _ _ (.inl (d1 _)), vals_cons_miss _ _ _ (.inl (d2 _)), vals_cons_miss _ _ _ (.inl (d3 _)), vals_nil,
    nil_append, append_nil, vals_written (noDecl_optAttr _ _ (by decide_vector) (by decide_vector)),
    TTMLDoc.allAttr_optAttr, hl]

theorem root_fields (m : Attrs) :
    natAttr (rootR m) "frameRate" = some 0 ∧ natAttr (rootR m) "tickRate" = some 0 ∧
    attr? (rootR m) "lang" = (normRef (langOut m)).map some ∧ nlAttr (rootR m) = false := by
  refine ⟨?_, ?_, attr_opt ((vals_rootR m _).trans (if_pos rfl)), ?_⟩
  · unfold natAttr; rw [attr_none ((vals_rootR m _).trans (if_neg (by decide_vector)))]
  · unfold natAttr; rw [attr_none ((vals_rootR m _).trans (if_neg (by decide_vector)))]
  · unfold rootR TTMLDoc.rootAttrs
    rw [nlAttr_map, optAttr_norm]
    cases hr : normRef (langOut m) with
    | none => simp; decide +kernel
    | some v => simp [langOut_noNL m hr]; decide +kernel

end tags

end TTMLW2
end Astisub
