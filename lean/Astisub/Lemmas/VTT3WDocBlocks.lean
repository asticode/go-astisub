import Astisub.Lemmas.VTT3WDocDefs

/-!
# Lemmas/VTT3WDocBlocks — the written document as the decoder's blocks

The written lines are `WEBVTT`, the timestamp map line, then groups of non-blank trimmed lines, each preceded by one
blank line (`docLines2_seg`, `Lemmas/VTTDoc`); the decoder's `blocks` cuts such lines into exactly those groups
(`docBlocks_written`).  Then the decoder on a comment block and on the `STYLE` block.
-/

namespace Astisub
namespace VTT3W
open Go Spec.VTT VTTRead

theorem splitLines_unlines (ls : List Str) (h : ∀ l ∈ ls, OneLine l) :
    splitLines (VTT.unlines ls) [] = ls := by
  rw [Spec.VTT.splitLines_eq]
  exact splitLines_lfLines h

theorem metaLine_nil : metaLine [] = false := by decide

theorem takeWhile_meta (hdr : List Str) (hh : ∀ l ∈ hdr, metaLine l = true) (rest : List Str) :
    (hdr ++ ([] : Str) :: rest).takeWhile metaLine = hdr := by
  induction hdr with
  | nil => simp [metaLine_nil]
  | cons l ls ih =>
    rw [List.cons_append, List.takeWhile_cons, hh l (by simp)]
    simp only [if_true]
    rw [ih (fun x hx => hh x (by simp [hx]))]

theorem okHeader_webvtt : okHeader "WEBVTT".toList = true := by decide

theorem docBlocks_written (hdr : List Str) (bs : List (List Str)) (hbs : bs ≠ [])
    (hh : ∀ l ∈ hdr, metaLine l = true) (hht : ∀ l ∈ hdr, trimSpace l = l)
    (hne : ∀ b ∈ bs, b ≠ []) (hbl : ∀ b ∈ bs, ∀ l ∈ b, BLine l)
    (hnb : ∀ l ∈ ("WEBVTT".toList :: hdr) ++ segLines bs, OneLine l) :
    docBlocks (VTT.unlines (("WEBVTT".toList :: hdr) ++ segLines bs))
      = some ((if hdr.isEmpty then [] else [hdr]) ++ bs) := by
  have hstrip : stripBom (VTT.unlines (("WEBVTT".toList :: hdr) ++ segLines bs))
      = VTT.unlines (("WEBVTT".toList :: hdr) ++ segLines bs) := by
    rw [List.cons_append, VTT.unlines_cons]
    rfl
  unfold docBlocks
  rw [hstrip, splitLines_unlines _ hnb]
  simp only [List.cons_append]
  rw [okHeader_webvtt]
  simp only [Bool.not_true, Bool.false_eq_true, if_false]
  obtain ⟨b0, bs', rfl⟩ : ∃ b0 bs', bs = b0 :: bs' := by
    cases bs with
    | nil => exact absurd rfl hbs
    | cons a b => exact ⟨a, b, rfl⟩
  have hseg : segLines (b0 :: bs') = ([] : Str) :: (b0 ++ segLines bs') := rfl
  have htw : (hdr ++ segLines (b0 :: bs')).takeWhile metaLine = hdr := by
    rw [hseg]; exact takeWhile_meta hdr hh _
  rw [htw]
  rw [List.map_eq_self (l := hdr) hht, List.drop_left, Spec.VTT.blocks_eq_srt, Spec.SRT.blocks_segLines hne hbl]

theorem cueBlocks_ne (s : Subs) (k : Nat) (items : List CItem) (h : items ≠ []) : cueBlocks s k items ≠ [] := by
  cases items with
  | nil => exact absurd rfl h
  | cons it rest =>
    rw [cueBlocks]
    cases it.comments <;> simp [noteBlock]

theorem restBlocks_ne (s : Subs) (h : s.items ≠ []) : restBlocks s ≠ [] := by
  unfold restBlocks
  intro e
  have := List.append_eq_nil_iff.mp e
  exact cueBlocks_ne s 0 s.items h this.2

theorem noteLine_first (c : Str) (hc : trimSpace c = c) : noteLine ("NOTE ".toList ++ c) = some c := by
  have e : "NOTE ".toList ++ c = "NOTE".toList ++ (' ' :: c) := by rw [lit_note_sp, lit_note]; rfl
  unfold noteLine
  rw [e, Go.dropPrefix?_append]
  have hne : ¬ ("NOTE".toList ++ ' ' :: c = "NOTE".toList) := by rw [lit_note]; simp
  rw [if_neg hne]
  simp [isBlank, hc]

theorem firstComment_spec {c : Str} (h : VTT.firstCommentOk c = true) : c ≠ [] ∧ trimSpace c = c :=
  have w := VTT.wline_firstComment h
  ⟨w.ne, w.trim⟩

theorem block_comment (ds : DocSt) (c : Str) (cs : List Str) (hok : VTT.commentsOk (c :: cs) = true)
    (hx : commentsW2 (c :: cs) = true) :
    block ds (("NOTE ".toList ++ c) :: cs) = some { ds with comments := ds.comments ++ (c :: cs) } := by
  simp only [VTT.commentsOk, Bool.and_eq_true, List.all_eq_true] at hok
  simp only [commentsW2, Bool.and_eq_true, Bool.not_eq_true', List.all_eq_true] at hx
  obtain ⟨hc0, hct⟩ := firstComment_spec hok.1
  have hnone : ∀ l ∈ cs, noteLine l = none := by
    intro l hl
    have F := VTT.contCommentOk_facts (hok.2 l hl)
    exact VTTRead.noteLine_eq_none_iff.mpr ⟨F.note, F.notePre, hx.2 l hl⟩
  have hany : ((c :: cs).any fun l => contains Spec.VTT.arrow l || decide (l = [])) = false := by
    rw [List.any_eq_false]
    intro l hl
    rcases List.mem_cons.mp hl with rfl | hl
    · simp [hx.1, hc0]
    · have F := VTT.contCommentOk_facts (hok.2 l hl)
      simp [show contains Spec.VTT.arrow l = false from F.arrow, (VTT.wline_firstComment F.first).ne]
  unfold block
  simp only [noteLine_first c hct, if_neg hc0, List.singleton_append]
  rw [List.map_eq_self (l := cs), hany]
  · simp
  · intro l hl
    simp only [hnone l hl]

theorem noteOK_comment (c : Str) (cs : List Str) (hok : VTT.commentsOk (c :: cs) = true)
    (hx : commentsW2 (c :: cs) = true) : ∀ l ∈ ("NOTE ".toList ++ c) :: cs, noteOK l = true := by
  simp only [VTT.commentsOk, Bool.and_eq_true, List.all_eq_true] at hok
  simp only [commentsW2, Bool.and_eq_true, Bool.not_eq_true', List.all_eq_true] at hx
  obtain ⟨hc0, hct⟩ := firstComment_spec hok.1
  intro l hl
  rcases List.mem_cons.mp hl with rfl | hl
  · obtain ⟨x, xs, rfl⟩ : ∃ x xs, c = x :: xs := by
      cases c with
      | nil => exact absurd rfl hc0
      | cons a b => exact ⟨a, b, rfl⟩
    have hx0 : isSpace x = false := (trimmed_of_bline ⟨hct, hc0⟩).1 x rfl
    unfold noteOK
    rw [Go.dropPrefix?_append]
    have : hasPrefix "NOTE\t".toList ("NOTE ".toList ++ x :: xs) = false := by
      rw [lit_note_tab, lit_note_sp]
      simp [hasPrefix, dropPrefix?]
    rw [this]
    simp [hx0]
  · have g2 := (VTT.contCommentOk_facts (hok.2 l hl)).notePre
    have g3 : hasPrefix "NOTE\t".toList l = false := hx.2 l hl
    unfold noteOK
    rw [g3]
    have : dropPrefix? "NOTE ".toList l = none := by
      unfold hasPrefix at g2
      cases hd : dropPrefix? "NOTE ".toList l with
      | none => rfl
      | some r => rw [hd] at g2; cases g2
    rw [this]
    rfl

theorem noteLine_style : noteLine "STYLE".toList = none := by decide

theorem opener_styleLine {l : Str} (h : VTT.styleLineOk l = true) (ht : tabNote l = false) : opener l = false := by
  have F := VTT.styleLineOk_facts h
  have ht' : hasPrefix "NOTE\t".toList l = false := ht
  unfold opener
  rw [F.notePre, ht', F.style, F.region, F.tsmap]
  simp only [Bool.or_false]
  exact decide_eq_false F.note

theorem block_style (ds : DocSt) (css : List Str) (hne : css ≠ []) (hls : ∀ l ∈ css, VTT.styleLineOk l = true)
    (htab : ∀ l ∈ css, tabNote l = false) (hend : (css.getLast?.map (hasSuffix ['}'])) ≠ some false) :
    block ds ("STYLE".toList :: css) = some { ds with styles := ds.styles ++ css } := by
  have hany : (css.any fun l => contains Spec.VTT.arrow l || opener l) = false := by
    rw [List.any_eq_false]
    intro l hl
    rw [show contains Spec.VTT.arrow l = false from (VTT.styleLineOk_facts (hls l hl)).arrow, opener_styleLine (hls l hl) (htab l hl)]
    simp
  unfold block
  simp only [noteLine_style, if_true]
  rw [hany]
  simp only [Bool.false_eq_true, if_false]
  cases hl : css.getLast? with
  | none => rw [List.getLast?_eq_none_iff] at hl; exact absurd hl hne
  | some z =>
    rw [hl] at hend
    simp only
    have hz : hasSuffix ['}'] z = true := by
      cases hz : hasSuffix ['}'] z with
      | true => rfl
      | false => rw [Option.map_some, hz] at hend; exact absurd rfl hend
    rw [if_pos hz]

theorem sortDefs_ne {l : List Def} (h : l ≠ []) : VTT.sortDefs l ≠ [] := by
  intro e
  have hp : (VTT.sortDefs l).Perm l := Proto.sortDefs_perm l
  rw [e] at hp
  exact h (List.Perm.nil_eq hp).symm

end VTT3W
end Astisub
