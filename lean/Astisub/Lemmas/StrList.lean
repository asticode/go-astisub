import Astisub.Lemmas.Str
import Astisub.Lemmas.ListFacts

/-! # Lemmas/StrList — the `strings` functions of `Go/Strings.lean`

Facts about `trimSpace`, `join`, `splitC`, `dropPrefix?`, `hasPrefix`, `contains`, `splitOn` (with `replaceAll`), `replacer`, `fields` and
`splitOnce` that hold for every string (trimming first for any predicate, `trimBoth`: `trimSpace` and the STL and teletext decoders' `strip`s are instances), and `Trimmed` (nothing to trim), also of joined pieces, one group per function; `splitOn` and `fields` are first freed of fuel and accumulator (the facts about digits are in `Lemmas/Str` and `Lemmas/Digits`; the
`takeWhile`/`dropWhile` facts they rest on in `Lemmas/ListFacts`). -/

namespace Astisub
namespace Go
open List

theorem not_mem_of_isSpace {c : Char} (hc : isSpace c = true) {s : Str} (hs : ∀ x ∈ s, isSpace x = false) :
    c ∉ s :=
  fun hm => by rw [hs c hm] at hc; cases hc

theorem not_mem_of_not_isSpace {c : Char} (hc : isSpace c = false) {s : Str} (hs : ∀ x ∈ s, isSpace x = true) :
    c ∉ s :=
  fun hm => by rw [hs c hm] at hc; cases hc

/-! ### trimming at both ends by a predicate: `strings.TrimSpace` and the decoders' `strip`s are instances -/

def trimBoth {α} (p : α → Bool) (x : List α) : List α := ((x.dropWhile p).reverse.dropWhile p).reverse

theorem trimBoth_all {α} (p : α → Bool) (a : List α) (h : ∀ c ∈ a, p c = true) : trimBoth p a = [] := by
  unfold trimBoth
  rw [dropWhile_eq_nil_iff_all.mpr h]; rfl

/-- what satisfies `p` around a list whose first and last members do not is removed, and nothing else -/
theorem trimBoth_pad {α} (p : α → Bool) {a t b : List α} (ha : ∀ c ∈ a, p c = true) (hb : ∀ c ∈ b, p c = true)
    (hh : ∀ c, t.head? = some c → p c = false) (hl : ∀ c, t.getLast? = some c → p c = false) :
    trimBoth p (a ++ t ++ b) = t := by
  by_cases hne : t = []
  · subst hne
    exact trimBoth_all p _ fun c hc => by
      rw [append_nil] at hc; exact (mem_append.mp hc).elim (ha c) (hb c)
  · have hh' : ∀ c, (t ++ b).head? = some c → p c = false := by
      cases t with
      | nil => exact absurd rfl hne
      | cons x xs => exact hh
    unfold trimBoth
    rw [append_assoc, dropWhile_append_of_pos ha, dropWhile_eq_self_of_head hh', reverse_append,
      dropWhile_append_of_pos (fun c hc => hb c (mem_reverse.mp hc))]
    have := dropWhile_eq_self_of_head (p := p) (l := t.reverse) fun c hc =>
      hl c (by rwa [head?_reverse] at hc)
    rw [this, reverse_reverse]

/-- what is left after trimming neither begins nor ends with a member satisfying `p` -/
theorem head?_trimBoth {α} (p : α → Bool) {s : List α} {c : α} (h : (trimBoth p s).head? = some c) : p c = false := by
  obtain ⟨t, ht⟩ : trimBoth p s <+: s.dropWhile p := by
    have := reverse_prefix.mpr (dropWhile_suffix p (l := (s.dropWhile p).reverse))
    rwa [reverse_reverse] at this
  have hx := head?_dropWhile_not p s
  rw [← ht] at hx
  cases hy : trimBoth p s with
  | nil => rw [hy] at h; cases h
  | cons y ys =>
    rw [hy] at h hx
    obtain rfl := Option.some.inj h
    simpa using hx

theorem getLast?_trimBoth {α} (p : α → Bool) {s : List α} {c : α} (h : (trimBoth p s).getLast? = some c) :
    p c = false := by
  rw [trimBoth, getLast?_reverse] at h
  have hx := head?_dropWhile_not p (s.dropWhile p).reverse
  rw [h] at hx
  simpa using hx

/-- two predicates that agree on the members trim alike -/
theorem trimBoth_congr {α} {p q : α → Bool} {l : List α} (h : ∀ x ∈ l, p x = q x) : trimBoth p l = trimBoth q l := by
  unfold trimBoth
  rw [dropWhile_congr_mem p q l h]
  exact congrArg reverse (dropWhile_congr_mem p q _ fun x hx => h x ((dropWhile_sublist _).subset (mem_reverse.mp hx)))

theorem trimSpace_eq_trimBoth (x : Str) : trimSpace x = trimBoth isSpace x := rfl

theorem trimSpace_decomp (s : Str) : ∃ w1 w2, s = w1 ++ trimSpace s ++ w2 ∧
    (∀ c ∈ w1, isSpace c = true) ∧ (∀ c ∈ w2, isSpace c = true) := by
  refine ⟨s.takeWhile isSpace, (((s.dropWhile isSpace).reverse).takeWhile isSpace).reverse, ?_,
    fun c hc => mem_takeWhile_imp hc, fun c hc => mem_takeWhile_imp (mem_reverse.mp hc)⟩
  unfold trimSpace trimRight trimLeft
  rw [append_assoc, ← reverse_append, takeWhile_append_dropWhile, reverse_reverse,
    takeWhile_append_dropWhile]

theorem mem_of_mem_trimSpace {s : Str} {c : Char} (h : c ∈ trimSpace s) : c ∈ s :=
  (dropWhile_sublist isSpace).mem
    (mem_reverse.mp ((dropWhile_sublist isSpace).mem (mem_reverse.mp h)))

theorem trimSpace_eq_nil_iff {s : Str} : trimSpace s = [] ↔ ∀ c ∈ s, isSpace c = true := by
  constructor
  · intro h c hc
    obtain ⟨a, b, e, ha, hb⟩ := trimSpace_decomp s
    rw [h, append_nil] at e
    rw [e] at hc
    exact (mem_append.mp hc).elim (ha c) (hb c)
  · intro h
    rw [trimSpace, trimLeft, dropWhile_eq_nil_iff_all.mpr h]; rfl

theorem trimSpace_isEmpty (s : Str) : (trimSpace s).isEmpty = s.all isSpace := by
  rw [Bool.eq_iff_iff, isEmpty_iff, trimSpace_eq_nil_iff, all_eq_true]

theorem trimSpace_ne_nil_of_mem {s : Str} {c : Char} (hc : c ∈ s) (h : isSpace c = false) :
    trimSpace s ≠ [] :=
  fun e => by rw [trimSpace_eq_nil_iff.mp e c hc] at h; cases h

theorem head?_trimSpace {s : Str} {c : Char} (h : (trimSpace s).head? = some c) : isSpace c = false :=
  head?_trimBoth isSpace h

theorem getLast?_trimSpace {s : Str} {c : Char} (h : (trimSpace s).getLast? = some c) :
    isSpace c = false :=
  getLast?_trimBoth isSpace h

/-- nothing to trim: the first and the last character are not spaces -/
def Trimmed (s : Str) : Prop :=
  (∀ c, s.head? = some c → isSpace c = false) ∧ (∀ c, s.getLast? = some c → isSpace c = false)

instance (s : Str) : Decidable (Trimmed s) :=
  decidable_of_iff ((s.head?.all fun c => !isSpace c) = true ∧ (s.getLast?.all fun c => !isSpace c) = true) (by
    unfold Trimmed
    cases s.head? <;> cases s.getLast? <;> simp)

theorem trimSpace_pad {w1 t w2 : Str} (h1 : ∀ c ∈ w1, isSpace c = true) (h2 : ∀ c ∈ w2, isSpace c = true)
    (hh : ∀ c, t.head? = some c → isSpace c = false) (hl : ∀ c, t.getLast? = some c → isSpace c = false) :
    trimSpace (w1 ++ t ++ w2) = t :=
  trimBoth_pad isSpace h1 h2 hh hl

theorem trimSpace_trailing {s : Str} (h : ∀ c ∈ s, isSpace c = false) : trimSpace (s ++ [' ']) = s := by
  simpa using trimSpace_pad (w1 := []) (w2 := [' ']) (fun _ hc => nomatch hc) (by decide)
    (fun c hc => h c (List.mem_of_mem_head? hc)) (fun c hc => h c (List.mem_of_getLast? hc))

theorem trimSpace_eq_self {s : Str} (hh : ∀ c, s.head? = some c → isSpace c = false)
    (hl : ∀ c, s.getLast? = some c → isSpace c = false) : trimSpace s = s := by
  simpa using trimSpace_pad (w1 := []) (w2 := []) (fun _ h => nomatch h) (fun _ h => nomatch h) hh hl

theorem trimSpace_eq_self_iff {s : Str} : trimSpace s = s ↔ Trimmed s :=
  ⟨fun h => ⟨fun _ hc => head?_trimSpace (h.symm ▸ hc), fun _ hc => getLast?_trimSpace (h.symm ▸ hc)⟩,
   fun h => trimSpace_eq_self h.1 h.2⟩

theorem trimSpace_idem (s : Str) : trimSpace (trimSpace s) = trimSpace s :=
  trimSpace_eq_self (fun _ => head?_trimSpace) (fun _ => getLast?_trimSpace)

theorem trimSpace_of_trimmed {s : Str} (h : Trimmed s) : trimSpace s = s := trimSpace_eq_self h.1 h.2

theorem trimmed_nil : Trimmed [] := by simp [Trimmed]

theorem trimmed_of_noSpace {s : Str} (h : ∀ c ∈ s, isSpace c = false) : Trimmed s := by
  constructor
  · intro c hc; exact h c (mem_of_mem_head? hc)
  · intro c hc; exact h c (mem_of_mem_getLast? hc)

theorem trimmed_trimSpace (s : Str) : Trimmed (trimSpace s) := ⟨fun _ => head?_trimSpace, fun _ => getLast?_trimSpace⟩

theorem trimSpace_sandwich {w1 t w2 : Str} (h1 : ∀ c ∈ w1, isSpace c = true) (h2 : ∀ c ∈ w2, isSpace c = true)
    (ht : trimSpace t = t) : trimSpace (w1 ++ t ++ w2) = t :=
  trimSpace_pad h1 h2 (trimSpace_eq_self_iff.mp ht).1 (trimSpace_eq_self_iff.mp ht).2

theorem trimRight_cons_ink {c : Char} (hc : isSpace c = false) (x : Str) : trimRight (c :: x) = c :: trimRight x := by
  unfold trimRight
  rw [reverse_cons]
  by_cases h : x.reverse.dropWhile isSpace = []
  · rw [dropWhile_append_of_pos (dropWhile_eq_nil_iff_all.mp h), h]
    simp [dropWhile, hc]
  · rw [dropWhile_append_of_ne _ _ _ h]
    simp

theorem trimSpace_append_left {w : Str} (hw : ∀ c ∈ w, isSpace c = true) (x : Str) :
    trimSpace (w ++ x) = trimSpace x := by
  rw [trimSpace, trimLeft, dropWhile_append_of_pos hw]; rfl

theorem join_cons_cons (sep a b : Str) (rest : List Str) :
    join sep (a :: b :: rest) = a ++ sep ++ join sep (b :: rest) := rfl

theorem join_cons_of_ne_nil (sep a : Str) {l : List Str} (hne : l ≠ []) :
    join sep (a :: l) = a ++ sep ++ join sep l := by
  cases l with
  | nil => exact absurd rfl hne
  | cons b rest => rfl

theorem join_cons_head (sep : Str) (y : Char) (h : Str) (t : List Str) :
    join sep ((y :: h) :: t) = y :: join sep (h :: t) := by
  cases t <;> rfl

theorem mem_join {sep : Str} {c : Char} : ∀ {ls : List Str}, c ∈ join sep ls → c ∈ sep ∨ ∃ l ∈ ls, c ∈ l
  | [], h => nomatch h
  | [a], h => .inr ⟨a, mem_cons_self, h⟩
  | a :: b :: r, h => by
    rw [join_cons_cons, append_assoc] at h
    rcases mem_append.mp h with h | h
    · exact .inr ⟨a, mem_cons_self, h⟩
    · rcases mem_append.mp h with h | h
      · exact .inl h
      · exact (mem_join h).imp_right fun ⟨l, hl, hc⟩ => ⟨l, mem_cons_of_mem _ hl, hc⟩

theorem mem_join_of_mem {sep : Str} {c : Char} {l : Str} : ∀ {ls : List Str}, l ∈ ls → c ∈ l → c ∈ join sep ls
  | [a], hl, hc => by obtain rfl := mem_singleton.mp hl; exact hc
  | a :: b :: r, hl, hc => by
    rw [join_cons_cons, append_assoc]
    rcases mem_cons.mp hl with rfl | hl
    · exact mem_append_left _ hc
    · exact mem_append_right _ (mem_append_right _ (mem_join_of_mem hl hc))

theorem not_mem_join {sep : Str} {c : Char} {ls : List Str} (hs : c ∉ sep) (h : ∀ l ∈ ls, c ∉ l) :
    c ∉ join sep ls :=
  fun hm => (mem_join hm).elim hs fun ⟨l, hl, hc⟩ => h l hl hc

theorem splitC_cons_self (c : Char) (xs : Str) : splitC c (c :: xs) = [] :: splitC c xs := by
  rw [splitC, if_pos rfl]

theorem splitC_ne_nil (c : Char) (s : Str) : splitC c s ≠ [] := by
  cases s with
  | nil => exact cons_ne_nil _ _
  | cons x xs =>
    rw [splitC]
    split
    · exact cons_ne_nil _ _
    · split <;> exact cons_ne_nil _ _

theorem splitC_cons_ne {c x : Char} (hx : x ≠ c) {xs h : Str} {t : List Str} (hs : splitC c xs = h :: t) :
    splitC c (x :: xs) = (x :: h) :: t := by
  rw [splitC, if_neg hx, hs]

theorem join_splitC (c : Char) (s : Str) : join [c] (splitC c s) = s := by
  induction s with
  | nil => rfl
  | cons y ys ih =>
    rcases hL : splitC c ys with _ | ⟨h, t⟩
    · exact absurd hL (splitC_ne_nil c ys)
    · rw [hL] at ih
      by_cases hy : y = c
      · subst hy
        rw [splitC_cons_self, hL, join_cons_cons, ih]; rfl
      · rw [splitC_cons_ne hy hL, join_cons_head, ih]

theorem sep_not_mem_of_mem_splitC {c : Char} {s p : Str} (hp : p ∈ splitC c s) : c ∉ p := by
  induction s generalizing p with
  | nil => obtain rfl := mem_singleton.mp hp; exact not_mem_nil
  | cons y ys ih =>
    rcases hL : splitC c ys with _ | ⟨h, t⟩
    · exact absurd hL (splitC_ne_nil c ys)
    · rw [hL] at ih
      by_cases hy : y = c
      · subst hy
        rw [splitC_cons_self, hL] at hp
        rcases mem_cons.mp hp with rfl | hp
        · exact not_mem_nil
        · exact ih hp
      · rw [splitC_cons_ne hy hL] at hp
        rcases mem_cons.mp hp with rfl | hp
        · exact fun hm => (mem_cons.mp hm).elim (fun e => hy e.symm) (ih mem_cons_self)
        · exact ih (mem_cons_of_mem _ hp)

theorem mem_of_mem_splitC {c x : Char} {s p : Str} (hp : p ∈ splitC c s) (hx : x ∈ p) : x ∈ s := by
  rw [← join_splitC c s]; exact mem_join_of_mem hp hx

theorem splitC_single {c : Char} {s a : Str} (h : splitC c s = [a]) : s = a ∧ c ∉ a := by
  have hj := join_splitC c s
  rw [h] at hj
  exact ⟨hj.symm, sep_not_mem_of_mem_splitC (h ▸ mem_cons_self)⟩

theorem splitC_cons_cons {c : Char} {s a b : Str} {rest : List Str} (h : splitC c s = a :: b :: rest) :
    ∃ s', s = a ++ c :: s' ∧ c ∉ a ∧ splitC c s' = b :: rest := by
  have ha : c ∉ a := sep_not_mem_of_mem_splitC (h ▸ mem_cons_self)
  have hj : s = a ++ c :: join [c] (b :: rest) := by
    rw [← join_splitC c s, h, join_cons_cons, append_assoc]; rfl
  refine ⟨_, hj, ha, ?_⟩
  rw [hj, splitC_append _ ha] at h
  exact (cons.inj h).2

theorem splitC_two {c : Char} {s a b : Str} (h : splitC c s = [a, b]) : s = a ++ c :: b ∧ c ∉ a ∧ c ∉ b := by
  obtain ⟨s', e, ha, h'⟩ := splitC_cons_cons h
  obtain ⟨rfl, hb⟩ := splitC_single h'
  exact ⟨e, ha, hb⟩

theorem splitC_three {c : Char} {s a b d : Str} (h : splitC c s = [a, b, d]) :
    s = a ++ c :: (b ++ c :: d) ∧ c ∉ a ∧ c ∉ b ∧ c ∉ d := by
  obtain ⟨s', rfl, ha, h'⟩ := splitC_cons_cons h
  obtain ⟨rfl, hb, hd⟩ := splitC_two h'
  exact ⟨rfl, ha, hb, hd⟩

theorem splitC_two_mk {c : Char} {a b : Str} (ha : c ∉ a) (hb : c ∉ b) : splitC c (a ++ c :: b) = [a, b] := by
  rw [splitC_append _ ha, splitC_not_mem hb]

theorem splitC_three_mk {c : Char} {a b d : Str} (ha : c ∉ a) (hb : c ∉ b) (hd : c ∉ d) :
    splitC c (a ++ c :: (b ++ c :: d)) = [a, b, d] := by
  rw [splitC_append _ ha, splitC_two_mk hb hd]

theorem splitC_join {c : Char} : ∀ {cs : List Str}, cs ≠ [] → (∀ x ∈ cs, c ∉ x) → splitC c (join [c] cs) = cs
  | [], hne, _ => absurd rfl hne
  | [a], _, h => splitC_not_mem (h a mem_cons_self)
  | a :: b :: rest, _, h => by
    rw [join_cons_cons, append_assoc, singleton_append, splitC_append _ (h a mem_cons_self),
      splitC_join (cons_ne_nil _ _) fun x hx => h x (mem_cons_of_mem _ hx)]

theorem dropPrefix?_append (p b : Str) : dropPrefix? p (p ++ b) = some b := by
  induction p with
  | nil => cases b <;> rfl
  | cons x xs ih => rw [cons_append, dropPrefix?, if_pos rfl, ih]

theorem dropPrefix?_eq_some_iff {p s r : Str} : dropPrefix? p s = some r ↔ s = p ++ r := by
  refine ⟨fun h => ?_, fun h => h ▸ dropPrefix?_append p r⟩
  induction p generalizing s with
  | nil => cases s <;> simp_all [dropPrefix?]
  | cons x xs ih =>
    cases s with
    | nil => simp [dropPrefix?] at h
    | cons y ys =>
      rw [dropPrefix?] at h
      split at h
      · rename_i e; rw [e, ih h]; rfl
      · cases h

theorem hasPrefix_append (p r : Str) : hasPrefix p (p ++ r) = true := by
  rw [hasPrefix, dropPrefix?_append]; rfl

theorem hasPrefix_nil (x : Str) : hasPrefix [] x = true := rfl

theorem hasPrefix_split {p s : Str} (h : hasPrefix p s = true) : s = p ++ s.drop p.length := by
  obtain ⟨r, hd⟩ := Option.isSome_iff_exists.mp h
  rw [dropPrefix?_eq_some_iff.mp hd, drop_left]

theorem hasPrefix_length (p x : Str) (h : hasPrefix p x = true) : p.length ≤ x.length := by
  have := congrArg length (hasPrefix_split h)
  rw [length_append] at this; omega

theorem dropPrefix?_cons_ne {p x : Char} (h : p ≠ x) (ps xs : Str) : dropPrefix? (p :: ps) (x :: xs) = none := by
  rw [dropPrefix?, if_neg h]

theorem hasPrefix_cons (c : Char) (p x : Str) : hasPrefix (c :: p) (c :: x) = hasPrefix p x := by
  simp [hasPrefix, dropPrefix?]

theorem hasPrefix_single (c : Char) (s : Str) : hasPrefix [c] s = (s.head? == some c) := by
  cases s with
  | nil => simp [hasPrefix, dropPrefix?]
  | cons x xs =>
    by_cases h : c = x
    · subst h; simp [hasPrefix, dropPrefix?]
    · have : ¬ x = c := fun e => h e.symm
      simp [hasPrefix, dropPrefix?, h, this]

theorem hasPrefix_cons_ne {p x : Char} (h : p ≠ x) (ps xs : Str) : hasPrefix (p :: ps) (x :: xs) = false := by
  rw [hasPrefix, dropPrefix?_cons_ne h]; rfl

theorem contains_cons (sub : Str) (x : Char) (xs : Str) :
    contains sub (x :: xs) = (hasPrefix sub (x :: xs) || contains sub xs) := by
  rw [contains]

theorem contains_append_mid {sub : Str} (hne : sub ≠ []) (a b : Str) : contains sub (a ++ sub ++ b) = true := by
  induction a with
  | nil =>
    cases sub with
    | nil => exact absurd rfl hne
    | cons y ys =>
      rw [nil_append, cons_append, contains_cons, ← cons_append, hasPrefix_append]; rfl
  | cons x xs ih => rw [cons_append, cons_append, contains_cons, ih, Bool.or_true]

theorem contains_of_head_not_mem {p : Char} (ps : Str) {s : Str} (h : p ∉ s) : contains (p :: ps) s = false := by
  induction s with
  | nil => rfl
  | cons x xs ih =>
    rw [contains_cons, hasPrefix_cons_ne (fun e => h (by rw [e]; exact mem_cons_self)),
      ih fun hm => h (mem_cons_of_mem _ hm)]; rfl

/-! ### `strings.Split` at a non-empty separator

`splitOn sep` runs `splitOnAux` with `s.length + 1` units of fuel and an accumulator for the piece under way.  Neither
matters (`splitOnAux_eq`): the accumulator only prefixes the first piece, and any fuel above the length gives the same
list.  What is left is three equations of the shape of `splitC` (`splitOn_nil`, `splitOn_hit`, `splitOn_miss`); the
facts below are inductions on the text with them. -/

theorem splitOnAux_ne_nil (sep : Str) : ∀ (fuel : Nat) (s acc : Str), splitOnAux sep fuel s acc ≠ []
  | 0, _, _ => by rw [splitOnAux]; exact cons_ne_nil _ _
  | _ + 1, [], _ => by rw [splitOnAux]; exact cons_ne_nil _ _
  | fuel + 1, x :: xs, acc => by
    rw [splitOnAux]
    split
    · exact cons_ne_nil _ _
    · exact splitOnAux_ne_nil sep fuel xs _

/-- glue `a` in front of the first piece -/
def consHead (a : Str) : List Str → List Str
  | h :: t => (a ++ h) :: t
  | [] => []

theorem consHead_nil (l : List Str) : consHead [] l = l := by cases l <;> rfl

theorem consHead_consHead (a b : Str) (l : List Str) : consHead a (consHead b l) = consHead (a ++ b) l := by
  cases l <;> simp [consHead]

/-- fuel above the length and the accumulator are immaterial -/
theorem splitOnAux_eq {sep : Str} (hsep : sep ≠ []) : ∀ (fuel : Nat) (s acc : Str), s.length < fuel →
    splitOnAux sep fuel s acc = consHead acc.reverse (splitOn sep s) := by
  have key : ∀ (n : Nat) (s : Str), s.length ≤ n → ∀ (fuel : Nat) (acc : Str), s.length < fuel →
      splitOnAux sep fuel s acc = consHead acc.reverse (splitOnAux sep (s.length + 1) s []) := by
    intro n
    induction n with
    | zero =>
      intro s hs fuel acc hf
      obtain rfl : s = [] := by cases s with | nil => rfl | cons _ _ => cases hs
      obtain ⟨f, rfl⟩ : ∃ f, fuel = f + 1 := ⟨fuel - 1, by omega⟩
      simp [splitOnAux, consHead]
    | succ n ih =>
      intro s hs fuel acc hf
      obtain ⟨f, rfl⟩ : ∃ f, fuel = f + 1 := ⟨fuel - 1, by omega⟩
      cases s with
      | nil => simp [splitOnAux, consHead]
      | cons x xs =>
        have hxs : xs.length ≤ n := Nat.le_of_succ_le_succ hs
        rw [splitOnAux, splitOnAux]
        cases hd : dropPrefix? sep (x :: xs) with
        | some rest =>
          have hlen : rest.length < (x :: xs).length := by
            rw [dropPrefix?_eq_some_iff.mp hd, length_append]
            have : 0 < sep.length := length_pos_iff.mpr hsep
            omega
          simp only [length_cons] at hlen hf ⊢
          rw [ih rest (by omega) f [] (by omega), ih rest (by omega) (xs.length + 1) [] (by omega)]
          simp [consHead]
        | none =>
          simp only [length_cons] at hf ⊢
          rw [ih xs hxs f (x :: acc) (by omega), ih xs hxs (xs.length + 1) [x] (by omega)]
          cases splitOnAux sep (xs.length + 1) xs [] <;> simp [consHead]
  intro fuel s acc hf
  rw [splitOn, if_neg (by simpa using hsep)]
  exact key s.length s (Nat.le_refl _) fuel acc hf

theorem splitOn_nil {sep : Str} (hsep : sep ≠ []) : splitOn sep [] = [[]] := by
  rw [splitOn, if_neg (by simpa using hsep)]; rfl

theorem splitOn_hit {sep : Str} (hsep : sep ≠ []) {s rest : Str} (hs : s ≠ []) (h : dropPrefix? sep s = some rest) :
    splitOn sep s = [] :: splitOn sep rest := by
  cases s with
  | nil => exact absurd rfl hs
  | cons x xs =>
    have hlen : rest.length < xs.length + 1 := by
      have := congrArg length (dropPrefix?_eq_some_iff.mp h)
      have : 0 < sep.length := length_pos_iff.mpr hsep
      simp only [length_cons, length_append] at *
      omega
    conv => lhs; rw [splitOn, if_neg (by simpa using hsep), length_cons, splitOnAux, h]
    simp only
    rw [splitOnAux_eq hsep _ _ _ hlen]
    cases splitOn sep rest <;> rfl

theorem splitOn_miss {sep : Str} (hsep : sep ≠ []) {x : Char} {xs : Str} (h : dropPrefix? sep (x :: xs) = none) :
    splitOn sep (x :: xs) = consHead [x] (splitOn sep xs) := by
  conv => lhs; rw [splitOn, if_neg (by simpa using hsep), length_cons, splitOnAux, h]
  simp only
  rw [splitOnAux_eq hsep _ _ _ (Nat.lt_succ_self _)]; rfl

theorem splitOn_ne_nil {sep : Str} (hsep : sep ≠ []) (s : Str) : splitOn sep s ≠ [] := by
  rw [splitOn, if_neg (by simpa using hsep)]; exact splitOnAux_ne_nil _ _ _ _

theorem splitOn_skip (p : Char) (ps : Str) {w : Str} (hw : p ∉ w) (x : Str) :
    splitOn (p :: ps) (w ++ x) = consHead w (splitOn (p :: ps) x) := by
  induction w with
  | nil => rw [nil_append]; cases splitOn (p :: ps) x <;> rfl
  | cons c w ih =>
    rw [cons_append, splitOn_miss (cons_ne_nil _ _)
      (dropPrefix?_cons_ne (fun e => hw (by rw [e]; exact mem_cons_self)) _ _), ih fun h => hw (mem_cons_of_mem _ h),
      consHead_consHead]
    rfl

theorem splitOn_block (p : Char) (ps a b : Str) (hp : p ∉ a) :
    splitOn (p :: ps) (a ++ (p :: ps) ++ b) = a :: splitOn (p :: ps) b := by
  rw [append_assoc, splitOn_skip p ps hp, splitOn_hit (cons_ne_nil _ _) (by simp) (dropPrefix?_append (p :: ps) b)]
  simp [consHead]

theorem splitOn_of_not_contains {sep : Str} (hne : sep ≠ []) : ∀ {s : Str}, contains sep s = false → splitOn sep s = [s]
  | [], _ => splitOn_nil hne
  | x :: xs, h => by
    rw [contains_cons, Bool.or_eq_false_iff, hasPrefix, Option.isSome_eq_false_iff, Option.isNone_iff_eq_none] at h
    rw [splitOn_miss hne h.1, splitOn_of_not_contains hne h.2]; rfl

theorem splitOn_head {sep : Str} (hsep : sep ≠ []) : ∀ s : Str, ∃ k tail, splitOn sep s = s.take k :: tail
  | [] => ⟨0, [], splitOn_nil hsep⟩
  | x :: xs => by
    cases hd : dropPrefix? sep (x :: xs) with
    | some rest => exact ⟨0, _, splitOn_hit hsep (cons_ne_nil _ _) hd⟩
    | none =>
      obtain ⟨k, tail, e⟩ := splitOn_head hsep xs
      exact ⟨k + 1, tail, by rw [splitOn_miss hsep hd, e]; rfl⟩

theorem splitOn_two_le {sep : Str} (hsep : sep ≠ []) : ∀ s : Str, contains sep s = true →
    2 ≤ (splitOn sep s).length
  | [], h => by cases sep with | nil => exact absurd rfl hsep | cons _ _ => cases h
  | x :: xs, h => by
    cases hd : dropPrefix? sep (x :: xs) with
    | some rest =>
      rw [splitOn_hit hsep (cons_ne_nil _ _) hd, length_cons]
      exact Nat.succ_le_succ (length_pos_iff.mpr (splitOn_ne_nil hsep rest))
    | none =>
      rw [contains_cons, hasPrefix, hd] at h
      have ih := splitOn_two_le hsep xs (by simpa using h)
      rw [splitOn_miss hsep hd]
      cases hsp : splitOn sep xs with
      | nil => rw [hsp] at ih; cases ih
      | cons a t => rw [hsp] at ih; exact ih

theorem replaceAll_char (a b : Char) : ∀ s : Str, replaceAll [a] [b] s = s.map fun c => if c = a then b else c
  | [] => rfl
  | x :: xs => by
    have ih := replaceAll_char a b xs
    unfold replaceAll at ih ⊢
    by_cases hx : a = x
    · subst hx
      rw [splitOn_hit (cons_ne_nil _ _) (cons_ne_nil _ _) (show dropPrefix? [a] (a :: xs) = some xs by
        cases xs <;> simp [dropPrefix?]), join_cons_of_ne_nil _ _ (splitOn_ne_nil (cons_ne_nil _ _) xs), ih]
      simp
    · rw [splitOn_miss (cons_ne_nil _ _) (dropPrefix?_cons_ne hx _ _)]
      cases hsp : splitOn [a] xs with
      | nil => exact absurd hsp (splitOn_ne_nil (cons_ne_nil _ _) xs)
      | cons h t =>
        rw [hsp] at ih
        have : ¬ x = a := fun e => hx e.symm
        cases t with
        | nil => simp_all [consHead, join]
        | cons t1 t2 => simp_all [consHead, join]

/-! ### `strings.NewReplacer` -/

theorem matchPair_mem {pairs : List (Str × Str)} {s rep : Str} {n : Nat}
    (h : matchPair pairs s = some (rep, n)) : ∃ p ∈ pairs, rep = p.2 := by
  unfold matchPair at h
  obtain ⟨p, hp, hq⟩ := exists_of_findSome?_eq_some h
  refine ⟨p, hp, ?_⟩
  split at hq
  · injection hq with hq; injection hq with hq _; exact hq.symm
  · cases hq

/-- a replacer none of whose replacements is empty erases nothing: at the first character either a pair matches and
    its replacement is written, or the character is -/
theorem replacer_ne_nil {pairs : List (Str × Str)} (hp : ∀ p ∈ pairs, p.2 ≠ []) {s : Str} (h : s ≠ []) :
    replacer pairs s ≠ [] := by
  obtain ⟨x, xs, rfl⟩ := exists_cons_of_ne_nil h
  unfold replacer
  rw [replGo]
  cases hmp : matchPair pairs (x :: xs) with
  | none => exact cons_ne_nil _ _
  | some q =>
    obtain ⟨rep, n⟩ := q
    obtain ⟨p, hpm, rfl⟩ := matchPair_mem hmp
    exact fun e => hp p hpm (append_eq_nil_iff.mp e).1

/-! ### `strings.Fields`: a word ends where white space, or nothing, follows -/

theorem fieldsAux_word (w rest acc : Str) (h : ∀ c ∈ w, isSpace c = false) :
    fieldsAux (w ++ rest) acc = fieldsAux rest (w.reverse ++ acc) := by
  induction w generalizing acc with
  | nil => rfl
  | cons x xs ih =>
    rw [cons_append, fieldsAux, if_neg (by rw [h x mem_cons_self]; exact Bool.false_ne_true),
      ih _ fun c hc => h c (mem_cons_of_mem _ hc), reverse_cons, append_assoc, singleton_append]

theorem fields_space {c : Char} (hc : isSpace c = true) (s : Str) : fields (c :: s) = fields s := by
  rw [fields, fieldsAux, if_pos hc]; rfl

theorem fields_word {w : Str} (hne : w ≠ []) (h : ∀ c ∈ w, isSpace c = false) {rest : Str}
    (hr : ∀ c ∈ rest.head?, isSpace c = true) : fields (w ++ rest) = w :: fields rest := by
  have hw : w.reverse.isEmpty = false := by cases w with | nil => exact absurd rfl hne | cons _ _ => simp
  rw [fields, fieldsAux_word w rest [] h, append_nil]
  cases rest with
  | nil => rw [fieldsAux, hw, reverse_reverse]; rfl
  | cons c r => rw [fieldsAux, if_pos (hr c rfl), hw, reverse_reverse, fields_space (hr c rfl)]; rfl

theorem splitOnce_go_char {c : Char} (k v : Str) (hk : c ∉ k) : ∀ (fuel : Nat) (acc : Str), k.length + 1 ≤ fuel →
    splitOnce.go [c] fuel (k ++ c :: v) acc = [acc.reverse ++ k, v] := by
  induction k with
  | nil =>
    intro fuel acc hf
    obtain ⟨f, rfl⟩ : ∃ f, fuel = f + 1 := ⟨fuel - 1, by simp at hf; omega⟩
    simp [splitOnce.go, dropPrefix?]
  | cons x xs ih =>
    intro fuel acc hf
    obtain ⟨f, rfl⟩ : ∃ f, fuel = f + 1 := ⟨fuel - 1, by simp at hf; omega⟩
    have hx : ¬ c = x := fun e => hk (by subst e; simp)
    have : dropPrefix? [c] (x :: (xs ++ c :: v)) = none := by simp [dropPrefix?, hx]
    simp only [cons_append, splitOnce.go, this]
    rw [ih (fun hc => hk (by simp [hc])) f (x :: acc) (by simp at hf; omega)]
    simp

theorem splitOnce_char {c : Char} (k v : Str) (hk : c ∉ k) : splitOnce [c] (k ++ c :: v) = [k, v] := by
  unfold splitOnce
  simp only [List.isEmpty_cons, Bool.false_eq_true, if_false]
  rw [splitOnce_go_char k v hk _ [] (by simp)]
  simp

theorem splitOnce_go_inv {c : Char} (k v : Str) : ∀ (fuel : Nat) (s acc : Str), c ∉ acc →
    splitOnce.go [c] fuel s acc = [k, v] → acc.reverse ++ s = k ++ c :: v ∧ c ∉ k := by
  intro fuel
  induction fuel with
  | zero => intro s acc _ h; simp [splitOnce.go] at h
  | succ n ih =>
    intro s acc hacc h
    cases s with
    | nil => simp [splitOnce.go] at h
    | cons x xs =>
      unfold splitOnce.go at h
      by_cases hx : c = x
      · subst hx
        simp only [dropPrefix?, if_true, cons.injEq, and_true] at h
        rw [← h.1, h.2]
        exact ⟨rfl, fun hm => hacc (mem_reverse.mp hm)⟩
      · simp only [dropPrefix?, hx, if_false] at h
        have := ih xs (x :: acc) (fun hm => (mem_cons.mp hm).elim hx hacc) h
        simpa using this

theorem splitOnce_eq_pair_iff {c : Char} {p k v : Str} :
    splitOnce [c] p = [k, v] ↔ p = k ++ c :: v ∧ c ∉ k := by
  refine ⟨fun h => ?_, fun ⟨e, hk⟩ => e ▸ splitOnce_char k v hk⟩
  unfold splitOnce at h
  simp only [isEmpty_cons, Bool.false_eq_true, if_false] at h
  simpa using splitOnce_go_inv k v _ p [] not_mem_nil h

theorem splitOnce_inv {c : Char} {p k v : Str} (h : splitOnce [c] p = [k, v]) : p = k ++ c :: v :=
  (splitOnce_eq_pair_iff.mp h).1

/-- a line that `strings.TrimSpace` leaves as it is and that is not taken for a blank line: what a decoder's block consists of -/
def BLine (l : Str) : Prop := trimSpace l = l ∧ l ≠ []

theorem trimmed_of_bline {l : Str} (h : BLine l) : Trimmed l := by
  have := trimmed_trimSpace l
  rwa [h.1] at this

theorem trimmed_append_append {a m b : Str} (ha : a ≠ []) (hb : b ≠ [])
    (hah : ∀ x, a.head? = some x → isSpace x = false) (hbl : ∀ x, b.getLast? = some x → isSpace x = false) :
    Trimmed (a ++ m ++ b) := by
  constructor
  · intro x hx
    cases a with
    | nil => exact absurd rfl ha
    | cons y ys => exact hah x hx
  · intro x hx
    have hz := getLast?_eq_some_getLast hb
    rw [getLast?_append, hz] at hx
    cases hx; exact hbl _ hz

theorem join_getLast (sep : Str) (hne : sep ≠ []) (hsep : ∀ x, sep.getLast? = some x → isSpace x = false) (last : Str)
    (hl : ∀ x, last.getLast? = some x → isSpace x = false) :
    ∀ (mid : List Str) (x : Char), (join sep (mid ++ [last])).getLast? = some x → isSpace x = false
  | [], x, hx => hl x hx
  | m :: ms, x, hx => by
    obtain ⟨y, ys, hy⟩ := exists_cons_of_ne_nil (l := ms ++ [last]) (by simp)
    have e : join sep (m :: ms ++ [last]) = m ++ sep ++ join sep (ms ++ [last]) := by
      rw [cons_append, hy]; rfl
    rw [e, getLast?_append, getLast?_append, getLast?_eq_some_getLast hne] at hx
    cases hj : (join sep (ms ++ [last])).getLast? with
    | some z => rw [hj] at hx; cases hx; exact join_getLast sep hne hsep last hl ms _ hj
    | none => rw [hj] at hx; cases hx; exact hsep _ (getLast?_eq_some_getLast hne)

theorem trimmed_join_sep (sep : Str) (hne : sep ≠ []) (hsep : Trimmed sep) (c0 : Str) (mid : List Str) (last : Str)
    (hh : ∀ x, c0.head? = some x → isSpace x = false) (hl : ∀ x, last.getLast? = some x → isSpace x = false) :
    Trimmed (join sep (c0 :: (mid ++ [last]))) := by
  refine ⟨fun x hx => ?_, join_getLast sep hne hsep.2 last hl (c0 :: mid)⟩
  obtain ⟨y, ys, hy⟩ := exists_cons_of_ne_nil (l := mid ++ [last]) (by simp)
  have e : join sep (c0 :: (mid ++ [last])) = c0 ++ (sep ++ join sep (mid ++ [last])) := by
    rw [hy]; simp [join]
  rw [e] at hx
  cases c0 with
  | nil =>
    obtain ⟨s0, ss, rfl⟩ := exists_cons_of_ne_nil hne
    exact hsep.1 x hx
  | cons a as => exact hh x hx

end Go
end Astisub
