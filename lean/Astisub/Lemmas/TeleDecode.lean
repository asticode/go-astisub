import Astisub.Lemmas.TeleStream
import Astisub.Lemmas.TeleView
import Astisub.Lemmas.ListFacts

/-!
# Lemmas/TeleDecode — from pages to cues, and the whole reader from the PES level: `runPES` and the specification's `decode`

On the page the model holds for an instance of the specification (row numbers distinct), `teletextPage.parse` emits one
cue: the instance's times relative to the time origin and one line per row, rows in the specification's order
(`parsePage_pageOf`, `finish_cues`).  So `runPES` and `decode` are computed from the same list of instances, the same time
origin and the same character set; cue by cue and row by row, from the same non-blank raw runs (`cueRaw`): the model
makes line items of them (`itemOf`), the specification `VRun`s (`denote ∘ viewM`).
-/

namespace Astisub
namespace Teletext
open Go Generated.Teletext
open Spec.Teletext (Packet Inst St insertSorted)

abbrev SRow := Nat × List (Option Nat)

/-- the rows of an instance in the specification's order -/
def sortedRows (rows : List SRow) : List SRow := rows.foldr insertSorted []

theorem insertSorted_perm (x : SRow) : ∀ (l : List SRow), (insertSorted x l).Perm (x :: l)
  | [] => List.Perm.refl _
  | y :: ys => by
    unfold Spec.Teletext.insertSorted
    split
    · exact List.Perm.refl _
    · exact ((insertSorted_perm x ys).cons y).trans (List.Perm.swap x y ys)

theorem sortedRows_perm : ∀ (rows : List SRow), (sortedRows rows).Perm rows
  | [] => List.Perm.refl _
  | x :: rows => by
    show (insertSorted x (sortedRows rows)).Perm (x :: rows)
    exact (insertSorted_perm x _).trans ((sortedRows_perm rows).cons x)

theorem insertSorted_sorted (x : SRow) : ∀ (l : List SRow), l.Pairwise (fun a b => a.1 ≤ b.1) →
    (insertSorted x l).Pairwise (fun a b => a.1 ≤ b.1)
  | [], _ => by simp [Spec.Teletext.insertSorted]
  | y :: ys, h => by
    unfold Spec.Teletext.insertSorted
    split
    · rename_i hxy
      refine List.Pairwise.cons ?_ h
      intro z hz
      rcases List.mem_cons.mp hz with e | e
      · subst e; exact hxy
      · exact Nat.le_trans hxy (List.rel_of_pairwise_cons h e)
    · rename_i hxy
      refine List.Pairwise.cons ?_ (insertSorted_sorted x ys h.tail)
      intro z hz
      have := (insertSorted_perm x ys).subset hz
      rcases List.mem_cons.mp this with e | e
      · subst e; omega
      · exact List.rel_of_pairwise_cons h e

theorem sortedRows_sorted : ∀ (rows : List SRow), (sortedRows rows).Pairwise (fun a b => a.1 ≤ b.1)
  | [] => List.Pairwise.nil
  | x :: rows => insertSorted_sorted x _ (sortedRows_sorted rows)

/-- Go's sort of the row numbers and the specification's insertion sort give the same order: both are sorted permutations of the
    row numbers, and there is only one -/
theorem mergeSort_rows (rows : List SRow) :
    (rows.map (·.1)).mergeSort (fun a b => decide (a ≤ b)) = (sortedRows rows).map (·.1) := by
  apply List.Perm.eq_of_pairwise (le := fun a b => a ≤ b)
  · intro a b _ _ h1 h2; exact Nat.le_antisymm h1 h2
  · have := List.pairwise_mergeSort (le := fun (a b : Nat) => decide (a ≤ b))
      (fun a b c h1 h2 => by simp at *; omega) (fun a b => by simp; omega) (rows.map (·.1))
    exact this.imp (fun h => by simpa using h)
  · exact (sortedRows_sorted rows).map _ (fun a b h => h)
  · exact (List.mergeSort_perm _ _).trans ((sortedRows_perm rows).map _).symm

def RowsNodup (rows : List SRow) : Prop := (rows.map (·.1)).Nodup

instance (rows : List SRow) : Decidable (RowsNodup rows) := by unfold RowsNodup; infer_instance

theorem getData_pageOf (rows : List SRow) (hn : RowsNodup rows) (r : SRow) (hr : r ∈ rows) :
    getData (rows.map fun r => (r.1, r.2.map storedCell)) r.1 = r.2.map storedCell := by
  unfold getData
  rw [List.find?_snd_eq_lookup, List.lookup_of_mem_of_nodup_keys (v := r.2.map storedCell) (by rwa [List.map_map])
    (List.mem_map_of_mem (f := fun r : SRow => (r.1, r.2.map storedCell)) hr)]
  rfl

/-- the table the decoder holds is the one of its last code -/
def DecOK (triplet : Nat) (d : Dec) : Prop := ∀ code, d.last = some code → d.c = computeCharset triplet code

theorem updateCharset_c (triplet : Nat) (d : Dec) (code : Nat) (h : DecOK triplet d) :
    (updateCharset triplet d code).c = computeCharset triplet code ∧ DecOK triplet (updateCharset triplet d code) := by
  unfold updateCharset
  split
  · rename_i hl
    have hl' : d.last = some code := by simpa using hl
    exact ⟨h code hl', h⟩
  · refine ⟨rfl, ?_⟩
    intro c hc
    simp at hc; subst hc; rfl

/-- the non-blank raw runs of a row in character set `c` -/
def rowRaw (c : Charset) (r : SRow) : List MRun :=
  (modelRuns c (r.2.map storedCell)).filter fun x => nonblank (viewM x)

/-- the non-blank raw runs of the rows of an instance, rows in order, rows without such runs dropped -/
def cueRaw (c : Charset) (rows : List SRow) : List (List MRun) :=
  ((sortedRows rows).map (rowRaw c)).filter (!·.isEmpty)

theorem parseRow_rowRaw (c : Charset) (r : SRow) :
    parseRow c (r.2.map storedCell) =
      if (rowRaw c r).isEmpty then none else some { items := (rowRaw c r).map itemOf } := by
  rw [parseRow_items]
  unfold rowRaw
  simp only []
  cases (List.filter (fun x => nonblank (viewM x)) (modelRuns c (List.map storedCell r.2))) <;> rfl

theorem filterMap_lines (c : Charset) : ∀ (rows : List SRow),
    rows.filterMap (fun r => parseRow c (r.2.map storedCell)) =
      ((rows.map (rowRaw c)).filter (!·.isEmpty)).map fun L => ({ items := L.map itemOf } : Line)
  | [] => rfl
  | r :: rows => by
    rw [List.filterMap_cons, parseRow_rowRaw, filterMap_lines c rows]
    by_cases h : (rowRaw c r).isEmpty = true
    · simp [h]
    · simp [h]

/-- the cue of the model for an instance, in terms of the specification's designation `key` -/
def modelOf (key : Nat) (first : Int) (ie : Inst × Int) : CItem :=
  { startAt := ie.1.startNs - first, endAt := ie.2 - first,
    lines := (cueRaw (computeCharset (key * 1024) ie.1.code) ie.1.rows).map fun L => ({ items := L.map itemOf } : Line) }

theorem parsePage_pageOf (triplet key : Nat) (first : Int) (d : Dec) (items : List CItem) (i : Inst) (e : Int)
    (hk : keyOf triplet = keyOf (key * 1024)) (hd : DecOK triplet d) (hn : RowsNodup i.rows) :
    ∃ d', DecOK triplet d' ∧
      parsePage triplet first (d, items) (pageOf i e) =
        (d', if i.rows.isEmpty then items else items ++ [modelOf key first (i, e)]) := by
  obtain ⟨hc, hd'⟩ := updateCharset_c triplet d i.code hd
  refine ⟨updateCharset triplet d i.code, hd', ?_⟩
  unfold parsePage
  simp only [pageOf]
  have he : (List.map (fun r : SRow => (r.1, r.2.map storedCell)) i.rows).isEmpty = i.rows.isEmpty := by
    cases i.rows <;> rfl
  simp only [he]
  by_cases hr : i.rows.isEmpty = true
  · simp [hr]
  · simp only [hr]
    rw [mergeSort_rows, hc, computeCharset_congr triplet (key * 1024) i.code hk]
    simp only [modelOf, cueRaw, ← filterMap_lines, List.filterMap_map]
    rw [List.filterMap_congr_mem (g := fun r : SRow => parseRow (computeCharset (key * 1024) i.code) (r.2.map storedCell))]
    · simp
    · intro r hrm
      simp only [Function.comp]
      rw [getData_pageOf i.rows hn r ((sortedRows_perm i.rows).subset hrm)]

theorem foldl_parsePage (triplet key : Nat) (first : Int) (hk : keyOf triplet = keyOf (key * 1024)) :
    ∀ (insts : List (Inst × Int)) (d : Dec) (items : List CItem),
    DecOK triplet d → (∀ ie ∈ insts, RowsNodup ie.1.rows) →
    ((insts.map fun ie => pageOf ie.1 ie.2).foldl (parsePage triplet first) (d, items)).2 =
      items ++ (insts.filter fun ie => !ie.1.rows.isEmpty).map (modelOf key first)
  | [], _, _, _, _ => by simp
  | ie :: insts, d, items, hd, hn => by
    obtain ⟨d', hd', hp⟩ := parsePage_pageOf triplet key first d items ie.1 ie.2 hk hd (hn ie (by simp))
    simp only [List.map_cons, List.foldl_cons, hp]
    rw [foldl_parsePage triplet key first hk insts d' _ hd' (fun x hx => hn x (by simp [hx]))]
    cases h : ie.1.rows.isEmpty <;> simp [h]

def RowsOK (rows : List SRow) : Prop := RowsNodup rows ∧ ∀ r ∈ rows, CellsOK r.2

instance (rows : List SRow) : Decidable (RowsOK rows) := by unfold RowsOK; infer_instance

/-- the cells of a row packet are 7-bit values (what `decodePacket` guarantees) -/
def PacketCells : Packet → Prop
  | .row _ _ cells => CellsOK cells
  | _ => True

instance (p : Packet) : Decidable (PacketCells p) := by
  cases p <;> unfold PacketCells <;> infer_instance

theorem parityDecode_lt (b v : Nat) (h : Spec.Teletext.parityDecode b = some v) : v < 128 := by
  unfold Spec.Teletext.parityDecode at h
  simp only at h
  split at h
  · simp at h; omega
  · cases h

theorem decodePacket_cells (f : List Nat) (p : Packet) (h : Spec.Teletext.decodePacket f = some p) : PacketCells p := by
  cases (decodePacket_some h).2 with
  | unframed => trivial
  | framed _ _ _ _ _ hbody =>
    cases hbody with
    | row =>
      intro x hx v hv
      obtain ⟨b, _, hb⟩ := List.mem_map.mp hx
      exact parityDecode_lt b v (hv ▸ hb)
    | header | desig | other => trivial

theorem pesPackets_cells (payload : List Nat) (ps : List Packet) (h : Spec.Teletext.pesPackets payload = some ps) :
    ∀ p ∈ ps, PacketCells p := fun p hp =>
  let ⟨f, hf⟩ := pesPackets_mem payload ps h p hp
  decodePacket_cells f p hf

/-- every instance the automaton holds, closed or open, has `RowsOK` rows: what `step` keeps while it does not go `bad`, and what
    `finish` needs to find each stored row under its number -/
structure InstsOK (s : St) : Prop where
  done : ∀ ie ∈ s.done, RowsOK ie.1.rows
  cur : ∀ i, s.cur = some i → RowsOK i.rows

theorem specSelect_insts (s : St) (mag tens units : Nat) (subtitle : Bool) (h : InstsOK s) :
    InstsOK (specSelect s mag tens units subtitle) := by
  unfold specSelect
  split
  · split
    · exact ⟨h.done, h.cur⟩
    · exact h
  · exact h

theorem specCore_insts (t : Int) (s : St) (mag tens units : Nat) (serial : Bool) (code : Nat) (h : InstsOK s) :
    InstsOK (specCore t s mag tens units serial code) := by
  unfold specCore
  split
  · exact h
  · split
    · refine ⟨?_, ?_⟩
      · intro ie hie
        simp only at hie
        cases hc : s.cur with
        | none => rw [hc] at hie; exact h.done ie hie
        | some i =>
          rw [hc] at hie
          rcases List.mem_append.mp hie with e | e
          · exact h.done ie e
          · simp at e; subst e; exact h.cur i hc
      · intro i hi
        simp at hi; subst hi
        exact ⟨List.nodup_nil, fun r hr => by cases hr⟩
    · split
      · exact ⟨h.done, h.cur⟩
      · exact h

theorem step_insts (t : Int) (s : St) (p : Packet) (h : InstsOK s) (hp : PacketCells p) :
    InstsOK (Spec.Teletext.step t s p) := by
  cases p with
  | header mag tens units subtitle serial code =>
    rw [step_header]
    split
    · exact h
    · exact specCore_insts t _ mag tens units serial code (specSelect_insts s mag tens units subtitle h)
  | row mag y cells =>
    simp only [Spec.Teletext.step]
    split
    · rename_i m _ _ i hsel hcur
      split
      · split
        · exact ⟨h.done, h.cur⟩
        · rename_i hdup
          refine ⟨h.done, ?_⟩
          intro j hj
          simp at hj; subst hj
          obtain ⟨hn, hcells⟩ := h.cur i hcur
          refine ⟨?_, ?_⟩
          · unfold RowsNodup at *
            simp only [List.map_append, List.map_cons, List.map_nil]
            rw [List.nodup_append]
            refine ⟨hn, by simp, ?_⟩
            intro a ha b hb
            simp at hb; subst hb
            intro hab; subst hab
            apply hdup
            obtain ⟨r, hr, e⟩ := List.mem_map.mp ha
            exact List.any_eq_true.mpr ⟨r, hr, by simp [e]⟩
          · intro r hr
            rcases List.mem_append.mp hr with e | e
            · exact hcells r e
            · simp at e; subst e; exact hp
      · exact h
    · exact h
  | desig mag y dc raw =>
    simp only [Spec.Teletext.step]
    split
    · split
      · exact ⟨h.done, h.cur⟩
      · exact h
    · exact h
  | other => exact h

theorem runSpec_insts (pk : List (Int × List Packet)) (s : St) (h : InstsOK s) (hp : ∀ p ∈ pk, ∀ q ∈ p.2, PacketCells q) :
    InstsOK (runSpec s pk) :=
  foldl_inv InstsOK _ pk s h fun s p hpm hs =>
    foldl_inv InstsOK _ p.2 s hs fun s q hq hs => step_insts p.1 s q hs (hp p hpm q hq)

theorem InstsOK.init (sel : Option (Nat × Nat × Nat)) : InstsOK { sel := sel } := by
  exact ⟨fun ie h => absurd h (by simp), fun i h => absurd h (by simp)⟩

theorem finalInsts_ok (s : St) (last : Int) (h : InstsOK s) : ∀ ie ∈ finalInsts s last, RowsOK ie.1.rows := by
  intro ie hie
  unfold finalInsts at hie
  rcases List.mem_append.mp hie with e | e
  · exact h.done ie e
  · cases hc : s.cur with
    | none => rw [hc] at e; cases e
    | some i => rw [hc] at e; simp at e; subst e; exact h.cur i hc

theorem finish_cues (a : Acc) (s : St) (key : Nat) (hk : keyOf (tripletOf a.buf.x28 a.buf.m29) = keyOf (key * 1024))
    (h : ARel a s) (hn : InstsOK s) :
    finish a =
      { items := ((finalInsts s (a.last.getD 0)).filter fun ie => !ie.1.rows.isEmpty).map
                    (modelOf key (a.first.getD 0)) } := by
  rw [finish_eq, finish_pages a s h,
    foldl_parsePage _ key _ hk _ ({} : Dec) ([] : List CItem) (fun c hc => absurd hc (by simp))
      (fun ie hie => (finalInsts_ok s _ hn ie hie).1)]
  simp

open Spec.Teletext (Cue VRun)

/-- the cue the specification makes of an instance (`none`: outside its class) -/
def specCue (key : Nat) (first : Int) (ie : Inst × Int) : Option Cue :=
  (Spec.Teletext.mapM (fun (r : Nat × List (Option Nat)) =>
      (Spec.Teletext.rowRuns r.2).bind fun runs => Spec.Teletext.mapM (Spec.Teletext.viewRun key ie.1.code) runs)
    (sortedRows ie.1.rows)).map fun lines =>
      Spec.Teletext.normCue { startNs := ie.1.startNs - first, endNs := ie.2 - first, lines := lines.filter (!·.isEmpty) }

/-- the packets of the PES packets, as `decode` computes them -/
def specPackets (pes : List (Int × List Nat)) : Option (List (Int × List Packet)) :=
  Spec.Teletext.mapM (fun (p : Int × List Nat) => (Spec.Teletext.pesPackets p.2).map fun ps => (p.1, ps)) pes

/-- a non-empty stream in the specification's class (`C06.inClass`, unfolded), with the packets the specification reads:
    page option below 25600, byte payloads that decode, no row sent twice, consistent designations, all of them known -/
structure InClass (page : Nat) (t0 : Int) (d0 : List Nat) (pes : List (Int × List Nat)) (pk : List (Int × List Packet)) :
    Prop where
  pageLt : page < 25600
  bytes : ∀ p ∈ (t0, d0) :: pes, Bytes p.2
  packets : specPackets ((t0, d0) :: pes) = some pk
  good : (runSpec { sel := Spec.Teletext.selOf page } pk).bad = false
  keys : (runSpec { sel := Spec.Teletext.selOf page } pk).keys.any
    (· != (runSpec { sel := Spec.Teletext.selOf page } pk).keys.headD 0) = false
  known : ∀ ie ∈ (finalInsts (runSpec { sel := Spec.Teletext.selOf page } pk) ((pes.map (·.1)).foldl max t0)).filter
      (fun ie => !ie.1.rows.isEmpty),
    (lookupCharset ((runSpec { sel := Spec.Teletext.selOf page } pk).keys.headD 0) ie.1.code).isSome = true

theorem decode_eq {page : Nat} {t0 : Int} {d0 : List Nat} {pes : List (Int × List Nat)} {pk : List (Int × List Packet)}
    (h : InClass page t0 d0 pes pk) :
    Spec.Teletext.decode page ((t0, d0) :: pes) =
      Spec.Teletext.mapM
        (specCue ((runSpec { sel := Spec.Teletext.selOf page } pk).keys.headD 0) ((pes.map (·.1)).foldl min t0))
        ((finalInsts (runSpec { sel := Spec.Teletext.selOf page } pk) ((pes.map (·.1)).foldl max t0)).filter
          fun ie => !ie.1.rows.isEmpty) := by
  have hpk := h.packets
  have hbad := h.good
  have hkeys := h.keys
  unfold specPackets at hpk
  unfold Spec.Teletext.decode
  rw [hpk]
  simp only [runSpec] at hbad hkeys
  simp only [hbad, hkeys, Bool.false_eq_true, if_false, List.map_cons]
  rfl

theorem filter_map_isEmpty {α β} (f : List α → List β) (hf : ∀ l, (f l).isEmpty = l.isEmpty) : ∀ (ls : List (List α)),
    (ls.map f).filter (!·.isEmpty) = (ls.filter (!·.isEmpty)).map f
  | [] => rfl
  | l :: ls => by
    simp only [List.map_cons, List.filter_cons, hf l, filter_map_isEmpty f hf ls]
    cases l.isEmpty <;> simp

theorem specCue_eq (key : Nat) (first : Int) (ie : Inst × Int) (c : Charset) (hs : Solid c) (ha : Agrees key ie.1.code c)
    (hc : ∀ r ∈ ie.1.rows, CellsOK r.2) :
    specCue key first ie =
      some (Spec.Teletext.normCue
        { startNs := ie.1.startNs - first, endNs := ie.2 - first,
          lines := (cueRaw c ie.1.rows).map fun L => (L.map viewM).map denote }) := by
  unfold specCue
  rw [Spec.Teletext.isMapM.eq_some_map _ (fun r => ((rowRaw c r).map viewM).map denote)]
  · simp only [Option.map_some, cueRaw]
    congr 3
    have := filter_map_isEmpty (fun L : List MRun => (L.map viewM).map denote) (fun l => by cases l <;> rfl)
      ((sortedRows ie.1.rows).map (rowRaw c))
    rw [List.map_map] at this
    exact this
  · intro r hr
    exact row_views key ie.1.code c r.2 hs ha (hc r ((sortedRows_perm ie.1.rows).subset hr))

def specOf (key : Nat) (first : Int) (ie : Inst × Int) : Cue :=
  Spec.Teletext.normCue
    { startNs := ie.1.startNs - first, endNs := ie.2 - first,
      lines := (cueRaw (computeCharset (key * 1024) ie.1.code) ie.1.rows).map fun L => (L.map viewM).map denote }

theorem keyOf_mul (key : Nat) (h : key < 16) : keyOf (key * 1024) = key := by
  rw [C06.C06_key_of_triplet]; omega

theorem keyOf_lt (t : Nat) : keyOf t < 16 := by rw [C06.C06_key_of_triplet]; omega

theorem specPackets_cells (pes : List (Int × List Nat)) (pk : List (Int × List Packet)) (h : specPackets pes = some pk) :
    ∀ p ∈ pk, ∀ q ∈ p.2, PacketCells q := by
  intro p hp q hq
  obtain ⟨x, _, hx⟩ := Spec.Teletext.isMapM.mem h hp
  cases hps : Spec.Teletext.pesPackets x.2 with
  | none => simp [hps] at hx
  | some ps =>
    simp [hps] at hx; subst hx
    exact pesPackets_cells x.2 ps hps q hq

theorem InClass.insts {page : Nat} {t0 : Int} {d0 : List Nat} {pes : List (Int × List Nat)} {pk : List (Int × List Packet)}
    (h : InClass page t0 d0 pes pk) : InstsOK (runSpec { sel := Spec.Teletext.selOf page } pk) :=
  runSpec_insts pk _ (InstsOK.init _) (specPackets_cells _ pk h.packets)

theorem stream_agree {page : Nat} {t0 : Int} {d0 : List Nat} {pes : List (Int × List Nat)} {pk : List (Int × List Packet)}
    (h : InClass page t0 d0 pes pk) :
    let s := runSpec { sel := Spec.Teletext.selOf page } pk
    let first := (pes.map (·.1)).foldl min t0
    let last := (pes.map (·.1)).foldl max t0
    let key := s.keys.headD 0
    let L := (finalInsts s last).filter fun ie => !ie.1.rows.isEmpty
    runPES page ((t0, d0) :: pes) = { items := L.map (modelOf key first) } ∧
    Spec.Teletext.decode page ((t0, d0) :: pes) = some (L.map (specOf key first)) := by
  intro s first last key L
  -- the simulation ends with model and specification related (the class rules `bad` out); both answers are then read off the same
  -- final instances, time origin and designation: the model's through `finish_cues`, the specification's through `decode_eq`
  have hsim := stream_sim ((t0, d0) :: pes) pk _ _ (ARel.init page h.pageLt) h.bytes h.packets
  rcases hsim with hb' | hrel
  · rw [h.good] at hb'; cases hb'
  · have hinsts : InstsOK s := h.insts
    obtain ⟨hfirst, hlast⟩ := first_last page t0 d0 pes
    have hkey := key_agrees _ _ hrel h.keys
    have hk16 : key < 16 := by
      show s.keys.headD 0 < 16
      rw [← hkey]; exact keyOf_lt _
    constructor
    · rw [runPES_eq, finish_cues _ s key (hkey.trans (keyOf_mul key hk16).symm) hrel hinsts, hfirst, hlast]
      rfl
    · rw [decode_eq h]
      apply Spec.Teletext.isMapM.eq_some_map
      intro ie hie
      have hmem := (List.mem_filter.mp hie).1
      have hag : Agrees key ie.1.code (computeCharset (key * 1024) ie.1.code) := by
        have := computeCharset_agrees (key * 1024) ie.1.code (by rw [keyOf_mul key hk16]; exact h.known ie hie)
        rwa [keyOf_mul key hk16] at this
      exact specCue_eq key first ie _ (computeCharset_solid _ _) hag (finalInsts_ok s last hinsts ie hmem).2

theorem stream_empty (page : Nat) : runPES page [] = { items := [] } ∧ Spec.Teletext.decode page [] = some [] := by
  constructor
  · rfl
  · rfl

end Teletext
end Astisub
