import Astisub.Lemmas.SRTDoc
import Astisub.Lemmas.SRTTok
import Astisub.Lemmas.SRTStr

/-!
# Lemmas/SRTLine — one written text line

`lineStr l` (the bytes `Line.srtBytes` writes, without the LF), run by run: opening tags, escaped text,
closing tags (`runBytes_parts`).  For a representable line `strings.TrimSpace` leaves it as it is, and it
holds no `-->`, no line break, no NUL.  What the decoder and the reader make of it: `Lemmas/SRTSpecRuns`.
-/

namespace Astisub
namespace SRTDoc
open Go SRT List

/-- opening tags of a run, in the writer's order: font, b, i, u -/
def openers (r : Run) : List Tok :=
  (match r.color with | some c => [tokFont c] | none => []) ++ (if r.bold then [tokB] else [])
    ++ (if r.italics then [tokI] else []) ++ (if r.underline then [tokU] else [])

/-- closing tags, in the writer's order: u, i, b, font -/
def closers (r : Run) : List Tok :=
  (if r.underline then [tokEU] else []) ++ (if r.italics then [tokEI] else [])
    ++ (if r.bold then [tokEB] else []) ++ (match r.color with | some _ => [tokEFont] | none => [])

def runToks (li : LItem) : List Tok :=
  openers (styleOf li) ++ Tok.text (escapeHTML li.text) :: closers (styleOf li)

theorem flatMap_raw_opt (b : Bool) (t : Tok) :
    (if b = true then [t] else []).flatMap Tok.raw = if b = true then t.raw else [] := by cases b <;> simp

theorem runBytes_eq (li : LItem) (hpos : NoPos li) :
    runBytes li = (runToks li).flatMap Tok.raw := by
  unfold runBytes runToks openers closers styleOf
  simp only [hpos, flatMap_append, flatMap_cons, flatMap_raw_opt]
  -- the optional tags are the same on both sides: only the colour needs cases
  rw [tokB_raw, tokI_raw, tokU_raw, tokEB_raw, tokEI_raw, tokEU_raw]
  cases hc : kvGet li.attrs "SRTColor" with
  | none =>
    simp only [Option.getD_none, ne_eq, not_true_eq_false, ↓reduceIte, nil_append, append_nil, flatMap_nil,
      append_assoc, Tok.raw]
  | some c =>
    by_cases hne : c = []
    · simp only [hne, Option.getD_some, ne_eq, not_true_eq_false, ↓reduceIte, nil_append, append_nil, flatMap_nil,
        append_assoc, Tok.raw]
    · simp only [hne, Option.getD_some, ne_eq, not_false_eq_true, not_true_eq_false, ↓reduceIte, flatMap_cons,
        flatMap_nil, append_nil, append_assoc]
      rw [tokFont_raw, tokEFont_raw]
      simp only [append_assoc, Tok.raw]

theorem mem_openers {r : Run} {t : Tok} (h : t ∈ openers r) :
    (∃ c, r.color = some c ∧ t = tokFont c) ∨ t = tokB ∨ t = tokI ∨ t = tokU := by
  unfold openers at h
  simp only [List.mem_append] at h
  rcases h with ((h | h) | h) | h
  · cases hc : r.color with
    | none => simp [hc] at h
    | some c => simp [hc] at h; exact Or.inl ⟨c, rfl, h⟩
  · split at h <;> simp at h; exact Or.inr (Or.inl h)
  · split at h <;> simp at h; exact Or.inr (Or.inr (Or.inl h))
  · split at h <;> simp at h; exact Or.inr (Or.inr (Or.inr h))

theorem mem_closers {r : Run} {t : Tok} (h : t ∈ closers r) :
    t = tokEU ∨ t = tokEI ∨ t = tokEB ∨ t = tokEFont := by
  unfold closers at h
  simp only [List.mem_append] at h
  rcases h with ((h | h) | h) | h
  · split at h <;> simp at h; exact Or.inl h
  · split at h <;> simp at h; exact Or.inr (Or.inl h)
  · split at h <;> simp at h; exact Or.inr (Or.inr (Or.inl h))
  · cases hc : r.color with
    | none => simp [hc] at h
    | some c => simp [hc] at h; exact Or.inr (Or.inr (Or.inr h))

theorem openers_eq_nil {r : Run} : openers r = [] ↔ styled r = false := by
  rcases r with ⟨b, i, u, c⟩
  cases b <;> cases i <;> cases u <;> cases c <;> simp [openers, styled]

theorem closers_eq_nil {r : Run} : closers r = [] ↔ styled r = false := by
  rcases r with ⟨b, i, u, c⟩
  cases b <;> cases i <;> cases u <;> cases c <;> simp [closers, styled]

theorem openers_ne_nil (r : Run) (h : styled r = true) : openers r ≠ [] :=
  fun e => Bool.false_ne_true ((openers_eq_nil.mp e).symm.trans h)

theorem closers_ne_nil (r : Run) (h : styled r = true) : closers r ≠ [] :=
  fun e => Bool.false_ne_true ((closers_eq_nil.mp e).symm.trans h)

theorem visible_ink {c : Char} (h : visible c = true) (h3 : c ≠ C01.nbsp) : isSpace c = false := by
  simpa [visible, nbsp_eq, h3] using h

theorem esc1_has_ink (c : Char) (h : visible c = true) : ∃ d ∈ C01.esc1 c, isSpace d = false := by
  rcases C01.esc1_cases c with ⟨m, e⟩ | ⟨_, _, h3, e⟩ <;> rw [e]
  · exact ⟨'&', by simp, by decide⟩
  · exact ⟨c, by simp, visible_ink h h3⟩

theorem escape_not_blank (t : Str) (h : t.any visible = true) : trimSpace (escapeHTML t) ≠ [] := by
  obtain ⟨c, hc, hv⟩ := List.any_eq_true.mp h
  obtain ⟨d, hd, hs⟩ := esc1_has_ink c hv
  refine trimSpace_ne_nil_of_mem (c := d) ?_ hs
  rw [C01.escape_eq_flatMap]
  exact List.mem_flatMap.mpr ⟨c, hc, hd⟩

/-- not one of the characters of the entities `&amp;` `&lt;` `&nbsp;` -/
def EntityFree (x : Char) : Prop :=
  x ≠ '&' ∧ x ≠ 'a' ∧ x ≠ 'm' ∧ x ≠ 'p' ∧ x ≠ ';' ∧ x ≠ 'l' ∧ x ≠ 't' ∧ x ≠ 'n' ∧ x ≠ 'b' ∧ x ≠ 's'

theorem esc1_no_char (c x : Char) (hx : EntityFree x)
    (hc : c ≠ x) : x ∉ C01.esc1 c := by
  obtain ⟨h1, h2, h3, h4, h5, h6, h7, h8, h9, h10⟩ := hx
  unfold C01.esc1
  split
  · simp [h1, h2, h3, h4, h5]
  · split
    · simp [h1, h5, h6, h7]
    · split
      · simp [h1, h4, h5, h8, h9, h10]
      · simp; exact fun e => hc e.symm

theorem escape_no_char (t : Str) (x : Char)
    (hx : EntityFree x) (h : x ∉ t) : x ∉ escapeHTML t := by
  rw [C01.escape_eq_flatMap]
  intro hm
  obtain ⟨c, hc, hd⟩ := List.mem_flatMap.mp hm
  exact esc1_no_char c x hx (fun e => h (e ▸ hc)) hd

theorem repRun_pos {li : LItem} (h : RepRun li = true) : NoPos li := (repRun_facts h).noPos
theorem repRun_color {li : LItem} (h : RepRun li = true) : ∀ c, (styleOf li).color = some c → colorRep c = true :=
  (repRun_facts h).color

theorem repLine_items_ne {l : Line} (h : RepLine l = true) : l.items ≠ [] := (repLine_iff.mp h).ne
theorem repLine_runs {l : Line} (h : RepLine l = true) : ∀ li ∈ l.items, RepRun li = true := (repLine_iff.mp h).runs

theorem head_openers (r : Run) (h : styled r = true) (y : Str) :
    ((openers r).flatMap Tok.raw ++ y).head? = some '<' := by
  rcases r with ⟨b, i, u, c⟩
  cases c with
  | some c => simp [openers, tokFont, Tok.raw]
  | none => cases b <;> cases i <;> cases u <;> simp [openers, styled, tokB, tokI, tokU, Tok.raw] at h ⊢

theorem last_closers (r : Run) (h : styled r = true) (y : Str) :
    (y ++ (closers r).flatMap Tok.raw).getLast? = some '>' := by
  rcases r with ⟨b, i, u, c⟩
  cases c with
  | some c => cases b <;> cases i <;> cases u <;> simp [closers, tokEB, tokEI, tokEU, tokEFont, Tok.raw, List.getLast?_append]
  | none => cases b <;> cases i <;> cases u <;>
      simp [closers, styled, tokEB, tokEI, tokEU, Tok.raw, List.getLast?_append] at h ⊢

theorem head_esc1 (c : Char) (hv : visible c = true) (y : Str) :
    ∃ d, (C01.esc1 c ++ y).head? = some d ∧ isSpace d = false := by
  rcases C01.esc1_cases c with ⟨m, e⟩ | ⟨_, _, h3, e⟩ <;> rw [e]
  · exact ⟨'&', rfl, by decide⟩
  · exact ⟨c, rfl, visible_ink hv h3⟩

theorem last_esc1 (c : Char) (hv : visible c = true) (y : Str) :
    ∃ d, (y ++ C01.esc1 c).getLast? = some d ∧ isSpace d = false := by
  rcases C01.esc1_cases c with ⟨m, e⟩ | ⟨_, _, h3, e⟩ <;> rw [e]
  · exact ⟨';', by rw [← List.append_assoc, List.getLast?_concat], by decide⟩
  · exact ⟨c, by simp, visible_ink hv h3⟩

theorem runBytes_parts (li : LItem) (h : RepRun li = true) :
    runBytes li = (openers (styleOf li)).flatMap Tok.raw ++ (escapeHTML li.text ++ (closers (styleOf li)).flatMap Tok.raw) := by
  rw [runBytes_eq li (repRun_pos h)]
  simp [runToks, Tok.raw]

theorem head_runBytes (li : LItem) (h : RepRun li = true)
    (he : styled (styleOf li) = true ∨ li.text.head?.any visible = true) (y : Str) :
    ∃ d, (runBytes li ++ y).head? = some d ∧ isSpace d = false := by
  rw [runBytes_parts li h]
  cases hs : styled (styleOf li) with
  | true => exact ⟨'<', by rw [List.append_assoc, head_openers _ hs], by decide⟩
  | false =>
    rw [openers_eq_nil.mpr hs, closers_eq_nil.mpr hs]
    rcases he with he | he
    · rw [hs] at he; exact absurd he (by simp)
    · cases ht : li.text with
      | nil => rw [ht] at he; simp at he
      | cons c t =>
        rw [ht] at he
        simp only [List.head?_cons, Option.any_some] at he
        obtain ⟨d, hd, hsp⟩ := head_esc1 c he (escapeHTML t ++ y)
        refine ⟨d, ?_, hsp⟩
        rw [← hd, escapeHTML_cons]
        simp

theorem last_runBytes (li : LItem) (h : RepRun li = true)
    (he : styled (styleOf li) = true ∨ li.text.getLast?.any visible = true) (y : Str) :
    ∃ d, (y ++ runBytes li).getLast? = some d ∧ isSpace d = false := by
  rw [runBytes_parts li h]
  cases hs : styled (styleOf li) with
  | true =>
    refine ⟨'>', ?_, by decide⟩
    rw [← List.append_assoc, ← List.append_assoc, last_closers _ hs]
  | false =>
    rw [openers_eq_nil.mpr hs, closers_eq_nil.mpr hs]
    rcases he with he | he
    · rw [hs] at he; exact absurd he (by simp)
    · cases ht : li.text.getLast? with
      | none => rw [ht] at he; simp at he
      | some c =>
        rw [ht] at he
        simp only [Option.any_some] at he
        obtain ⟨pre, hpre⟩ := List.getLast?_eq_some_iff.mp ht
        obtain ⟨d, hd, hsp⟩ := last_esc1 c he (y ++ escapeHTML pre)
        refine ⟨d, ?_, hsp⟩
        rw [← hd, hpre, C01.escape_eq_flatMap, C01.escape_eq_flatMap]
        simp

theorem repLine_head {l : Line} (h : RepLine l = true) :
    ∃ li rest, l.items = li :: rest ∧ (styled (styleOf li) = true ∨ li.text.head?.any visible = true) := by
  have h1 := (repLine_iff.mp h).head
  cases hi : l.items with
  | nil => rw [hi] at h1; simp at h1
  | cons li rest => rw [hi] at h1; exact ⟨li, rest, rfl, by simpa using h1⟩

theorem repLine_last {l : Line} (h : RepLine l = true) :
    ∃ pre li, l.items = pre ++ [li] ∧ (styled (styleOf li) = true ∨ li.text.getLast?.any visible = true) := by
  have h1 := (repLine_iff.mp h).last
  cases hi : l.items.getLast? with
  | none => rw [hi] at h1; simp at h1
  | some li =>
    rw [hi] at h1
    obtain ⟨pre, hpre⟩ := List.getLast?_eq_some_iff.mp hi
    exact ⟨pre, li, hpre, by simpa using h1⟩

theorem trimSpace_lineStr (l : Line) (h : RepLine l = true) : trimSpace (lineStr l) = lineStr l := by
  apply trimSpace_eq_self
  · intro c hc
    obtain ⟨li, rest, hi, he⟩ := repLine_head h
    obtain ⟨d, hd, hsp⟩ := head_runBytes li (repLine_runs h li (by simp [hi])) he (rest.map runBytes).flatten
    unfold lineStr at hc
    rw [hi, List.map_cons, List.flatten_cons, hd] at hc
    cases hc; exact hsp
  · intro c hc
    obtain ⟨pre, li, hi, he⟩ := repLine_last h
    obtain ⟨d, hd, hsp⟩ := last_runBytes li (repLine_runs h li (by simp [hi])) he (pre.map runBytes).flatten
    unfold lineStr at hc
    rw [hi, List.map_append, List.flatten_append, List.map_singleton, List.flatten_singleton, hd] at hc
    cases hc; exact hsp

theorem lineStr_ne_nil (l : Line) (h : RepLine l = true) : lineStr l ≠ [] := by
  obtain ⟨li, rest, hi, he⟩ := repLine_head h
  obtain ⟨d, hd, _⟩ := head_runBytes li (repLine_runs h li (by simp [hi])) he (rest.map runBytes).flatten
  unfold lineStr
  rw [hi, List.map_cons, List.flatten_cons]
  intro e; rw [e] at hd; simp at hd

/-- the writer's tags other than `<font …>` -/
def fixedTags : List Tok := [tokB, tokI, tokU, tokEB, tokEI, tokEU, tokEFont]

theorem tag_no_char (t : Tok) (x : Char) (hx : x = '\n' ∨ x = '\r' ∨ x = '\x00') (ht : t ∈ fixedTags) : x ∉ t.raw := by
  simp only [fixedTags, List.mem_cons, List.not_mem_nil, or_false] at ht
  rcases hx with rfl | rfl | rfl <;> rcases ht with rfl | rfl | rfl | rfl | rfl | rfl | rfl <;> decide

theorem runBytes_no_ctl (li : LItem) (h : RepRun li = true) (x : Char) (hx : x = '\n' ∨ x = '\r' ∨ x = '\x00') :
    x ∉ runBytes li := by
  rw [runBytes_parts li h]
  have hxe : EntityFree x := by
    rcases hx with rfl | rfl | rfl <;> (unfold EntityFree; decide)
  intro hm
  simp only [List.mem_append, List.mem_flatMap] at hm
  rcases hm with ⟨t, ht, hr⟩ | hm | ⟨t, ht, hr⟩
  · rcases mem_openers ht with ⟨c, hc, rfl⟩ | rfl | rfl | rfl
    · have hcr := List.all_eq_true.mp (repRun_color h c hc)
      simp only [tokFont, Tok.raw, List.mem_append] at hr
      rcases hr with (hr | hr) | hr
      · rcases hx with rfl | rfl | rfl <;> revert hr <;> decide
      · have := hcr x hr
        rcases hx with rfl | rfl | rfl <;> simp at this
      · rcases hx with rfl | rfl | rfl <;> revert hr <;> decide
    · exact tag_no_char _ x hx (by simp [fixedTags]) hr
    · exact tag_no_char _ x hx (by simp [fixedTags]) hr
    · exact tag_no_char _ x hx (by simp [fixedTags]) hr
  · refine escape_no_char li.text x hxe ?_ hm
    intro hm'
    have := (repRun_facts h).chars x hm'
    rcases hx with rfl | rfl | rfl
    · exact this.1 rfl
    · exact this.2.1 rfl
    · exact this.2.2 rfl
  · rcases mem_closers ht with rfl | rfl | rfl | rfl <;> exact tag_no_char _ x hx (by simp [fixedTags]) hr

theorem lineStr_no_ctl (l : Line) (h : RepLine l = true) (x : Char) (hx : x = '\n' ∨ x = '\r' ∨ x = '\x00') :
    x ∉ lineStr l := by
  unfold lineStr
  intro hm
  obtain ⟨bs, hbs, hx'⟩ := List.mem_flatten.mp hm
  obtain ⟨li, hli, rfl⟩ := List.mem_map.mp hbs
  exact runBytes_no_ctl li (repLine_runs h li hli) x hx hx'

theorem lineStr_no_break (l : Line) (h : RepLine l = true) (x : Char) (hx : x = '\n' ∨ x = '\r') : x ∉ lineStr l :=
  lineStr_no_ctl l h x (hx.imp_right .inl)

/-- a piece that neither contains nor helps to complete `-->`, whatever precedes it, and after which
    the scan starts afresh -/
def Safe (a : Str) : Prop := ∀ q, scanArrow q a = false ∧ arrowEnd q a = 0

theorem Safe.append {a b : Str} (ha : Safe a) (hb : Safe b) : Safe (a ++ b) := by
  intro q
  rw [scanArrow_append, arrowEnd_append, (ha q).1, (ha q).2, (hb 0).1, (hb 0).2]
  simp

/-- between two safe pieces, a piece without `-->` of its own (it may end in dashes: the next piece starts afresh) -/
theorem Safe.around {a m b : Str} (ha : Safe a) (hm : scanArrow 0 m = false) (hb : Safe b) : Safe (a ++ (m ++ b)) := by
  intro q
  rw [scanArrow_append, arrowEnd_append, (ha q).1, (ha q).2, scanArrow_append, arrowEnd_append, hm, (hb _).1, (hb _).2]
  simp

theorem safe_lt (a : Str) (h0 : scanArrow 0 a = false) (he : arrowEnd 0 a = 0) : Safe ('<' :: a) := by
  intro q
  rw [scanArrow_other q a (by decide) (by decide), arrowEnd_other q a (by decide)]
  exact ⟨h0, he⟩

theorem safe_tag (t : Tok) (ht : t ∈ fixedTags) : Safe t.raw := by
  simp only [fixedTags, List.mem_cons, List.not_mem_nil, or_false] at ht
  rcases ht with rfl | rfl | rfl | rfl | rfl | rfl | rfl <;> exact safe_lt _ (by decide) (by decide)

theorem safe_font (c : Str) (hc : '>' ∉ c) : Safe (tokFont c).raw := by
  have e : (tokFont c).raw = '<' :: ("font color=\"".toList ++ c ++ "\">".toList) := by simp [tokFont, Tok.raw]
  rw [e]
  apply safe_lt
  · rw [scanArrow_append, scanArrow_append, scanArrow_no_gt _ _ hc]
    have : ∀ q, scanArrow q "\">".toList = false := by
      intro q; rw [show "\">".toList = '"' :: ['>'] from rfl, scanArrow_other q _ (by decide) (by decide)]; decide
    rw [this]; decide
  · rw [show "font color=\"".toList ++ c ++ "\">".toList = ("font color=\"".toList ++ c ++ ['"']) ++ ['>'] by simp]
    exact arrowEnd_snoc _ _ _ (by decide)

theorem safe_flatMap (ts : List Tok) (h : ∀ t ∈ ts, Safe t.raw) (hne : ts ≠ []) : Safe (ts.flatMap Tok.raw) := by
  induction ts with
  | nil => exact absurd rfl hne
  | cons t ts ih =>
    rw [List.flatMap_cons]
    cases ts with
    | nil => simpa using h t (by simp)
    | cons t' ts' => exact (h t (by simp)).append (ih (fun x hx => h x (by simp [hx])) (by simp))

theorem colorRep_mem {c : Str} (h : colorRep c = true) : '"' ∉ c ∧ '&' ∉ c ∧ '>' ∉ c := by
  refine ⟨?_, ?_, ?_⟩ <;> intro hm <;> have := List.all_eq_true.mp h _ hm <;> simp at this

theorem safe_openers (li : LItem) (h : RepRun li = true) (hs : styled (styleOf li) = true) :
    Safe ((openers (styleOf li)).flatMap Tok.raw) := by
  apply safe_flatMap _ _ (openers_ne_nil _ hs)
  intro t ht
  rcases mem_openers ht with ⟨c, hc, rfl⟩ | rfl | rfl | rfl
  · exact safe_font c (colorRep_mem (repRun_color h c hc)).2.2
  · exact safe_tag _ (by simp [fixedTags])
  · exact safe_tag _ (by simp [fixedTags])
  · exact safe_tag _ (by simp [fixedTags])

theorem safe_closers (r : Run) (hs : styled r = true) : Safe ((closers r).flatMap Tok.raw) := by
  apply safe_flatMap _ _ (closers_ne_nil _ hs)
  intro t ht
  rcases mem_closers ht with rfl | rfl | rfl | rfl <;> exact safe_tag _ (by simp [fixedTags])

theorem scan_escape (li : LItem) (h : RepRun li = true) : scanArrow 0 (escapeHTML li.text) = false := by
  have := scanArrow_escape 0 li.text []
  simp only [List.append_nil] at this
  rw [this, ← contains_arrow_eq]
  exact (repRun_facts h).noArrow

theorem safe_styled_run (li : LItem) (h : RepRun li = true) (hs : styled (styleOf li) = true) : Safe (runBytes li) := by
  rw [runBytes_parts li h]
  exact (safe_openers li h hs).around (scan_escape li h) (safe_closers _ hs)

theorem runBytes_plain (li : LItem) (hpos : NoPos li) (hs : plainRun li = true) :
    runBytes li = escapeHTML li.text := by
  have hs' : styled (styleOf li) = false := by simpa [plainRun] using hs
  rw [runBytes_eq li hpos]
  simp [runToks, openers_eq_nil.mpr hs', closers_eq_nil.mpr hs', Tok.raw]

/-- the side condition both scans of a written line carry: the head of the rest is a styled run (or there is none) -/
def HeadStyled (items : List LItem) : Prop := match items.head? with | some li => styled (styleOf li) = true | none => True

theorem noAdjPlain_tail {a : LItem} {rest : List LItem} (h : noAdjPlain (a :: rest) = true) : noAdjPlain rest = true := by
  cases rest with
  | nil => rfl
  | cons b r => simp only [noAdjPlain, Bool.and_eq_true] at h; exact h.2

/-- behind an unstyled run the next run is styled -/
theorem noAdjPlain_next {a : LItem} {rest : List LItem} (h : noAdjPlain (a :: rest) = true)
    (hs : styled (styleOf a) = false) : HeadStyled rest := by
  cases rest with
  | nil => trivial
  | cons b r =>
    simp only [noAdjPlain, Bool.and_eq_true, plainRun, hs] at h
    simpa [HeadStyled] using h.1

/-- met in a state that is not fresh, the run at the head is styled: so an unstyled head is met in a fresh state -/
theorem fresh_of_plain {P : Prop} {a : LItem} {rest : List LItem} (h : P ∨ HeadStyled (a :: rest))
    (hs : styled (styleOf a) = false) : P := by
  rcases h with h | h
  · exact h
  · simp [HeadStyled, hs] at h

theorem scan_runs (items : List LItem) (h : ∀ li ∈ items, RepRun li = true) (hadj : noAdjPlain items = true) :
    ∀ q, (q = 0 ∨ HeadStyled items) → scanArrow q (items.map runBytes).flatten = false := by
  induction items with
  | nil => intro q _; rfl
  | cons li rest ih =>
    intro q hq
    have hli := h li (by simp)
    have hrest : ∀ x ∈ rest, RepRun x = true := fun x hx => h x (by simp [hx])
    have hadj' := noAdjPlain_tail hadj
    rw [List.map_cons, List.flatten_cons, scanArrow_append]
    -- a styled run is `Safe` whatever state it is met in; an unstyled one is met in state 0, and what follows it is styled
    cases hs : styled (styleOf li) with
    | true =>
      have hsafe := safe_styled_run li hli hs
      rw [(hsafe q).1, (hsafe q).2, ih hrest hadj' 0 (Or.inl rfl)]; rfl
    | false =>
      obtain rfl := fresh_of_plain hq hs
      rw [runBytes_plain li (repRun_pos hli) (by simp [plainRun, hs]), scan_escape li hli, Bool.false_or]
      exact ih hrest hadj' _ (Or.inr (noAdjPlain_next hadj hs))

theorem lineStr_no_arrow (l : Line) (h : RepLine l = true) : Go.contains arrow (lineStr l) = false := by
  unfold lineStr arrow
  rw [contains_arrow_eq]
  exact scan_runs l.items (repLine_runs h) (repLine_iff.mp h).noAdj 0 (Or.inl rfl)

end SRTDoc
end Astisub
