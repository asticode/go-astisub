import Astisub.Lemmas.EvalLit
import Astisub.Model.SRT
import Astisub.Lemmas.StrList
import Astisub.Lemmas.SRTRead2Block

/-!
# Lemmas/SRTTiming — the SubRip timing line `HH:MM:SS,mmm --> HH:MM:SS,mmm` through `SRT.step`

The writer emits `formatSRT s ++ " --> " ++ formatSRT e`.  For all `0 ≤ s, e < 100 h`: the line is trimmed
already, splits at `-->` into the two stamps, and the independent decoder reads it as the two instants in
whole milliseconds (`timing_timingLine`).  The reader follows the decoder on every timing line
(`SRTRead2.timingOK_of_timing`), which gives what `SRT.step` returns on such a line (`step_timingLine`).
-/

namespace Astisub
namespace SRTTiming
open Go SRT List

/-- the timing line of a cue as written by `SRT.itemBytes` -/
def timingLine (s e : Int) : Str := Duration.formatSRT s ++ (' ' :: arrow ++ [' ']) ++ Duration.formatSRT e

theorem trimSpace_wrap (x m y : Str) (hx : x ≠ []) (hy : y ≠ [])
    (hxs : ∀ c ∈ x, isSpace c = false) (hys : ∀ c ∈ y, isSpace c = false) :
    trimSpace (x ++ m ++ y) = x ++ m ++ y :=
  trimSpace_of_trimmed (trimmed_append_append hx hy (fun c hc => hxs c (mem_of_mem_head? hc))
    fun c hc => hys c (mem_of_getLast? hc))

/-- `strings.Split(a + sep + b, sep)` when neither block has the separator's first character -/
theorem splitOn_two (p : Char) (ps a b : Str) (ha : p ∉ a) (hb : p ∉ b) :
    Go.splitOn (p :: ps) (a ++ (p :: ps) ++ b) = [a, b] := by
  rw [splitOn_block p ps a b ha, splitOn_of_not_contains (List.cons_ne_nil _ _) (contains_of_head_not_mem ps hb)]

theorem fields_space_word (w : Str) (hne : w ≠ []) (hw : ∀ c ∈ w, isSpace c = false) :
    fields (' ' :: w) = [w] := by
  rw [fields_space (by decide)]
  have := fields_word hne hw (rest := []) (fun _ h => by cases h)
  rwa [List.append_nil] at this

/-- the characters of a written time stamp: those of a clock text, and `,` -/
def TimeChar (c : Char) : Prop := Clock.ClockChar c ∨ c = ','

theorem TimeChar.noSpace {c : Char} (h : TimeChar c) : isSpace c = false := by
  rcases h with h | rfl
  · exact h.noSpace
  · decide

theorem TimeChar.ne_minus {c : Char} (h : TimeChar c) : c ≠ '-' := by
  rcases h with (⟨k, hk, rfl⟩ | rfl) | rfl
  · exact fun e => (digitChar_ne_minus hk).mp e
  · decide
  · decide

theorem canon3_timeChar (h m s f : Nat) (hh : h < 100) (hm : m < 100) (hs : s < 100) (hf : f < 1000) :
    ∀ c ∈ C16.canon3 h m s f ',', TimeChar c := by
  intro c hc
  rcases mem_append.mp (show c ∈ (dd h ++ ':' :: dd m ++ ':' :: dd s) ++ ',' :: ddd f from hc) with hc | hc
  · exact .inl ((C16.hms_dd hh hm hs).chars c hc)
  · rcases mem_cons.mp hc with rfl | hc
    · exact .inr rfl
    · exact .inl (.inl (digitStr_ddd hf c hc))

theorem canon3_ne_nil (h m s f : Nat) (sep : Char) : C16.canon3 h m s f sep ≠ [] := by
  unfold C16.canon3 dd; simp

theorem formatSRT_timeChar (t : Int) (h0 : 0 ≤ t) (h1 : t < 360000000000000) :
    ∀ c ∈ Duration.formatSRT t, TimeChar c := by
  obtain ⟨h, m, s, f, hh, hm, hs, hf, hfmt, _⟩ := C16.format_shape3 t ',' h0 h1
  unfold Duration.formatSRT
  rw [hfmt]
  exact canon3_timeChar h m s f hh (by omega) (by omega) hf

theorem formatSRT_ne_nil (t : Int) (h0 : 0 ≤ t) (h1 : t < 360000000000000) :
    Duration.formatSRT t ≠ [] := by
  obtain ⟨h, m, s, f, _, _, _, _, hfmt, _⟩ := C16.format_shape3 t ',' h0 h1
  unfold Duration.formatSRT
  rw [hfmt]
  exact canon3_ne_nil h m s f ','

theorem formatSRT_noSpace (t : Int) (h0 : 0 ≤ t) (h1 : t < 360000000000000) :
    ∀ c ∈ Duration.formatSRT t, isSpace c = false :=
  fun c hc => (formatSRT_timeChar t h0 h1 c hc).noSpace

theorem formatSRT_no_minus (t : Int) (h0 : 0 ≤ t) (h1 : t < 360000000000000) :
    '-' ∉ Duration.formatSRT t :=
  fun hc => (formatSRT_timeChar t h0 h1 _ hc).ne_minus rfl

theorem timingLine_eq (s e : Int) :
    timingLine s e = (Duration.formatSRT s ++ [' ']) ++ arrow ++ (' ' :: Duration.formatSRT e) := by
  simp [timingLine]

section
variable (s e : Int) (hs0 : 0 ≤ s) (hs1 : s < 360000000000000) (he0 : 0 ≤ e) (he1 : e < 360000000000000)
include hs0 hs1 he0 he1

theorem trimSpace_timingLine : trimSpace (timingLine s e) = timingLine s e := by
  unfold timingLine
  exact trimSpace_wrap _ _ _ (formatSRT_ne_nil s hs0 hs1) (formatSRT_ne_nil e he0 he1)
    (formatSRT_noSpace s hs0 hs1) (formatSRT_noSpace e he0 he1)

theorem splitOn_timingLine :
    Go.splitOn arrow (timingLine s e) = [Duration.formatSRT s ++ [' '], ' ' :: Duration.formatSRT e] := by
  rw [timingLine_eq]
  have ha : arrow = '-' :: ['-', '>'] := rfl
  rw [ha]
  apply splitOn_two
  · intro hc
    simp only [mem_append, mem_cons, not_mem_nil, or_false] at hc
    rcases hc with hc | hc
    · exact formatSRT_no_minus s hs0 hs1 hc
    · exact absurd hc (by decide)
  · intro hc
    simp only [mem_cons] at hc
    rcases hc with hc | hc
    · exact absurd hc (by decide)
    · exact formatSRT_no_minus e he0 he1 hc

omit hs0 hs1 in
theorem fields_right : fields (' ' :: Duration.formatSRT e) = [Duration.formatSRT e] :=
  fields_space_word _ (formatSRT_ne_nil e he0 he1) (formatSRT_noSpace e he0 he1)

theorem timingLine_mem {c : Char} (hc : c ∈ timingLine s e) : TimeChar c ∨ c = ' ' ∨ c = '-' ∨ c = '>' := by
  rcases mem_append.mp hc with hc | hc
  · rcases mem_append.mp hc with hc | hc
    · exact Or.inl (formatSRT_timeChar s hs0 hs1 c hc)
    · have : c ∈ [' ', '-', '-', '>', ' '] := hc
      simp only [mem_cons, not_mem_nil, or_false] at this
      rcases this with h | h | h | h | h <;> simp [h]
  · exact Or.inl (formatSRT_timeChar e he0 he1 c hc)

theorem timingLine_no_break (x : Char) (hx : x = '\n' ∨ x = '\r') : x ∉ timingLine s e := by
  intro hc
  have hsp : isSpace x = true := by rcases hx with rfl | rfl <;> decide
  rcases timingLine_mem s e hs0 hs1 he0 he1 hc with h | h | h | h
  · rw [h.noSpace] at hsp; cases hsp
  all_goals rcases hx with rfl | rfl <;> exact absurd h (by decide)

omit he0 he1 in
theorem timingLine_ne_nil : timingLine s e ≠ [] := by
  unfold timingLine
  have := formatSRT_ne_nil s hs0 hs1
  simp [this]

end

theorem timeMs_canon3 (x : Str) (h m s f : Nat) (hh : h < 100) (hm : m < 60) (hs : s < 60) (hf : f < 1000)
    (hx : trimSpace x = C16.canon3 h m s f ',') :
    Spec.SRT.timeMs x = some (((h * 60 + m) * 60 + s) * 1000 + f) := by
  have := SRTRead2.timeMs_of_clock (.inl rfl) (C16.hms_dd hh (by omega) (by omega)) hm hs (.ddd hf) (Nat.le_refl 3) hx
  rwa [show 3 - (ddd f).length = 0 from rfl, Nat.pow_zero, Nat.mul_one] at this

theorem timeMs_format (x : Str) (t : Int) (h0 : 0 ≤ t) (h1 : t < 360000000000000)
    (hx : trimSpace x = Duration.formatSRT t) : Spec.SRT.timeMs x = some (t / 1000000).toNat := by
  obtain ⟨h, m, s, f, hh, hm, hs, hf, hfmt, hval⟩ := C16.format_shape3 t ',' h0 h1
  have hx' : trimSpace x = C16.canon3 h m s f ',' := by rw [hx]; exact hfmt
  rw [timeMs_canon3 x h m s f hh hm hs hf hx']
  unfold Duration.nsPerMs Duration.nsPerS Duration.nsPerMin Duration.nsPerH at hval
  congr 1
  omega

theorem timing_timingLine (s e : Int) (hs0 : 0 ≤ s) (hs1 : s < 360000000000000)
    (he0 : 0 ≤ e) (he1 : e < 360000000000000) :
    Spec.SRT.timing (timingLine s e) = some ((s / 1000000).toNat, (e / 1000000).toNat) := by
  have hsplit := splitOn_timingLine s e hs0 hs1 he0 he1
  have ha : SRT.arrow = "-->".toList := rfl
  rw [ha] at hsplit
  unfold Spec.SRT.timing
  rw [hsplit]
  simp only [fields_right e he0 he1]
  rw [timeMs_format _ s hs0 hs1
      (trimSpace_trailing (formatSRT_noSpace _ hs0 hs1)),
    timeMs_format _ e he0 he1 (trimSpace_id (formatSRT_noSpace _ he0 he1))]

/-- the state after the reader has consumed the timing line of a cue starting at `s`, ending at `e`:
    the right-hand side of `SRTRead2.stepG_timing` with the instants truncated to the millisecond -/
def afterTiming (st : St) (s e : Int) : St :=
  { done := if st.curListed then st.done ++ [{ st.cur with lines := stripLines (SRTRead2.idxSplit st.cur.lines).2 }]
            else st.done,
    cur := { index := if (SRTRead2.idxSplit st.cur.lines).1 ≠ [] then atoiLoose (SRTRead2.idxSplit st.cur.lines).1 else 0,
             startAt := s - s % 1000000, endAt := e - e % 1000000, lines := [] },
    curListed := true, sa := {}, lineNum := st.lineNum + 1 }

theorem step_timingLine (st : St) (s e : Int)
    (hs0 : 0 ≤ s) (hs1 : s < 360000000000000) (he0 : 0 ≤ e) (he1 : e < 360000000000000)
    (hn : 0 < st.lineNum) :
    step st (some (timingLine s e)) = .ok (afterTiming st s e) := by
  -- the decoder reads the line as `(s / 10⁶, e / 10⁶)` ms, and the reader follows the decoder on every timing line
  have hok := SRTRead2.timingOK_of_timing (timing_timingLine s e hs0 hs1 he0 he1)
    (by unfold int64Max; omega) (by unfold int64Max; omega)
  have hp : SRTRead2.prepLine st.lineNum (timingLine s e) = timingLine s e := by
    unfold SRTRead2.prepLine
    rw [if_neg (by omega), trimSpace_timingLine s e hs0 hs1 he0 he1]
  rw [SRTRead2.step_eq, hp]
  have e1 : ((s / 1000000).toNat : Int) * 1000000 = s - s % 1000000 := by omega
  have e2 : ((e / 1000000).toNat : Int) * 1000000 = e - e % 1000000 := by omega
  rw [hok.stepG st, e1, e2, afterTiming]

example : timingLine 1000000000 2500000123 = "00:00:01,000 --> 00:00:02,500".toList := by decide_vector

example : step { lineNum := 1 } (some (timingLine 1000000000 2500000123))
    = .ok (afterTiming { lineNum := 1 } 1000000000 2500000123) :=
  step_timingLine _ _ _ (by decide) (by decide) (by decide) (by decide) (by decide)

example : (afterTiming { lineNum := 1 } 1000000000 2500000123).cur.endAt = 2500000000 := by decide_vector

end SRTTiming
end Astisub
