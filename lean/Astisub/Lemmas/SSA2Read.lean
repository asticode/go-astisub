import Astisub.Lemmas.SSA2Info

/-!
# Lemmas/SSA2Read — the written document, line by line, through `SSA.read`

The written text is `unlines (SSAW.docLinesW s rows)`, every line spelled out (`written_lines`; namespace `SSAW` because the
decoder-side files `SSAW2…` go on with the same list of lines).  A line break is in
one of these lines only if it is in a string of the cue list (`docLinesW_not_mem`); so none contains a line feed
and splitting the text at line feeds gives the lines back; the scan loop over them ends with the script info, the
styles and the normalised events of the cue list (`run_docLinesW`); `read`'s post-processing then gives `norm s`.
-/

namespace Astisub
namespace SSA
open Go List

/-- a string value without line feed (other values never have one) -/
def ValNL : Val → Prop
  | .s str => '\n' ∉ str
  | _ => True

instance : (v : Val) → Decidable (ValNL v)
  | .s str => inferInstanceAs (Decidable ('\n' ∉ str))
  | .b _ => isTrue trivial
  | .c _ => isTrue trivial
  | .f _ => isTrue trivial
  | .i _ => isTrue trivial

/-- neither the name nor the font name of the style contains a line feed -/
def StyleNL (s : Style) : Prop := '\n' ∉ s.name ∧ ∀ f ∈ Fld.all, ∀ v, s.vals.get f = some v → ValNL v

instance (s : Style) : Decidable (StyleNL s) :=
  inferInstanceAs (Decidable ('\n' ∉ s.name ∧ ∀ f ∈ Fld.all, ∀ v, s.vals.get f = some v → ValNL v))

/-- no text column of the event contains a line feed -/
def EventNL (e : Event) : Prop := '\n' ∉ e.style ∧ '\n' ∉ e.name ∧ '\n' ∉ e.effect ∧ '\n' ∉ e.text

instance (e : Event) : Decidable (EventNL e) :=
  inferInstanceAs (Decidable ('\n' ∉ e.style ∧ '\n' ∉ e.name ∧ '\n' ∉ e.effect ∧ '\n' ∉ e.text))

/-! A line break (`LineBreak c`: `\n`, `\r`, …) is in a line of the written styles and events sections only if it
is in one of the strings of the cue list: a style's name or string value, an event's `Style`, `Name`, `Effect`, `Text`. -/

theorem style_row_not_mem {c : Char} (hc : LineBreak c) (s : Style) (fs : List Fld) (hn : c ∉ s.name)
    (hv : ∀ f str, s.vals.get f = some (.s str) → c ∉ str) (row : Str) (hrow : s.row (formatOf fs) = some row) :
    c ∉ row := by
  obtain ⟨cs, hcs, rfl⟩ := row_some hrow
  apply not_mem_join (hc.not_mem_noSpace (by decide))
  intro l hl
  rcases mem_cons.mp hl with rfl | hl
  · exact hn
  · refine cells_forall s (P := fun x => c ∉ x) (by simp) (fun f v x hg hx => ?_) hcs l hl
    rcases cell_noSpace v x hx with rfl | hs
    · exact hv f x hg
    · exact hc.not_mem_noSpace hs

theorem rows_not_mem {c : Char} (hc : LineBreak c) (fs : List Fld) (ss : List Style) (rows : List Str)
    (hs : ∀ s ∈ ss, c ∉ s.name ∧ ∀ f str, s.vals.get f = some (.s str) → c ∉ str)
    (h : allSome (ss.map fun s => s.row (formatOf fs)) = some rows) : ∀ r ∈ rows, c ∉ r :=
  allSome_map_forall h fun s hm r hr => style_row_not_mem hc s fs (hs s hm).1 (hs s hm).2 r hr

theorem event_row_not_mem {c : Char} (hc : LineBreak c) (e : Event) (v : Bool) (he : EventCells e)
    (hn : c ∉ e.style ∧ c ∉ e.name ∧ c ∉ e.effect ∧ c ∉ e.text) : c ∉ e.row v := by
  rw [Event.row_eq]
  apply not_mem_join (hc.not_mem_noSpace (by decide))
  intro l hl
  rcases mem_append.mp hl with hl | hl
  · exact Event.pre_not_mem e v he hc.numChar (hc.not_mem_noSpace (by decide_vector)) (hc.not_mem_noSpace (by decide_vector))
      hn.1 hn.2.1 hn.2.2.1 l hl
  · rw [mem_singleton.mp hl]; exact hn.2.2.2

theorem formatLine_not_mem {c : Char} (hc : LineBreak c) (cols : List Str) (h : ∀ col ∈ cols, c ∉ col) :
    c ∉ formatLine cols := fun hm => by
  rcases mem_append.mp hm with hm | hm
  · exact hc.not_mem_plain (by decide_vector) hm
  · exact not_mem_join (hc.not_mem_plain (by decide_vector)) h hm

theorem stylesBlock_not_mem {c : Char} (hc : LineBreak c) (v : Bool) (fs : List Fld) (rows : List Str)
    (h : ∀ r ∈ rows, c ∉ r) : ∀ l ∈ stylesBlock v fs rows, c ∉ l := by
  intro l hl
  unfold stylesBlock at hl
  split at hl
  · cases hl
  · simp only [cons_append, nil_append, mem_cons, mem_map] at hl
    rcases hl with rfl | rfl | rfl | ⟨r, hr, rfl⟩
    · simp
    · cases v <;> exact hc.not_mem_plain (by decide_vector)
    · apply formatLine_not_mem hc
      intro col hcol
      rcases mem_cons.mp hcol with rfl | hcol
      · exact hc.not_mem_noSpace (by decide_vector)
      · obtain ⟨f, _, rfl⟩ := mem_map.mp hcol
        exact hc.not_mem_noSpace (col_shape f).2
    · intro hm
      rcases mem_append.mp hm with hm | hm
      · exact hc.not_mem_plain (by decide_vector) hm
      · exact h r hr hm

theorem eventsBlock_not_mem {c : Char} (hc : LineBreak c) (v : Bool) (es : List Event)
    (h : ∀ e ∈ es, EventCells e ∧ c ∉ e.style ∧ c ∉ e.name ∧ c ∉ e.effect ∧ c ∉ e.text) :
    ∀ l ∈ eventsBlock v es, c ∉ l := by
  intro l hl
  unfold eventsBlock at hl
  simp only [cons_append, nil_append, mem_cons, mem_map] at hl
  rcases hl with rfl | rfl | rfl | ⟨e, he, rfl⟩
  · simp
  · exact hc.not_mem_noSpace (by decide_vector)
  · apply formatLine_not_mem hc
    cases v <;> exact fun col hcol => hc.not_mem_noSpace ((by decide_vector : ∀ col ∈ eventFormat _, ∀ x ∈ col, isSpace x = false) col hcol)
  · intro hm
    rcases mem_append.mp hm with hm | hm
    · exact hc.not_mem_plain (by decide_vector) hm
    · exact event_row_not_mem hc e v (h e he).1 (h e he).2 hm

/-- the identifiers of the styles, in the writer's (sorted) order -/
def styleIds (s : Subs) : List Str := (writerStyles s).map (·.name)

theorem mem_writerStyles {s : Subs} {st : Style} : st ∈ writerStyles s ↔ ∃ d ∈ s.styles, styleOfDef d = st := by
  unfold writerStyles
  rw [mem_map]
  constructor
  · rintro ⟨d, hd, rfl⟩; exact ⟨d, (mergeSort_perm _ _).mem_iff.mp hd, rfl⟩
  · rintro ⟨d, hd, rfl⟩; exact ⟨d, (mergeSort_perm _ _).mem_iff.mpr hd, rfl⟩

theorem styleIds_perm (s : Subs) : (styleIds s).Perm (s.styles.map (·.id)) := by
  unfold styleIds writerStyles
  rw [map_map]
  exact (mergeSort_perm _ _).map _

/-- **Representable cue lists (write → read).** The script info is good (`InfoOK`: comments and strings
    need no trimming and have no line feed, strings are not empty, integers fit 64 bits, `Timer`
    survives shortest formatting); every style is made of good cells (`StyleOK`), its name and font
    name need no trimming and have no line feed; every cue's event has good cells (`EventCells`), a
    text that needs no trimming, and no line feed in a text column; style identifiers are distinct. -/
def RepRead (s : Subs) : Prop :=
  InfoOK (infoOfMeta s.metadata) ∧
  (∀ st ∈ writerStyles s, StyleOK st ∧ StyleTrimmed st ∧ StyleNL st) ∧
  (∀ e ∈ s.items.map eventOfItem, EventCells e ∧ Trimmed e.text ∧ EventNL e) ∧
  (styleIds s).Nodup

instance (s : Subs) : Decidable (RepRead s) :=
  inferInstanceAs (Decidable (InfoOK (infoOfMeta s.metadata) ∧
    (∀ st ∈ writerStyles s, StyleOK st ∧ StyleTrimmed st ∧ StyleNL st) ∧
    (∀ e ∈ s.items.map eventOfItem, EventCells e ∧ Trimmed e.text ∧ EventNL e) ∧
    (styleIds s).Nodup))

theorem RepRead.info {s : Subs} (h : RepRead s) : InfoOK (infoOfMeta s.metadata) := h.1

/-- what `RepRead` asks of a style -/
structure StyleRep (st : Style) : Prop where
  ok : StyleOK st
  trimmed : StyleTrimmed st
  nl : StyleNL st

/-- what `RepRead` asks of the event of a cue -/
structure EventRep (e : Event) : Prop where
  cells : EventCells e
  trimmed : Trimmed e.text
  nl : EventNL e

theorem RepRead.style {s : Subs} (h : RepRead s) {st : Style} (hst : st ∈ writerStyles s) : StyleRep st :=
  let ⟨a, b, c⟩ := h.2.1 st hst; ⟨a, b, c⟩

theorem RepRead.event {s : Subs} (h : RepRead s) {e : Event} (he : e ∈ s.items.map eventOfItem) : EventRep e :=
  let ⟨a, b, c⟩ := h.2.2.1 e he; ⟨a, b, c⟩

theorem RepRead.ids {s : Subs} (h : RepRead s) : (styleIds s).Nodup := h.2.2.2

/-- **Normal form**: what the reader makes of the written document, spelled out from the cue list.
    Every cue is rebuilt (`ssaEvent.item`) from its event (`newSSAEventFromItem`) in normal form
    (`Event.norm`: centisecond times, explicit margins, `Layer`/`Marked` by script type, `*Default`
    renamed) against the identifiers of the styles; the styles are the sorted styles, each with the
    canonical attributes of its typed values; the metadata is the metadata of the typed script info;
    regions are dropped. -/
def norm (s : Subs) : Subs :=
  { items := s.items.map fun it => eventItem (styleIds s) ((eventOfItem it).norm "Dialogue".toList (isV4plus s)),
    regions := [],
    styles := (writerStyles s).map Style.toDef,
    metadata := (infoOfMeta s.metadata).metadata }

theorem styleMap_nodup : ∀ (l : List Style), (l.map (·.name)).Nodup → styleMap l = l := by
  intro l
  induction l with
  | nil => intro _; rfl
  | cons s rest ih =>
    intro h
    simp only [map_cons, nodup_cons] at h
    unfold styleMap
    have : rest.any (fun t => decide (t.name = s.name)) = false := by
      rw [any_eq_false]
      intro t ht
      simp only [decide_eq_true_eq]
      intro e
      exact h.1 (e ▸ mem_map_of_mem ht)
    rw [this]
    simp only [Bool.false_eq_true, ↓reduceIte, ih h.2]

theorem toDef_pick (st : Style) (fs : List Fld) (hcov : ∀ f, (st.vals.get f).isSome → f ∈ fs) :
    Style.toDef { name := st.name, vals := Tab.pick st.vals fs } = st.toDef := by
  unfold Style.toDef
  simp only [Tab.pick_get_covering st.vals fs hcov]

theorem metadata_tabulate (b : Info) :
    Info.metadata { comments := b.comments, vals := Tab.pick b.vals SI.all } = b.metadata := by
  unfold Info.metadata
  simp only [Tab.pick_get_covering _ _ fun f _ => C04.si_all_complete f]

theorem run_blank (st : St) (ls : List Str) :
    run st (ls ++ [[]]) = match run st ls with
      | .ok st' => .ok { st' with first := false }
      | .err => .err
      | .unmodelled => .unmodelled := by
  rw [run_append]
  cases run st ls with
  | ok st' => simp only [run, step_nil]
  | err => rfl
  | unmodelled => rfl

end SSA

namespace SSAW
open Go SSA List

/-- the raw lines of the written document -/
def docLinesW (s : Subs) (rows : List Str) : List Str :=
  "[Script Info]".toList :: infoRaw (infoOfMeta s.metadata)
    ++ stylesBlock (isV4plus s) (formatFlds (writerStyles s)) rows
    ++ eventsBlock (isV4plus s) (s.items.map eventOfItem)

theorem written_lines (s : Subs) (out : Str) (h : write s = .ok out) :
    ∃ rows, allSome ((writerStyles s).map fun st => st.row (formatOf (formatFlds (writerStyles s)))) = some rows ∧
      out = unlines (docLinesW s rows) := by
  obtain ⟨infoTxt, rows, hi, hrows, rfl⟩ := write_ok_lines s out h
  refine ⟨rows, hrows, ?_⟩
  rw [bytes_lines _ infoTxt hi]
  unfold docLinesW
  simp only [unlines_append]

theorem docLinesW_not_mem {c : Char} (hc : LineBreak c) (s : Subs) (rows : List Str)
    (hrows : allSome ((writerStyles s).map fun st => st.row (formatOf (formatFlds (writerStyles s)))) = some rows)
    (hcom : ∀ x ∈ (infoOfMeta s.metadata).comments, c ∉ x)
    (hv : ∀ f str, (infoOfMeta s.metadata).vals.get f = some (.s str) → c ∉ str)
    (hs : ∀ st ∈ writerStyles s, c ∉ st.name ∧ ∀ f str, st.vals.get f = some (.s str) → c ∉ str)
    (he : ∀ e ∈ s.items.map eventOfItem, EventCells e ∧ c ∉ e.style ∧ c ∉ e.name ∧ c ∉ e.effect ∧ c ∉ e.text) :
    ∀ l ∈ docLinesW s rows, c ∉ l := by
  intro l hl
  rcases mem_append.mp hl with hl | hl
  · rcases mem_append.mp hl with hl | hl
    · rcases mem_cons.mp hl with rfl | hl
      · exact hc.not_mem_plain (by decide_vector)
      · exact infoRaw_not_mem hc _ hcom hv l hl
    · exact stylesBlock_not_mem hc _ _ rows (rows_not_mem hc _ _ rows hs hrows) l hl
  · exact eventsBlock_not_mem hc _ _ he l hl

theorem docLinesW_nl (s : Subs) (rows : List Str) (hr : RepRead s)
    (hrows : allSome ((writerStyles s).map fun st => st.row (formatOf (formatFlds (writerStyles s)))) = some rows) :
    ∀ l ∈ docLinesW s rows, '\n' ∉ l :=
  docLinesW_not_mem nl_lineBreak s rows hrows (fun _ hx => (hr.info.comment hx).2)
    (fun _ _ hg => (hr.info.value hg).2.2.2)
    (fun _ hst => ⟨(hr.style hst).nl.1, fun f _ hg => (hr.style hst).nl.2 f (C04.fld_all_complete f) _ hg⟩)
    (fun _ he => ⟨(hr.event he).cells, (hr.event he).nl⟩)

theorem run_docLinesW (s : Subs) (rows : List Str) (hr : RepRead s)
    (hrows : allSome ((writerStyles s).map fun st => st.row (formatOf (formatFlds (writerStyles s)))) = some rows) :
    run {} (docLinesW s rows) = .ok
      { sec := .events, format := eventFormat (isV4plus s), first := false,
        info := { comments := (infoOfMeta s.metadata).comments, vals := tabulate (infoOfMeta s.metadata) SI.all },
        styles := (writerStyles s).map (fun st => { name := st.name, vals := pick st (formatFlds (writerStyles s)) }),
        events := (s.items.map eventOfItem).map (Event.norm "Dialogue".toList (isV4plus s)) } := by
  unfold docLinesW
  rw [append_assoc, run_append_ok (run_infoRaw _ hr.info),
    run_body (isV4plus s) _ (formatFlds_nodup _) (writerStyles s) rows _ _ rfl
      (fun _ hst => ⟨(hr.style hst).ok, (hr.style hst).trimmed⟩) hrows
      (fun _ he => ⟨(hr.event he).cells, (hr.event he).trimmed⟩)]
  simp

end SSAW

namespace SSA
open Go List

theorem run_document (s : Subs) (out : Str) (hr : RepRead s) (h : write s = .ok out) :
    run {} (splitC '\n' out) = .ok
      { sec := .events, format := eventFormat (isV4plus s), first := false,
        info := { comments := (infoOfMeta s.metadata).comments, vals := tabulate (infoOfMeta s.metadata) SI.all },
        styles := (writerStyles s).map (fun st => { name := st.name, vals := pick st (formatFlds (writerStyles s)) }),
        events := (s.items.map eventOfItem).map (Event.norm "Dialogue".toList (isV4plus s)) } := by
  obtain ⟨rows, hrows, rfl⟩ := SSAW.written_lines s out h
  rw [splitC_unlines _ (SSAW.docLinesW_nl s rows hr hrows), run_blank, SSAW.run_docLinesW s rows hr hrows]

theorem filter_norm (hdr : Str) (v : Bool) (es : List Event) :
    (es.map (Event.norm hdr v)).filter (fun e => e.category = hdr) = es.map (Event.norm hdr v) := by
  apply filter_eq_self.mpr
  intro e he
  obtain ⟨e0, _, rfl⟩ := mem_map.mp he
  exact decide_eq_true rfl

theorem write_read (s : Subs) (out : Str) (hr : RepRead s) (h : write s = .ok out) :
    read (splitC '\n' out) = .ok (norm s) := by
  unfold read
  rw [run_document s out hr h]
  simp only
  have hnd := hr.ids
  have hmap : styleMap ((writerStyles s).map (fun st => ({ name := st.name, vals := pick st (formatFlds (writerStyles s)) } : Style)))
      = (writerStyles s).map (fun st => { name := st.name, vals := pick st (formatFlds (writerStyles s)) }) := by
    apply styleMap_nodup
    rw [map_map]
    exact hnd
  rw [hmap]
  unfold norm
  congr 2
  · have hids : map (fun x : Style => x.name) (map (fun st => ({ name := st.name, vals := pick st (formatFlds (writerStyles s)) } : Style)) (writerStyles s))
        = styleIds s := by rw [map_map]; rfl
    rw [filter_norm, map_map, map_map, hids]
    rfl
  · rw [map_map]
    apply map_congr_left
    intro st hst
    exact toDef_pick st _ (fun f hf => formatFlds_covering _ st hst f hf)
  · exact metadata_tabulate _

end SSA
end Astisub
