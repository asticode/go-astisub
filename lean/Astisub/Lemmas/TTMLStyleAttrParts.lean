import Astisub.Model.TTML

/-!
# Lemmas/TTMLStyleAttrParts — `TTML.styleAttributes` cut into its four blocks

`TTMLInStyleAttributes.styleAttributes()` (`ttml.go`) copies every field under its `TTML…` key and then derives the
WebVTT keys in three independent blocks: `TextAlign`, `Extent`, `Origin`, the last two depending on whether the writing
mode starts with `tb`.  The blocks take the attribute values as parameters, so that what is proved about one of them
(its keys, its checked variant) does not mention the attribute list.  The names stand in `Tot.TTML`, beside the checked
copy of `styleAttributes` (`Lemmas/Tot2TTML`) that is written with the same blocks.
-/

namespace Astisub
namespace Tot
namespace TTML
open Go Astisub.TTML

/-- `WebVTTLines` out of the second dimension -/
def linesOf (d1 : Str) : Option Str :=
  match atoi (replaceAll "%".toList [] d1) with
  | some h => let q := goDiv h 5; if q = 0 then none else some (itoa q)
  | none => none

def extOf (tb : Bool) (e : Option Str) : List (String × Option Str) :=
  match e with
  | none => []
  | some e =>
    match splitC ' ' e with
    | d0 :: d1 :: _ =>
      [("WebVTTWidth", optStr d0), ("WebVTTLines", linesOf d1), ("WebVTTSize", optStr (if tb then d0 else d1))]
    | _ => []

def orgOf (tb : Bool) (o : Option Str) : List (String × Option Str) :=
  match o with
  | none => []
  | some o =>
    [("WebVTTRegionAnchor", some "0%,0%".toList),
     ("WebVTTViewportAnchor", optStr (replaceAll " ".toList ",".toList (trimSpace o))),
     ("WebVTTScroll", some "up".toList)] ++
    (match splitC ' ' o with
     | c0 :: c1 :: _ => [("WebVTTLine", optStr (if tb then c1 else c0)), ("WebVTTPosition", optStr (if tb then c0 else c1))]
     | _ => [])

def alOf (t : Option Str) : List (String × Option Str) :=
  match t with
  | some t => [("WebVTTAlign", optStr t)]
  | none => []

def tbOf (w : Option Str) : Bool := match w with | some w => hasPrefix "tb".toList w | none => false

theorem styleAttributes_eq (a : KV) :
    styleAttributes a =
      mkAttrs ((attrTable.map fun (f, _) => ("TTML" ++ f, get a f)) ++ alOf (get a "TextAlign")
        ++ extOf (tbOf (get a "WritingMode")) (get a "Extent") ++ orgOf (tbOf (get a "WritingMode")) (get a "Origin")) := by
  unfold styleAttributes extOf orgOf alOf tbOf linesOf
  rfl

end TTML
end Tot
end Astisub
