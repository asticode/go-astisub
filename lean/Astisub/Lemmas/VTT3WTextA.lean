import Astisub.Lemmas.VTTInlineTs
import Astisub.Lemmas.VTT3Defs
import Astisub.Lemmas.VTTDoc

/-!
# Lemmas/VTT3WTextA — W2, text part: the independent decoder accepts a written cue-text line

The decoder `Spec.VTT.textLine` forward over the pieces the writer emits (a character, an escaped character, a
tag `<body>`; `tagStep` on an opening tag, a closing tag, the voice tag, an inline timestamp), then backward:
`Acc o s tags` says that from any state whose stack is the outer stack `o` plus the open tags `tags` (no zero
timestamp pending or recorded) the decoder accepts the rest `s` of the line, ends with the stack `o` and records
no zero timestamp; every piece the writer emits is one backward step of `Acc`, and `items_walk` (any property of a
rest of the line and the tags open there that the pieces carry backwards) takes the steps to the runs of a line.

For a line `l` with `VTT.lineFit l` and the proviso `lineW2 l`: `textLine_lineBody` (the decoder accepts
`VTT.lineBody l`, ends with an empty tag stack and produces no run with the timestamp 0) and
`cueText_lineBodies` (the same for the lines of a cue).
-/

namespace Astisub
namespace VTT3W
open Go Spec.VTT List
open VTTRead (textLine_nil textLine_char textLine_amp textLine_lt tagStep headOf annOf)
open VTT (runTags runOk runBytesPN tsPart opensBytes closesBytes sharedWith itemsBytes lineBody)
open SRT (escapeHTML)

theorem litAmp : "amp;".toList = ['a', 'm', 'p', ';'] := by decide
theorem litLt : "lt;".toList = ['l', 't', ';'] := by decide
theorem litNbsp : "nbsp;".toList = ['n', 'b', 's', 'p', ';'] := by decide
theorem litGt : "gt;".toList = ['g', 't', ';'] := by decide
theorem litLrm : "lrm;".toList = ['l', 'r', 'm', ';'] := by decide
theorem litRlm : "rlm;".toList = ['r', 'l', 'm', ';'] := by decide
theorem litAmp5 : "&amp;".toList = ['&', 'a', 'm', 'p', ';'] := by decide
theorem litLt4 : "&lt;".toList = ['&', 'l', 't', ';'] := by decide
theorem litNbsp6 : "&nbsp;".toList = ['&', 'n', 'b', 's', 'p', ';'] := by decide
theorem litV : "v".toList = ['v'] := by decide
theorem litVsp : "<v ".toList = ['<', 'v', ' '] := by decide
theorem litClose : "</".toList = ['<', '/'] := by decide

/-- no zero timestamp pending, none in the runs -/
structure Inv (st : TextSt) : Prop where
  pend : st.pending ≠ some 0
  runs : ∀ r ∈ st.runs, r.ts ≠ some 0

theorem flushText_keeps (st : TextSt) (h : Inv st) :
    (Spec.VTT.flushText st).stack = st.stack ∧ (Spec.VTT.flushText st).voice = st.voice ∧
      Inv (Spec.VTT.flushText st) := by
  rw [VTTRead.flushText_eq]
  by_cases h1 : st.acc.isEmpty = true
  · rw [if_pos h1]; exact ⟨rfl, rfl, h⟩
  · rw [if_neg h1]
    by_cases h2 : trimSpace st.acc.reverse = []
    · rw [if_pos h2]
      by_cases h3 : st.pending.isSome = true
      · rw [if_pos h3]; exact ⟨rfl, rfl, h.pend, h.runs⟩
      · rw [if_neg h3]
        refine ⟨rfl, rfl, h.pend, ?_⟩
        intro r hr
        rcases mem_append.mp hr with hr | hr
        · exact h.runs r hr
        · simp at hr; subst hr; simp
    · rw [if_neg h2]
      refine ⟨rfl, rfl, by simp, ?_⟩
      intro r hr
      rcases mem_append.mp hr with hr | hr
      · exact h.runs r hr
      · simp at hr; subst hr; exact h.pend

theorem textLine_esc1 (f : Nat) (c : Char) (rest : Str) (st : TextSt) :
    textLine (f + 1) (C01.esc1 c ++ rest) st = textLine f rest { st with acc := c :: st.acc } := by
  unfold C01.esc1
  by_cases h1 : c = '&'
  · subst h1
    rw [if_pos rfl, litAmp5]
    simp only [cons_append, nil_append]
    rw [textLine_amp, litAmp]
    have hp : hasPrefix ['a', 'm', 'p', ';'] ('a' :: 'm' :: 'p' :: ';' :: rest) = true :=
      hasPrefix_append ['a', 'm', 'p', ';'] rest
    rw [if_pos hp]
    rfl
  · rw [if_neg h1]
    by_cases h2 : c = '<'
    · subst h2
      rw [if_pos rfl, litLt4]
      simp only [cons_append, nil_append]
      rw [textLine_amp, litAmp, litLt]
      have hp1 : hasPrefix ['a', 'm', 'p', ';'] ('l' :: 't' :: ';' :: rest) = false :=
        Go.hasPrefix_cons_ne (by decide) _ _
      have hp2 : hasPrefix ['l', 't', ';'] ('l' :: 't' :: ';' :: rest) = true :=
        hasPrefix_append ['l', 't', ';'] rest
      rw [if_neg (by rw [hp1]; decide), if_pos hp2]
      rfl
    · rw [if_neg h2]
      by_cases h3 : c = C01.nbsp
      · subst h3
        rw [if_pos rfl, litNbsp6]
        simp only [cons_append, nil_append]
        rw [textLine_amp, litAmp, litLt, litNbsp]
        have hp1 : hasPrefix ['a', 'm', 'p', ';'] ('n' :: 'b' :: 's' :: 'p' :: ';' :: rest) = false :=
          Go.hasPrefix_cons_ne (by decide) _ _
        have hp2 : hasPrefix ['l', 't', ';'] ('n' :: 'b' :: 's' :: 'p' :: ';' :: rest) = false :=
          Go.hasPrefix_cons_ne (by decide) _ _
        have hp3 : hasPrefix ['n', 'b', 's', 'p', ';'] ('n' :: 'b' :: 's' :: 'p' :: ';' :: rest) = true :=
          hasPrefix_append ['n', 'b', 's', 'p', ';'] rest
        rw [if_neg (by rw [hp1]; decide), if_neg (by rw [hp2]; decide), if_pos hp3]
        rfl
      · rw [if_neg h3]
        simp only [cons_append, nil_append]
        exact textLine_char f c rest st h2 h1

theorem textLine_tag (f : Nat) (body after : Str) (st : TextSt)
    (hb : ∀ c ∈ body, c ≠ '>' ∧ c ≠ '<' ∧ c ≠ '&') :
    textLine (f + 1) ('<' :: (body ++ '>' :: after)) st =
      match tagStep body (flushText st) with
      | some st3 => textLine f after st3
      | none => none := by
  rw [textLine_lt, takeWhile_append_stop after (fun c hc => by simpa using (hb c hc).1) (by rfl)]
  have hd : (body ++ '>' :: after).drop body.length = '>' :: after := by simp
  rw [hd]
  have hany : (body.any fun c => decide (c = '<') || decide (c = '&')) = false := by
    rw [any_eq_false]
    intro c hc
    simp [(hb c hc).2.1, (hb c hc).2.2]
  simp only [hany, Bool.false_eq_true, if_false]
  cases tagStep body (Spec.VTT.flushText st) <;> rfl

theorem tagStep_push (c : Char) (tl : Str) (st : TextSt) (name : Str) (classes : List Str)
    (hc : c ≠ '/') (hd : isDigit c = false) (ha : isAlpha c = true) (hs : (c :: tl).contains '/' = false)
    (hsp : splitC '.' (headOf (c :: tl)) = name :: classes) (hcl : classes.any (·.isEmpty) = false)
    (hv : name ≠ "v".toList) :
    tagStep (c :: tl) st =
      some { st with stack := st.stack ++ [{ name := name, classes := classes, annotation := annOf (c :: tl) }] } := by
  rw [tagStep]
  · unfold headOf at hsp
    simp only [hd, ha, hs, hsp, hcl, hv, Bool.false_eq_true, if_false, if_true, annOf, headOf]
  · intro h; exact hc h

theorem tagStep_voice (c : Char) (tl : Str) (st : TextSt) (classes : List Str)
    (hc : c ≠ '/') (hd : isDigit c = false) (ha : isAlpha c = true) (hs : (c :: tl).contains '/' = false)
    (hsp : splitC '.' (headOf (c :: tl)) = "v".toList :: classes) (hcl : classes.any (·.isEmpty) = false)
    (hvo : st.voice = none) (hann : annOf (c :: tl) ≠ []) :
    tagStep (c :: tl) st = some { st with voice := some (annOf (c :: tl)) } := by
  rw [tagStep]
  · unfold headOf at hsp
    unfold annOf headOf at hann
    simp only [hd, ha, hs, hsp, hcl, hvo, hann, Bool.false_eq_true, if_false, if_true, annOf, headOf,
      Option.isSome_none, Bool.or_self, decide_false]
  · intro h; exact hc h

theorem tagStep_pop (name : Str) (st : TextSt) (g : GTag) (hv : name ≠ "v".toList)
    (hl : st.stack.getLast? = some g) (hn : g.name = name) :
    tagStep ('/' :: name) st = some { st with stack := st.stack.dropLast } := by
  simp only [tagStep, hv, if_false, hl, hn, if_true]

theorem tagStep_ts (c : Char) (tl : Str) (st : TextSt) (n : Nat) (hd : isDigit c = true)
    (hts : inlineTs (c :: tl) = some n) :
    tagStep (c :: tl) st = some { st with pending := some n } := by
  have hc : c ≠ '/' := by intro e; subst e; revert hd; decide
  rw [tagStep]
  · simp only [hd, hts, if_true]
  · intro h; exact hc h

/-- the decoder's tag for a tag of the library -/
def gOf (t : VTT.Tag) : GTag := { name := t.name, classes := t.classes, annotation := t.annotation }

/-- a character that may stand inside `<…>` for the decoder -/
structure TagSafe (c : Char) : Prop where
  lt : c ≠ '<'
  gt : c ≠ '>'
  amp : c ≠ '&'
  slash : c ≠ '/'

theorem markup_safe {c : Char} (h : VTT.markup c = false) : TagSafe c ∧ c ≠ '=' := by
  simp [VTT.markup] at h
  exact ⟨⟨h.1.1.1.1, h.1.1.1.2, h.1.1.2, h.1.2⟩, h.2⟩

theorem alnum_safe {c : Char} (h : Char.isAlphanum c = true) : TagSafe c ∧ c ≠ '.' ∧ isBlank c = false := by
  refine ⟨⟨?_, ?_, ?_, ?_⟩, ?_, ?_⟩
  · intro e; subst e; revert h; decide
  · intro e; subst e; revert h; decide
  · intro e; subst e; revert h; decide
  · intro e; subst e; revert h; decide
  · intro e; subst e; revert h; decide
  · cases hb : isBlank c with
    | false => rfl
    | true =>
      simp [isBlank] at hb
      rcases hb with e | e <;> (subst e; revert h; decide)

theorem classChar_safe {c : Char} (h : VTT.classChar c = true) : TagSafe c ∧ c ≠ '.' ∧ isBlank c = false := by
  simp only [VTT.classChar, Bool.not_eq_true', Bool.or_eq_false_iff] at h
  obtain ⟨⟨h1, h2⟩, h3⟩ := h
  refine ⟨(markup_safe h1).1, by simpa using h2, ?_⟩
  cases hb : isBlank c with
  | false => rfl
  | true =>
    simp [isBlank] at hb
    rcases hb with e | e <;> (subst e; revert h3; decide)

theorem clsPart_chars {cs : List Str} (h : ∀ c ∈ cs, c ≠ [] ∧ ∀ x ∈ c, VTT.classChar x = true) :
    ∀ x ∈ VTT.clsPart cs, TagSafe x ∧ isBlank x = false := by
  intro x hx
  unfold VTT.clsPart at hx
  split at hx
  · simp at hx
  · rcases mem_cons.mp hx with e | hx
    · subst e; exact ⟨⟨by decide, by decide, by decide, by decide⟩, by decide⟩
    · rcases VTT.join_mem cs x hx with e | ⟨c, hc, hxc⟩
      · subst e; exact ⟨⟨by decide, by decide, by decide, by decide⟩, by decide⟩
      · have := classChar_safe ((h c hc).2 x hxc)
        exact ⟨this.1, this.2.2⟩

theorem annPart_chars {a : Str} (h : VTT.annOk a = true) : ∀ x ∈ VTT.annPart a, TagSafe x := by
  intro x hx
  unfold VTT.annPart at hx
  split at hx
  · simp at hx
  · rcases mem_cons.mp hx with e | hx
    · subst e; exact ⟨by decide, by decide, by decide, by decide⟩
    · exact (markup_safe ((VTT.annOk_facts h).2 x hx)).1

theorem isLetter_alpha {c : Char} (h : isLetter c = true) : isAlpha c = true ∧ isDigit c = false ∧ c ≠ '/' := by
  refine ⟨?_, ?_, ?_⟩
  · simpa [isLetter, isAlpha] using h
  · cases hd : isDigit c with
    | false => rfl
    | true =>
      obtain ⟨k, hk, rfl⟩ := Go.isDigC_iff_digitChar.mp hd
      rw [(VTT.digitChar_not_markup_open hk).1] at h; cases h
  · intro e; subst e; revert h; decide

/-- the body of a written opening tag -/
def startBody (t : VTT.Tag) : Str := t.name ++ VTT.clsPart t.classes ++ VTT.annPart t.annotation

theorem startBody_chars (t : VTT.Tag) (w : VTT.WF t) : ∀ c ∈ startBody t, TagSafe c := by
  intro c hc
  unfold startBody at hc
  rcases mem_append.mp hc with hc | hc
  · rcases mem_append.mp hc with hc | hc
    · exact (alnum_safe (w.alnum c hc)).1
    · exact (clsPart_chars w.cls c hc).1
  · exact annPart_chars w.ann c hc

theorem headOf_startBody (t : VTT.Tag) (w : VTT.WF t) : headOf (startBody t) = t.name ++ VTT.clsPart t.classes := by
  unfold headOf startBody
  rw [List.takeWhile_append_of_pos]
  · have : (VTT.annPart t.annotation).takeWhile (fun ch => !isBlank ch) = [] := by
      unfold VTT.annPart
      split
      · rfl
      · rfl
    rw [this, append_nil]
  · intro c hc
    rcases mem_append.mp hc with hc | hc
    · simp [(alnum_safe (w.alnum c hc)).2.2]
    · simp [(clsPart_chars w.cls c hc).2]

theorem annOf_startBody (t : VTT.Tag) (w : VTT.WF t) : annOf (startBody t) = t.annotation := by
  unfold annOf
  rw [headOf_startBody t w]
  unfold startBody
  rw [List.drop_left]
  unfold VTT.annPart
  split
  · rename_i h; rw [h]; rfl
  · have : ' ' :: t.annotation = [' '] ++ t.annotation := rfl
    rw [this, Go.trimSpace_append_left (w := [' ']) (by intro d hd; simp at hd; subst hd; decide) _]
    exact (VTT.annOk_facts w.ann).1

theorem split_head (t : VTT.Tag) (w : VTT.WF t) :
    splitC '.' (t.name ++ VTT.clsPart t.classes) = t.name :: t.classes := by
  have hn : '.' ∉ t.name := fun hm => (alnum_safe (w.alnum _ hm)).2.1 rfl
  unfold VTT.clsPart
  cases hcs : t.classes with
  | nil => simpa using splitC_not_mem hn
  | cons a rest =>
    have hdot : ∀ c ∈ a :: rest, '.' ∉ c := by
      intro c hc hm
      rw [← hcs] at hc
      exact (classChar_safe ((w.cls c hc).2 _ hm)).2.1 rfl
    simp only [isEmpty_cons, Bool.false_eq_true, if_false]
    rw [splitC_append _ hn, Go.splitC_join (by simp) hdot]

theorem classes_nonempty (t : VTT.Tag) (w : VTT.WF t) : t.classes.any (·.isEmpty) = false := by
  rw [any_eq_false]
  intro c hc
  have := (w.cls c hc).1
  cases c with
  | nil => exact absurd rfl this
  | cons => simp

theorem tagStep_startBody (t : VTT.Tag) (h : t.wf = true) (st : TextSt) :
    tagStep (startBody t) st = some { st with stack := st.stack ++ [gOf t] } := by
  have w := VTT.wf_facts h
  obtain ⟨x, xs, e, hx⟩ := w.head
  have hb : startBody t = x :: (xs ++ VTT.clsPart t.classes ++ VTT.annPart t.annotation) := by
    simp [startBody, e]
  have hl := isLetter_alpha hx
  have hsl : (startBody t).contains '/' = false := by
    cases hc : (startBody t).contains '/' with
    | false => rfl
    | true =>
      have hm : '/' ∈ startBody t := by simpa using hc
      exact absurd rfl (startBody_chars t w _ hm).slash
  have h1 := headOf_startBody t w
  have h2 := annOf_startBody t w
  rw [hb] at hsl h1 h2 ⊢
  rw [tagStep_push x _ st t.name t.classes hl.2.2 hl.2.1 hl.1 hsl (by rw [h1]; exact split_head t w)
    (classes_nonempty t w) (by rw [litV]; exact w.name_v), h2]
  rfl

/-- a state of the decoder between two pieces: stack `o ++ tags`, no zero timestamp -/
def Ready (o : List GTag) (tags : List VTT.Tag) (st : TextSt) : Prop :=
  st.stack = o ++ tags.map gOf ∧ Inv st

/-- the end of the line: the stack is `o` again, no run with timestamp 0 -/
def Post (o : List GTag) (f : TextSt) : Prop := f.stack = o ∧ ∀ r ∈ f.runs, r.ts ≠ some 0

def Acc (o : List GTag) (s : Str) (tags : List VTT.Tag) : Prop :=
  ∀ st, Ready o tags st → ∀ fuel, s.length + 1 ≤ fuel → ∃ f, textLine fuel s st = some f ∧ Post o f

theorem Acc_nil (o : List GTag) : Acc o [] [] := by
  intro st hr fuel hf
  obtain ⟨k, rfl⟩ : ∃ k, fuel = k + 1 := ⟨fuel - 1, by simp at hf; omega⟩
  obtain ⟨h1, _, h3⟩ := flushText_keeps st hr.2
  refine ⟨_, textLine_nil k st, ?_, h3.runs⟩
  rw [h1, hr.1]; simp

theorem ready_acc {o : List GTag} {tags : List VTT.Tag} {st : TextSt} (h : Ready o tags st) (a : Str) :
    Ready o tags { st with acc := a } := ⟨h.1, h.2.pend, h.2.runs⟩

theorem Acc_char {o : List GTag} {c : Char} {s : Str} {tags : List VTT.Tag} (h1 : c ≠ '<') (h2 : c ≠ '&')
    (h : Acc o s tags) : Acc o (c :: s) tags := by
  intro st hr fuel hf
  obtain ⟨k, rfl⟩ : ∃ k, fuel = k + 1 := ⟨fuel - 1, by simp at hf; omega⟩
  rw [textLine_char k c s st h1 h2]
  exact h _ (ready_acc hr _) k (by simp at hf; omega)

theorem esc1_length_pos (c : Char) : 1 ≤ (C01.esc1 c).length := by
  unfold C01.esc1
  split
  · rw [litAmp5]; simp
  · split
    · rw [litLt4]; simp
    · split
      · rw [litNbsp6]; simp
      · simp

theorem Acc_esc1 {o : List GTag} (c : Char) {s : Str} {tags : List VTT.Tag} (h : Acc o s tags) :
    Acc o (C01.esc1 c ++ s) tags := by
  intro st hr fuel hf
  have := esc1_length_pos c
  obtain ⟨k, rfl⟩ : ∃ k, fuel = k + 1 := ⟨fuel - 1, by omega⟩
  rw [textLine_esc1]
  exact h _ (ready_acc hr _) k (by simp at hf; omega)

theorem Acc_esc {o : List GTag} (t : Str) {s : Str} {tags : List VTT.Tag} (h : Acc o s tags) :
    Acc o (escapeHTML t ++ s) tags := by
  rw [C01.escape_eq_flatMap]
  induction t with
  | nil => simpa using h
  | cons c t ih =>
    rw [flatMap_cons, append_assoc]
    exact Acc_esc1 c ih

theorem Acc_tag {o : List GTag} (body after : Str) (tags tags' : List VTT.Tag)
    (hb : ∀ c ∈ body, c ≠ '>' ∧ c ≠ '<' ∧ c ≠ '&')
    (hstep : ∀ st, Ready o tags st → ∃ st3, tagStep body st = some st3 ∧ Ready o tags' st3)
    (h : Acc o after tags') : Acc o ('<' :: (body ++ '>' :: after)) tags := by
  intro st hr fuel hf
  obtain ⟨k, rfl⟩ : ∃ k, fuel = k + 1 := ⟨fuel - 1, by simp at hf; omega⟩
  rw [textLine_tag k body after st hb]
  obtain ⟨h1, _, h3⟩ := flushText_keeps st hr.2
  obtain ⟨st3, e3, hr3⟩ := hstep (Spec.VTT.flushText st) ⟨by rw [h1, hr.1], h3⟩
  rw [e3]
  exact h st3 hr3 k (by simp at hf; omega)

theorem safe3 {c : Char} (h : TagSafe c) : c ≠ '>' ∧ c ≠ '<' ∧ c ≠ '&' := ⟨h.gt, h.lt, h.amp⟩

theorem startTag_append (t : VTT.Tag) (h : t.name ≠ []) (r : Str) :
    VTT.Tag.startTag t ++ r = '<' :: (startBody t ++ '>' :: r) := by
  rw [show VTT.Tag.startTag t = '<' :: (startBody t ++ ['>']) from VTT.startTag_eq t h]; simp

theorem endTag_append (t : VTT.Tag) (h : t.name ≠ []) (r : Str) :
    VTT.Tag.endTag t ++ r = '<' :: (('/' :: t.name) ++ '>' :: r) := by
  simp [VTT.Tag.endTag, h, litClose]

theorem tsText_append (t : Int) (r : Str) : VTT.tsText t ++ r = '<' :: (Duration.formatVTT t ++ '>' :: r) := by
  simp [VTT.tsText]

theorem endBody_chars (t : VTT.Tag) (w : VTT.WF t) : ∀ c ∈ '/' :: t.name, c ≠ '>' ∧ c ≠ '<' ∧ c ≠ '&' := by
  intro c hc
  rcases mem_cons.mp hc with e | hc
  · subst e; exact ⟨by decide, by decide, by decide⟩
  · exact safe3 (alnum_safe (w.alnum c hc)).1

theorem tsBody_chars (t : Int) (h0 : 0 ≤ t) (h1 : t < 360000000000000) :
    ∀ c ∈ Duration.formatVTT t, c ≠ '>' ∧ c ≠ '<' ∧ c ≠ '&' := fun c hc =>
  have h := (VTT.format_facts t h0 h1).1 c hc
  ⟨timeChar_ne h '>' (by decide), timeChar_ne h '<' (by decide), timeChar_ne h '&' (by decide)⟩

theorem Acc_open {o : List GTag} (t : VTT.Tag) (ht : t.wf = true) {s : Str} {tags : List VTT.Tag}
    (h : Acc o s (tags ++ [t])) : Acc o (VTT.Tag.startTag t ++ s) tags := by
  have w := VTT.wf_facts ht
  rw [startTag_append t w.name_ne]
  refine Acc_tag (startBody t) s tags (tags ++ [t]) (fun c hc => safe3 (startBody_chars t w c hc)) ?_ h
  intro st hr
  refine ⟨_, tagStep_startBody t ht st, ?_, hr.2.pend, hr.2.runs⟩
  simp [hr.1]

theorem Acc_close {o : List GTag} (t : VTT.Tag) (ht : t.wf = true) {s : Str} {tags : List VTT.Tag}
    (h : Acc o s tags) : Acc o (VTT.Tag.endTag t ++ s) (tags ++ [t]) := by
  have w := VTT.wf_facts ht
  rw [endTag_append t w.name_ne]
  refine Acc_tag ('/' :: t.name) s (tags ++ [t]) tags (endBody_chars t w) ?_ h
  intro st hr
  have es : st.stack = (o ++ tags.map gOf) ++ [gOf t] := by simp [hr.1]
  refine ⟨_, tagStep_pop t.name st (gOf t) (by rw [litV]; exact w.name_v) (by rw [es]; simp) rfl,
    ?_, hr.2.pend, hr.2.runs⟩
  simp [es]

theorem Acc_ts {o : List GTag} (t : Int) (h0 : 1000000 ≤ t) (h1 : t < 360000000000000) {s : Str}
    {tags : List VTT.Tag} (h : Acc o s tags) : Acc o (VTT.tsText t ++ s) tags := by
  rw [tsText_append]
  refine Acc_tag (Duration.formatVTT t) s tags tags (tsBody_chars t (by omega) h1) ?_ h
  intro st hr
  obtain ⟨k, r, hk, hfmt⟩ := VTT.format_head t (by omega) h1
  have hts := inlineTs_format t (by omega) h1
  rw [hfmt] at hts ⊢
  refine ⟨_, tagStep_ts (digitChar k) r st _ (isDigC_digitChar hk) hts, hr.1, ?_, hr.2.runs⟩
  intro e
  have e2 := Option.some.inj e
  omega

/-- a character of a voice that `lineOK2` accepts inside `<…>` (beyond what `lineOk` guarantees
    already: no `=`; line breaks are excluded by `lineFit`) -/
def okc (c : Char) : Bool := !(c == '|' || c == '\x0c')

/-- no form feed in the annotation of a tag (a `|` cannot occur in a tag of a run: the library splits the
    tag list at `|`, see `tags_noBar`; a form feed cannot occur in a class of a well-formed tag) -/
def tagW2 (t : VTT.Tag) : Bool := t.annotation.all (fun c => c != '\x0c')

/-- the inline instant is 0 (not written) or at least one millisecond (an instant in (0, 1 ms) is written
    `<00:00:00.000>`, which the decoder reads as the timestamp 0) -/
def tsW2 (li : LItem) : Bool := li.startAt == 0 || decide (1000000 ≤ li.startAt)

def runW2 (li : LItem) : Bool := tsW2 li && (runTags li).all tagW2

/-- no text of the line holds a no-break space U+00A0 (which the writer escapes as `&nbsp;`) -/
def nbspFree (l : Line) : Bool := l.items.all (fun li => !li.text.contains C01.nbsp)

/-- no inline timestamp is written on the line -/
def tsFree (l : Line) : Bool := l.items.all (fun li => li.startAt == 0)

example : nbspFree VTT.exLine = true := by decide_vector
example : tsFree { items := [VTT.exRun1, VTT.exRun3] } = true := by decide_vector

/-- the proviso of the write → decode theorems for one line:
    * every inline instant is 0 or ≥ 1 ms;
    * no `|`, no form feed in the voice, no form feed in the annotations (the class `lineOK2`) -/
def lineW2 (l : Line) : Bool := l.voice.all okc && l.items.all runW2

example : lineW2 VTT.exLine = true := by decide_vector

theorem Acc_tsPart {o : List GTag} (li : LItem) (h1 : li.startAt < 360000000000000) (hts : tsW2 li = true)
    {s : Str} {tags : List VTT.Tag} (h : Acc o s tags) : Acc o (tsPart li ++ s) tags := by
  unfold tsPart
  split
  · rename_i hpos
    simp only [tsW2, Bool.or_eq_true, beq_iff_eq, decide_eq_true_eq] at hts
    exact Acc_ts li.startAt (by omega) h1 h
  · simpa using h

/-! ### the runs of a line, piece by piece

`Q tags r`: a property of "the rest `r` of the line, read with the tags `tags` open".  If every piece the writer
emits carries it backwards, it holds of the runs of a line: the tags open between two runs are the tags they share. -/

section walk
variable (Q : List VTT.Tag → Str → Prop) (TagP : VTT.Tag → Prop) (RunP : LItem → Prop)
  (hopen : ∀ t tags r, TagP t → Q (tags ++ [t]) r → Q tags (VTT.Tag.startTag t ++ r))
  (hclose : ∀ t tags r, TagP t → Q tags r → Q (tags ++ [t]) (VTT.Tag.endTag t ++ r))
  (hts : ∀ li tags r, RunP li → Q tags r → Q tags (tsPart li ++ r))
  (htext : ∀ li tags r, RunP li → Q tags r → Q tags (escapeHTML li.text ++ r))

include hopen in
theorem opens_walk (l : List VTT.Tag) (hl : ∀ t ∈ l, TagP t) :
    ∀ (tags : List VTT.Tag) (r : Str), Q (tags ++ l) r → Q tags (opensBytes l ++ r) := by
  induction l with
  | nil => intro tags r h; simpa [opensBytes] using h
  | cons t l ih =>
    intro tags r h
    simp only [opensBytes, map_cons, flatten_cons, append_assoc]
    apply hopen t _ _ (hl t (by simp))
    apply ih (fun u hu => hl u (by simp [hu]))
    simpa using h

include hclose in
theorem closes_walk (l : List VTT.Tag) (hl : ∀ t ∈ l, TagP t) :
    ∀ (base : List VTT.Tag) (r : Str), Q base r → Q (base ++ l.reverse) (closesBytes l ++ r) := by
  induction l with
  | nil => intro base r h; simpa [closesBytes] using h
  | cons t l ih =>
    intro base r h
    have e : base ++ (l.reverse ++ [t]) = (base ++ l.reverse) ++ [t] := by simp
    simp only [closesBytes, map_cons, flatten_cons, append_assoc, reverse_cons]
    rw [e]
    apply hclose t _ _ (hl t (by simp))
    exact ih (fun u hu => hl u (by simp [hu])) base r h

include hopen hclose hts htext in
/-- one run: from the `p` tags shared with the previous run to the `n` tags shared with the next -/
theorem run_walk (li : LItem) (hi : RunP li) (ht : ∀ t ∈ runTags li, TagP t) (p n : Nat) (r : Str)
    (h : Q ((runTags li).take n) r) : Q ((runTags li).take p) (runBytesPN p n li ++ r) := by
  unfold runBytesPN
  simp only [append_assoc]
  apply hts li _ _ hi
  apply opens_walk Q TagP hopen _ (fun t hm => ht t (mem_of_mem_drop hm))
  rw [take_append_drop]
  apply htext li _ _ hi
  have hc := closes_walk Q TagP hclose ((runTags li).drop n).reverse
    (fun t hm => ht t (mem_of_mem_drop (mem_reverse.mp hm))) _ _ h
  rw [reverse_reverse, take_append_drop] at hc
  exact hc

include hopen hclose hts htext in
theorem items_walk (r : Str) (hr : Q [] r) (rest : List LItem) :
    ∀ (li : LItem) (prev : Option LItem), (∀ x ∈ li :: rest, VTT.runColor x = [] ∧ RunP x ∧ ∀ t ∈ runTags x, TagP t) →
      Q ((runTags li).take (sharedWith prev li)) (itemsBytes prev (li :: rest) ++ r) := by
  induction rest with
  | nil =>
    intro li prev h
    obtain ⟨hc, hi, ht⟩ := h li (by simp)
    have := run_walk Q TagP RunP hopen hclose hts htext li hi ht (sharedWith prev li) 0 r (by simpa using hr)
    simpa [itemsBytes, VTT.runBytes_eq prev none li hc, sharedWith] using this
  | cons b rest ih =>
    intro li prev h
    obtain ⟨hc, hi, ht⟩ := h li (by simp)
    have hn : sharedWith (some li) b = sharedWith (some b) li := by
      simp [sharedWith, C02.commonTags_comm]
    have htk : (runTags li).take (sharedWith (some b) li) = (runTags b).take (sharedWith (some li) b) := by
      rw [hn]; exact C02.take_commonTags _ _
    have hb := ih b (some li) (fun x hx => h x (mem_cons_of_mem _ hx))
    rw [← htk] at hb
    have := run_walk Q TagP RunP hopen hclose hts htext li hi ht (sharedWith prev li) (sharedWith (some b) li) _ hb
    simpa [itemsBytes, VTT.runBytes_eq prev (some b) li hc] using this

end walk

theorem Acc_itemsBytes {o : List GTag} (items : List LItem) (hok : ∀ x ∈ items, runOk x = true ∧ tsW2 x = true) :
    Acc o (itemsBytes none items) [] := by
  cases items with
  | nil => simpa [itemsBytes] using Acc_nil o
  | cons li rest =>
    have := items_walk (fun tags r => Acc o r tags) (fun t => t.wf = true)
      (fun li => li.startAt < 360000000000000 ∧ tsW2 li = true)
      (fun t _ _ ht h => Acc_open t ht h) (fun t _ _ ht h => Acc_close t ht h)
      (fun li _ _ hi h => Acc_tsPart li hi.1 hi.2 h) (fun li _ _ _ h => Acc_esc li.text h) [] (Acc_nil o) rest li none
      (fun x hx => ⟨(VTT.runOk_facts (hok x hx).1).col, ⟨(VTT.runOk_facts (hok x hx).1).t1, (hok x hx).2⟩,
        (VTT.runOk_facts (hok x hx).1).wf⟩)
    simpa [sharedWith] using this

theorem line_items_ok {l : Line} (hfit : VTT.lineFit l = true) (hx : lineW2 l = true) :
    ∀ x ∈ l.items, runOk x = true ∧ tsW2 x = true := by
  have hok := (VTT.lineFit_facts hfit).ok
  simp only [VTT.lineOk, Bool.and_eq_true, all_eq_true] at hok
  simp only [lineW2, Bool.and_eq_true, all_eq_true, runW2] at hx
  intro x hm
  exact ⟨hok.1.2 x hm, (hx.2 x hm).1⟩

theorem ready_init (o : List GTag) (v : Option Str) : Ready o [] { stack := o, voice := v } :=
  ⟨by simp, ⟨by simp, by intro r hr; simp at hr⟩⟩

theorem voice_tag_eq (v rest : Str) :
    ("<v ".toList ++ v ++ ['>']) ++ rest = '<' :: (('v' :: ' ' :: v) ++ '>' :: rest) := by
  rw [litVsp]; simp

theorem tagStep_voiceBody (v : Str) (hv : VTT.voiceOk v = true) (st : TextSt) (hvo : st.voice = none) :
    VTTRead.tagStep ('v' :: ' ' :: v) st = some { st with voice := some v } := by
  simp only [VTT.voiceOk, Bool.and_eq_true, bne_iff_ne, ne_eq] at hv
  obtain ⟨hne, hok⟩ := hv
  have hf := VTT.annOk_facts hok
  have hh : VTTRead.headOf ('v' :: ' ' :: v) = ['v'] := by
    simp [VTTRead.headOf, takeWhile, isBlank]
  have ha : VTTRead.annOf ('v' :: ' ' :: v) = v := by
    unfold VTTRead.annOf
    rw [hh]
    have : drop (['v'] : Str).length ('v' :: ' ' :: v) = [' '] ++ v := rfl
    rw [this, Go.trimSpace_append_left (w := [' ']) (by intro d hd; simp at hd; subst hd; decide) _]
    exact hf.1
  have hs : ('v' :: ' ' :: v).contains '/' = false := by
    cases hc : ('v' :: ' ' :: v).contains '/' with
    | false => rfl
    | true =>
      have hm : '/' ∈ 'v' :: ' ' :: v := by simpa using hc
      rcases mem_cons.mp hm with e | hm
      · exact absurd e (by decide)
      · rcases mem_cons.mp hm with e | hm
        · exact absurd e (by decide)
        · exact absurd rfl (markup_safe (hf.2 _ hm)).1.slash
  have := tagStep_voice 'v' (' ' :: v) st [] (by decide) (by decide) (by decide) hs
    (by rw [hh]; decide) rfl hvo (by rw [ha]; exact hne)
  rw [this, ha]

theorem voice_chars (v : Str) (hv : VTT.voiceOk v = true) :
    ∀ c ∈ 'v' :: ' ' :: v, c ≠ '>' ∧ c ≠ '<' ∧ c ≠ '&' := by
  simp only [VTT.voiceOk, Bool.and_eq_true, bne_iff_ne, ne_eq] at hv
  have hf := VTT.annOk_facts hv.2
  intro c hc
  rcases mem_cons.mp hc with e | hc
  · subst e; exact ⟨by decide, by decide, by decide⟩
  · rcases mem_cons.mp hc with e | hc
    · subst e; exact ⟨by decide, by decide, by decide⟩
    · exact safe3 (markup_safe (hf.2 _ hc)).1

theorem textLine_lineBody_from (o : List GTag) (l : Line) (hfit : VTT.lineFit l = true) (hx : lineW2 l = true) :
    ∃ st, textLine ((lineBody l).length + 2) (lineBody l) { stack := o } = some st ∧
      st.stack = o ∧ (∀ r ∈ st.runs, r.ts ≠ some 0) := by
  have hitems := line_items_ok hfit hx
  have hacc := Acc_itemsBytes (o := o) l.items hitems
  have hok := (VTT.lineFit_facts hfit).ok
  simp only [VTT.lineOk, Bool.and_eq_true, Bool.or_eq_true, beq_iff_eq] at hok
  obtain ⟨⟨hv, _⟩, _⟩ := hok
  unfold lineBody
  by_cases hvn : l.voice = []
  · rw [if_neg (by simpa using hvn), nil_append]
    exact hacc _ (ready_init o none) _ (by omega)
  · have hvo : VTT.voiceOk l.voice = true := by
      rcases hv with h | h
      · exact absurd h hvn
      · exact h
    rw [if_pos hvn, voice_tag_eq]
    rw [textLine_tag _ _ _ _ (voice_chars l.voice hvo), VTTRead.flushText_of_acc_nil _ rfl,
      tagStep_voiceBody l.voice hvo _ rfl]
    exact hacc _ (ready_init o (some l.voice)) _ (by simp; omega)

theorem textLine_lineBody (l : Line) (hfit : VTT.lineFit l = true) (hx : lineW2 l = true) :
    ∃ st, Spec.VTT.textLine ((VTT.lineBody l).length + 2) (VTT.lineBody l) { stack := [] } = some st ∧
      st.stack = [] ∧ (∀ r ∈ st.runs, r.ts ≠ some 0) :=
  textLine_lineBody_from [] l hfit hx

theorem cueText_lineBodies (ls : List Line) (h : ∀ l ∈ ls, VTT.lineFit l = true ∧ lineW2 l = true) :
    ∃ gl, Spec.VTT.cueText (ls.map VTT.lineBody) [] = some gl ∧ ∀ g ∈ gl, ∀ r ∈ g.runs, r.ts ≠ some 0 := by
  induction ls with
  | nil => exact ⟨[], rfl, by intro g hg; simp at hg⟩
  | cons l ls ih =>
    obtain ⟨hfit, hx⟩ := h l (by simp)
    obtain ⟨st, h1, h2, h3⟩ := textLine_lineBody l hfit hx
    obtain ⟨gl, h4, h5⟩ := ih (fun x hm => h x (by simp [hm]))
    refine ⟨{ voice := st.voice.getD [], runs := st.runs } :: gl, ?_, ?_⟩
    · simp only [map_cons, cueText, h1, h2, h4]
    · intro g hg
      rcases mem_cons.mp hg with e | hg
      · subst e; exact h3
      · exact h5 g hg

end VTT3W
end Astisub
