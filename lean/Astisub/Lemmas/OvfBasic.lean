/-!
# Lemmas/OvfBasic — `int64` wrap-around arithmetic

The transformation and timestamp models compute in unbounded `Int`; Go computes in
`time.Duration` = `int64` (and `int`, 64 bits on every supported target), where `+`, `-`, `*` and
unary minus wrap around silently. This file defines the wrap-around operations; the files
`Lemmas/Ovf*.lean` re-evaluate every modelled operation with them, step by step, and prove that
inside explicit ranges no step wraps.
-/

namespace Astisub
namespace Ovf

/-- `x` is representable as an `int64` -/
def fits64 (x : Int) : Prop := -9223372036854775808 ≤ x ∧ x < 9223372036854775808

instance (x : Int) : Decidable (fits64 x) := by unfold fits64; infer_instance

theorem fits64_iff (x : Int) : fits64 x ↔ -2 ^ 63 ≤ x ∧ x < 2 ^ 63 := by
  unfold fits64; constructor <;> intro h <;> omega

/-- reduction into `[-2^63, 2^63)`: what an `int64` register holds after an operation whose
    mathematical result is `x` -/
def wrap (x : Int) : Int := (x + 9223372036854775808) % 18446744073709551616 - 9223372036854775808

theorem wrap_def (x : Int) : wrap x = (x + 2 ^ 63) % 2 ^ 64 - 2 ^ 63 := by
  unfold wrap; omega

theorem wrap_fits (x : Int) : fits64 (wrap x) := by
  unfold fits64 wrap; omega

theorem wrap_of_fits {x : Int} (h : fits64 x) : wrap x = x := by
  unfold fits64 at h; unfold wrap; omega

theorem wrap_eq_iff (x : Int) : wrap x = x ↔ fits64 x :=
  ⟨fun h => h ▸ wrap_fits x, wrap_of_fits⟩

theorem wrap_mod (x : Int) : (wrap x - x) % 18446744073709551616 = 0 := by
  unfold wrap; omega

/-- Go `a + b` on `int64` -/
def wadd (a b : Int) : Int := wrap (a + b)
/-- Go `a - b` on `int64` -/
def wsub (a b : Int) : Int := wrap (a - b)
/-- Go `a * b` on `int64` -/
def wmul (a b : Int) : Int := wrap (a * b)
/-- Go `-a` on `int64` -/
def wneg (a : Int) : Int := wrap (-a)
/-- Go `a / b` on `int64` (truncated; the only quotient that does not fit is `MinInt64 / -1`) -/
def wdiv (a b : Int) : Int := wrap (Int.tdiv a b)
/-- Go `a % b` on `int64` (sign of the dividend) -/
def wmod (a b : Int) : Int := Int.tmod a b

theorem wadd_eq {a b : Int} (h : fits64 (a + b)) : wadd a b = a + b := wrap_of_fits h
theorem wsub_eq {a b : Int} (h : fits64 (a - b)) : wsub a b = a - b := wrap_of_fits h
theorem wmul_eq {a b : Int} (h : fits64 (a * b)) : wmul a b = a * b := wrap_of_fits h
theorem wneg_eq {a : Int} (h : fits64 (-a)) : wneg a = -a := wrap_of_fits h

/-- multiplying a representable value by 1 (`… * time.Nanosecond`) changes nothing -/
theorem wmul_one {a : Int} (h : fits64 a) : wmul a 1 = a := by
  unfold wmul; rw [Int.mul_one]; exact wrap_of_fits h

example : wadd 9223372036854775807 1 = -9223372036854775808 := by decide
example : wsub (-9223372036854775808) 1 = 9223372036854775807 := by decide
example : wmul 4294967296 4294967296 = 0 := by decide
example : wneg (-9223372036854775808) = -9223372036854775808 := by decide
example : fits64 9223372036854775807 ∧ fits64 (-9223372036854775808) ∧ ¬ fits64 9223372036854775808 := by
  decide

theorem tdiv_bounds {a c : Int} (hc : 0 < c) : min 0 a ≤ Int.tdiv a c ∧ Int.tdiv a c ≤ max 0 a := by
  have h : (Int.tdiv a c).natAbs ≤ a.natAbs := by
    rw [Int.natAbs_tdiv]; exact Nat.div_le_self _ _
  rcases Int.le_total 0 a with ha | ha
  · have := Int.tdiv_nonneg ha (Int.le_of_lt hc)
    omega
  · have := Int.tdiv_nonneg (a := -a) (by omega) (Int.le_of_lt hc)
    rw [Int.neg_tdiv] at this
    omega

theorem fits64_tdiv {a c : Int} (ha : fits64 a) (hc : 0 < c) : fits64 (Int.tdiv a c) := by
  have h := tdiv_bounds (a := a) hc
  unfold fits64 at *
  omega

theorem wdiv_eq {a c : Int} (ha : fits64 a) (hc : 0 < c) : wdiv a c = Int.tdiv a c :=
  wrap_of_fits (fits64_tdiv ha hc)

theorem fits64_tmod {a c : Int} (hc : fits64 c) (hc0 : c ≠ 0) : fits64 (Int.tmod a c) := by
  have h := Nat.mod_lt a.natAbs (Int.natAbs_pos.mpr hc0)
  rw [← Int.natAbs_tmod] at h
  unfold fits64 at *
  omega

/-- the one quotient that does not fit -/
example : ¬ fits64 (Int.tdiv (-9223372036854775808) (-1)) := by decide

/-- for a non-negative dividend and positive divisor Go's `/`, `%` are the `/`, `%` on `Nat` that the
    timestamp models use -/
theorem tdiv_toNat {a c : Int} (ha : 0 ≤ a) (hc : 0 < c) : (Int.tdiv a c).toNat = a.toNat / c.toNat := by
  rw [Int.tdiv_eq_ediv_of_nonneg ha]
  have h1 : (a.toNat : Int) = a := Int.toNat_of_nonneg ha
  have h2 : (c.toNat : Int) = c := Int.toNat_of_nonneg (Int.le_of_lt hc)
  have : a / c = ((a.toNat / c.toNat : Nat) : Int) := by rw [Int.natCast_ediv, h1, h2]
  rw [this]; rfl

theorem tmod_toNat {a c : Int} (ha : 0 ≤ a) (hc : 0 < c) : (Int.tmod a c).toNat = a.toNat % c.toNat := by
  rw [Int.tmod_eq_emod_of_nonneg ha]
  have h1 : (a.toNat : Int) = a := Int.toNat_of_nonneg ha
  have h2 : (c.toNat : Int) = c := Int.toNat_of_nonneg (Int.le_of_lt hc)
  have : a % c = ((a.toNat % c.toNat : Nat) : Int) := by rw [Int.natCast_emod, h1, h2]
  rw [this]; rfl

end Ovf
end Astisub
