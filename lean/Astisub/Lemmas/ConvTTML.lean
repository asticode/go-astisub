import Astisub.Props.C03doc
import Astisub.Lemmas.ConvView

/-!
# Lemmas/ConvTTML — conversion to TTML (C07, destination `ttml`)

What the TTML reader returns for a written cue list (`TTMLDoc.norm s`, `Props/C03doc.lean`) shows the cues
of `s` at millisecond resolution when every cue has a line; a cue without lines comes back with one empty
line, about which the check's predicate says nothing (`convOk_norm` holds for every cue list).  Plain cue
lists (`PlainTTML`) satisfy the provisos `TTMLDoc.rep` and `TTMLDoc.xmlCarries` of `C03doc.write_read`.
-/

namespace Astisub
namespace Conv3TTML
open Go Spec.Conv ConvView List
open Driver (inRange convOk unitOfDst)

theorem truncMs_eq (t : Int) : TTMLDoc.truncMs t = truncTo 1000000 t := rfl

theorem lineTexts_normItem (it : CItem) (hne : it.lines ≠ []) : lineTexts (TTMLDoc.normItem it) = lineTexts it := by
  cases hl : it.lines with
  | nil => exact absurd hl hne
  | cons l ls =>
    simp [lineTexts, TTMLDoc.normItem, hl, TTMLDoc.normLines, TTMLDoc.normLine, TTMLDoc.normLItem, Function.comp_def]

theorem cueView_normItem (it : CItem) (hne : it.lines ≠ []) :
    cueView (TTMLDoc.normItem it) = truncCue 1000000 (cueView it) :=
  cueView_trunc 1000000 it _ rfl rfl (lineTexts_normItem it hne)

/-- a cue without lines is read back with one empty line: the view differs in the `blank` flag only -/
theorem cueView_normItem_nil (it : CItem) (hl : it.lines = []) :
    cueView (TTMLDoc.normItem it) = { truncCue 1000000 (cueView it) with blank := true } := by
  simp [cueView, TTMLDoc.normItem, hl, TTMLDoc.normLines, truncCue, truncMs_eq, squash]

theorem view_norm (s : Subs) (hl : ∀ it ∈ s.items, it.lines ≠ []) :
    viewOf (TTMLDoc.norm s) = truncView 1000000 (viewOf s) := by
  simp only [viewOf_eq, TTMLDoc.norm, truncView, map_map]
  apply map_congr_left
  intro it hit
  exact cueView_normItem it (hl it hit)

theorem cue_ok (it : CItem) :
    (cueView (TTMLDoc.normItem it)).startAt = truncTo 1000000 (cueView it).startAt ∧
    (cueView (TTMLDoc.normItem it)).endAt = truncTo 1000000 (cueView it).endAt ∧
    (cueView (TTMLDoc.normItem it)).lines = (cueView it).lines := by
  by_cases hl : it.lines = []
  · rw [cueView_normItem_nil it hl]; exact ⟨rfl, rfl, rfl⟩
  · rw [cueView_normItem it hl]; exact ⟨rfl, rfl, rfl⟩

theorem convOk_norm (strict : Bool) (s : Subs) : convOk strict "ttml" s (TTMLDoc.norm s) = true := by
  unfold convOk
  have hd : ("ttml" = "stl") = False := by decide
  have e : viewOf (TTMLDoc.norm s) = s.items.map (fun it => cueView (TTMLDoc.normItem it)) := by
    simp [viewOf_eq, TTMLDoc.norm]
  rw [e, viewOf_eq]
  simp only [hd, if_false, length_map, beq_self_eq_true, Bool.true_and, zip_map_map_all, show unitOfDst "ttml" = 1000000 by decide]
  rw [all_eq_true]
  intro it _
  obtain ⟨h1, h2, h3⟩ := cue_ok it
  simp [h1, h2, h3]

/-- character data `encoding/xml` carries unchanged (the domain of the contract, `TTMLDoc.xmlCarries`) -/
def legalStr (x : Str) : Bool := x.all TTMLDoc.xmlLegal
def legalRef (r : Option Str) : Bool := match r with | some x => legalStr x | none => true
/-- the values of the `TTML…` attributes (the ones the writer emits as `tts:*`) are XML-legal -/
def legalAttrs (a : Attrs) : Bool := (TTML.outAttrs a).all fun kv => legalStr kv.2

/-- the TTML-own parts of a run are representable: `TTMLZIndex`, if set, is an integer (`attrsOk`); the inline
    style reference is empty or the identifier of a defined style; reference and `TTML…` values are XML-legal.
    Every attribute of another format (`SRT…`, `WebVTT…`, `SSA…`, `STL…`, `Teletext…`) and the start offset are free. -/
def ownRun (styleIds : List Str) (li : LItem) : Bool :=
  TTMLDoc.attrsOk li.attrs && TTMLDoc.refOk styleIds li.style && legalRef li.style && legalAttrs li.attrs

/-- a plain run: simple text (letters, digits, blanks, `, . ! ?` — in particular no line feed, which the reader
    takes for a line break: known finding `ttml-newline-in-text-becomes-line-break`), own parts representable.
    The text may be empty and may begin or end with a blank (a `span` keeps its white space). -/
def plainRun (styleIds : List Str) (li : LItem) : Bool := simpleText li.text && ownRun styleIds li

/-- a style / region definition is representable: `zIndex` an integer, parent / style reference empty or
    defined, identifier, reference and `TTML…` values XML-legal -/
def ownDef (styleIds : List Str) (d : Def) : Bool :=
  TTMLDoc.defOk styleIds d && legalStr d.id && legalRef d.ref && legalAttrs d.attrs

/-- a plain cue: at least one line (a cue without lines is read back with one empty line); style and region
    references empty or defined; `zIndex` an integer; XML-legal own values; every run plain.  Free: every
    attribute of another format, index, comments, voices, how a line is cut into runs, empty lines. -/
def plainCue (styleIds regionIds : List Str) (it : CItem) : Bool :=
  !it.lines.isEmpty && TTMLDoc.attrsOk it.attrs && TTMLDoc.refOk styleIds it.style && TTMLDoc.refOk regionIds it.region &&
  legalRef it.style && legalRef it.region && legalAttrs it.attrs &&
  it.lines.all fun l => l.items.all (plainRun styleIds)

/-- **Plain cue lists for TTML.** at least one cue; style identifiers pairwise distinct, region identifiers
    pairwise distinct (they are map keys in Go); title and copyright XML-legal; every definition
    representable; every cue plain.  All other metadata is free. -/
def PlainTTML (s : Subs) : Bool :=
  !s.items.isEmpty && decide (s.styles.map Def.id).Nodup && decide (s.regions.map Def.id).Nodup &&
  legalStr (TTMLDoc.titleOf s) && legalStr (TTMLDoc.copyrightOf s) &&
  s.styles.all (ownDef (s.styles.map Def.id)) && s.regions.all (ownDef (s.styles.map Def.id)) &&
  s.items.all (plainCue (s.styles.map Def.id) (s.regions.map Def.id))

/-- non-vacuity: foreign attributes everywhere, several runs per line, an empty run, an empty line, blanks at
    the edges, a sub-millisecond instant, a voice, a comment, a region and two styles (one with a parent and a
    `zIndex`), references, TTML attributes, metadata -/
def exampleForeign : Subs :=
  { items := [
      { startAt := 1234567890, endAt := 3000000000, index := 7, region := some "r".toList, style := some "b".toList,
        attrs := some [("STLJustificationCode".toList, "2".toList), ("TTMLOrigin".toList, "10% 20%".toList),
                       ("WebVTTAlign".toList, "start".toList)],
        comments := ["seen".toList],
        lines := [ { voice := "Bob".toList,
                     items := [ { text := "Hello, ".toList, style := some "a".toList,
                                  attrs := some [("SRTBold".toList, "true".toList), ("TTMLColor".toList, "#ff0000".toList)] },
                                { text := "".toList, startAt := 5 },
                                { text := "world ".toList, attrs := some [("SSAEffect".toList, "{\\i1}".toList), ("WebVTTTags".toList, "b".toList)] } ] },
                   { items := [] },
                   { items := [ { text := " Is it?".toList, attrs := some [("TeletextSpacesBefore".toList, "1".toList)] } ] } ] },
      { startAt := 3000000000, endAt := 359999999999999, lines := [ { items := [ { text := "Yes.".toList } ] } ] } ],
    styles := [ { id := "b".toList, ref := some "a".toList, attrs := some [("SSAFontName".toList, "Arial".toList)] },
                { id := "a".toList, attrs := some [("TTMLColor".toList, "red".toList), ("TTMLZIndex".toList, " +7".toList)] } ],
    regions := [ { id := "r".toList, ref := some "a".toList, attrs := some [("WebVTTLines".toList, "3".toList)] } ],
    metadata := some [("Language".toList, "french".toList), ("SSAScriptType".toList, "v4.00+".toList), ("Title".toList, "T".toList)] }

theorem exampleForeign_plain : PlainTTML exampleForeign = true := by decide +kernel
theorem exampleForeign_range : inRange "ttml" exampleForeign = true := by decide +kernel
example : plainRun [] { text := "a\nb".toList } = false := by decide +kernel
example : plainRun [] { text := "a".toList, style := some "x".toList } = false := by decide +kernel
example : plainRun [] { text := "a".toList, attrs := some [("TTMLZIndex".toList, "auto".toList)] } = false := by decide +kernel
example : plainCue [] [] { startAt := 0, endAt := 1, lines := [] } = false := by decide +kernel
example : plainCue [] [] { startAt := 0, endAt := 1, region := some "r".toList, lines := [{ items := [] }] } = false := by decide +kernel

theorem simple_no_nl {t : Str} (h : simpleText t = true) : t.contains '\n' = false := by
  rw [simpleText_eq, all_eq_true] at h
  rw [contains_eq_mem, decide_eq_false_iff_not]
  exact simple_not_mem h _ (by decide)

theorem simpleChar_legal {c : Char} (h : simpleChar c = true) : TTMLDoc.xmlLegal c = true := by
  obtain ⟨h1, h2⟩ := simpleChar_le h
  simp only [TTMLDoc.xmlLegal, Bool.or_eq_true, Bool.and_eq_true, beq_iff_eq, decide_eq_true_eq]
  omega

theorem simple_legal {t : Str} (h : simpleText t = true) : legalStr t = true := by
  rw [simpleText_eq, all_eq_true] at h
  unfold legalStr
  rw [all_eq_true]
  exact fun c hc => simpleChar_legal (h c hc)

theorem plainRun_runOk {ids : List Str} {li : LItem} (h : plainRun ids li = true) : TTMLDoc.runOk ids li = true := by
  simp only [plainRun, ownRun, Bool.and_eq_true] at h
  obtain ⟨hs, ⟨⟨ha, hr⟩, _⟩, _⟩ := h
  simp only [TTMLDoc.runOk, ha, hr, simple_no_nl hs, Bool.not_false, Bool.and_self]

theorem xmlCarries_eq (s : Subs) : TTMLDoc.xmlCarries s =
    (legalStr (TTMLDoc.titleOf s) && legalStr (TTMLDoc.copyrightOf s) &&
     s.styles.all (fun d => legalStr d.id && legalRef d.ref && legalAttrs d.attrs) &&
     s.regions.all (fun d => legalStr d.id && legalRef d.ref && legalAttrs d.attrs) &&
     s.items.all fun it => legalRef it.style && legalRef it.region && legalAttrs it.attrs &&
       it.lines.all fun l => l.items.all fun li => legalStr li.text && legalRef li.style && legalAttrs li.attrs) := rfl

/-- **Plain cue lists in range satisfy the provisos of the TTML document round trip** (`C03doc.write_read`):
    `rep` (used by its proof) and `xmlCarries` (the domain on which the `encoding/xml` contract is claimed);
    and every cue has a line -/
theorem rep_of_plain (s : Subs) (hr : inRange "ttml" s = true) (hp : PlainTTML s = true) :
    TTMLDoc.rep s = true ∧ TTMLDoc.xmlCarries s = true ∧ ∀ it ∈ s.items, it.lines ≠ [] := by
  have hrg := inRange_items (dst := "ttml") (by decide) hr
  simp only [PlainTTML, Bool.and_eq_true, all_eq_true, decide_eq_true_eq] at hp
  obtain ⟨⟨⟨⟨⟨⟨⟨hne, hsn⟩, hrn⟩, hti⟩, hco⟩, hst⟩, hrg'⟩, hit⟩ := hp
  have hcue : ∀ it ∈ s.items, it.lines.isEmpty = false ∧ TTMLDoc.attrsOk it.attrs = true ∧
      TTMLDoc.refOk (s.styles.map Def.id) it.style = true ∧ TTMLDoc.refOk (s.regions.map Def.id) it.region = true ∧
      legalRef it.style = true ∧ legalRef it.region = true ∧ legalAttrs it.attrs = true ∧
      ∀ l ∈ it.lines, ∀ li ∈ l.items, plainRun (s.styles.map Def.id) li = true := by
    intro it hi
    have := hit it hi
    simp only [plainCue, Bool.and_eq_true, all_eq_true, Bool.not_eq_true'] at this
    obtain ⟨⟨⟨⟨⟨⟨⟨a1, a2⟩, a3⟩, a4⟩, a5⟩, a6⟩, a7⟩, a8⟩ := this
    exact ⟨a1, a2, a3, a4, a5, a6, a7, a8⟩
  have hown : ∀ {d : Def}, ownDef (s.styles.map Def.id) d = true → TTMLDoc.defOk (s.styles.map Def.id) d = true ∧
      ((legalStr d.id = true ∧ legalRef d.ref = true) ∧ legalAttrs d.attrs = true) := by
    intro d h
    simp only [ownDef, Bool.and_eq_true] at h
    exact ⟨h.1.1.1, ⟨h.1.1.2, h.1.2⟩, h.2⟩
  refine ⟨?_, ?_, ?_⟩
  · simp only [TTMLDoc.rep, Bool.and_eq_true, all_eq_true, decide_eq_true_eq]
    refine ⟨⟨⟨⟨⟨hne, hsn⟩, hrn⟩, fun d hd => (hown (hst d hd)).1⟩, fun d hd => (hown (hrg' d hd)).1⟩, fun it hi => ?_⟩
    · obtain ⟨_, b2, b3, b4, _, _, _, b8⟩ := hcue it hi
      obtain ⟨t1, t2, t3, t4⟩ := hrg it hi
      simp only [TTMLDoc.cueOk, Bool.and_eq_true, all_eq_true]
      exact ⟨⟨⟨⟨⟨TTMLDoc.timeOk_iff.mpr ⟨t1, t2⟩, TTMLDoc.timeOk_iff.mpr ⟨t3, t4⟩⟩, b2⟩, b3⟩, b4⟩,
        fun l hl li hli => plainRun_runOk (b8 l hl li hli)⟩
  · rw [xmlCarries_eq]
    simp only [Bool.and_eq_true, all_eq_true]
    refine ⟨⟨⟨⟨hti, hco⟩, fun d hd => (hown (hst d hd)).2⟩, fun d hd => (hown (hrg' d hd)).2⟩, fun it hi => ?_⟩
    · obtain ⟨_, _, _, _, b5, b6, b7, b8⟩ := hcue it hi
      refine ⟨⟨⟨b5, b6⟩, b7⟩, fun l hl li hli => ?_⟩
      have := b8 l hl li hli
      simp only [plainRun, ownRun, Bool.and_eq_true] at this
      exact ⟨⟨simple_legal this.1, this.2.1.2⟩, this.2.2⟩
  · intro it hi
    have b1 := (hcue it hi).1
    intro e
    rw [e] at b1
    cases b1

/-- **the conversion to TTML**: the writer model, then the ASSUMED contract of `encoding/xml`
    (`TTMLDoc.unmarshal ix`, `Lemmas/TTMLDocXml.lean`: `Marshal` followed by `Decode` into `TTMLIn`, with
    the bytes of every paragraph's inner XML an arbitrary function `ix` of its tokens), then the reader
    model; `none` when the writer refuses or the reader fails or leaves its modelled class -/
def viaTTML (ix : List TTML.XTok → Str) (s : Subs) : Option Subs :=
  match TTML.write s with
  | none => none
  | some w => match TTML.read (TTMLDoc.unmarshal ix w) with
    | .ok back => some back
    | _ => none

theorem via_rep (ix : List TTML.XTok → Str) (s : Subs) (h : TTMLDoc.rep s = true) (hx : TTMLDoc.xmlCarries s = true) :
    viaTTML ix s = some (TTMLDoc.norm s) := by
  obtain ⟨w, hw, hrd⟩ := C03doc.write_read ix s h hx
  simp only [viaTTML, hw, hrd]

end Conv3TTML
end Astisub
