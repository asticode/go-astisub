import Astisub.Lemmas.Str
import Astisub.Go.Numconv
import Astisub.Model.TTML
import Astisub.Spec.SRT
import Astisub.Spec.SSA
import Astisub.Spec.VTT
import Astisub.Spec.TTML

/-! # Lemmas/Digits — digit characters, digit strings and their values

A digit is `digitChar k` with `k < 10`, equivalently a character `isDigC` accepts (the specifications
and models carry their own copies of that predicate: `isDigit_eq` and the like identify them).
A `DigitStr` has the value `natOfDigits`; `digitsVal`, `parseDigits`, `atoi` and the specifications'
`natOf` all compute it, `itoaNat` prints it.  `parseDigits_eq_some_iff` and `Spec.SRT.natOf_iff_numeral` identify the
fold and `natOf` with the numerals of `Lemmas/Str`, where `atoi`, `itoaNat` and the bound `v < 10 ^ |s|` are proved
(`natOf` is `parseDigits`: `natOf_eq_parseDigits`); the statements on `natOfDigits` here are their translations,
kept for the callers that hold a `DigitStr` and the fold rather than a numeral (the STL number fields, SSA's `Val.ofCanon`,
the WebVTT region lines and timestamp map).
The decoders' integer reader (`Spec.SSA.intOf`, `Spec.TTML.int?`) is `atoi` without its range check (`atoi_eq_intOf`). -/

namespace Astisub
namespace Go
open List

theorem isDigC_iff_toNat {c : Char} : isDigC c = true ↔ 48 ≤ c.toNat ∧ c.toNat ≤ 57 := by
  simp only [isDigC, Bool.and_eq_true, decide_eq_true_eq]; exact Iff.rfl

theorem isDigC_iff_digitChar {c : Char} : isDigC c = true ↔ ∃ k, k < 10 ∧ c = digitChar k := by
  rw [isDigC_iff_toNat]
  constructor
  · intro h
    exact ⟨_, digitVal_some (d := c.toNat - 48) (if_pos h)⟩
  · rintro ⟨k, hk, rfl⟩
    rw [digitChar_toNat hk]; omega

theorem isDigC_digitChar {k : Nat} (h : k < 10) : isDigC (digitChar k) = true :=
  isDigC_iff_digitChar.mpr ⟨k, h, rfl⟩

theorem digitChar_ne_of_not_isDigC {k : Nat} (h : k < 10) {c : Char} (hc : isDigC c = false) :
    digitChar k ≠ c :=
  fun e => by rw [← e, isDigC_digitChar h] at hc; cases hc

theorem digitVal_eq (c : Char) : digitVal c = if isDigC c then some (c.toNat - 48) else none := by
  simp only [digitVal, isDigC, Bool.and_eq_true, decide_eq_true_eq]

theorem isSpace_of_isDigC {c : Char} (h : isDigC c = true) : isSpace c = false := by
  obtain ⟨k, hk, rfl⟩ := isDigC_iff_digitChar.mp h; exact isSpace_digitChar hk

theorem digitStr_iff_all_isDigC {s : Str} : DigitStr s ↔ s.all isDigC = true := by
  simp only [DigitStr, all_eq_true, isDigC_iff_digitChar]

theorem DigitStr.isDigC {s : Str} (h : DigitStr s) : ∀ c ∈ s, isDigC c = true :=
  fun c hc => isDigC_iff_digitChar.mpr (h c hc)

theorem DigitStr.not_mem_of_not_isDigC {s : Str} (h : DigitStr s) {c : Char} (hc : Go.isDigC c = false) :
    c ∉ s :=
  fun hm => by rw [h.isDigC c hm] at hc; cases hc

theorem DigitStr.head_ne_sign {c : Char} {cs : Str} (h : DigitStr (c :: cs)) : c ≠ '-' ∧ c ≠ '+' :=
  ⟨fun e => h.not_mem_of_not_isDigC (c := '-') rfl (e ▸ mem_cons_self),
   fun e => h.not_mem_of_not_isDigC (c := '+') rfl (e ▸ mem_cons_self)⟩

theorem natOfDigits_append (a b : Str) :
    natOfDigits (a ++ b) = b.foldl (fun x c => x * 10 + (c.toNat - 48)) (natOfDigits a) := by
  rw [natOfDigits, foldl_append]; rfl

theorem natOfDigits_snoc (s : Str) (c : Char) : natOfDigits (s ++ [c]) = natOfDigits s * 10 + (c.toNat - 48) :=
  natOfDigits_append s [c]

theorem digitsVal_eq_some_iff {s : Str} {acc v : Nat} :
    digitsVal s acc = some v ↔ DigitStr s ∧ s.foldl (fun a c => a * 10 + (c.toNat - 48)) acc = v := by
  induction s generalizing acc with
  | nil => simp [digitsVal, DigitStr.nil]
  | cons c cs ih =>
    rw [digitsVal, digitVal_eq, digitStr_iff_all_isDigC, all_cons, foldl_cons]
    cases hc : Go.isDigC c
    · simp
    · simp only [if_true, ih, digitStr_iff_all_isDigC, Bool.true_and]

theorem parseDigits_eq_some_iff {s : Str} {v : Nat} :
    parseDigits s = some v ↔ s ≠ [] ∧ DigitStr s ∧ natOfDigits s = v := by
  rw [parseDigits]
  cases s with
  | nil => simp
  | cons c cs => simp only [isEmpty_cons, Bool.false_eq_true, if_false, digitsVal_eq_some_iff, ne_eq,
      reduceCtorEq, not_false_eq_true, true_and, natOfDigits]

theorem parseDigits_of_digitStr {s : Str} (h : DigitStr s) (hne : s ≠ []) :
    parseDigits s = some (natOfDigits s) :=
  parseDigits_eq_some_iff.mpr ⟨hne, h, rfl⟩

theorem atoi_of_digitStr {s : Str} (h : DigitStr s) (hne : s ≠ []) (hle : natOfDigits s ≤ int64Max) :
    atoi s = some (natOfDigits s : Int) :=
  Numeral.atoi (parseDigits_of_digitStr h hne) hle

theorem natOfDigits_lt {s : Str} (h : DigitStr s) : natOfDigits s < 10 ^ s.length := by
  cases s with
  | nil => decide
  | cons c cs => exact Numeral.lt (parseDigits_of_digitStr h (cons_ne_nil _ _))

theorem parseDigits_lt {s : Str} {v : Nat} (h : parseDigits s = some v) : v < 10 ^ s.length := Numeral.lt h

theorem natOfDigits_dd {v : Nat} (h : v < 100) : natOfDigits (dd v) = v :=
  (parseDigits_eq_some_iff.mp (Numeral.dd h)).2.2

theorem natOfDigits_ddd {v : Nat} (h : v < 1000) : natOfDigits (ddd v) = v :=
  (parseDigits_eq_some_iff.mp (Numeral.ddd h)).2.2

theorem atoi_range {s : Str} {x : Int} (h : atoi s = some x) :
    -9223372036854775808 ≤ x ∧ x ≤ 9223372036854775807 := by
  obtain ⟨r, v, _, ⟨_, rfl, hv⟩ | ⟨_, rfl, hv⟩⟩ := Numeral.of_atoi h <;> unfold int64Max at hv <;> omega

theorem atoiLoose_of_atoi {s : Str} {v : Int} (h : atoi s = some v) : atoiLoose s = v := by
  unfold atoi at h
  unfold atoiLoose
  split at h <;> split at h <;> first | cases h | (split at h <;> first | cases h | skip)
  all_goals simp_all

theorem digitStr_itoaNat (n : Nat) : DigitStr (itoaNat n) := (Numeral.itoaNat n).digitStr
theorem itoaNat_ne_nil (n : Nat) : itoaNat n ≠ [] := (Numeral.itoaNat n).ne_nil
theorem natOfDigits_itoaNat (n : Nat) : natOfDigits (itoaNat n) = n :=
  (parseDigits_eq_some_iff.mp (Numeral.itoaNat n)).2.2

theorem parseDigits_itoaNat (n : Nat) : parseDigits (itoaNat n) = some n := Numeral.itoaNat n

theorem itoaNat_head (n : Nat) : ∃ k cs, k < 10 ∧ itoaNat n = digitChar k :: cs := (Numeral.itoaNat n).head

theorem atoi_itoaNat (n : Nat) (h : n ≤ int64Max) : atoi (itoaNat n) = some (n : Int) := (Numeral.itoaNat n).atoi h

theorem atoiLoose_itoaNat (n : Nat) (h : n ≤ int64Max) : atoiLoose (itoaNat n) = (n : Int) :=
  atoiLoose_of_atoi (atoi_itoaNat n h)

/-! ### leading zeros: `Itoa` of the value of a digit string is the string without them -/

theorem natOfDigits_nil : natOfDigits [] = 0 := rfl

theorem natOfDigits_zero_cons (s : Str) : natOfDigits ('0' :: s) = natOfDigits s := by
  simp [natOfDigits]

theorem natOfDigits_dropZeros (s : Str) : natOfDigits (s.dropWhile (· = '0')) = natOfDigits s := by
  induction s with
  | nil => rfl
  | cons c s ih =>
    by_cases hc : c = '0'
    · subst hc
      rw [dropWhile_cons_of_pos (by simp), ih, natOfDigits_zero_cons]
    · rw [dropWhile_cons_of_neg (by simpa using hc)]

theorem digitStr_dropZeros {s : Str} (h : DigitStr s) : DigitStr (s.dropWhile (· = '0')) :=
  fun c hc => h c ((dropWhile_sublist _).subset hc)

theorem head_dropZeros (s : Str) : (s.dropWhile (· = '0')).head? ≠ some '0' := by
  induction s with
  | nil => simp
  | cons c s ih =>
    by_cases hc : c = '0'
    · subst hc
      rw [dropWhile_cons_of_pos (by simp)]; exact ih
    · rw [dropWhile_cons_of_neg (by simpa using hc)]
      simpa using hc

theorem itoaNat_canon_pos (s : Str) : DigitStr s → s ≠ [] → s.head? ≠ some '0' →
    1 ≤ natOfDigits s ∧ itoaNat (natOfDigits s) = s := by
  induction s using List.snoc_induction with
  | nil => intro _ h; exact absurd rfl h
  | append_singleton a c ih =>
    intro hd _ hh
    obtain ⟨k, hk, rfl⟩ := hd c (by simp)
    rw [natOfDigits_snoc, digitChar_toNat_sub hk, itoaNat_eq]
    cases a with
    | nil =>
      have hk0 : k ≠ 0 := by intro e; subst e; exact hh (by decide)
      simp [natOfDigits, hk]; omega
    | cons x xs =>
      obtain ⟨h1, h2⟩ := ih (fun y hy => hd y (mem_append_left _ hy)) (by simp) (by simpa using hh)
      have e1 : (natOfDigits (x :: xs) * 10 + k) / 10 = natOfDigits (x :: xs) := by omega
      have e2 : (natOfDigits (x :: xs) * 10 + k) % 10 = k := by omega
      rw [if_neg (by omega), e1, e2, h2]
      exact ⟨by omega, rfl⟩

theorem itoaNat_canon {s : Str} (hd : DigitStr s) (hne : s ≠ []) (hh : s.head? ≠ some '0') :
    itoaNat (natOfDigits s) = s :=
  (itoaNat_canon_pos s hd hne hh).2

theorem itoaNat_dropZeros {s : Str} (hd : DigitStr s) (hv : natOfDigits s ≠ 0) :
    itoaNat (natOfDigits s) = s.dropWhile (· = '0') := by
  have hne : s.dropWhile (· = '0') ≠ [] := by
    intro e
    have := natOfDigits_dropZeros s
    rw [e, natOfDigits_nil] at this
    exact hv this.symm
  have := itoaNat_canon (digitStr_dropZeros hd) hne (head_dropZeros s)
  rwa [natOfDigits_dropZeros] at this

/-! ### Go's `strconv.Itoa` (model) and Lean's `Nat.repr` print the same digits -/

theorem natDigitChar_eq_digitChar {k : Nat} (h : k < 10) : Nat.digitChar k = digitChar k := by
  revert k; decide

theorem itoaAux_toDigitsCore : ∀ (fuel n : Nat) (acc : Str), itoaAux fuel n acc = Nat.toDigitsCore 10 fuel n acc
  | 0, _, _ => rfl
  | fuel + 1, n, acc => by
    unfold itoaAux Nat.toDigitsCore
    simp only
    by_cases h : n < 10
    · have h0 : n / 10 = 0 := by omega
      have h1 : n % 10 = n := by omega
      rw [if_pos h, if_pos h0, h1, natDigitChar_eq_digitChar h]
    · have h0 : ¬ n / 10 = 0 := by omega
      rw [if_neg h, if_neg h0, natDigitChar_eq_digitChar (Nat.mod_lt n (by decide : 0 < 10))]
      exact itoaAux_toDigitsCore fuel (n / 10) _

theorem itoaNat_repr (n : Nat) : String.ofList (itoaNat n) = Nat.repr n := by
  unfold itoaNat Nat.repr Nat.toDigits
  rw [itoaAux_toDigitsCore]

end Go

open Go List

theorem Spec.SRT.isDigit_eq : Spec.SRT.isDigit = isDigC := rfl
theorem Spec.SSA.isDigit_eq : Spec.SSA.isDigit = isDigC := rfl
theorem Spec.VTT.isDigit_eq : Spec.VTT.isDigit = isDigC := rfl
theorem TTML.isDigit_eq : TTML.isDigit = isDigC := rfl

theorem Spec.SSA.natOf_eq : Spec.SSA.natOf = Spec.SRT.natOf := rfl
theorem Spec.VTT.natOf_eq : Spec.VTT.natOf = Spec.SRT.natOf := rfl
theorem Spec.TTML.num?_eq : Spec.TTML.num? = Spec.SRT.natOf := rfl

namespace Spec.SRT

theorem natOf_eq_some_iff {t : Str} {n : Nat} :
    natOf t = some n ↔ t ≠ [] ∧ DigitStr t ∧ natOfDigits t = n := by
  rw [natOf, isDigit_eq, digitStr_iff_all_isDigC]
  cases t with
  | nil => simp
  | cons c cs => cases h : (c :: cs).all isDigC <;> simp [natOfDigits]

theorem natOf_iff_numeral {t : Str} {n : Nat} : natOf t = some n ↔ Numeral t n :=
  natOf_eq_some_iff.trans parseDigits_eq_some_iff.symm

theorem _root_.Astisub.Go.Numeral.natOf {t : Str} {n : Nat} (h : Numeral t n) : natOf t = some n :=
  natOf_iff_numeral.mpr h

/-- so `natOf` is the model's `parseDigits`: what is proved of numerals holds of it after one rewrite -/
theorem natOf_eq_parseDigits : natOf = parseDigits :=
  funext fun _ => Option.ext fun _ => natOf_iff_numeral

end Spec.SRT

/-! ### the decoders' integer reader (`Spec.SSA.intOf`, `Spec.TTML.int?`): `strconv.Atoi` without its range check -/

theorem Spec.TTML.int?_eq : Spec.TTML.int? = Spec.SSA.intOf := rfl

/-- `Atoi` is the decoders' integer reader followed by the `int64` range check -/
theorem Spec.SSA.atoi_eq_intOf (s : Str) :
    atoi s = (Spec.SSA.intOf s).bind fun v =>
      if -(int64Max : Int) - 1 ≤ v ∧ v ≤ (int64Max : Int) then some v else none := by
  have neg : ∀ o : Option Nat, (match o with
      | some v => if v ≤ int64Max + 1 then some (-(v : Int)) else none
      | none => none) = (o.map fun n => -(n : Int)).bind fun v =>
        if -(int64Max : Int) - 1 ≤ v ∧ v ≤ (int64Max : Int) then some v else none := by
    rintro (_ | v)
    · rfl
    · by_cases hv : v ≤ int64Max + 1 <;> simp [hv] <;> omega
  have pos : ∀ o : Option Nat, (match o with
      | some v => if v ≤ int64Max then some (v : Int) else none
      | none => none) = (o.map fun n => (n : Int)).bind fun v =>
        if -(int64Max : Int) - 1 ≤ v ∧ v ≤ (int64Max : Int) then some v else none := by
    rintro (_ | v)
    · rfl
    · by_cases hv : v ≤ int64Max <;> simp [hv] <;> omega
  have other : (∀ r, s ≠ '-' :: r) → (∀ r, s ≠ '+' :: r) →
      Spec.SSA.intOf s = (Spec.SSA.natOf s).map fun n => (n : Int) := by
    intro h1 h2
    unfold Spec.SSA.intOf
    split
    · exact absurd rfl (h1 _)
    · exact absurd rfl (h2 _)
    · rfl
  unfold atoi
  split
  · exact (neg _).trans (by rw [← Spec.SRT.natOf_eq_parseDigits]; rfl)
  · exact (pos _).trans (by rw [← Spec.SRT.natOf_eq_parseDigits]; rfl)
  · rename_i h1 h2
    rw [other (fun r e => h1 r e) (fun r e => h2 r e), Spec.SSA.natOf_eq, Spec.SRT.natOf_eq_parseDigits]
    exact pos _

theorem Spec.SSA.atoi_of_intOf {s : Str} {v : Int} (h : Spec.SSA.intOf s = some v)
    (hr : -(int64Max : Int) - 1 ≤ v ∧ v ≤ (int64Max : Int)) : atoi s = some v := by
  rw [Spec.SSA.atoi_eq_intOf, h, Option.bind_some, if_pos hr]

end Astisub
