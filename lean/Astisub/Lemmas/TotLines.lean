import Astisub.Lemmas.EvalLit
import Astisub.Lemmas.TotBase
import Astisub.Lemmas.StrList
import Astisub.Model.SRT
import Astisub.Model.VTT

/-!
# Lemmas/TotLines — the timing lines of the SubRip and WebVTT readers, with Go's index checks made explicit

`ReadFromSRT` (`srt.go`) and `ReadFromWebVTT` (`webvtt.go`) index the result of `strings.Split(line, "-->")`
at 0 and 1 and the result of `strings.Fields` of the right part at 0; the WebVTT reader also indexes
`strings.Split(p, ":")` (cue settings), `strings.Split(p, "=")` (Region parts, `X-TIMESTAMP-MAP`) and
`strings.SplitN(p, ":", 2)` at 0 and 1.  The model writes these as pattern matches with a catch-all
error arm.  Here they are `idx`, and it is proved that

* `s1[0]`, `s1[1]` are in range because the branch is entered only when `strings.Contains(line, "-->")`
  (`splitOn_two_le`: a string that contains the separator splits into at least two parts) —
  the catch-all arm of the model is dead code;
* `s2[0]` / `right[0]` is in range because of the `len(…) == 0 ⇒ error` check in front of it (the repair
  of D4: "nothing after `-->`"); without it the index panics (`timing_unguarded_panics`);
* `split[0]`, `split[1]` are in range because of the `len(split) <= 1 ⇒ error` checks.
-/

namespace Astisub
namespace Tot
open Go

/-- Go's indexing of a timing line: `s1[0]`, `s1[1]`, `len(s2) == 0 ⇒ error`, `s2[0]`, `s2[1:]` -/
def timingC (line : Str) : Chk (Option (Str × Str × List Str)) := do
  let s1 := splitOn SRT.arrow line
  let left ← idx s1 0
  let right ← idx s1 1
  let s2 := fields right
  if s2.isEmpty then pure none else do
  let endTok ← idx s2 0
  let rest ← slcFrom s2 1
  pure (some (left, endTok, rest))

/-- behind `strings.Contains(line, "-->")` the split has two parts, so `s1[0]` and `s1[1]` are in range and
    the catch-all arm of the models' match on it is dead; what remains is the `len(s2) == 0` check -/
theorem timingC_eq {line : Str} (h : contains SRT.arrow line = true) :
    ∃ a b t, splitOn SRT.arrow line = a :: b :: t ∧
      timingC line = .ok (match fields b with | [] => none | e :: r => some (a, e, r)) := by
  have hl := splitOn_two_le (sep := SRT.arrow) (by decide) line h
  match hs : splitOn SRT.arrow line, hl with
  | a :: b :: t, _ =>
  refine ⟨a, b, t, rfl, ?_⟩
  unfold timingC
  rw [hs]
  cases hf : fields b <;> simp only [idx, hf, List.getElem?_cons_zero, List.getElem?_cons_succ, ok_bind] <;> rfl

/-- the pinned code had no `len(s2) == 0` check: a line with nothing after `-->` indexes an empty slice -/
def timingUnguardedC (line : Str) : Chk (Str × Str) := do
  let s1 := splitOn SRT.arrow line
  let left ← idx s1 0
  let right ← idx s1 1
  let endTok ← idx (fields right) 0
  pure (left, endTok)

theorem timing_unguarded_panics : (timingUnguardedC "00:00:01,000 -->".toList).safe = false := by decide_vector

namespace SRT
open Astisub.SRT

/-- one iteration of the scan loop of `ReadFromSRT` with the timing line indexed as in Go -/
def stepC (st : St) (raw : Option Str) : Chk (Res St) :=
  match raw with
  | none => pure .err
  | some raw =>
    let line := trimSpace raw
    let lineNum := st.lineNum + 1
    let line := if lineNum = 1 then trimPrefix bom line else line
    if contains arrow line then do
      let (index, lines) :=
        match st.cur.lines.getLast? with
        | none => (([] : Str), st.cur.lines)
        | some l => if l.str ≠ [] then (l.str, st.cur.lines.dropLast) else ([], st.cur.lines)
      let lines := stripLines lines
      let prev := { st.cur with lines := lines }
      let done := if st.curListed then st.done ++ [prev] else st.done
      let idx : Int := if index ≠ [] then atoiLoose index else 0
      let tm ← timingC line
      match tm with
      | none => pure .err
      | some (left, endTok, _) =>
        match Duration.parseSRT left, Duration.parseSRT endTok with
        | some s, some e =>
          pure (.ok { done := done, cur := { index := idx, startAt := s, endAt := e, lines := [] },
                      curListed := true, sa := {}, lineNum := lineNum })
        | _, _ => pure .err
    else
      match parseText line st.sa with
      | .unmodelled => pure .unmodelled
      | .err => pure .err
      | .ok (sa, l) =>
        let cur := if l.items.isEmpty then st.cur else { st.cur with lines := st.cur.lines ++ [l] }
        pure (.ok { st with cur := cur, sa := sa, lineNum := lineNum })

theorem stepC_eq (st : St) (raw : Option Str) : stepC st raw = .ok (step st raw) := by
  cases raw with
  | none => rfl
  | some raw =>
    refine ite_ok (fun hc => ?_) fun _ => ?_
    · obtain ⟨a, b, t, hs, ht⟩ := timingC_eq hc
      rw [ht, hs]
      simp only
      cases fields b with
      | nil => rfl
      | cons e r =>
        simp only [ok_bind]
        cases Duration.parseSRT a <;> cases Duration.parseSRT e <;> rfl
    · cases parseText _ st.sa <;> rfl

/-- the loop of `ReadFromSRT` -/
def runC : St → List (Option Str) → Chk (Res St)
  | st, [] => pure (.ok st)
  | st, l :: ls => do
    let r ← stepC st l
    match r with
    | .ok st' => runC st' ls
    | .err => pure .err
    | .unmodelled => pure .unmodelled

theorem runC_eq : ∀ (ls : List (Option Str)) (st : St), runC st ls = .ok (run st ls)
  | [], _ => rfl
  | l :: ls, st => by
    unfold runC run
    rw [stepC_eq, ok_bind]
    cases step st l with
    | ok st' => exact runC_eq ls st'
    | err => rfl
    | unmodelled => rfl

/-- `ReadFromSRT` on the scanned lines -/
def readC (lines : List (Option Str)) : Chk (Res Subs) := do
  let r ← runC {} lines
  match r with
  | .ok st =>
    let last := { st.cur with lines := stripLines st.cur.lines }
    pure (.ok { items := if st.curListed then st.done ++ [last] else st.done })
  | .err => pure .err
  | .unmodelled => pure .unmodelled

theorem readC_eq (lines : List (Option Str)) : readC lines = .ok (Astisub.SRT.read lines) := by
  unfold readC Astisub.SRT.read
  rw [runC_eq]
  simp only [ok_bind]
  cases run {} lines <;> rfl

end SRT

namespace VTT
open Astisub.VTT
open Astisub.SRT (Res)

/-- `split[0]`, `split[1]` behind the `len(split) <= 1 ⇒ error` check (cue settings, Region parts,
    `X-TIMESTAMP-MAP` parts of `webvtt.go`) -/
def kv (split : List Str) : Chk (Option (Str × Str)) :=
  if split.length ≤ 1 then pure none else do
  let k ← idx split 0
  let v ← idx split 1
  pure (some (k, v))

theorem kv_eq (split : List Str) :
    kv split = .ok (match split with | k :: v :: _ => some (k, v) | _ => none) := by
  unfold kv
  match split with
  | [] => rfl
  | [_] => rfl
  | k :: v :: t => rfl

/-- without the check a setting without `:` indexes past the one-element split -/
example : (idx (splitC ':' "middle".toList) 1).safe = false := by decide_vector

/-- the loop over the parts of a `Region: ` line -/
def regionPartsC : List Str → RegAcc → Chk (Option RegAcc)
  | [], r => pure (some r)
  | p :: ps, r => do
    let s ← kv (splitC '=' p)
    match s with
    | some (k, v) =>
      if k = "id".toList then regionPartsC ps { r with id := v }
      else if k = "lines".toList then
        match atoi v with
        | some n => regionPartsC ps { r with lines := n }
        | none => pure none
      else if k = "regionanchor".toList then regionPartsC ps { r with anchor := v }
      else if k = "scroll".toList then regionPartsC ps { r with scroll := v }
      else if k = "viewportanchor".toList then regionPartsC ps { r with viewport := v }
      else if k = "width".toList then regionPartsC ps { r with width := v }
      else regionPartsC ps r
    | none => pure none

theorem regionPartsC_eq : ∀ (ps : List Str) (r : RegAcc), regionPartsC ps r = .ok (regionParts ps r)
  | [], _ => rfl
  | p :: ps, r => by
    unfold regionPartsC regionParts
    rw [kv_eq]
    match splitC '=' p with
    | [] => rfl
    | [_] => rfl
    | k :: v :: t =>
      simp only [ok_bind, regionPartsC_eq ps]
      cases atoi v <;> simp only [apply_ite (Except.ok (ε := Panic)), pure_eq]

/-- the loop over the cue settings -/
def settingsC (regions : List Def) : List Str → SetAcc → Chk (Option SetAcc)
  | [], a => pure (some a)
  | p :: ps, a => do
    let s ← kv (splitC ':' p)
    match s with
    | some (k, v) =>
      if k = "align".toList then settingsC regions ps { a with align := v }
      else if k = "line".toList then settingsC regions ps { a with line := v }
      else if k = "position".toList then settingsC regions ps { a with position := v }
      else if k = "region".toList then
        if regions.any (·.id = v) then settingsC regions ps { a with region := some v } else pure none
      else if k = "size".toList then settingsC regions ps { a with size := v }
      else if k = "vertical".toList then settingsC regions ps { a with vertical := v }
      else settingsC regions ps a
    | none => pure none

theorem settingsC_eq (regions : List Def) : ∀ (ps : List Str) (a : SetAcc),
    settingsC regions ps a = .ok (settings regions ps a)
  | [], _ => rfl
  | p :: ps, a => by
    unfold settingsC settings
    rw [kv_eq]
    match splitC ':' p with
    | [] => rfl
    | [_] => rfl
    | k :: v :: t => simp only [ok_bind, settingsC_eq regions ps, apply_ite (Except.ok (ε := Panic)), pure_eq]

theorem splitOnce_go_length (sep : Str) : ∀ (fuel : Nat) (s acc : Str), (splitOnce.go sep fuel s acc).length ≤ 2 := by
  intro fuel
  induction fuel with
  | zero => intro s acc; simp [splitOnce.go]
  | succ fuel ih =>
    intro s acc
    cases s with
    | nil => simp [splitOnce.go]
    | cons x xs =>
      unfold splitOnce.go
      split
      · simp
      · exact ih _ _

/-- `strings.SplitN(s, sep, 2)` has at most two parts -/
theorem splitOnce_length (sep s : Str) : (splitOnce sep s).length ≤ 2 := by
  unfold splitOnce
  split
  · simp
  · exact splitOnce_go_length sep _ _ _

/-- the loop of `parseWebVTTTimestampMap`: `splits[0]`, `splits[1]` behind `len(splits) <= 1 ⇒ error` -/
def tsPartsC : List Str → Int × Int → Chk (Res (Int × Int))
  | [], acc => pure (.ok acc)
  | p :: ps, acc => do
    let s ← kv (splitOnce [':'] p)
    match s with
    | some (k, v) =>
      let key := toLowerAscii (trimSpace k)
      if key = "local".toList then
        if !smallNumbers v then pure .unmodelled else
        match Duration.parseVTT v with
        | some d => tsPartsC ps (d, acc.2)
        | none => pure .err
      else if key = "mpegts".toList then
        match parseInt v with
        | some n => tsPartsC ps (acc.1, n)
        | none => pure .err
      else tsPartsC ps acc
    | none => pure .err

theorem tsPartsC_eq : ∀ (ps : List Str) (acc : Int × Int), tsPartsC ps acc = .ok (tsParts ps acc)
  | [], _ => rfl
  | p :: ps, acc => by
    unfold tsPartsC tsParts
    rw [kv_eq]
    have hl := splitOnce_length [':'] p
    match hs : splitOnce [':'] p with
    | [] => rfl
    | [_] => rfl
    | [k, v] =>
      simp only [ok_bind, tsPartsC_eq ps]
      cases Duration.parseVTT v <;> cases parseInt v <;>
        simp only [apply_ite (Except.ok (ε := Panic)), pure_eq]
    | k :: v :: w :: t => rw [hs] at hl; simp at hl

/-- `parseWebVTTTimestampMap`: `splits[1]` behind `len(splits) <= 1 ⇒ error` -/
def parseTsMapC (line : Str) : Chk (Res (Int × Int)) := do
  let s ← kv (splitC '=' line)
  match s with
  | some (_, right) => tsPartsC (splitC ',' right) (0, 0)
  | none => pure .err

theorem parseTsMapC_eq (line : Str) : parseTsMapC line = .ok (parseTsMap line) := by
  unfold parseTsMapC parseTsMap
  rw [kv_eq]
  match splitC '=' line with
  | [] => rfl
  | [_] => rfl
  | k :: v :: t => exact tsPartsC_eq _ _

/-- one iteration of the second scan loop of `ReadFromWebVTT` with the index expressions of the
    Region, timing and `X-TIMESTAMP-MAP` branches checked.  The blank-line arm is still the model's, with its
    `getLast?.getD []`; `Tot.VTT.stepC2` (`Tot2VTT`) is this step with that arm checked too (`blankC`). -/
def stepC (st : St) (raw : Option Str) : Chk (Res St) :=
  match raw with
  | none => pure .err
  | some raw =>
    let line := trimSpace raw
    if st.block ≠ .text && (line = "NOTE".toList || hasPrefix "NOTE ".toList line) then
      pure (.ok { st with
        block := .comment,
        comments := if line = "NOTE".toList then st.comments else st.comments ++ [trimPrefix "NOTE ".toList line] })
    else if line = [] then
      let keep := st.block = .style && !st.styles.isEmpty && !(hasSuffix ['}'] (st.styles.getLast?.getD []))
      pure (.ok { st with block := if keep then st.block else .none, tags := [] })
    else if st.block ≠ .text && st.block ≠ .comment && hasPrefix "Region: ".toList line then do
      let r? ← regionPartsC (splitC ' ' (trimPrefix "Region: ".toList line)) {}
      match r? with
      | some r => pure (.ok { st with regions := setDef st.regions (regionDef r) })
      | none => pure .err
    else if st.block ≠ .text && st.block ≠ .comment && hasPrefix "STYLE".toList line then
      if st.styleSeen then pure (.ok { st with block := .style })
      else pure (.ok { st with block := .style, styleSeen := true, tags := [], styles := [] })
    else if contains arrow line then do
      let tm ← timingC line
      match tm with
      | none => pure .err
      | some (left, endTok, rest) =>
        if !smallNumbers left || !smallNumbers endTok then pure .unmodelled else
        match Duration.parseVTT left, Duration.parseVTT endTok with
        | some s, some e => do
          let a? ← settingsC st.regions rest {}
          match a? with
          | none => pure .err
          | some a =>
            let item : CItem :=
             { index := st.index, startAt := s, endAt := e, region := a.region,
               comments := st.comments, lines := [],
               attrs := some (mkAttrs [("WebVTTAlign", optStr a.align), ("WebVTTLine", optStr a.line),
                ("WebVTTPosition", optStr a.position), ("WebVTTSize", optStr a.size),
                ("WebVTTVertical", optStr a.vertical)]) }
            pure (.ok { st with done := flush st, cur := item, curListed := true, block := .text, index := 0, comments := [] })
        | _, _ => pure .err
    else if st.block ≠ .text && st.block ≠ .comment && hasPrefix "X-TIMESTAMP-MAP".toList line then
      if !st.cur.lines.isEmpty then pure .err else do
      let m? ← parseTsMapC line
      match m? with
      | .ok m => pure (.ok { st with tsmap := some m })
      | .err => pure .err
      | .unmodelled => pure .unmodelled
    else
      match st.block with
      | .comment => pure (.ok { st with comments := st.comments ++ [line] })
      | .style => pure (.ok { st with styles := st.styles ++ [line] })
      | .text =>
        match parseText line st.tags with
        | .ok (tags, l) =>
          pure (.ok { st with tags := tags, cur := if l.items.isEmpty then st.cur else { st.cur with lines := st.cur.lines ++ [l] } })
        | .err => pure .err
        | .unmodelled => pure .unmodelled
      | .none => pure (.ok { st with index := atoiLoose line })

theorem stepC_eq (st : St) (raw : Option Str) : stepC st raw = .ok (step st raw) := by
  cases raw with
  | none => rfl
  | some raw =>
    -- the chain of `case`s of the Go `switch`, one guard at a time
    refine ite_ok (fun _ => rfl) fun _ => ite_ok (fun _ => rfl) fun _ => ite_ok (fun _ => ?_) fun _ =>
      ite_ok (fun _ => ?_) fun _ => ite_ok (fun hc => ?_) fun _ => ite_ok (fun _ => ?_) fun _ => ?_
    · rw [regionPartsC_eq]
      cases regionParts (splitC ' ' (trimPrefix "Region: ".toList (trimSpace raw))) {} <;> rfl
    · split <;> rfl
    · obtain ⟨a, b, t, hs, ht⟩ := timingC_eq hc
      rw [ht, show arrow = Astisub.SRT.arrow from rfl, hs]
      simp only
      cases fields b with
      | nil => rfl
      | cons e r =>
        simp only [ok_bind]
        refine ite_ok (fun _ => rfl) fun _ => ?_
        cases Duration.parseVTT a <;> cases Duration.parseVTT e <;> try rfl
        simp only [settingsC_eq, ok_bind]
        cases settings st.regions r {} <;> rfl
    · refine ite_ok (fun _ => rfl) fun _ => ?_
      rw [parseTsMapC_eq]
      cases parseTsMap (trimSpace raw) <;> rfl
    · cases st.block with
      | text => simp only; cases parseText (trimSpace raw) st.tags <;> rfl
      | _ => rfl

/-- the second loop of `ReadFromWebVTT` -/
def runC : St → List (Option Str) → Chk (Res St)
  | st, [] => pure (.ok st)
  | st, l :: ls => do
    let r ← stepC st l
    match r with
    | .ok st' => runC st' ls
    | .err => pure .err
    | .unmodelled => pure .unmodelled

theorem runC_eq : ∀ (ls : List (Option Str)) (st : St), runC st ls = .ok (run st ls)
  | [], _ => rfl
  | l :: ls, st => by
    unfold runC run
    rw [stepC_eq, ok_bind]
    cases step st l with
    | ok st' => exact runC_eq ls st'
    | err => rfl
    | unmodelled => rfl

/-- `ReadFromWebVTT` on the scanned lines -/
def readC (lines : List (Option Str)) : Chk (Res Subs) :=
  match skipHeader lines with
  | none => pure .err
  | some rest => do
    let r ← runC {} rest
    match r with
    | .ok st => pure (.ok (result st))
    | .err => pure .err
    | .unmodelled => pure .unmodelled

theorem readC_eq (lines : List (Option Str)) : readC lines = .ok (Astisub.VTT.read lines) := by
  unfold readC Astisub.VTT.read
  cases skipHeader lines with
  | none => rfl
  | some rest =>
    simp only [runC_eq, ok_bind]
    cases run {} rest <;> rfl

end VTT

end Tot
end Astisub
