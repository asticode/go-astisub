import Astisub.Lemmas.TTMLW2Defs

/-!
# Lemmas/TTMLW2Indent — the independent decoder does not see the indentation `Encoder.Indent` adds

The `ttml.write` check compares the model's tokens `resolve w` with `dropIndent toks []` (`toks` = the tokens of the
written bytes) but runs the decoder on `toks` themselves.  Here, for **all** token lists: if every character-data token
that `dropIndent` removes contains a line feed and does not sit directly inside a `br` (`indentOk`, decidable — what
`Encoder.Indent` produces: `"\n"` + indentation between elements), the decoder answers the same on `toks` and on
`dropIndent toks []`.
-/

namespace Astisub
namespace TTMLW2
open Go TTML List
open Driver.TTMLD (specToks dropIndent)
open Spec.TTML (St PState GDoc step run decode hasNL allSpace)
open TTMLR (inP)
open TTMLDoc (ctxOf)

/-- every token `dropIndent` removes holds a line feed and is not directly inside `br` -/
def indentOk : List XTok → List Str → Bool
  | [], _ => true
  | .start _ n _ :: rest, stack => indentOk rest (n :: stack)
  | .stop _ _ :: rest, stack => indentOk rest stack.tail
  | .text s :: rest, stack =>
    let keep := match stack with
      | p :: _ => p = "span".toList || p = "title".toList || p = "copyright".toList
      | [] => false
    (if !keep && s.all isSpace then hasNL s && !(stack.head? == some "br".toList) else true) && indentOk rest stack
  | .other :: rest, stack => indentOk rest stack

/-- the elements open inside the paragraph, as the paragraph state records them -/
def preOf (p : PState) : List Str :=
  (if p.inBr then ["br".toList] else []) ++ (if p.span.isSome then ["span".toList] else [])

/-- inside a paragraph the path is: (`br`) (`span`) and the four names down to `p` -/
def Inv (st : St) : Prop :=
  st.finished = true ∨ ∀ p, st.p = some p → ∃ base : List Str, base.length = 4 ∧ st.path = preOf p ++ base

theorem inv_init : Inv {} := Or.inr (fun p h => by cases h)

theorem inv_of {st : St} {q : PState} {base : List Str} (hq : st.p = some q) (hb : base.length = 4)
    (hpath : st.path = preOf q ++ base) : Inv st :=
  Or.inr fun q' hq' => by rw [hq] at hq'; cases hq'; exact ⟨base, hb, hpath⟩

theorem inv_none {st : St} (hn : st.p = none) : Inv st := Or.inr fun q hq => by rw [hn] at hq; cases hq

/-- a state inside a paragraph, in the form the step equations of `Lemmas/TTMLRead2Step` speak about -/
theorem eq_inP {st : St} {p : PState} {base : List Str} (hp : st.p = some p) (hf : st.finished = false)
    (hpath : st.path = preOf p ++ base) : st = inP { st with path := base } (preOf p) p := by
  cases st; simp_all [inP]

theorem start_in (st st' : St) (p : PState) (sp n : Str) (a : List TTMLW2.XAttr) (hp : st.p = some p)
    (hf : st.finished = false) (hi : Inv st) (h : step st (.start sp n a) = some st') :
    st'.path = n :: st.path ∧ st'.finished = false ∧ Inv st' := by
  rcases hi with hi | hi
  · rw [hf] at hi; cases hi
  obtain ⟨base, hb, hpath⟩ := hi p hp
  rw [eq_inP hp hf hpath] at h
  cases hbr : p.inBr with
  | true => rw [TTMLR.step_br_start _ _ _ hbr] at h; cases h
  | false =>
    cases hs : p.span with
    | none =>
      have e : preOf p = [] := by simp [preOf, hbr, hs]
      rw [e, TTMLR.step_top_start _ p hs hbr hb] at h
      rw [hpath, e]
      split at h
      · cases h
      · split at h
        next hn => cases h; exact ⟨rfl, rfl, inv_of rfl hb (by simp [preOf, hs, inP, hn])⟩
        · split at h
          next hn =>
            split at h
            · cases h; exact ⟨rfl, rfl, inv_of rfl hb (by simp [preOf, hbr, inP, hn])⟩
            · cases h
          · cases h
    | some ss =>
      have e : preOf p = ["span".toList] := by simp [preOf, hbr, hs]
      rw [e, TTMLR.step_span_start _ _ p ss.1 ss.2 hs hbr] at h
      rw [hpath, e]
      split at h
      · cases h
      · split at h
        next hn => cases h; exact ⟨rfl, rfl, inv_of rfl hb (by simp [preOf, hs, inP, hn])⟩
        · cases h

theorem start_out (st st' : St) (sp n : Str) (a : List TTMLW2.XAttr) (hp : st.p = none) (hf : st.finished = false)
    (h : step st (.start sp n a) = some st') :
    st'.path = n :: st.path ∧ st'.finished = false ∧ Inv st' := by
  rw [TTMLR.step_start_ctx st hp hf] at h
  obtain ⟨_, k⟩ := Option.ite_none_left_eq_some.mp h
  clear h
  have hi := TTMLR.ctxOf_inv (n :: st.path)
  cases hc : ctxOf (n :: st.path) <;> rw [hc] at k hi <;> dsimp only at k hi
  case para =>
    -- the only place that opens a paragraph: the path below it has length 4
    split at k
    · split at k
      · cases k
        exact ⟨rfl, rfl, inv_of (q := _) rfl (base := n :: st.path) (by rw [hi]; rfl) rfl⟩
      · cases k
    · cases k
  case root =>
    split at k
    · split at k <;> cases k <;> exact ⟨rfl, hf, inv_none hp⟩
    · cases k
  case other =>
    obtain ⟨_, k⟩ := Option.ite_none_left_eq_some.mp k
    split at k
    · obtain rfl := Option.some.inj (Option.ite_none_right_eq_some.mp k).2; exact ⟨rfl, hf, inv_none hp⟩
    · obtain rfl := Option.some.inj k; exact ⟨rfl, hf, inv_none hp⟩
  case style | region => obtain ⟨g, _, rfl⟩ := Option.map_eq_some_iff.mp k; exact ⟨rfl, hf, inv_none hp⟩
  case title | copyright => obtain rfl := Option.some.inj k; exact ⟨rfl, hf, inv_none hp⟩

theorem stop_in (st st' : St) (p : PState) (hp : st.p = some p) (hf : st.finished = false) (hi : Inv st)
    (h : step st .stop = some st') : st'.path = st.path.tail ∧ st'.finished = false ∧ Inv st' := by
  rcases hi with hi | hi
  · rw [hf] at hi; cases hi
  obtain ⟨base, hb, hpath⟩ := hi p hp
  have hne : base ≠ [] := ne_nil_of_length_pos (hb ▸ Nat.zero_lt_succ 3)
  rw [eq_inP hp hf hpath] at h
  rw [hpath]
  cases hbr : p.inBr with
  | true =>
    have e : preOf p = "br".toList :: preOf { p with inBr := false } := by rw [preOf, hbr]; rfl
    rw [e, TTMLR.step_br_stop _ _ _ p hbr hne] at h
    cases h
    exact ⟨by rw [e]; rfl, rfl, inv_of rfl hb rfl⟩
  | false =>
    cases hs : p.span with
    | none =>
      have e : preOf p = [] := by simp [preOf, hbr, hs]
      rw [e, TTMLR.step_top_stop _ p hs hbr hb] at h
      cases h
      refine ⟨by rw [e]; rfl, ?_, inv_none rfl⟩
      match base, hb with
      | [_, _, _, _], _ => rfl
    | some ss =>
      have e : preOf p = ["span".toList] := by simp [preOf, hbr, hs]
      rw [e, TTMLR.step_span_stop _ _ [] p ss.1 ss.2 hs hbr hne] at h
      cases h
      exact ⟨by rw [e]; rfl, rfl, inv_of rfl hb (by simp [preOf, hbr, inP])⟩

theorem stop_out (st st' : St) (hp : st.p = none) (hf : st.finished = false) (h : step st .stop = some st') :
    st'.path = st.path.tail ∧ Inv st' := by
  cases hpath : st.path with
  | nil => rw [TTMLR.step_stop_nil st hf hpath] at h; cases h
  | cons name rest =>
    rw [TTMLR.step_stop_ctx st hp hf name rest hpath] at h
    split at h <;> cases h <;> exact ⟨rfl, inv_none hp⟩

theorem text_step (st st' : St) (s : Str) (hi : Inv st) (h : step st (.text s) = some st') :
    st'.path = st.path ∧ st'.finished = st.finished ∧ Inv st' := by
  cases hf : st.finished with
  | true =>
    obtain ⟨e, _⟩ := TTMLR.dec_finished st st' _ hf h
    subst e; exact ⟨rfl, hf, hi⟩
  | false =>
    cases hp : st.p with
    | none =>
      rw [TTMLR.step_text_ctx st hp hf] at h
      split at h <;> cases h <;> exact ⟨rfl, hf, inv_none hp⟩
    | some p =>
      rcases hi with hi | hi
      · rw [hf] at hi; cases hi
      obtain ⟨base, hb, hpath⟩ := hi p hp
      rw [eq_inP hp hf hpath] at h
      cases hbr : p.inBr with
      | true => rw [TTMLR.step_br_text _ _ _ hbr] at h; cases h
      | false =>
        cases hs : p.span with
        | none =>
          have e : preOf p = [] := by simp [preOf, hbr, hs]
          rw [e, TTMLR.step_top_text _ p hs hbr] at h
          have keep : ∀ q : PState, q.span = none → q.inBr = false →
              Inv (inP { st with path := base } [] q) := fun q h1 h2 =>
            inv_of rfl hb (by simp [preOf, h1, h2, inP])
          split at h
          · split at h
            · cases h; exact ⟨by rw [hpath, e]; rfl, rfl, keep p hs hbr⟩
            · cases h
          · split at h
            · cases h
            · split at h
              · cases h
              · cases h; exact ⟨by rw [hpath, e]; rfl, rfl, keep _ hs hbr⟩
        | some ss =>
          rw [TTMLR.step_span_text _ _ p ss.1 ss.2 hs hbr] at h
          split at h
          · cases h
          · cases h; exact ⟨hpath ▸ rfl, rfl, inv_of rfl hb (by simp [preOf, hbr, hs, inP])⟩

/-- the condition under which `dropIndent` keeps a character-data token whatever it holds -/
def keepTop (stack : List Str) : Bool :=
  match stack with
  | p :: _ => p = "span".toList || p = "title".toList || p = "copyright".toList
  | [] => false

theorem head_preOf (p : PState) (base : List Str) (x : Str) (h : (preOf p ++ base).head? = some x)
    (h1 : x ≠ "br".toList) (h2 : x ≠ "span".toList) : p.inBr = false ∧ p.span = none := by
  cases hbr : p.inBr with
  | true =>
    simp only [preOf, hbr, if_true, List.cons_append, List.nil_append, List.head?_cons, Option.some.injEq] at h
    exact absurd h.symm h1
  | false =>
    cases hs : p.span with
    | none => exact ⟨rfl, rfl⟩
    | some ss =>
      simp only [preOf, hbr, hs, Bool.false_eq_true, if_false, Option.isSome_some, if_true, List.nil_append,
        List.cons_append, List.head?_cons, Option.some.injEq] at h
      exact absurd h.symm h2

/-- a white-space token with a line feed, outside `span` / `title` / `copyright` / `br`, changes nothing -/
theorem text_noop (st : St) (s : Str) (hi : Inv st) (hsp : allSpace s = true) (hnl : hasNL s = true)
    (hk : st.finished = true ∨ (keepTop st.path = false ∧ st.path.head? ≠ some "br".toList)) :
    step st (.text s) = some st := by
  cases hf : st.finished with
  | true => rw [TTMLR.step_fin st hf]; exact if_pos hsp
  | false =>
    rcases hk with hk | ⟨hk1, hk2⟩
    · rw [hf] at hk; cases hk
    cases hp : st.p with
    | some p =>
      rcases hi with hi | hi
      · rw [hf] at hi; cases hi
      obtain ⟨base, hb, hpath⟩ := hi p hp
      cases hpp : st.path with
      | nil => rw [hpath] at hpp; simp at hpp; rw [hpp.2] at hb; cases hb
      | cons x rest =>
        have hx1 : x ≠ "br".toList := by
          intro e; rw [hpp, e] at hk2; exact hk2 rfl
        have hx2 : x ≠ "span".toList := by
          intro e
          rw [hpp, e] at hk1
          simp [keepTop] at hk1
        obtain ⟨i1, i2⟩ := head_preOf p base x (by rw [← hpath, hpp]; rfl) hx1 hx2
        have e : preOf p = [] := by simp [preOf, i1, i2]
        rw [eq_inP hp hf hpath, e, TTMLR.step_top_text _ p i2 i1, if_pos hsp, if_pos hnl]
    | none =>
      rw [TTMLR.step_text_ctx st hp hf]
      exact TTMLR.ctxOf_plain (fun e => absurd (e ▸ hk1) (by decide)) (fun e => absurd (e ▸ hk1) (by decide)) _ _ _

theorem dropIndent_text (s : Str) (rest : List XTok) (stack : List Str) :
    dropIndent (.text s :: rest) stack
      = if (!keepTop stack && s.all isSpace) = true then dropIndent rest stack else .text s :: dropIndent rest stack := by
  cases stack <;> rfl

theorem indentOk_text (s : Str) (rest : List XTok) (stack : List Str) :
    indentOk (.text s :: rest) stack
      = ((if (!keepTop stack && s.all isSpace) = true then hasNL s && !(stack.head? == some "br".toList) else true)
          && indentOk rest stack) := by
  cases stack <;> rfl

theorem run_dropIndent : ∀ (toks : List XTok) (stack : List Str) (st : St), Inv st →
    (st.finished = true ∨ st.path = stack) → indentOk toks stack = true →
    run (specToks toks) st = run (specToks (dropIndent toks stack)) st := by
  intro toks
  induction toks with
  | nil => intro stack st _ _ _; rfl
  | cons t rest ih =>
    intro stack st hi hrel hok
    cases t with
    | start sp n a =>
      rw [dropIndent, TTMLR.specToks_start, TTMLR.specToks_start, TTMLR.run_cons, TTMLR.run_cons]
      simp only [indentOk] at hok
      cases hs : step st (.start sp n a) with
      | none => rfl
      | some st' =>
        simp only
        cases hf : st.finished with
        | true => rw [TTMLR.step_fin st hf] at hs; cases hs
        | false =>
          have hpath : st.path = stack := by
            rcases hrel with h | h
            · rw [hf] at h; cases h
            · exact h
          cases hp : st.p with
          | some p =>
            obtain ⟨e1, e2, e3⟩ := start_in st st' p sp n a hp hf hi hs
            exact ih (n :: stack) st' e3 (Or.inr (by rw [e1, hpath])) hok
          | none =>
            obtain ⟨e1, e2, e3⟩ := start_out st st' sp n a hp hf hs
            exact ih (n :: stack) st' e3 (Or.inr (by rw [e1, hpath])) hok
    | stop sp n =>
      rw [dropIndent, TTMLR.specToks_stop, TTMLR.specToks_stop, TTMLR.run_cons, TTMLR.run_cons]
      simp only [indentOk] at hok
      cases hs : step st .stop with
      | none => rfl
      | some st' =>
        simp only
        cases hf : st.finished with
        | true => rw [TTMLR.step_fin st hf] at hs; cases hs
        | false =>
          have hpath : st.path = stack := by
            rcases hrel with h | h
            · rw [hf] at h; cases h
            · exact h
          cases hp : st.p with
          | some p =>
            obtain ⟨e1, e2, e3⟩ := stop_in st st' p hp hf hi hs
            exact ih stack.tail st' e3 (Or.inr (by rw [e1, hpath])) hok
          | none =>
            obtain ⟨e1, e3⟩ := stop_out st st' hp hf hs
            exact ih stack.tail st' e3 (Or.inr (by rw [e1, hpath])) hok
    | other =>
      rw [dropIndent, TTMLR.specToks_other, TTMLR.specToks_other, TTMLR.run_cons, TTMLR.run_cons, TTMLR.step_other_any]
      simp only [indentOk] at hok
      exact ih stack st hi hrel hok
    | text s =>
      rw [dropIndent_text]
      rw [indentOk_text, Bool.and_eq_true] at hok
      obtain ⟨hcond, hok'⟩ := hok
      by_cases hd : (!keepTop stack && s.all isSpace) = true
      · -- dropped
        simp only [hd, if_true, Bool.and_eq_true, Bool.not_eq_true', beq_eq_false_iff_ne, ne_eq] at hcond ⊢
        simp only [Bool.and_eq_true, Bool.not_eq_true'] at hd
        rw [TTMLR.specToks_text, TTMLR.run_cons]
        have hno : step st (.text s) = some st := by
          apply text_noop st s hi hd.2 hcond.1
          rcases hrel with h | h
          · exact Or.inl h
          · exact Or.inr (by rw [h]; exact ⟨hd.1, hcond.2⟩)
        rw [hno]
        exact ih stack st hi hrel hok'
      · -- kept
        simp only [hd, Bool.false_eq_true, if_false]
        rw [TTMLR.specToks_text, TTMLR.specToks_text, TTMLR.run_cons, TTMLR.run_cons]
        cases hs : step st (.text s) with
        | none => rfl
        | some st' =>
          obtain ⟨e1, e2, e3⟩ := text_step st st' s hi hs
          simp only
          apply ih stack st' e3 _ hok'
          rcases hrel with h | h
          · exact Or.inl (by rw [e2, h])
          · exact Or.inr (by rw [e1, h])

/-- **Indentation is invisible to the decoder** (all token lists): if every character-data token `dropIndent` removes
    holds a line feed and is not directly inside a `br`, decoding the tokens and decoding them without those tokens
    give the same answer. -/
theorem decode_dropIndent (toks : List XTok) (h : indentOk toks [] = true) :
    decode (specToks toks) = decode (specToks (dropIndent toks [])) := by
  unfold decode
  rw [run_dropIndent toks [] {} inv_init (Or.inr rfl) h]

end TTMLW2
end Astisub
