import Astisub.Lemmas.TTMLRead2Dec
import Astisub.Lemmas.TTMLRead2XAttr
import Astisub.Lemmas.TTMLRead2SAttr

/-!
# Lemmas/TTMLRead2Doc — the independent decoder and the `encoding/xml` contract run in lockstep over a document

`Spec.TTML.step` (decoder) and `TTMLR.ustep` (`Decode(&TTMLIn)` as a function of the tokens) are two state machines
over the same token list.  `Rel` relates their states outside paragraphs, where both dispatch on the place
`ctxOf path` of the element (`Lemmas/TTMLRead2Step` for the decoder): `sim_start`, `sim_text`, `sim_stop` go place by
place.  A paragraph is crossed in one jump (`TTMLR.paraBody_of_run`, `Lemmas/TTMLRead2Dec`, on the decoder side,
`urun_para` on the contract side).
-/

namespace Astisub
namespace TTMLR
open Go TTML
open Spec.TTML (St PState Tok step run GRun GDef GCue GDoc hasNL allSpace ref? styling attr? natAttr denote)
open TTMLDoc (ctxOf Ctx)
open Driver.TTMLD (specToks ttmlAttrsOf)

def inU (u : USt) (pre : List Str) (s : InSub) : USt :=
  { u with path := pre ++ u.path, cur := some s, finished := false }

def addTok (s : InSub) (l : List XTok) : InSub := { s with toks := s.toks ++ l }

def closeU (u : USt) (s : InSub) : USt :=
  { u with path := u.path.tail, cur := none, subs := u.subs ++ [s], finished := false }

theorem addTok_addTok (s : InSub) (a b : List XTok) : addTok (addTok s a) b = addTok s (a ++ b) := by
  simp [addTok, List.append_assoc]

theorem urun_cons (t : XTok) (ts : List XTok) (u : USt) :
    urun (t :: ts) u = match ustep u t with | some u' => urun ts u' | none => none := rfl

theorem urun_some {t : XTok} {u u' : USt} (ts : List XTok) (h : ustep u t = some u') : urun (t :: ts) u = urun ts u' := by
  rw [urun_cons, h]

theorem ustep_in_start (u : USt) (pre : List Str) (s : InSub) (sp n : Str) (a : List XAttr) :
    ustep (inU u pre s) (.start sp n a) = some (inU u (n :: pre) (addTok s [.start sp n a])) := by
  simp [ustep, inU, addTok]

theorem ustep_in_text (u : USt) (pre : List Str) (s : InSub) (x : Str) :
    ustep (inU u pre s) (.text x) = some (inU u pre (addTok s [.text x])) := by
  simp [ustep, inU, addTok]

theorem ustep_in_other (u : USt) (pre : List Str) (s : InSub) :
    ustep (inU u pre s) .other = some (inU u pre (addTok s [.other])) := by
  simp [ustep, inU, addTok]

theorem ustep_in_stop (u : USt) (n : Str) (pre : List Str) (s : InSub) (sp m : Str) (hl : u.path.length = 4) :
    ustep (inU u (n :: pre) s) (.stop sp m) = some (inU u pre (addTok s [.stop sp m])) := by
  have : ¬ (pre.length + u.path.length + 1 = 4) := by omega
  simp [ustep, inU, addTok, this]

theorem ustep_in_close (u : USt) (s : InSub) (sp m : Str) (hl : u.path.length = 4) :
    ustep (inU u [] s) (.stop sp m) = some (closeU u s) := by
  simp [ustep, inU, closeU, hl]

theorem urun_br {b : List XTok} (h : BrBody b) : ∀ (R : List XTok) (u : USt) (n : Str) (pre : List Str) (s : InSub),
    u.path.length = 4 → urun (b ++ R) (inU u (n :: pre) s) = urun R (inU u pre (addTok s b)) := by
  induction h with
  | stop sp m =>
    intro R u n pre s hl
    rw [List.singleton_append, urun_some _ (ustep_in_stop u n pre s sp m hl)]
  | other _ ih =>
    intro R u n pre s hl
    rw [List.cons_append, urun_some _ (ustep_in_other _ _ _), ih R u n pre _ hl, addTok_addTok]
    rfl

theorem urun_span {b : List XTok} {segs : List Str} (h : SpanBody b segs) :
    ∀ (R : List XTok) (u : USt) (n : Str) (pre : List Str) (s : InSub),
    u.path.length = 4 → urun (b ++ R) (inU u (n :: pre) s) = urun R (inU u pre (addTok s b)) := by
  induction h with
  | stop sp m =>
    intro R u n pre s hl
    rw [List.singleton_append, urun_some _ (ustep_in_stop u n pre s sp m hl)]
  | other _ ih =>
    intro R u n pre s hl
    rw [List.cons_append, urun_some _ (ustep_in_other _ _ _), ih R u n pre _ hl, addTok_addTok]
    rfl
  | text _ _ ih =>
    intro R u n pre s hl
    rw [List.cons_append, urun_some _ (ustep_in_text _ _ _ _), ih R u n pre _ hl, addTok_addTok]
    rfl
  | @br sp a b r segs hb _ ih =>
    intro R u n pre s hl
    simp only [List.cons_append, List.append_assoc]
    rw [urun_some _ (ustep_in_start _ _ _ _ _ _), urun_br hb _ u _ _ _ hl, ih R u n pre _ hl,
      addTok_addTok, addTok_addTok]
    simp

theorem urun_para {r : List XTok} {its : List PItem} (h : ParaBody r its) :
    ∀ (R : List XTok) (u : USt) (s : InSub), u.path.length = 4 →
    ∃ body sp n, r = body ++ [.stop sp n] ∧ urun (r ++ R) (inU u [] s) = urun R (closeU u (addTok s body)) ∧
      ∀ sp' n', ParaBody (body ++ [.stop sp' n']) its := by
  induction h with
  | stop sp m =>
    intro R u s hl
    refine ⟨[], sp, m, rfl, ?_, fun sp' n' => .stop sp' n'⟩
    rw [List.singleton_append, urun_some _ (ustep_in_close u s sp m hl)]
    simp [addTok]
  | other _ ih =>
    intro R u s hl
    obtain ⟨body, sp, n, e, hr, hp⟩ := ih R u (addTok s [.other]) hl
    refine ⟨.other :: body, sp, n, by rw [e]; rfl, ?_, fun sp' n' => .other (hp sp' n')⟩
    rw [List.cons_append, urun_some _ (ustep_in_other _ _ _), hr, addTok_addTok]
    rfl
  | @ws x _ _ hx _ ih =>
    intro R u s hl
    obtain ⟨body, sp, n, e, hr, hp⟩ := ih R u (addTok s [.text x]) hl
    refine ⟨.text x :: body, sp, n, by rw [e]; rfl, ?_, fun sp' n' => .ws hx (hp sp' n')⟩
    rw [List.cons_append, urun_some _ (ustep_in_text _ _ _ _), hr, addTok_addTok]
    rfl
  | @text x _ _ hx hx' _ ih =>
    intro R u s hl
    obtain ⟨body, sp, n, e, hr, hp⟩ := ih R u (addTok s [.text x]) hl
    refine ⟨.text x :: body, sp, n, by rw [e]; rfl, ?_, fun sp' n' => .text hx hx' (hp sp' n')⟩
    rw [List.cons_append, urun_some _ (ustep_in_text _ _ _ _), hr, addTok_addTok]
    rfl
  | @br sp a b r its hb _ ih =>
    intro R u s hl
    obtain ⟨body, sp1, n, e, hr, hp⟩ := ih R u (addTok (addTok s [.start sp "br".toList a]) b) hl
    refine ⟨.start sp "br".toList a :: b ++ body, sp1, n, by rw [e]; simp, ?_, fun sp' n' => ?_⟩
    · simp only [List.cons_append, List.append_assoc]
      rw [urun_some _ (ustep_in_start _ _ _ _ _ _), urun_br hb _ u _ [] _ hl, hr,
        addTok_addTok, addTok_addTok]
      simp
    · have := ParaBody.br (sp := sp) (a := a) hb (hp sp' n')
      simpa using this
  | @span sp a b r segs its hb _ ih =>
    intro R u s hl
    obtain ⟨body, sp1, n, e, hr, hp⟩ := ih R u (addTok (addTok s [.start sp "span".toList a]) b) hl
    refine ⟨.start sp "span".toList a :: b ++ body, sp1, n, by rw [e]; simp, ?_, fun sp' n' => ?_⟩
    · simp only [List.cons_append, List.append_assoc]
      rw [urun_some _ (ustep_in_start _ _ _ _ _ _), urun_span hb _ u _ [] _ hl, hr,
        addTok_addTok, addTok_addTok]
      simp
    · have := ParaBody.span (sp := sp) (a := a) hb (hp sp' n')
      simpa using this

/-- the two lists have the same length and are related element by element -/
inductive All2 {α β : Type} (R : α → β → Prop) : List α → List β → Prop where
  | nil : All2 R [] []
  | cons {a : α} {b : β} {as : List α} {bs : List β} : R a b → All2 R as bs → All2 R (a :: as) (b :: bs)

theorem All2.snoc {α β : Type} {R : α → β → Prop} {as : List α} {bs : List β} {a : α} {b : β}
    (h : All2 R as bs) (hab : R a b) : All2 R (as ++ [a]) (bs ++ [b]) := by
  induction h with
  | nil => exact .cons hab .nil
  | cons h1 _ ih => exact .cons h1 ih

theorem All2.length {α β : Type} {R : α → β → Prop} {as : List α} {bs : List β} (h : All2 R as bs) :
    as.length = bs.length := by
  induction h with
  | nil => rfl
  | cons _ _ ih => simp [ih]

/-- the view the `ttml.read` check takes of the attributes the reader returns for the decoded fields `kv` -/
def attrView (kv : KV) : Spec.TTML.AttrL := ttmlAttrsOf (some (styleAttributes kv))

theorem attrView_eq (kv : KV) : attrView kv = viewKV kv := view_styleAttributes kv

/-- a `style` / `region` as the decoder has it and as `encoding/xml` delivers it -/
def DefRel (g : GDef) (d : InDef) : Prop :=
  d.id = g.id ∧ d.style = g.ref.getD [] ∧ (∀ v, g.ref = some v → v ≠ []) ∧ attrView d.attrs = g.attrs

/-- a cue as the decoder has it and the `<p>` as `encoding/xml` delivers it (`toks`: the tokens of its content) -/
def CueRel (fr tr : Nat) (c : GCue) (s : InSub) : Prop :=
  (∃ b e, s.begins = [b] ∧ s.ends = [e] ∧ denote b fr tr = some c.b ∧ denote e fr tr = some c.e ∧
    timeFits b = true ∧ timeFits e = true) ∧
  s.region = c.region.getD [] ∧ (∀ v, c.region = some v → v ≠ []) ∧
  s.style = c.style.getD [] ∧ (∀ v, c.style = some v → v ≠ []) ∧
  attrView s.attrs = c.attrs ∧
  ∃ its, ParaBody (s.toks ++ [pStop]) its ∧ good its ∧
    c.lines = (semP mkTG mkSG its ([], [])).1 ++ [(semP mkTG mkSG its ([], [])).2]

/-- the clauses of `DefRel g d`, by name -/
structure DefFacts (g : GDef) (d : InDef) : Prop where
  id : d.id = g.id
  ref : d.style = g.ref.getD []
  refNe : ∀ v, g.ref = some v → v ≠ []
  attrs : attrView d.attrs = g.attrs

theorem DefRel.facts {g : GDef} {d : InDef} (h : DefRel g d) : DefFacts g d := ⟨h.1, h.2.1, h.2.2.1, h.2.2.2⟩

/-- the clauses of `CueRel fr tr c s`, by name: the raw `begin` / `end` texts and what they denote, the two references,
    the attributes, and the grammatical body with the cue's lines -/
structure CueFacts (fr tr : Nat) (c : GCue) (s : InSub) : Prop where
  times : ∃ b e, s.begins = [b] ∧ s.ends = [e] ∧ denote b fr tr = some c.b ∧ denote e fr tr = some c.e ∧
    timeFits b = true ∧ timeFits e = true
  region : s.region = c.region.getD []
  regionNe : ∀ v, c.region = some v → v ≠ []
  style : s.style = c.style.getD []
  styleNe : ∀ v, c.style = some v → v ≠ []
  attrs : attrView s.attrs = c.attrs
  body : ∃ its, ParaBody (s.toks ++ [pStop]) its ∧ good its ∧
    c.lines = (semP mkTG mkSG its ([], [])).1 ++ [(semP mkTG mkSG its ([], [])).2]

theorem CueRel.facts {fr tr : Nat} {c : GCue} {s : InSub} (h : CueRel fr tr c s) : CueFacts fr tr c s :=
  ⟨h.1, h.2.1, h.2.2.1, h.2.2.2.1, h.2.2.2.2.1, h.2.2.2.2.2.1, h.2.2.2.2.2.2⟩

theorem CueFacts.rel {fr tr : Nat} {c : GCue} {s : InSub} (h : CueFacts fr tr c s) : CueRel fr tr c s :=
  ⟨h.times, h.region, h.regionNe, h.style, h.styleNe, h.attrs, h.body⟩

/-- decoder state and contract state outside a paragraph.  `frb`: the frame rate read so far fits 64 bits (what
    `denote_timeExpr` needs of it).  `fresh`: before the root start tag nothing has been collected — the root sets the
    frame and tick rate, and `cues` speaks of the cues under the rates of the state, so it must be empty there. -/
structure Rel (st : St) (u : USt) : Prop where
  p : st.p = none
  cur : u.cur = none
  path : u.path = st.path
  fin : u.finished = st.finished
  fr : u.framerate = (st.fr : Int)
  tr : u.tickrate = (st.tr : Int)
  frb : st.fr ≤ int64Max
  buf : u.buf = st.buf
  title : u.title = st.doc.title
  copyright : u.copyright = st.doc.copyright
  lang : u.lang = st.doc.lang
  styles : All2 DefRel st.doc.styles u.styles
  regions : All2 DefRel st.doc.regions u.regions
  cues : All2 (CueRel st.fr st.tr) st.doc.cues u.subs
  fresh : st.path = [] → st.finished = false → st.doc.cues = [] ∧ u.subs = [] ∧ st.doc.lang = []

theorem mkDef_rel (a : List XAttr) (g : GDef) (hfit : a.all attrFits = true) (h : Spec.TTML.mkDef a = some g) :
    ∃ d, mkDef a = some d ∧ DefRel g d := by
  unfold Spec.TTML.mkDef at h
  cases h1 : attr? a "id" with
  | none => simp [h1] at h
  | some o =>
    cases o with
    | none => simp [h1] at h
    | some id =>
      cases h2 : ref? a "style" with
      | none => simp [h1, h2] at h
      | some r =>
        cases h3 : styling a with
        | none => simp [h1, h2, h3] at h
        | some sa =>
          simp only [h1, h2, h3] at h
          by_cases hid : id.isEmpty = true
          · simp [hid] at h
          · simp only [hid, Bool.false_eq_true, if_false, Option.some.injEq] at h
            obtain ⟨kv, hkv, hv⟩ := styling_inAttrs a sa hfit h3
            refine ⟨{ id := lastAttr a "id", style := lastAttr a "style", attrs := kv }, by simp [mkDef, hkv], ?_⟩
            subst h
            have hid' := ((attr_unique a "id" (matched_of_mem (by simp)) hfit).2 id h1).2
            have hst := ref_lastAttr a "style" r (matched_of_mem (by simp)) hfit h2
            exact ⟨hid', hst.1, hst.2, by rw [attrView_eq]; exact hv⟩

theorem ustep_fin (u : USt) (t : XTok) (h : u.finished = true) : ustep u t = some u := by
  simp [ustep, h]

theorem ustep_start (u : USt) (hf : u.finished = false) (hc : u.cur = none) (sp n : Str) (a : List XAttr) :
    ustep u (.start sp n a) =
      match ctxOf (n :: u.path) with
      | .root =>
        match intAttr a "frameRate", intAttr a "tickRate" with
        | some fr, some tr => some { u with path := n :: u.path, framerate := fr, tickrate := tr, lang := lastAttr a "lang" }
        | _, _ => none
      | .style => (mkDef a).map fun d => { u with path := n :: u.path, styles := u.styles ++ [d] }
      | .region => (mkDef a).map fun d => { u with path := n :: u.path, regions := u.regions ++ [d] }
      | .title => some { u with path := n :: u.path, buf := [] }
      | .copyright => some { u with path := n :: u.path, buf := [] }
      | .para => (mkSub a).map fun p => { u with path := n :: u.path, cur := some p }
      | .other => if u.path.isEmpty then none else some { u with path := n :: u.path } := by
  simp only [ustep, hf, hc, Bool.false_eq_true, if_false]
  cases ctxOf (n :: u.path) <;> rfl

theorem ustep_other (u : USt) (hc : u.cur = none) : ustep u .other = some u := by
  by_cases hf : u.finished = true
  · exact ustep_fin u _ hf
  · simp [ustep, hf, hc]

theorem rel_init : Rel {} {} :=
  { p := rfl, cur := rfl, path := rfl, fin := rfl, fr := rfl, tr := rfl, frb := by decide, buf := rfl, title := rfl,
    copyright := rfl, lang := rfl, styles := .nil, regions := .nil, cues := .nil, fresh := fun _ _ => ⟨rfl, rfl, rfl⟩ }

theorem sim_start (st st1 : St) (u : USt) (sp n : Str) (a : List XAttr) (hR : Rel st u) (hf : st.finished = false)
    (hfa : a.all attrFits = true) (h : step st (.start sp n a) = some st1) :
    (∃ u1, ustep u (.start sp n a) = some u1 ∧ Rel st1 u1) ∨ ctxOf (n :: st.path) = .para := by
  have ufin : u.finished = false := by rw [hR.fin, hf]
  rw [step_start_ctx st hR.p hf] at h
  obtain ⟨_, h⟩ := Option.ite_none_left_eq_some.mp h
  rw [ustep_start u ufin hR.cur, hR.path]
  have hi := ctxOf_inv (n :: st.path)
  cases hc : ctxOf (n :: st.path) <;> rw [hc] at h hi <;> dsimp only at h hi ⊢
  · -- root: the rates, the language; nothing has been read yet (`fresh`)
    left
    have hpe : st.path = [] := (List.cons.inj hi).2
    obtain ⟨hc0, hs0, hl0⟩ := hR.fresh hpe hf
    split at h
    · rename_i fr tr hfr htr
      obtain ⟨ifr, bfr⟩ := natAttr_intAttr a "frameRate" fr (.inl rfl) hfa hfr
      obtain ⟨itr, _⟩ := natAttr_intAttr a "tickRate" tr (.inr rfl) hfa htr
      obtain ⟨l, e, hlang⟩ : ∃ l, st1 = { st with path := n :: st.path, fr := fr, tr := tr, doc := { st.doc with lang := l } } ∧
          lastAttr a "lang" = l := by
        have hu := attr_unique a "lang" (matched_of_mem (by simp)) hfa
        split at h
        · cases h
        · rename_i l hl; exact ⟨l, (Option.some.inj h).symm, (hu.2 l hl).2⟩
        · rename_i hl; exact ⟨st.doc.lang, (Option.some.inj h).symm, by rw [hl0]; exact (hu.1 hl).2⟩
      subst e
      refine ⟨{ u with path := n :: u.path, framerate := fr, tickrate := tr, lang := lastAttr a "lang" },
        by simp only [ifr, itr, hR.path], { hR with
        path := by simp [hR.path], fr := rfl, tr := rfl, frb := bfr, lang := hlang,
        cues := by simp only [hc0, hs0]; exact .nil,
        fresh := fun hh => by simp at hh }⟩
    · cases h
  · left
    obtain ⟨g, hg, rfl⟩ := Option.map_eq_some_iff.mp h
    obtain ⟨d, hd, hrel⟩ := mkDef_rel a g hfa hg
    exact ⟨{ u with path := n :: u.path, styles := u.styles ++ [d] }, by simp only [hd, Option.map_some, hR.path], { hR with
      path := by simp [hR.path], styles := hR.styles.snoc hrel, fresh := fun hh => by simp at hh }⟩
  · left
    obtain ⟨g, hg, rfl⟩ := Option.map_eq_some_iff.mp h
    obtain ⟨d, hd, hrel⟩ := mkDef_rel a g hfa hg
    exact ⟨{ u with path := n :: u.path, regions := u.regions ++ [d] }, by simp only [hd, Option.map_some, hR.path], { hR with
      path := by simp [hR.path], regions := hR.regions.snoc hrel, fresh := fun hh => by simp at hh }⟩
  iterate 2
    · left
      obtain rfl := Option.some.inj h
      exact ⟨{ u with path := n :: u.path, buf := [] }, by rw [hR.path], { hR with path := by simp [hR.path], buf := rfl, fresh := fun hh => by simp at hh }⟩
  · exact .inr rfl
  · left
    obtain ⟨hl1, h⟩ := Option.ite_none_left_eq_some.mp h
    have hne : st.path ≠ [] := fun e => hl1 (by rw [e]; rfl)
    have e : st1 = { st with path := n :: st.path } := by
      split at h
      · exact (Option.some.inj (Option.ite_none_right_eq_some.mp h).2).symm
      · exact (Option.some.inj h).symm
    subst e
    exact ⟨{ u with path := n :: u.path }, by simp [hne, hR.path], { hR with path := by simp [hR.path], fresh := fun hh => by simp at hh }⟩

theorem ustep_text (u : USt) (hf : u.finished = false) (hc : u.cur = none) (s : Str) :
    ustep u (.text s) =
      match ctxOf u.path with
      | .title => some { u with buf := u.buf ++ s }
      | .copyright => some { u with buf := u.buf ++ s }
      | _ => some u := by
  simp only [ustep, hf, hc, Bool.false_eq_true, if_false]
  cases ctxOf u.path <;> rfl

theorem sim_text (st st1 : St) (u : USt) (s : Str) (hR : Rel st u) (hf : st.finished = false)
    (h : step st (.text s) = some st1) : ∃ u1, ustep u (.text s) = some u1 ∧ Rel st1 u1 := by
  rw [step_text_ctx st hR.p hf] at h
  rw [ustep_text u (by rw [hR.fin, hf]) hR.cur, congrArg ctxOf hR.path]
  cases hc : ctxOf st.path <;> rw [hc] at h <;> obtain rfl := Option.some.inj h
  case title | copyright => exact ⟨_, rfl, { hR with buf := by simp [hR.buf] }⟩
  all_goals exact ⟨u, rfl, hR⟩

theorem ustep_stop (u : USt) (hf : u.finished = false) (hc : u.cur = none) (sp m name : Str) (rest : List Str)
    (hp : u.path = name :: rest) :
    ustep u (.stop sp m) =
      match ctxOf u.path with
      | .title => some { u with path := rest, title := u.buf }
      | .copyright => some { u with path := rest, copyright := u.buf }
      | _ => some { u with path := rest, finished := rest.isEmpty } := by
  simp only [ustep, hf, hc, Bool.false_eq_true, if_false, hp]
  cases ctxOf (name :: rest) <;> rfl

theorem sim_stop (st st1 : St) (u : USt) (sp m : Str) (hR : Rel st u) (hf : st.finished = false)
    (h : step st .stop = some st1) : ∃ u1, ustep u (.stop sp m) = some u1 ∧ Rel st1 u1 := by
  have ufin : u.finished = false := by rw [hR.fin, hf]
  cases hpath : st.path with
  | nil =>
    rw [step_stop_nil st hf hpath] at h
    cases h
  | cons name rest =>
    rw [step_stop_ctx st hR.p hf name rest hpath] at h
    rw [ustep_stop u ufin hR.cur sp m name rest (hR.path.trans hpath), congrArg ctxOf hR.path]
    have hi := ctxOf_inv st.path
    -- `title` and `copyright` are four deep: closing them does not finish the document
    have hlong : ∀ q : List Str, q.length = 4 → st.path = q → rest.isEmpty = false := by
      intro q hl e; rw [hpath] at e; subst e; cases rest with
      | nil => cases hl
      | cons _ _ => rfl
    cases hc : ctxOf st.path <;> rw [hc] at h hi <;> obtain rfl := Option.some.inj h
    case title =>
      have hr := hlong _ rfl hi
      exact ⟨_, rfl, { hR with
        path := rfl, fin := by simp [ufin, hr], title := by simp [hR.buf],
        fresh := fun hh => by simp at hh; rw [hh] at hr; cases hr }⟩
    case copyright =>
      have hr := hlong _ rfl hi
      exact ⟨_, rfl, { hR with
        path := rfl, fin := by simp [ufin, hr], copyright := by simp [hR.buf],
        fresh := fun hh => by simp at hh; rw [hh] at hr; cases hr }⟩
    all_goals exact ⟨_, rfl, { hR with
      path := rfl, fin := rfl, fresh := fun hh hh2 => by simp at hh hh2; rw [hh] at hh2; simp at hh2 }⟩

theorem sim_step (st st1 : St) (u : USt) (t : XTok) (hR : Rel st u) (hfit : tokFits t = true)
    (h : step st (specTok t) = some st1) :
    (∃ u1, ustep u t = some u1 ∧ Rel st1 u1) ∨
    (st.finished = false ∧ ∃ sp n a, t = .start sp n a ∧ n :: st.path = pPara) := by
  by_cases hf : st.finished = true
  · obtain ⟨e, _⟩ := dec_finished st st1 (specTok t) hf h
    exact .inl ⟨u, ustep_fin u t (by rw [hR.fin, hf]), by rw [e]; exact hR⟩
  have hf : st.finished = false := by simpa using hf
  cases t with
  | other =>
    obtain rfl : st = st1 := Option.some.inj ((step_other_any st).symm.trans h)
    exact .inl ⟨u, ustep_other u hR.cur, hR⟩
  | text s => exact .inl (sim_text st st1 u s hR hf h)
  | stop sp m => exact .inl (sim_stop st st1 u sp m hR hf h)
  | start sp n a =>
    have hfa : a.all attrFits = true := by
      simp only [tokFits, Bool.and_eq_true] at hfit
      exact hfit.1
    refine (sim_start st st1 u sp n a hR hf hfa h).imp_right fun hc => ⟨hf, sp, n, a, rfl, ?_⟩
    have := ctxOf_inv (n :: st.path)
    rwa [hc] at this

/-- a whole paragraph at once: from its start tag both machines go on, after its end tag, in related states; the cue
    appended is related to the collected `<p>` through the grammar `ParaBody` the decoder's run exhibits -/
theorem para_jump (st stF : St) (u : USt) (sp n : Str) (a : List XAttr) (T : List XTok)
    (hR : Rel st u) (hf : st.finished = false) (hq : n :: st.path = pPara)
    (hfit : (XTok.start sp n a :: T).all tokFits = true)
    (hrun : run (specToks (XTok.start sp n a :: T)) st = some stF) (hfin : stF.finished = true) :
    ∃ (R : List XTok) (st2 : St) (u2 : USt), R.length ≤ T.length ∧ R.all tokFits = true ∧
      run (specToks R) st2 = some stF ∧ urun (XTok.start sp n a :: T) u = urun R u2 ∧ Rel st2 u2 := by
  obtain ⟨hft, hfT⟩ := fits_cons hfit
  have hfa : a.all attrFits = true := by
    simp only [tokFits, Bool.and_eq_true] at hft
    exact hft.1
  have hp := hR.p
  have ufin : u.finished = false := by rw [hR.fin, hf]
  have ucur := hR.cur
  rw [specToks_cons, run_cons] at hrun
  cases hstep : step st (specTok (XTok.start sp n a)) with
  | none => rw [hstep] at hrun; cases hrun
  | some st1 =>
    rw [hstep] at hrun
    simp only at hrun
    have hcq : ctxOf (n :: st.path) = .para := by rw [hq]; decide
    rw [show specTok (XTok.start sp n a) = .start sp n a from rfl, step_start_ctx st hp hf, hcq] at hstep
    obtain ⟨_, hstep⟩ := Option.ite_none_left_eq_some.mp hstep
    dsimp only at hstep
    obtain ⟨b, e, cb, ce, sty, reg, sa, hb, he, hsty, hreg, hsa, hcb, hce, est⟩ :
        ∃ b e cb ce sty reg sa, attr? a "begin" = some (some b) ∧ attr? a "end" = some (some e) ∧
          ref? a "style" = some sty ∧ ref? a "region" = some reg ∧ styling a = some sa ∧
          denote b st.fr st.tr = some cb ∧ denote e st.fr st.tr = some ce ∧
          st1 = inP { st with path := n :: st.path } [] { b := cb, e := ce, style := sty, region := reg, attrs := sa } := by
      split at hstep
      · rename_i b e sty reg sa h1 h2 h3 h4 h5
        split at hstep
        · rename_i cb ce h6 h7
          exact ⟨b, e, cb, ce, sty, reg, sa, h1, h2, h3, h4, h5, h6, h7, (Option.some.inj hstep).symm⟩
        · cases hstep
      · cases hstep
    have hbl : ({ st with path := n :: st.path } : St).path.length = 4 := by
      show (n :: st.path).length = 4
      rw [hq]; rfl
    rw [est] at hrun
    obtain ⟨r, R, its, eT, hpb, hg, hr⟩ :=
      (paraBody_of_run T).1 { st with path := n :: st.path } { b := cb, e := ce, style := sty, region := reg, attrs := sa } stF
        rfl rfl hbl hfT hrun hfin
    obtain ⟨kv, hkv, hview⟩ := styling_inAttrs a sa hfa hsa
    have hc : ctxOf (n :: u.path) = .para := by rw [hR.path, hq]; decide
    -- the contract state at `<p>` and the `InSub` that `mkSub a` is, under names: the goals below would otherwise carry
    -- the two record literals through every step
    obtain ⟨ub, eub⟩ : ∃ ub : USt, ub = { u with path := n :: u.path } := ⟨_, rfl⟩
    obtain ⟨s0, es0⟩ : ∃ s0 : InSub, s0 =
      { begins := allAttr a "begin", ends := allAttr a "end", id := lastAttr a "id", region := lastAttr a "region",
        style := lastAttr a "style", attrs := kv, inner := [], stripped := [], toks := [], toksOk := true } := ⟨_, rfl⟩
    have hul : ub.path.length = 4 := by
      rw [eub]
      show (n :: u.path).length = 4
      rw [hR.path, hq]; rfl
    obtain ⟨body, sp1, n1, er, hur, hpb'⟩ := urun_para hpb R ub s0 hul
    have hstepU : ustep u (XTok.start sp n a) = some (inU ub [] s0) := by
      rw [ustep_start u ufin ucur, hc, eub, es0]
      simp [mkSub, hkv, inU, ufin]
    refine ⟨R, _, closeU ub (addTok s0 body), ?_, ?_, hr, ?_, ?_⟩
    · rw [eT]; simp
    · rw [eT] at hfT; simp only [List.all_append, Bool.and_eq_true] at hfT; exact hfT.2
    · rw [urun_some T hstepU, eT, hur]
    · have hpl : st.path.isEmpty = false := by
        have := (List.cons.inj hq).2
        rw [this]; rfl
      have hreg' := ref_lastAttr a "region" reg (matched_of_mem (by simp)) hfa hreg
      have hsty' := ref_lastAttr a "style" sty (matched_of_mem (by simp)) hfa hsty
      have hcue : CueRel st.fr st.tr
          { b := cb, e := ce, style := sty, region := reg, attrs := sa,
            lines := (semP mkTG mkSG its ([], [])).1 ++ [(semP mkTG mkSG its ([], [])).2] }
          (addTok s0 body) := by
        rw [es0]
        refine CueFacts.rel
          { times := ⟨b, e, ((attr_unique a "begin" (matched_of_mem (by simp)) hfa).2 b hb).1,
              ((attr_unique a "end" (matched_of_mem (by simp)) hfa).2 e he).1, hcb, hce,
              (attr_fits a "begin" b hfa hb).2.1 (.inl rfl), (attr_fits a "end" e hfa he).2.1 (.inr rfl)⟩
            region := hreg'.1, regionNe := hreg'.2, style := hsty'.1, styleNe := hsty'.2
            attrs := by rw [attrView_eq]; exact hview
            body := ⟨its, ?_, hg, rfl⟩ }
        have := hpb' [] ['p']
        simpa [addTok, pStop] using this
      subst eub
      exact { hR with
        p := rfl, cur := rfl, path := by simp [closeU, closeP, hR.path], fin := by simp [closeU, closeP, hpl],
        cues := hR.cues.snoc hcue,
        fresh := fun hh => by simp [closeP] at hh; rw [hh] at hpl; cases hpl }

/-- the simulation over a token list.  The induction is on a bound `k` of the length, not on the list: a paragraph is
    crossed by `para_jump`, which hands back a proper suffix and not the tail. -/
theorem sim : ∀ (k : Nat) (T : List XTok) (st stF : St) (u : USt), T.length ≤ k → Rel st u → T.all tokFits = true →
    run (specToks T) st = some stF → stF.finished = true →
    ∃ uF, urun T u = some uF ∧ Rel stF uF := by
  intro k
  induction k with
  | zero =>
    intro T st stF u hl hR _ hrun _
    have : T = [] := List.length_eq_zero_iff.mp (Nat.le_zero.mp hl)
    subst this
    simp only [specToks, List.map_nil, run, Option.some.injEq] at hrun
    exact ⟨u, rfl, hrun ▸ hR⟩
  | succ k ih =>
    intro T st stF u hl hR hfit hrun hfin
    cases T with
    | nil =>
      simp only [specToks, List.map_nil, run, Option.some.injEq] at hrun
      exact ⟨u, rfl, hrun ▸ hR⟩
    | cons t T =>
      have hrun0 := hrun
      rw [specToks_cons, run_cons] at hrun
      cases hstep : step st (specTok t) with
      | none => rw [hstep] at hrun; cases hrun
      | some st1 =>
        rw [hstep] at hrun
        simp only at hrun
        obtain ⟨hft, hfT⟩ := fits_cons hfit
        rcases sim_step st st1 u t hR hft hstep with ⟨u1, hu1, hR1⟩ | ⟨hf, sp, n, a, et, hq⟩
        · obtain ⟨uF, huF, hRF⟩ := ih T st1 stF u1 (by simpa using hl) hR1 hfT hrun hfin
          exact ⟨uF, by rw [urun_some T hu1]; exact huF, hRF⟩
        · subst et
          obtain ⟨R, st2, u2, hlen, hfR, hr, hur, hR2⟩ := para_jump st stF u sp n a T hR hf hq hfit hrun0 hfin
          obtain ⟨uF, huF, hRF⟩ := ih R st2 stF u2 (by simp at hl; omega) hR2 hfR hr hfin
          exact ⟨uF, by rw [hur]; exact huF, hRF⟩

def okR (r : Option Str) (ids : List Str) : Bool := match r with | none => true | some x => ids.contains x

theorem okR_iff (r : Option Str) (ids : List Str) : okR r ids = true ↔ ∀ v, r = some v → v ∈ ids := by
  cases r with
  | none => simp [okR]
  | some x => simp [okR]

/-- what the decoder checks at the end -/
def finalOk (d : GDoc) : Bool :=
  Spec.TTML.nodup (d.styles.map (·.id)) && Spec.TTML.nodup (d.regions.map (·.id))
    && d.styles.all (fun s => okR s.ref (d.styles.map (·.id))) && d.regions.all (fun s => okR s.ref (d.styles.map (·.id)))
    && d.cues.all (fun c => okR c.style (d.styles.map (·.id)) && okR c.region (d.regions.map (·.id)) &&
        c.lines.all fun l => l.all fun r => okR r.style (d.styles.map (·.id)))

theorem decode_inv (toks : List Spec.TTML.Tok) (d : GDoc) (h : Spec.TTML.decode toks = some d) :
    ∃ stF, run toks {} = some stF ∧ stF.finished = true ∧ stF.doc = d ∧ finalOk d = true := by
  unfold Spec.TTML.decode at h
  cases hr : run toks {} with
  | none => rw [hr] at h; cases h
  | some stF =>
    rw [hr] at h
    simp only at h
    cases hf : stF.finished with
    | false => simp [hf] at h
    | true =>
      simp only [hf, Bool.not_true, Bool.false_eq_true, if_false] at h
      split at h
      · rename_i hc
        simp only [Option.some.injEq] at h
        exact ⟨stF, rfl, hf, h, by rw [← h]; exact hc⟩
      · cases h

theorem decode_unmarshal (toks : List XTok) (d : GDoc) (h : Spec.TTML.decode (specToks toks) = some d)
    (hc : InClass toks = true) :
    ∃ stF uF, stF.doc = d ∧ finalOk d = true ∧ unmarshal toks = some (tinOf uF) ∧ Rel stF uF := by
  obtain ⟨stF, hrun, hfin, hd, hfo⟩ := decode_inv _ d h
  obtain ⟨uF, hu, hR⟩ := sim toks.length toks {} stF {} (Nat.le_refl _) rel_init hc hrun hfin
  refine ⟨stF, uF, hd, hfo, ?_, hR⟩
  unfold unmarshal
  rw [hu]
  simp [hR.fin, hfin]

end TTMLR
end Astisub
