import Astisub.Lemmas.ConvView
import Astisub.Props.C01doc

/-!
# Lemmas/ConvSRT — conversion to SubRip (C07, destination `srt`)

What the SubRip reader returns for a written cue list (`norm (mergeS s)`, `Props/C01doc.lean`) shows the
cues of `s` at millisecond resolution; plain cue lists (`PlainSRT`) are representable once adjacent
unstyled runs are merged.
-/

namespace Astisub
namespace ConvSRT
open Go SRT SRTDoc ConvView Spec.Conv Driver List

theorem mergePlain_texts (items : List LItem) :
    ((mergePlain items).map (·.text)).flatten = (items.map (·.text)).flatten := by
  induction items with
  | nil => rfl
  | cons a rest ih =>
    simp only [List.map_cons, List.flatten_cons, ← ih]
    cases hb : mergePlain rest with
    | nil => simp [mergePlain, hb]
    | cons b r =>
      by_cases hp : (plainRun a && plainRun b) = true
      · simp [mergePlain, hb, hp]
      · simp [mergePlain, hb, hp]

theorem lineTexts_norm_merge (k : Nat) (it : CItem) : lineTexts (normItem k (mergeItem it)) = lineTexts it := by
  simp only [lineTexts, normItem, mergeItem, List.map_map]
  apply List.map_congr_left
  intro l _
  simp only [Function.comp, normLine, mergeLine, List.map_map]
  have : (fun x => x.text) ∘ normRun = fun (x : LItem) => x.text := by funext x; rfl
  rw [this]
  exact mergePlain_texts l.items

theorem view_normItems (items : List CItem) (k : Nat) :
    (normItems k (items.map mergeItem)).map cueView = (items.map cueView).map (truncCue 1000000) := by
  induction items generalizing k with
  | nil => rfl
  | cons it rest ih =>
    simp only [List.map_cons, normItems, ih (k + 1), cueView_trunc 1000000 it _ rfl rfl (lineTexts_norm_merge k it)]

theorem view_norm_merge (s : Subs) : viewOf (norm (mergeS s)) = truncView 1000000 (viewOf s) := by
  simp only [viewOf_eq, norm, mergeS, truncView]
  exact view_normItems s.items 0

/-- a run without SubRip markup: none of `SRTBold`, `SRTItalics`, `SRTUnderline`, a non-empty
    `SRTColor`, a non-empty `SRTPosition`.  Every other attribute (`TTMLColor`, `WebVTTTags`, `STL…`,
    `Teletext…`, `SSA…`), the inline style reference and the start offset are free. -/
def noMarkup (li : LItem) : Bool := plainRun li && ((kvGet li.attrs "SRTPosition").getD [] == [])

/-- a plain line: no run has SubRip markup; the line's text (runs concatenated, however it is cut
    into runs) is made of the simple characters of `simpleText` (letters, digits, blank, `, . ! ?`),
    is not empty and has no blank at either end.  The voice is free. -/
def plainLine (l : Line) : Bool := l.items.all noMarkup && simpleText l.str && edgesOk l.str

/-- **Plain cue lists for SubRip.** at least one cue (an empty list is not written), not more than
    an `int` counts, every line of every cue plain.  Regions, styles, metadata, cue attributes,
    cue style / region references, comments, indexes are free; a cue may have no line at all. -/
def PlainSRT (s : Subs) : Bool :=
  !s.items.isEmpty && decide (s.items.length ≤ int64Max) && s.items.all fun it => it.lines.all plainLine

/-- non-vacuity: two cues with foreign attributes everywhere, several runs per line, a sub-millisecond
    instant, a voice, a comment, a region, styles, metadata -/
def exampleForeign : Subs :=
  { items := [
      { startAt := 1234567890, endAt := 3000000000, index := 7, region := some "r".toList, style := some "s".toList,
        attrs := some [("STLJustificationCode".toList, "2".toList), ("WebVTTAlign".toList, "start".toList)],
        comments := ["seen".toList],
        lines := [ { voice := "Bob".toList,
                     items := [ { text := "Hello, ".toList, attrs := some [("TTMLColor".toList, "#ff0000".toList)] },
                                { text := "".toList, startAt := 5 },
                                { text := "world  42!".toList, style := some "s".toList,
                                  attrs := some [("SSABold".toList, "true".toList), ("TeletextDoubleHeight".toList, "true".toList),
                                                 ("WebVTTTags".toList, "b|i".toList)] } ] },
                   { items := [ { text := "Is it?".toList, attrs := some [("SRTColor".toList, [])] } ] } ] },
      { startAt := 359999999999999, endAt := 0, lines := [] } ],
    regions := [{ id := "r".toList }], styles := [{ id := "s".toList, attrs := some [("TTMLColor".toList, "red".toList)] }],
    metadata := some [("Title".toList, "t".toList)] }

theorem exampleForeign_plain : PlainSRT exampleForeign = true ∧ inRange "srt" exampleForeign = true := by decide +kernel

example : PlainSRT exampleForeign = true := exampleForeign_plain.1
example : inRange "srt" exampleForeign = true := exampleForeign_plain.2
example : plainLine { items := [{ text := " x".toList }] } = false := by decide +kernel
example : plainLine { items := [{ text := "x".toList, attrs := some [("SRTBold".toList, "true".toList)] }] } = false := by decide +kernel
example : plainLine { items := [] } = false := by decide +kernel

theorem plainRun_text (a : LItem) (t : Str) : plainRun { a with text := t } = plainRun a := rfl

theorem mergePlain_all (a : LItem) (rest : List LItem) (h : ∀ x ∈ a :: rest, plainRun x = true) :
    mergePlain (a :: rest) = [{ a with text := ((a :: rest).map (·.text)).flatten }] := by
  induction rest generalizing a with
  | nil => simp [mergePlain]
  | cons b rest ih =>
    have hb := ih b (fun x hx => h x (by simp [List.mem_cons.mp hx]))
    have ha : plainRun a = true := h a (by simp)
    have hbp : plainRun b = true := h b (by simp)
    rw [mergePlain, hb]
    simp [plainRun_text, ha, hbp]

theorem color_none_of_plain (li : LItem) (h : plainRun li = true) : (styleOf li).color = none := by
  simp only [plainRun, styled, Bool.not_eq_true', Bool.or_eq_false_iff] at h
  cases hc : (styleOf li).color with
  | none => rfl
  | some c => rw [hc] at h; simp at h

theorem styleOf_text (a : LItem) (t : Str) : styleOf { a with text := t } = styleOf a := rfl

/-- the runs of a plain line merge into its first run carrying the whole text -/
theorem mergePlain_of_plainLine {l : Line} (h : plainLine l = true) :
    ∃ a, plainRun a = true ∧ (kvGet a.attrs "SRTPosition").getD [] = [] ∧
      mergePlain l.items = [{ a with text := l.str }] := by
  simp only [plainLine, Bool.and_eq_true, List.all_eq_true] at h
  obtain ⟨⟨hm, _⟩, he⟩ := h
  have hm1 : ∀ x ∈ l.items, plainRun x = true ∧ (kvGet x.attrs "SRTPosition").getD [] = [] := by
    intro x hx
    have := hm x hx
    simpa [noMarkup] using this
  cases hi : l.items with
  | nil => simp [Line.str, hi, edgesOk] at he
  | cons a rest =>
    refine ⟨a, (hm1 a (by rw [hi]; simp)).1, (hm1 a (by rw [hi]; simp)).2, ?_⟩
    rw [mergePlain_all a rest (fun x hx => (hm1 x (by rw [hi]; exact hx)).1)]
    simp [Line.str, hi]

theorem repLine_of_plain (l : Line) (h : plainLine l = true) : RepLine (mergeLine l) = true := by
  obtain ⟨a, ha1, ha2, hmerge⟩ := mergePlain_of_plainLine h
  simp only [plainLine, Bool.and_eq_true, List.all_eq_true, simpleText_eq] at h
  obtain ⟨⟨_, hs⟩, he⟩ := h
  obtain ⟨c0, c1, hc0, hc1, m0, _, s0, s1⟩ := edges he hs
  have hv0 : visible c0 = true := by simp [visible, s0]
  have hv1 : visible c1 = true := by simp [visible, s1]
  have hrun : RepRun { a with text := l.str } = true := by
    simp only [RepRun, Bool.and_eq_true, List.any_eq_true, List.all_eq_true, Bool.not_eq_true', beq_iff_eq]
    refine ⟨⟨⟨⟨⟨c0, m0, hv0⟩, ?_⟩, contains_of_head_not_mem (p := '-') _ (simple_not_mem hs '-' (by decide))⟩, ha2⟩, ?_⟩
    · intro c hc
      have hsc := hs c hc
      have n1 := simpleChar_ne hsc (d := '\n') (by decide)
      have n2 := simpleChar_ne hsc (d := '\r') (by decide)
      have n3 := simpleChar_ne hsc (d := '\x00') (by decide)
      simp [n1, n2, n3]
    · rw [styleOf_text, color_none_of_plain a ha1]
  simp only [RepLine, mergeLine, hmerge, List.isEmpty_cons, Bool.not_false, List.all_cons, List.all_nil, hrun,
    noAdjPlain, List.head?_cons, List.getLast?_singleton, hc0, hc1, Option.any_some, hv0, hv1, Bool.or_true, Bool.and_self]

theorem plainLine_text {l : Line} (h : plainLine l = true) : simpleText l.str = true ∧ edgesOk l.str = true := by
  simp only [plainLine, Bool.and_eq_true] at h
  exact ⟨h.1.2, h.2⟩

theorem plainSRT_parts {s : Subs} (hp : PlainSRT s = true) :
    s.items.isEmpty = false ∧ s.items.length ≤ int64Max ∧ ∀ it ∈ s.items, ∀ l ∈ it.lines, plainLine l = true := by
  simpa only [PlainSRT, Bool.and_eq_true, Bool.not_eq_true', decide_eq_true_eq, List.all_eq_true, and_assoc] using hp

/-- **Plain cue lists are representable** (after the merge of adjacent unstyled runs, which does not
    change the written text) and ask for no position tag -/
theorem rep_of_plain (s : Subs) (hr : inRange "srt" s = true) (hp : PlainSRT s = true) :
    noPosition s = true ∧ Rep (mergeS s) = true := by
  obtain ⟨hne, hlen, hl⟩ := plainSRT_parts hp
  have hrg := inRange_items (dst := "srt") (by decide) hr
  constructor
  · simp only [noPosition, List.all_eq_true]
    intro it hit l hl' li hli
    have := hl it hit l hl'
    simp only [plainLine, Bool.and_eq_true, List.all_eq_true] at this
    have := this.1.1 li hli
    simp only [noMarkup, Bool.and_eq_true] at this
    exact this.2
  · simp only [Rep, mergeS, List.isEmpty_map, hne, Bool.not_false, List.length_map, hlen, decide_true, Bool.true_and,
      List.all_map, List.all_eq_true]
    intro it hit
    obtain ⟨h1, h2, h3, h4⟩ := hrg it hit
    simp only [Function.comp, RepItem, mergeItem, hundredHours, h1, h2, h3, h4, decide_true, Bool.true_and, List.all_map,
      List.all_eq_true]
    intro l hl'
    exact repLine_of_plain l (hl it hit l hl')

end ConvSRT
end Astisub
