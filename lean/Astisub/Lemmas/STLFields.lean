import Astisub.Props.C05
import Astisub.Lemmas.Digits

/-!
# Lemmas/STLFields — what the reader makes of each kind of GSI field the writer fills:
blank-padded text, decimal numbers, dates (the textual timecode is in `Lemmas/STLGsiRT.lean`)
-/

namespace Astisub
namespace C05
open Go STL

def graphicB (b : Nat) : Bool := decide (0x21 ≤ b) && decide (b ≤ 0x7E)

/-- a value the field of width `n` can carry: it fits, and it starts and ends with a graphic ASCII character
    (anything in between; the empty value is fine) -/
def fieldOK (n : Nat) (s : Bytes) : Bool := decide (s.length ≤ n) && s.head?.all graphicB && s.getLast?.all graphicB

theorem graphicB_graphic {b : Nat} (h : graphicB b = true) : graphic b := by
  unfold graphicB at h; simp at h; unfold graphic; omega

theorem fieldOK_trim (n : Nat) (s : Bytes) (h : fieldOK n s = true) : trimB (padR 0x20 n s) = s := by
  unfold fieldOK at h
  simp only [Bool.and_eq_true, decide_eq_true_eq] at h
  obtain ⟨⟨h1, h2⟩, h3⟩ := h
  apply field_roundtrip s n h1
  · intro b hb; rw [hb] at h2; exact graphicB_graphic h2
  · intro b hb; rw [hb] at h3; exact graphicB_graphic h3

def digitByte (b : Nat) : Prop := 0x30 ≤ b ∧ b ≤ 0x39

theorem digitByte_graphic {b : Nat} (h : digitByte b) : graphic b := by
  unfold digitByte at h; unfold graphic; omega

theorem trimB_digits (s : Bytes) (h : ∀ b ∈ s, digitByte b) : trimB s = s := by
  apply trimB_id
  · intro b hb; exact digitByte_graphic (h b (List.mem_of_mem_head? hb))
  · intro b hb; exact digitByte_graphic (h b (List.mem_of_getLast? hb))

theorem ofNat_digitByte {b : Nat} (h : digitByte b) : Char.ofNat b = digitChar (b - 48) := by
  unfold digitByte at h
  unfold digitChar
  congr 1; omega

theorem chars_digitStr (s : Bytes) (h : ∀ b ∈ s, digitByte b) : DigitStr (chars s) := by
  intro c hc
  unfold chars at hc
  obtain ⟨b, hb, rfl⟩ := List.mem_map.mp hc
  have := h b hb
  exact ⟨b - 48, by unfold digitByte at this; omega, ofNat_digitByte this⟩

theorem ascii_digitStr (s : Str) (h : DigitStr s) : ∀ b ∈ ascii s, digitByte b := by
  intro b hb
  unfold ascii at hb
  obtain ⟨c, hc, rfl⟩ := List.mem_map.mp hb
  obtain ⟨k, hk, rfl⟩ := h c hc
  rw [digitChar_toNat hk]; unfold digitByte; omega

theorem chars_ascii (s : Str) : chars (ascii s) = s := by
  unfold chars ascii
  rw [List.map_map]
  conv => rhs; rw [← List.map_id s]
  apply List.map_congr_left
  intro c _
  simp

theorem padL_digits (w : Nat) (s : Bytes) (h : ∀ b ∈ s, digitByte b) : ∀ b ∈ padL 0x30 w s, digitByte b := by
  intro b hb
  unfold padL at hb
  have := List.mem_of_mem_take hb
  rcases List.mem_append.mp this with hr | hs
  · rw [List.eq_of_mem_replicate hr]; unfold digitByte; omega
  · exact h b hs

theorem num_digits (w n : Nat) : ∀ b ∈ num w (n : Int), digitByte b := by
  unfold num
  apply padL_digits
  have : itoa (n : Int) = itoaNat n := by unfold itoa; simp
  rw [this]
  exact ascii_digitStr _ (digitStr_itoaNat n)

/-- a field of 1 to 18 digits is read as the number the digits spell (18 digits stay below 2⁶³) -/
theorem atoiField_digits_val (b : Bytes) (h : ∀ x ∈ b, digitByte x) (hne : b ≠ []) (hl : b.length ≤ 18) :
    atoiField (trimB b) = some (some (natOfDigits (chars b) : Int)) := by
  rw [trimB_digits b h]
  have hc : chars b ≠ [] := by unfold chars; simpa using hne
  have hd := chars_digitStr b h
  have hv := atoi_of_digitStr hd hc (by
    have := natOfDigits_lt hd
    have : 10 ^ (chars b).length ≤ 10 ^ 18 := Nat.pow_le_pow_right (by omega) (by unfold chars; simpa using hl)
    unfold int64Max; omega)
  unfold atoiField
  have : b.isEmpty = false := by cases b <;> simp_all
  rw [this, hv]; rfl

/-- a non-negative number written in a field of 1 to 18 digits is read as *some* number (no error);
    used for the counters the reader checks but does not keep (TNB, TNS, TNG) -/
theorem num_field_parses (w n : Nat) (hw : 1 ≤ w) (hw' : w ≤ 18) :
    ∃ v : Nat, atoiField (trimB (num w (n : Int))) = some (some (v : Int)) := by
  refine ⟨_, atoiField_digits_val _ (num_digits w n) ?_ ?_⟩
  · intro e; have := num_length w (n : Int); rw [e] at this; simp at this; omega
  · rw [num_length]; exact hw'

theorem num2_int (v : Int) (h0 : 0 ≤ v) (h1 : v < 100) : atoiField (trimB (num 2 v)) = some (some v) := by
  obtain ⟨n, rfl⟩ : ∃ n : Nat, v = (n : Int) := ⟨v.toNat, by omega⟩
  exact num2_roundtrip n (by omega)

/-- a date `time.Parse("060102", …)` accepts: two-digit year, month 1–12, a day that exists in that month
    (the century is Go's: 69–99 → 19xx, 00–68 → 20xx) -/
def dateOK (d : Date) : Bool :=
  decide (d.yy < 100) && decide (1 ≤ d.mm) && decide (d.mm ≤ 12) && decide (1 ≤ d.dd) &&
  decide (d.dd ≤ daysIn d.mm (if d.yy ≥ 69 then 1900 + d.yy else 2000 + d.yy))

theorem dig_digit (k : Nat) (h : k < 10) : dig (0x30 + k) = some k := by
  unfold dig
  have h1 : (0x30 ≤ 0x30 + k) = True := by simp
  have h2 : (0x30 + k ≤ 0x39) = True := by simp; omega
  simp [h1, h2]

theorem two_digits (n : Nat) : ∀ b ∈ two n, digitByte b := by
  intro b hb
  unfold two at hb
  simp only [List.mem_cons, List.not_mem_nil, or_false] at hb
  unfold digitByte
  rcases hb with rfl | rfl <;> omega

theorem formatDate_digits (d : Date) : ∀ b ∈ formatDate d, digitByte b := by
  intro b hb
  unfold formatDate at hb
  simp only [List.mem_append] at hb
  rcases hb with (hb | hb) | hb <;> exact two_digits _ b hb

theorem parseYear_two (y : Nat) (h : y < 100) :
    parseYear (0x30 + y / 10 % 10) (0x30 + y % 10) = some (if y ≥ 69 then 1900 + y else 2000 + y) := by
  unfold parseYear
  rw [dig_digit _ (by omega)]
  simp only
  have a1 : (0x30 + y / 10 % 10 == 0x2B) = false := by simp; omega
  have a2 : (0x30 + y / 10 % 10 == 0x2D) = false := by simp; omega
  rw [a1, a2, dig_digit _ (by omega)]
  simp only [Bool.false_eq_true, if_false]
  have : 10 * (y / 10 % 10) + y % 10 = y := by omega
  rw [this]

theorem daysIn_le (m y : Nat) : daysIn m y ≤ 31 := by
  unfold daysIn
  split
  · split <;> omega
  · split <;> omega

theorem parseDate_format (d : Date) (h : dateOK d = true) : parseDate (formatDate d) = some d := by
  unfold dateOK at h
  simp only [Bool.and_eq_true, decide_eq_true_eq] at h
  obtain ⟨⟨⟨⟨h1, h2⟩, h3⟩, h4⟩, h5⟩ := h
  have hf : formatDate d = [0x30 + d.yy / 10 % 10, 0x30 + d.yy % 10, 0x30 + d.mm / 10 % 10, 0x30 + d.mm % 10,
      0x30 + d.dd / 10 % 10, 0x30 + d.dd % 10] := rfl
  have hdd : d.dd < 32 := by
    have := daysIn_le d.mm (if d.yy ≥ 69 then 1900 + d.yy else 2000 + d.yy)
    omega
  rw [hf]
  unfold parseDate
  simp only
  rw [parseYear_two _ h1, dig_digit _ (by omega), dig_digit _ (by omega), dig_digit _ (by omega), dig_digit _ (by omega)]
  simp only
  have e1 : 10 * (d.mm / 10 % 10) + d.mm % 10 = d.mm := by omega
  have e2 : 10 * (d.dd / 10 % 10) + d.dd % 10 = d.dd := by omega
  rw [e1, e2]
  have c1 : ¬ ((d.mm == 0) = true ∨ d.mm > 12) := by simp; omega
  have c2 : ¬ (d.dd < 1 ∨ d.dd > daysIn d.mm (if d.yy ≥ 69 then 1900 + d.yy else 2000 + d.yy)) := by omega
  simp only [Bool.or_eq_true, decide_eq_true_eq, c1, c2, if_false]
  have e3 : (if d.yy ≥ 69 then 1900 + d.yy else 2000 + d.yy) % 100 = d.yy := by split <;> omega
  rw [e3]

theorem formatDate_length (d : Date) : (formatDate d).length = 6 := rfl

theorem date_roundtrip (d : Date) (h : dateOK d = true) : dateField (trimB (padR 0x20 6 (formatDate d))) = some d := by
  have hp : padR 0x20 6 (formatDate d) = formatDate d := by
    rw [padR_fit _ _ _ (by rw [formatDate_length]; omega), formatDate_length]; simp
  rw [hp, trimB_digits _ (formatDate_digits d)]
  unfold dateField
  have : (formatDate d).isEmpty = false := rfl
  rw [this]
  exact parseDate_format d h

end C05
end Astisub
