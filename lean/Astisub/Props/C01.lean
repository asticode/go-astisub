import Astisub.Model.SRT
import Astisub.Props.C16
import Astisub.Lemmas.SRTRead2Time

/-!
# C01 — SubRip codec fidelity

`SRT.read` / `SRT.write` model `ReadFromSRT` / `WriteToSRT` (`srt.go`).  This file proves, for
**all** texts / cue lists / line lists, the laws the property is made of:

* escaping: `&`, `<` and no-break space survive a write → read unchanged, and no `<` is left in
  written text (so text can never be mistaken for markup);
* the time stamp written for any instant in `[0, 100 h)` is read back as the same instant truncated to
  the millisecond — with `,` or `.` (spacing around `-->` and trailing coordinates: `C01read.timing_line_agrees`);
* blank-line padding (between cues and at end of file) leaves no trace in the cue;
* cues are numbered consecutively from 1.

The whole-document statements are in `Props/C01doc.lean` (`read ∘ write`, for every representable cue
list) and `Props/C01read.lean` (the reader against the independent decoder `Spec.SRT.decode`, for every
document); both are about the model, in which the `x/net/html` tokenizer is the partial model
`Go.tokenize`.  The `srt.read` / `srt.write` correspondence streams compare model and library on every
generated case.
-/

namespace Astisub
namespace C01
open Go SRT List

def nbsp : Char := Char.ofNat 0xA0

/-- per-character form of `escapeHTML` -/
def esc1 (c : Char) : Str :=
  if c = '&' then "&amp;".toList else if c = '<' then "&lt;".toList else if c = nbsp then "&nbsp;".toList else [c]

theorem escape_cons (c : Char) (t : Str) : replGo escapePairs (c :: t) 0 = esc1 c ++ replGo escapePairs t 0 := by
  unfold esc1
  by_cases h1 : c = '&'
  · subst h1; simp [replGo, matchPair, escapePairs, hasPrefix, dropPrefix?]
  · by_cases h2 : c = '<'
    · subst h2; simp [replGo, matchPair, escapePairs, hasPrefix, dropPrefix?]
    · by_cases h3 : c = nbsp
      · subst h3; simp [replGo, matchPair, escapePairs, hasPrefix, dropPrefix?, nbsp]
      · have h1' : ¬ ('&' = c) := fun e => h1 e.symm
        have h2' : ¬ ('<' = c) := fun e => h2 e.symm
        have h3' : ¬ (Char.ofNat 0xA0 = c) := fun e => h3 e.symm
        simp [replGo, matchPair, escapePairs, hasPrefix, dropPrefix?, h1, h2, h3, h1', h2', h3']

theorem esc1_cases (c : Char) :
    (∃ m, esc1 c = '&' :: m ++ [';']) ∨ (c ≠ '&' ∧ c ≠ '<' ∧ c ≠ nbsp ∧ esc1 c = [c]) := by
  unfold esc1
  by_cases h1 : c = '&'
  · exact .inl ⟨"amp".toList, by rw [if_pos h1]; rfl⟩
  by_cases h2 : c = '<'
  · exact .inl ⟨"lt".toList, by rw [if_neg h1, if_pos h2]; rfl⟩
  by_cases h3 : c = nbsp
  · exact .inl ⟨"nbsp".toList, by rw [if_neg h1, if_neg h2, if_pos h3]; rfl⟩
  · exact .inr ⟨h1, h2, h3, by rw [if_neg h1, if_neg h2, if_neg h3]⟩

theorem escape_eq_flatMap (t : Str) : escapeHTML t = t.flatMap esc1 := by
  unfold escapeHTML replacer
  induction t with
  | nil => rfl
  | cons c t ih => rw [escape_cons, ih]; rfl

theorem unescape_esc1 (c : Char) (rest : Str) :
    replGo unescapePairs (esc1 c ++ rest) 0 = c :: replGo unescapePairs rest 0 := by
  unfold esc1
  by_cases h1 : c = '&'
  · subst h1; simp [replGo, matchPair, unescapePairs, hasPrefix, dropPrefix?]
  · by_cases h2 : c = '<'
    · subst h2; simp [replGo, matchPair, unescapePairs, hasPrefix, dropPrefix?]
    · by_cases h3 : c = nbsp
      · subst h3; simp [replGo, matchPair, unescapePairs, hasPrefix, dropPrefix?, nbsp]
      · have h1' : ¬ ('&' = c) := fun e => h1 e.symm
        simp [replGo, matchPair, unescapePairs, hasPrefix, dropPrefix?, h1, h2, h3, h1']

/-- **Escaping round trip.** `&`, `<`, U+00A0 — and every other character — survive unchanged. -/
theorem unescape_escape (t : Str) : unescapeHTML (escapeHTML t) = t := by
  rw [escape_eq_flatMap]
  unfold unescapeHTML replacer
  induction t with
  | nil => rfl
  | cons c t ih => rw [flatMap_cons, unescape_esc1, ih]

/-- written text contains no `<`: it cannot be read as markup -/
theorem escape_no_lt (t : Str) : '<' ∉ escapeHTML t := by
  rw [escape_eq_flatMap]
  intro h
  obtain ⟨c, _, hc⟩ := mem_flatMap.mp h
  unfold esc1 at hc
  split at hc
  · simp at hc
  · split at hc
    · simp at hc
    · split at hc
      · simp at hc
      · rename_i h2 _; simp at hc; exact h2 hc.symm

def blankLine : Line := { items := [{ text := [] }] }

theorem stripItems_blank : (stripItems blankLine).items = [] := by
  simp [stripItems, blankLine]

theorem stripItems_id (l : Line) (h : ∀ it, l.items.getLast? = some it → it.text ≠ []) :
    stripItems l = l := by
  unfold stripItems
  cases hl : l.items.getLast? with
  | none =>
    have : l.items = [] := by simpa using hl
    cases l; simp_all
  | some it =>
    have hne := h it hl
    obtain ⟨pre, hpre⟩ := List.getLast?_eq_some_iff.mp hl
    have : (l.items.reverse.dropWhile fun it => it.text.isEmpty) = l.items.reverse := by
      rw [hpre]; simp [List.dropWhile, hne]
    rw [this]; simp

/-- blank lines behind any lines at all leave no trace: the strip cuts the list at the first of them, if not before -/
theorem stripLines_pad (ls : List Line) (k : Nat) :
    stripLines (ls ++ List.replicate k blankLine) = stripLines ls := by
  unfold stripLines
  induction ls with
  | nil => cases k <;> simp [replicate_succ, stripItems_blank]
  | cons l ls ih =>
    simp only [cons_append, map_cons, takeWhile_cons]
    split
    · rw [ih]
    · rfl

/-- **Blank padding.** any number of blank lines after the text lines of a cue — between cues or
    at end of file — leaves exactly the text lines -/
theorem strip_padding (ls : List Line) (k : Nat)
    (h : ∀ l ∈ ls, l.items ≠ [] ∧ ∀ it, l.items.getLast? = some it → it.text ≠ []) :
    stripLines (ls ++ List.replicate k blankLine) = ls := by
  rw [stripLines_pad]
  unfold stripLines
  have h1 : ls.map stripItems = ls := by
    conv => rhs; rw [← List.map_id ls]
    apply map_congr_left
    intro l hl; exact stripItems_id l (h l hl).2
  rw [h1]
  exact takeWhile_eq_self_of_all ls fun l hl => by simp [(h l hl).1]

/-- every written cue starts with its 1-based position in the list -/
theorem itemBytes_number (k : Nat) (it : CItem) : itoaNat (k + 1) <+: itemBytes k it := by
  unfold itemBytes
  simp only [append_assoc]
  exact prefix_append _ _

/-- an empty list is refused (`ErrNoSubtitlesToWrite`), anything else is written -/
theorem write_empty (s : Subs) : (write s).isNone ↔ s.items = [] := by
  unfold write
  cases s.items with
  | nil => exact ⟨fun _ => rfl, fun _ => rfl⟩
  | cons a l => exact ⟨fun h => Bool.noConfusion (show false = true from h), fun h => nomatch h⟩

/-- the timestamps written for a cue parse back to the truncated instants with the reader's
    `,`-then-`.` strategy -/
theorem timing_values (t : Int) (h0 : 0 ≤ t) (h1 : t < 360000000000000) :
    Duration.parseSRT (Duration.formatSRT t) = some (t - t % 1000000) := C16.srt_roundtrip t h0 h1

/-- a rendering with `.` is not accepted by the `,` attempt (the seconds field `SS.FFF` is not a
    number), so the reader falls through to the `.` attempt -/
theorem comma_attempt_fails (h m s f : Nat) (hh : h < 100) (hm : m < 100) (hs : s < 100) (hf : f < 1000) :
    Duration.parse (C16.canon3 h m s f '.') ',' 3 = none := by
  have := SRTRead2.parse_comma_dot (w1 := []) (w2 := []) (fun _ h => nomatch h) (fun _ h => nomatch h)
    (C16.hms_dd hh hm hs) (Numeral.ddd hf)
  rwa [append_nil] at this

/-- also with `.` as the separator (written by other tools) -/
theorem timing_values_dot (t : Int) (h0 : 0 ≤ t) (h1 : t < 360000000000000) :
    Duration.parseSRT (Duration.format t '.' 3) = some (t - t % 1000000) := by
  obtain ⟨h, m, s, f, hh, hm, hs, hf, hfmt, hval⟩ := C16.format_shape3 t '.' h0 h1
  unfold Duration.parseSRT
  rw [hfmt, comma_attempt_fails h m s f hh (by omega) (by omega) hf,
    C16.parse_canon3 h m s f hh (by omega) (by omega) hf '.' (Or.inl rfl), hval]

end C01
end Astisub
