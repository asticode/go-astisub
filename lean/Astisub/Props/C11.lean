import Astisub.Lemmas.OpsUnfragment
import Astisub.Props.C12

/-!
# C11 — Unfragment merges touching same-text cues and keeps the display

`Ops.unfragment` models `Subtitles.Unfragment` loop by loop (`absorb` = inner `j` loop with
merge-and-delete and early exit, `unfragLoop` = outer `i` loop).  Statements hold for every
cue list (any order, overlaps, duplicates, any number of texts, any length).
-/

namespace Astisub
namespace C11
open Ops Spec List

theorem unfragment_eq (xs : List Item) : unfragment xs = unfragLoop (order xs) := by
  unfold unfragment
  split
  · rename_i h
    match xs, h with
    | [], _ => simp [order, unfragLoop_nil]
    | [x], _ => simp [order, unfragLoop_cons, absorb, unfragLoop_nil]
  · rfl

abbrev SortedByStart (l : List Item) : Prop := l.Pairwise (fun a b => a.startAt ≤ b.startAt)

/-- after the loops no two cues with the same text touch or overlap -/
theorem unfragLoop_no_touch (l : List Item) (hs : SortedByStart l) :
    (unfragLoop l).Pairwise (fun a b => ¬ Touch a b) := by
  induction l using unfragLoop_induct with
  | nil => rw [unfragLoop_nil]; exact Pairwise.nil
  | cons x xs ih =>
    rw [unfragLoop_cons]
    have hxs : SortedByStart xs := (pairwise_cons.mp hs).2
    refine pairwise_cons.mpr ⟨?_, ih (hxs.sublist (absorb_sublist x xs))⟩
    intro z hz
    obtain ⟨sub, hsub, hf⟩ := unfragLoop_ext (absorb x xs).2
    obtain ⟨y, hy, hext⟩ := All2.mem_right hf z hz
    rintro ⟨h1, _, h3⟩
    rcases absorb_sep x xs hxs y (hsub.subset hy) with h | h
    · exact h (by rw [h1, hext.str])
    · rw [hext.startAt] at h3; omega

theorem no_touch (xs : List Item) : (unfragment xs).Pairwise (fun a b => ¬ Touch a b) := by
  rw [unfragment_eq]
  exact unfragLoop_no_touch _ (C12.order_sorted xs)

/-- the set of texts on screen at every instant is the same before and after -/
theorem unfragLoop_vis (l : List Item) (hs : SortedByStart l) (s : String) (t : Int) :
    (∃ it ∈ l, vis it s t) ↔ (∃ it ∈ unfragLoop l, vis it s t) := by
  induction l using unfragLoop_induct with
  | nil => rw [unfragLoop_nil]
  | cons x xs ih =>
    have hxs : SortedByStart xs := (pairwise_cons.mp hs).2
    rw [unfragLoop_cons, absorb_vis x xs (pairwise_cons.mp hs).1 s t, exists_mem_cons_iff, exists_mem_cons_iff,
      ih (hxs.sublist (absorb_sublist x xs))]

theorem on_screen (xs : List Item) (s : String) (t : Int) :
    onScreen xs s t ↔ onScreen (unfragment xs) s t := by
  rw [unfragment_eq]
  show (∃ it ∈ xs, vis it s t) ↔ ∃ it ∈ unfragLoop (order xs), vis it s t
  rw [← unfragLoop_vis _ (C12.order_sorted xs)]
  constructor
  · rintro ⟨it, hit, hv⟩; exact ⟨it, (C12.order_perm xs).mem_iff.mpr hit, hv⟩
  · rintro ⟨it, hit, hv⟩; exact ⟨it, (C12.order_perm xs).mem_iff.mp hit, hv⟩

/-- it does nothing else: the result is, in order, a sub-sequence of the ordered input in which
    each kept cue has the same identity, start, text and payload and an end that is not earlier -/
theorem only_merges (xs : List Item) :
    ∃ sub, sub <+ order xs ∧ All2 Ext sub (unfragment xs) := by
  rw [unfragment_eq]; exact unfragLoop_ext _

theorem uids_sublist (xs : List Item) :
    (unfragment xs).map (·.uid) <+ (order xs).map (·.uid) := by
  obtain ⟨sub, hsub, hf⟩ := only_merges xs
  rw [← All2.map_eq (·.uid) (·.uid) hf (fun a b h => h.uid.symm)]
  exact hsub.map _

theorem ordered (xs : List Item) : SortedByStart (unfragment xs) := by
  obtain ⟨sub, hsub, hf⟩ := only_merges xs
  have hs : SortedByStart sub := (C12.order_sorted xs).sublist hsub
  have hm := All2.map_eq (·.startAt) (·.startAt) hf (fun a b h => h.startAt.symm)
  have : (sub.map (·.startAt)).Pairwise (· ≤ ·) := pairwise_map.mpr hs
  rw [hm] at this
  exact pairwise_map.mp this

theorem absorb_noop (cur : Item) (l : List Item) (h : ∀ y ∈ l, Sep cur y) : absorb cur l = (cur, l) := by
  induction cur, l using absorb_induct with
  | nil cur => rfl
  | stop cur x rest _ => rfl
  | merge cur x rest h1 h2 _ => exact ((forall_mem_cons.mp h).1.elim (· h1) (by omega : ¬ _)).elim
  | skip cur x rest _ _ ih => rw [ih (forall_mem_cons.mp h).2]

theorem unfragLoop_noop (l : List Item) (h : l.Pairwise Sep) : unfragLoop l = l := by
  induction l with
  | nil => exact unfragLoop_nil
  | cons x xs ih =>
    rw [unfragLoop_cons, absorb_noop x xs (pairwise_cons.mp h).1]
    simp only
    rw [ih (pairwise_cons.mp h).2]

/-- a list that is ordered and has no mergeable neighbour pairs (every later cue is `Sep`arated
    from every earlier one) is returned unchanged: cues with distinct texts or separated by a
    gap are untouched -/
theorem untouched (xs : List Item) (hs : SortedByStart xs) (h : xs.Pairwise Sep) : unfragment xs = xs := by
  rw [unfragment_eq, C12.order_of_sorted xs hs, unfragLoop_noop xs h]

/-- for well-formed cues in start order, "cannot be merged" is exactly "do not touch" -/
theorem sep_iff_not_touch (a b : Item) (hab : a.startAt ≤ b.startAt) (hb : b.startAt ≤ b.endAt) :
    Sep a b ↔ ¬ Touch a b := by
  unfold Sep Touch
  constructor
  · rintro (h | h) ⟨h1, _, h3⟩
    · exact h h1
    · omega
  · intro h
    by_cases hs : a.str = b.str
    · right
      by_cases hlt : a.endAt < b.startAt
      · exact hlt
      · exact absurd ⟨hs, by omega, by omega⟩ h
    · left; exact hs

end C11
end Astisub
