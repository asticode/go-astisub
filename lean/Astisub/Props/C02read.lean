import Astisub.Lemmas.VTT3Layer
import Astisub.Lemmas.EvalLit

/-!
# C02 (read clause) — WebVTT: the reader model returns what the independent decoder says a document denotes

The property: *reading any well-formed document returns exactly what it denotes.*  `Spec.VTT.decode`
(written from the format's standard) says which documents are well-formed (`some g`) and what they
denote (`g`).  The `vtt.read` case of `Driver/VTT.lean` judges every generated document this way:

    decodeLine doc = some text → Spec.VTT.decode text = some g →
      answer = "ok s"  and  (vttView s).map norm == some (norm g)

(unless the reader model answers `unmodelled`: such a case is not judged).  This file proves that
judgement **for the reader model's own answer** `VTT.read (docLines doc)`, from the bytes, for every
document of the decoder's class that lies in the decidable class `InClass`:

* `read_view` — from the bytes (`Driver.docLines`: scanner lines, each decoded as UTF-8);
* `read_view_chars` — the same on the character lines `Spec.VTT.splitLines`;
* `read_ok`, `read_not_err` — spelled out: the model does not answer `err` on such a document, and if
  it answers `ok s` the normalised view of `s` is the normalised denotation.

The statement for *all* documents of the decoder's class is **false**: `read_decode_Statement` states it as a
`Prop`, `read_decode_Statement_false` refutes it with a concrete document.  The
decoder's class contains documents on which the reader model (and the library) differ from the decoder;
`InClass` excludes the kinds found; where the judged views really differ (1, 3, 4, 5 and the zero timestamp of 7) a
witness stands below (`finding…`); 2 and 6 make no difference to the judged views, as their text says:

1. `NOTE<tab>text` (a tab after `NOTE`): the library only knows `NOTE ` (space): the line is read as a
   cue identifier, the comment is lost.                                         → `noteOK`
2. `NOTE␣␣text` (more white space after `NOTE␣`): the library keeps the extra white space in the comment.
   `Spec.VTT.norm` trims comments before comparing, so this is no difference of the judged views;
   `noteOK` excludes it all the same (the proof relates comments exactly): the exclusion is stronger
   than necessary.                                     → `noteOK`
3. `Region: … lines=N` with `N ≥ 2^63`: `strconv.Atoi` fails, the reader returns an error; the decoder
   takes any digit string.                                                       → `regionOK`
4. inside a tag, `=` followed by a quote: the HTML tokenizer reads a quoted attribute value, so
   `<c a="x>y">` is one tag for the library and ends at the first `>` for the decoder; with an
   unterminated quote (`<c a='>text`) the library drops the rest of the line.    → `scanOK` (`=`)
5. a form feed inside a tag is white space for the tokenizer and for `\s`, not for the decoder
   (`<c\x0cfoo>`: name `c` + annotation `foo` against name `c\x0cfoo`).          → `scanOK` (`\x0c`)
6. `|` inside a tag: not a difference of the library — the protocol carries the tag list of a run in one
   attribute string joined by `|`, so `Driver.vttView` cannot give an annotation containing `|` back.
                                                                                  → `scanOK` (`|`)
7. inline timestamps (`<00:01.000>`): excluded as a whole (`<` + digit).  Two real differences live
   there: `<00:00.000>` is "no timestamp" for the library (`ts = none`) and `some 0` for the decoder;
   white space between a tag and a timestamp is dropped by the library's text-token loop but is a run
   of its own for the decoder (`a:b</v> <00:02.506>Été`; `normLine` drops white-space-only runs before
   merging, so the judged views agree).  Lines with inline timestamps are covered by
   `C02read2.read_view2` (class `InClass2`), not here.

What is *in* the class: BOM, any EOL convention, text after `WEBVTT`, header metadata glued to the header,
blank-line padding, indentation, identifiers (numeric or not), all timing forms and settings of the
decoder, comments (with one space after `NOTE`), STYLE blocks, regions, timestamp map, cue text with
character references, nested tags with classes and annotations, voices, tags left open across the lines
of a cue.  `inClass_example(2)` / `decode_example(2)` show two small documents.
-/

namespace Astisub
namespace C02read
open Go Spec.VTT VTTRead

/-- `InClass` is decidable and not empty: a comment, a voice, a character reference and a tag with a class -/
def exampleDoc : Str := "WEBVTT\n\nNOTE a\n\n00:01 --> 00:02\n<v B>x &amp; <c.b>y</c>".toList

/-- header text, a region definition glued to the header and a cue using the region, with an identifier -/
def exampleDoc2 : Str := "WEBVTT x\nRegion: id=r lines=3\n\nid\n00:01 --> 00:02 region:r\ny".toList

theorem example_vectors :
    (InClass exampleDoc = true ∧ (decode exampleDoc).isSome = true) ∧
    (InClass exampleDoc2 = true ∧ (decode exampleDoc2).isSome = true) := by
  unfold exampleDoc exampleDoc2
  decide_vector

theorem inClass_example : InClass exampleDoc = true := example_vectors.1.1

theorem decode_example : (decode exampleDoc).isSome = true := example_vectors.1.2

theorem inClass_example2 : InClass exampleDoc2 = true := example_vectors.2.1

theorem decode_example2 : (decode exampleDoc2).isSome = true := example_vectors.2.2

/-- **Read clause, from the bytes.**  For every byte string `doc` that is UTF-8 text `text`, well-formed
    for the independent decoder (`decode text = some g`) and in the class `InClass`: the reader model run
    on the scanner lines of the bytes either is not covered by the tokenizer / overflow model
    (`unmodelled`: the driver does not judge such a case) or succeeds with a cue list whose normalised
    WebVTT view is the normalised denotation — exactly what the `vtt.read` case checks. -/
theorem read_view (doc : List UInt8) (text : Str) (g : GDoc)
    (hdec : Driver.decodeLine doc = some text) (hin : InClass text = true) (h : decode text = some g) :
    Good (VTT.read (Driver.docLines doc)) g :=
  read_bytes doc text g hdec hin h

/-- The same on the character lines of the text (LF, CRLF, lone CR each end a line). -/
theorem read_view_chars (text : Str) (g : GDoc) (hin : InClass text = true) (h : decode text = some g) :
    Good (VTT.read ((splitLines text []).map some)) g :=
  read_chars text g hin h

/-- Spelled out (1): on such a document the reader model never answers with an error. -/
theorem read_not_err (doc : List UInt8) (text : Str) (g : GDoc)
    (hdec : Driver.decodeLine doc = some text) (hin : InClass text = true) (h : decode text = some g) :
    VTT.read (Driver.docLines doc) ≠ .err :=
  (read_view doc text g hdec hin h).ne_err

/-- Spelled out (2): whatever cue list the reader model returns, its normalised view is the normalised
    denotation of the document. -/
theorem read_ok (doc : List UInt8) (text : Str) (g : GDoc) (s : Subs)
    (hdec : Driver.decodeLine doc = some text) (hin : InClass text = true) (h : decode text = some g)
    (hr : VTT.read (Driver.docLines doc) = .ok s) :
    (Driver.vttView s).map norm = some (norm g) :=
  (read_view doc text g hdec hin h).view_of_ok hr

/-- The bytes → lines layer on its own: for every valid UTF-8 byte string the reader sees exactly the
    decoder's lines (`bufio.ScanLines` with the repaired CR handling = LF / CRLF / CR line ends). -/
theorem bytes_lines (doc : List UInt8) (text : Str) (hdec : Driver.decodeLine doc = some text) :
    Driver.docLines doc = (splitLines text []).map some :=
  docLines_of_decodeLine doc text hdec

/-- The cue-text layer on its own: a line of cue text the decoder accepts (no inline timestamp, `lineOK`)
    is parsed by the reader model (tokenizer, tag expression, text tokens) into the same tag stack, voice
    and runs — for any tag stack left open by the previous lines of the cue. -/
theorem text_line (l : Str) (stack : List GTag) (st : TextSt) (hok : lineOK l = true)
    (hstack : ∀ t ∈ stack, goodName t.name = true)
    (h : textLine (l.length + 2) l { stack := stack } = some st) :
    VTT.parseText l (stack.map modelTag) = .unmodelled ∨
    VTT.parseText l (stack.map modelTag) =
      .ok (st.stack.map modelTag, { voice := st.voice.getD [], items := st.runs.map runItem }) :=
  parseText_of_textLine l stack st hok hstack h

/-- Timestamps: every time the decoder accepts (`[h+:]mm:ss[.f{1,3}]`, any white space around) is parsed
    by the library's `parseDuration` to the same instant. -/
theorem time_agree (s : Str) (ms : Nat) (h : timeMs s = some ms) :
    Duration.parseVTT s = some ((ms : Int) * 1000000) :=
  parseVTT_of_timeMs s ms h

/-- The clause for every document of the decoder's class.  **It is false**
    (`read_decode_Statement_false`). -/
def read_decode_Statement : Prop :=
  ∀ (doc : List UInt8) (text : Str) (g : GDoc), Driver.decodeLine doc = some text → decode text = some g →
    Good (VTT.read (Driver.docLines doc)) g

def isErr {α} : SRT.Res α → Bool
  | .err => true
  | _ => false

/-- Finding 3: a region whose number of lines does not fit an `int` -/
def findingRegion : Str := "WEBVTT\n\nRegion: id=a lines=99999999999999999999".toList

/-! the other findings: in the decoder's class, outside `InClass`
(which view differs is said in the file header) -/

def findingNoteTab : Str := "WEBVTT\n\nNOTE\tfoo\n\n00:01.000 --> 00:02.000\nx".toList
def findingQuote : Str := "WEBVTT\n\n00:01.000 --> 00:02.000\n<c a='>text".toList
def findingFormFeed : Str := "WEBVTT\n\n00:01.000 --> 00:02.000\n<c\x0cfoo>text".toList
def findingZeroTs : Str := "WEBVTT\n\n00:01.000 --> 00:02.000\n<00:00.000>text".toList

theorem finding_vectors :
    ((decode findingRegion).isSome = true ∧ isErr (VTT.read ((splitLines findingRegion []).map some)) = true ∧
      InClass findingRegion = false) ∧
    ((decode findingNoteTab).isSome = true ∧ InClass findingNoteTab = false) ∧
    ((decode findingQuote).isSome = true ∧ InClass findingQuote = false) ∧
    ((decode findingFormFeed).isSome = true ∧ InClass findingFormFeed = false) ∧
    ((decode findingZeroTs).isSome = true ∧ InClass findingZeroTs = false) := by
  unfold findingRegion findingNoteTab findingQuote findingFormFeed findingZeroTs
  decide_vector

theorem findingRegion_decoded : (decode findingRegion).isSome = true := match finding_vectors with | ⟨⟨h, _⟩, _⟩ => h
theorem findingRegion_err : isErr (VTT.read ((splitLines findingRegion []).map some)) = true := match finding_vectors with | ⟨⟨_, h, _⟩, _⟩ => h
theorem findingRegion_outside : InClass findingRegion = false := match finding_vectors with | ⟨⟨_, _, h⟩, _⟩ => h

theorem read_decode_Statement_false : ¬ read_decode_Statement := by
  intro hall
  cases hd : decode findingRegion with
  | none => have := findingRegion_decoded; rw [hd] at this; cases this
  | some g =>
    have h1 := hall (Driver.utf8 findingRegion) findingRegion g (Driver.decodeLine_utf8 _) hd
    rw [docLines_utf8] at h1
    have h2 := findingRegion_err
    rcases h1 with h1 | ⟨s, h1, _⟩ <;> rw [h1] at h2 <;> cases h2

theorem findingNoteTab_decoded : (decode findingNoteTab).isSome = true := match finding_vectors with | ⟨_, ⟨h, _⟩, _⟩ => h
theorem findingNoteTab_outside : InClass findingNoteTab = false := match finding_vectors with | ⟨_, ⟨_, h⟩, _⟩ => h

theorem findingQuote_decoded : (decode findingQuote).isSome = true := match finding_vectors with | ⟨_, _, ⟨h, _⟩, _⟩ => h
theorem findingQuote_outside : InClass findingQuote = false := match finding_vectors with | ⟨_, _, ⟨_, h⟩, _⟩ => h

theorem findingFormFeed_decoded : (decode findingFormFeed).isSome = true := match finding_vectors with | ⟨_, _, _, ⟨h, _⟩, _⟩ => h
theorem findingFormFeed_outside : InClass findingFormFeed = false := match finding_vectors with | ⟨_, _, _, ⟨_, h⟩, _⟩ => h

theorem findingZeroTs_decoded : (decode findingZeroTs).isSome = true := match finding_vectors with | ⟨_, _, _, _, h, _⟩ => h
theorem findingZeroTs_outside : InClass findingZeroTs = false := match finding_vectors with | ⟨_, _, _, _, _, h⟩ => h

end C02read
end Astisub
