import Astisub.Model.Dispatch
import Astisub.Model.CLI
import Astisub.Spec.Conv

/-!
# C07 — Any-to-any conversion (library file API and CLI) preserves cues

The conversion clause itself ("for every readable source and every destination format the
destination read back holds the same cues, truncated to the destination's resolution, also with
any sequence of operations in between, through the library and through the CLI") is a statement
about the composition of a reader, the transformations and a writer/reader pair of *different*
codecs.  It is decided on every run by the `conv.pair` stream: all 7 × 6 format pairs, documents
from the C01–C06 generators, operation sequences of length 0..4, the file API (`Open`/`Write` with
extension spellings in mixed case) **and** the CLI binary; the Lean driver composes the
transformation models (`Ops.*`, `LinCorr.apply`) on the cues the library read and evaluates the
predicate `Driver.convOk` (count, order, truncated instants, text modulo white space) on what the
library re-reads.  What is proved here, for all inputs, are the laws that predicate rests on:
extension dispatch, the algebra of time truncation across formats, and the CLI's flag validation.  The
clause itself is proved on the models, for every writable destination, in `Props/C07doc.lean`,
`C07doc2.lean`, `C07doc3.lean` (`conv_all`); the command-line tool executed is `Props/C07cli.lean`.
-/

namespace Astisub
namespace C07
open Dispatch CLI Spec.Conv

/-- exactly seven extensions are readable … -/
theorem open_codecs (e : String) :
    (openCodec e).isSome ↔ e = "srt" ∨ e = "ssa" ∨ e = "ass" ∨ e = "stl" ∨ e = "ts" ∨ e = "ttml" ∨ e = "vtt" := by
  unfold openCodec
  split <;> simp_all

/-- … six of them writable: a transport stream cannot be written -/
theorem write_codecs (e : String) :
    (writeCodec e).isSome ↔ e = "srt" ∨ e = "ssa" ∨ e = "ass" ∨ e = "stl" ∨ e = "ttml" ∨ e = "vtt" := by
  by_cases h1 : e = "srt"; · subst h1; decide
  by_cases h2 : e = "ssa"; · subst h2; decide
  by_cases h3 : e = "ass"; · subst h3; decide
  by_cases h4 : e = "stl"; · subst h4; decide
  by_cases h5 : e = "ts"; · subst h5; decide
  by_cases h6 : e = "ttml"; · subst h6; decide
  by_cases h7 : e = "vtt"; · subst h7; decide
  have hn : openCodec e = none := by
    cases h : openCodec e with
    | none => rfl
    | some c =>
      have := (open_codecs e).mp (by simp [h])
      simp [h1, h2, h3, h4, h5, h6, h7] at this
  simp [writeCodec, hn, h1, h2, h3, h4, h6, h7]

/-- `.ass` and `.ssa` select the same codec, for reading and for writing -/
theorem ass_is_ssa : openCodec "ass" = openCodec "ssa" ∧ writeCodec "ass" = writeCodec "ssa" := by decide

/-- the codec is chosen on the lower-cased extension: spelling does not matter -/
theorem dispatch_case_insensitive (e e' : String)
    (h : Go.toLowerAscii e.toList = Go.toLowerAscii e'.toList) :
    openCodec (lowerExt e) = openCodec (lowerExt e') ∧ writeCodec (lowerExt e) = writeCodec (lowerExt e') := by
  unfold lowerExt; rw [h]; exact ⟨rfl, rfl⟩

theorem examples_mixed_case :
    openCodec (lowerExt "SRT") = some .srt ∧ openCodec (lowerExt "Vtt") = some .vtt ∧
    openCodec (lowerExt "TtMl") = some .ttml ∧ writeCodec (lowerExt "TS") = none ∧ openCodec (lowerExt "txt") = none := by
  decide

theorem truncTo_eq (u t : Int) : truncTo u t = u * (t / u) := by
  unfold truncTo
  have := Int.mul_ediv_add_emod t u
  omega

theorem trunc_le (u t : Int) (hu : 0 < u) : truncTo u t ≤ t ∧ t < truncTo u t + u := by
  unfold truncTo
  have h1 := Int.emod_nonneg t (by omega : u ≠ 0)
  have h2 := Int.emod_lt_of_pos t hu
  omega

theorem trunc_nonneg (u t : Int) (hu : 0 < u) (h : 0 ≤ t) : 0 ≤ truncTo u t := by
  rw [truncTo_eq]
  exact Int.mul_nonneg (Int.le_of_lt hu) (Int.ediv_nonneg h (Int.le_of_lt hu))

theorem trunc_multiple (u t : Int) : truncTo u t % u = 0 := by
  rw [truncTo_eq, Int.mul_emod_right]

theorem trunc_idem (u t : Int) : truncTo u (truncTo u t) = truncTo u t := by
  have := trunc_multiple u t
  unfold truncTo at *
  omega

/-- **A coarser unit absorbs a finer one that divides it**, whichever comes first -/
theorem trunc_chain (u w : Int) (hw : 0 < w) (h : w ∣ u) (t : Int) :
    truncTo u (truncTo w t) = truncTo u t ∧ truncTo w (truncTo u t) = truncTo u t := by
  obtain ⟨k, rfl⟩ := h
  constructor
  · rw [truncTo_eq (w * k), truncTo_eq (w * k), truncTo_eq w, Int.mul_ediv_mul_of_pos _ _ hw,
      ← Int.ediv_ediv_of_nonneg (Int.le_of_lt hw)]
  · rw [truncTo_eq (w * k) t]
    unfold truncTo
    rw [Int.mul_assoc, Int.mul_emod_right, Int.sub_zero]

/-- converting through a finer format first changes nothing: ms then cs = cs (e.g. srt → ssa) -/
theorem trunc_chain_ms_cs (t : Int) : truncTo 10000000 (truncTo 1000000 t) = truncTo 10000000 t :=
  (trunc_chain 10000000 1000000 (by decide) ⟨10, rfl⟩ t).1

/-- a coarser destination loses what the finer had: cs then ms = cs (e.g. ssa → vtt) -/
theorem trunc_chain_cs_ms (t : Int) : truncTo 1000000 (truncTo 10000000 t) = truncTo 10000000 t :=
  (trunc_chain 10000000 1000000 (by decide) ⟨10, rfl⟩ t).2

/-- **Conversion never reorders instants**, whatever the destination's unit -/
theorem trunc_monotone (u : Int) (hu : 0 < u) (t t' : Int) (h : t ≤ t') : truncTo u t ≤ truncTo u t' := by
  rw [truncTo_eq, truncTo_eq]
  exact Int.mul_le_mul_of_nonneg_left (Int.ediv_le_ediv hu h) (Int.le_of_lt hu)

theorem trunc_monotone_ms (t t' : Int) (h : t ≤ t') : truncTo 1000000 t ≤ truncTo 1000000 t' :=
  trunc_monotone 1000000 (by decide) t t' h

theorem trunc_monotone_cs (t t' : Int) (h : t ≤ t') : truncTo 10000000 t ≤ truncTo 10000000 t' :=
  trunc_monotone 10000000 (by decide) t t' h

/-- **A shift by whole units commutes with the truncation to that unit** -/
theorem trunc_shift (u t k : Int) : truncTo u (t + k * u) = truncTo u t + k * u := by
  unfold truncTo
  rw [Int.add_mul_emod_self_right]
  omega

/-- a sync by a whole number of milliseconds commutes with a conversion to a millisecond format -/
theorem trunc_shift_ms (t k : Int) : truncTo 1000000 (t + k * 1000000) = truncTo 1000000 t + k * 1000000 :=
  trunc_shift 1000000 t k

/-- STL (25 and 30 fps, no programme start): the value read back is at most 1 ns above the instant and less
    than 40 ms + 1 ns (a 25 fps frame) below it -/
theorem truncSTL_bounds (fr : Int) (hfr : fr = 25 ∨ fr = 30) (t : Int) (h0 : 0 ≤ t) :
    truncSTL fr 0 t ≤ t + 1 ∧ t < truncSTL fr 0 t + 40000001 := by
  unfold truncSTL
  rcases hfr with rfl | rfl <;> simp only [Int.add_zero, Int.sub_zero] <;> omega

/-- nothing is done without an input and an output -/
theorem cli_needs_io (cmd : String) (fl : Flags) (h : fl.inputs = 0 ∨ fl.output = false) : plan cmd fl = none := by
  unfold plan
  rcases h with h | h <;> simp [h]

/-- `sync` refuses a zero shift and otherwise shifts by the value of the flag `-s` -/
theorem cli_sync (fl : Flags) (hi : fl.inputs ≠ 0) (ho : fl.output = true) :
    plan "sync" fl = if fl.s = 0 then none else some (.sync fl.s) := by
  unfold plan; simp [hi, ho]

/-- `fragment` refuses a non-positive period -/
theorem cli_fragment (fl : Flags) (hi : fl.inputs ≠ 0) (ho : fl.output = true) :
    plan "fragment" fl = if fl.f ≤ 0 then none else some (.fragment fl.f) := by
  unfold plan; simp [hi, ho]

/-- `apply-linear-correction` needs four positive durations -/
theorem cli_linear (fl : Flags) (hi : fl.inputs ≠ 0) (ho : fl.output = true) :
    (plan "apply-linear-correction" fl).isSome ↔ 0 < fl.a1 ∧ 0 < fl.d1 ∧ 0 < fl.a2 ∧ 0 < fl.d2 := by
  unfold plan
  simp only [hi, ho, ↓reduceIte, Bool.not_true, Bool.false_eq_true]
  by_cases h : fl.a1 ≤ 0 || fl.d1 ≤ 0 || fl.a2 ≤ 0 || fl.d2 ≤ 0
  · simp only [h, ↓reduceIte, Option.isSome_none, Bool.false_eq_true, false_iff]
    simp only [Bool.or_eq_true, decide_eq_true_eq] at h
    omega
  · simp only [h, Bool.false_eq_true, ↓reduceIte, Option.isSome_some, true_iff]
    simp only [Bool.or_eq_true, decide_eq_true_eq, not_or] at h
    omega

/-- `merge` needs a second input; an unknown sub-command does nothing -/
theorem cli_merge_and_unknown (fl : Flags) (hi : fl.inputs ≠ 0) (ho : fl.output = true) :
    (plan "merge" fl = if fl.inputs = 1 then none else some .merge) ∧ plan "bogus" fl = none ∧ plan "" fl = none := by
  unfold plan; simp [hi, ho]

end C07
end Astisub
