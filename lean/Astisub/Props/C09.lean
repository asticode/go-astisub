import Astisub.Model.Ops
import Astisub.Spec.OpsSpec
import Astisub.Lemmas.ListFacts

/-!
# C09 — Sync: shift moves every cue by exactly d, clamps at 0, drops only dead cues

Statements are about `Ops.add`, the loop-faithful model of `Subtitles.Add`
(`subtitles.go`), for **every** list and **every** `d`.
-/

namespace Astisub
open Ops Spec

/-- the zipper loop of `Add` is `filterMap` of its body — the refinement lemma that the
    index rewind (`idx--` after a deletion) makes non-trivial: it holds for arbitrarily long
    runs of consecutive deleted items. -/
theorem addLoop_eq_filterMap (d : Int) (done todo : List Item) :
    addLoop d done todo = done.reverse ++ todo.filterMap (shift1 d) := by
  induction todo generalizing done with
  | nil => simp [addLoop]
  | cons it todo ih =>
    rw [addLoop, List.filterMap_cons]
    cases shift1 d it with
    | none => exact ih done
    | some it' => simp only [ih, List.reverse_cons, List.append_assoc, List.singleton_append]

theorem add_eq_filterMap (d : Int) (xs : List Item) : add d xs = xs.filterMap (shift1 d) := by
  simp [add, addLoop_eq_filterMap]

theorem survives_iff (d : Int) (it : Item) : survives d it = true ↔ 0 < it.endAt + d := by
  simp [survives]

/-- for a well-formed cue the body of `Add` is "drop iff dead, else shift and clamp" -/
theorem shift1_spec (d : Int) (it : Item) (h : it.startAt ≤ it.endAt) :
    shift1 d it = if survives d it then some (shifted d it) else none := by
  unfold shift1 survives shifted
  simp only [decide_eq_true_eq]
  by_cases h1 : it.endAt + d ≤ 0
  · rw [if_pos ⟨h1, by omega⟩, if_neg (by omega)]
  · rw [if_neg (fun h => h1 h.1), if_pos (show 0 < it.endAt + d by omega)]
    by_cases h2 : it.startAt + d ≤ 0
    · rw [if_pos h2, Int.max_eq_left h2]
    · rw [if_neg h2, Int.max_eq_right (by omega)]

end Astisub

namespace Astisub
namespace C09
open Ops Spec

/-- Main theorem.  On every well-formed list (start ≤ end per cue; any order, overlaps,
    duplicates, any length) `Add d` returns exactly the cues whose end stays positive, in
    their original order, with the same identity and content, both boundaries moved by
    exactly `d` and a negative start clamped to 0. -/
theorem add_spec (d : Int) (xs : List Item) (h : WF xs) : add d xs = addSpec d xs := by
  rw [add_eq_filterMap]
  unfold addSpec
  induction xs with
  | nil => simp
  | cons it xs ih =>
    have hit : it.startAt ≤ it.endAt := h it (by simp)
    have hxs : WF xs := fun x hx => h x (by simp [hx])
    rw [List.filterMap_cons, shift1_spec d it hit, ih hxs]
    by_cases hs : survives d it <;> simp [hs]

/-- survivors move by exactly `d` (start clamped at 0), identity and content are kept -/
theorem shifted_fields (d : Int) (it : Item) :
    (shifted d it).endAt = it.endAt + d ∧ (shifted d it).startAt = max 0 (it.startAt + d) ∧
    (shifted d it).uid = it.uid ∧ (shifted d it).content = it.content := by
  simp [shifted, Item.content]

theorem map_uid_addSpec (d : Int) (xs : List Item) :
    (addSpec d xs).map (·.uid) = (xs.filter (survives d)).map (·.uid) := by
  unfold addSpec; rw [List.map_map]; rfl

/-- exactly the dead cues are removed: a cue of the input is represented in the output
    (by identity) iff its shifted end is strictly positive — stated on lists with distinct
    identities. -/
theorem removed_iff (d : Int) (xs : List Item) (h : WF xs) (it : Item) (hit : it ∈ xs)
    (hnd : (xs.map (·.uid)).Nodup) :
    it.uid ∉ (add d xs).map (·.uid) ↔ it.endAt + d ≤ 0 := by
  rw [add_spec d xs h, map_uid_addSpec]
  constructor
  · intro hn
    exact Int.not_lt.mp fun hpos =>
      hn (List.mem_map_of_mem (List.mem_filter.mpr ⟨hit, (survives_iff _ _).mpr hpos⟩))
  · intro hle hmem
    obtain ⟨y, hy, hyu⟩ := List.mem_map.mp hmem
    obtain rfl := List.eq_of_nodup_map hnd (List.mem_filter.mp hy).1 hit hyu
    have := (survives_iff _ _).mp (List.mem_filter.mp hy).2
    omega

/-- order is preserved: the surviving identities are a sublist of the original ones -/
theorem order_kept (d : Int) (xs : List Item) (h : WF xs) :
    ((add d xs).map (·.uid)).Sublist (xs.map (·.uid)) := by
  rw [add_spec d xs h, map_uid_addSpec]
  exact List.filter_sublist.map _

/-- a cue that is neither clamped nor removed by the shift is restored exactly by the
    shift back. -/
theorem inverse_item (d : Int) (it : Item) (h : it.startAt ≤ it.endAt)
    (hs : 0 ≤ it.startAt) (he : 0 < it.endAt) (hsd : 0 ≤ it.startAt + d) (hed : 0 < it.endAt + d) :
    survives d it = true ∧ survives (-d) (shifted d it) = true ∧
      shifted (-d) (shifted d it) = it := by
  refine ⟨(survives_iff _ _).mpr hed, (survives_iff _ _).mpr ?_, ?_⟩
  · simp only [shifted]
    omega
  cases it with
  | mk uid s e l p =>
    simp only [shifted] at *
    have h1 : max 0 (s + d) = s + d := by omega
    have h2 : max 0 (s + d + -d) = s := by omega
    have h3 : e + d + -d = e := by omega
    simp only [h1, h2, h3]

theorem wf_add (d : Int) (xs : List Item) (h : WF xs) : WF (add d xs) := by
  rw [add_spec d xs h]
  intro y hy
  unfold addSpec at hy
  obtain ⟨x, hx, rfl⟩ := List.mem_map.mp hy
  have hx' := (List.mem_filter.mp hx).1
  have hsv := (survives_iff _ _).mp (List.mem_filter.mp hx).2
  have := h x hx'
  simp only [shifted]; omega

/-- Shifting by `d` then by `-d`: every cue of the input that was neither clamped nor removed
    (start ≥ 0 before and after, end > 0 before and after) is back, unchanged, and every cue
    of the result is the restoration of a cue of the input. -/
theorem inverse (d : Int) (xs : List Item) (h : WF xs)
    (hall : ∀ it ∈ xs, 0 ≤ it.startAt ∧ 0 < it.endAt ∧ 0 ≤ it.startAt + d ∧ 0 < it.endAt + d) :
    add (-d) (add d xs) = xs := by
  have hI := fun it hit => inverse_item d it (h it hit) (hall it hit).1 (hall it hit).2.1
    (hall it hit).2.2.1 (hall it hit).2.2.2
  rw [add_spec (-d) _ (wf_add d xs h), add_spec d xs h]
  unfold addSpec
  rw [List.filter_eq_self.mpr fun it hit => (hI it hit).1, List.filter_eq_self.mpr ?_, List.map_map]
  · exact (List.map_congr_left fun it hit => (hI it hit).2.2).trans (List.map_id xs)
  · intro y hy
    obtain ⟨x, hx, rfl⟩ := List.mem_map.mp hy
    exact (hI x hx).2.1

/-- The general inverse law of the property: after `add d` then `add (-d)`, a cue of the
    input that was neither clamped nor removed in either pass is present unchanged. -/
theorem inverse_mem (d : Int) (xs : List Item) (h : WF xs) (it : Item) (hit : it ∈ xs)
    (hs : 0 ≤ it.startAt) (he : 0 < it.endAt) (hsd : 0 ≤ it.startAt + d) (hed : 0 < it.endAt + d) :
    it ∈ add (-d) (add d xs) := by
  have hwf2 : WF (add d xs) := wf_add d xs h
  have ⟨h1, h2, h3⟩ := inverse_item d it (h it hit) hs he hsd hed
  rw [add_spec (-d) _ hwf2, add_spec d xs h]
  unfold addSpec
  apply List.mem_map.mpr
  refine ⟨shifted d it, List.mem_filter.mpr ⟨?_, h2⟩, h3⟩
  exact List.mem_map.mpr ⟨it, List.mem_filter.mpr ⟨hit, h1⟩, rfl⟩

end C09
end Astisub
