import Astisub.Lemmas.STLRead2Why

/-!
# C05 (read clause) — EBU STL: the reader model returns exactly what a well-formed file denotes

`Props/C05doc.lean`, `Props/C05doc2.lean` prove the write clause (files produced by the writer model).  This file
proves the READ clause for **every** input: whenever the independent decoder `Spec.STL.decode` (written from Tech 3264, `none` outside its
class) accepts a byte string `doc` and denotes `d`, the model of `ReadFromSTL` succeeds on `doc`, and what it
returns is a function of `d` whose view under the `stl.read` check is `d` again.  Nothing is assumed about where
`doc` comes from; all three display standards (0 open subtitling, 1 / 2 teletext) and both frame rates are covered,
with and without `IgnoreTimecodeStartOfProgramme`.

* `read_decode` — structural form: `STL.read ig doc = .ok (docMeta d, d.cues.map (docCue d.dsc d.mnr))`.
* `read_decode_view` — as the clauses of the `stl.read` case of `Driver/STL.lean` (`readWhy`) state it, on the
  model's answer: frame rate / display standard / language, GSI text fields, dates / numbers, programme start,
  number of cues, timecodes, `cueView`, `propagationOK`, maximum rows in `STLPosition`.
* `read_why` — the predicate `Driver.STLD.readWhy` itself returns no failed clause on any answer that parses into the
  model's answer (hypotheses: the canonical print / parse of the protocol, which is not proved here).

The only hypothesis of the three is `Spec.STL.decode ig doc = some d` (`read_why` adds the protocol's print / parse).

Vocabulary (defined in `Lemmas/STLRead2*.lean`): `docMeta d` — the `Meta` record with the decoder's values
(language: the library's name for the code, or empty); `docCue dsc mnr c` — the `CItem` with the decoder's times,
`itemAttrs c.just c.vp mnr c.nrows`, and per line the items `runItem dsc r` (`openItem`: text + the three STL flags;
`teleItem`: also colour, sizes and blank counts); `Seg`, `itemOf`, `runOf` — a run as (trimmed text, three optional
flags), as line item, as decoder run (from `Lemmas/STL2Tok.lean`); `CueOK`, `RunOK`, `OpenRun`, `ColOK` — decidable
facts about decoder output; `MetaCarried a m` — the attribute list `a` carries the metadata `m` key by key.
-/

namespace Astisub
namespace C05
open Go STL

/-- **Read clause, structural form.**  For every byte string `doc` and both settings of
    `IgnoreTimecodeStartOfProgramme`: if the independent decoder accepts `doc` and denotes `d`, the model of
    `ReadFromSTL` succeeds on `doc` and returns the metadata `docMeta d` and exactly one cue `docCue d.dsc d.mnr c`
    per cue `c` of `d`, in order (user-data blocks skipped by both). -/
theorem read_decode (ig : Bool) (doc : Bytes) (d : Spec.STL.Doc) (h : Spec.STL.decode ig doc = some d) :
    STL.read ig doc = .ok (docMeta d, d.cues.map (docCue d.dsc (d.mnr : Int))) :=
  read_of_decode ig doc d h

/-- the metadata returned, field by field (definition of `docMeta`) -/
theorem docMeta_fields (d : Spec.STL.Doc) :
    docMeta d =
      { framerate := (d.fr : Int), language := (languageOf d.lang).getD [], country := d.texts.getD 7 [],
        creation := some { yy := d.cd.1, mm := d.cd.2.1, dd := d.cd.2.2 }, dsc := [0x30 + d.dsc],
        editorContact := d.texts.getD 10 [], editorName := d.texts.getD 9 [], maxChars := some (d.mnc : Int),
        maxRows := some (d.mnr : Int), origEpisode := d.texts.getD 1 [], publisher := d.texts.getD 8 [],
        revisionDate := some { yy := d.rd.1, mm := d.rd.2.1, dd := d.rd.2.2 }, revisionNumber := (d.rn : Int),
        slr := d.texts.getD 6 [], tcp := d.tcpNs, translEpisode := d.texts.getD 3 [], translProgram := d.texts.getD 2 [],
        translContact := d.texts.getD 5 [], translName := d.texts.getD 4 [], title := d.texts.getD 0 [] } := rfl

/-- the cue returned, field by field (definition of `docCue`, `runItem`, `openItem`, `teleItem`) -/
theorem docCue_fields (dsc : Nat) (mnr : Int) (c : Spec.STL.Cue) :
    docCue dsc mnr c =
      { startAt := c.startNs, endAt := c.endNs, attrs := itemAttrs c.just c.vp mnr c.nrows,
        lines := c.lines.map fun l => { items := l.map (runItem dsc) } } ∧
    (∀ r, runItem 0 r = { text := r.text, attrs := some (mkAttrs (stlAttrs { italics := r.italic, underline := r.underline, boxing := r.boxing })) }) ∧
    (∀ r, dsc ≠ 0 → runItem dsc r = { text := r.text, attrs := some (mkAttrs (stlAttrs (lstyR r) ++
      [("TeletextColor", r.color.map colorSSA), ("TTMLColor", r.color.map colorTTML),
       ("TeletextDoubleHeight", optB r.dh), ("TeletextDoubleSize", optB r.ds), ("TeletextDoubleWidth", optB r.dw),
       ("TeletextSpacesBefore", some (itoaNat r.spacesBefore)), ("TeletextSpacesAfter", some (itoaNat r.spacesAfter))])) }) :=
  ⟨rfl, fun _ => rfl, fun r h => by rw [runItem_tele dsc h]; rfl⟩

/-- **Read clause, as the `stl.read` check states it** (the clauses of `Driver.STLD.readWhy`, in its order, on the
    model's answer).  If the decoder accepts `doc` and denotes `d`, the reader model returns metadata `m` and cues
    `items` such that
    * frame rate and display standard code are `d`'s; the language is the library's name for a code it knows
      (`language_names`);
    * the eleven GSI text values are `d.texts`;
    * creation / revision date, revision number, maximum characters / rows are `d`'s;
    * the programme start is `d.tcpNs` (0 when ignored);
    * there are as many cues as `d` has, with the same two instants each;
    * the check's view `cueView` of every cue (times, justification code, vertical position, number of rows, and
      the runs with all their attributes, read back out of the attribute lists) is the cue `d` denotes;
    * the derived attributes (`WebVTTAlign`, `WebVTTLine`, `TTMLColor`) are the ones the check recomputes;
    * the second component of every `STLPosition` is `d.mnr`. -/
theorem read_decode_view (ig : Bool) (doc : Bytes) (d : Spec.STL.Doc) (h : Spec.STL.decode ig doc = some d) :
    ∃ m items, STL.read ig doc = .ok (m, items) ∧
      m.framerate = (d.fr : Int) ∧ m.dsc = [48 + d.dsc] ∧ m.language = (languageOf d.lang).getD [] ∧
      [m.title, m.origEpisode, m.translProgram, m.translEpisode, m.translName, m.translContact, m.slr, m.country,
        m.publisher, m.editorName, m.editorContact] = d.texts ∧
      m.creation = some { yy := d.cd.1, mm := d.cd.2.1, dd := d.cd.2.2 } ∧
      m.revisionDate = some { yy := d.rd.1, mm := d.rd.2.1, dd := d.rd.2.2 } ∧
      m.revisionNumber = (d.rn : Int) ∧ m.maxChars = some (d.mnc : Int) ∧ m.maxRows = some (d.mnr : Int) ∧
      m.tcp = d.tcpNs ∧
      items.length = d.cues.length ∧
      items.map (fun it => (it.startAt, it.endAt)) = d.cues.map (fun c => (c.startNs, c.endNs)) ∧
      items.map Driver.STLD.cueView = d.cues.map some ∧
      items.all Driver.STLD.propagationOK = true ∧
      (items.all fun it => (Driver.STLD.posOf it.attrs).any fun p => p.2.1 == (d.mnr : Int)) = true := by
  obtain ⟨v1, v2, v3, v4⟩ := cues_view ig doc d h _ rfl
  exact ⟨_, _, read_of_decode ig doc d h, rfl, rfl, rfl, texts_eleven d.texts (decode_inv ig doc d h).texts, rfl, rfl, rfl, rfl,
    rfl, rfl, by simp, v1, v2, v3, v4⟩

/-- **The predicate of the `stl.read` stream on the model's answer.**  `Driver.STLD.readWhy ig doc impl` lists the
    failed clauses of the property for the answer tokens `impl`.  For every document the decoder accepts and every
    answer `"ok" :: rest` whose tokens parse (`Proto.decSubs`) into a value `s` carrying the reader model's answer —
    the cues of `read_decode` and, key by key, its metadata (`MetaCarried`) — the list is empty.
    (That the printed form of the model's answer parses back into such an `s` is the protocol's print / parse round
    trip, exercised on every case by the stream, not proved here.) -/
theorem read_why (ig : Bool) (doc : Bytes) (d : Spec.STL.Doc) (rest : List String) (s : Subs)
    (h : Spec.STL.decode ig doc = some d) (hdec : Proto.decSubs rest = some (s, []))
    (hitems : s.items = d.cues.map (docCue d.dsc (d.mnr : Int))) (hmeta : MetaCarried s.metadata (docMeta d)) :
    Driver.STLD.readWhy ig doc ("ok" :: rest) = [] :=
  readWhy_model ig doc d rest s h hdec hitems hmeta

/-- outside the decoder's class the predicate says nothing -/
theorem read_why_outside (ig : Bool) (doc : Bytes) (impl : List String) (h : Spec.STL.decode ig doc = none) :
    Driver.STLD.readWhy ig doc impl = [] := by
  unfold Driver.STLD.readWhy; rw [h]

/-- **Language names.**  The five language codes the library knows, and what `docMeta` shows for them; for any
    other code the language is empty (and the check claims nothing). -/
theorem language_names :
    (languageOf (lit "0F")).getD [] = lit "french" ∧ (languageOf (lit "09")).getD [] = lit "english" ∧
    (languageOf (lit "1E")).getD [] = lit "norwegian" ∧ (languageOf (lit "69")).getD [] = lit "japanese" ∧
    (languageOf (lit "75")).getD [] = lit "chinese" := language_table

/-- **What the decoder denotes is well formed**: every cue has a justification code 0–3; under display standard 0
    its runs carry no teletext attribute and no blank count, under 1 / 2 a colour is one of the eight (`CueOK`). -/
theorem decoded_cues_wellformed (ig : Bool) (doc : Bytes) (d : Spec.STL.Doc) (h : Spec.STL.decode ig doc = some d) :
    ∀ c ∈ d.cues, c.just ≤ 3 ∧ ∀ l ∈ c.lines, ∀ r ∈ l, if d.dsc = 0 then OpenRun r else ColOK r :=
  decode_cues_ok ig doc d h

/-- the check reads a cue of the model back as the decoder's cue (`cueView ∘ docCue = some`, on well-formed cues) -/
theorem cue_view (dsc mnr : Nat) (c : Spec.STL.Cue) (h : CueOK dsc c) :
    Driver.STLD.cueView (docCue dsc (mnr : Int) c) = some c :=
  cueView_docCue dsc mnr c h

/-- the check reads a run of the model back as the decoder's run, under either kind of display standard -/
theorem run_view (dsc : Nat) (r : Spec.STL.Run) (h : RunOK dsc r) : Driver.STLD.runView (runItem dsc r) = r :=
  runView_runItem dsc r h

/-- **GSI block.**  For every file the decoder accepts, `parseGSIBlock` on the first 1024 bytes succeeds and every value
    it keeps is the decoder's (`gsiOfSpec`: character table 12336, language code, frame rate, display standard, the
    eleven text values, dates, numbers; `tcp` is the programme start as read, before `ignore` is applied). -/
theorem gsi_block (ig : Bool) (doc : Bytes) (d : Spec.STL.Doc) (h : Spec.STL.decode ig doc = some d) :
    ∃ tcp : Int, parseGSI (doc.take 1024) = some (gsiOfSpec d.fr d.dsc d.lang d.texts d.cd d.rd d.rn d.mnc d.mnr tcp) ∧
      d.tcpNs = (if ig then 0 else tcp) ∧ (d.fr = 25 ∨ d.fr = 30) :=
  (decode_inv ig doc d h).gsi

/-- **Text field**, any block, any position: a field of printable ASCII the decoder reads (blanks removed at both
    ends) is read by the model's `TrimSpace` as the same bytes -/
theorem gsi_text_field (b : Bytes) (lo n : Nat) (t : Bytes) (h : Spec.STL.textField b lo n = some t) :
    field b lo (lo + n) = t :=
  textField_field b lo n t h

/-- **Two-digit number** (revision number, maximum characters / rows): same value through `strconv.Atoi` -/
theorem gsi_number (b : Bytes) (lo v : Nat) (h : Spec.STL.numField b lo 2 = some v) :
    atoiField (field b lo (lo + 2)) = some (some (v : Int)) :=
  numField_atoi b lo 2 v (by decide) h

/-- **Date** `YYMMDD`: a date the decoder accepts is parsed by the model of `time.Parse("060102")` into the same
    year (two digits), month, day -/
theorem gsi_date (b : Bytes) (lo : Nat) (t : Nat × Nat × Nat) (h : Spec.STL.dateField b lo = some t) :
    dateField (field b lo (lo + 6)) = some { yy := t.1, mm := t.2.1, dd := t.2.2 } :=
  date_of_spec b lo t h

/-- **Textual timecode** `HHMMSSFF` (programme start, first cue): an in-range timecode denotes the same instant
    for the decoder (least instant of the frame) and for the model of `parseDurationSTL`, at any positive frame rate -/
theorem gsi_timecode (b : Bytes) (lo fr : Nat) (T : Int) (hfr : 0 < fr) (h : Spec.STL.tcText b lo fr = some T) :
    gsiTimecode (field b lo (lo + 8)) (fr : Int) = some T :=
  tc_of_spec b lo fr T hfr h

/-- **TTI block, display standard 0.**  For every 128-byte block the decoder accepts at `fr` frames per second with the
    offset `off` (user data: `r = none`, otherwise the cue denoted): the reader model with the same frame rate,
    display standard code `'0'`, entered without a pending diacritic, skips it / returns `docCue 0` of that cue — same
    binary timecodes minus `off`, justification, vertical position, number of rows, lines — and leaves no diacritic
    pending for the next block. -/
theorem tti_block_open (g : GSI) (fr : Nat) (off : Int) (p : Bytes) (r : Option Spec.STL.Cue)
    (hfr : g.m.framerate = (fr : Int)) (hpos : 0 < fr) (hdsc : g.m.dsc = [0x30])
    (h : Spec.STL.tti fr 0 off p = some r) :
    ttiItem g off none p = some (r.map (docCue 0 (g.m.maxRows.getD 0)), none) :=
  tti_agree g fr 0 off p r hfr hpos hdsc h

/-- the same under the teletext display standards: code `'1'` or `'2'` in the GSI, rows parsed by `parseTeletextRow`, and the cue
    returned is `docCue dsc` of the cue the decoder denotes -/
theorem tti_block_teletext (g : GSI) (fr dsc : Nat) (off : Int) (p : Bytes) (r : Option Spec.STL.Cue)
    (hfr : g.m.framerate = (fr : Int)) (hpos : 0 < fr) (hne : dsc ≠ 0) (hdsc : g.m.dsc = [0x30 + dsc])
    (h : Spec.STL.tti fr dsc off p = some r) :
    ttiItem g off none p = some (r.map (docCue dsc (g.m.maxRows.getD 0)), none) :=
  tti_agree g fr dsc off p r hfr hpos hdsc h

/-- the block loop: any fuel that is at least the number of bytes cuts the same 128-byte blocks (the decoder uses the
    file length, the model the length of the rest + 1) -/
theorem block_loop_fuel (fuel : Nat) (b : Bytes) (h : b.length ≤ fuel) : chunks 128 fuel b = chunks 128 b.length b :=
  chunks_fuel_eq 128 (by decide) fuel b.length b h (Nat.le_refl _)

/-- **Open-subtitling row, arbitrary bytes.**  For every byte sequence the decoder accepts as a row (table characters,
    floating diacritic + letter pairs, the six style codes, filler 0x8F) denoting the runs `res`: there are segments
    `segs` (trimmed text, three optional flags) with `res = segs.map runOf`, and `parseOpenSubtitleRow`, entered
    without a pending diacritic, returns the line of the items `segs.map itemOf` (no line when there is no run) and
    leaves no diacritic pending. -/
theorem open_row (row : Bytes) (res : List Spec.STL.Run) (h : Spec.STL.openRow row {} [] [] = some res) :
    ∃ segs : List Seg, res = segs.map runOf ∧
      STL.openRow none row = some (if segs.isEmpty then none else some { items := segs.map itemOf }, none) :=
  open_row_agree row res h

/-- the same from any state of the decoder: the model's loop state stays the image (`mst`) of the decoder's state
    (style, pending text, closed runs) — the simulation relation, step by step along the decoder's recursion -/
theorem open_row_simulation (row : Bytes) (a : AS) (res : List Spec.STL.Run)
    (h : Spec.STL.openRow row (ssty a.s) a.t (a.out.map runOf) = some res) :
    ∃ a' : AS, openFold (mst a) row = some (mst a') ∧ res = (absEnd a').map runOf :=
  open_sim row.length row (Nat.le_refl _) a res h

/-- **Teletext row, arbitrary bytes.**  For every byte sequence the decoder accepts as a row under display standard
    1 / 2 (start / end box, colours, sizes, style codes — none redundant —, characters, diacritic + letter pairs, filler)
    denoting the runs `res`: `parseTeletextRow`, entered without a pending diacritic, returns the line of the items
    `res.map teleItem` (no line when there is no run) and leaves no diacritic pending. -/
theorem teletext_row (row : Bytes) (res : List Spec.STL.Run) (h : Spec.STL.teleRow row {} 0 [] [] = some res) :
    STL.teleRow none row = (if res.isEmpty then none else some { items := res.map teleItem }, none) :=
  tele_row_agree row res h

/-- the same from any state of the decoder (style, box state 0 / 1 / 2, pending text, closed runs): the model's state
    is `tst` of it — same style pointers, `started` iff inside the box, same text, closed runs as items -/
theorem teletext_row_simulation (row : Bytes) (s : Spec.STL.Sty) (box : Nat) (t : Str) (acc res : List Spec.STL.Run)
    (h : Spec.STL.teleRow row s box t acc = some res) :
    appendTele (row.foldl teleStep (tst s box t acc)) = res.map teleItem ∧
      (row.foldl teleStep (tst s box t acc)).acc = none :=
  tele_sim row s box t acc res h

namespace ExampleRead

/-- (a) a hand-made open-subtitling file (not writer output): display standard 0, 25 fps, language 0F, creation date
    29 February 2000, bytes 373–1023 of the GSI block zero -/
def gsiO : Bytes :=
  lit "850" ++ lit "STL25.01" ++ lit "0" ++ lit "00" ++ lit "0F" ++ padR 0x20 32 (lit "Titre") ++ List.replicate 160 0x20
    ++ List.replicate 16 0x20 ++ lit "000229" ++ lit "991231" ++ lit "00" ++ lit "00001" ++ lit "00001" ++ lit "001"
    ++ lit "38" ++ lit "11" ++ lit "0" ++ lit "00000000" ++ lit "00000000" ++ lit "1" ++ lit "1" ++ lit "   "
    ++ List.replicate 96 0x20 ++ List.replicate 651 0x00

/-- a cue 00:00:01:00 – 23:59:59:24 (the last frame of the day), right-justified: italics on, "Caf", floating acute + e,
    italics off, " x"; line break; filler, "½ Ω"; line break; a blank and a style code (a row without a run) -/
def ttiO : Bytes :=
  [0, 1, 0, 0xFF, 0] ++ [0, 0, 1, 0] ++ [23, 59, 59, 24] ++ [0, 3, 1]
    ++ padR 0x8F 112 [0x80, 0x43, 0x61, 0x66, 0xC2, 0x65, 0x81, 0x20, 0x78, 0x8A, 0x8F, 0xBD, 0x20, 0xE0, 0x8A, 0x20, 0x84]

def docO : Bytes := gsiO ++ ttiO

/-- what `docO` denotes: three rows in the text field, two lines with runs -/
def dO : Spec.STL.Doc :=
  { fr := 25, dsc := 0, lang := lit "0F", texts := [lit "Titre", [], [], [], [], [], [], [], [], [], []],
    cd := (0, 2, 29), rd := (99, 12, 31), rn := 0, mnc := 38, mnr := 11, tcpNs := 0,
    cues := [{ startNs := 1000000000, endNs := 86399960000000, just := 3, vp := 0, nrows := 3,
               lines := [[{ text := "Café".toList, italic := some true }, { text := "x".toList, italic := some false }],
                         [{ text := "½ Ω".toList }]] }] }

theorem docO_denotes : Spec.STL.decode true docO = some dO := by decide +kernel

example : STL.read true docO = .ok (docMeta dO, dO.cues.map (docCue 0 11)) := read_decode true docO dO docO_denotes

/-- (b) a hand-made teletext file: GSI block for display standard 1, 30 fps, programme start 10:00:00:00, language 09 -/
def gsiT : Bytes :=
  lit "850" ++ lit "STL30.01" ++ lit "1" ++ lit "00" ++ lit "09" ++ padR 0x20 32 (lit "A title") ++ List.replicate 160 0x20
    ++ padR 0x20 16 (lit "REF 1") ++ lit "260927" ++ lit "260927" ++ lit "03" ++ lit "00002" ++ lit "00002" ++ lit "001"
    ++ lit "40" ++ lit "23" ++ lit "1" ++ lit "10000000" ++ lit "10000100" ++ lit "1" ++ lit "1" ++ lit "FRA"
    ++ List.replicate 96 0x20 ++ List.replicate 651 0x20

/-- a cue 10:00:01:00 – 10:00:02:15, row 20, centred: double height, start box twice, yellow, "H", e with a floating
    acute, end box twice; line break; start box, italics on, " ok ", end box; filler -/
def ttiT : Bytes :=
  [0, 1, 0, 0xFF, 0] ++ [10, 0, 1, 0] ++ [10, 0, 2, 15] ++ [20, 2, 0]
    ++ padR 0x8F 112 [0x0D, 0x0B, 0x0B, 0x03, 0x48, 0xC2, 0x65, 0x0A, 0x0A, 0x8A, 0x0B, 0x0B, 0x80, 0x20, 0x6F, 0x6B, 0x20, 0x0A]

/-- a user-data block (extension block number 0xFE) -/
def ttiU : Bytes := [0, 2, 0, 0xFE, 0] ++ List.replicate 123 0x41

def docT : Bytes := gsiT ++ ttiT ++ ttiU

/-- what `docT` denotes (programme start not ignored), in full: one cue (the user-data block is skipped), times relative
    to the programme start; first row: colour 3 + double height, "H" + e with acute; second row: italics, " ok " with one
    blank counted on each side -/
def dT : Spec.STL.Doc :=
  { fr := 30, dsc := 1, lang := lit "09",
    texts := [lit "A title", [], [], [], [], [], lit "REF 1", lit "FRA", [], [], []],
    cd := (26, 9, 27), rd := (26, 9, 27), rn := 3, mnc := 40, mnr := 23, tcpNs := 36000000000000,
    cues := [{ startNs := 1000000000, endNs := 2500000000, just := 2, vp := 20, nrows := 2,
               lines := [[{ text := "Hé".toList, color := some 3, dh := some true }],
                         [{ text := "ok".toList, italic := some true, spacesBefore := 1, spacesAfter := 1 }]] }] }

theorem docT_denotes : Spec.STL.decode false docT = some dT := by decide +kernel

/-- so, by `read_decode`, the reader model's answer on `docT` is known without running it -/
example : STL.read false docT = .ok (docMeta dT, dT.cues.map (docCue 1 23)) := read_decode false docT dT docT_denotes

/-- the decidable side conditions of the view lemmas on concrete values -/
example : OpenRun { text := "a".toList, italic := some true } ∧ ¬ OpenRun { text := "a".toList, color := some 3 } := by decide

example : ColOK { text := "a".toList, color := some 3 } ∧ ¬ ColOK { text := "a".toList, color := some 9 } := by decide

example : RunOK 1 { text := "a".toList, color := some 7, dh := some true, spacesBefore := 2 } ∧
    RunOK 0 { text := "a".toList, boxing := some false } := by decide

example : CueOK 1
    { startNs := 0, endNs := 1, just := 3, vp := 20, nrows := 1,
      lines := [[{ text := "Hé".toList, color := some 3, dh := some true }]] } := by decide

/-- … and they hold for everything the decoder denotes for `docT` (by `decoded_cues_wellformed`) -/
example : ∀ d, Spec.STL.decode false docT = some d → ∀ c ∈ d.cues, CueOK d.dsc c :=
  fun d h => decode_cues_ok false docT d h

/-- the metadata attribute list of the canonical answer for `docT`, as `Proto.decSubs` delivers it (sorted keys,
    values as characters): it carries `docMeta` of what `docT` denotes — the hypothesis `hmeta` of `read_why` -/
def attrsT : Attrs := some [
  ("Framerate".toList, "30".toList), ("Language".toList, "english".toList), ("STLCountryOfOrigin".toList, "FRA".toList),
  ("STLCreationDate".toList, "260927".toList), ("STLDisplayStandardCode".toList, "1".toList),
  ("STLMaximumNumberOfDisplayableCharactersInAnyTextRow".toList, "40".toList),
  ("STLMaximumNumberOfDisplayableRows".toList, "23".toList), ("STLRevisionDate".toList, "260927".toList),
  ("STLRevisionNumber".toList, "3".toList), ("STLSubtitleListReferenceCode".toList, "REF 1".toList),
  ("STLTimecodeStartOfProgramme".toList, "36000000000000".toList), ("Title".toList, "A title".toList)]

theorem intOf_lit (n : Nat) (s : Str) (h : itoaNat n = s) : Driver.STLD.intOf s = some (n : Int) := h ▸ intOf_itoaNat n

/-- looking a string literal up in a list whose keys are `String.toList` of literals compares the strings; no character
    list is evaluated -/
theorem kv_cons (k : String) (v : Str) (l : List (Str × Str)) (q : String) :
    Driver.STLD.kv (some ((k.toList, v) :: l)) q = if q = k then some v else Driver.STLD.kv (some l) q := by
  show List.lookup q.toList ((k.toList, v) :: l) = ite _ _ (List.lookup q.toList l)
  rw [List.lookup_cons]
  by_cases h : q = k
  · rw [if_pos h, h, beq_self_eq_true]
  · rw [if_neg h, beq_eq_false_iff_ne.mpr (mt String.toList_inj.mp h)]

example : MetaCarried attrsT (docMeta dT) := by
  have i1 := intOf_lit 30 "30".toList (by decide)
  have i2 := intOf_lit 3 "3".toList (by decide)
  have i3 := intOf_lit 36000000000000 "36000000000000".toList (by decide +kernel)
  constructor <;> simp only [attrsT, kv_cons, String.reduceEq, if_true, if_false, Option.bind_some, i1, i2, i3] <;>
    decide +kernel

end ExampleRead

end C05
end Astisub
