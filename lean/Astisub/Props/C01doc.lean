import Astisub.Lemmas.SRTTok
import Astisub.Lemmas.SRTMerge
import Astisub.Lemmas.SRTSpec
import Astisub.Lemmas.SRTStable

/-!
# C01 (document level) — SubRip write → read round trip, for all representable cue lists

`Props/C01.lean` proves the component laws of the SubRip codec.  This file proves the
whole-document statement for the Lean model: for **every** cue list `s` that SubRip can carry
(`SRTDoc.Rep s`, a decidable predicate), reading the text the writer produces gives back `s` up to
the normalisation the format forces (`SRTDoc.norm s`): this clause is called **W1** below.  **W2** is the
companion clause for the independent decoder: `Spec.SRT.decode` applied to the written text gives the
cues of `specView s`.

Vocabulary (defined in `Lemmas/SRTDoc.lean`, all executable):

* `Rep s`  — at least one cue, not more than 2⁶³−1; both instants of every cue in `[0, 100 h)`;
  every line has at least one run; every run has some ink (a character other than white space, or a
  no-break space), no CR / LF / NUL, no `-->`, no `SRTPosition`; a colour (when set and not empty) has
  none of `" & >` CR LF NUL; no two *unstyled* runs are adjacent; a line does not begin or end with
  white space that `strings.TrimSpace` would remove.
* `norm s` — cue `k` gets index `k+1`; instants are truncated to the millisecond; every run keeps
  its text and gets the attributes the reader derives from bold / italics / underline / colour
  (`SRTBold`, `SRTColor`, `SRTItalics`, `SRTUnderline`, `TTMLColor`, `WebVTTBold`, `WebVTTItalics`,
  `WebVTTUnderline`, `WebVTTTags`); nothing is merged; what SubRip does not carry (styles, regions,
  metadata, voice, comments, inline style, other attributes) is dropped.
-/

namespace Astisub
namespace C01doc
open Go SRT SRTDoc List

/-- a non-empty text without `<` and NUL is a single text token -/
theorem tokenize_plain_text (t : Str) (hne : t ≠ []) (ht : ∀ c ∈ t, c ≠ '<' ∧ c ≠ '\x00') :
    tokenize t = .ok [Tok.text t] :=
  tokenize_text t hne (fun c hc => by simp [plainChar, (ht c hc).1, (ht c hc).2])

/-- `<b>` in front of anything is a start tag followed by the tokens of the rest (the same holds
    for `<i>`, `<u>`, `</b>`, `</i>`, `</u>`, `</font>` and `<font color="c">`: next theorem) -/
theorem tokenize_bold_then (rest : Str) :
    tokenize ("<b>".toList ++ rest) = (tokenize rest).prepend [Tok.startTag "<b>".toList "b".toList []] :=
  tokenize_b rest

/-- every tag the writer emits, in front of anything, is one token followed by the tokens of the rest -/
theorem tokenize_writer_tag_then (t : Tok) (hw : WriterTok t) (hnt : t.isText = false) (rest : Str) :
    tokenize (t.raw ++ rest) = (tokenize rest).prepend [t] :=
  (hw.tagTok hnt).tokenize rest

/-- the colour tag: `<font color="c">` with `c` free of `"`, `&`, NUL is a start tag with the
    attribute `color = c` -/
theorem tokenize_font_then (c rest : Str) (hc : colorOK c = true) :
    tokenize ("<font color=\"".toList ++ c ++ "\">".toList ++ rest)
      = (tokenize rest).prepend
          [Tok.startTag ("<font color=\"".toList ++ c ++ "\">".toList) "font".toList [("color".toList, c)]] :=
  tokenize_font c rest hc

/-- a sequence of writer tokens (texts without `<`/NUL and the eight tags) in which no two texts are
    adjacent is exactly what the tokenizer returns for the concatenation of their raw texts -/
theorem tokenize_writer_markup (ts : List Tok) (hw : ∀ t ∈ ts, WriterTok t) (hadj : noAdjText ts = true) :
    tokenize (ts.flatMap Tok.raw) = .ok ts :=
  tokenize_writerToks ts hw hadj

/-- **Line.** the text the writer emits for a representable line is parsed back into the same runs
    (normalised attributes), and every tag is closed again: the running style is empty afterwards -/
theorem parse_written_line (l : Line) (h : RepLine l = true) :
    parseText (SRTDoc.lineStr l) {} = .ok (({} : Run), normLine l) :=
  parseText_lineStr l h

/-- … and the reader neither trims it, nor takes it for a timing line, nor for an empty line -/
theorem written_line_kept (l : Line) (h : RepLine l = true) :
    trimSpace (SRTDoc.lineStr l) = SRTDoc.lineStr l ∧ Go.contains arrow (SRTDoc.lineStr l) = false ∧ SRTDoc.lineStr l ≠ [] ∧
      '\n' ∉ SRTDoc.lineStr l ∧ '\r' ∉ SRTDoc.lineStr l :=
  ⟨trimSpace_lineStr l h, lineStr_no_arrow l h, lineStr_ne_nil l h,
   lineStr_no_break l h _ (Or.inl rfl), lineStr_no_break l h _ (Or.inr rfl)⟩

theorem rep_items {s : Subs} (h : Rep s = true) :
    ∃ it0 rest, s.items = it0 :: rest ∧ (∀ it ∈ it0 :: rest, RepItem it = true) ∧ (it0 :: rest).length ≤ int64Max := by
  have F := rep_iff.mp h
  obtain ⟨it0, rest, hi⟩ := List.exists_cons_of_ne_nil F.ne
  exact ⟨it0, rest, hi, hi ▸ F.items, hi ▸ F.count⟩

theorem write_lines (s : Subs) (h : Rep s = true) :
    ∃ it0 rest, s.items = it0 :: rest ∧ write s = some (unlines (docLinesPad it0 rest 0)) ∧
      (∀ l ∈ docLinesPad it0 rest 0, '\n' ∉ l ∧ '\r' ∉ l) := by
  obtain ⟨it0, rest, hi, hrep, _⟩ := rep_items h
  refine ⟨it0, rest, hi, ?_, fun l hl => ⟨docLinesPad_no_break it0 rest 0 hrep _ (Or.inl rfl) l hl,
    docLinesPad_no_break it0 rest 0 hrep _ (Or.inr rfl) l hl⟩⟩
  have := write_eq_unlines it0 rest s.regions s.styles s.metadata
  rw [← hi] at this
  exact this

/-- **W1 (write → read), lines as a scanner delivers them.** For every representable cue list, the reader
    applied to *any* list of lines whose LF-terminated concatenation is the written text (a final LF does not
    open a new line — `bufio.ScanLines`), followed by any number of empty lines, returns the normal form of
    the cue list -/
theorem read_write_lines (s : Subs) (h : Rep s = true) (doc : Str) (hw : write s = some doc)
    (ls : List Str) (hls : ∀ l ∈ ls, '\n' ∉ l) (hdoc : unlines ls = doc) (m : Nat) :
    SRT.read ((ls ++ List.replicate m []).map some) = .ok (norm s) := by
  obtain ⟨it0, rest, hi, hrep, hlen⟩ := rep_items h
  obtain ⟨it0', rest', hi', hw', hnb⟩ := write_lines s h
  rw [hi] at hi'; cases hi'
  rw [hw] at hw'; cases hw'
  have e : ls = docLinesPad it0 rest 0 := by
    have h1 : splitC '\n' (unlines ls) = ls ++ [[]] := splitC_lfLines hls
    rw [hdoc, unlines_lf, splitC_lfLines (fun l hl => (hnb l hl).1)] at h1
    exact (List.append_cancel_right h1).symm
  have : ls ++ List.replicate m [] = docLinesPad it0 rest m := by
    rw [e]; simp [docLinesPad]
  rw [this, read_docLinesPad it0 rest m hrep hlen, norm, hi]

/-- **W1, lines cut at every LF** (`strings.Split(doc, "\n")`: the LF behind the last line leaves a final
    empty line): same result -/
theorem read_write (s : Subs) (h : Rep s = true) (doc : Str) (hw : write s = some doc) :
    SRT.read ((splitC '\n' doc).map some) = .ok (norm s) := by
  obtain ⟨it0, rest, hi, hw', hnb⟩ := write_lines s h
  rw [hw] at hw'; cases hw'
  rw [unlines_lf, splitC_lfLines (fun l hl => (hnb l hl).1)]
  exact read_write_lines s h _ hw _ (fun l hl => (hnb l hl).1) rfl 1

/-- **W1 on bytes, as the check computes it.** UTF-8 encode the written text, cut the bytes into
    lines with the scanner model (`Go.linesOf`: `bufio.Scanner` with the package's split function, whole
    buffer), decode every line, read: the result is the normal form.  This is exactly the model side
    of the `srt.write` stream (`Driver.handleSRT`) -/
theorem read_write_bytes (s : Subs) (h : Rep s = true) (doc : Str) (hw : write s = some doc) :
    SRT.read (Driver.docLines (Driver.utf8 doc)) = .ok (norm s) := by
  obtain ⟨it0, rest, hi, hw', hnb⟩ := write_lines s h
  rw [hw] at hw'; cases hw'
  rw [unlines_lf, docLines_lfLines hnb]
  have := read_write_lines s h _ hw (docLinesPad it0 rest 0) (fun l hl => (hnb l hl).1) rfl 0
  simpa using this

/-- **W1, lines cut at LF, CRLF or lone CR** (the independent decoder's line splitter): same result -/
theorem read_write_splitLines (s : Subs) (h : Rep s = true) (doc : Str) (hw : write s = some doc) :
    SRT.read ((Spec.SRT.splitLines doc []).map some) = .ok (norm s) := by
  obtain ⟨it0, rest, hi, hw', hnb⟩ := write_lines s h
  rw [hw] at hw'; cases hw'
  rw [unlines, Spec.SRT.splitLines_flatMap_lf hnb]
  have := read_write_lines s h _ hw (docLinesPad it0 rest 0) (fun l hl => (hnb l hl).1) rfl 0
  simpa using this

/-- **W1 without the adjacency proviso.** When unstyled runs *are* adjacent the writer puts nothing
    between them and they come back as one run: for every cue list without `SRTPosition` whose merged
    form `mergeS s` is representable, reading the written text gives the normal form of the merged list -/
theorem read_write_merged (s : Subs) (hp : noPosition s = true) (h : Rep (mergeS s) = true) (doc : Str)
    (hw : write s = some doc) : SRT.read ((splitC '\n' doc).map some) = .ok (norm (mergeS s)) :=
  read_write (mergeS s) h doc (by rw [write_mergeS s hp]; exact hw)

/-- a line with two adjacent unstyled runs -/
def exampleAdjacent : Subs :=
  { items := [{ startAt := 0, endAt := 1000000000,
                lines := [{ items := [{ text := "a ".toList }, { text := "b".toList },
                                      { text := "c".toList, attrs := some [("SRTBold".toList, "true".toList)] }] }] }] }

example : Rep exampleAdjacent = false ∧ noPosition exampleAdjacent = true ∧ Rep (mergeS exampleAdjacent) = true := by
  decide +kernel

/-- **W2 (write → independent decoder).** For every representable cue list in which every cue has
    at least one line, the independent decoder `Spec.SRT.decode` accepts the written text and
    denotes the cues of `specView s`: instants in whole milliseconds (truncated), and for every run
    its text, bold / italics / underline and colour -/
theorem decode_write (s : Subs) (h : Rep s = true) (hl : ∀ it ∈ s.items, it.lines ≠ []) (doc : Str)
    (hw : write s = some doc) : Spec.SRT.decode doc = some (specView s) :=
  SRTDoc.decode_write s h hl doc hw

/-- the check's own view (`Driver.srtView`) of the normal form is that same list of cues: the
    library's reader (W1) and the independent decoder (W2) agree on the written text -/
theorem view_norm (s : Subs) (h : Rep s = true) : Driver.srtView (norm s) = some (specView s) :=
  srtView_norm s h

/-- **Reader and independent decoder agree** on what the writer produced -/
theorem read_agrees_with_decode (s : Subs) (h : Rep s = true) (hl : ∀ it ∈ s.items, it.lines ≠ []) (doc : Str)
    (hw : write s = some doc) :
    ∃ back, SRT.read (Driver.docLines (Driver.utf8 doc)) = .ok back ∧ Driver.srtView back = Spec.SRT.decode doc :=
  ⟨norm s, read_write_bytes s h doc hw, by rw [view_norm s h, decode_write s h hl doc hw]⟩

example : (∀ it ∈ exampleSubs.items, it.lines ≠ []) := by decide +kernel

/-- **Second generation.** what was read back is itself representable, is its own normal form, and
    is written as the very same text: `write ∘ read ∘ write = write`, and `read ∘ write` is the identity
    on normal forms -/
theorem norm_stable (s : Subs) (h : Rep s = true) :
    Rep (norm s) = true ∧ norm (norm s) = norm s ∧ write (norm s) = write s :=
  ⟨rep_norm s h, norm_idem s, write_norm s h⟩

/-- reading what the writer makes of a normal form gives that normal form back, unchanged -/
theorem read_write_fixpoint (s : Subs) (h : Rep s = true) (doc : Str) (hw : write (norm s) = some doc) :
    SRT.read (Driver.docLines (Driver.utf8 doc)) = .ok (norm s) := by
  have := read_write_bytes (norm s) (rep_norm s h) doc hw
  rwa [norm_idem] at this

/-- the cues read back are numbered consecutively from 1 -/
theorem norm_numbered (s : Subs) : ∀ (k : Nat) (it : CItem), (norm s).items[k]? = some it → it.index = (k : Int) + 1 := by
  intro k it
  have key : ∀ (items : List CItem) (j k : Nat) (it : CItem), (normItems j items)[k]? = some it → it.index = ((j + k : Nat) : Int) + 1 := by
    intro items
    induction items with
    | nil => intro j k it h; simp [normItems] at h
    | cons a rest ih =>
      intro j k it h
      cases k with
      | zero => simp [normItems] at h; subst h; simp [normItem]
      | succ k =>
        simp only [normItems, List.getElem?_cons_succ] at h
        have := ih (j + 1) k it h
        rw [this]; congr 2; omega
  intro h
  have := key s.items 0 k it h
  simpa using this

/-- the normal form keeps the number of cues, lines and runs, and every run's text -/
theorem norm_texts (s : Subs) :
    (norm s).items.map (fun it => it.lines.map fun l => l.items.map (·.text))
      = s.items.map (fun it => it.lines.map fun l => l.items.map (·.text)) := by
  have key : ∀ (items : List CItem) (j : Nat),
      (normItems j items).map (fun it => it.lines.map fun l => l.items.map (·.text))
        = items.map (fun it => it.lines.map fun l => l.items.map (·.text)) := by
    intro items
    induction items with
    | nil => intro j; rfl
    | cons a rest ih =>
      intro j
      simp only [normItems, List.map_cons, ih]
      congr 1
      simp [normItem, normLine, normRun, Function.comp_def]
  exact key s.items 0

/-! ## every proviso of `Rep` is needed: witnesses

Each example is a cue list that violates exactly one clause of `Rep` (resp. of W2's extra proviso) and
for which the conclusion fails in the model.  (The bound on the number of cues cannot be witnessed.) -/

/-- one cue `[0 s, 1 s)` with one line made of the given runs -/
def oneLine (runs : List LItem) : Subs :=
  { items := [{ startAt := 0, endAt := 1000000000, lines := [{ items := runs }] }] }

/-- the texts that come back, cue by cue, line by line, run by run; `none` = the reader fails or the
    line leaves the tokenizer model -/
def textsBack (s : Subs) : Option (List (List (List Str))) :=
  match write s with
  | none => none
  | some doc =>
    match SRT.read ((splitC '\n' doc).map some) with
    | .ok r => some (r.items.map fun it => it.lines.map fun l => l.items.map (·.text))
    | _ => none

def decodeBack (s : Subs) : Option (List Spec.SRT.GCue) := (write s).bind Spec.SRT.decode

-- a line that begins with a blank: the reader trims it
example : textsBack (oneLine [{ text := " x".toList }]) = some [[["x".toList]]] := by decide +kernel
-- two adjacent unstyled runs come back as one
example : textsBack (oneLine [{ text := "a".toList }, { text := "b".toList }]) = some [[["ab".toList]]] := by decide +kernel
-- `-->` in a text: the line is taken for a timing line, the reader fails
example : textsBack (oneLine [{ text := "a --> b".toList }]) = none := by decide +kernel
-- `SRTPosition`: the tag `{\an8}` comes back as text
example : textsBack (oneLine [{ text := "a".toList, attrs := some [("SRTPosition".toList, "8".toList)] }])
    = some [[["{\\an8}a".toList]]] := by decide +kernel
-- a run without ink is dropped
example : textsBack (oneLine [{ text := " ".toList, attrs := some [("SRTBold".toList, "true".toList)] }, { text := "b".toList }])
    = some [[["b".toList]]] := by decide +kernel
-- LF inside a run: two lines come back
example : textsBack (oneLine [{ text := "a\nb".toList }]) = some [[["a".toList], ["b".toList]]] := by decide +kernel
-- CR inside a run: two lines come back once lines are cut the way a scanner does
example : (match write (oneLine [{ text := "a\rb".toList }]) with
    | some doc =>
      (match SRT.read ((Spec.SRT.splitLines doc []).map some) with
       | .ok r => some (r.items.map fun it => it.lines.map fun l => l.items.map (·.text))
       | _ => none)
    | none => none) = some [[["a".toList], ["b".toList]]] := by decide +kernel
-- NUL in a text, `&` in a colour: outside the tokenizer model
example : textsBack (oneLine [{ text := "a\x00b".toList }]) = none := by decide +kernel
example : textsBack (oneLine [{ text := "a".toList, attrs := some [("SRTColor".toList, "x&y".toList)] }]) = none := by decide +kernel
-- `"` in a colour: the attribute value ends there (`x"y` comes back as `x`)
example : (match tokenize "<font color=\"x\"y\">a</font>".toList with
    | .ok (Tok.startTag _ _ attrs :: _) => attrs.lookup "color".toList
    | _ => none) = some "x".toList := by decide +kernel
-- `>` in a colour, a cue without text: rejected by the independent decoder (W2 only)
example : decodeBack (oneLine [{ text := "a".toList, attrs := some [("SRTColor".toList, "x>y".toList)] }]) = none := by decide +kernel
example : decodeBack { items := [{ startAt := 0, endAt := 1, lines := [] }] } = none := by decide +kernel
-- an empty cue list is not written at all
example : write { items := [] } = none := by decide +kernel

end C01doc
end Astisub
