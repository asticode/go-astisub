import Astisub.Model.CLIRun
import Astisub.Props.C07
import Astisub.Props.C09
import Astisub.Props.C10
import Astisub.Props.C11
import Astisub.Props.C12

/-!
# Props/C07cli — the command-line tool executed (`astisub/main.go`), for every command line

C07's clause "the same holds … through the command-line tool … the result then matching the operations'
specifications composed; an unsupported extension yields the invalid-extension error and an empty cue list the
nothing-to-write error": the tool's outcome is a function of (sub-command, flags, destination extension, opened
inputs); it succeeds only when validation passed, the inputs opened, the extension is writable and a cue is left; and
what it hands to the writer is exactly the library operation's result, which the theorems of C09–C12 characterise.
`Model/CLIRun.run` is compared with the real binary by the streams `ops.cli`, `conv.cli` and the CLI leg of `conv.pair`.
-/

namespace Astisub
namespace C07cli
open CLI Ops Spec Dispatch

theorem write_wrote {ext : String} {l xs : List Item} {c : Codec} (h : write ext l = .wrote c xs) :
    xs = l ∧ l ≠ [] ∧ writeCodec (lowerExt ext) = some c := by
  unfold write at h
  cases hc : writeCodec (lowerExt ext) with
  | none => simp [hc] at h
  | some c' =>
    simp only [hc] at h
    by_cases he : l.isEmpty
    · simp [he] at h
    · simp only [he, Bool.false_eq_true, ↓reduceIte, Outcome.wrote.injEq] at h
      refine ⟨h.2.symm, ?_, by rw [h.1]⟩
      intro hl; simp [hl] at he

theorem plan_io {cmd : String} {fl : Flags} {op : Op} (h : plan cmd fl = some op) : fl.inputs ≠ 0 ∧ fl.output = true := by
  constructor
  · intro hi; rw [C07.cli_needs_io cmd fl (Or.inl hi)] at h; cases h
  · cases ho : fl.output with
    | true => rfl
    | false => rw [C07.cli_needs_io cmd fl (Or.inr ho)] at h; cases h

/-- a refused command line (no `-i`, no `-o`, a flag the sub-command needs missing or not positive, an unknown
    sub-command) leaves the destination untouched, whatever the inputs hold -/
theorem refused_of_plan_none (cmd : String) (fl : Flags) (ext : String) (a b : Option (List Item))
    (h : plan cmd fl = none) : run cmd fl ext a b = .refused := by
  unfold run
  by_cases hi : fl.inputs = 0
  · simp [hi]
  by_cases ho : fl.output = true
  · simp only [hi, ho, ↓reduceIte, Bool.not_true, Bool.false_eq_true]
    cases a <;> simp [h]
  · simp [hi, ho]

/-- an input that cannot be opened is fatal before the sub-command is even looked at -/
theorem refused_of_unreadable_first (cmd : String) (fl : Flags) (ext : String) (b : Option (List Item)) :
    run cmd fl ext none b = .refused := by
  unfold run
  by_cases hi : fl.inputs = 0
  · simp [hi]
  · by_cases ho : fl.output = true <;> simp [hi, ho]

/-- every planned sub-command but `merge` hands the result of its one library call on the first input to `Write` -/
theorem run_of_plan {cmd : String} {fl : Flags} {op : Op} (ext : String) (xs : List Item) (b : Option (List Item))
    (hp : plan cmd fl = some op) (hm : op ≠ .merge) : run cmd fl ext (some xs) b = write ext (exec op xs []) := by
  unfold run
  simp only [(plan_io hp).1, (plan_io hp).2, ↓reduceIte, Bool.not_true, Bool.false_eq_true, hp]

/-- `merge` needs the second input too -/
theorem run_of_merge {cmd : String} {fl : Flags} (ext : String) (xs : List Item) (b : Option (List Item))
    (hp : plan cmd fl = some .merge) :
    run cmd fl ext (some xs) b = match b with
      | none => .refused
      | some ys => write ext (mergeItems xs ys) := by
  unfold run
  simp only [(plan_io hp).1, (plan_io hp).2, ↓reduceIte, Bool.not_true, Bool.false_eq_true, hp]
  rfl

/-- success (exit status 0) needs: validation passed, the first input opened, a writable extension, a cue left -/
theorem wrote_needs (cmd : String) (fl : Flags) (ext : String) (a b : Option (List Item)) (c : Codec) (xs : List Item)
    (h : run cmd fl ext a b = .wrote c xs) :
    (plan cmd fl).isSome ∧ a.isSome ∧ xs ≠ [] ∧ writeCodec (lowerExt ext) = some c := by
  have hw : ∀ l, write ext l = .wrote c xs → xs ≠ [] ∧ writeCodec (lowerExt ext) = some c := fun l hl =>
    ⟨(write_wrote hl).1 ▸ (write_wrote hl).2.1, (write_wrote hl).2.2⟩
  cases a with
  | none => rw [refused_of_unreadable_first] at h; cases h
  | some f =>
    cases hp : plan cmd fl with
    | none => rw [refused_of_plan_none cmd fl ext _ b hp] at h; cases h
    | some op =>
      refine ⟨rfl, rfl, ?_⟩
      by_cases hm : op = .merge
      · subst hm
        rw [run_of_merge ext f b hp] at h
        cases b with
        | none => cases h
        | some ys => exact hw _ h
      · rw [run_of_plan ext f b hp hm] at h
        exact hw _ h

/-- the tool never hands an empty document to a writer -/
theorem never_writes_empty (cmd : String) (fl : Flags) (ext : String) (a b : Option (List Item)) (c : Codec) :
    run cmd fl ext a b ≠ .wrote c [] := by
  intro h; exact (wrote_needs cmd fl ext a b c [] h).2.2.1 rfl

/-- an unsupported destination extension (`.ts` included: there is no transport-stream writer) never succeeds -/
theorem bad_extension_fails (cmd : String) (fl : Flags) (ext : String) (a b : Option (List Item))
    (he : writeCodec (lowerExt ext) = none) : (run cmd fl ext a b).ok = false := by
  cases h : run cmd fl ext a b with
  | wrote c xs => have := (wrote_needs cmd fl ext a b c xs h).2.2.2; simp [he] at this
  | _ => rfl

/-- `convert` hands the cues to the destination writer untouched -/
theorem run_convert (fl : Flags) (ext : String) (xs : List Item) (b : Option (List Item))
    (hi : fl.inputs ≠ 0) (ho : fl.output = true) : run "convert" fl ext (some xs) b = write ext xs := by
  have hp : plan "convert" fl = some .convert := by unfold plan; simp [hi, ho]
  rw [run_of_plan ext xs b hp (by simp)]; rfl

/-- `optimize` leaves the cue list as it is -/
theorem run_optimize (fl : Flags) (ext : String) (xs : List Item) (b : Option (List Item))
    (hi : fl.inputs ≠ 0) (ho : fl.output = true) : run "optimize" fl ext (some xs) b = write ext xs := by
  have hp : plan "optimize" fl = some .optimize := by unfold plan; simp [hi, ho]
  rw [run_of_plan ext xs b hp (by simp)]; rfl

/-- `sync -s d` writes the specification of `Add(d)` (cues shifted by `+d`, those ending at or before zero removed,
    a negative start clamped); when no cue is left the tool fails with the nothing-to-write error -/
theorem run_sync (fl : Flags) (ext : String) (xs : List Item) (b : Option (List Item))
    (hi : fl.inputs ≠ 0) (ho : fl.output = true) (hs : fl.s ≠ 0) (hwf : WF xs) :
    run "sync" fl ext (some xs) b = write ext (addSpec fl.s xs) := by
  have hp : plan "sync" fl = some (.sync fl.s) := by rw [C07.cli_sync fl hi ho]; simp [hs]
  rw [run_of_plan ext xs b hp (by simp)]
  simp only [exec]; rw [C09.add_spec fl.s xs hwf]

/-- `fragment -f d`: what is written is the library's `Fragment(d)`, in which no cue strictly contains a multiple
    of `d` (with C10: every cue cut at every multiple, sorted, nothing else changed) -/
theorem run_fragment (fl : Flags) (ext : String) (xs : List Item) (b : Option (List Item))
    (hi : fl.inputs ≠ 0) (ho : fl.output = true) (hf : 0 < fl.f) :
    run "fragment" fl ext (some xs) b = write ext (fragment fl.f xs) ∧
      (∀ p ∈ fragment fl.f xs, ¬ ∃ k : Int, p.startAt < k * fl.f ∧ k * fl.f < p.endAt) := by
  have hp : plan "fragment" fl = some (.fragment fl.f) := by
    rw [C07.cli_fragment fl hi ho]; simp; omega
  exact ⟨by rw [run_of_plan ext xs b hp (by simp)]; rfl,
    C10.fragment_no_strict_multiple fl.f hf xs⟩

/-- `unfragment`: no two cues of the written list touch with equal text -/
theorem run_unfragment (fl : Flags) (ext : String) (xs : List Item) (b : Option (List Item))
    (hi : fl.inputs ≠ 0) (ho : fl.output = true) :
    run "unfragment" fl ext (some xs) b = write ext (unfragment xs) ∧
      (unfragment xs).Pairwise (fun a b => ¬ Touch a b) := by
  have hp : plan "unfragment" fl = some .unfragment := by unfold plan; simp [hi, ho]
  exact ⟨by rw [run_of_plan ext xs b hp (by simp)]; rfl, C11.no_touch xs⟩

/-- `merge` needs both inputs readable; it writes a sorted permutation of the two cue lists together -/
theorem run_merge (fl : Flags) (ext : String) (xs ys : List Item) (hi : 2 ≤ fl.inputs) (ho : fl.output = true) :
    run "merge" fl ext (some xs) (some ys) = write ext (mergeItems xs ys) ∧
      (mergeItems xs ys).Perm (xs ++ ys) ∧
      run "merge" fl ext (some xs) none = .refused := by
  have hi0 : fl.inputs ≠ 0 := by omega
  have hp : plan "merge" fl = some .merge := by
    rw [(C07.cli_merge_and_unknown fl hi0 ho).1]; simp; omega
  exact ⟨run_of_merge ext xs (some ys) hp, C12.merge_perm xs ys, run_of_merge ext xs none hp⟩

/-- the second input is looked at by `merge` only: every other sub-command behaves the same whether or not it opens -/
theorem second_input_only_for_merge (cmd : String) (fl : Flags) (ext : String) (a b b' : Option (List Item))
    (h : plan cmd fl ≠ some .merge) : run cmd fl ext a b = run cmd fl ext a b' := by
  cases a with
  | none => rw [refused_of_unreadable_first, refused_of_unreadable_first]
  | some xs =>
    cases hp : plan cmd fl with
    | none => rw [refused_of_plan_none _ _ _ _ b hp, refused_of_plan_none _ _ _ _ b' hp]
    | some op =>
      have hm : op ≠ .merge := fun e => h (e ▸ hp)
      rw [run_of_plan ext xs b hp hm, run_of_plan ext xs b' hp hm]

/-- `convert` reads none of the duration flags -/
theorem convert_ignores_durations (fl fl' : Flags) (ext : String) (a b : Option (List Item))
    (h1 : fl.inputs = fl'.inputs) (h2 : fl.output = fl'.output) :
    run "convert" fl ext a b = run "convert" fl' ext a b := by
  unfold run plan; simp only [h1, h2]

theorem write_ne_refused (ext : String) (l : List Item) : write ext l ≠ .refused := by
  unfold write
  cases writeCodec (lowerExt ext) with
  | none => simp
  | some c => by_cases h : l.isEmpty <;> simp [h]

/-- **exactly when the destination stays untouched**: the tool refuses iff the validation fails, or the first input
    does not open, or the sub-command is `merge` and the second input does not open -/
theorem refused_iff (cmd : String) (fl : Flags) (ext : String) (a b : Option (List Item)) :
    run cmd fl ext a b = .refused ↔
      plan cmd fl = none ∨ a = none ∨ (plan cmd fl = some .merge ∧ b = none) := by
  constructor
  · intro h
    cases hp : plan cmd fl with
    | none => exact Or.inl rfl
    | some op =>
      right
      cases a with
      | none => exact Or.inl rfl
      | some xs =>
        right
        by_cases hm : op = .merge
        · subst hm
          rw [run_of_merge ext xs b hp] at h
          cases b with
          | none => exact ⟨rfl, rfl⟩
          | some ys => exact absurd h (write_ne_refused _ _)
        · rw [run_of_plan ext xs b hp hm] at h
          exact absurd h (write_ne_refused _ _)
  · rintro (h | h | ⟨h1, h2⟩)
    · exact refused_of_plan_none cmd fl ext a b h
    · subst h; exact refused_of_unreadable_first cmd fl ext b
    · subst h2
      cases a with
      | none => exact refused_of_unreadable_first cmd fl ext none
      | some xs => exact run_of_merge ext xs none h1

/-- the destination exists afterwards exactly when the tool got as far as `Subtitles.Write` -/
theorem touched_iff (cmd : String) (fl : Flags) (ext : String) (a b : Option (List Item)) :
    (run cmd fl ext a b).touched = true ↔ run cmd fl ext a b ≠ .refused := by
  cases run cmd fl ext a b <;> simp [Outcome.touched]

/-- exit status 0 exactly when a non-empty cue list reached a writer -/
theorem ok_iff (cmd : String) (fl : Flags) (ext : String) (a b : Option (List Item)) :
    (run cmd fl ext a b).ok = true ↔ ∃ c xs, run cmd fl ext a b = .wrote c xs ∧ xs ≠ [] := by
  constructor
  · intro h
    cases hr : run cmd fl ext a b with
    | wrote c xs => exact ⟨c, xs, rfl, (wrote_needs cmd fl ext a b c xs hr).2.2.1⟩
    | _ => rw [hr] at h; simp [Outcome.ok] at h
  · rintro ⟨c, xs, h, _⟩; rw [h]; rfl

private def c1 : Item := { uid := 1, startAt := 0, endAt := 3 * second, lines := [["a"]], pay := 0 }

example : run "fragment" { inputs := 1, output := true, f := 2 * second } "srt" (some [c1]) none =
    write "srt" (fragment (2 * second) [c1]) :=
  (run_fragment { inputs := 1, output := true, f := 2 * second } "srt" [c1] none (by decide) rfl (by decide)).1
example : run "sync" { inputs := 1, output := true, s := -5 * second } "VTT" (some [c1]) none = .nothingToWrite := by decide +kernel
example : run "sync" { inputs := 1, output := true } "vtt" (some [c1]) none = .refused := by decide +kernel
example : run "bogus" { inputs := 1, output := true } "vtt" (some [c1]) none = .refused := by decide +kernel
example : run "convert" { inputs := 1, output := true } "Ass" (some [c1]) none = .wrote .ssa [c1] := by decide +kernel
example : run "convert" { inputs := 1, output := true } "ts" (some [c1]) none = .badExtension := by decide +kernel
example : (run "convert" { inputs := 1, output := true } "xyz" (some []) none).touched = true := by decide +kernel

end C07cli
end Astisub
