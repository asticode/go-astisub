import Astisub.Props.C17

/-!
# C18 — I/O faults are reported, never swallowed: no silent truncation

Readers: `IO.lineReader true` over `Go.scan` (SRT, WebVTT, SSA after the `fix:` commit that
checks `scanner.Err()`), `IO.stlBlocks` (STL).  Writers: `IO.writeAll` (a sequence of `Write`
calls against a destination that fails after `cap` bytes).  For every schedule, every fault
offset, every document.  TTML (`encoding/xml`) and teletext (`go-astits`) are covered by the
`io.fault` / `io.wfault` correspondence streams only.
-/

namespace Astisub
namespace C18
open Go IO List

/-- a repaired reader fails whenever the scanner ends with an error, whatever the lines parse to -/
theorem lineReader_err {α : Type} (parse : List (List UInt8) → Outcome α)
    {r : List (List UInt8) × Option ScanErr} (h : r.2 ≠ none) : lineReader true parse r = .err := by
  unfold lineReader
  cases parse r.1 with
  | err => rfl
  | ok v => exact if_pos (by rw [Bool.true_and, Option.isSome_iff_ne_none]; exact h)

/-- a stream that fails (at any offset, under any chunking) never yields a successful read -/
theorem read_fault_is_error {α : Type} (parse : List (List UInt8) → Outcome α)
    (cs : List (List UInt8)) : lineReader true parse (scan true [] cs .fault 0) = .err :=
  lineReader_err parse (scan_fault true [] cs 0)

/-- the unrepaired readers (`pinned` in the name) never consulted `scanner.Err()`: whenever the lines read so far parse,
    the fault is swallowed (defect D3) -/
theorem pinned_swallows_fault {α : Type} (parse : List (List UInt8) → Outcome α)
    (cs : List (List UInt8)) (v : α) (hp : parse (scan true [] cs .fault 0).1 = .ok v) :
    lineReader false parse (scan true [] cs .fault 0) = .ok v := by
  simp [lineReader, hp]

/-- no partial success: a reader returns a value only if the stream ended with EOF, the scanner
    hit none of its limits, and then the value is the parse of *all* lines of *all* bytes -/
theorem no_partial_success {α : Type} (parse : List (List UInt8) → Outcome α)
    (cs : List (List UInt8)) (e : End) (v : α)
    (h : lineReader true parse (scan true [] cs e 0) = .ok v) :
    e = .eof ∧ parse (linesOf cs.flatten) = .ok v := by
  cases herr : (scan true [] cs e 0).2 with
  | some x => rw [lineReader_err parse (by rw [herr]; nofun)] at h; cases h
  | none =>
    have ⟨he, ht⟩ := C17.no_error_all_lines cs e herr
    unfold lineReader at h
    rw [herr, ht] at h
    cases hp : parse (linesOf cs.flatten) with
    | err => rw [hp] at h; cases h
    | ok w => rw [hp] at h; exact ⟨he, by cases h; rfl⟩

/-- **A long line fails, and the bytes say with which error.** If some line of the bytes is longer
    than 65535 bytes, then — for every schedule on which the reader is well behaved — the
    scanner's error is `bufio.ErrTooLong`; or, when the stream ends with a read error and that
    error was latched before the split function met the long line, the read error
    (`Scanner.setErr` keeps the first error that is not `io.EOF`). Never nil. -/
theorem long_line_fails (cs : List (List UInt8)) (e : End)
    (hlong : ∃ l ∈ linesOf cs.flatten, maxLineSize < l.length)
    (h : NoStall (scan true [] cs e 0).2) :
    (scan true [] cs e 0).2 = some .tooLong ∨ (e = .fault ∧ (scan true [] cs e 0).2 = some .io) := by
  have hf := (firstLong_iff cs.flatten).mpr hlong
  rcases (C17.scan_bytes cs e h).2 with h2 | ⟨_, h2⟩
  · rw [hf] at h2
    cases e with
    | eof => left; exact h2
    | fault => right; exact ⟨rfl, h2⟩
  · left; exact h2

/-- stream ending with `io.EOF`: exactly `bufio.ErrTooLong`, and the lines before the long one -/
theorem long_line_fails_eof (cs : List (List UInt8))
    (hlong : ∃ l ∈ linesOf cs.flatten, maxLineSize < l.length)
    (h : NoStall (scan true [] cs .eof 0).2) :
    scan true [] cs .eof 0 = (linesBefore cs.flatten, some .tooLong) := by
  rw [C17.scan_bytes_eof cs h, (firstLong_iff cs.flatten).mpr hlong]; rfl

/-- with no hypothesis on the reader: the error is never nil (so, by `lineReader`, every reader
    fails) — the other possible errors are the scanner's complaints about the reader -/
theorem long_line_is_error (cs : List (List UInt8)) (e : End)
    (hlong : ∃ l ∈ linesOf cs.flatten, maxLineSize < l.length) :
    (scan true [] cs e 0).2 ≠ none := by
  by_cases h : NoStall (scan true [] cs e 0).2
  · rcases long_line_fails cs e hlong h with h2 | ⟨_, h2⟩ <;> rw [h2] <;> simp
  · intro hn; apply h; rw [hn]; simp [NoStall]

/-- conversely the repaired scanner never delivers such a line -/
theorem no_long_line_delivered (cs : List (List UInt8)) (e : End) :
    ∀ t ∈ (scan true [] cs e 0).1, t.length ≤ maxLineSize :=
  scan_tok_le [] cs e 0

/-- … and a document all of whose lines fit is read in full, without error, on every
    well-behaved delivery that ends with `io.EOF`: the limit is exactly 65535 -/
theorem short_lines_pass (cs : List (List UInt8))
    (hshort : ∀ l ∈ linesOf cs.flatten, l.length ≤ maxLineSize)
    (h : NoStall (scan true [] cs .eof 0).2) :
    scan true [] cs .eof 0 = (linesOf cs.flatten, none) := by
  have hf : firstLong cs.flatten = false := by
    cases hc : firstLong cs.flatten with
    | false => rfl
    | true =>
      obtain ⟨l, hl, hlen⟩ := (firstLong_iff _).mp hc
      have := hshort l hl; omega
  rw [C17.scan_bytes_eof cs h, hf, linesBefore_eq_of_not_long hf]; rfl

theorem long_line_reader_error {α : Type} (parse : List (List UInt8) → Outcome α)
    (cs : List (List UInt8)) (e : End)
    (hlong : ∃ l ∈ linesOf cs.flatten, maxLineSize < l.length) :
    lineReader true parse (scan true [] cs e 0) = .err :=
  lineReader_err parse (long_line_is_error cs e hlong)

/-- non-vacuity, without evaluating a 65536-element list: a document whose first line is 65536
    letters — followed by anything — has a long line; delivered one byte per `Read` it ends with
    `bufio.ErrTooLong` and no token -/
theorem long_line_example (rest : List UInt8) :
    (∃ l ∈ linesOf (List.replicate (maxLineSize + 1) 97 ++ rest), maxLineSize < l.length) ∧
    scan true [] ((List.replicate (maxLineSize + 1) 97 ++ rest).map fun b => [b]) .eof 0 =
      ([], some .tooLong) := by
  have hl := lineTooLong_append_of_noEOL rest (noEOL_replicate (maxLineSize + 1) (b := 97) rfl) (by rw [List.length_replicate]; omega)
  have ⟨h1, h2⟩ := firstLong_of_lineTooLong hl
  refine ⟨(firstLong_iff _).mp h2, ?_⟩
  rw [C17.bytewise, h1, h2]; rfl

/-- a faulting stream never ends the block loop cleanly -/
theorem stl_fault_not_clean (fuel : Nat) (cs : List (List UInt8)) (hf : cs.flatten.length < fuel) :
    (ttiBlocks .fault fuel cs).2 = .fault := by
  induction fuel generalizing cs with
  | zero => omega
  | succ fuel ih =>
    unfold ttiBlocks
    simp only
    split
    · rename_i h128
      have hspec := C17.readFull_spec 128 cs
      have hlen : (readFull 128 cs).2.flatten.length < fuel := by
        rw [hspec.2, List.length_drop]
        have : (readFull 128 cs).1.length ≤ cs.flatten.length := by
          rw [hspec.1, List.length_take]; omega
        omega
      exact ih _ hlen
    · simp

theorem writeAll_spec (cap : Nat) (ws : List (List UInt8)) :
    ((writeAll cap ws).2 = true ↔ ws.flatten.length ≤ cap) ∧
      (writeAll cap ws).1 = ws.flatten.take cap := by
  induction ws generalizing cap with
  | nil => simp [writeAll]
  | cons w ws ih =>
    unfold writeAll
    by_cases hw : w.length ≤ cap
    · simp only [hw, ↓reduceIte]
      obtain ⟨h1, h2⟩ := ih (cap - w.length)
      constructor
      · rw [h1]; simp; omega
      · rw [h2]; simp [List.take_append, List.take_of_length_le hw]
    · simp only [hw, ↓reduceIte]
      have hlt : cap < w.length := by omega
      constructor
      · simp; omega
      · simp [List.take_append_of_le_length (Nat.le_of_lt hlt)]

/-- if the destination fails before the document is complete, the writer reports an error -/
theorem write_fault_is_error (cap : Nat) (ws : List (List UInt8)) (h : cap < ws.flatten.length) :
    (writeAll cap ws).2 = false := by
  have := (writeAll_spec cap ws).1
  cases hb : (writeAll cap ws).2 with
  | false => rfl
  | true => have := this.mp hb; omega

/-- a successful return means the complete document was handed to the destination -/
theorem write_success_complete (cap : Nat) (ws : List (List UInt8)) (h : (writeAll cap ws).2 = true) :
    (writeAll cap ws).1 = ws.flatten := by
  have ⟨h1, h2⟩ := writeAll_spec cap ws
  rw [h2, List.take_of_length_le (h1.mp h)]

end C18
end Astisub
