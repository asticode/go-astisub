import Astisub.Lemmas.TTMLTime

/-!
# C03 — TTML time expressions are resolved to the instant they mean

`TTML.timeExpr` / `TTML.duration` / `TTML.instant` (Model/TTML.lean) model
`TTMLInDuration.UnmarshalText` and `TTMLInDuration.duration()` of `ttml.go`.  Every form of a TTML
time expression — clock time `hh:mm:ss`, clock time with a 1–3 digit fraction, clock time with
frames `hh:mm:ss:ff`, offset time `<digits>[.<digits>]<metric>` with metric `h`, `m`, `s`, `ms`,
`f`, `t` (frames / ticks interpreted with the document's frame rate / tick rate) — is resolved to
the floor, in nanoseconds, of the exact rational instant it denotes: within 1 ns, and exactly
when that instant is a whole number of nanoseconds.  All statements are for every value of the
fields in the stated ranges.

The second half of the file holds the component laws of the TTML reader / writer that the document-level files use:
the language table, parent links (`lastWins`), the attribute table, `brTrick`, line splitting (`linesLoop`) and
`stripIndent`.
-/

namespace Astisub
namespace C03
open Go Duration List TTML C16

theorem units_num_cast (n : Nat) (fp : Str) :
    ((n : Int) * (10 : Int) ^ fp.length + (natOfDigits fp : Int)) * 1000000000
      = (((n * 10 ^ fp.length + natOfDigits fp) * 1000000000 : Nat) : Int) :=
  unitsDuration_num n fp

theorem units_den_cast (rate : Nat) (fp : Str) :
    (10 : Int) ^ fp.length * (rate : Int) = ((10 ^ fp.length * rate : Nat) : Int) :=
  unitsDuration_den rate fp

/-- `ttmlUnitsDuration(n, F, rate)` is `⌊(n·10^k + F)·10⁹ / (10^k·rate)⌋`, `k` the number of fraction digits -/
theorem units_floor (n rate : Nat) (fp : Str) :
    unitsDuration (n : Int) fp (rate : Int)
      = (((n * 10 ^ fp.length + natOfDigits fp) * 1000000000 / (10 ^ fp.length * rate) : Nat) : Int) := by
  exact unitsDuration_floor n rate fp

/-- without fraction digits: `⌊n·10⁹ / rate⌋` -/
theorem units_floor_nil (n rate : Nat) (hr : 0 < rate) :
    unitsDuration (n : Int) [] (rate : Int) = ((n * 1000000000 / rate : Nat) : Int) := by
  rw [units_floor n rate []]
  simp only [length_nil, Nat.pow_zero, Nat.mul_one, Nat.one_mul, natOfDigits, foldl_nil, Nat.add_zero]

theorem nat_floor_within (N rate : Nat) (hr : 0 < rate) :
    N / rate * rate ≤ N ∧ N < (N / rate + 1) * rate := by
  have h := Nat.div_add_mod N rate
  have hlt := Nat.mod_lt N hr
  rw [Nat.add_mul, Nat.one_mul, Nat.mul_comm (N / rate) rate]
  generalize rate * (N / rate) = a at *
  omega

/-- a (fractional) frame / tick count is resolved within one nanosecond: never late, less than
    1 ns early (`V·(10^k·rate) ≤ (n·10^k + F)·10⁹ < (V + 1)·(10^k·rate)`) -/
theorem units_within (n rate : Nat) (fp : Str) (hr : 0 < rate) :
    unitsDuration (n : Int) fp (rate : Int) * ((10 : Int) ^ fp.length * (rate : Int))
      ≤ ((n : Int) * (10 : Int) ^ fp.length + (natOfDigits fp : Int)) * 1000000000 ∧
    ((n : Int) * (10 : Int) ^ fp.length + (natOfDigits fp : Int)) * 1000000000
      < (unitsDuration (n : Int) fp (rate : Int) + 1) * ((10 : Int) ^ fp.length * (rate : Int)) := by
  rw [units_floor n rate fp, units_num_cast, units_den_cast]
  have hR : 0 < 10 ^ fp.length * rate := Nat.mul_pos (Nat.pow_pos (by decide)) hr
  have h := nat_floor_within ((n * 10 ^ fp.length + natOfDigits fp) * 1000000000) _ hR
  generalize (n * 10 ^ fp.length + natOfDigits fp) * 1000000000 = N at *
  generalize 10 ^ fp.length * rate = R at *
  exact_mod_cast h

/-- … and exactly when it is a whole number of nanoseconds -/
theorem units_exact (n rate : Nat) (fp : Str) (hr : 0 < rate)
    (hd : 10 ^ fp.length * rate ∣ (n * 10 ^ fp.length + natOfDigits fp) * 1000000000) :
    unitsDuration (n : Int) fp (rate : Int) * ((10 : Int) ^ fp.length * (rate : Int))
      = ((n : Int) * (10 : Int) ^ fp.length + (natOfDigits fp : Int)) * 1000000000 := by
  rw [units_floor n rate fp, units_num_cast, units_den_cast]
  have h := Nat.div_mul_cancel hd
  generalize (n * 10 ^ fp.length + natOfDigits fp) * 1000000000 = N at *
  generalize 10 ^ fp.length * rate = R at *
  exact_mod_cast h

/-- without fraction digits: `V·rate ≤ n·10⁹ < (V + 1)·rate`, equality when `rate ∣ n·10⁹` -/
theorem units_within_nil (n rate : Nat) (hr : 0 < rate) :
    unitsDuration (n : Int) [] (rate : Int) * (rate : Int) ≤ (n : Int) * 1000000000 ∧
    (n : Int) * 1000000000 < (unitsDuration (n : Int) [] (rate : Int) + 1) * (rate : Int) ∧
    (rate ∣ n * 1000000000 →
      unitsDuration (n : Int) [] (rate : Int) * (rate : Int) = (n : Int) * 1000000000) := by
  rw [units_floor_nil n rate hr]
  have h := nat_floor_within (n * 1000000000) rate hr
  have e : ((n : Int) * 1000000000) = ((n * 1000000000 : Nat) : Int) := by
    simp only [Int.natCast_mul]; rfl
  rw [e]
  refine ⟨?_, ?_, fun hd => ?_⟩
  · generalize n * 1000000000 = N at *; exact_mod_cast h.1
  · generalize n * 1000000000 = N at *; exact_mod_cast h.2
  · have h' := Nat.div_mul_cancel hd
    generalize n * 1000000000 = N at *; exact_mod_cast h'

/-- ticks (a positive count or a fraction) win over everything else when the document has a tick rate -/
theorem duration_ticks_win (d : InDur) (fr tr : Int)
    (h : (d.ticks > 0 ∨ d.ticksFraction ≠ []) ∧ tr > 0) :
    duration d fr tr = unitsDuration d.ticks d.ticksFraction tr := by
  unfold duration
  rw [if_pos h]

/-- neither ticks nor frames: the clock / offset value itself -/
theorem duration_plain (d : InDur) (fr tr : Int) (ht : d.ticks = 0) (hf : d.frames = 0)
    (htf : d.ticksFraction = []) (hff : d.framesFraction = []) : duration d fr tr = d.d := by
  simp [duration, ht, hf, htf, hff]

/-- frames are added to the clock value when the document has a frame rate -/
theorem duration_frames (d : InDur) (fr tr : Int) (ht : d.ticks = 0) (htf : d.ticksFraction = [])
    (hf : (d.frames > 0 ∨ d.framesFraction ≠ []) ∧ fr > 0) :
    duration d fr tr = d.d + unitsDuration d.frames d.framesFraction fr := by
  unfold duration
  rw [if_neg (by simp [ht, htf]), if_pos hf]

/-- an expression without frames / ticks denotes its value whatever the rates are -/
theorem instant_plain {text : Str} {v : Int} (fr tr : Int) (h : timeExpr text = some { d := v }) :
    instant text fr tr = some v := by
  simp [instant, h, duration]

/-- the digit string of a list of decimal digits -/
def digitsOf (ds : List Nat) : Str := ds.map digitChar

theorem digitStr_digitsOf {ds : List Nat} (h : ∀ d ∈ ds, d < 10) : DigitStr (digitsOf ds) := by
  intro c hc
  obtain ⟨d, hd, rfl⟩ := mem_map.mp hc
  exact ⟨d, h d hd, rfl⟩

theorem digitsOf_ne_nil {ds : List Nat} (h : ds ≠ []) : digitsOf ds ≠ [] := by
  cases ds with
  | nil => exact absurd rfl h
  | cons _ _ => simp [digitsOf]

theorem natOfDigits_digitsOf {ds : List Nat} (h : ∀ d ∈ ds, d < 10) :
    natOfDigits (digitsOf ds) = ds.foldl (fun a d => a * 10 + d) 0 := by
  have key : ∀ (ds : List Nat), (∀ d ∈ ds, d < 10) → ∀ acc,
      (ds.map digitChar).foldl (fun a c => a * 10 + (c.toNat - 48)) acc
        = ds.foldl (fun a d => a * 10 + d) acc := by
    intro ds
    induction ds with
    | nil => intro _ _; rfl
    | cons d ds ih =>
      intro hd acc
      simp only [map_cons, foldl_cons, digitChar_toNat_sub (hd d (by simp))]
      exact ih (fun x hx => hd x (by simp [hx])) _
  exact key ds h 0

/-- the integer and the fraction digits are concatenated: `ip.fp = natOfDigits (ip ++ fp) / 10^|fp|` -/
theorem natOfDigits_concat (ip fp : Str) :
    natOfDigits (ip ++ fp) = natOfDigits ip * 10 ^ fp.length + natOfDigits fp := by
  have key : ∀ (s : Str) (acc : Nat),
      s.foldl (fun a c => a * 10 + (c.toNat - 48)) acc
        = acc * 10 ^ s.length + s.foldl (fun a c => a * 10 + (c.toNat - 48)) 0 := by
    intro s
    induction s with
    | nil => intro acc; simp
    | cons c cs ih =>
      intro acc
      simp only [foldl_cons, length_cons]
      rw [ih (acc * 10 + (c.toNat - 48)), ih (0 * 10 + (c.toNat - 48)), Nat.pow_succ,
        Nat.add_mul, Nat.zero_mul, Nat.zero_add, Nat.add_assoc, Nat.mul_assoc, Nat.mul_comm 10]
  rw [natOfDigits_append, key fp (natOfDigits ip)]
  rfl

theorem metrics_eq : metrics = [['h'], ['m'], ['s'], ['m', 's'], ['f'], ['t']] :=
  metrics_chars

theorem offsetTime_print {ip m : Str} (hip : DigitStr ip) (hne : ip ≠ []) (hm : m ∈ metrics) :
    offsetTime (ip ++ m) = some (ip, [], m) := by
  simpa [decText] using offsetTime_decText hip hne DigitStr.nil hm

theorem offsetTime_print_frac {ip fp m : Str} (hip : DigitStr ip) (hne : ip ≠ [])
    (hfp : DigitStr fp) (hfne : fp ≠ []) (hm : m ∈ metrics) :
    offsetTime (ip ++ '.' :: fp ++ m) = some (ip, fp, m) := by
  have := offsetTime_decText hip hne hfp hm
  rwa [decText, if_neg hfne] at this

/-- the four time metrics (`f` and `t` are counts of frames / ticks) -/
def timeMetrics : List Str := ["h".toList, "m".toList, "s".toList, "ms".toList]

theorem timeMetrics_eq : timeMetrics = [['h'], ['m'], ['s'], ['m', 's']] := by
  simp [timeMetrics]

theorem timeMetrics_sub {m : Str} (h : m ∈ timeMetrics) :
    m ∈ metrics ∧ m ≠ "t".toList ∧ m ≠ "f".toList := by
  rw [timeMetrics_eq] at h
  simp only [mem_cons, not_mem_nil, or_false] at h
  rw [metrics_eq]
  rcases h with rfl | rfl | rfl | rfl <;> simp

/-- `<digits>.<digits>` with metric `h`, `m`, `s`, `ms`: the value is `N·timebase / 10^k` (integer
    division), `N` the digits read as one number and `k` the number of fraction digits -/
theorem offset_value {ip fp m : Str} (hip : DigitStr ip) (hne : ip ≠ []) (hfp : DigitStr fp)
    (hfne : fp ≠ []) (hm : m ∈ timeMetrics)
    (hV : (natOfDigits (ip ++ fp) : Int) * timebase m / (10 : Int) ^ fp.length ≤ 9223372036854775807) :
    timeExpr (ip ++ '.' :: fp ++ m)
      = some { d := (natOfDigits (ip ++ fp) : Int) * timebase m / (10 : Int) ^ fp.length } := by
  obtain ⟨hmm, ht, hf⟩ := timeMetrics_sub hm
  have := timeExpr_offset hip hne hfp hmm ht hf hV
  rwa [decText, if_neg hfne] at this

/-- `<digits>` with metric `h`, `m`, `s`, `ms`: exactly `N·timebase` -/
theorem offset_value_int {ip m : Str} (hip : DigitStr ip) (hne : ip ≠ []) (hm : m ∈ timeMetrics)
    (hV : (natOfDigits ip : Int) * timebase m ≤ 9223372036854775807) :
    timeExpr (ip ++ m) = some { d := (natOfDigits ip : Int) * timebase m } := by
  obtain ⟨hmm, ht, hf⟩ := timeMetrics_sub hm
  simpa [decText] using timeExpr_offset hip hne DigitStr.nil hmm ht hf (by simpa using hV)

/-- the value is the floor of the exact rational `N·tb / 10^k`: within one nanosecond … -/
theorem offset_within (N : Nat) (tb : Int) (k : Nat) :
    (N : Int) * tb / (10 : Int) ^ k * (10 : Int) ^ k ≤ (N : Int) * tb ∧
    (N : Int) * tb < ((N : Int) * tb / (10 : Int) ^ k + 1) * (10 : Int) ^ k := by
  have hpos : (0 : Int) < (10 : Int) ^ k := Int.pow_pos (by decide)
  exact ⟨Int.ediv_mul_le _ (Int.ne_of_gt hpos), Int.lt_ediv_add_one_mul_self _ hpos⟩

/-- … and exact when `N·tb / 10^k` is a whole number of nanoseconds -/
theorem offset_exact (N : Nat) (tb : Int) (k : Nat) (hd : (10 : Int) ^ k ∣ (N : Int) * tb) :
    (N : Int) * tb / (10 : Int) ^ k * (10 : Int) ^ k = (N : Int) * tb :=
  Int.ediv_mul_cancel hd

/-- `<digits>t` with a tick rate: `⌊n·10⁹ / tickrate⌋` nanoseconds, whatever the frame rate -/
theorem offset_ticks {ip : Str} (hip : DigitStr ip) (hne : ip ≠ []) (fr : Int) (tr : Nat)
    (hmax : natOfDigits ip ≤ 9223372036854775807) (htr : 0 < tr) :
    instant (ip ++ "t".toList) fr (tr : Int)
      = some ((natOfDigits ip * 1000000000 / tr : Nat) : Int) := by
  have e : natOfDigits [] = 0 := rfl
  simpa [decText, e] using instant_units hip hne DigitStr.nil hmax fr tr tr htr (.inl ⟨rfl, rfl⟩)

/-- `<digits>.<digits>t` with a tick rate: `⌊(I·10^k + F)·10⁹ / (10^k·tickrate)⌋` nanoseconds -/
theorem offset_ticks_frac {ip fp : Str} (hip : DigitStr ip) (hne : ip ≠ []) (hfp : DigitStr fp)
    (hfne : fp ≠ []) (fr : Int) (tr : Nat)
    (hmax : natOfDigits ip ≤ 9223372036854775807) (htr : 0 < tr) :
    instant (ip ++ '.' :: fp ++ "t".toList) fr (tr : Int)
      = some (((natOfDigits ip * 10 ^ fp.length + natOfDigits fp) * 1000000000
                / (10 ^ fp.length * tr) : Nat) : Int) := by
  have := instant_units hip hne hfp hmax fr tr tr htr (.inl ⟨rfl, rfl⟩)
  rwa [decText, if_neg hfne] at this

/-- `<digits>f` with a frame rate: `⌊n·10⁹ / framerate⌋` nanoseconds, whatever the tick rate -/
theorem offset_frames {ip : Str} (hip : DigitStr ip) (hne : ip ≠ []) (fr : Nat) (tr : Int)
    (hmax : natOfDigits ip ≤ 9223372036854775807) (hfr : 0 < fr) :
    instant (ip ++ "f".toList) (fr : Int) tr
      = some ((natOfDigits ip * 1000000000 / fr : Nat) : Int) := by
  have e : natOfDigits [] = 0 := rfl
  simpa [decText, e] using instant_units hip hne DigitStr.nil hmax fr tr fr hfr (.inr ⟨rfl, rfl⟩)

/-- `<digits>.<digits>f` with a frame rate: `⌊(I·10^k + F)·10⁹ / (10^k·framerate)⌋` nanoseconds -/
theorem offset_frames_frac {ip fp : Str} (hip : DigitStr ip) (hne : ip ≠ []) (hfp : DigitStr fp)
    (hfne : fp ≠ []) (fr : Nat) (tr : Int)
    (hmax : natOfDigits ip ≤ 9223372036854775807) (hfr : 0 < fr) :
    instant (ip ++ '.' :: fp ++ "f".toList) (fr : Int) tr
      = some (((natOfDigits ip * 10 ^ fp.length + natOfDigits fp) * 1000000000
                / (10 ^ fp.length * fr) : Nat) : Int) := by
  have := instant_units hip hne hfp hmax fr tr fr hfr (.inr ⟨rfl, rfl⟩)
  rwa [decText, if_neg hfne] at this

theorem hms_offsetTime (h m s : Nat) (hh : h < 100) (tail : Str) :
    offsetTime (dd h ++ ':' :: dd m ++ ':' :: dd s ++ tail) = none := by
  rw [show dd h ++ ':' :: dd m ++ ':' :: dd s ++ tail = dd h ++ ':' :: (dd m ++ ':' :: dd s ++ tail) by simp]
  exact offsetTime_colon (digitStr_dd hh) _

theorem hms_colons (h m s : Nat) (hh : h < 100) (hm : m < 100) (hs : s < 100) (tail : Str) :
    countColons (dd h ++ ':' :: dd m ++ ':' :: dd s ++ tail) = 2 + countColons tail := by
  simp only [countColons_append, countColons_colon, countColons_digits (digitStr_dd hh),
    countColons_digits (digitStr_dd hm), countColons_digits (digitStr_dd hs)]

theorem countColons_dot {fp : Str} (hfp : DigitStr fp) : countColons ('.' :: fp) = 0 :=
  countColons_dotDigits hfp

theorem timeExpr_clock {text : Str} (hoff : offsetTime text = none) (hcc : countColons text ≠ 3) :
    timeExpr text = (parse text '.' 3).map fun d => { d := d } := by
  exact timeExpr_parse hoff hcc

/-- defect D8 (one of the `fix:` commits the model follows, `Model/TTML.lean`): `hh:mm:ss` — three fields are never frames -/
theorem clock_plain (h m s : Nat) (hh : h < 100) (hm : m < 100) (hs : s < 100) :
    timeExpr (dd h ++ ':' :: dd m ++ ':' :: dd s)
      = some { d := (h : Int) * 3600000000000 + (m : Int) * 60000000000 + (s : Int) * 1000000000 } := by
  rw [timeExpr_hms (hms_dd hh hm hs) (le64 (by omega)) (le64 (by omega)) (le64 (by omega))]
  have e : (s : Int) * nsPerS + (m : Int) * nsPerMin + (h : Int) * nsPerH
      = (h : Int) * 3600000000000 + (m : Int) * 60000000000 + (s : Int) * 1000000000 := by
    unfold nsPerS nsPerMin nsPerH; omega
  rw [e]

/-- `hh:mm:ss.f…` with one to three fraction digits `F`: exactly `hms + F·10^(9-|F|)` ns -/
theorem clock_frac (h m s : Nat) (hh : h < 100) (hm : m < 100) (hs : s < 100)
    {fp : Str} (hfp : DigitStr fp) (hne : fp ≠ []) (hl : fp.length ≤ 3) :
    timeExpr (dd h ++ ':' :: dd m ++ ':' :: dd s ++ '.' :: fp)
      = some { d := (h : Int) * 3600000000000 + (m : Int) * 60000000000 + (s : Int) * 1000000000
                    + (natOfDigits fp : Int) * (10 : Int) ^ (3 - fp.length) * 1000000 } := by
  rw [timeExpr_hms_frac (hms_dd hh hm hs) (le64 (by omega)) (le64 (by omega)) (le64 (by omega))
    (numeral_of_digits hfp hne) hl]
  generalize (natOfDigits fp : Int) * (10 : Int) ^ (3 - fp.length) = F
  have e : F * nsPerMs + (s : Int) * nsPerS + (m : Int) * nsPerMin + (h : Int) * nsPerH
      = (h : Int) * 3600000000000 + (m : Int) * 60000000000 + (s : Int) * 1000000000 + F * 1000000 := by
    unfold nsPerMs nsPerS nsPerMin nsPerH; omega
  rw [e]

/-- `hh:mm:ss.fff` -/
theorem clock_frac3 (h m s f : Nat) (hh : h < 100) (hm : m < 100) (hs : s < 100) (hf : f < 1000) :
    timeExpr (canon3 h m s f '.')
      = some { d := (h : Int) * 3600000000000 + (m : Int) * 60000000000 + (s : Int) * 1000000000
                    + (f : Int) * 1000000 } := by
  have := clock_frac h m s hh hm hs (digitStr_ddd hf) (cons_ne_nil _ _) (Nat.le_refl 3)
  rw [natOfDigits_ddd hf] at this
  simpa [canon3, ddd] using this

/-- `hh:mm:ss.ff` (hundredths) -/
theorem clock_frac2 (h m s f : Nat) (hh : h < 100) (hm : m < 100) (hs : s < 100) (hf : f < 100) :
    timeExpr (canon2 h m s f '.')
      = some { d := (h : Int) * 3600000000000 + (m : Int) * 60000000000 + (s : Int) * 1000000000
                    + (f : Int) * 10000000 } := by
  have := clock_frac h m s hh hm hs (digitStr_dd hf) (cons_ne_nil _ _) (Nat.le_succ 2)
  rw [natOfDigits_dd hf] at this
  simpa [canon2, dd, Int.mul_assoc] using this

/-- `hh:mm:ss.f` (tenths) -/
theorem clock_frac1 (h m s f : Nat) (hh : h < 100) (hm : m < 100) (hs : s < 100) (hf : f < 10) :
    timeExpr (dd h ++ ':' :: dd m ++ ':' :: dd s ++ '.' :: [digitChar f])
      = some { d := (h : Int) * 3600000000000 + (m : Int) * 60000000000 + (s : Int) * 1000000000
                    + (f : Int) * 100000000 } := by
  have hd : DigitStr [digitChar f] := by
    intro c hc; simp at hc; exact ⟨f, hf, hc⟩
  have hv : natOfDigits [digitChar f] = f := by
    simp [natOfDigits, digitChar_toNat_sub hf]
  rw [clock_frac h m s hh hm hs hd (by simp) (by simp), hv]
  have e : (f : Int) * (10 : Int) ^ (3 - [digitChar f].length) * 1000000 = (f : Int) * 100000000 := by
    have : (10 : Int) ^ (3 - [digitChar f].length) = 100 := rfl
    rw [this]; omega
  rw [e]

/-- `hh:mm:ss:ff`: the clock value and the frame count -/
theorem clock_frames (h m s f : Nat) (hh : h < 100) (hm : m < 100) (hs : s < 100) (hf : f < 100) :
    timeExpr (dd h ++ ':' :: dd m ++ ':' :: dd s ++ ':' :: dd f)
      = some { d := (h : Int) * 3600000000000 + (m : Int) * 60000000000 + (s : Int) * 1000000000,
               frames := (f : Int) } := by
  have hcc := hms_colons h m s hh hm hs []
  rw [append_nil] at hcc
  rw [timeExpr_hms_frames (hms_dd hh hm hs) (le64 (by omega)) (le64 (by omega)) (le64 (by omega)) hcc (.dd hf)
    (le64 (by omega))]
  have e : (s : Int) * nsPerS + (m : Int) * nsPerMin + (h : Int) * nsPerH
      = (h : Int) * 3600000000000 + (m : Int) * 60000000000 + (s : Int) * 1000000000 := by
    unfold nsPerS nsPerMin nsPerH; omega
  rw [e]

/-- `hh:mm:ss:ff` with a frame rate: the clock value plus `⌊f·10⁹ / framerate⌋` -/
theorem clock_frames_instant (h m s f : Nat) (hh : h < 100) (hm : m < 100) (hs : s < 100)
    (hf : f < 100) (hf0 : 0 < f) (fr : Nat) (hfr : 0 < fr) (tr : Int) :
    instant (dd h ++ ':' :: dd m ++ ':' :: dd s ++ ':' :: dd f) (fr : Int) tr
      = some ((h : Int) * 3600000000000 + (m : Int) * 60000000000 + (s : Int) * 1000000000
              + ((f * 1000000000 / fr : Nat) : Int)) := by
  unfold instant
  rw [clock_frames h m s f hh hm hs hf]
  simp only [Option.map_some]
  rw [duration_frameCount _ f [] _ _ (by omega), units_floor_nil _ _ hfr]

/-- `hh:mm:ss:00`, or a document without frame rate: the clock value -/
theorem clock_frames_zero (h m s f : Nat) (hh : h < 100) (hm : m < 100) (hs : s < 100)
    (hf : f < 100) (fr tr : Int) (h0 : f = 0 ∨ fr ≤ 0) :
    instant (dd h ++ ':' :: dd m ++ ':' :: dd s ++ ':' :: dd f) fr tr
      = some ((h : Int) * 3600000000000 + (m : Int) * 60000000000 + (s : Int) * 1000000000) := by
  unfold instant
  rw [clock_frames h m s f hh hm hs hf]
  simp only [Option.map_some, duration]
  have h1 : ¬ (((0 : Int) > 0 ∨ ([] : Str) ≠ []) ∧ tr > 0) := by simp
  have h2 : ¬ (((f : Int) > 0 ∨ ([] : Str) ≠ []) ∧ fr > 0) := by
    simp only [ne_eq, not_true_eq_false, or_false]; omega
  simp only [h1, h2, ↓reduceIte]

/-- nanoseconds per unit of the four time metrics -/
theorem timebase_values :
    timebase "h".toList = 3600000000000 ∧ timebase "m".toList = 60000000000 ∧
    timebase "s".toList = 1000000000 ∧ timebase "ms".toList = 1000000 := by decide

theorem nat_floor_exact (N rate : Nat) (hd : rate ∣ N) : N / rate * rate = N :=
  Nat.div_mul_cancel hd

/-- **Offset time, time metrics.** `I.F<metric>` (`I`, `F` digit strings, `k = |F|`, metric `h`, `m`,
    `s` or `ms` with `tb` ns per unit) denotes, for every frame and tick rate, the floor `V` of the
    exact instant `(I·10^k + F)·tb / 10^k` ns: `V ≤ exact < V + 1`, with equality when the exact
    instant is a whole number of nanoseconds. -/
theorem offset_resolved {ip fp m : Str} (hip : DigitStr ip) (hne : ip ≠ []) (hfp : DigitStr fp)
    (hfne : fp ≠ []) (hm : m ∈ timeMetrics) (fr tr : Int)
    (hV : (natOfDigits (ip ++ fp) : Int) * timebase m / (10 : Int) ^ fp.length ≤ 9223372036854775807) :
    ∃ V : Int, instant (ip ++ '.' :: fp ++ m) fr tr = some V ∧
      V * (10 : Int) ^ fp.length
        ≤ ((natOfDigits ip * 10 ^ fp.length + natOfDigits fp : Nat) : Int) * timebase m ∧
      ((natOfDigits ip * 10 ^ fp.length + natOfDigits fp : Nat) : Int) * timebase m
        < (V + 1) * (10 : Int) ^ fp.length ∧
      ((10 : Int) ^ fp.length ∣ ((natOfDigits ip * 10 ^ fp.length + natOfDigits fp : Nat) : Int) * timebase m →
        V * (10 : Int) ^ fp.length
          = ((natOfDigits ip * 10 ^ fp.length + natOfDigits fp : Nat) : Int) * timebase m) := by
  rw [← natOfDigits_concat]
  exact ⟨_, instant_plain fr tr (offset_value hip hne hfp hfne hm hV),
    (offset_within _ _ _).1, (offset_within _ _ _).2, offset_exact _ _ _⟩

/-- **Offset time without fraction**, time metrics: exactly `I·tb` ns, for every frame and tick rate -/
theorem offset_resolved_int {ip m : Str} (hip : DigitStr ip) (hne : ip ≠ []) (hm : m ∈ timeMetrics)
    (fr tr : Int) (hV : (natOfDigits ip : Int) * timebase m ≤ 9223372036854775807) :
    instant (ip ++ m) fr tr = some ((natOfDigits ip : Int) * timebase m) :=
  instant_plain fr tr (offset_value_int hip hne hm hV)

/-- **Clock times** `hh:mm:ss` and `hh:mm:ss.f…` (1–3 fraction digits) denote exactly their value,
    for every frame and tick rate -/
theorem clock_resolved (h m s : Nat) (hh : h < 100) (hm : m < 100) (hs : s < 100) (fr tr : Int) :
    instant (dd h ++ ':' :: dd m ++ ':' :: dd s) fr tr
      = some ((h : Int) * 3600000000000 + (m : Int) * 60000000000 + (s : Int) * 1000000000) ∧
    ∀ fp : Str, DigitStr fp → fp ≠ [] → fp.length ≤ 3 →
      instant (dd h ++ ':' :: dd m ++ ':' :: dd s ++ '.' :: fp) fr tr
        = some ((h : Int) * 3600000000000 + (m : Int) * 60000000000 + (s : Int) * 1000000000
                + (natOfDigits fp : Int) * (10 : Int) ^ (3 - fp.length) * 1000000) :=
  ⟨instant_plain fr tr (clock_plain h m s hh hm hs),
   fun _ hfp hne hl => instant_plain fr tr (clock_frac h m s hh hm hs hfp hne hl)⟩

example : instant "01:02:03".toList 25 0 = some 3723000000000 := by decide +kernel
example : instant "01:02:03.5".toList 25 0 = some 3723500000000 := by decide +kernel
example : instant "00:00:01:15".toList 30 0 = some 1500000000 := by decide +kernel
example : instant "1.5s".toList 0 0 = some 1500000000 := by decide +kernel
example : instant "90t".toList 0 90000 = some 1000000 := by decide +kernel
example : instant "1f".toList 30 0 = some 33333333 := by decide +kernel
example : instant "1.5f".toList 30 0 = some 50000000 := by decide +kernel
example : instant "0.5t".toList 0 10 = some 50000000 := by decide +kernel

/-- every language code of the table is read as its language -/
theorem languageOf_table : ∀ p ∈ TTML.languages, TTML.languageOf p.1 = some p.2 := by decide +kernel

/-- … and the writer maps the language back to the code -/
theorem langOut_table :
    ∀ p ∈ TTML.languages, TTML.langOut (some [("Language".toList, p.2)]) = some p.1 := by decide +kernel

/-- only the first two characters of `xml:lang` matter (`en-US` is `en`) -/
theorem languageOf_prefix (c1 c2 : Char) (rest : Str) :
    languageOf (c1 :: c2 :: rest) = languageOf [c1, c2] := rfl

/-- fewer than two characters: no language -/
theorem languageOf_short (s : Str) (h : s.length < 2) : languageOf s = none := by
  match s, h with
  | [], _ => rfl
  | [_], _ => rfl

theorem lastWins_aux (l : List Def) :
    ∀ acc : List Def, (∀ x ∈ acc, ∀ d ∈ l, x.id ≠ d.id) → (l.map (·.id)).Nodup →
      l.foldl (fun acc d => (acc.filter fun x => x.id != d.id) ++ [d]) acc = acc ++ l := by
  induction l with
  | nil => intro acc _ _; simp
  | cons d l ih =>
    intro acc hacc hnd
    rw [map_cons, nodup_cons] at hnd
    have hf : (acc.filter fun x => x.id != d.id) = acc := by
      rw [filter_eq_self]
      intro x hx
      have := hacc x hx d (by simp)
      simpa using this
    rw [foldl_cons, hf, ih (acc ++ [d]) ?_ hnd.2]
    · simp
    · intro x hx e he
      rcases mem_append.mp hx with hx | hx
      · exact hacc x hx e (by simp [he])
      · have hxd : x = d := by simpa using hx
        subst hxd
        intro heq
        exact hnd.1 (mem_map.mpr ⟨e, he, heq.symm⟩)

/-- with pairwise distinct identifiers every definition is kept, in order, with its own `ref` -/
theorem lastWins_nodup (l : List Def) (h : (l.map (·.id)).Nodup) : lastWins l = l := by
  unfold lastWins
  rw [lastWins_aux l [] (by simp) h]
  simp

/-- `lastWins` invents nothing -/
theorem lastWins_sub (l : List Def) : ∀ d ∈ lastWins l, d ∈ l := by
  have key : ∀ (l acc : List Def), ∀ d ∈ l.foldl (fun acc d => (acc.filter fun x => x.id != d.id) ++ [d]) acc,
      d ∈ acc ∨ d ∈ l := by
    intro l
    induction l with
    | nil => intro acc d hd; exact Or.inl hd
    | cons e l ih =>
      intro acc d hd
      rw [foldl_cons] at hd
      rcases ih _ d hd with h | h
      · rcases mem_append.mp h with h | h
        · exact Or.inl (mem_filter.mp h).1
        · exact Or.inr (by simp at h; simp [h])
      · exact Or.inr (by simp [h])
  intro d hd
  rcases key l [] d hd with h | h
  · simp at h
  · exact h

/-- the identifier defined last is present (it wins) -/
theorem lastWins_last (l : List Def) (d : Def) : d ∈ lastWins (l ++ [d]) := by
  unfold lastWins
  rw [foldl_append]
  simp

theorem attrTable_length : attrTable.length = 24 := by decide

/-- the field names are pairwise distinct -/
theorem attrTable_fields_nodup : (attrTable.map (·.1)).Nodup := by decide +kernel

/-- the XML local names are pairwise distinct -/
theorem attrTable_names_nodup : (attrTable.map (·.2)).Nodup := by decide +kernel

/-- each XML local name is the field name with the first letter in lower case -/
theorem attrTable_lower : ∀ p ∈ attrTable,
    p.2.toList = (match p.1.toList with | c :: cs => c.toLower :: cs | [] => []) := by decide +kernel

theorem brTrick_append (l₁ l₂ : List XTok) : brTrick (l₁ ++ l₂) = brTrick l₁ ++ brTrick l₂ := by
  induction l₁ with
  | nil => rfl
  | cons t l ih =>
    cases t with
    | start sp n a => simp only [cons_append, brTrick, ih]; split <;> rfl
    | _ => simp only [cons_append, brTrick, ih]

/-- a `br` start tag gets a `"\n"` character-data token in front -/
theorem brTrick_br (sp n : Str) (a : List (Str × Str × Str)) (h : isBr n = true) :
    brTrick [.start sp n a] = [.text ['\n'], .start sp n a] := by
  simp [brTrick, h]

/-- any other token is passed through -/
theorem brTrick_other (t : XTok) (h : ∀ sp n a, t = .start sp n a → isBr n = false) :
    brTrick [t] = [t] := by
  cases t with
  | start sp n a => simp [brTrick, h sp n a rfl]
  | stop sp n => simp [brTrick]
  | text s => simp [brTrick]
  | other => simp [brTrick]

/-- `brTrick` only inserts `"\n"` character-data tokens -/
theorem brTrick_filter (l : List XTok) :
    (brTrick l).filter (fun t => t != .text ['\n']) = l.filter (fun t => t != .text ['\n']) := by
  induction l with
  | nil => rfl
  | cons t l ih =>
    cases t with
    | start sp n a =>
      by_cases hb : isBr n = true
      · simp [brTrick, hb, ih]
      · simp [brTrick, hb, ih]
    | stop sp n => simp [brTrick, ih]
    | text s => simp only [brTrick, filter_cons, ih]
    | other => simp [brTrick, ih]

/-- the line item the reader makes of run `r` for the text piece `t` -/
def mkItem (r : InItem) (t : Str) : LItem :=
  { text := t, attrs := some (styleAttributes r.attrs), style := if r.style ≠ [] then some r.style else none }

/-- a `<br/>` element as `TTMLInItem` -/
def brItem : InItem := { name := "br".toList }

/-- ground-truth lines (lists of runs) as the item list the reader sees: lines separated by one `br` -/
def itemsOfLines : List (List InItem) → List InItem
  | [] => []
  | [l] => l
  | l :: l' :: ls => l ++ brItem :: itemsOfLines (l' :: ls)

/-- a run: not a `br`, a known (or no) style -/
def Run (styles : List Str) (r : InItem) : Prop :=
  isBr r.name = false ∧ (r.style = [] ∨ r.style ∈ styles)

/-- a run whose text has no line break -/
def GoodRun (styles : List Str) (r : InItem) : Prop := Run styles r ∧ '\n' ∉ r.text

theorem Run.styleOk {styles : List Str} {r : InItem} (h : Run styles r) :
    ¬ (r.style ≠ [] ∧ (!styles.contains r.style) = true) := by
  rintro ⟨h1, h2⟩
  rcases h.2 with e | e
  · exact h1 e
  · simp [e] at h2

/-- a `br` item closes the current line -/
theorem linesLoop_br (styles : List Str) (rest : List InItem) (done : List Line) (cur : List LItem) :
    linesLoop styles (brItem :: rest) done cur = linesLoop styles rest (done ++ [{ items := cur }]) [] := by
  have hb : isBr brItem.name = true := by decide
  rw [linesLoop]
  simp only [hb, ↓reduceIte]

/-- a run without line break is appended to the current line -/
theorem linesLoop_run (styles : List Str) (r : InItem) (hr : GoodRun styles r) (rest : List InItem)
    (done : List Line) (cur : List LItem) :
    linesLoop styles (r :: rest) done cur = linesLoop styles rest done (cur ++ [mkItem r r.text]) := by
  rw [linesLoop]
  simp only [hr.1.1, Bool.false_eq_true, ↓reduceIte, hr.1.styleOk, splitC_not_mem hr.2,
    getLast?_nil]
  rfl

theorem linesLoop_runs (styles : List Str) (l : List InItem) (hl : ∀ r ∈ l, GoodRun styles r)
    (rest : List InItem) (done : List Line) :
    ∀ cur : List LItem, linesLoop styles (l ++ rest) done cur
      = linesLoop styles rest done (cur ++ l.map fun r => mkItem r r.text) := by
  induction l with
  | nil => intro cur; simp
  | cons r l ih =>
    intro cur
    rw [cons_append, linesLoop_run styles r (hl r (by simp)), ih (fun x hx => hl x (by simp [hx]))]
    simp

theorem linesLoop_lines_aux (styles : List Str) (ls : List (List InItem)) :
    ∀ (l : List InItem) (done : List Line) (cur : List LItem),
      (∀ l' ∈ l :: ls, ∀ r ∈ l', GoodRun styles r) →
      linesLoop styles (itemsOfLines (l :: ls)) done cur
        = some (done ++ { items := cur ++ l.map fun r => mkItem r r.text }
            :: ls.map fun l' => ({ items := l'.map fun r => mkItem r r.text } : Line)) := by
  induction ls with
  | nil =>
    intro l done cur h
    have := linesLoop_runs styles l (h l (by simp)) [] done cur
    rw [append_nil] at this
    rw [itemsOfLines, this, linesLoop]
    rfl
  | cons l' ls ih =>
    intro l done cur h
    rw [itemsOfLines, linesLoop_runs styles l (h l (by simp)), linesLoop_br,
      ih l' _ [] (fun x hx => h x (by simp [hx]))]
    simp

/-- **Line splitting.** Lines (possibly empty) of runs separated by single `br` elements are read
    back as exactly those lines, run by run -/
theorem linesLoop_lines (styles : List Str) (ls : List (List InItem)) (hne : ls ≠ [])
    (h : ∀ l ∈ ls, ∀ r ∈ l, GoodRun styles r) :
    linesLoop styles (itemsOfLines ls) [] []
      = some (ls.map fun l => ({ items := l.map fun r => mkItem r r.text } : Line)) := by
  cases ls with
  | nil => exact absurd rfl hne
  | cons l ls =>
    rw [linesLoop_lines_aux styles ls l [] [] h]
    simp

/-- `strings.Split(strings.Join(segs, "\n"), "\n") = segs` for segments without line break -/
theorem splitC_join (first : Str) (more : List Str) (h : ∀ s ∈ first :: more, '\n' ∉ s) :
    splitC '\n' (join ['\n'] (first :: more)) = first :: more :=
  Go.splitC_join (cons_ne_nil _ _) h

/-- **`br` inside a span.** A run whose text is `first \n … \n last` (at least one line break)
    finishes the current line with `first`, contributes one line per middle segment, and leaves
    `last` as the current line: `|segs| - 1` line breaks -/
theorem linesLoop_segs (styles : List Str) (r : InItem) (hr : Run styles r) (first last : Str)
    (more : List Str) (hlast : more.getLast? = some last)
    (htext : r.text = join ['\n'] (first :: more)) (hseg : ∀ s ∈ first :: more, '\n' ∉ s)
    (rest : List InItem) (done : List Line) (cur : List LItem) :
    linesLoop styles (r :: rest) done cur
      = linesLoop styles rest
          (done ++ [{ items := cur ++ [mkItem r first] }]
            ++ (more.dropLast.map fun li => ({ items := [mkItem r li] } : Line)))
          [mkItem r last] := by
  rw [linesLoop]
  simp only [hr.1, Bool.false_eq_true, ↓reduceIte, hr.styleOk, htext, splitC_join first more hseg,
    hlast]
  rfl

/-- the two-segment case: `a \n b` gives two lines -/
theorem linesLoop_two (styles : List Str) (r : InItem) (hr : Run styles r) (a b : Str)
    (htext : r.text = a ++ '\n' :: b) (ha : '\n' ∉ a) (hb : '\n' ∉ b)
    (rest : List InItem) (done : List Line) (cur : List LItem) :
    linesLoop styles (r :: rest) done cur
      = linesLoop styles rest (done ++ [{ items := cur ++ [mkItem r a] }]) [mkItem r b] := by
  have := linesLoop_segs styles r hr a b [b] rfl (by simp [join, htext])
    (by intro s hs; simp at hs; rcases hs with rfl | rfl <;> assumption) rest done cur
  simpa using this

/-- a reference to a style that is not defined is an error -/
theorem linesLoop_unknown_style (styles : List Str) (r : InItem) (hbr : isBr r.name = false)
    (hs : r.style ≠ []) (hn : r.style ∉ styles) (rest : List InItem) (done : List Line)
    (cur : List LItem) : linesLoop styles (r :: rest) done cur = none := by
  rw [linesLoop]
  have hc : r.style ≠ [] ∧ (!styles.contains r.style) = true := ⟨hs, by simpa using hn⟩
  simp only [hbr, Bool.false_eq_true, ↓reduceIte]
  rw [if_pos hc]

theorem foldl_glue (f : Str → Str → Str) (ls : List Str)
    (hf : ∀ acc l, l ∈ ls → f acc l = acc ++ trimLeftSpace l) :
    ∀ acc, ls.foldl f acc = acc ++ (ls.map trimLeftSpace).flatten := by
  induction ls with
  | nil => intro acc; simp
  | cons l ls ih =>
    intro acc
    rw [foldl_cons, hf acc l (by simp), ih (fun a x hx => hf a x (by simp [hx]))]
    simp

/-- **Indentation between elements.** When every line is empty or starts with `<` after trimming
    (pure markup lines), removing the indentation is the concatenation of the trimmed lines — no
    space is inserted -/
theorem stripIndent_markup (ls : List Str) (hnl : ∀ l ∈ ls, '\n' ∉ l)
    (hm : ∀ l ∈ ls, trimLeftSpace l = [] ∨ (trimLeftSpace l).head? = some '<') :
    stripIndent (join ['\n'] ls) = (ls.map trimLeftSpace).flatten := by
  cases ls with
  | nil => simp [stripIndent, join, splitC, trimLeftSpace, trimLeft]
  | cons first more =>
    unfold stripIndent
    rw [splitC_join first more hnl, foldl_glue _ (first :: more) ?_ []]
    · simp
    · intro acc l hl
      rcases hm l hl with h | h
      · simp [h]
      · simp [h]

end C03
end Astisub
