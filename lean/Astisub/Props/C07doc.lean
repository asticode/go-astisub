import Astisub.Lemmas.ConvSRT
import Astisub.Lemmas.ConvVTT
import Astisub.Lemmas.ConvErase
import Astisub.Lemmas.ConvChain
import Astisub.Driver.STL

/-!
# C07 (document level) — conversion to SubRip and to WebVTT preserves the cues, for all plain cue lists

`Props/C07.lean` proves the laws the conversion predicate rests on (dispatch, truncation algebra,
CLI).  This file proves the conversion clause itself for the Lean model, for the destinations
`srt` and `vtt`: for **every** cue list `s` — whatever its source format left in it — that is in
the destination's range (`Driver.inRange`, the check's own range clause) and plain (`PlainSRT` /
`PlainVTT`, decidable), writing `s` with the destination's writer model and reading the bytes with
the destination's reader model (UTF-8, line scanner, decoding: exactly what the driver computes)
succeeds and returns a cue list `back` with

    Driver.convOk strict dst s back = true

— literally the predicate the `conv.pair` check evaluates: same number of cues in the same order,
each with start and end equal to the source's truncated to the millisecond, and the same text
lines.  In fact more is proved: `viewOf back = truncView 1000000 (viewOf s)`, an equality of views.

Vocabulary (all executable; `viaSRT`, `viaVTT` below, `truncView` in `Lemmas/ConvView.lean`, the plainness
predicates in `Lemmas/ConvSRT.lean`, `ConvVTT.lean`):

* `viaSRT s`, `viaVTT s` — write, encode, scan, decode, read; `none` when the writer refuses or
  the reader fails or leaves its modelled class.
* `truncView u v` — the view `v` with every instant `t` replaced by `truncTo u t`.
* `ConvSRT.PlainSRT s` — at least one cue, at most 2⁶³−1; in every line no run has SubRip markup
  (`SRTBold`, `SRTItalics`, `SRTUnderline`, non-empty `SRTColor` / `SRTPosition`) and the line's
  text (its runs concatenated) consists of letters, digits, blanks and `, . ! ?` (`simpleText`), is
  not empty and neither begins nor ends with a blank.  Everything else is free: any other run / cue
  / style / metadata attribute (`TTMLColor`, `WebVTTTags`, `STL…`, `SSA…`, `Teletext…`), voices,
  comments, regions, styles, indexes, how a line is cut into runs, empty runs, cues without lines.
* `ConvVTT.PlainVTT s` — the same for WebVTT: no run with `WebVTTTags`, a *named* `TTMLColor`
  (one of the five colours the writer turns into a `<c.…>` class) or a positive start offset; no
  voice; cues without comments and region, cue settings absent or single words; no region
  definitions, no `STYLE` text in a style, no timestamp map.  Everything else is free.

The destinations SSA / ASS and STL are stated here (`ssa_conv_Statement`, `stl_conv_Statement`) and proved
in `Props/C07doc2.lean`.  Which provisos beyond range are needed for the conclusion itself, and which only
for the round-trip theorems this rests on, is shown by witnesses at the end.
-/

namespace Astisub
namespace C07doc
open Go Spec.Conv Driver ConvView

/-- the conversion to SubRip as the check's model side computes it: write, UTF-8 encode, cut into
    lines with the scanner model, decode, read -/
def viaSRT (s : Subs) : Option Subs :=
  match SRT.write s with
  | none => none
  | some doc => match SRT.read (docLines (utf8 doc)) with
    | .ok back => some back
    | _ => none

/-- the conversion to WebVTT, likewise -/
def viaVTT (s : Subs) : Option Subs :=
  match VTT.write s with
  | none => none
  | some doc => match VTT.read (docLines (utf8 doc)) with
    | .ok back => some back
    | _ => none

/-- **What `convOk` needs.** if the destination read back shows the source's cues at the
    destination's resolution (same cues, same order, truncated instants, same lines), the check's
    predicate holds; for every destination but STL and in both modes of the check -/
theorem convOk_of_view (strict : Bool) (dst : String) (hd : dst ≠ "stl") (s back : Subs)
    (h : viewOf back = truncView (unitOfDst dst) (viewOf s)) : convOk strict dst s back = true :=
  ConvView.convOk_of_view strict dst hd s back h

/-- what the view equality says cue by cue: as many cues, the `k`-th with start and end equal to the
    source's truncated, and with the same non-blank text lines (white space disregarded) -/
theorem view_facts (u : Int) (s back : Subs) (h : viewOf back = truncView u (viewOf s)) :
    back.items.length = s.items.length ∧
    ∀ (k : Nat) (a b : CItem), s.items[k]? = some a → back.items[k]? = some b →
      b.startAt = truncTo u a.startAt ∧ b.endAt = truncTo u a.endAt ∧ (cueView b).lines = (cueView a).lines :=
  view_facts_of (truncTo u) s back h

/-- **The SubRip writer ignores foreign attributes.**  `eraseSRT s` keeps of every cue its two
    instants and its lines, of every run its text and the five SubRip attributes (`SRTBold`,
    `SRTColor`, `SRTItalics`, `SRTPosition`, `SRTUnderline`) — and drops everything else: all other
    run attributes (`TTMLColor`, `WebVTTTags`, `STL…`, `SSA…`, `Teletext…`), start offsets, inline
    style references, voices, cue attributes / style / region / comments / index, the region and
    style tables, the metadata.  The written text is the same, for every cue list. -/
theorem srt_write_ignores_foreign (s : Subs) : SRT.write (ConvErase.eraseSRT s) = SRT.write s :=
  ConvErase.srt_write_erase s

/-- **The WebVTT writer ignores foreign attributes.**  `eraseVTT s` keeps of every run its text,
    start offset, `WebVTTTags` and `TTMLColor`; of every line its voice; of every cue its instants,
    comments, region and style references and the five cue settings (`WebVTTAlign`, `WebVTTLine`,
    `WebVTTPosition`, `WebVTTSize`, `WebVTTVertical`); the region and style tables and the metadata
    whole — and drops all other run and cue attributes, inline style references and indexes.  The
    written text is the same, for every cue list.  (`TTMLColor` is *not* foreign to this writer: a
    colour with a CSS name is written as a `<c.…>` class.) -/
theorem vtt_write_ignores_foreign (s : Subs) : VTT.write (ConvErase.eraseVTT s) = VTT.write s :=
  ConvErase.vtt_write_erase s

/-- hence the whole conversion does not see them either, and neither does the view -/
theorem via_ignores_foreign (s : Subs) :
    viaSRT (ConvErase.eraseSRT s) = viaSRT s ∧ viaVTT (ConvErase.eraseVTT s) = viaVTT s ∧
    viewOf (ConvErase.eraseSRT s) = viewOf s ∧ viewOf (ConvErase.eraseVTT s) = viewOf s := by
  refine ⟨?_, ?_, ConvErase.view_eraseSRT s, ConvErase.view_eraseVTT s⟩
  · simp only [viaSRT, ConvErase.srt_write_erase]
  · simp only [viaVTT, ConvErase.vtt_write_erase]

/-- **The SubRip writer ignores foreign attributes and the run structure.** the written text only
    depends on the instants, on the five SubRip attributes of every run and on the texts: merging
    adjacent runs without SubRip markup changes nothing (so a line cut into runs by another format's
    reader is written as its concatenation) -/
theorem srt_write_ignores_runs (s : Subs) (h : SRTDoc.noPosition s = true) :
    SRT.write (SRTDoc.mergeS s) = SRT.write s :=
  SRTDoc.write_mergeS s h

/-- **Conversion to SubRip, with SubRip markup allowed.** every cue list without position tags that is
    representable once adjacent unstyled runs are merged (`SRTDoc.Rep`, `Props/C01doc.lean`: bold,
    italics, underline, colours, text with `<`, `&` … are all allowed) converts: the reader returns the
    normal form, whose view is the source's at millisecond resolution, and `convOk` holds -/
theorem srt_conv_rep (strict : Bool) (s : Subs) (hpos : SRTDoc.noPosition s = true)
    (hrep : SRTDoc.Rep (SRTDoc.mergeS s) = true) :
    viaSRT s = some (SRTDoc.norm (SRTDoc.mergeS s)) ∧
    viewOf (SRTDoc.norm (SRTDoc.mergeS s)) = truncView 1000000 (viewOf s) ∧
    convOk strict "srt" s (SRTDoc.norm (SRTDoc.mergeS s)) = true := by
  have hv := ConvSRT.view_norm_merge s
  refine ⟨?_, hv, ConvView.convOk_of_view strict "srt" (by decide) s _ hv⟩
  have hne : s.items ≠ [] := by
    intro e
    simp [SRTDoc.Rep, SRTDoc.mergeS, e] at hrep
  obtain ⟨doc, hw⟩ : ∃ doc, SRT.write s = some doc := ⟨_, SRTDoc.write_eq_lines s hne⟩
  have hr := C01doc.read_write_bytes (SRTDoc.mergeS s) hrep doc (by rw [SRTDoc.write_mergeS s hpos]; exact hw)
  simp only [viaSRT, hw, hr]

/-- SubRip as a destination: what comes back is the normal form of the cue list with adjacent unstyled
    runs merged — cue `k` numbered `k+1`, instants truncated, every line one run without attributes
    carrying the line's text; styles, regions, metadata dropped -/
def srtDest : Dest where
  dst := "srt"
  unit := 1000000
  via := viaSRT
  Plain := ConvSRT.PlainSRT
  back s := SRTDoc.norm (SRTDoc.mergeS s)
  ne_stl := by decide
  unit_eq := by decide
  via_back s hr hp := (srt_conv_rep false s (ConvSRT.rep_of_plain s hr hp).1 (ConvSRT.rep_of_plain s hr hp).2).1
  view_back s _ _ := ConvSRT.view_norm_merge s

/-- **C07, destination `srt`.** For EVERY cue list in range and plain — whatever attributes other
    formats left in it — the conversion succeeds, and the check's predicate holds on (the cue list,
    the SubRip file read back): same number of cues, same order, instants truncated to the
    millisecond, same text lines -/
theorem srt_conv (strict : Bool) (s : Subs) (hr : inRange "srt" s = true) (hp : ConvSRT.PlainSRT s = true) :
    ∃ back, viaSRT s = some back ∧ convOk strict "srt" s back = true ∧
      viewOf back = truncView 1000000 (viewOf s) :=
  (srtDest.conv strict s hr hp).ex

theorem srt_conv_back (s : Subs) (hr : inRange "srt" s = true) (hp : ConvSRT.PlainSRT s = true) :
    viaSRT s = some (SRTDoc.norm (SRTDoc.mergeS s)) :=
  srtDest.via_back s hr hp

example : ConvSRT.PlainSRT ConvSRT.exampleForeign = true ∧ inRange "srt" ConvSRT.exampleForeign = true :=
  ConvSRT.exampleForeign_plain

/-- **The WebVTT writer ignores foreign attributes and the run structure** of lines without
    WebVTT markup: collapsing every line into one attribute-free run carrying the line's text changes
    nothing in the written text, provided no run has `WebVTTTags`, a named `TTMLColor` or a positive
    start offset (`bareS`) -/
theorem vtt_write_ignores_runs (s : Subs) (h : ConvVTT.bareS s = true) :
    VTT.write (ConvVTT.flatS s) = VTT.write s :=
  ConvVTT.write_flatS s h

/-- **Conversion to WebVTT, with WebVTT markup allowed.** every cue list that satisfies the provisos of
    the document round trip of `Props/C02doc.lean` (tags, voices, inline timestamps, cue settings are
    all allowed) converts: the reader returns `readSubs s`, whose view is the source's at millisecond
    resolution, and `convOk` holds -/
theorem vtt_conv_ok (strict : Bool) (s : Subs) (hne : s.items ≠ []) (hok : ∀ it ∈ s.items, VTT.cueOk s it = true)
    (hlen : s.items.length ≤ int64Max) (hreg : s.regions = []) (hsty : VTT.styleLines s = [])
    (hmeta : SRT.kvGet s.metadata "WebVTTTimestampMap" = none) :
    viaVTT s = some (VTT.readSubs s) ∧
    viewOf (VTT.readSubs s) = truncView 1000000 (viewOf s) ∧
    convOk strict "vtt" s (VTT.readSubs s) = true := by
  have hv := ConvVTT.view_readSubs s
  refine ⟨?_, hv, ConvView.convOk_of_view strict "vtt" (by decide) s _ hv⟩
  obtain ⟨doc, hw, hr⟩ := ConvVTT.read_write_bytes s hne hok hlen hreg hsty hmeta
  simp only [viaVTT, hw, hr]

theorem vtt_conv_back (s : Subs) (hr : inRange "vtt" s = true) (hp : ConvVTT.PlainVTT s = true) :
    viaVTT s = some (VTT.readSubs (ConvVTT.flatS s)) := by
  obtain ⟨h1, h2, h3, h4, h5⟩ := ConvVTT.doc_facts s hp
  have h := (vtt_conv_ok false (ConvVTT.flatS s) h1 (ConvVTT.cueOk_flat s hr hp) h2 h3 h4 h5).1
  simpa only [viaVTT, ConvVTT.write_flatS s (ConvVTT.bareS_of_plain s hp)] using h

/-- WebVTT as a destination: what comes back is what the reader returns for the flattened cue list -/
def vttDest : Dest where
  dst := "vtt"
  unit := 1000000
  via := viaVTT
  Plain := ConvVTT.PlainVTT
  back s := VTT.readSubs (ConvVTT.flatS s)
  ne_stl := by decide
  unit_eq := by decide
  via_back := vtt_conv_back
  view_back s _ _ := ConvVTT.view_back s

/-- **C07, destination `vtt`.** For EVERY cue list in range and plain — whatever attributes other
    formats left in it — the conversion succeeds, and the check's predicate holds on (the cue list,
    the WebVTT file read back): same number of cues, same order, instants truncated to the
    millisecond, same text lines -/
theorem vtt_conv (strict : Bool) (s : Subs) (hr : inRange "vtt" s = true) (hp : ConvVTT.PlainVTT s = true) :
    ∃ back, viaVTT s = some back ∧ convOk strict "vtt" s back = true ∧
      viewOf back = truncView 1000000 (viewOf s) :=
  (vttDest.conv strict s hr hp).ex

example : inRange "vtt" ConvVTT.exampleForeign = true := ConvVTT.exampleForeign_range

/-- the conversion to the destination `dst` (the two destinations covered here) -/
def via (dst : String) (s : Subs) : Option Subs :=
  if dst = "srt" then viaSRT s else if dst = "vtt" then viaVTT s else none

/-- plain for the destination `dst` -/
def Plain (dst : String) (s : Subs) : Bool :=
  if dst = "srt" then ConvSRT.PlainSRT s else if dst = "vtt" then ConvVTT.PlainVTT s else false

/-- **C07 for D ∈ {srt, vtt}.** For every destination `dst` for which `Plain dst` can hold, every
    cue list in `dst`'s range and plain for `dst`: the conversion succeeds and `convOk` holds on the
    cue list and the destination read back, whose view is the source's with every instant truncated
    to `unitOfDst dst` -/
theorem conv (strict : Bool) (dst : String) (s : Subs) (hr : inRange dst s = true) (hp : Plain dst s = true) :
    ∃ back, via dst s = some back ∧ convOk strict dst s back = true ∧
      viewOf back = truncView (unitOfDst dst) (viewOf s) := by
  unfold Plain at hp
  by_cases h1 : dst = "srt"
  · subst h1
    simp only [if_true] at hp
    simpa only [via, if_true, show unitOfDst "srt" = 1000000 from srtDest.unit_eq] using srt_conv strict s hr hp
  · by_cases h2 : dst = "vtt"
    · subst h2
      simp only [h1, if_false, if_true] at hp
      have := vtt_conv strict s hr hp
      simpa only [via, h1, if_false, if_true, show unitOfDst "vtt" = 1000000 from vttDest.unit_eq] using this
    · simp [h1, h2] at hp

example : Plain "srt" ConvSRT.exampleForeign = true := (if_pos rfl).trans ConvSRT.exampleForeign_plain.1

/-- **The clause read on the model's cues, destination SubRip.**  `opsS` is a cue list that shows exactly
    the model items `expected` (`vOfItems expected = viewOf opsS`: the correspondence clause the check
    establishes between the models' result of the operations and the library's).  If `opsS` is in range
    and plain then it converts, `convOk` holds, and the SubRip file read back shows `expected` at
    millisecond resolution.  The operations enter through the correspondence clause only: the
    hypothesis on `applyOps` says where `expected` comes from in the check and is not used. -/
theorem srt_conv_ops (strict : Bool) (src : Subs) (margs : List Subs) (ops : List String) (expected : List Item)
    (opsS : Subs) (_hops : applyOps (itemsOf src) (margs.map itemsOf) ops = some expected)
    (hcorr : vOfItems expected = viewOf opsS)
    (hr : inRange "srt" opsS = true) (hp : ConvSRT.PlainSRT opsS = true) :
    ∃ back, viaSRT opsS = some back ∧ convOk strict "srt" opsS back = true ∧
      viewOf back = truncView 1000000 (vOfItems expected) :=
  srtDest.conv_ops strict _ opsS hcorr hr hp

/-- the same for the destination `vtt` -/
theorem vtt_conv_ops (strict : Bool) (src : Subs) (margs : List Subs) (ops : List String) (expected : List Item)
    (opsS : Subs) (_hops : applyOps (itemsOf src) (margs.map itemsOf) ops = some expected)
    (hcorr : vOfItems expected = viewOf opsS)
    (hr : inRange "vtt" opsS = true) (hp : ConvVTT.PlainVTT opsS = true) :
    ∃ back, viaVTT opsS = some back ∧ convOk strict "vtt" opsS back = true ∧
      viewOf back = truncView 1000000 (vOfItems expected) :=
  vttDest.conv_ops strict _ opsS hcorr hr hp

/-- the cue list that carries exactly the model's items: one attribute-free run per text -/
def subsOfItems (xs : List Item) : Subs :=
  { items := xs.map fun it =>
      { startAt := it.startAt, endAt := it.endAt,
        lines := it.lines.map fun l => { items := l.map fun t => { text := t.toList } } } }

/-- it shows the model's cues: the correspondence clause holds for it by construction -/
theorem view_subsOfItems (xs : List Item) : viewOf (subsOfItems xs) = vOfItems xs := by
  simp only [viewOf, subsOfItems, vOfItems, List.map_map]
  apply List.map_congr_left
  intro it _
  have e : ∀ l : List String, ((l.map fun t => ({ text := t.toList } : LItem)).map (·.text)).flatten = (String.join l).toList := by
    intro l
    simp [String.toList_join, List.flatMap_def, Function.comp_def]
  have e2 : ((fun (l : Line) => squash (l.items.map (·.text)).flatten) ∘
      fun (l : List String) => ({ items := l.map fun t => ({ text := t.toList } : LItem) } : Line))
      = fun l => squash (String.join l).toList := by
    funext l
    exact congrArg squash (e l)
  simp only [Function.comp_apply, List.map_map, e2]

theorem ops_then (D : Dest) (ys : List Item) (hr : inRange D.dst (subsOfItems ys) = true)
    (hp : D.Plain (subsOfItems ys) = true) :
    ∃ back, D.via (subsOfItems ys) = some back ∧ viewOf back = truncView D.unit (vOfItems ys) :=
  ⟨_, D.via_back _ hr hp, by rw [D.view_back _ hr hp, view_subsOfItems]⟩

/-- **Purely in the model.** a list of model items `ys`, written as a cue list: if that is in range and
    plain, either conversion succeeds and the file read back shows `ys` at millisecond resolution
    (`ys` is the result of some operations in the check; the hypothesis on `applyOps` is not used) -/
theorem ops_then_convert (xs : List Item) (args : List (List Item)) (ops : List String) (ys : List Item)
    (_hops : applyOps xs args ops = some ys) :
    (inRange "srt" (subsOfItems ys) = true → ConvSRT.PlainSRT (subsOfItems ys) = true →
      ∃ back, viaSRT (subsOfItems ys) = some back ∧ viewOf back = truncView 1000000 (vOfItems ys)) ∧
    (inRange "vtt" (subsOfItems ys) = true → ConvVTT.PlainVTT (subsOfItems ys) = true →
      ∃ back, viaVTT (subsOfItems ys) = some back ∧ viewOf back = truncView 1000000 (vOfItems ys)) :=
  ⟨ops_then srtDest ys, ops_then vttDest ys⟩

/-- non-vacuity: two cues, shifted by a quarter of a millisecond, are plain and in range -/
def exampleItems : List Item :=
  [{ uid := 1, startAt := 1500000000, endAt := 4000000000, lines := [["Hello, ", "world"]], pay := 1 },
   { uid := 2, startAt := 500000000, endAt := 900000001, lines := [["Is it?"], ["Yes."]], pay := 2 }]

/-- what `applyOps … ["add:250000"]` computes (the driver parses the operation names at run time;
    the kernel does not evaluate `String.splitOn`, so the result is spelled out) -/
def exampleResult : List Item := Ops.add 250000 exampleItems

example : applyOps exampleItems [] [] = some exampleItems := rfl
example : exampleResult.length = 2 ∧
    inRange "srt" (subsOfItems exampleResult) = true ∧ ConvSRT.PlainSRT (subsOfItems exampleResult) = true ∧
    inRange "vtt" (subsOfItems exampleResult) = true := by
  decide +kernel

/-- **Second generation.** what SubRip returned for a plain cue list in range is again in range and
    plain for SubRip: converting it once more gives the same view (truncation is idempotent) -/
theorem srt_twice (s : Subs) (hr : inRange "srt" s = true) (hp : ConvSRT.PlainSRT s = true) :
    ∃ b1 b2, viaSRT s = some b1 ∧ viaSRT b1 = some b2 ∧ viewOf b2 = viewOf b1 := by
  have h1 := srtDest.conv false s hr hp
  have h2 := h1.next false srtDest (C07.trunc_idem 1000000) (ConvChain.plainSRT_norm s hp)
  exact ⟨_, _, h1.via, h2.via, h2.view.trans h1.view.symm⟩

/-- **Two conversions in a row: SubRip, then WebVTT.** what SubRip returned for a plain cue list in
    range is in WebVTT's range and plain for WebVTT; converting it to WebVTT succeeds too and the
    WebVTT file read back still shows the original cues at millisecond resolution (nothing is lost
    at the second hop) -/
theorem srt_then_vtt (s : Subs) (hr : inRange "srt" s = true) (hp : ConvSRT.PlainSRT s = true) :
    ∃ b1 b2, viaSRT s = some b1 ∧ viaVTT b1 = some b2 ∧
      convOk false "vtt" b1 b2 = true ∧ viewOf b2 = truncView 1000000 (viewOf s) :=
  have h1 := srtDest.conv false s hr hp
  have h2 := h1.next false vttDest (C07.trunc_idem 1000000) (ConvChain.plainVTT_norm s hp)
  ⟨_, _, h1.via, h2.via, h2.ok, h2.view⟩

/-- the conversion to SSA as the check's model side computes it -/
def viaSSA (s : Subs) : Option Subs :=
  match SSA.write s with
  | .ok out => (match SSAD.readBytes (utf8 out) with
    | some (.ok back) => some back
    | _ => none)
  | _ => none

/-- C07 for the destination `ssa` (and `ass`: same codec, same unit), for a plainness predicate `Plain`
    (`C07doc2.ssa_conv` proves it for `Conv2SSA.PlainSSA`: simple text without `{`, `\\N`, `\\n`; style, voice and
    effect cells without commas; style table with writable cells; no SSA override blocks) -/
def ssa_conv_Statement (Plain : Subs → Bool) : Prop :=
  ∀ (strict : Bool) (s : Subs), inRange "ssa" s = true → Plain s = true →
    ∃ back, viaSSA s = some back ∧ convOk strict "ssa" s back = true ∧
      viewOf back = truncView 10000000 (viewOf s)

/-- C07 for the destination `stl` under display standard 0 (open subtitling), for a plainness predicate
    `Plain` (`C07doc2.stl_conv` proves it for `Conv2STL.PlainSTLdoc`: `PlainSTL` — simple text, rows that fit —,
    metadata that fits its fields at frame rate 25 / 30 (`stlMetaOK`, `MetaFit`) and carries both dates
    (`datesSet`: that is what lets the statement hold for every day `now`)) -/
def stl_conv_Statement (Plain : Subs → Bool) : Prop :=
  ∀ (now : STL.Date) (s : Subs), inRange "stl" s = true → Plain s = true →
    SRT.kvGet s.metadata "STLDisplayStandardCode" = some "0".toList →
    ∃ out md items, STL.write now (STLD.metaOf s.metadata) (s.items.map STLD.cueOf) = .ok out ∧
      STL.read false out = .ok (md, items) ∧ convOk false "stl" s { items := items } = true

/-! ## which provisos are needed: witnesses

The range clause and the shape of `convOk` are the check's own.  Of the plainness provisos, some are
needed for the conclusion itself — the witnesses below make the conversion fail or return another
text in the model — and some only for the round-trip theorems used (`Props/C01doc.lean`,
`Props/C02doc.lean`): a blank at the edge of a line is trimmed by the readers (the views, which
disregard white space, still agree), and a named `TTMLColor`, a voice or an inline timestamp are
written as WebVTT markup that the reader takes off again.  (Lines are cut at line feeds here: the
kernel does not evaluate the UTF-8 layer of `viaSRT` / `viaVTT`.) -/

def oneLine (runs : List LItem) : Subs :=
  { items := [{ startAt := 0, endAt := 1000000000, lines := [{ items := runs }] }] }

def srtOkL (s : Subs) : Bool :=
  match SRT.write s with
  | some doc => (match SRT.read ((splitC '\n' doc).map some) with
    | .ok back => convOk false "srt" s back
    | _ => false)
  | none => false

/-- for WebVTT the reader is given the lines `VTT.docLineList s`, which are the lines of the written
    text when there are no comments, regions, style blocks and timestamp map (`C02doc.written_lines`) -/
def vttOkL (s : Subs) : Bool :=
  match VTT.read ((VTT.docLineList s).map some) with
  | .ok back => convOk false "vtt" s back
  | _ => false

-- the plain examples pass
example : srtOkL ConvSRT.exampleForeign = true := by decide +kernel
example : srtOkL (oneLine [{ text := "a".toList }, { text := " b".toList }]) = true := by decide +kernel
-- an empty cue list is not written
example : srtOkL { items := [] } = false ∧ VTT.write { items := [] } = none := by decide +kernel
-- `SRTPosition`: the tag `{\an8}` comes back as text
example : srtOkL (oneLine [{ text := "a".toList, attrs := some [("SRTPosition".toList, "8".toList)] }]) = false := by decide +kernel
-- a text that is not simple: `-->` makes the line a timing line, both readers fail
example : srtOkL (oneLine [{ text := "a --> b".toList }]) = false ∧ vttOkL (oneLine [{ text := "a --> b".toList }]) = false := by
  decide +kernel
-- a negative instant is written as something the reader rejects
example : srtOkL { items := [{ startAt := -1000000, endAt := 1000000000, lines := [{ items := [{ text := "a".toList }] }] }] } = false := by
  decide +kernel
-- WebVTT: a cue that refers to a region the file does not define is rejected by the reader
example : vttOkL { items := [{ startAt := 0, endAt := 1000000000, region := some "r".toList,
                               lines := [{ items := [{ text := "a".toList }] }] }] } = false := by decide +kernel
-- WebVTT: a cue setting with a blank inside is cut in two and rejected
example : vttOkL { items := [{ startAt := 0, endAt := 1000000000, attrs := some [("WebVTTAlign".toList, "a b".toList)],
                               lines := [{ items := [{ text := "a".toList }] }] }] } = false := by decide +kernel
-- provisos of the round-trip theorems only: the predicate still holds in these cases
example : srtOkL (oneLine [{ text := " a ".toList }]) = true ∧ vttOkL (oneLine [{ text := " a ".toList }]) = true := by decide +kernel
example : vttOkL (oneLine [{ text := "a".toList, attrs := some [("TTMLColor".toList, "#ff0000".toList)] }]) = true := by decide +kernel

end C07doc
end Astisub
