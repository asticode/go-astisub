import Astisub.Model.Ops
import Astisub.Spec.OpsSpec

/-!
# C14 — ForceDuration trims to d and pads with a filler so the list lasts exactly d

Statements are about `Ops.forceDuration`, the literal model of `Subtitles.ForceDuration`
(`subtitles.go`), for **every** ordered timeline (starts and ends non-decreasing, start ≤ end
per cue, any length), every `d` (`duration_exact` alone needs `0 ≤ d`) and both values of the filler flag.
-/

namespace Astisub
namespace C14
open Ops Spec

theorem duration_eq_lastEnd (xs : List Item) : duration xs = lastEnd xs := rfl

/-- on a list whose starts are non-decreasing, the scan-until-first-late-cue of the code
    keeps exactly the cues that start before `d` -/
theorem fdScan_eq_kept (d : Int) (xs : List Item) (h : Ordered xs) : fdScan d xs = keptSpec d xs := by
  induction xs with
  | nil => rfl
  | cons it rest ih =>
    have hle : ∀ b ∈ rest, it.startAt ≤ b.startAt := fun b hb => ((List.pairwise_cons.mp h).1 b hb).1
    unfold keptSpec at ih ⊢
    rw [fdScan, List.filter_cons]
    by_cases hs : it.startAt ≥ d
    · -- everything after starts at or after `d` as well
      rw [if_pos hs, if_neg (by simpa using hs),
        List.filter_eq_nil_iff.mpr fun b hb => by have := hle b hb; simp; omega]
      rfl
    · rw [if_neg hs, if_pos (show decide (it.startAt < d) = true by simpa using hs),
        ih (List.pairwise_cons.mp h).2]
      rfl

theorem getLast?_ordered_end (xs : List Item) (h : Ordered xs) :
    ∀ it ∈ xs, it.endAt ≤ lastEnd xs := by
  induction xs with
  | nil => nofun
  | cons x rest ih =>
    intro it hit
    cases rest with
    | nil => rw [List.mem_singleton.mp hit]; exact Int.le_refl _
    | cons y ys =>
      have hl : lastEnd (x :: y :: ys) = lastEnd (y :: ys) := by
        unfold lastEnd; rw [List.getLast?_cons_cons]
      have hy := ih (List.pairwise_cons.mp h).2
      rw [hl]
      rcases List.mem_cons.mp hit with rfl | hm
      · exact Int.le_trans ((List.pairwise_cons.mp h).1 y List.mem_cons_self).2 (hy y List.mem_cons_self)
      · exact hy it hm

/-- a timeline that already ends before `d` is kept whole -/
theorem kept_all (d : Int) (xs : List Item) (h : Ordered xs) (hw : WF xs) (hd : lastEnd xs < d) :
    keptSpec d xs = xs := by
  have hend := getLast?_ordered_end xs h
  unfold keptSpec
  rw [List.filter_eq_self.mpr fun a ha => by have := hend a ha; have := hw a ha; simp; omega]
  refine (List.map_congr_left fun a ha => ?_).trans (List.map_id xs)
  have := hend a ha
  exact if_neg (by omega)

/-- Main theorem: the model of the code equals the specification: a list lasting exactly `d`
    is unchanged; otherwise exactly the cues starting at or after `d` are removed, exactly the
    remaining cues ending after `d` are shortened to end at `d`, all others are untouched
    (same identity, times, content), and the filler `[d - 1 ms, d)` with text `...` is appended
    iff it was requested and what remains ends before `d` (or nothing remains). -/
theorem forceDuration_spec (d : Int) (b : Bool) (xs : List Item) (h : Ordered xs) (hw : WF xs) :
    forceDuration d b xs = forceDurationSpec d b xs := by
  unfold forceDuration forceDurationSpec
  simp only [duration_eq_lastEnd]
  by_cases heq : lastEnd xs = d
  · simp [heq]
  · simp only [heq, ↓reduceIte]
    by_cases hgt : lastEnd xs > d
    · simp only [hgt, ↓reduceIte, fdScan_eq_kept d xs h, filler, fillerSpec, millisecond]
      by_cases hb : b = true <;> simp [hb]
    · have hlt : lastEnd xs < d := by omega
      simp only [hgt, ↓reduceIte, kept_all d xs h hw hlt, filler, fillerSpec, millisecond]
      by_cases hb : b = true <;> simp [hb, hlt]

/-- a list already lasting exactly `d` is returned unchanged -/
theorem equal_unchanged (d : Int) (b : Bool) (xs : List Item) (h : duration xs = d) :
    forceDuration d b xs = xs := by
  simp [forceDuration, h]

/-- without a filler request nothing is appended: the result is exactly the kept cues -/
theorem no_filler (d : Int) (xs : List Item) (h : Ordered xs) (hw : WF xs) (hne : lastEnd xs ≠ d) :
    forceDuration d false xs = keptSpec d xs := by
  rw [forceDuration_spec d false xs h hw]
  simp [forceDurationSpec, hne]

theorem lastEnd_append_singleton (xs : List Item) (it : Item) : lastEnd (xs ++ [it]) = it.endAt := by
  simp [lastEnd]

theorem lastEnd_kept_le (d : Int) (xs : List Item) (hd : 0 ≤ d) : lastEnd (keptSpec d xs) ≤ d := by
  unfold lastEnd
  cases hl : (keptSpec d xs).getLast? with
  | none => simpa using hd
  | some it =>
    have hm : it ∈ keptSpec d xs := List.mem_of_getLast? hl
    unfold keptSpec at hm
    obtain ⟨a, _, rfl⟩ := List.mem_map.mp hm
    simp only [clipEnd]
    split <;> simp <;> omega

/-- with a filler the list lasts exactly `d` afterwards -/
theorem duration_exact (d : Int) (xs : List Item) (h : Ordered xs) (hw : WF xs) (hd : 0 ≤ d) :
    duration (forceDuration d true xs) = d := by
  rw [forceDuration_spec d true xs h hw, duration_eq_lastEnd]
  unfold forceDurationSpec
  by_cases heq : lastEnd xs = d
  · simp [heq]
  · simp only [heq, ↓reduceIte, Bool.true_and]
    by_cases hlt : lastEnd (keptSpec d xs) < d
    · simp [hlt, lastEnd_append_singleton, fillerSpec]
    · have := lastEnd_kept_le d xs hd
      simp only [hlt, decide_false, Bool.false_eq_true, ↓reduceIte]
      omega

/-- "removes every cue that starts at or after d" / "leaves all other cues" — by identity -/
theorem kept_uids (d : Int) (xs : List Item) :
    (keptSpec d xs).map (·.uid) = (xs.filter (fun it => decide (it.startAt < d))).map (·.uid) := by
  unfold keptSpec
  simp only [List.map_map]
  apply List.map_congr_left
  intro a _
  simp only [Function.comp, clipEnd]
  split <;> rfl

/-- a kept cue is shortened iff it ended after `d`; otherwise it is untouched -/
theorem clip_exact (d : Int) (it : Item) :
    (it.endAt > d → clipEnd d it = { it with endAt := d }) ∧ (it.endAt ≤ d → clipEnd d it = it) := by
  constructor <;> intro h <;> simp [clipEnd] <;> omega

end C14
end Astisub
