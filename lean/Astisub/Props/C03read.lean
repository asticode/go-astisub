import Astisub.Lemmas.TTMLRead2Main

/-!
# C03 (read clause) — TTML: the reader model returns what a well-formed document denotes

The read clause of C03 says: *reading any well-formed TTML document returns exactly what it denotes*.  The independent
decoder `Spec.TTML.decode` (written from the TTML description) defines both "well-formed" (`decode toks = some d`)
and "denotes" (`d`).  The `ttml.read` stream (`Driver/TTML.lean`) evaluates on every generated case

    toksOk → decode (specToks toks) = some d → answer = "ok" s ∧ readOk d s

where `toks` is the name-space-resolved token list `encoding/xml` reports for the document, and the reader model
`TTML.read` is run on the *other* view of the same bytes: the `TTMLIn` value `xml.Decoder.Decode` filled, with the
re-tokenised paragraphs.  This file proves that predicate for the **model's** answer, for all documents of an explicit
decidable class and every `TTMLIn` view that belongs to the token list.

**The XML layer is a contract** (DESIGN 3.6), here written down as the decidable relation `TTMLR.contractOk toks tin`
(`Lemmas/TTMLRead2Defs.lean`): `TTMLR.unmarshal` is `Decode(&TTMLIn)` as a path-tracking function of the tokens
(attributes found by local name in any name space, last value of a string field, every value of an `int` /
`UnmarshalText` field, `title` / `copyright` character data, everything else skipped), and `TTMLR.subOk` says what
the re-tokenised `"<p>" + stripIndent(innerxml) + "</p>"` is for a paragraph of the decoder's class: `<p>`, then the
paragraph's own tokens up to name spaces and white-space-only character data directly inside `<p>`, then `</p>`.
It is an assumption about `encoding/xml` and about indentation stripping on bytes; nothing below proves it.

**Findings.**  The clause is false on the whole class of the decoder (`read_Statement_false`).  Three families of
documents are accepted by the decoder while the reader model (fed by a view satisfying the contract) provably answers
something else; each has a concrete document checked by the kernel:

1. `cexDecl` — a name-space declaration whose prefix is a name the library matches (`xmlns:color="red"` on `<p>`): read
   as the styling attribute `tts:color` (known finding `ttml-xmlns-prefix-read-as-styling-attribute`).
2. `cexBig` — a number beyond 64 bits (`end="99999999999999999999h"`): the decoder computes with exact rationals, the
   library reports a range error.
3. `cexBr` — `<br tts:zIndex="auto"/>` directly inside `<p>`: the decoder ignores the attributes of a line break, the
   library decodes the element into a `TTMLInItem` and fails on the integer.

`TTMLR.InClass toks` (decidable) excludes exactly these families (checked on every start tag, so also on foreign
elements both sides skip).  The other known finding (a line feed inside a run) is excluded by the decoder itself.

`read_decode` is the clause, `readCheck_model` the same as the driver evaluates it (`readCheck`: the predicate of the
`ttml.read` case with the model's answer in place of the implementation's).  The theorems after them state, one each,
the layers the proof goes through: time expressions, the attributes of one start tag, one paragraph on the decoder's
and on the model's side, definitions, metadata, and the document with decoder and contract in lockstep.
-/

namespace Astisub
namespace C03read
open Go TTML TTMLR
open Driver.TTMLD (specToks readOk ttmlAttrsOf)

/-- the read clause without a class (refuted by `read_Statement_false`): for every token list the decoder accepts and every `TTMLIn` view belonging to
    it, the reader model succeeds and its answer passes the check against the decoded document. -/
def read_Statement : Prop :=
  ∀ (toks : List XTok) (tin : Option TIn) (d : Spec.TTML.GDoc),
    Spec.TTML.decode (specToks toks) = some d → contractOk toks tin = true →
    ∃ s, TTML.read tin = .ok s ∧ readOk d s = true

/-- the predicate of the `ttml.read` case of `Driver.handleTTML`, with the model's answer `r` in place of the
    implementation's printed answer -/
def readCheck (toks : List XTok) (toksOk : Bool) (r : Res Subs) : Bool :=
  if !toksOk then true else
  match Spec.TTML.decode (specToks toks) with
  | none => true
  | some d =>
    match r with
    | .ok s => readOk d s
    | _ => false

def ns : Str := "http://www.w3.org/ns/ttml".toList
def tts : Str := "http://www.w3.org/ns/ttml#styling".toList
def xmlNs : Str := "http://www.w3.org/XML/1998/namespace".toList
def st (n : String) (a : List XAttr) : XTok := .start ns n.toList a
def en (n : String) : XTok := .stop ns n.toList
def tx (s : String) : XTok := .text s.toList
def at_ (sp : Str) (n v : String) : XAttr := (sp, n.toList, v.toList)

/-- a `TTMLIn` view that satisfies the contract: the fields `unmarshal` finds, and for every paragraph its own tokens
    between `<p>` and `</p>` (what re-tokenising gives when there is no indentation) -/
def viewOf (toks : List XTok) : Option TIn :=
  (unmarshal toks).map fun t => { t with subs := t.subs.map fun s => { s with toks := pStart :: s.toks ++ [pStop] } }

/-- `xmlns:color="red"` on a paragraph -/
def cexDecl : List XTok :=
  [st "tt" [], st "body" [], st "div" [],
   st "p" [at_ [] "begin" "1s", at_ [] "end" "2s", at_ "xmlns".toList "color" "red"],
   tx "x", en "p", en "div", en "body", en "tt"]

/-- a number beyond 64 bits -/
def cexBig : List XTok :=
  [st "tt" [], st "body" [], st "div" [],
   st "p" [at_ [] "begin" "1s", at_ [] "end" "99999999999999999999h"],
   tx "x", en "p", en "div", en "body", en "tt"]

/-- a line break with a `zIndex` that is not an integer -/
def cexBr : List XTok :=
  [st "tt" [], st "body" [], st "div" [],
   st "p" [at_ [] "begin" "1s", at_ [] "end" "2s"],
   tx "x", st "br" [at_ tts "zIndex" "auto"], en "br", en "p", en "div", en "body", en "tt"]

/-- **Finding (1).** The decoder accepts the document (no styling attribute on the cue), the view satisfies the
    contract, the reader model succeeds and answers a cue *with* `TTMLColor` — the check fails. -/
theorem cexDecl_differs :
    (Spec.TTML.decode (specToks cexDecl)).isSome = true ∧ contractOk cexDecl (viewOf cexDecl) = true ∧
    (match TTML.read (viewOf cexDecl) with | .ok _ => true | _ => false) = true ∧
    readCheck cexDecl true (TTML.read (viewOf cexDecl)) = false ∧ InClass cexDecl = false := by
  decide +kernel

/-- **Findings (2), (3).** The decoder accepts both documents, the views satisfy the contract, the reader model
    answers an error. -/
theorem cex_errors :
    (Spec.TTML.decode (specToks cexBig)).isSome = true ∧ contractOk cexBig (viewOf cexBig) = true ∧
    (match TTML.read (viewOf cexBig) with | .err => true | _ => false) = true ∧ InClass cexBig = false ∧
    (Spec.TTML.decode (specToks cexBr)).isSome = true ∧ contractOk cexBr (viewOf cexBr) = true ∧
    (match TTML.read (viewOf cexBr) with | .err => true | _ => false) = true ∧ InClass cexBr = false := by
  decide +kernel

/-- witness: `cexBig` (a number beyond 64 bits) — the decoder accepts it, its view satisfies the contract, the
    reader model answers an error (`cex_errors`) -/
theorem read_Statement_false : ¬ read_Statement := by
  intro h
  obtain ⟨hd, hk, he, _⟩ := cex_errors
  cases hg : Spec.TTML.decode (specToks cexBig) with
  | none => rw [hg] at hd; cases hd
  | some d =>
    obtain ⟨s, hs, _⟩ := h cexBig (viewOf cexBig) d hg hk
    rw [hs] at he
    cases he

/-- name-space declarations, `xml:lang`, frame and tick rate, title, a style chain, a region, a paragraph with a
    clock time with frames and an offset, indentation, a bare text, a span with a comment and a `<br/>` inside, a
    `<br/>` between spans, an empty span; a paragraph with times in ticks and frames -/
def sample : List XTok :=
  [st "tt" [at_ "xmlns".toList "tts" "http://www.w3.org/ns/ttml#styling", at_ [] "xmlns" "http://www.w3.org/ns/ttml",
            at_ xmlNs "lang" "en-US", at_ [] "frameRate" "25", at_ [] "tickRate" " 10 "],
   tx "\n ", st "head" [], st "metadata" [], st "title" [], tx "T", en "title", en "metadata",
   st "styling" [], st "style" [at_ xmlNs "id" "s1", at_ tts "color" "red"], en "style",
     st "style" [at_ xmlNs "id" "s0", at_ [] "style" "s1", at_ tts "zIndex" " -3 "], en "style", en "styling",
   st "layout" [], st "region" [at_ xmlNs "id" "r1", at_ [] "style" "s0", at_ tts "origin" "10% 80%"], en "region", en "layout",
   en "head", st "body" [], st "div" [],
   st "p" [at_ [] "begin" "00:00:01:05", at_ [] "end" "2.5s", at_ [] "region" "r1", at_ tts "textAlign" "center"],
     tx "\n   ", tx "hello ", st "span" [at_ [] "style" "s1", at_ tts "color" "blue"], tx "a", .other, tx "b",
       st "br" [], .other, en "br", tx "c", en "span",
     st "br" [], en "br", tx "\n  ", st "span" [], en "span", en "p",
   st "p" [at_ [] "begin" "10t", at_ [] "end" "3f"], en "p",
   en "div", en "body", en "tt"]

/-- non-vacuity: `sample` is in the class, the decoder accepts it (two cues, two styles, one region), and its view
    satisfies the contract -/
theorem sample_ok :
    InClass sample = true ∧ contractOk sample (viewOf sample) = true ∧
    ((Spec.TTML.decode (specToks sample)).map fun d => (d.cues.length, d.styles.length, d.regions.length)) = some (2, 2, 1) := by
  decide +kernel

/-- **Read clause.**  For every token list `toks` of the class that the independent decoder accepts and denotes `d`,
    and every `TTMLIn` view `tin` that `encoding/xml` may deliver for it (the contract): the model of `ReadFromTTML`
    succeeds, and its answer `s` passes the check of the `ttml.read` stream against `d` — as many cues as `d` has, and
    per cue both instants within 1 ns of the exact rational instants (equal when those are whole nanoseconds), the
    same style and region reference, the same styling attributes, the same lines of runs (text, style reference,
    styling attributes); the styles and the regions of `d` in identifier order with their parent / style references
    and attributes; title, copyright; the language name when the library knows the primary subtag. -/
theorem read_decode (toks : List XTok) (tin : Option TIn) (d : Spec.TTML.GDoc)
    (hd : Spec.TTML.decode (specToks toks) = some d) (hc : InClass toks = true) (hk : contractOk toks tin = true) :
    ∃ s, TTML.read tin = .ok s ∧ readOk d s = true :=
  read_main toks tin d hd hc hk

/-- **Read clause, as the `ttml.read` check evaluates it**, on the model's answer: for every document of the class
    and every view belonging to it the predicate holds (trivially when tokenising failed or the decoder rejects). -/
theorem readCheck_model (toks : List XTok) (toksOk : Bool) (tin : Option TIn)
    (hc : InClass toks = true) (hk : contractOk toks tin = true) :
    readCheck toks toksOk (TTML.read tin) = true := by
  unfold readCheck
  cases toksOk with
  | false => rfl
  | true =>
    simp only [Bool.not_true, Bool.false_eq_true, if_false]
    cases hd : Spec.TTML.decode (specToks toks) with
    | none => rfl
    | some d =>
      obtain ⟨s, hs, hok⟩ := read_main toks tin d hd hc hk
      simp only [hs, hok]

/-- **Time expressions.**  Every string the decoder reads as a time expression — `hh:mm:ss`, `hh:mm:ss.f`
    (1–3 digits), `hh:mm:ss:ff`, `n[.n]` + `h|m|s|ms|f|t` — under every frame rate and tick rate: when its numbers fit
    64 bits (`timeFits`; frame rate at most `math.MaxInt64`), `TTMLInDuration.UnmarshalText` accepts it and
    `duration()` is the exact rational instant `q` within 1 ns, never negative (equal when `q` is whole). -/
theorem time_expression (s : Str) (fr tr : Nat) (q : Nat × Nat)
    (h : Spec.TTML.denote s fr tr = some q) (hf : timeFits s = true) (hfr : fr ≤ TTMLR.int64Max) :
    ∃ d, TTML.timeExpr s = some d ∧ Spec.TTML.within1 (TTML.duration d (fr : Int) (tr : Int)) q = true :=
  denote_timeExpr s fr tr q h hf hfr

example : timeFits "00:00:01:05".toList = true ∧ timeFits "2.5s".toList = true ∧ timeFits "10t".toList = true := by decide_vector

/-- `timeFits` is needed: decoder accepts, `UnmarshalText` fails -/
theorem time_expression_needs_fit :
    (Spec.TTML.denote "99999999999999999999h".toList 0 0).isSome = true ∧ TTML.timeExpr "99999999999999999999h".toList = none :=
  timeFits_needed.1

/-- **Attributes of a start tag.**  When the decoder reads the styling attributes `sa` off an attribute list of
    the class, `encoding/xml` fills `TTMLInStyleAttributes` with fields `kv` (contract) whose view under the check —
    through `styleAttributes` and back out of the canonical attribute list — is `sa` (`zIndex` as the same integer). -/
theorem attributes (a : List XAttr) (sa : Spec.TTML.AttrL) (hfit : a.all attrFits = true)
    (h : Spec.TTML.styling a = some sa) :
    ∃ kv, inAttrs a = some kv ∧ ttmlAttrsOf (some (styleAttributes kv)) = sa := by
  obtain ⟨kv, h1, h2⟩ := styling_inAttrs a sa hfit h
  exact ⟨kv, h1, by rw [view_styleAttributes]; exact h2⟩

/-- … and the reader model's own decoding of a `span` / `br` start tag (`TTMLInItem`) finds the same fields. -/
theorem attributes_item (name : Str) (a : List XAttr) (kv : KV) (h : inAttrs a = some kv) :
    ∃ it, itemOfStart name a {} = some it ∧ it.name = name ∧ it.text = [] ∧ it.style = lastAttr a "style" ∧
      ttmlAttrsOf (some (styleAttributes it.attrs)) = ttmlAttrsOf (some (styleAttributes kv)) := by
  obtain ⟨it, h1, h2, h3, h4, h5⟩ := itemOfStart_get name a kv h
  exact ⟨it, h1, h2, h3, h4, view_get_congr _ _ h5⟩

/-- a `style` / `region` reference: absent on both sides, or the same non-empty identifier -/
theorem reference (a : List XAttr) (name : String) (r : Option Str) (hm : name.toList ∈ matchedNames)
    (hfit : a.all attrFits = true) (h : Spec.TTML.ref? a name = some r) :
    lastAttr a name = r.getD [] ∧ (∀ v, r = some v → v ≠ []) :=
  ref_lastAttr a name r hm hfit h

/-- the canonical attribute list the reader returns carries under `TTML<Field>` exactly the decoded field
    (this is `C03doc.styleAttributes_field_Statement`) -/
theorem styleAttributes_field (kv : KV) (p : String × String) (hp : p ∈ attrTable) :
    kvGet (some (styleAttributes kv)) ("TTML" ++ p.1) = TTML.get kv p.1 :=
  TTMLR.styleAttributes_field kv p hp

/-- **One paragraph, decoder side.**  From a state directly inside `<p>` (no span open), whenever the decoder runs
    to a finished document, the tokens up to the paragraph's end tag have the shape `ParaBody r its` — bare texts,
    indentation, comments, `br`, `span` with texts / comments / `br` — and the cue it appends has the lines
    `semP mkTG mkSG its`: a bare text and every segment of a span is a run, a `br` ends a line. -/
theorem paragraph_shape (T : List XTok) (base : Spec.TTML.St) (p : Spec.TTML.PState) (stF : Spec.TTML.St)
    (hs : p.span = none) (hb : p.inBr = false) (hl : base.path.length = 4) (hfit : T.all tokFits = true)
    (hrun : Spec.TTML.run (specToks T) (inP base [] p) = some stF) (hfin : stF.finished = true) :
    ∃ r R its, T = r ++ R ∧ ParaBody r its ∧ good its ∧
      Spec.TTML.run (specToks R) (closeP base p (semP mkTG mkSG its (p.done, p.cur))) = some stF :=
  (paraBody_of_run T).1 base p stF hs hb hl hfit hrun hfin

/-- **One paragraph, model side.**  On a grammatical paragraph the `<br/>` trick and `TTMLInItems.UnmarshalXML`
    return one item per bare text, `br` and `span` (its text: the segments joined by line feeds) … -/
theorem paragraph_items (sp n : Str) (a : List XAttr) (r : List XTok) (its : List PItem) (items : List InItem)
    (hn : isBr n = false) (h : ParaBody r its) (hi : itemsM its = some items) :
    decodeItems (.start sp n a :: r) true = .ok items :=
  decodeItems_para sp n a r its items hn h hi

/-- … the line splitter turns them into the lines `semP mkTM mkSM its` … -/
theorem paragraph_lines (styles : List Str) (r : List XTok) (its : List PItem) (items : List InItem)
    (h : ParaBody r its) (hi : itemsM its = some items) (hs : stylesOk styles its = true) :
    linesLoop styles items [] [] =
      some (((semP mkTM mkSM its ([], [])).1 ++ [(semP mkTM mkSM its ([], [])).2]).map mkLine) := by
  have := linesLoop_para styles its items hi hs (para_segs h) [] []
  simpa using this

/-- … and the answer only depends on the tokens up to name spaces and white-space-only character data directly
    inside `<p>` (for **all** token lists): this is what makes the re-tokenised paragraph as good as the original. -/
theorem paragraph_retokenised (sp n sp' n' : Str) (a a' : List XAttr) (r₁ r₂ : List XTok)
    (hn : isBr n = false) (hn' : isBr n' = false) (h : canon 0 r₁ = canon 0 r₂) :
    decodeItems (.start sp n a :: r₁) true = decodeItems (.start sp' n' a' :: r₂) true :=
  decodeItems_canon sp n sp' n' a a' r₁ r₂ hn hn' h

/-- **Definitions.**  `style` / `region` elements related one by one (`DefRel`: same identifier, same parent /
    style reference, same attributes under the view) with pairwise distinct identifiers: what the reader keeps
    (`lastWins`) is, in identifier order, what the decoder lists. -/
theorem definitions (gs : List Spec.TTML.GDef) (ds : List InDef) (h : All2 DefRel gs ds)
    (hn : Spec.TTML.nodup (gs.map (·.id)) = true) :
    Driver.TTMLD.defsOf (lastWins (ds.map toDef)) = Driver.TTMLD.sortG gs :=
  defs_view gs ds h hn

/-- **Metadata.** title, copyright and language of the answer are the `TTMLIn` fields … -/
theorem metadata (t : TIn) :
    (kvGet (metadataOf t) "Title").getD [] = t.title ∧ (kvGet (metadataOf t) "TTMLCopyright").getD [] = t.copyright ∧
    kvGet (metadataOf t) "Language" = languageOf t.lang :=
  ⟨metadata_title t, metadata_copyright t, metadata_language t⟩

/-- … and whenever the primary subtag of `xml:lang` is one of the five the library knows, the library's look-up of the
    first two characters finds the same name. -/
theorem language (lang n : Str) (h : Spec.TTML.languageName lang = some n) : TTML.languageOf lang = some n :=
  language_view lang n h

/-- **The document: decoder and contract in lockstep.**  If the decoder accepts a token list of the class,
    `Decode(&TTMLIn)` (contract) succeeds, and the two final states are related (`Rel`): same frame / tick rate, title,
    copyright, language, definitions related one by one, and per cue the raw `begin` / `end` texts whose denotation
    is the cue's instants, references, attributes, and a grammatical paragraph whose lines are the cue's. -/
theorem document (toks : List XTok) (d : Spec.TTML.GDoc) (h : Spec.TTML.decode (specToks toks) = some d)
    (hc : InClass toks = true) :
    ∃ stF uF, stF.doc = d ∧ finalOk d = true ∧ unmarshal toks = some (tinOf uF) ∧ Rel stF uF :=
  decode_unmarshal toks d h hc

end C03read
end Astisub
