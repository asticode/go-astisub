import Astisub.Model.SRT
import Astisub.Props.C17

/-!
# C08 — Totality: no reader or writer ever panics or hangs

Every model function of this development is a *total* Lean function: Lean's termination checker has
accepted each loop (structural recursion, explicit fuel, or a well-founded measure such as
`(chunks, pending bytes)` for the scanner), so "never loops forever" holds of the models by
construction.  This file adds what totality alone does not say:

* **step bounds** — the scanner that the three line-based readers are built on performs at most one
  token per input byte, and the STL block loop at most one block per 128 bytes: running time
  proportional to the input for the loops the package itself owns;
* **guards** — the inputs on which the pinned code panicked are answered by an error in the model
  of the repaired code, for *every* instantiation of the offending shape (not just the witness).

That the Go code itself never panics or hangs — including inside `x/net/html`, `encoding/xml`,
`regexp`, `go-astits`, whose code is not modelled — is decided by the `tot.read` / `tot.write` /
`tot.scale` streams (arbitrary bytes, structure-aware damage of valid documents of all six formats
incl. transport streams with malformed PES payloads inside a valid packet layer, every public-type
value with optional parts absent and hostile text; outcome class and a watchdog), not by a theorem.
-/

namespace Astisub
namespace C08
open Go IO List

theorem splitLine_adv_le {f : Bool} {p : List UInt8} {e : Bool} {adv : Nat} {t : List UInt8}
    (h : splitLine f p e = .tok adv t) : adv ≤ p.length := (splitLine_tok_inv h).2.2.1

/-- at end of input the scanner yields at most one token per pending byte -/
theorem drain_steps (f : Bool) (p : List UInt8) : (drain f p).length ≤ p.length := by
  induction p using drain_induct (f := f) with
  | nil => rw [drain_nil]; exact Nat.le_refl _
  | tok p adv tk hs ih =>
    rw [drain_tok hs]
    have := drop_tok_lt hs
    simp only [length_cons]
    omega

/-- the same with the too-long test of the repaired split function (`drainL`) -/
theorem drainL_steps (f : Bool) (p : List UInt8) : (drainL f p).1.length ≤ p.length := by
  induction hn : p.length using Nat.strongRecOn generalizing p with
  | _ n ih =>
    cases hl : (f && lineTooLong p) with
    | true =>
      have hf : f = true := by cases f <;> simp_all
      subst hf
      rw [drainL_long (by simpa using hl)]; simp
    | false =>
      by_cases hp : p = []
      · subst hp; rw [drainL_nil]; simp
      · obtain ⟨adv, tk, hs⟩ := splitLine_eof_tok f hp
        rw [drainL_tok hl hs]
        have hlt := drop_tok_lt hs
        have := ih _ (by subst hn; exact hlt) (p.drop adv) rfl
        simp only [List.length_cons]; omega

/-- **Linear step bound of the line scanner**: under every delivery schedule the number of tokens
    (= iterations of the reader's loop) is at most the number of bytes delivered -/
theorem scan_steps (f : Bool) (p : List UInt8) (cs : List (List UInt8)) (e : End) (k : Nat) :
    (scan f p cs e k).1.length ≤ p.length + cs.flatten.length := by
  induction p, cs, k using scan_induct (f := f) with
  | nil p k => rw [scan_nil]; simpa using drainL_steps f p
  | long p c cs k hf hl => subst hf; rw [scan_long hl]; simp
  | tok p c cs k adv tk hl hs ih =>
    rw [scan_tok hl hs]
    have := drop_tok_lt hs
    simp only [length_cons] at ih ⊢
    omega
  | more p c cs k hl hs ih1 ih2 =>
    have hd := drainL_steps f p
    refine scan_more_cases (P := fun r => r.1.length ≤ p.length + (c :: cs).flatten.length) hl hs
      (Nat.zero_le _) (fun _ => ?_) ?_ (fun _ => ?_)
    all_goals
      simp only [flatten_cons, length_append] at *
      omega

/-- the STL block loop reads at most one block per 128 bytes of input -/
theorem tti_steps (e : End) (fuel : Nat) (cs : List (List UInt8)) :
    (ttiBlocks e fuel cs).1.length * 128 ≤ cs.flatten.length := by
  induction fuel generalizing cs with
  | zero => simp [ttiBlocks]
  | succ fuel ih =>
    unfold ttiBlocks
    simp only
    split
    · rename_i h128
      have hspec := C17.readFull_spec 128 cs
      have := ih (readFull 128 cs).2
      rw [hspec.2, List.length_drop] at this
      have hl : (readFull 128 cs).1.length ≤ cs.flatten.length := by rw [hspec.1, List.length_take]; omega
      simp only [List.length_cons]
      omega
    · split <;> (try split) <;> simp

/-- D4: a timing line with nothing after `-->` is an error, whatever precedes it and whatever the state -/
theorem srt_nothing_after_arrow (st : SRT.St) (raw left : Str) (rest : List Str)
    (h1 : contains SRT.arrow (if st.lineNum + 1 = 1 then trimPrefix SRT.bom (trimSpace raw) else trimSpace raw) = true)
    (h2 : splitOn SRT.arrow (if st.lineNum + 1 = 1 then trimPrefix SRT.bom (trimSpace raw) else trimSpace raw) = left :: [] :: rest) :
    (match SRT.step st (some raw) with | .err => true | _ => false) = true := by
  unfold SRT.step
  simp only [h1, ↓reduceIte, h2]
  simp [fields, fieldsAux]

/-- a line that is not valid UTF-8 is an error, never a crash -/
theorem srt_invalid_utf8 (st : SRT.St) : (match SRT.step st none with | .err => true | _ => false) = true := rfl

/-- the SRT writer refuses an empty list and otherwise always produces bytes (nil styles, nil
    metadata, any text): it has no failing path -/
theorem srt_write_total (s : Subs) : s.items ≠ [] → (SRT.write s).isSome := by
  intro h
  unfold SRT.write
  rw [if_neg (by rwa [List.isEmpty_iff])]
  rfl

/-- `IO.lineReader` turns every scanner outcome into a value or an error -/
theorem reader_answers {α : Type} (parse : List (List UInt8) → Outcome α) (r : List (List UInt8) × Option ScanErr) :
    (∃ v, lineReader true parse r = .ok v) ∨ lineReader true parse r = .err := by
  unfold lineReader
  cases parse r.1 with
  | err => exact Or.inr rfl
  | ok v =>
    simp only
    split
    · exact Or.inr rfl
    · exact Or.inl ⟨v, rfl⟩

end C08
end Astisub
