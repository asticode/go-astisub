import Astisub.Lemmas.OPSInverseOrder
import Astisub.Props.C10
import Astisub.Props.C11

/-!
# C10 / C11 / C12 — uniqueness of the stable sort, the cut in closed form, the inverse law

* **C12** `C12.stable_sort_unique`: a stable sort of a duplicate-free list is unique, so
  `Ops.order` (= `List.mergeSort`) describes `sort.SliceStable` whatever algorithm Go uses.
* **C10** `C10.cut_eq_cutSpec`, `C10.cut_length`, `C10.fragment_length_closed`, `C10.fragment_ok`:
  the inner loop of `Fragment` equals the executable specification; closed formula for the count.
* **C11** `C11.unfragment_fragment`, `C11.unfragment_fragment_ordered`: `Unfragment` undoes `Fragment`.

The theorems stand in the namespace of the property they belong to (`C12`, `C10`, `C11`), not in one of
this file's own.  All statements are about the functions of `Model/Ops.lean`, for every input satisfying the
hypotheses written in the statement.
-/

namespace Astisub

/-! ## C12 — uniqueness of a stable sort -/

namespace C12
open Ops List

/-- **A stable sort is unique.**  Let `xs` be a list of pairwise different cues and `ys` any list
    that (1) has exactly the cues of `xs`, (2) is ordered by start, (3) keeps the relative order
    that `xs` gives to any two cues with the same start.  Then `ys` is `Ops.order xs`.
    Hence every correct `sort.SliceStable` returns the list the model returns. -/
theorem stable_sort_unique (xs ys : List Item) (hn : xs.Nodup) (hp : ys ~ xs)
    (hs : ys.Pairwise (fun a b => a.startAt ≤ b.startAt))
    (hst : ∀ a b : Item, a.startAt = b.startAt → [a, b] <+ xs → [a, b] <+ ys) :
    ys = order xs :=
  OPS.stableSort_unique (key := (·.startAt)) hn ⟨hp, hs, hst⟩
    ⟨order_perm xs, order_sorted xs, fun a b hab h => order_stable xs a b (by omega) h⟩

/-- … and `Ops.order xs` itself satisfies (1)–(3), so the three conditions characterise it -/
theorem order_is_stable_sort (xs : List Item) :
    order xs ~ xs ∧ (order xs).Pairwise (fun a b => a.startAt ≤ b.startAt) ∧
      ∀ a b : Item, a.startAt = b.startAt → [a, b] <+ xs → [a, b] <+ order xs :=
  ⟨order_perm xs, order_sorted xs, fun a b h => order_stable xs a b (by omega)⟩

/-- non-vacuity: a duplicate-free list with equal starts -/
example : ([⟨1, 5, 9, [["a"]], 0⟩, ⟨2, 0, 3, [["b"]], 0⟩, ⟨3, 5, 7, [["c"]], 0⟩] : List Item).Nodup := by
  decide +kernel

/-- Why `Nodup` is assumed: with repeated (indistinguishable) cues the pairwise notion of
    stability no longer pins the list down.  For `xs = [a, b, a, b]` (equal starts) the list
    `[b, a, b, a]` satisfies (1)–(3) but is not `order xs = xs`. -/
example : ∃ xs ys : List Item, ys ~ xs ∧ ys.Pairwise (fun a b => a.startAt ≤ b.startAt) ∧
    (∀ a b : Item, a.startAt = b.startAt → [a, b] <+ xs → [a, b] <+ ys) ∧ ys ≠ order xs := by
  let a : Item := ⟨1, 0, 1, [], 0⟩
  let b : Item := ⟨2, 0, 1, [], 0⟩
  refine ⟨[a, b, a, b], [b, a, b, a], by decide +kernel, by decide +kernel, ?_, ?_⟩
  · intro x y _ h
    have hm := OPS.pair_sublist_mem h
    have hx : x = a ∨ x = b := by have := hm.1; simp at this; rcases this with h | h | h | h <;> simp [h]
    have hy : y = a ∨ y = b := by have := hm.2; simp at this; rcases this with h | h | h | h <;> simp [h]
    rcases hx with rfl | rfl <;> rcases hy with rfl | rfl <;> decide
  · rw [order_of_sorted _ (by decide)]
    decide

end C12

/-! ## C10 — the pieces of one cue, in closed form -/

namespace C10
open Ops Spec List

/-- `Spec.multiplesIn f s e` is the list of the multiples of `f` strictly between `s` and `e` … -/
theorem mem_multiplesIn (f : Int) (hf : 0 < f) (s e m : Int) :
    m ∈ multiplesIn f s e ↔ isMultiple f m ∧ s < m ∧ m < e := OPS.mem_multiplesIn f hf s e m

/-- … each exactly once, ascending; so its length is the number of such multiples -/
theorem multiplesIn_increasing (f : Int) (hf : 0 < f) (s e : Int) :
    (multiplesIn f s e).Pairwise (· < ·) := OPS.multiplesIn_increasing f hf s e

/-- **The inner loop of `Fragment` equals its executable specification**: for every cue (also
    empty or inverted ones) and every period `f > 0`, the loop model `Ops.cut` returns exactly
    the list `Spec.cutSpec` prescribes — the pieces `[s,b₁),[b₁,b₂),…,[b_k,e)` for the multiples
    `b₁<…<b_k` of `f` strictly inside the cue, the original (its identity) last, copies before. -/
theorem cut_eq_cutSpec (f : Int) (hf : 0 < f) (it : Item) : cut f it = cutSpec f it :=
  OPS.cut_eq_cutSpec f hf it

/-- **Count per cue**: one piece plus one per multiple of `f` strictly inside the cue. -/
theorem cut_length (f : Int) (hf : 0 < f) (it : Item) :
    (cut f it).length = 1 + (multiplesIn f it.startAt it.endAt).length := by
  rw [OPS.cut_eq_cutAt f hf, OPS.cutAt_length]

/-- **Count for the list** (closed formula): the number of cues after `Fragment` is the number of
    cues before plus the number of (cue, multiple of `f` strictly inside that cue) pairs. -/
theorem fragment_length_closed (f : Int) (hf : 0 < f) (xs : List Item) :
    (fragment f xs).length =
      xs.length + (xs.map (fun it => (multiplesIn f it.startAt it.endAt).length)).sum := by
  rw [fragment_length f hf]
  have hfun : (fun it => (cut f it).length) =
      (fun it => 1 + (multiplesIn f it.startAt it.endAt).length) := funext (cut_length f hf)
  rw [hfun]
  induction xs with
  | nil => rfl
  | cons c t ih =>
    simp only [map_cons, sum_cons, length_cons]
    omega

theorem sortedByStart_iff (ys : List Item) :
    sortedByStart ys = true ↔ ys.Pairwise (fun a b => a.startAt ≤ b.startAt) := by
  induction ys with
  | nil => simp [sortedByStart]
  | cons y rest ih =>
    simp only [sortedByStart, Bool.and_eq_true, all_eq_true, decide_eq_true_eq, pairwise_cons, ih]

/-- `Fragment` returns a rearrangement of the specified pieces of every cue … -/
theorem fragment_perm_spec (f : Int) (hf : 0 < f) (xs : List Item) :
    fragment f xs ~ xs.flatMap (cutSpec f) := by
  have h : xs.flatMap (cut f) = xs.flatMap (cutSpec f) :=
    congrArg (fun g => xs.flatMap g) (funext (cut_eq_cutSpec f hf))
  rw [← h]
  exact fragment_perm f hf xs

/-- … so the executable C10 predicate `Spec.fragmentOk`, which the harness evaluates on the real
    implementation's output, holds of the model's output for every input list and every `f > 0`
    (ordered by start, and exactly the multiset of specified pieces). -/
theorem fragment_ok (f : Int) (hf : 0 < f) (xs : List Item) : fragmentOk f xs (fragment f xs) = true := by
  unfold fragmentOk
  rw [Bool.and_eq_true, sortedByStart_iff, isPerm_iff]
  exact ⟨fragment_ordered f hf xs, fragment_perm_spec f hf xs⟩

end C10

/-! ## C11 — `Unfragment` undoes `Fragment` -/

namespace C11
open Ops Spec List

/-- what is compared: start, end, text and content (lines and payload) of a cue — not its identity
    (`Fragment` returns fresh copies for all pieces but the last) -/
abbrev cueKey (it : Item) : Int × Int × String × (List (List String) × Nat) := OPS.cueKey it

/-- the hypotheses of the inverse law (decidable): ordered by start, every cue has positive
    length, no two cues at different positions have the same text and touching intervals -/
def InverseHyp (xs : List Item) : Prop :=
  xs.Pairwise (fun a b => a.startAt ≤ b.startAt) ∧ (∀ it ∈ xs, it.startAt < it.endAt) ∧
    xs.Pairwise (fun a b => ¬ Touch a b)

instance (xs : List Item) : Decidable (InverseHyp xs) := by unfold InverseHyp; infer_instance

/-- non-vacuity: overlapping cues with different texts, two cues with the same start, the same
    text twice separated by a gap of one unit, cues that `Fragment 1000` cuts into 3, 2, 1, 4 pieces -/
example : InverseHyp [⟨1, 0, 2500, [["a"]], 7⟩, ⟨2, 2000, 4000, [["b"]], 0⟩, ⟨3, 2000, 2100, [["c"]], 0⟩,
    ⟨4, 2501, 6000, [["a"]], 1⟩] := by
  decide +kernel

/-- the same hypothesis with positions, as in the property text -/
theorem pairwise_not_touch_iff (xs : List Item) :
    xs.Pairwise (fun a b => ¬ Touch a b) ↔
      ∀ (i j : Nat) (hi : i < xs.length) (hj : j < xs.length), i < j → ¬ Touch xs[i] xs[j] :=
  pairwise_iff_getElem

/-- The multiset form does not need `xs` to be ordered. -/
theorem unfragment_fragment_unordered (f : Int) (hf : 0 < f) (xs : List Item)
    (hpos : ∀ it ∈ xs, it.startAt < it.endAt) (hnt : xs.Pairwise (fun a b => ¬ Touch a b)) :
    (unfragment (fragment f xs)).map cueKey ~ xs.map cueKey := by
  -- `Fragment` has ordered its result already: the `Order` at the head of `Unfragment` changes nothing
  rw [unfragment_eq, show order (fragment f xs) = fragment f xs by rw [fragment_eq f hf, C12.order_idem]]
  exact OPS.unfragLoop_pieces f hf _ xs ⟨hpos, hnt⟩ (C10.fragment_ordered f hf xs) (C10.fragment_perm f hf xs)

/-- **Inverse law.**  Let `f > 0` and let `xs` be ordered by start, with every cue of positive
    length and no two cues (at different positions) with the same text touching.  Then
    `Unfragment (Fragment f xs)` has exactly the cues of `xs` — same start, end, text, content,
    with multiplicity — and is ordered by start. -/
theorem unfragment_fragment (f : Int) (hf : 0 < f) (xs : List Item) (h : InverseHyp xs) :
    (unfragment (fragment f xs)).map cueKey ~ xs.map cueKey ∧
      (unfragment (fragment f xs)).Pairwise (fun a b => a.startAt ≤ b.startAt) :=
  ⟨unfragment_fragment_unordered f hf xs h.2.1 h.2.2, ordered _⟩

/-- **Inverse law, with order.**  Under the same hypotheses the cues even come back in the same
    order (cues with equal starts included): position by position the result has the start, end,
    text and content of `xs`. -/
theorem unfragment_fragment_ordered (f : Int) (hf : 0 < f) (xs : List Item) (h : InverseHyp xs) :
    (unfragment (fragment f xs)).map cueKey = xs.map cueKey := by
  open OPS in
  have hs := h.1
  have hsep : Separated xs := ⟨h.2.1, h.2.2⟩
  have hperm := unfragment_fragment_unordered f hf xs h.2.1 h.2.2
  rw [unfragment_eq, show order (fragment f xs) = fragment f xs by rw [fragment_eq f hf, C12.order_idem]] at hperm ⊢
  have hLn : ((fragment f xs).map stem).Nodup :=
    (((C10.fragment_perm f hf xs).map stem).nodup_iff).mpr (pieces_stem_nodup f hf xs hsep)
  -- the result's stems are a sub-sequence of the piece list's stems
  obtain ⟨sub, hsub, hext⟩ := unfragLoop_ext (fragment f xs)
  have h1 : (unfragLoop (fragment f xs)).map stem <+ (fragment f xs).map stem := by
    rw [← All2.map_eq stem stem hext (fun a b h => h.stem.symm)]
    exact hsub.map stem
  -- so are the stems of `xs` (through the first pieces, by stability of `Order`)
  have h2 : xs.map stem <+ (fragment f xs).map stem := by
    rw [← firsts_stem f hf xs, fragment_eq f hf]
    exact (C12.order_stable_sublist _ _ (firsts_sorted f hf xs hs) (firsts_sublist f hf xs)).map stem
  refine eq_of_perm_of_map_sublist stemOf hLn ?_ ?_ hperm
  · rw [map_stemOf_cueKey]; exact h1
  · rw [map_stemOf_cueKey]; exact h2

/-- Consequence: the number of cues is restored. -/
theorem unfragment_fragment_length (f : Int) (hf : 0 < f) (xs : List Item) (h : InverseHyp xs) :
    (unfragment (fragment f xs)).length = xs.length := by
  have := congrArg length (unfragment_fragment_ordered f hf xs h)
  simpa using this

/-- The third hypothesis is also necessary: whenever `Unfragment` of *any* list returns the cues
    of `xs` (as a multiset of start, end, text, content), no two cues of `xs` with the same text
    touch — because `Unfragment` never leaves such a pair (`C11.no_touch`). -/
theorem inverse_only_if_not_touching (xs ys : List Item)
    (h : (unfragment ys).map cueKey ~ xs.map cueKey) : xs.Pairwise (fun a b => ¬ Touch a b) := by
  let TouchK (k1 k2 : Int × Int × String × (List (List String) × Nat)) : Prop :=
    k1.2.2.1 = k2.2.2.1 ∧ k1.1 ≤ k2.2.1 ∧ k2.1 ≤ k1.2.1
  have h1 : ((unfragment ys).map cueKey).Pairwise (fun a b => ¬ TouchK a b) :=
    pairwise_map.mpr (no_touch ys)
  have hsymm : ∀ {a b}, ¬ TouchK a b → ¬ TouchK b a := by
    intro a b hn ⟨e1, e2, e3⟩
    exact hn ⟨e1.symm, e3, e2⟩
  exact pairwise_map.mp ((Perm.pairwise_iff hsymm h).mp h1)

end C11
end Astisub
