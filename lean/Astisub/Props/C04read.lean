import Astisub.Lemmas.SSARead2Final

/-!
# C04 (read clause) — SSA / ASS: the reader model agrees with the independent decoder on well-formed documents

The read clause of C04 says: *reading any well-formed document returns exactly what it denotes*.  The independent
decoder `Spec.SSA.decode` (written from the format description) defines both "well-formed" (`decode text = some g`)
and "denotes" (`g`).  The `ssa.read` stream evaluates, on every generated case, `Driver.SSAD.readOk`:
`decodeLine doc = some text → decode text = some g → view (answer) == some g`.  This file proves that predicate for
the *model's* answer, for **all** documents of an explicit decidable class — not only for written ones.

**Finding.**  The statement is false for the whole class of the decoder (`read_Statement_false`): there are three
families of documents the decoder accepts and on which the model of `ReadFromSSAWithOptions` provably answers
something else (each with a concrete document, checked by the kernel):

1. `cexBigInt`, `cexShadowedBig` — an integer of more than 64 bits (script info, style column, `Layer`, margins, hour
   field): the decoder reads arbitrary-length digit strings, `strconv.Atoi` reports a range error.  This includes a
   script-info line that a later line of the same key overrides: the library parses every line.
2. `cexBom` — a byte-order mark followed by blanks before the first section header: the library trims the line *before*
   it removes the mark (the header then starts with a blank and is not recognised), the decoder after.
3. `cexDotI` — `İ` (U+0130) in a section name (`[Scrİpt Info]`): `strings.ToLower` maps it to ASCII `i` (likewise
   `K` U+212A to `k`), so the library enters the section; the decoder lower-cases ASCII only and skips it as unknown.

(An *unparsable* numeric script-info value overridden by a later line, e.g. `PlayResX: abc` then `PlayResX: 5`, is not in
the decoder's class: `Spec.SSA.infoOf` rejects a document unless every occurrence of a numeric key is well-formed;
`cexShadowedOld` records that the decoder answers `none` on it.)

`InClass text` (decidable, `Lemmas/SSARead2Defs.lean`) excludes exactly these: `bomOk`, `headersOk`, `infoOk`
(every script-info line of an integer key carries a 64-bit integer, overridden or not — that it is an integer at all
is the decoder's business), `ints64` (the integers of the decoded document, hour fields included, fit 64 bits).
Under it the clause is proved in full:

* `read_view`       — characters: `∃ s, SSA.read (lines of text) = .ok s ∧ view s = some g`;
* `readBytes_view`  — bytes, exactly the model side of the `ssa.read` stream (`Driver.SSAD.readBytes`);
* `readOk_model`    — `Driver.SSAD.readOk` with the model's answer in place of the implementation's.

and layer by layer (each for all inputs of its own class): bytes → lines (`bytes_to_lines`), raw lines → decoder's
lines incl. the byte-order mark (`lines_clean`), section headers (`section_header`), body lines (`body_line`), grouping
(`grouping`), scalar cells (`cell_int`, `cell_bool`, `cell_colour`, `cell_float`, `cell_time`), `Key: value`
(`key_value`), a `Style:` row under any accepted Format (`style_row`), a `Dialogue:` row under any accepted Format
(`dialogue_row`), event text (`event_text`: `\N`/`\n` splitting and `{…}` blocks, for every text the decoder accepts),
script info (`script_info_line`, `script_info_view`), whole sections (`styles_section`, `events_section`,
`info_section`, `unknown_section`).

Nothing in this file is left as an unproved statement except `read_Statement` itself, which is *refuted*.
`C04doc2.decode_write_Statement` (the decoder accepts what the writer produces, and the view of what is read back is
the same denotation): its second conjunct is derived here from its first (`decode_write_second_half`, for written
texts without CR that are in `InClass`); the first conjunct (`decode (write s) = denote s`) is refuted as stated and
proved for an explicit class of cue lists in `Props/C04w2.lean`.
-/

namespace Astisub
namespace C04read
open Go SSA SSAR
open Spec.SSA (decode view GDoc)

/-- The read clause without a class (refuted: `read_Statement_false`): for every text the decoder accepts, the reader
    model, given the lines the scanner cuts the text into, succeeds and the view of its answer is what the decoder
    says the text denotes. -/
def read_Statement : Prop :=
  ∀ (text : Str) (g : GDoc), decode text = some g →
    ∃ s, SSA.read (Spec.SSA.splitLines text []) = .ok s ∧ view s = some g

/-- `Driver.SSAD.readOk` with the model's answer `r` in place of the implementation's printed answer -/
def readOkModel (doc : List UInt8) (r : Res Subs) : Bool :=
  match Driver.decodeLine doc with
  | none => true
  | some text =>
    match decode text with
    | none => true
    | some g =>
      match r with
      | .ok s => view s == some g
      | _ => false

/-- an unparsable `PlayResX` overridden by a later line (not in the decoder's class) -/
def cexShadowedOld : Str := "[Script Info]\nPlayResX: abc\nPlayResX: 5\n".toList
/-- a `PlayResX` beyond 64 bits overridden by a later line -/
def cexShadowedBig : Str := "[Script Info]\nPlayResX: 99999999999999999999\nPlayResX: 5\n".toList
/-- an integer beyond 64 bits -/
def cexBigInt : Str := "[Script Info]\nPlayResX: 99999999999999999999\n".toList
/-- a byte-order mark followed by blanks -/
def cexBom : Str := "﻿  [Script Info]\nTitle: x\n".toList
/-- `İ` in a section name -/
def cexDotI : Str := "[Scrİpt Info]\nTitle: x\n".toList

/-- the view of the model's answer, `none` when the model fails -/
def modelView (text : Str) : Option GDoc :=
  match SSA.read (Spec.SSA.splitLines text []) with
  | .ok s => view s
  | _ => none

/-- script info: a byte-order mark, a comment, CR LF line ends, a string and an integer key, an unknown section -/
def exampleInfo : Str := "﻿[Script Info]\r\n; c\r\nTitle: t\r\nPlayResX: 64\r\n\r\n[Fonts]\r\nx: y\r\n".toList

/-- styles: a hexadecimal and a decimal colour, the `TertiaryColour` alias, a boolean -/
def exampleStyles : Str := "[V4 Styles]\nFormat: Name, PrimaryColour, TertiaryColour, Bold\nStyle: D,&Hff,255,-1\n".toList

/-- events: permuted / missing columns, a `Comment:` event, a `*`-prefixed style reference, an override block, a line
    break and a text containing a comma -/
def exampleEvents : Str :=
  "[Events]\nFormat: Start, Style, Text\nComment: x\nDialogue: 0:00:01.00,*D,a{\\i1}b\\Nc, d\n".toList

set_option maxRecDepth 100000 in
/-- what evaluation says of the counterexamples and of the three examples of the class -/
theorem evaluated :
    ((decode cexShadowedBig).isSome = true ∧ SSA.read (Spec.SSA.splitLines cexShadowedBig []) = .err ∧
      (decode cexBigInt).isSome = true ∧ SSA.read (Spec.SSA.splitLines cexBigInt []) = .err) ∧
    ((decode cexBom).isSome = true ∧ (modelView cexBom).isSome = true ∧ modelView cexBom ≠ decode cexBom) ∧
    ((decode cexDotI).isSome = true ∧ (modelView cexDotI).isSome = true ∧ modelView cexDotI ≠ decode cexDotI) ∧
    (InClass cexShadowedBig = false ∧ InClass cexBigInt = false ∧ InClass cexBom = false ∧ InClass cexDotI = false ∧
      bomOk cexBom = false ∧ headersOk (specLines cexDotI) = false ∧ decode cexShadowedOld = none) ∧
    (InClass exampleInfo = true ∧
      ((decode exampleInfo).map fun g => (g.comments, g.info.length)) = some (["c".toList], 2)) ∧
    (InClass exampleStyles = true ∧
      ((decode exampleStyles).map fun g => g.styles.map (·.attrs.length)) = some [3]) ∧
    (InClass exampleEvents = true ∧
      ((decode exampleEvents).map fun g => g.events.map (fun e => (e.startCs, e.lines.map (·.length)))) =
        some [(100, [2, 1])]) := by
  unfold cexShadowedBig cexBigInt cexBom cexDotI cexShadowedOld exampleInfo exampleStyles exampleEvents
  decide_vector

/-- **Finding (1).** The decoder accepts both documents; the reader model answers an error. -/
theorem cex_errors :
    (decode cexShadowedBig).isSome = true ∧ SSA.read (Spec.SSA.splitLines cexShadowedBig []) = .err ∧
    (decode cexBigInt).isSome = true ∧ SSA.read (Spec.SSA.splitLines cexBigInt []) = .err :=
  let ⟨h, _, _, _, _, _, _⟩ := evaluated; h

/-- **Finding (2).** The decoder accepts the document; the reader model succeeds with another denotation (the
    title is lost). -/
theorem cex_bom_differs :
    (decode cexBom).isSome = true ∧ (modelView cexBom).isSome = true ∧ modelView cexBom ≠ decode cexBom :=
  let ⟨_, h, _, _, _, _, _⟩ := evaluated; h

/-- **Finding (3).** The decoder accepts the document; the reader model succeeds with another denotation (an unknown
    section is read as script info). -/
theorem cex_dotI_differs :
    (decode cexDotI).isSome = true ∧ (modelView cexDotI).isSome = true ∧ modelView cexDotI ≠ decode cexDotI :=
  let ⟨_, _, h, _, _, _, _⟩ := evaluated; h

/-- each of the documents is outside `InClass`, the last two for their own clause; `cexShadowedOld` is
    outside the decoder's class -/
theorem cex_outside_class :
    InClass cexShadowedBig = false ∧ InClass cexBigInt = false ∧ InClass cexBom = false ∧ InClass cexDotI = false ∧
    bomOk cexBom = false ∧ headersOk (specLines cexDotI) = false ∧ decode cexShadowedOld = none :=
  let ⟨_, _, _, h, _, _, _⟩ := evaluated; h

/-- the read clause fails on `cexShadowedBig`: the decoder accepts it, the reader model answers an error -/
theorem read_Statement_false : ¬ read_Statement := by
  intro h
  have hd := cex_errors.1
  cases hg : decode cexShadowedBig with
  | none => rw [hg] at hd; cases hd
  | some g =>
    obtain ⟨s, hs, _⟩ := h cexShadowedBig g hg
    rw [cex_errors.2.1] at hs
    cases hs

/- non-vacuity: the examples are in the class and the decoder reads them as expected -/

set_option maxRecDepth 100000 in
example : InClass exampleInfo = true ∧
    ((decode exampleInfo).map fun g => (g.comments, g.info.length)) = some (["c".toList], 2) :=
  let ⟨_, _, _, _, h, _, _⟩ := evaluated; h

set_option maxRecDepth 100000 in
example : InClass exampleStyles = true ∧
    ((decode exampleStyles).map fun g => g.styles.map (·.attrs.length)) = some [3] :=
  let ⟨_, _, _, _, _, h, _⟩ := evaluated; h

set_option maxRecDepth 100000 in
example : InClass exampleEvents = true ∧
    ((decode exampleEvents).map fun g => g.events.map (fun e => (e.startCs, e.lines.map (·.length)))) =
      some [(100, [2, 1])] :=
  let ⟨_, _, _, _, _, _, h⟩ := evaluated; h

/-- the small predicates: 64-bit integers, hour fields, plain section names, a body line (`BodyLine`: not a header,
    not empty) and a header, admitted script-info lines -/
example : In64 (-9223372036854775808) = true ∧ In64 9223372036854775808 = false ∧
    hoursOk 359999 = true ∧ hoursOk (9223372036854775808 * 360000) = false ∧
    plainName "[V4+ Styles]".toList = true ∧ plainName "[Scrİpt Info]".toList = false ∧
    Spec.SSA.secKind "Title: x".toList = none ∧ (Spec.SSA.secKind "[Events]".toList).isSome = true ∧
    infoLineOk "PlayResX: 640".toList = true ∧ infoLineOk "PlayResX: 99999999999999999999".toList = false ∧
    lineSyn "Timer: 100,0000".toList = true ∧ lineSyn "Timer: fast".toList = false := by
  decide_vector

/-- **Read clause (characters).** For every text the decoder accepts as `g` and that is in the class, the reader
    model — given the lines the scanner cuts the text into (LF, CR LF, lone CR) — succeeds, and the driver's view of
    its answer (comments, script info, styles sorted by name, events with resolved style references, lines, runs)
    is exactly `g`. -/
theorem read_view (text : Str) (g : GDoc) (hd : decode text = some g) (hc : InClass text = true) :
    ∃ s, SSA.read (Spec.SSA.splitLines text []) = .ok s ∧ view s = some g :=
  SSAR.read_view text g hd hc

/-- **Read clause (bytes), as the `ssa.read` stream computes the model's side.** If the bytes are valid UTF-8 for
    `text`, the decoder accepts `text` as `g`, `text` is in the class, and the driver's model of `ReadFromSSA`
    (`readBytes`: scanner model on the bytes, per-line UTF-8 decoding, `SSA.read`, wrap-around guard) is defined
    (`some r`, not "unmodelled"), then `r` is a success and its view is `g`. -/
theorem readBytes_view (doc : List UInt8) (text : Str) (g : GDoc) (hdl : Driver.decodeLine doc = some text)
    (hd : decode text = some g) (hc : InClass text = true) (r : Res Subs) (hr : Driver.SSAD.readBytes doc = some r) :
    ∃ s, r = .ok s ∧ view s = some g :=
  SSAR.readBytes_view doc text g hdl hd hc r hr

/-- **The driver's predicate holds for the model's answer.** `readOk` with the model's answer substituted is `true`
    on every input whose text (if the bytes are UTF-8 at all) is in the class — including all the inputs on which
    the predicate is trivially true (not UTF-8, not accepted by the decoder). -/
theorem readOk_model (doc : List UInt8) (r : Res Subs) (hr : Driver.SSAD.readBytes doc = some r)
    (hc : ∀ text, Driver.decodeLine doc = some text → InClass text = true) : readOkModel doc r = true := by
  unfold readOkModel
  cases hdl : Driver.decodeLine doc with
  | none => simp only
  | some text =>
    simp only
    cases hd : decode text with
    | none => simp only
    | some g =>
      obtain ⟨s, hs, hv⟩ := readBytes_view doc text g hdl hd (hc text hdl) r hr
      subst hs
      simp only [hv, beq_self_eq_true]

/-- **Bytes → lines.** Cutting the bytes of a UTF-8 text with the scanner model and decoding each line gives the lines
    the decoder's own splitter cuts the text into. -/
theorem bytes_to_lines (doc : List UInt8) (text : Str) (h : Driver.decodeLine doc = some text) :
    Driver.docLines doc = (Spec.SSA.splitLines text []).map some :=
  docLines_of_decode doc text h

/-- **Raw lines → the decoder's lines.** Trimming, skipping blank lines and removing the byte-order mark the way the
    loop of `ReadFromSSAWithOptions` does ends like the clean loop (`runL`, no trimming, no mark) over the decoder's
    lines, when a mark is not followed by blanks and the first non-blank line starts with `[`. -/
theorem lines_clean (text : Str) (hb : bomOk text = true)
    (hfirst : ∀ l ls, specLines text = l :: ls → l.head? = some '[') :
    finish (run {} (Spec.SSA.splitLines text [])) = finish (runL {} (specLines text)) :=
  finish_run_lines text hb hfirst

/-- **Section header.** On a line the decoder classifies as a header of kind `k` (no `İ`/`K` in it) the loop enters
    the section of that kind (and forgets the Format of the previous styles / events section). -/
theorem section_header (st : St) (l : Str) (k : Spec.SSA.SecKind) (hk : Spec.SSA.secKind l = some k)
    (hp : plainName l = true) : stepL st l = .ok (enter k st) :=
  stepL_header st l k hk hp

/-- **Body line.** On any other non-empty line the loop acts on the decoder's classification of it: nothing in an
    unknown section; a comment is collected; a line without `:` (or starting with `:`) is skipped; a `Key: value` line
    reaches the section's handler with the decoder's key and value. -/
theorem body_line (st : St) (l : Str) (hl : Spec.SSA.secKind l = none) (hne : l ≠ []) (hf : st.first = false) :
    stepL st l =
      if st.sec = .unknown then .ok st else
      match Spec.SSA.classify l with
      | .comment c => .ok { st with info := { st.info with comments := st.info.comments ++ [c] } }
      | .junk => .ok st
      | .kv k v => if l.head? = some ':' then .ok st else kvStep st k v :=
  stepL_body st l hl hne hf

/-- **Grouping.** What `Spec.SSA.sections` returns is the list of lines cut into header + body, header + body, … -/
theorem grouping (lines : List Str) (secs : List (Spec.SSA.SecKind × List Str)) (h : Spec.SSA.sections lines = some secs) :
    Grouped lines secs :=
  sections_grouped lines secs h

/-- **Integer cells**: what the decoder reads as `v`, `strconv.Atoi` reads as `v` when `v` fits 64 bits. -/
theorem cell_int {s : Str} {v : Int} (h : Spec.SSA.intOf s = some v) (hr : In64 v = true) : atoi s = some v :=
  atoi_of_intOf h hr

/-- **Boolean cells**: `-1`, `1` are true and `0` is false for both. -/
theorem cell_bool {s : Str} {b : Bool} (h : Spec.SSA.boolOf s = some b) : decide (atoiLoose s ≠ 0) = b :=
  atoiLoose_of_boolOf h

/-- **Colour cells**, `&H` + up to 8 hexadecimal digits or a decimal 32-bit integer (signed or unsigned). -/
theorem cell_colour {s : Str} {c : Nat} (h : Spec.SSA.colourOf s = some c) : parseColour s = some c ∧ c < 4294967296 :=
  parseColour_of_colourOf h

/-- **Float cells**: a plain decimal is read as the same double (`strconv.ParseFloat` model = nearest double). -/
theorem cell_float {s : Str} {b : Nat} (h : Spec.SSA.floatOf s = some b) : parseFloat s = .ok b :=
  parseFloat_of_floatOf h

/-- **Time cells** `H:MM:SS.cc` (any number of hour digits fitting 64 bits): same instant, in nanoseconds. -/
theorem cell_time {s : Str} {cs : Int} (h : Spec.SSA.timeOf s = some cs) (hr : hoursOk cs = true) :
    Duration.parseSSA s = some (cs * 10000000) ∧ 0 ≤ cs :=
  parseSSA_of_timeOf h hr

/-- **`Key: value`**: the decoder's splitter and `strings.Split(line, ":")` + `Join` agree on every line. -/
theorem key_value (line : Str) :
    Spec.SSA.keyValue line =
      if (splitC ':' line).length < 2 then none
      else some (trimSpace ((splitC ':' line).headD []), trimSpace (join [':'] (splitC ':' line).tail)) :=
  keyValue_split line

/-- **Style row.** Under any Format the decoder accepts (any permutation / subset of the columns, `TertiaryColour`
    as an alias), a row the decoder reads as `gs` (64-bit integers) is read by `newSSAStyleFromString` as a style whose
    view is `gs`: same name, same attributes with the same typed values, empty cells unset. -/
theorem style_row (format : List Str) (v : Str) (gs : Spec.SSA.GStyle)
    (hnd : Spec.SSA.nodup (format.map Spec.SSA.normCol) = true)
    (hall : (format.map Spec.SSA.normCol).all (fun c => c = "Name" || (Spec.SSA.styleTable.lookup c).isSome) = true)
    (hrow : specStyleRow (format.map Spec.SSA.normCol) v = some gs) (h64 : attrs64 gs.attrs = true) :
    ∃ ms, styleRow v format = .ok ms ∧ styleView ms = some gs :=
  styleRow_spec format v gs hnd hrow h64

/-- **Dialogue row.** Under any Format the decoder accepts, a row the decoder reads as `r` (64-bit integers) is read
    by `newSSAEventFromString`, and for every set of style names (none starting with `*`) the view of the item
    `ssaEvent.item` builds is the decoder's event with its style reference resolved (`*Default` and `*`-prefixed
    names included), the last column absorbing the commas. -/
theorem dialogue_row (format : List Str) (v : Str) (r : Spec.SSA.REvent)
    (hnd : Spec.SSA.nodup (format.map String.ofList) = true)
    (hall : (format.map String.ofList).all (fun c => Spec.SSA.eventCols.contains c) = true)
    (h : Spec.SSA.eventOf (format.map String.ofList) v = some r) (h64 : event64 r.ev = true) :
    ∃ e, eventRow "Dialogue".toList v format = some e ∧ e.category = "Dialogue".toList ∧
      ∀ names : List Str, (∀ n ∈ names, n.head? ≠ some '*') →
        Spec.SSA.eventView (eventItem names e) = some { r.ev with style := Spec.SSA.resolve names r.styleName } :=
  eventRow_spec format v r hnd h h64

/-- **Event text.** For every text the decoder accepts (no stray braces, no empty block): the library's
    `ReplaceAll(\N → \n)` + `Split(\n)` + trim gives the decoder's lines, and its greedy regular expression
    `\{[^\{]+\}` cuts every line into the decoder's runs. -/
theorem event_text (t : Str) (gl : List (List Spec.SSA.GRun)) (h : Spec.SSA.textOf t = some gl) :
    (textLines (trimSpace t)).map (fun s => (lineRuns s).map runView) = gl :=
  textLines_textOf t gl h

/-- the `\N` / `\n` half of `event_text`, for **every** string -/
theorem event_text_lines (u : Str) :
    splitOn "\\n".toList (replaceAll "\\N".toList "\\n".toList u) = Spec.SSA.cutLines u [] :=
  splitOn_replaceAll u

/-- **One script-info line.** `ssaScriptInfo.parse` succeeds on every admitted `Key: value` pair and keeps "the last
    line of every key, typed". -/
theorem script_info_line (b : Info) (k v : Str) (kvs : List (String × Str)) (hrel : InfoRel b.vals kvs)
    (hok : kvOk k v = true) :
    ∃ b', b.parse k v = .ok b' ∧ b'.comments = b.comments ∧ InfoRel b'.vals (kvs ++ [(String.ofList k, v)]) :=
  parse_rel b k v kvs hrel hok

/-- **Script info, viewed.** "Last line of every key, typed" is what the decoder computes (`infoOf`). -/
theorem script_info_view (b : Info) (ls : List Str) (gi : List (String × Spec.SSA.GVal)) (hrel : InfoRel b.vals (kvsOf ls))
    (hi : Spec.SSA.infoOf ls = some gi) : Spec.SSA.attrsView Spec.SSA.infoTable b.metadata = some gi :=
  info_view b ls gi hrel hi

/-- **Unknown section.** Nothing of it reaches the state. -/
theorem unknown_section (body : List Str) (st : St) (hs : st.sec = .unknown) (hf : st.first = false)
    (hb : ∀ l ∈ body, BodyLine l) : runL st body = .ok st :=
  run_unknown body st hs hf hb

/-- the decoder's guard: in a script info it accepts, every line has the syntax its key asks for -/
theorem script_info_syntax {ls : List Str} {gi : List (String × Spec.SSA.GVal)} (h : Spec.SSA.infoOf ls = some gi) :
    ∀ l ∈ ls, lineSyn l = true :=
  lineSyn_of_infoOf h

/-- **Script-info section.** Over its body the loop collects the comments and keeps "the last line of every key,
    typed" (`lineSyn`: numeric keys carry numbers; `infoLineOk`: integers fit 64 bits). -/
theorem info_section (body : List Str) (st : St) (kvs : List (String × Str)) (hs : st.sec = .scriptInfo)
    (hf : st.first = false) (hb : ∀ l ∈ body, BodyLine l) (hsyn : ∀ l ∈ body, lineSyn l = true)
    (hok : ∀ l ∈ body, infoLineOk l = true) (hrel : InfoRel st.info.vals kvs) :
    ∃ st', runL st body = .ok st' ∧ st'.sec = .scriptInfo ∧ st'.first = false ∧ st'.styles = st.styles ∧
      st'.events = st.events ∧ st'.info.comments = st.info.comments ++ Spec.SSA.commentsOf body ∧
      InfoRel st'.info.vals (kvs ++ kvsOf body) :=
  let ⟨st', h, hs', eff, hr⟩ := run_info_sec body st kvs hs hf hb hsyn hok hrel
  ⟨st', h, hs', eff.first, by simpa using eff.styles, by simpa using eff.events, eff.comments, hr⟩

/-- **Styles section.** The loop and `Spec.SSA.stylesOf` stay related line by line (`FmtS`: same Format). -/
theorem styles_section (body : List Str) (st : St) (fmt : Option (List String)) (gss : List Spec.SSA.GStyle)
    (hs : st.sec = .styles) (hf : st.first = false) (hb : ∀ l ∈ body, BodyLine l) (hfmt : FmtS st.format fmt)
    (hd : Spec.SSA.stylesOf body fmt = some gss) (h64 : ∀ gs ∈ gss, attrs64 gs.attrs = true) :
    ∃ st', runL st body = .ok st' ∧ st'.sec = .styles ∧ st'.first = false ∧ st'.events = st.events ∧
      st'.info.vals = st.info.vals ∧ st'.info.comments = st.info.comments ++ Spec.SSA.commentsOf body ∧
      ∃ ms, st'.styles = st.styles ++ ms ∧ ms.map styleView = gss.map some :=
  let ⟨st', ms, h, hs', hv, eff, hm⟩ := run_styles_sec body st fmt gss hs hf hb hfmt hd h64
  ⟨st', h, hs', eff.first, by simpa using eff.events, hv, eff.comments, ms, eff.styles, hm⟩

/-- **Events section.** The loop and `Spec.SSA.eventsOf` stay related line by line (`FmtE`, `EvRel`). -/
theorem events_section (body : List Str) (st : St) (fmt : Option (List String)) (rs : List Spec.SSA.REvent)
    (hs : st.sec = .events) (hf : st.first = false) (hb : ∀ l ∈ body, BodyLine l) (hfmt : FmtE st.format fmt)
    (hd : Spec.SSA.eventsOf body fmt = some rs) (h64 : ∀ r ∈ rs, event64 r.ev = true) :
    ∃ st', runL st body = .ok st' ∧ st'.sec = .events ∧ st'.first = false ∧ st'.styles = st.styles ∧
      st'.info.vals = st.info.vals ∧ st'.info.comments = st.info.comments ++ Spec.SSA.commentsOf body ∧
      ∃ es, st'.events = st.events ++ es ∧ EvRel es rs :=
  let ⟨st', es, h, hs', hv, eff, hr⟩ := run_events_sec body st fmt rs hs hf hb hfmt hd h64
  ⟨st', h, hs', eff.first, by simpa using eff.styles, hv, eff.comments, es, eff.events, hr⟩

/-- without CR in the text, `ReadFromSSA` on the `strings.Split(text, "\n")` lines (the form `C04doc2.write_read` uses) and
    on the scanner's lines answer the same -/
theorem read_split_lines (text : Str) (h : '\r' ∉ text) :
    SSA.read (splitC '\n' text) = SSA.read (Spec.SSA.splitLines text []) :=
  read_splitC text h

/-- **Second half of `C04doc2.decode_write_Statement`, given the first.** For every representable cue list (`RepRead`)
    whose written text `out` contains no CR, is accepted by the decoder as `want` and is in `InClass`: the view of
    the normal form `norm s` (= what the reader answers on `out`, `C04doc2.write_read`) is `want`. -/
theorem decode_write_second_half (s : Subs) (out : Str) (want : GDoc) (hr : RepRead s) (hw : write s = .ok out)
    (hcr : '\r' ∉ out) (hd : decode out = some want) (hc : InClass out = true) :
    view (norm s) = some want :=
  decode_write_view s out want hr hw hcr hd hc

end C04read
end Astisub
