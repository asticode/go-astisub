import Astisub.Model.SRT
import Astisub.Model.VTT
import Astisub.Model.SSA
import Astisub.Lemmas.ListFacts

/-!
# C19 — Writers are pure and deterministic

The writer models are *functions* `Subs → bytes`: writing twice gives the same bytes and the
argument is untouched by construction.  What remains to be proved is that the bytes do not
depend on the **order in which the Go runtime iterates the `Styles` and `Regions` maps**: a Go map
is modelled as an association list in arbitrary order, so the statement is invariance of every
writer under permutation of these lists (identifiers distinct, as in any map).
The unrepaired upstream writers do not satisfy it for SSA (Format columns follow map order) and WebVTT (STYLE
blocks follow map order); the repaired writers, which the models follow, sort by identifier.
-/

namespace Astisub
namespace C19
open List

def leId (a b : Def) : Bool := !strLt b.id a.id

theorem ofList_inj {a b : List Char} (h : String.ofList a = String.ofList b) : a = b := by
  have := congrArg String.toList h
  simpa using this

/-! ### `fun a b => !strLt (key b) (key a)`: the order `sort.Strings` / `sort.Slice` sort by -/

theorem not_strLt_trans {x y z : List Char} (h1 : (!strLt y x) = true) (h2 : (!strLt z y) = true) :
    (!strLt z x) = true := by
  unfold strLt at *
  simp only [Bool.not_eq_true', decide_eq_false_iff_not] at *
  exact String.not_lt.mpr (String.le_trans (String.not_lt.mp h1) (String.not_lt.mp h2))

theorem not_strLt_total (x y : List Char) : (!strLt y x || !strLt x y) = true := by
  unfold strLt
  simp only [Bool.or_eq_true, Bool.not_eq_true', decide_eq_false_iff_not]
  exact (String.le_total (String.ofList x) (String.ofList y)).imp String.not_lt.mpr String.not_lt.mpr

theorem not_strLt_antisymm {x y : List Char} (h1 : (!strLt y x) = true) (h2 : (!strLt x y) = true) : x = y := by
  unfold strLt at *
  simp only [Bool.not_eq_true', decide_eq_false_iff_not] at *
  exact ofList_inj (String.le_antisymm (String.not_lt.mp h1) (String.not_lt.mp h2))

theorem leId_trans (a b c : Def) : leId a b → leId b c → leId a c := not_strLt_trans

theorem leId_total (a b : Def) : (leId a b || leId b a) = true := not_strLt_total a.id b.id

theorem leId_antisymm (a b : Def) : leId a b → leId b a → a.id = b.id := not_strLt_antisymm

/-- sorting by a total preorder whose ties are equalities forgets the order of the input -/
theorem mergeSort_perm_invariant {α : Type} (le : α → α → Bool)
    (htrans : ∀ a b c, le a b → le b c → le a c) (htotal : ∀ a b, (le a b || le b a) = true)
    {l₁ l₂ : List α} (hp : l₁ ~ l₂) (hanti : ∀ a ∈ l₁, ∀ b ∈ l₁, le a b → le b a → a = b) :
    l₁.mergeSort le = l₂.mergeSort le :=
  Perm.eq_of_pairwise (le := fun a b => le a b = true)
    (fun a b ha hb => hanti a (mem_mergeSort.mp ha) b (hp.mem_iff.mpr (mem_mergeSort.mp hb)))
    (pairwise_mergeSort htrans htotal l₁) (pairwise_mergeSort htrans htotal l₂)
    ((mergeSort_perm l₁ le).trans (hp.trans (mergeSort_perm l₂ le).symm))

/-- **Map order is irrelevant.** Sorting two enumerations of the same map (same definitions in
    any order, identifiers distinct) gives the same list. -/
theorem sort_perm_invariant (l₁ l₂ : List Def) (hp : l₁ ~ l₂) (hn : (l₁.map (·.id)).Nodup) :
    l₁.mergeSort leId = l₂.mergeSort leId :=
  mergeSort_perm_invariant leId leId_trans leId_total hp fun a ha b hb hab hba =>
    eq_of_nodup_map hn ha hb (leId_antisymm a b hab hba)

/-- a look-up by identifier does not depend on the enumeration order either -/
theorem find_perm_invariant (l₁ l₂ : List Def) (hp : l₁ ~ l₂) (hn : (l₁.map (·.id)).Nodup) (id : List Char) :
    l₁.find? (·.id = id) = l₂.find? (·.id = id) := by
  -- with distinct identifiers what a look-up finds is decided by membership (`List.find_self`)
  cases h : l₁.find? (·.id = id) with
  | none => exact (find?_eq_none.mpr fun x hx => find?_eq_none.mp h x (hp.mem_iff.mpr hx)).symm
  | some d =>
    have hid : d.id = id := by simpa using find?_some h
    subst hid
    exact (find_self (·.id) l₂ ((hp.map _).nodup_iff.mp hn) (hp.mem_iff.mp (mem_of_find?_eq_some h))).symm

/-- two cue lists that differ only in the enumeration order of their style and region maps -/
structure SameUpToMapOrder (s₁ s₂ : Subs) : Prop where
  items : s₁.items = s₂.items
  metadata : s₁.metadata = s₂.metadata
  styles : s₁.styles ~ s₂.styles
  regions : s₁.regions ~ s₂.regions
  stylesNodup : (s₁.styles.map (·.id)).Nodup
  regionsNodup : (s₁.regions.map (·.id)).Nodup

/-- SubRip: the writer does not look at styles, regions or metadata at all -/
theorem srt_deterministic (s₁ s₂ : Subs) (h : SameUpToMapOrder s₁ s₂) : SRT.write s₁ = SRT.write s₂ := by
  unfold SRT.write; rw [h.items]

/-- SSA: the Format line and the style rows are built from the styles in identifier order -/
theorem ssa_deterministic (s₁ s₂ : Subs) (h : SameUpToMapOrder s₁ s₂) : SSA.write s₁ = SSA.write s₂ := by
  unfold SSA.write
  have hs := sort_perm_invariant _ _ h.styles h.stylesNodup
  unfold leId at hs
  rw [h.items, h.metadata, hs]

/-- WebVTT: STYLE blocks and regions are emitted in identifier order, style look-ups are by identifier -/
theorem vtt_deterministic (s₁ s₂ : Subs) (h : SameUpToMapOrder s₁ s₂) : VTT.write s₁ = VTT.write s₂ := by
  have hs := sort_perm_invariant _ _ h.styles h.stylesNodup
  have hr := sort_perm_invariant _ _ h.regions h.regionsNodup
  unfold leId at hs hr
  have hsa : ∀ ref, VTT.styleAttrs s₁ ref = VTT.styleAttrs s₂ ref := by
    intro ref
    unfold VTT.styleAttrs
    cases ref with
    | none => rfl
    | some id => simp only; rw [find_perm_invariant _ _ h.styles h.stylesNodup id]
  have hcue : ∀ k it, VTT.cueBytes s₁ k it = VTT.cueBytes s₂ k it := by
    intro k it; unfold VTT.cueBytes; simp only [hsa]
  have hreg : ∀ d, VTT.regionBytes s₁ d = VTT.regionBytes s₂ d := by
    intro d; unfold VTT.regionBytes; simp only [hsa]
  have hemp : s₁.regions.isEmpty = s₂.regions.isEmpty := by
    have := h.regions.length_eq
    cases h1 : s₁.regions <;> cases h2 : s₂.regions <;> simp_all
  have hreg' : VTT.regionBytes s₁ = VTT.regionBytes s₂ := funext hreg
  unfold VTT.write VTT.styleLines VTT.header VTT.sortDefs
  simp only [h.items, h.metadata, hs, hr, hemp, hcue, hreg']

end C19
end Astisub
