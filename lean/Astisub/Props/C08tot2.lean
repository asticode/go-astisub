import Astisub.Lemmas.Tot2Duration
import Astisub.Lemmas.Tot2TTML
import Astisub.Lemmas.Tot2TTMLW
import Astisub.Lemmas.Tot2SRT
import Astisub.Lemmas.Tot2STL
import Astisub.Lemmas.Tot2SSA
import Astisub.Lemmas.Tot2VTT

/-!
# C08 (totality) — the TTML reader and the five writers, panic-aware

`Props/C08tot.lean` holds the index obligations of the SRT, WebVTT, SSA, STL and teletext *readers*.
This file holds those of:

* `parseDuration` (shared by all text readers) and the TTML reader — `TTMLInDuration.UnmarshalText` with its regular
  expression submatch indexes, `TTMLInDuration.duration` with its `big.Int` quotients, `propagateTTMLAttributes`,
  the language cut, the map look-ups of styles / regions, the `begin` / `end` pointers of a paragraph (defect D6),
  the line loop;
* the five writers — every nil test on `s.Metadata`, `Style.InlineStyle`, `Region.InlineStyle`, `Item.InlineStyle`,
  `LineItem.InlineStyle`, `Item.Style`, `Item.Region`, pointer fields of the metadata; the `…[:len-1]` slices that remove a
  trailing separator; `o[len(o)-1]` of `encodeTextSTL` (D17); the tag indexes of the WebVTT writer; `BytesPad` cuts;
* the blank-line arm of the WebVTT reader (`sa.WebVTTStyles[len(sa.WebVTTStyles)-1]`).

A *checked* variant (`Lemmas/Tot2*.lean`) is the model function written in `Chk = Except Panic` with
every Go index expression, slice expression, integer / `big.Int` division, map-miss-then-dereference and pointer
dereference a primitive that can answer `.error panic`; the guards are copied from the Go code.  Indexes of the form
`len(x)-1` are computed in `Int` (`Tot.lastC`, `Tot.initC`, `Tot.idxI`, `Tot.slcToI`): on an empty `x` they are `-1` and
the primitive panics, which natural-number subtraction would hide.

Every headline theorem reads `checked input = .ok (model input)` **for all inputs** — the cue lists range over the
whole model type, so every optional part (`none` metadata, no styles, no regions, `none` inline styles, dangling
or absent references, no lines, empty lines, empty texts) is covered.  It says (a) the checked code never panics and
(b) its value is the model's: no `getD` / `take` / `dropLast` default of the model is ever used.  The `…_needs_…`
theorems show the converse for the guards: without the guard the checked code panics.
-/

namespace Astisub
namespace C08tot2
open Tot

/-- how to read the theorems below: a checked computation that equals `.ok _` did not panic -/
theorem checked_implies_no_panic {α} {c : Chk α} {a : α} (h : c = .ok a) : c.safe = true := safe_of_eq_ok h

/-- **`parseDuration` never panics and is what the model says, for every string, separator and digit count.**
    Checked: `parts[len(parts)-1]` and `parts[:len(parts)-1]` (behind `len(parts) >= 2`), `parts[1]`, `parts[0]`
    (behind `len(parts) == 2`), `parts[2]`, `parts[1]`, `parts[0]` (behind `len(parts) == 3`). -/
theorem parse_duration_checked (i : Go.Str) (sep : Char) (digits : Nat) :
    Tot.Dur.parseC i sep digits = .ok (Duration.parse i sep digits) :=
  Tot.Dur.parseC_eq i sep digits

/-- **`TTMLInDuration.UnmarshalText` never panics and is what the model says, for every attribute text.**
    Checked: `matches[1]`, `matches[2]`, `matches[3]`, `matches[1][:len(matches[1])-len(matches[2])]`, `matches[2][1:]` of the
    offset-time branch; the `big.Int` quotient by `10^len(fraction)`; `indexes[0]`, `indexes[1]`,
    `text[indexes[0]+1:indexes[1]]`, `text[:indexes[0]]` of the clock-time-with-frames branch; `parseDuration`. -/
theorem ttml_time_checked (text : Go.Str) : Tot.TTML.timeExprC text = .ok (TTML.timeExpr text) :=
  Tot.TTML.timeExprC_eq text

/-- **`TTMLInDuration.duration()` never panics for any parsed value and any frame / tick rate** (zero and negative
    rates included): the `big.Int` quotient of `ttmlUnitsDuration` is reached only behind `rate > 0`. -/
theorem ttml_duration_checked (d : TTML.InDur) (framerate tickrate : Int) :
    Tot.TTML.durationC d framerate tickrate = .ok (TTML.duration d framerate tickrate) :=
  Tot.TTML.durationC_eq d framerate tickrate

/-- the `tickrate > 0` guard is necessary: ticks in a document without tick rate would divide by zero -/
theorem ttml_duration_needs_rate_guard (d : TTML.InDur) (h : d.ticks > 0 ∨ d.ticksFraction ≠ []) :
    Tot.TTML.durationU d 0 = .error .divZero := by
  unfold Tot.TTML.durationU Tot.TTML.unitsDurationC
  rw [if_pos h, Int.mul_zero]
  rfl

example : (({ ticks := 10 } : TTML.InDur).ticks > 0 ∨ ({ ticks := 10 } : TTML.InDur).ticksFraction ≠ []) := Or.inl (by decide)

/-- **`propagateTTMLAttributes` never panics, for every set of style attributes**: the four pointer dereferences are
    behind their nil tests, `dimensions[0]`, `dimensions[1]`, `coordinates[0]`, `coordinates[1]` behind `len(…) > 1`. -/
theorem ttml_style_attributes_checked (a : KV) : Tot.TTML.styleAttributesC a = .ok (TTML.styleAttributes a) :=
  Tot.TTML.styleAttributesC_eq a

/-- the `len(dimensions) > 1` test is necessary: an extent without a space indexes past the split -/
theorem ttml_extent_needs_length_guard (e : Go.Str) (h : (Go.splitC ' ' e).length ≤ 1) : (Tot.TTML.extOfU e).safe = false := by
  unfold Tot.TTML.extOfU
  match hs : Go.splitC ' ' e with
  | [] => rfl
  | [_] => rfl
  | _ :: _ :: _ => rw [hs] at h; simp at h

example : (Go.splitC ' ' "100%".toList).length ≤ 1 := by decide

/-- the map look-up behind its `ok` test: the stored pointer's `ID` is the identifier asked for, and a miss
    is the error return, never a dereference -/
theorem ttml_lookup_checked (l : List TTML.InDef) (id : Go.Str) :
    Tot.TTML.resolveC l id = .ok (if (l.map (·.id)).contains id then some id else none) :=
  Tot.TTML.resolveC_eq l id

/-- without the `ok` test an identifier that is not in the map is a nil dereference -/
theorem ttml_lookup_needs_ok_test (l : List TTML.InDef) (id : Go.Str) (h : (l.map (·.id)).contains id = false) :
    Tot.TTML.resolveU l id = .error .nilDeref := by
  unfold Tot.TTML.resolveU
  have hs := Tot.TTML.findDef_isSome l id
  rw [h] at hs
  cases hf : Tot.TTML.findDef l id with
  | none => rfl
  | some d => rw [hf] at hs; cases hs

example : (([] : List TTML.InDef).map (·.id)).contains "s1".toList = false := by decide

/-- **the "loop through texts" of `ReadFromTTML`, written as in Go (outer loop over the items, inner loop over
    `strings.Split(tt.Text, "\n")` with `idx > 0 ⇒ new line`, style look-up per piece), never panics and equals the
    model's closed form** (`getLast?` / `dropLast` of the pieces), for every item list and every loop state. -/
theorem ttml_line_loop_checked (styles : List TTML.InDef) (items : List TTML.InItem) (done : List Line) (cur : List LItem) :
    Tot.TTML.linesLoopC styles items done cur = .ok (TTML.linesLoop (styles.map (·.id)) items done cur) :=
  Tot.TTML.linesLoopC_eq styles items done cur

/-- one paragraph of any document: time attributes, `begin` / `end` nil test (D6), region / style look-ups, line loop -/
theorem ttml_paragraph_checked (t : TTML.TIn) (ts : TTML.InSub) :
    Tot.TTML.readSubC t ts = .ok (TTML.readSub t (t.styles.map (·.id)) (t.regions.map (·.id)) ts) :=
  Tot.TTML.readSubC_eq t ts

/-- **`ReadFromTTML` (after `xml.Decode`, which stays a contract) never panics and is what the model says, for every
    decoded document** — any frame / tick rate, any language string, any styles, regions and paragraphs, any number of
    `begin` / `end` attributes per paragraph (none included), any token list. -/
theorem ttml_read_checked (tin : Option TTML.TIn) : Tot.TTML.readC tin = .ok (TTML.read tin) :=
  Tot.TTML.readC_eq tin

/-- (a) alone -/
theorem ttml_read_never_panics (tin : Option TTML.TIn) : (Tot.TTML.readC tin).safe = true :=
  safe_of_eq_ok (ttml_read_checked tin)

/-- **the D6 guard is necessary**: with the pinned code (no `ts.Begin == nil || ts.End == nil` test) a `<p>` without
    `begin` whose `end` attributes parse is a nil dereference … -/
theorem ttml_needs_begin_guard (t : TTML.TIn) (ts : TTML.InSub) (hb : ts.begins = []) (he : (TTML.parseTimes ts.ends).isSome) :
    Tot.TTML.readSubU t ts = .error .nilDeref := by
  unfold Tot.TTML.readSubU
  rw [hb]
  simp only [Tot.TTML.parseTimesC_eq', ok_bind]
  revert he
  generalize TTML.parseTimes ts.ends = e?
  intro he
  cases e? with
  | none => cases he
  | some ep => rfl

/-- … and so is a `<p>` with `begin` but without `end` -/
theorem ttml_needs_end_guard (t : TTML.TIn) (ts : TTML.InSub) (b : TTML.InDur)
    (hb : TTML.parseTimes ts.begins = some (some b)) (he : ts.ends = []) :
    Tot.TTML.readSubU t ts = .error .nilDeref := by
  unfold Tot.TTML.readSubU
  rw [he]
  simp only [Tot.TTML.parseTimesC_eq', ok_bind, hb]
  rfl

example : (TTML.parseTimes ["00:00:01.000".toList]).isSome := by decide_vector

/-- **`WriteToTTML` never panics and is what the model says, for every cue list.**  Checked: `s.Metadata != nil`;
    `ttmlOutStyleAttributesFromStyleAttributes` on a nil pointer (regions, styles, cues, runs); `.Style != nil` /
    `.Region != nil` in front of `.ID` (regions, styles, cues, runs); "remove last line break"
    `Items[:len(Items)-1]` behind `len(Items) > 0`. -/
theorem ttml_write_checked (s : Subs) : Tot.TTMLW.writeC s = .ok (TTML.write s) :=
  Tot.TTMLW.writeC_eq s

/-- one `<p>`: in particular the model's `items.take (items.length - 2)` on the flattened token list is the Go
    slice `Items[:len(Items)-1]` on the item list — for a cue without lines both are empty, no negative bound is hidden -/
theorem ttml_cue_checked (it : CItem) : Tot.TTMLW.subToksC it = .ok (TTML.subToks it) :=
  Tot.TTMLW.subToksC_eq it

/-- the `len(ttmlSubtitle.Items) > 0` test is necessary: for a cue without lines the slice bound is `-1` -/
theorem ttml_write_needs_items_guard (it : CItem) (h : it.lines = []) : Tot.TTMLW.subItemsU it = .error .slice := by
  unfold Tot.TTMLW.subItemsU
  rw [h]
  rfl

/-- the `s == nil` test of `ttmlOutStyleAttributesFromStyleAttributes` and the `s.Metadata != nil` test are necessary -/
theorem ttml_write_needs_nil_guards :
    Tot.TTMLW.outAttrsU none = .error .nilDeref ∧ Tot.TTMLW.metaU none = .error .nilDeref := ⟨rfl, rfl⟩

/-- `s.Regions[id]` / `s.Styles[id]` for the `ID` fields collected from the map's *values*, as the pinned
    `WriteToTTML` and `WriteToWebVTT` did: when every value is stored under its own `ID` no look-up misses.  (The
    models identify key and `ID`; a value stored under another key is outside their type — and did panic, see the
    `example` next to `Tot.byIdC_safe`; the repaired writers, `fix:` fc5e17e, collect the keys instead.) -/
theorem map_by_id_checked {α} (idOf : α → Go.Str) (m : List (Go.Str × α)) (h : ∀ p ∈ m, p.1 = idOf p.2) :
    (Tot.byIdC idOf m).safe = true :=
  Tot.byIdC_safe idOf m h

example : ∀ p ∈ [("a".toList, ("a".toList, 1)), ("b".toList, ("b".toList, 2))], p.1 = (fun (v : Go.Str × Nat) => v.1) p.2 := by
  decide

/-- **`WriteToSRT` never panics and is what the model says, for every cue list.**  Checked: the five
    `li.InlineStyle != nil` tests and `li.InlineStyle.SRTColor != nil` of `LineItem.srtBytes`; the final `c[:len(c)-1]`. -/
theorem srt_write_checked (s : Subs) : Tot.SRTW.writeC s = .ok (SRT.write s) :=
  Tot.SRTW.writeC_eq s

/-- the nil test on the inline style is necessary (a plain run has none) -/
theorem srt_write_needs_nil_guard (k : String) : Tot.SRTW.strU none k = .error .nilDeref := rfl

/-- the final slice is in range whatever follows the byte order mark -/
theorem srt_final_slice_checked (body : Go.Str) : (Tot.initC (SRT.bom ++ body)).safe = true := by
  rw [initC_ok (by simp [SRT.bom])]
  rfl

/-- **`WriteToSSA` never panics, for every cue list** — `none` metadata, styles without inline style, cues without
    style / inline style / lines, runs without inline style.  Checked: `m != nil` of `newSSAScriptInfo`;
    `s.Metadata != nil` of the `v4plus` test (D9); `i.InlineStyle == nil` of `newSSAStyleFromStyle` (D9 / D13);
    `i.Style != nil`, `i.InlineStyle != nil`, `item.InlineStyle != nil` of `newSSAEventFromItem`; the pointer fields
    (`*int`, `*bool`, `*float64`, `*Color`) of `ssaScriptInfo.bytes`, `ssaStyle.string`, `ssaEvent.string`; the store
    `format[0] = "Layer"`; the look-ups `styles[n]` followed by a method call. -/
theorem ssa_write_never_panics (s : Subs) : (Tot.SSAW.writeC s).safe = true :=
  Tot.safe_of_eq_ok (Tot.SSAW.writeC_lastWins s)

/-- **… and is what the model says when the style list is a map** (one entry per identifier — as the keys of Go's
    `Styles` map are).  The hypothesis is needed because the Go code files every style under its name and then looks the
    names up: with two entries of one identifier it writes the last one twice, the model writes both
    (`Tot.SSAW.writeC_eq_Statement_false` refutes the statement without the hypothesis). -/
theorem ssa_write_checked (s : Subs) (h : (s.styles.map (·.id)).Nodup) : Tot.SSAW.writeC s = .ok (SSA.write s) :=
  Tot.SSAW.writeC_eq s h

example : (Tot.SSAW.subs1.styles.map (·.id)).Nodup ∧ Tot.SSAW.subs1.styles ≠ [] := by decide

/-- for **all** cue lists: the checked writer is the model on the style list as the look-ups see it (every entry
    replaced by the last entry of the same identifier) -/
theorem ssa_write_checked_all (s : Subs) :
    Tot.SSAW.writeC s = .ok (SSA.write { s with styles := Tot.SSAW.lastWins s.styles }) :=
  Tot.SSAW.writeC_lastWins s

/-- **the D9 / D13 guards are necessary, and exactly so**: the pinned writer (no `s.Metadata != nil` in the `v4plus`
    test, no `i.InlineStyle == nil` in `newSSAStyleFromStyle`) panics iff there is a cue and the metadata is nil or
    some style has no inline style -/
theorem ssa_write_needs_nil_guards (s : Subs) :
    (Tot.SSAW.writeU s).safe = false ↔ s.items ≠ [] ∧ (s.metadata = none ∨ ∃ d ∈ s.styles, d.attrs = none) :=
  (Tot.SSAW.writeU_spec s).safe_iff

/-- a cue list read from SubRip (no metadata) sent to the pinned SSA writer: nil dereference -/
theorem ssa_write_pinned_panics_without_metadata (s : Subs) (h1 : s.items ≠ []) (h2 : s.metadata = none) :
    Tot.SSAW.writeU s = .error .nilDeref :=
  (Tot.SSAW.writeU_spec s).1 ⟨h1, .inl h2⟩

example : Tot.SSAW.subs0.items ≠ [] ∧ Tot.SSAW.subs0.metadata = none := by decide

/-- `newSSAEventFromItem` for every cue -/
theorem ssa_event_of_item_checked (it : CItem) : Tot.SSAW.eventOfItemC it = .ok (SSA.eventOfItem it) :=
  Tot.SSAW.eventOfItemC_eq it

/-- `newSSAStyleFromStyle`: the pinned code panics exactly on a style without inline style -/
theorem ssa_style_needs_nil_guard (d : Def) : Tot.SSAW.styleOfDefU d = .error .nilDeref ↔ d.attrs = none :=
  (Tot.PanicsIff.of_spec ⟨Tot.SSAW.styleOfDefU_nil d, Tot.SSAW.styleOfDefU_some d⟩).error_iff

/-- **`ReadFromWebVTT` with the blank-line arm made explicit** (`blockName != "style" || sa == nil ||
    len(sa.WebVTTStyles) == 0 || HasSuffix(sa.WebVTTStyles[len(sa.WebVTTStyles)-1], "}")`, then `sa.WebVTTTags = …`), on top
    of the checked reader of `C08tot`: never panics and is what the model says, for every list of scanned lines.
    The model's `st.styles.getLast?.getD []` never uses its default. -/
theorem vtt_read_checked (lines : List (Option Go.Str)) : Tot.VTT.readC2 lines = .ok (VTT.read lines) :=
  Tot.VTT.readC2_eq lines

/-- the `len(sa.WebVTTStyles) == 0` disjunct is necessary: a blank line in a `STYLE` block that has no line yet indexes at `-1` -/
theorem vtt_read_needs_styles_guard (st : VTT.St) (raw : Go.Str) (hb : st.block = .style) (hs : st.styles = [])
    (hl : Go.trimSpace raw = []) : Tot.VTT.stepU st (some raw) = .error .index :=
  Tot.VTT.stepU_blank_panics st raw hb hs hl

example : ({ block := .style } : VTT.St).block = .style ∧ ({ block := .style } : VTT.St).styles = [] ∧ Go.trimSpace "  ".toList = [] := by
  decide

/-- **`WriteToWebVTT` never panics, for every cue list.**  Checked: `s.Metadata != nil` and the timestamp-map pointer;
    `st != nil && st.InlineStyle != nil` of the styles loop; `s.Regions[id]` look-ups; `inlineStyle == nil ⇒ &StyleAttributes{}`
    for regions and cues; `.Style != nil && .Style.InlineStyle != nil` (ten places); `item.Region != nil`; the final
    `c[:len(c)-1]`; `&l.Items[idx-1]`, `&l.Items[idx+1]`, `l.Items[idx]`; `li.InlineStyle != nil`, `TTMLColor != nil`;
    `WebVTTTags[webVTTCommonTags(li, previous):]`; `WebVTTTags[i]` of the closing loop; `a[n]`, `b[n]` of `webVTTCommonTags`. -/
theorem vtt_write_never_panics (s : Subs) : (Tot.VTTW.writeC s).safe = true :=
  Tot.VTTW.writeC_safe s

/-- **… and is what the model says when the style and region lists are maps** (one entry per identifier).
    The hypotheses are needed because Go looks styles and regions up by identifier while the model walks the entries. -/
theorem vtt_write_checked (s : Subs) (hs : Tot.VTTW.UniqueIds s.styles) (hr : Tot.VTTW.UniqueIds s.regions) :
    Tot.VTTW.writeC s = .ok (VTT.write s) :=
  Tot.VTTW.writeC_eq s hs hr

example : Tot.VTTW.UniqueIds Tot.VTTW.sNil.styles ∧ Tot.VTTW.UniqueIds Tot.VTTW.sNil.regions ∧ Tot.VTTW.sNil.regions ≠ [] := by
  decide

/-- `webVTTCommonTags` (three nil guards, `a[n]`, `b[n]`) for every run and every neighbour (or none) -/
theorem vtt_common_tags_checked (li : LItem) (other : Option LItem) :
    Tot.VTTW.commonTagsC li other = .ok (Tot.VTTW.common li other) :=
  Tot.VTTW.commonTagsC_eq li other

/-- the tag count is within the run's own stack: the slice `WebVTTTags[n:]` is in range -/
theorem vtt_common_tags_in_range (a b : List VTT.Tag) : VTT.commonTags a b ≤ a.length :=
  Tot.VTTW.commonTags_le_left a b

/-- `LineItem.webVTTBytes` for every run and every pair of neighbours: colour pointer, opening slice, closing loop -/
theorem vtt_run_checked (prev next : Option LItem) (li : LItem) :
    Tot.VTTW.runBytesC prev next li = .ok (VTT.runBytes prev next li) :=
  Tot.VTTW.runBytesC_eq prev next li

/-- `Line.webVTTBytes` written on indexes as in Go, for every line (no items, one item, many) -/
theorem vtt_line_checked (l : Line) : Tot.VTTW.lineBytesC l = .ok (VTT.lineBytes l) :=
  Tot.VTTW.lineBytesC_eq l

/-- the nil tests the pinned writer lacked are necessary: a region without inline style … -/
theorem vtt_write_needs_region_guard (s : Subs) (d : Def) (h : d.attrs = none) : Tot.VTTW.regionBytesU s d = .error .nilDeref :=
  Tot.VTTW.regionBytesU_panics s d h

/-- … a cue without inline style … -/
theorem vtt_write_needs_cue_guard (s : Subs) (h : ∃ it ∈ s.items, it.attrs = none) : Tot.VTTW.writeU s = .error .nilDeref :=
  Tot.VTTW.writeU_panics_cue s h

example : ∃ it ∈ Tot.VTTW.sNil.items, it.attrs = none := by decide

/-- … a style without inline style -/
theorem vtt_write_needs_style_guard (s : Subs) (hi : s.items ≠ []) (hu : Tot.VTTW.UniqueIds s.styles)
    (h : ∃ d ∈ s.styles, d.attrs = none) : Tot.VTTW.writeU s = .error .nilDeref :=
  Tot.VTTW.writeU_panics_style s hi hu h

/-- slicing the tag stack at the neighbour's depth instead of the common depth panics when the neighbour's stack is deeper -/
theorem vtt_open_tags_needs_common_bound (x li : LItem) (a : KV) (h : li.attrs = some a)
    (hlt : (Tot.VTTW.tagsOf a).length < (VTT.tagsOfAttrs x.attrs).length) : Tot.VTTW.opensU (some x) li = .error .slice :=
  Tot.VTTW.opensU_panics x li a h hlt

/-- **`WriteToSTL` never panics and is what the model says, for every clock value, every metadata (or none) and
    every cue list.**  Checked: `s.Metadata != nil` and the four pointer fields of the metadata in `newGSIBlock`;
    `s.Items[0]` behind `len(s.Items) > 0`; the 36 `astikit.BytesPad` calls of `gsiBlock.bytes` with their cut `i[:length]`
    and the padding loop's final `o[:length]`; `bs[1:]`, `bs[:2]`; the justification / vertical-position pointers;
    `o[:len(o)-1]`, `o[len(o)-1]` of `encodeTextSTL` behind `len(o) == 0` (repair of D17); the frame quotient. -/
theorem stl_write_checked (now : STL.Date) (md : Option STL.Meta) (cues : List STL.WCue) :
    Tot.STLW.writeC now md cues = .ok (STL.write now md cues) :=
  Tot.STLW.writeC_eq now md cues

/-- **`encodeTextSTL` never panics and is what the model says, for every text** (a text starting with combining
    marks included); the Go code appends to a forward slice, the model keeps the output reversed -/
theorem stl_encode_checked (s : List Nat) : Tot.STLW.encodeTextC s = .ok (STL.encodeText s) :=
  Tot.STLW.encodeTextC_eq s

/-- **the D17 guard is necessary, and exactly so**: the pinned step panics iff the output is still empty and the rune
    is a floating diacritic -/
theorem stl_encode_needs_empty_guard (o : STL.Bytes) (c : Nat) :
    (Tot.STLW.encStepU o c).safe = false ↔ (o = [] ∧ Tot.STLW.isDiacritic c = true) := by
  by_cases ho : o = []
  · subst ho
    unfold Tot.STLW.encStepU Tot.STLW.encStepG Tot.STLW.isDiacritic
    cases Generated.STL.unicodeInv.lookup c with
    | some b => simp [Chk.safe]
    | none =>
      cases Generated.STL.diacriticInv.lookup c with
      | none => simp [Chk.safe]
      | some b => simp [Tot.STLW.slcToI_lastIx_nil, Chk.safe]
  · rw [Tot.STLW.encStepU_eq_of_ne_nil o c ho, Tot.STLW.encStepC_eq]
    simp [ho]

/-- … so a text whose decomposition starts with a combining mark makes the pinned encoder panic -/
theorem stl_encode_pinned_panics (s : List Nat) (c : Nat) (rest : List Nat) (hs : STL.nfd s = c :: rest)
    (hc : Tot.STLW.isDiacritic c = true) : Tot.STLW.encodeTextU s = .error .slice :=
  Tot.STLW.encodeTextU_panics s c rest hs hc

example : STL.nfd [0x0301] = [0x0301] ∧ Tot.STLW.isDiacritic 0x0301 = true := ⟨Tot.STLW.nfd_acute, by decide⟩

/-- `newGSIBlock`: which guards are needed, exactly — the block is built without panic iff the metadata is there or
    its nil test is, each of the four pointer fields is set or has its nil test, and the cue list is non-empty or
    `len(s.Items) > 0` is tested -/
theorem stl_gsi_guards_exact (g : Tot.STLW.Guards) (now : STL.Date) (md : Option STL.Meta) (cues : List STL.WCue) :
    (Tot.STLW.newGSIG g now md cues).safe =
      ((g.metadata || md.isSome) &&
       (match md with
        | none => true
        | some m => (g.creation || m.creation.isSome) && (g.maxChars || m.maxChars.isSome) &&
                    (g.maxRows || m.maxRows.isSome) && (g.revisionDate || m.revisionDate.isSome)) &&
       (g.items || !cues.isEmpty)) :=
  Tot.STLW.newGSIG_safe g now md cues

/-- **the D15 guard is necessary**: the pinned writer on a cue list without metadata (e.g. read from SubRip) is a nil dereference -/
theorem stl_write_needs_metadata_guard (now : STL.Date) (cues : List STL.WCue) (h : cues ≠ []) :
    Tot.STLW.writeU now none cues = .error .nilDeref :=
  Tot.STLW.writeU_no_metadata now cues h

/-- the `getD` defaults of the model's `gsiBytes` (`creation`, `revisionDate`, `maxChars`, `maxRows`) are never used:
    `newGSI` fills all four -/
theorem stl_gsi_bytes_checked (now : STL.Date) (md : Option STL.Meta) (cues : List STL.WCue) :
    Tot.STLW.gsiBytesC (STL.newGSI now md cues) = .ok (STL.gsiBytes (STL.newGSI now md cues)) :=
  Tot.STLW.gsiBytesC_newGSI now md cues

/-- the cut `i[:length]` of `BytesPad` needs its `len(i) > length` test -/
theorem stl_pad_needs_length_guard (n : Nat) (s : STL.Bytes) : Tot.STLW.padCutU n s = .error .slice ↔ s.length < n := by
  unfold Tot.STLW.padCutU slcTo
  by_cases h : n ≤ s.length
  · rw [if_pos h]
    exact ⟨nofun, fun _ => by omega⟩
  · rw [if_neg h]
    exact ⟨fun _ => by omega, fun _ => rfl⟩

end C08tot2
end Astisub
