import Astisub.Model.STL
import Astisub.Spec.STL
import Astisub.Props.C16
import Astisub.Lemmas.Str
import Astisub.Lemmas.KV

/-!
# C05 — EBU STL codec: component laws

Statements about `Model/STL.lean` (the model of `stl.go` that the `stl.*` correspondence streams tie to
the code on every run) and the regenerated tables `Generated/STLTables.lean`.

* tables (checked entry-wise by `decide` on the regenerated data): the ASCII half of the Latin table,
  injectivity, the 13 floating diacritics; from such per-entry checks, for every table character the writer is
  claimed to carry and every letter × diacritic pair, `decode (encode c) = c` (`char_roundtrip`, `accent_roundtrip`);
* text, for all inputs over the whole repertoire: any sequence of units (carried table characters, letters
  with one floating diacritic) is written as the units' bytes and read back unchanged (`repertoire_roundtrip`);
  a unit is good for a reason (`single_encGood`, `base_mark_encGood`), the tables are consulted entry by entry;
* text, for all inputs: printable ASCII text (without `$`) is encoded byte for byte and decoded back — the
  case of single-character units;
* framing, for all inputs: a written file is one 1024-byte GSI block plus one 128-byte TTI block per cue;
* rows: the row splitter inverts the writer's join, user-data blocks are skipped;
* GSI text fields, for all values: blank padding by the writer + `TrimSpace` by the reader is the identity on
  values that start and end with a graphic ASCII character (`field_roundtrip`);
* timecodes, for both frame rates and every instant below 24 h: reading a written timecode and writing
  it again (with any programme-start offset subtracted and added back) gives the same four bytes.

The whole-document statements are in `Props/C05doc.lean` (write → read, one run per row), `Props/C05doc2.lean`
(several runs per row, write → independent decoder), `Props/C05rw.lean` (write ∘ read ∘ write) and `Props/C05read.lean`
(decoder ⇒ reader); the `stl.read` / `stl.write` streams evaluate the same clauses against the code on every run.
-/

namespace Astisub
namespace C05
open Go STL

/-- the keys of an association list as a bit mask: bit `k` is set iff `k` is a key (or was set in `m`) -/
def keyMask {β} (l : List (Nat × β)) (m : Nat := 0) : Nat := l.foldl (fun m e => m ||| 1 <<< e.1) m

theorem testBit_or_bit {m i k : Nat} (h : (m ||| 1 <<< i).testBit k = false) : m.testBit k = false ∧ i ≠ k := by
  rwa [Nat.testBit_or, Bool.or_eq_false_iff, Nat.one_shiftLeft, Nat.testBit_two_pow, decide_eq_false_iff_not] at h

theorem keyMask_spec {β} (l : List (Nat × β)) (m k : Nat) (h : (keyMask l m).testBit k = false) :
    l.lookup k = none ∧ m.testBit k = false := by
  induction l generalizing m with
  | nil => exact ⟨rfl, h⟩
  | cons e es ih =>
    obtain ⟨h1, h2⟩ := ih _ h
    obtain ⟨h2, hk⟩ := testBit_or_bit h2
    have : (k == e.1) = false := by simpa using fun hk' => hk hk'.symm
    exact ⟨by rw [List.lookup, this, h1], h2⟩

theorem lookup_none_of_mask {β} {l : List (Nat × β)} {k : Nat} (h : (keyMask l).testBit k = false) :
    l.lookup k = none := (keyMask_spec l 0 k h).1

/-- distinct images under `f`, checked in one pass with the images seen so far as a bit mask -/
def freshFold {α} (f : α → Nat) : List α → Nat → Bool
  | [], _ => true
  | x :: xs, m => !m.testBit (f x) && freshFold f xs (m ||| 1 <<< f x)

theorem nodup_of_freshFold {α} (f : α → Nat) (l : List α) (m : Nat) (h : freshFold f l m = true) :
    l.Nodup ∧ ∀ x ∈ l, m.testBit (f x) = false := by
  induction l generalizing m with
  | nil => exact ⟨List.nodup_nil, fun _ h => nomatch h⟩
  | cons x xs ih =>
    rw [freshFold, Bool.and_eq_true, Bool.not_eq_true'] at h
    obtain ⟨hn, hm⟩ := ih _ h.2
    refine ⟨List.nodup_cons.2 ⟨fun hx => (testBit_or_bit (hm x hx)).2 rfl, hn⟩, fun y hy => ?_⟩
    rcases List.mem_cons.1 hy with rfl | hy
    · exact h.1
    · exact (testBit_or_bit (hm y hy)).1

/-- a byte of the character table: not a C0 / C1 control -/
def tableByte (b : Nat) : Prop := 0x20 ≤ b ∧ (b < 0x7F ∨ 0xA0 ≤ b)

instance (b : Nat) : Decidable (tableByte b) := by unfold tableByte; infer_instance

theorem table_bytes : ∀ e ∈ Generated.STL.cct12336, tableByte e.1 := by decide +kernel

/-- the Latin table is ISO 646 on 0x20–0x7E except the currency sign at 0x24 -/
theorem table_ascii : ∀ k, k < 0x7F → 0x20 ≤ k → k ≠ 0x24 → tableGet k = some [k] := by
  decide +kernel

/-- 0x24 is the currency sign `¤`, `$` sits at 0xA4 (ISO 6937) -/
theorem table_currency : tableGet 0x24 = some [0xA4] ∧ tableGet 0xA4 = some [0x24] := by decide +kernel

/-- control codes, the style codes, the line break and the padding byte are not characters -/
theorem table_no_codes : ∀ k, k < 0xA0 → (k < 0x20 ∨ 0x7F ≤ k) → tableGet k = none := by
  intro k h1 h2
  cases h : tableGet k with
  | none => rfl
  | some v => have := table_bytes _ (List.mem_of_lookup_eq_some h); unfold tableByte at this; omega

/-- no two bytes of the table denote the same string: already the first code points differ -/
theorem table_injective : (Generated.STL.cct12336.map (·.2)).Nodup :=
  (nodup_of_freshFold (·.headD 0) _ 0 (by decide +kernel)).1

theorem table_keys_nodup : (Generated.STL.cct12336.map (·.1)).Nodup :=
  (nodup_of_freshFold id _ 0 (by decide +kernel)).1

/-- the floating diacritics are exactly 13 bytes of 0xC1–0xCF, each a single combining mark of class ≠ 0 -/
theorem table_diacritics :
    (Generated.STL.cct12336.filter fun e => isAccentByte e.1).map (·.1)
      = [0xC1, 0xC2, 0xC3, 0xC4, 0xC5, 0xC6, 0xC7, 0xC8, 0xCA, 0xCB, 0xCD, 0xCE, 0xCF] ∧
    ∀ e ∈ Generated.STL.cct12336, isAccentByte e.1 = true → e.2.length = 1 ∧ cccOf (e.2.headD 0) ≠ 0 := by
  decide +kernel

theorem decomp_of_mask {c : Nat} (h : (keyMask Generated.STL.nfd).testBit c = false) : decomp c = [c] := by
  unfold decomp; rw [lookup_none_of_mask h]; simp

theorem cccOf_of_mask {c : Nat} (h : (keyMask Generated.STL.ccc).testBit c = false) : cccOf c = 0 := by
  unfold cccOf; rw [lookup_none_of_mask h]; simp

theorem inv_keys_not_plain :
    (∀ e ∈ Generated.STL.unicodeInv, e.1 < 0x20 ∨ 0x7F ≤ e.1) ∧ ∀ e ∈ Generated.STL.diacriticInv, e.1 < 0x20 ∨ 0x7F ≤ e.1 := by
  decide +kernel

theorem enc_lookup_plain : ∀ c, c < 0x7F → 0x20 ≤ c →
    Generated.STL.unicodeInv.lookup c = none ∧ Generated.STL.diacriticInv.lookup c = none := by
  intro c h1 h2
  constructor
  · cases h : Generated.STL.unicodeInv.lookup c with
    | none => rfl
    | some v => have := inv_keys_not_plain.1 _ (List.mem_of_lookup_eq_some h); omega
  · cases h : Generated.STL.diacriticInv.lookup c with
    | none => rfl
    | some v => have := inv_keys_not_plain.2 _ (List.mem_of_lookup_eq_some h); omega

/-- decoding a whole byte string with one handler -/
def decodeAll : Option Nat → Bytes → List Nat × Option Nat
  | acc, [] => ([], acc)
  | acc, k :: ks =>
    let r := decode acc k
    let r' := decodeAll r.2 ks
    (r.1 ++ r'.1, r'.2)

/-- the characters the writer is claimed to carry: every table character except the floating
    diacritics themselves and the two currency signs (known finding D22) -/
def carried : List (Nat × List Nat) :=
  Generated.STL.cct12336.filter fun e => !isAccentByte e.1 && e.1 != 0x24 && e.1 != 0xA4

/-- a unit of repertoire text together with its bytes in the file -/
structure Unit where
  text : List Nat
  bytes : Bytes

def charUnit (e : Nat × List Nat) : Unit := ⟨e.2, [e.1]⟩
def accentUnit (a l : Nat) : Unit := ⟨nfcPair l a, [a, l]⟩

def nfdGo (out : List Nat) (t : List Nat) : List Nat := (t.flatMap decomp).foldl nfdStep out

/-- the first decomposed character of `t` is a starter -/
def startsStarter (t : List Nat) : Bool :=
  match t.flatMap decomp with
  | s :: _ => cccOf s == 0
  | [] => false

/-- the first character of the normalised text is not a floating diacritic (it pushes a byte of its own) -/
def startsBase (t : List Nat) : Bool :=
  match nfd t with
  | s :: _ => (Generated.STL.unicodeInv.lookup s).isSome || (Generated.STL.diacriticInv.lookup s).isNone
  | [] => false

/-- the unit is written as its bytes and is self-contained for NFD and for the writer's diacritic swap
    (the encoder's half of `Unit.good`: style codes and the line break are such units too) -/
def encGood (u : Unit) : Prop :=
  encodeText u.text = u.bytes ∧ startsStarter u.text = true ∧ startsBase u.text = true

/-- the unit is written as its bytes, read back as its text, and is self-contained for NFD and for
    the writer's diacritic swap -/
def Unit.good (u : Unit) : Prop :=
  encodeText u.text = u.bytes ∧ decodeAll none u.bytes = (u.text, none) ∧ startsStarter u.text = true ∧ startsBase u.text = true

theorem encGood.enc {u : Unit} (h : encGood u) : encodeText u.text = u.bytes := h.1
theorem encGood.starter {u : Unit} (h : encGood u) : startsStarter u.text = true := h.2.1
theorem encGood.base {u : Unit} (h : encGood u) : startsBase u.text = true := h.2.2
theorem Unit.good.enc {u : Unit} (h : u.good) : encodeText u.text = u.bytes := h.1
theorem Unit.good.dec {u : Unit} (h : u.good) : decodeAll none u.bytes = (u.text, none) := h.2.1
theorem Unit.good.starter {u : Unit} (h : u.good) : startsStarter u.text = true := h.2.2.1
theorem Unit.good.base {u : Unit} (h : u.good) : startsBase u.text = true := h.2.2.2

theorem good_encGood {u : Unit} (h : u.good) : encGood u := ⟨h.enc, h.starter, h.base⟩

def goodB (u : Unit) : Bool :=
  decide (encodeText u.text = u.bytes) && decide (decodeAll none u.bytes = (u.text, none)) && startsStarter u.text && startsBase u.text

theorem goodB_iff (u : Unit) : goodB u = true ↔ u.good := by
  simp only [goodB, Unit.good, Bool.and_eq_true, decide_eq_true_eq, and_assoc]

def letters : List Nat := (List.range 26).map (· + 0x41) ++ (List.range 26).map (· + 0x61)
def accents : List Nat := [0xC1, 0xC2, 0xC3, 0xC4, 0xC5, 0xC6, 0xC7, 0xC8, 0xCA, 0xCB, 0xCD, 0xCE, 0xCF]

/-- the byte `encStep` pushes for a character that is not a floating diacritic -/
def baseByte (c : Nat) : Option Nat :=
  match Generated.STL.unicodeInv.lookup c with
  | some b => some b
  | none => if (Generated.STL.diacriticInv.lookup c).isNone then some (c % 256) else none

theorem encStep_base {c b : Nat} (h : baseByte c = some b) (out : Bytes) :
    encStep out c = b :: out ∧
    ((Generated.STL.unicodeInv.lookup c).isSome || (Generated.STL.diacriticInv.lookup c).isNone) = true := by
  unfold baseByte at h
  unfold encStep
  cases hu : Generated.STL.unicodeInv.lookup c with
  | some b' => rw [hu] at h; cases h; exact ⟨rfl, rfl⟩
  | none =>
    rw [hu] at h
    cases hd : Generated.STL.diacriticInv.lookup c with
    | some b' => simp [hd] at h
    | none => simp [hd] at h; subst h; exact ⟨rfl, rfl⟩

theorem baseByte_plain {c : Nat} (h1 : 0x20 ≤ c) (h2 : c < 0x7F) : baseByte c = some c := by
  obtain ⟨e1, e2⟩ := enc_lookup_plain c h2 h1
  have : c % 256 = c := by omega
  simp [baseByte, e1, e2, this]

theorem single_encGood {c b : Nat} (hd : decomp c = [c]) (hc : cccOf c = 0) (hb : baseByte c = some b) :
    encGood ⟨[c], [b]⟩ := by
  have hn : nfd [c] = [c] := by simp [nfd, hd, nfdStep, hc]
  refine ⟨?_, ?_, ?_⟩
  · simp [encodeText, hn, (encStep_base hb []).1]
  · simp [startsStarter, hd, hc]
  · simp only [startsBase, hn]; exact (encStep_base hb []).2

/-- text that decomposes into an ASCII base `l` and a combining mark `m` which the diacritic table sends
    to `a` is written as `a, l`: diacritic first -/
theorem base_mark_encGood {t : List Nat} {l m a : Nat} (hl : l < 0x80) (hb : baseByte l = some l)
    (hflat : t.flatMap decomp = [l, m]) (hc : cccOf m ≠ 0)
    (hu : Generated.STL.unicodeInv.lookup m = none) (hdi : Generated.STL.diacriticInv.lookup m = some a) :
    encGood ⟨t, [a, l]⟩ := by
  have hcl : cccOf l = 0 := by simp [cccOf, hl]
  have hn : nfd t = [l, m] := by simp [nfd, hflat, nfdStep, hcl, hc, insertMark]
  refine ⟨?_, ?_, ?_⟩
  · rw [encodeText, hn, List.foldl_cons, List.foldl_cons, List.foldl_nil, (encStep_base hb []).1]
    simp [encStep, hu, hdi]
  · simp [startsStarter, hflat, hcl]
  · simp only [startsBase, hn]; exact (encStep_base hb []).2

theorem carried_ok : ∀ e ∈ carried, e.2 = [e.2.headD 0] ∧ (keyMask Generated.STL.nfd).testBit (e.2.headD 0) = false ∧
    (keyMask Generated.STL.ccc).testBit (e.2.headD 0) = false ∧ baseByte (e.2.headD 0) = some e.1 := by
  decide +kernel

theorem carried_table {e : Nat × List Nat} (he : e ∈ carried) : e ∈ Generated.STL.cct12336 := (List.mem_filter.mp he).1

theorem carried_get {e : Nat × List Nat} (he : e ∈ carried) : tableGet e.1 = some e.2 :=
  List.lookup_of_mem_of_nodup_keys table_keys_nodup (carried_table he)

theorem carried_not_accent {e : Nat × List Nat} (he : e ∈ carried) : isAccentByte e.1 = false := by
  have h := (List.mem_filter.mp he).2
  simp only [Bool.and_eq_true, Bool.not_eq_true'] at h
  exact h.1.1

theorem char_good {e : Nat × List Nat} (he : e ∈ carried) : (charUnit e).good := by
  have htab := carried_get he
  have hacc := carried_not_accent he
  obtain ⟨hc, h1, h2, h3⟩ := carried_ok e he
  have henc := single_encGood (decomp_of_mask h1) (cccOf_of_mask h2) h3
  unfold charUnit Unit.good
  rw [hc] at htab ⊢
  exact ⟨henc.enc, by simp [decodeAll, decode, htab, hacc], henc.starter, henc.base⟩

theorem nfd_keys_nodup : (Generated.STL.nfd.map (·.1)).Nodup :=
  (nodup_of_freshFold id _ 0 (by decide +kernel)).1

/-- the decompositions that end in the mark `m` -/
def marked (m : Nat) : List (Nat × List Nat) := Generated.STL.nfd.filter fun e => e.2.drop 1 == [m]

/-- the table check on a floating diacritic, `d = (mark, byte)` in the writer's diacritic table: the byte's entry
    is the mark alone, NFD leaves the mark alone, and every composition of an ASCII base with the byte
    decomposes into the base and the mark again -/
theorem marks_ok : ∀ d ∈ Generated.STL.diacriticInv,
    tableGet d.2 = some [d.1] ∧ isAccentByte d.2 = true ∧ cccOf d.1 ≠ 0 ∧
    (keyMask Generated.STL.nfd).testBit d.1 = false ∧ Generated.STL.unicodeInv.lookup d.1 = none ∧
    Generated.STL.diacriticInv.lookup d.1 = some d.2 ∧
    ∀ e ∈ Generated.STL.nfcPairs, e.2.1 = d.2 → e.1 < 0x80 →
      e.2.2 = [e.2.2.headD 0] ∧ 0x80 ≤ e.2.2.headD 0 ∧ (marked d.1).lookup (e.2.2.headD 0) = some [e.1, d.1] := by
  decide +kernel

theorem accents_marks : ∀ a ∈ accents, a ∈ Generated.STL.diacriticInv.map (·.2) := by decide +kernel

theorem letters_range : ∀ l ∈ letters, 0x41 ≤ l ∧ l < 0x7B := by decide

/-- every letter carrying one of the 13 diacritics is a good unit: the reader composes `a, l` into
    `nfcPair l a`, which (composed character or plain pair) decomposes into the letter and the mark -/
theorem accent_good {a l : Nat} (ha : a ∈ accents) (hl : l ∈ letters) : (accentUnit a l).good := by
  obtain ⟨⟨m, a⟩, hd, rfl⟩ := List.mem_map.mp (accents_marks a ha)
  obtain ⟨ht, hacc, hc, hm, hu, hdi, hp⟩ := marks_ok _ hd
  obtain ⟨l1, l2⟩ := letters_range l hl
  have htl : tableGet l = some [l] := table_ascii l (by omega) (by omega) (by omega)
  have hflat : (nfcPair l a).flatMap decomp = [l, m] := by
    unfold nfcPair
    split
    · rename_i e he
      have hk := List.find?_some he
      simp only [Bool.and_eq_true, beq_iff_eq] at hk
      obtain ⟨e1, e2, e3⟩ := hp e (List.mem_of_find?_eq_some he) hk.2 (by omega)
      generalize e.2.2.headD 0 = c at e1 e2 e3
      have := List.lookup_of_mem_of_nodup_keys nfd_keys_nodup (List.mem_filter.mp (List.mem_of_lookup_eq_some e3)).1
      rw [e1, List.flatMap_cons, List.flatMap_nil, List.append_nil, decomp, if_neg (by omega), this, hk.1]
      rfl
    · have : decomp l = [l] := by simp [decomp]; omega
      simp [htl, ht, this, decomp_of_mask hm]
  have henc := base_mark_encGood (by omega) (baseByte_plain (by omega) (by omega)) hflat hc hu hdi
  exact ⟨henc.enc, by simp [accentUnit, decodeAll, decode, ht, hacc, htl], henc.starter, henc.base⟩

/-- **every carried table character survives write → read**: its encoding is the one byte of the
    table, which decodes to it -/
theorem char_roundtrip : ∀ e ∈ carried, encodeText e.2 = [e.1] ∧ decodeAll none [e.1] = (e.2, none) :=
  fun _ he => ⟨(char_good he).enc, (char_good he).dec⟩

/-- **every letter × diacritic pair**: the reader composes `diacritic, letter` into `nfcPair`, the writer
    turns that text back into the same two bytes, diacritic first -/
theorem accent_roundtrip : ∀ a ∈ accents, ∀ l ∈ letters,
    decodeAll none [a, l] = (nfcPair l a, none) ∧ encodeText (nfcPair l a) = [a, l] :=
  fun _ ha _ hl => ⟨(accent_good ha hl).dec, (accent_good ha hl).enc⟩

/-- known finding D22 as a theorem about the tables: `$` is written as 0x24, which reads back as `¤`;
    `¤` is written as 0xA8, which the reader's table does not know -/
theorem currency_not_carried :
    encodeText [0x24] = [0x24] ∧ decodeAll none [0x24] = ([0xA4], none) ∧
    encodeText [0xA4] = [0xA8] ∧ decodeAll none [0xA8] = ([], none) := by
  decide +kernel

theorem insertMark_append (c k s : Nat) (q rest : List Nat) (hs : cccOf s = 0) :
    insertMark c k (q ++ s :: rest) = insertMark c k q ++ s :: rest := by
  induction q with
  | nil => simp [insertMark, hs]
  | cons x xs ih =>
    simp only [List.cons_append, insertMark]
    split
    · rw [ih]; rfl
    · rfl

theorem nfdStep_append (c s : Nat) (q rest : List Nat) (hs : cccOf s = 0) :
    nfdStep (q ++ s :: rest) c = nfdStep q c ++ s :: rest := by
  unfold nfdStep
  simp only
  split
  · rfl
  · exact insertMark_append _ _ _ _ _ hs

theorem nfdFold_append (s : Nat) (l q rest : List Nat) (hs : cccOf s = 0) :
    l.foldl nfdStep (q ++ s :: rest) = l.foldl nfdStep q ++ s :: rest := by
  induction l generalizing q with
  | nil => rfl
  | cons c cs ih => rw [List.foldl_cons, nfdStep_append _ _ _ _ hs, ih, List.foldl_cons]

theorem nfd_eq (t : List Nat) : nfd t = (nfdGo [] t).reverse := rfl

theorem nfdGo_unit (t out : List Nat) (h : startsStarter t = true) : nfdGo out t = nfdGo [] t ++ out := by
  unfold startsStarter at h
  unfold nfdGo
  cases hd : t.flatMap decomp with
  | nil => rw [hd] at h; cases h
  | cons s m =>
    rw [hd] at h
    have hs : cccOf s = 0 := by simpa using h
    have e1 : ∀ o, nfdStep o s = s :: o := by intro o; simp [nfdStep, hs]
    rw [List.foldl_cons, List.foldl_cons, e1, e1]
    have := nfdFold_append s m [] out hs
    have := nfdFold_append s m [] [] hs
    simp_all

theorem nfdGo_append (a b out : List Nat) : nfdGo out (a ++ b) = nfdGo (nfdGo out a) b := by
  unfold nfdGo; rw [List.flatMap_append, List.foldl_append]

theorem encStep_append (c : Nat) (q rest : Bytes) (hq : q ≠ []) : encStep (q ++ rest) c = encStep q c ++ rest := by
  unfold encStep
  cases q with
  | nil => exact absurd rfl hq
  | cons x xs =>
    split
    · rfl
    · split <;> rfl

theorem encStep_ne_nil (c : Nat) (q : Bytes) : encStep q c ≠ [] := by
  unfold encStep
  split
  · simp
  · split
    · cases q <;> simp
    · simp

theorem encFold_append (l : List Nat) (q rest : Bytes) (hq : q ≠ []) :
    l.foldl encStep (q ++ rest) = l.foldl encStep q ++ rest := by
  induction l generalizing q with
  | nil => rfl
  | cons c cs ih => rw [List.foldl_cons, encStep_append _ _ _ hq, ih _ (encStep_ne_nil _ _), List.foldl_cons]

theorem encGo_unit (t : List Nat) (out : Bytes) (h : startsBase t = true) :
    (nfd t).foldl encStep out = (nfd t).foldl encStep [] ++ out := by
  unfold startsBase at h
  cases hd : nfd t with
  | nil => rw [hd] at h; cases h
  | cons s m =>
    rw [hd] at h
    have e1 : ∀ o, encStep o s = encStep [] s ++ o := by
      intro o
      unfold encStep
      cases hu : Generated.STL.unicodeInv.lookup s with
      | some b => rfl
      | none =>
        cases hdi : Generated.STL.diacriticInv.lookup s with
        | some b => simp [hu, hdi] at h
        | none => rfl
    rw [List.foldl_cons, List.foldl_cons, e1 out, encFold_append _ _ _ (encStep_ne_nil _ _)]

theorem nfdGo_units (us : List Unit) (h : ∀ u ∈ us, encGood u) (out : List Nat) :
    (nfdGo out (us.flatMap (·.text))).reverse = out.reverse ++ us.flatMap (fun u => nfd u.text) := by
  induction us generalizing out with
  | nil => simp [nfdGo]
  | cons u us ih =>
    have hu := h u (by simp)
    rw [List.flatMap_cons, nfdGo_append, nfdGo_unit _ _ hu.starter, ih (fun v hv => h v (by simp [hv]))]
    simp [nfd_eq]

theorem nfd_units (us : List Unit) (h : ∀ u ∈ us, encGood u) :
    nfd (us.flatMap (·.text)) = us.flatMap (fun u => nfd u.text) := by
  rw [nfd_eq, nfdGo_units us h []]; simp

theorem encGo_units (us : List Unit) (h : ∀ u ∈ us, encGood u) (out : Bytes) :
    ((us.flatMap (fun u => nfd u.text)).foldl encStep out).reverse = out.reverse ++ us.flatMap (fun u => encodeText u.text) := by
  induction us generalizing out with
  | nil => simp
  | cons u us ih =>
    have hu := h u (by simp)
    rw [List.flatMap_cons, List.foldl_append, encGo_unit _ _ hu.base, ih (fun v hv => h v (by simp [hv]))]
    simp [encodeText]

theorem encodeText_units (us : List Unit) (h : ∀ u ∈ us, encGood u) :
    encodeText (us.flatMap (·.text)) = us.flatMap (·.bytes) := by
  have := encGo_units us h []
  rw [encodeText, nfd_units us h, this, List.reverse_nil, List.nil_append]
  rw [List.flatMap_def, List.flatMap_def, List.map_congr_left fun u hu => (h u hu).enc]

theorem decodeAll_append (a b : Bytes) (acc : Option Nat) :
    decodeAll acc (a ++ b) = ((decodeAll acc a).1 ++ (decodeAll (decodeAll acc a).2 b).1, (decodeAll (decodeAll acc a).2 b).2) := by
  induction a generalizing acc with
  | nil => simp [decodeAll]
  | cons k ks ih => simp [decodeAll, ih, List.append_assoc]

/-- **Text round trip, every text over the repertoire.** For any sequence of units — table characters and
    letters carrying one diacritic — the writer emits exactly the units' bytes and the reader turns them
    back into the same text, with no diacritic left pending -/
theorem text_roundtrip (us : List Unit) (h : ∀ u ∈ us, u.good) :
    encodeText (us.flatMap (·.text)) = us.flatMap (·.bytes) ∧
    decodeAll none (us.flatMap (·.bytes)) = (us.flatMap (·.text), none) := by
  refine ⟨encodeText_units us fun u hu => good_encGood (h u hu), ?_⟩
  induction us with
  | nil => rfl
  | cons u us ih =>
    rw [List.flatMap_cons, List.flatMap_cons, decodeAll_append, (h u (by simp)).dec]
    simp only
    rw [ih (fun v hv => h v (by simp [hv]))]

/-- the units of the Latin repertoire: a carried table character, or a letter with one floating diacritic -/
inductive RepUnit : Unit → Prop
  | ch (e : Nat × List Nat) (h : e ∈ carried) : RepUnit (charUnit e)
  | acc (a l : Nat) (ha : a ∈ accents) (hl : l ∈ letters) : RepUnit (accentUnit a l)

theorem repUnit_good {u : Unit} (h : RepUnit u) : u.good := by
  cases h with
  | ch e he => exact char_good he
  | acc a l ha hl => exact accent_good ha hl

/-- repertoire text: the concatenation of repertoire units -/
def RepText (t : List Nat) : Prop := ∃ us : List Unit, (∀ u ∈ us, RepUnit u) ∧ t = us.flatMap (·.text)

/-- **C05 text.** Every text made of repertoire units — in any order and of any length — is written as
    the concatenation of the units' bytes (diacritic before its letter) and read back unchanged -/
theorem repertoire_roundtrip (us : List Unit) (h : ∀ u ∈ us, RepUnit u) :
    encodeText (us.flatMap (·.text)) = us.flatMap (·.bytes) ∧
    decodeAll none (encodeText (us.flatMap (·.text))) = (us.flatMap (·.text), none) := by
  have := text_roundtrip us fun u hu => repUnit_good (h u hu)
  exact ⟨this.1, by rw [this.1]; exact this.2⟩

/-- printable ASCII without `$` (0x24 is `¤` in ISO 6937, known finding D22) -/
def plain (c : Nat) : Prop := 0x20 ≤ c ∧ c < 0x7F ∧ c ≠ 0x24

theorem nfd_fold_plain (s : List Nat) (hs : ∀ c ∈ s, c < 0x80) (out : List Nat) :
    s.foldl nfdStep out = s.reverse ++ out := by
  induction s generalizing out with
  | nil => simp
  | cons c cs ih =>
    have hc : c < 0x80 := hs c (by simp)
    have : nfdStep out c = c :: out := by simp [nfdStep, cccOf, hc]
    rw [List.foldl_cons, this, ih (fun y hy => hs y (by simp [hy]))]
    simp

theorem flatMap_decomp_plain (s : List Nat) (hs : ∀ c ∈ s, c < 0x80) : s.flatMap decomp = s := by
  induction s with
  | nil => simp
  | cons c cs ih =>
    have hc : c < 0x80 := hs c (by simp)
    simp [List.flatMap_cons, decomp, hc, ih (fun y hy => hs y (by simp [hy]))]

theorem nfd_plain (s : List Nat) (hs : ∀ c ∈ s, c < 0x80) : nfd s = s := by
  unfold nfd
  rw [flatMap_decomp_plain s hs, nfd_fold_plain s hs]
  simp

theorem plain_unit {c : Nat} (h : plain c) : RepUnit (charUnit (c, [c])) := by
  obtain ⟨h1, h2, h3⟩ := h
  refine RepUnit.ch _ (List.mem_filter.2 ⟨List.mem_of_lookup_eq_some (table_ascii c h2 h1 h3), ?_⟩)
  simp [isAccentByte]; omega

theorem plain_units (s : List Nat) (hs : ∀ c ∈ s, plain c) :
    ∃ us : List Unit, (∀ u ∈ us, RepUnit u) ∧ us.flatMap (·.text) = s ∧ us.flatMap (·.bytes) = s := by
  refine ⟨s.map fun c => charUnit (c, [c]), fun u hu => ?_, ?_, ?_⟩
  · obtain ⟨c, hc, rfl⟩ := List.mem_map.mp hu
    exact plain_unit (hs c hc)
  · simp [List.flatMap_map, charUnit]
  · simp [List.flatMap_map, charUnit]

/-- **Writer, ASCII.** Printable ASCII text is written byte for byte -/
theorem encodeText_plain (s : List Nat) (hs : ∀ c ∈ s, plain c) : encodeText s = s := by
  obtain ⟨us, hu, ht, hb⟩ := plain_units s hs
  have := (repertoire_roundtrip us hu).1
  rwa [ht, hb] at this

/-- **Reader, ASCII.** … and read back character for character, with no diacritic left pending -/
theorem decodeAll_plain (s : List Nat) (hs : ∀ c ∈ s, plain c) : decodeAll none s = (s, none) := by
  obtain ⟨us, hu, ht, hb⟩ := plain_units s hs
  have := (text_roundtrip us fun u h => repUnit_good (hu u h)).2
  rwa [ht, hb] at this

/-- **Text round trip (ASCII), for every text**: `decode (encode t) = t` -/
theorem text_roundtrip_plain (s : List Nat) (hs : ∀ c ∈ s, plain c) :
    decodeAll none (encodeText s) = (s, none) := by
  rw [encodeText_plain s hs, decodeAll_plain s hs]

/-- a byte the row loop hands to the character decoder: not a C0 control, not a style code -/
def textByte (b : Nat) : Prop := 0x20 ≤ b ∧ ¬ (0x80 ≤ b ∧ b ≤ 0x85)

theorem stlCode_none (s : LSty) (v : Nat) (h : ¬ (0x80 ≤ v ∧ v ≤ 0x85)) : stlCode s v = none := by
  unfold stlCode
  have : ¬ v = 0x80 ∧ ¬ v = 0x81 ∧ ¬ v = 0x82 ∧ ¬ v = 0x83 ∧ ¬ v = 0x84 ∧ ¬ v = 0x85 := by omega
  simp [this.1, this.2.1, this.2.2.1, this.2.2.2.1, this.2.2.2.2.1, this.2.2.2.2.2]

theorem openStep_text (st : RowSt) (v : Nat) (h : textByte v) :
    openStep st v = some { st with text := st.text ++ str (decode st.acc v).1, acc := (decode st.acc v).2 } := by
  have hlo : ¬ v ≤ 0x1F := by unfold textByte at h; omega
  unfold openStep
  simp only [hlo, if_false, stlCode_none st.sty v h.2]

theorem openFold_text (bs : Bytes) (h : ∀ b ∈ bs, textByte b) (st : RowSt) :
    openFold st bs = some { st with text := st.text ++ str (decodeAll st.acc bs).1, acc := (decodeAll st.acc bs).2 } := by
  induction bs generalizing st with
  | nil => cases st; simp [openFold, decodeAll, str]
  | cons v vs ih =>
    rw [openFold, openStep_text st v (h v (by simp))]
    simp only
    rw [ih (fun b hb => h b (by simp [hb]))]
    simp [decodeAll, str, List.append_assoc]

theorem openFold_plain (row : Bytes) (hs : ∀ c ∈ row, plain c) (st : RowSt) (hacc : st.acc = none) :
    openFold st row = some { st with text := st.text ++ str row, acc := none } := by
  rw [openFold_text row (fun b hb => by have := hs b hb; unfold plain at this; unfold textByte; omega), hacc,
    decodeAll_plain row hs]

/-- **Rows, ASCII.** A row of printable ASCII (not blank) is read as one line with one run: the text
    with the blanks at both ends removed, no style attribute set -/
theorem openRow_plain (row : Bytes) (hs : ∀ c ∈ row, plain c) (hnb : trimSpace (str row) ≠ []) :
    openRow none row = some (some { items := [{ text := trimSpace (str row), attrs := some (mkAttrs (stlAttrs {})) }] }, none) := by
  unfold openRow
  rw [openFold_plain row hs _ rfl]
  simp [appendOpen, hnb]

theorem padR_length (f n : Nat) (s : Bytes) : (padR f n s).length = n := by
  unfold padR; simp; omega

theorem padL_length (f n : Nat) (s : Bytes) : (padL f n s).length = n := by
  unfold padL; simp; omega

theorem padR_fit (f n : Nat) (s : Bytes) (h : s.length ≤ n) : padR f n s = s ++ List.replicate (n - s.length) f := by
  unfold padR
  apply List.take_of_length_le
  simp; omega

theorem num_length (w : Nat) (v : Int) : (num w v).length = w := padL_length _ _ _

theorem gsiBytes_length (g : WGSI) : (gsiBytes g).length = 1024 := by
  unfold gsiBytes
  simp only [List.length_append, padR_length, num_length, List.length_replicate, List.length_cons, List.length_nil]

theorem formatSTLBytes_length (t : Int) (fr : Nat) : (Duration.formatSTLBytes t fr).length = 4 := by
  unfold Duration.formatSTLBytes; simp

theorem ttiBytes_length (g : WGSI) (k : Nat) (c : WCue) : (ttiBytes g k c).length = 128 := by
  unfold ttiBytes
  simp [padR_length, formatSTLBytes_length]

theorem flatten_const_length {α} (l : List α) (f : α → Bytes) (n : Nat) (h : ∀ a, (f a).length = n) :
    ((l.map f).flatten).length = n * l.length := by
  induction l with
  | nil => simp
  | cons a as ih => simp [h a, ih, Nat.mul_succ]; omega

theorem body_length (g : WGSI) (cues : List (WCue × Nat)) :
    (gsiBytes g ++ (cues.map fun (c, k) => ttiBytes g (k + 1) c).flatten).length = 1024 + 128 * cues.length := by
  rw [List.length_append, gsiBytes_length,
    flatten_const_length cues (fun (c, k) => ttiBytes g (k + 1) c) 128 (fun ⟨c, k⟩ => ttiBytes_length g (k + 1) c)]

theorem write_body_of_ok {now : Date} {md : Option Meta} {cues : List WCue} {b : Bytes} (hw : write now md cues = .ok b) :
    b = writeBody now md cues := by
  unfold write at hw
  split at hw
  · cases hw
  · split at hw
    · cases hw
    · exact (Res.ok.inj hw).symm

/-- **Framing.** A written file is one 1024-byte GSI block plus one 128-byte TTI block per cue -/
theorem write_length (now : Date) (md : Option Meta) (cues : List WCue) (b : Bytes)
    (h : write now md cues = .ok b) : b.length = 1024 + 128 * cues.length := by
  rw [write_body_of_ok h, writeBody, body_length, List.length_zipIdx]

theorem write_empty (now : Date) (md : Option Meta) : write now md [] = .err := by
  unfold write; simp

/-- **User data.** A TTI block with extension block number 0xFE produces no cue and leaves the
    character handler alone -/
theorem userdata_skipped (g : GSI) (off : Int) (acc : Option Nat) (p : Bytes) (h : p.getD 3 0 = 0xFE) :
    ttiItem g off acc p = some (none, acc) := by
  have hc : (p.getD 3 0 == 0xFE) = true := by rw [h]; rfl
  unfold ttiItem
  rw [if_pos hc]

theorem splitRows_cons_ne (x : Nat) (xs : Bytes) (h : x ≠ 0x8A) :
    splitRows (x :: xs) = (match splitRows xs with | [] => [[x]] | r :: t => (x :: r) :: t) := by
  conv => lhs; unfold splitRows
  have : (x == 0x8A) = false := by simpa using h
  simp only [this]
  rfl

theorem splitRows_append (r : Bytes) (rest : Bytes) (hr : ∀ x ∈ r, x ≠ 0x8A) :
    splitRows (r ++ 0x8A :: rest) = r :: splitRows rest := by
  induction r with
  | nil => conv => lhs; unfold splitRows
           simp
  | cons x xs ih =>
    have hx : x ≠ 0x8A := hr x (by simp)
    rw [List.cons_append, splitRows_cons_ne _ _ hx, ih (fun y hy => hr y (by simp [hy]))]

theorem splitRows_single (r : Bytes) (hr : ∀ x ∈ r, x ≠ 0x8A) : splitRows r = [r] := by
  induction r with
  | nil => rfl
  | cons x xs ih =>
    have hx : x ≠ 0x8A := hr x (by simp)
    rw [splitRows_cons_ne _ _ hx, ih (fun y hy => hr y (by simp [hy]))]

/-- **Rows.** Splitting at the line-break code inverts the writer's join of the rows -/
theorem splitRows_join (rows : List Bytes) (hne : rows ≠ []) (h : ∀ r ∈ rows, ∀ x ∈ r, x ≠ 0x8A) :
    splitRows (joinN [0x8A] rows) = rows := by
  induction rows with
  | nil => exact absurd rfl hne
  | cons r rs ih =>
    cases rs with
    | nil => simpa [joinN] using splitRows_single r (h r (by simp))
    | cons r2 rs' =>
      have : joinN [0x8A] (r :: r2 :: rs') = r ++ 0x8A :: joinN [0x8A] (r2 :: rs') := by simp [joinN]
      rw [this, splitRows_append r _ (h r (by simp)), ih (by simp) (fun r' hr' => h r' (by simp [hr']))]

/-- a graphic ASCII byte (printable, not the space) -/
def graphic (b : Nat) : Prop := 0x21 ≤ b ∧ b ≤ 0x7E

theorem wsLen_graphic (b : Nat) (r : Bytes) (h : graphic b) : wsLen (b :: r) = 0 := by
  obtain ⟨h1, h2⟩ := h
  have : ¬ b = 0x20 ∧ ¬ b ≤ 0x0D ∧ ¬ b = 0xC2 ∧ ¬ b = 0xE1 ∧ ¬ b = 0xE2 ∧ ¬ b = 0xE3 := by omega
  simp [wsLen, asciiSpace, this]

theorem wsLenR_graphic (b : Nat) (r : Bytes) (h : graphic b) : wsLenR (b :: r) = 0 := by
  obtain ⟨h1, h2⟩ := h
  have : ¬ b = 0x20 ∧ ¬ b ≤ 0x0D ∧ ¬ b = 0x85 ∧ ¬ b = 0xA0 ∧ ¬ b = 0x80 ∧ ¬ b = 0x9F ∧ ¬ b = 0xA8 ∧ ¬ b = 0xA9 ∧
      ¬ b = 0xAF ∧ ¬ 0x80 ≤ b := by omega
  rcases r with _ | ⟨c, _ | ⟨d, rest⟩⟩ <;> simp [wsLenR, asciiSpace, this]

theorem wsLen_space (r : Bytes) : wsLen (0x20 :: r) = 1 := by simp [wsLen, asciiSpace]
theorem wsLenR_space (r : Bytes) : wsLenR (0x20 :: r) = 1 := by simp [wsLenR, asciiSpace]

theorem trimWith_spaces (f : Bytes → Nat) (hf : ∀ r, f (0x20 :: r) = 1) (k fuel : Nat) (y : Bytes) (h : k ≤ fuel) :
    trimWith f fuel (List.replicate k 0x20 ++ y) = trimWith f (fuel - k) y := by
  induction k generalizing fuel with
  | zero => simp
  | succ k ih =>
    cases fuel with
    | zero => omega
    | succ fuel =>
      simp only [List.replicate_succ, List.cons_append, trimWith, hf]
      simp only [Nat.reduceBEq, Bool.false_eq_true, if_false, List.drop_one, List.tail_cons]
      rw [ih fuel (by omega)]
      congr 1
      omega

theorem trimWith_stop (f : Bytes → Nat) (fuel : Nat) (y : Bytes) (h : f y = 0) : trimWith f fuel y = y := by
  cases fuel with
  | zero => rfl
  | succ n => simp [trimWith, h]

theorem trimWith_nil (f : Bytes → Nat) (fuel : Nat) : trimWith f fuel [] = [] := by
  cases fuel with
  | zero => rfl
  | succ n =>
    simp only [trimWith]
    split
    · rfl
    · simp; exact trimWith_nil f n

/-- **GSI text fields.** A value that starts and ends with a graphic ASCII character (anything in
    between), padded with blanks to the width of its field by the writer, is read back unchanged by the
    reader's `TrimSpace`; the empty value too -/
theorem field_roundtrip (s : Bytes) (n : Nat) (hn : s.length ≤ n)
    (hfirst : ∀ b, s.head? = some b → graphic b) (hlast : ∀ b, s.getLast? = some b → graphic b) :
    trimB (padR 0x20 n s) = s := by
  rw [padR_fit _ _ _ hn]
  cases s with
  | nil =>
    simp only [List.nil_append, List.length_nil, Nat.sub_zero]
    unfold trimB trimLeftB
    have := trimWith_spaces wsLen wsLen_space n (List.replicate n 0x20).length [] (by simp)
    simp only [List.append_nil] at this
    rw [this, trimWith_nil]
    rfl
  | cons a s' =>
    have ha : graphic a := hfirst a rfl
    unfold trimB
    have hl : trimLeftB (a :: s' ++ List.replicate (n - (a :: s').length) 0x20) = a :: s' ++ List.replicate (n - (a :: s').length) 0x20 := by
      unfold trimLeftB
      exact trimWith_stop _ _ _ (by rw [List.cons_append]; exact wsLen_graphic a _ ha)
    rw [hl]
    unfold trimRightB
    rw [List.reverse_append, List.reverse_replicate]
    obtain ⟨z, zs, hz⟩ : ∃ z zs, (a :: s').reverse = z :: zs := by
      cases h : (a :: s').reverse with
      | nil => simp at h
      | cons z zs => exact ⟨z, zs, rfl⟩
    have hzg : graphic z := by
      apply hlast z
      rw [List.getLast?_eq_head?_reverse, hz]; rfl
    rw [trimWith_spaces wsLenR wsLenR_space _ _ _ (by simp; omega), hz, trimWith_stop _ _ _ (wsLenR_graphic z zs hzg), ← hz]
    simp

theorem trimB_id (s : Bytes) (hfirst : ∀ b, s.head? = some b → graphic b) (hlast : ∀ b, s.getLast? = some b → graphic b) :
    trimB s = s := by
  have := field_roundtrip s s.length (Nat.le_refl _) hfirst hlast
  have hp : padR 0x20 s.length s = s := by unfold padR; simp
  rwa [hp] at this

theorem ofNat_digit {k : Nat} (h : k < 10) : Char.ofNat (digitChar k).toNat = digitChar k := by
  rcases digitChar_lt h with h|h|h|h|h|h|h|h|h|h <;> subst h <;> decide

instance (b : Nat) : Decidable (graphic b) := by unfold graphic; infer_instance

theorem digit_graphic {k : Nat} (h : k < 10) : graphic (digitChar k).toNat := by
  rcases digitChar_lt h with h|h|h|h|h|h|h|h|h|h <;> subst h <;> decide

theorem num2_dd (v : Nat) (h : v < 100) : num 2 (v : Int) = ascii (dd v) := by
  unfold num padL
  have hi : itoa (v : Int) = itoaNat v := by unfold itoa; simp
  rw [hi]
  by_cases h1 : v < 10
  · have e1 : v / 10 = 0 := by omega
    have e2 : v % 10 = v := by omega
    simp [itoaNat_lt10 h1, dd, ascii, e1, e2, digitChar]
  · simp [itoaNat_lt100 (by omega) h, dd, ascii]

/-- **GSI two-digit numbers** (revision number, maximum rows / characters): what the writer emits for
    `0 ≤ v < 100` is read back as `v` -/
theorem num2_roundtrip (v : Nat) (h : v < 100) : atoiField (trimB (num 2 (v : Int))) = some (some (v : Int)) := by
  rw [num2_dd v h]
  have hg1 : graphic (digitChar (v / 10)).toNat := digit_graphic (by omega)
  have hg2 : graphic (digitChar (v % 10)).toNat := digit_graphic (by omega)
  rw [trimB_id]
  · have hc : chars (ascii (dd v)) = dd v := by
      simp only [chars, ascii, dd, List.map_cons, List.map_nil]
      rw [ofNat_digit (by omega), ofNat_digit (by omega)]
    have hne : (ascii (dd v)).isEmpty = false := by simp [ascii, dd]
    unfold atoiField
    rw [hne, hc, atoi_dd h]
    rfl
  · intro b hb; simp [ascii, dd] at hb; rw [← hb]; exact hg1
  · intro b hb; simp [ascii, dd] at hb; rw [← hb]; exact hg2

/-- **Read then write changes no timecode**, both frame rates, every instant below 24 h, any
    programme-start offset (subtracted by the reader, added back by the writer, `ttiBytes`) -/
theorem rewrite_timecode (T off : Int) (fr : Nat) (hfr : fr = 25 ∨ fr = 30) (h0 : 0 ≤ T) (h1 : T < 86400000000000) :
    Duration.formatSTLBytes ((Duration.parseSTLBytes true (Duration.formatSTLBytes T fr) fr - off) + off) fr
      = Duration.formatSTLBytes T fr := by
  have : Duration.parseSTLBytes true (Duration.formatSTLBytes T fr) fr - off + off
      = Duration.parseSTLBytes true (Duration.formatSTLBytes T fr) fr := by omega
  rw [this]
  exact (C16.stl_bytes_rewrite T fr hfr h0 h1).1

theorem timecode_fields (T : Int) (fr : Nat) (hfr : fr = 25 ∨ fr = 30) (h0 : 0 ≤ T) (h1 : T < 86400000000000) :
    ∃ h m s f, Duration.formatSTLBytes T fr = [h, m, s, f] ∧ h < 24 ∧ m < 60 ∧ s < 60 ∧ f < fr :=
  (C16.stl_bytes_rewrite T fr hfr h0 h1).2

/-- vertical position: under the teletext display standards the byte written is within 1–23 -/
theorem vp_teletext (vp : Int) (dsc : Bytes) (h : dsc = [0x31] ∨ dsc = [0x32]) :
    1 ≤ vpByte vp dsc ∧ vpByte vp dsc ≤ 23 := by
  unfold vpByte
  rcases h with rfl | rfl <;> simp <;> split <;> split <;> omega

theorem vpByte_open (vp : Int) : vpByte vp [0x30] = (vp % 256).toNat := by
  unfold vpByte
  have c1 : (([0x30] : Bytes) == [0x31] || ([0x30] : Bytes) == [0x32]) = false := by decide
  simp only [c1, Bool.and_false, Bool.false_eq_true, if_false]

/-- justification: what the writer emits is read back as the same justification -/
theorem justification_roundtrip : ∀ j : Fin 5, j.val ≠ 0 → justOf (justCode (some (j.val : Int))) = j.val := by
  decide

end C05
end Astisub
