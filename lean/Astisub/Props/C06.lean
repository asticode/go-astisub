import Astisub.Model.Teletext
import Astisub.Spec.Teletext

/-!
# C06 — Teletext in MPEG-TS: component laws

`Teletext.*` models `teletext.go` from the demultiplexer's data upward, after fix-1 … fix-8: the eight `fix:` commits
to `teletext.go` of go-astisub that DESIGN.md §0.3 lists for C06 (`Model/Teletext.lean` marks fix-2 and fix-4 … fix-8 where
they act; fix-1 is the optional triplets behind `tripletOf`, fix-3 the `Data.nil` case that `readLoop` skips);
`Spec.Teletext.*` is the independent decoder with its own Hamming 8/4 / odd parity coders.  Proved here, for
**all** inputs of the stated class:

* coding tables (regenerated from the running package): every Hamming 8/4 codeword of the independent encoder
  is decoded to its data bits, also with any single bit inverted; the model's decoder extends the
  specification's exact decoder; a character sent with odd parity is stored as itself, with any single bit
  inverted it is stored as the invalid character, which yields no text and leaves a row's state unchanged;
  bit reversal is an involution and is the same function in model and specification;
* character tables: the national option positions are inside G0 and are the thirteen positions of
  ETS 300 706; every entry of `teletextCharsets` has a G0 set (no nil dereference in `updateCharset`), its
  indexes are valid, every G0 has 96 and every national sub-set 13 entries; outside the national positions
  the Latin G0 is ASCII; for every designation the package knows, the model's patched table and the
  specification's direct look-up give the same character for every code 0x20..0x7f;
* rows: a boxed row of characters is one run holding the decoded text, trimmed (row text law); text before
  the start box contributes nothing;
* immunity: non-subtitle data units, data units shorter than a teletext packet, packets with a wrong framing
  code, row / enhancement packets of other magazines, non-EBU PES payloads and stuffing units never change
  the page buffer; with a page selected, a header of another page met while nothing is being received changes nothing either.

The whole-stream statement (one cue per non-empty instance, times, rows in order) is proved in `Props/C06doc.lean`
for every stream of the independent decoder's class (`C06.stream`, `stream_view`, `read_view`); the `teletext.read` /
`teletext.pes` streams decide it on every run against the implementation and the harness' ground truth.
-/

namespace Astisub
namespace C06
open Go Teletext Generated.Teletext

/-- invert bit `k` of a byte -/
def flipBit (b k : Nat) : Nat := if b / 2 ^ k % 2 = 1 then b - 2 ^ k else b + 2 ^ k

theorem C06_hamming : ∀ n, n < 16 → hammingDecode (Spec.Teletext.reverseBits (Spec.Teletext.hammingEncode n)) = some n := by
  decide +kernel

theorem C06_hamming_single_error :
    ∀ n, n < 16 → ∀ k, k < 8 → hammingDecode (flipBit (Spec.Teletext.reverseBits (Spec.Teletext.hammingEncode n)) k) = some n := by
  decide +kernel

/-- the library's decoder extends the specification's exact decoder -/
theorem C06_hamming_extends : ∀ b, b < 256 → ∀ n, Spec.Teletext.hammingExact b = some n → hammingDecode b = some n := by
  have h : ∀ b, b < 256 → Spec.Teletext.hammingExact b = none ∨ hammingDecode b = Spec.Teletext.hammingExact b := by
    decide +kernel
  intro b hb n hn
  rcases h b hb with h | h
  · rw [hn] at h; cases h
  · rw [h, hn]

theorem C06_reverse8_involutive : ∀ b, b < 256 → reverse8 (reverse8 b) = b := by decide +kernel

theorem reverse8_eq (b : Nat) : reverse8 b = Spec.Teletext.reverseBits b := by
  simp only [reverse8, Spec.Teletext.reverseBits, Spec.Teletext.bit, Nat.reducePow, Nat.div_one]

theorem C06_reverse8_spec : ∀ b, b < 256 → reverse8 b = Spec.Teletext.reverseBits b := fun b _ => reverse8_eq b

theorem parityTab_ones : parityTab = (List.range 256).map fun b => decide (Spec.Teletext.ones b % 2 = 1) := by
  decide +kernel

/-- model and specification agree on every received value, bytes or not: `reverse8` yields a byte, where the table is the
    specification's bit count -/
theorem storeChar_parityDecode (b : Nat) :
    storeChar b = (match Spec.Teletext.parityDecode b with | some c => c | none => invalidChar) := by
  have hlt : reverse8 b < 256 := by unfold reverse8; omega
  have htab : parityTab.getD (reverse8 b) false = decide (Spec.Teletext.ones (reverse8 b) % 2 = 1) := by
    rw [parityTab_ones, List.getD_eq_getElem?_getD, List.getElem?_map, List.getElem?_range hlt]; rfl
  unfold storeChar byteParity Spec.Teletext.parityDecode
  simp only [htab, ← reverse8_eq]
  split <;> simp_all

theorem C06_parity : ∀ c, c < 128 →
    storeChar (Spec.Teletext.parityEncode c) = c ∧ Spec.Teletext.parityDecode (Spec.Teletext.parityEncode c) = some c := by
  have h : ∀ c, c < 128 → Spec.Teletext.parityDecode (Spec.Teletext.parityEncode c) = some c := by decide +kernel
  exact fun c hc => ⟨by rw [storeChar_parityDecode, h c hc], h c hc⟩

theorem C06_parity_single_error : ∀ c, c < 128 → ∀ k, k < 8 →
    storeChar (flipBit (Spec.Teletext.parityEncode c) k) = invalidChar ∧
    Spec.Teletext.parityDecode (flipBit (Spec.Teletext.parityEncode c) k) = none := by
  have h : ∀ c, c < 128 → ∀ k, k < 8 → Spec.Teletext.parityDecode (flipBit (Spec.Teletext.parityEncode c) k) = none := by
    decide +kernel
  exact fun c hc k hk => ⟨by rw [storeChar_parityDecode, h c hc k hk], h c hc k hk⟩

/-- model and specification agree on every received byte: stored value = decoded character, invalid = parity failure -/
theorem C06_parity_agree : ∀ b, b < 256 →
    storeChar b = (match Spec.Teletext.parityDecode b with | some c => c | none => invalidChar) :=
  fun b _ => storeChar_parityDecode b

theorem C06_invalid_no_text (c : Charset) : decodeChar c invalidChar = [] := by
  simp [decodeChar, invalidChar]

theorem C06_national_in_range : ∀ p ∈ positions, p < 96 := by decide

theorem C06_national_positions : positions.map (· + 0x20) = Spec.Teletext.nationalPositions := by decide

def entryOk (e : Nat × Nat × Option Nat × Option Nat) : Bool :=
  (match e.2.2.1 with | some g => decide (g < g0Tables.length) | none => false) &&
  (match e.2.2.2 with | some n => decide (n < natTables.length) | none => true)

/-- every entry of `teletextCharsets` has a G0 set (no nil dereference in `updateCharset`) and valid table indexes -/
theorem C06_charsets_total : ∀ e ∈ charsets, entryOk e = true := by
  decide

theorem lookupCharset_mem (key code : Nat) (x : Option Nat × Option Nat) (h : lookupCharset key code = some x) :
    ∃ e ∈ charsets, e.1 = key ∧ e.2.1 = code ∧ e.2.2 = x := by
  unfold lookupCharset at h
  cases hf : charsets.find? (fun e => e.1 == key && e.2.1 == code) with
  | none => simp [hf] at h
  | some e =>
    simp [hf] at h
    have hm := List.mem_of_find?_eq_some hf
    have hp := List.find?_some hf
    simp at hp
    exact ⟨e, hm, hp.1, hp.2, h⟩

theorem C06_default_valid : defaultG0 < g0Tables.length := by decide

theorem C06_g0_rows : ∀ t ∈ g0Tables, t.length = 96 := by decide +kernel

theorem C06_national_rows : ∀ t ∈ natTables, t.length = 13 := by decide

/-- outside the national option positions, the Latin G0 set is ASCII -/
theorem C06_latin_ascii : ∀ c, 0x20 ≤ c → c < 0x7f → c ∉ Spec.Teletext.nationalPositions →
    (g0Tables.getD defaultG0 []).getD (c - 0x20) [] = [c] := by
  have h : ∀ c, c < 0x7f → 0x20 ≤ c → c ∉ Spec.Teletext.nationalPositions → (g0Tables.getD defaultG0 []).getD (c - 0x20) [] = [c] := by
    decide +kernel
  intro c h1 h2 h3
  exact h c h2 h1 h3

theorem mask_bit (j : Nat) : Nat.testBit 0x3f80 j = (decide (7 ≤ j) && decide (j < 14)) := by
  by_cases h : j < 14
  · have : ∀ j, j < 14 → Nat.testBit 0x3f80 j = (decide (7 ≤ j) && decide (j < 14)) := by decide
    exact this j h
  · have : 0x3f80 < 2 ^ j := Nat.lt_of_lt_of_le (by decide : 0x3f80 < 2 ^ 14) (Nat.pow_le_pow_right (by decide) (by omega))
    rw [Nat.testBit_lt_two_pow this]; simp [h]

/-- the table key `updateCharset` computes from a triplet is the designation the specification reads: bits 10..13 -/
theorem C06_key_of_triplet (t : Nat) : keyOf t = t / 1024 % 16 := by
  unfold keyOf
  have : (0x3f80 : Nat) >>> 10 = 2 ^ 4 - 1 := by decide
  rw [Nat.shiftRight_and_distrib, this, Nat.and_two_pow_sub_one_eq_mod, Nat.shiftRight_eq_div_pow]
  omega

theorem patchNational_getElem? : ∀ (ps : List Nat) (vs : List Str) (c : Charset) (i : Nat),
    ps.Nodup → (∀ p ∈ ps, p < c.length) → ps.length ≤ vs.length →
    (patchNational c ps vs)[i]? = match ps.idxOf? i with | some k => vs[k]? | none => c[i]?
  | [], vs, c, i, _, _, _ => by cases vs <;> rfl
  | _ :: _, [], _, _, _, _, hl => by simp at hl
  | p :: ps, v :: vs, c, i, hn, hp, hl => by
    have hn' := List.nodup_cons.mp hn
    rw [patchNational, patchNational_getElem? ps vs _ i hn'.2 (fun q hq => by simpa using hp q (by simp [hq])) (by simpa using hl),
      List.idxOf?_cons]
    by_cases h : p = i
    · subst h
      simp [List.idxOf?_eq_none_iff.mpr hn'.1, hp p (by simp)]
    · have : (p == i) = false := by simpa using h
      simp only [this, List.getElem?_set, h, if_false]
      cases ps.idxOf? i <;> simp

theorem idxOf?_map_add (n : Nat) : ∀ (l : List Nat) (i : Nat), (l.map (· + n)).idxOf? (i + n) = l.idxOf? i
  | [], _ => rfl
  | a :: l, i => by simp [List.idxOf?_cons, idxOf?_map_add n l i]

theorem positions_nodup : positions.Nodup := by decide

theorem getD_mem {α} (l : List α) (i : Nat) (d : α) (h : i < l.length) : l.getD i d ∈ l := by
  rw [List.getD_eq_getElem?_getD, List.getElem?_eq_getElem h]; exact List.getElem_mem h

theorem decodeChar_printable (c : Charset) (v : Nat) (h1 : 0x20 ≤ v) (h2 : v < 0x80) :
    decodeChar c v = c.getD (v - 0x20) [] := by
  have : ¬ (v < 0x20 ∨ v > 0x7f) := by omega
  simp [decodeChar, this]

theorem charOf_plain (G : List (List Nat)) (hG : G.length = 96) (v : Nat) (h1 : 0x20 ≤ v) (h2 : v < 0x80) :
    (G[v - 0x20]?).map (·.map Char.ofNat) = some (decodeChar (toCharset G) v) := by
  have hi : v - 0x20 < G.length := by omega
  simp [decodeChar_printable _ v h1 h2, toCharset, hi]

/-- a G0 table with a national option sub-set: the specification finds the code among the national positions and reads
    the sub-set; the decoder reads the copy of G0 that the patch loop has overwritten at those positions -/
theorem charOf_patched (G N : List (List Nat)) (hG : G.length = 96) (hN : N.length = 13) (v : Nat) (h1 : 0x20 ≤ v) (h2 : v < 0x80) :
    (match (Spec.Teletext.nationalPositions.idxOf? v).bind fun k => N[k]? with
      | some cs => some (cs.map Char.ofNat)
      | none => (G[v - 0x20]?).map (·.map Char.ofNat)) =
    some (decodeChar (patchNational (toCharset G) positions (toCharset N)) v) := by
  have hi : v - 0x20 < G.length := by omega
  have hidx : Spec.Teletext.nationalPositions.idxOf? v = positions.idxOf? (v - 0x20) := by
    rw [← C06_national_positions, ← idxOf?_map_add 0x20 positions (v - 0x20), Nat.sub_add_cancel h1]
  rw [decodeChar_printable _ v h1 h2, List.getD_eq_getElem?_getD, hidx, patchNational_getElem? _ _ _ _ positions_nodup
    (fun p hp => by simpa [toCharset, hG] using C06_national_in_range p hp) (by simp [toCharset, hN, positions])]
  cases hp : positions.idxOf? (v - 0x20) with
  | none => simp [toCharset, hi]
  | some j =>
    have hj : j < N.length := hN ▸ (List.idxOf?_eq_some_iff.mp hp).1
    simp [toCharset, hj]

/-- **Character set agreement.**  For every designation the package knows — whatever the other bits of the triplet — the
    table `updateCharset` builds holds at every code 0x20..0x7f the character the specification looks up directly. -/
theorem charOf_computeCharset (t code v : Nat) (hk : (lookupCharset (keyOf t) code).isSome = true) (h1 : 0x20 ≤ v) (h2 : v < 0x80) :
    Spec.Teletext.charOf (keyOf t) code v = some (decodeChar (computeCharset t code) v) := by
  unfold Spec.Teletext.charOf computeCharset lookupCharset at *
  cases hf : charsets.find? (fun e => e.1 == keyOf t && e.2.1 == code) with
  | none => simp [hf] at hk
  | some e =>
    obtain ⟨k, cd, g0, nat⟩ := e
    have hok := C06_charsets_total _ (List.mem_of_find?_eq_some hf)
    cases g0 with
    | none => simp [entryOk] at hok
    | some g =>
      have hG : (g0Tables.getD g []).length = 96 := C06_g0_rows _ (getD_mem _ _ _ (by simp [entryOk] at hok; exact hok.1))
      cases nat with
      | none => exact charOf_plain _ hG v h1 h2
      | some n =>
        exact charOf_patched _ _ hG (C06_national_rows _ (getD_mem _ _ _ (by simp [entryOk] at hok; exact hok.2))) v h1 h2

/-- for one entry of `teletextCharsets`: the table `updateCharset` builds (copy of G0, thirteen positions patched) holds at
    every code 0x20..0x7f the character the specification looks up directly -/
def charsetAgrees (e : Nat × Nat × Option Nat × Option Nat) : Bool :=
  (List.range 96).all fun i =>
    Spec.Teletext.charOf e.1 e.2.1 (i + 0x20) == some (decodeChar (computeCharset (e.1 * 1024) e.2.1) (i + 0x20))

theorem C06_charset_agree : ∀ e ∈ charsets, charsetAgrees e = true := by
  intro e he
  have hkey : keyOf (e.1 * 1024) = e.1 := by
    have : ∀ e ∈ charsets, e.1 < 16 := by decide
    rw [C06_key_of_triplet]; have := this e he; omega
  have hk : (lookupCharset (keyOf (e.1 * 1024)) e.2.1).isSome = true := by
    rw [hkey, lookupCharset, Option.isSome_map, List.find?_isSome]
    exact ⟨e, he, by simp⟩
  simp only [charsetAgrees, List.all_eq_true, List.mem_range, beq_iff_eq]
  intro i hi
  have := charOf_computeCharset (e.1 * 1024) e.2.1 (i + 0x20) hk (by omega) (by omega)
  rwa [hkey] at this

/-- a displayable character or an inert code: not a colour, box or size code -/
def plain (v : Nat) : Prop := 0x10 ≤ v

theorem rowStep_inert (c : Charset) (s : RowSt) (v : Nat) (h8 : 8 ≤ v) (hv : v < 0xa ∨ 0x10 ≤ v) :
    rowStep c s v = if s.started then { s with text := s.text ++ decodeChar c v } else s := by
  have : ¬ v < 8 ∧ v ≠ 0xa ∧ v ≠ 0xb ∧ v ≠ 0xc ∧ v ≠ 0xd ∧ v ≠ 0xe ∧ v ≠ 0xf := by omega
  simp [rowStep, this]

theorem rowStep_plain (c : Charset) (s : RowSt) (v : Nat) (hv : 0x10 ≤ v) (hs : s.started = true) :
    rowStep c s v = { s with text := s.text ++ decodeChar c v } := by
  rw [rowStep_inert c s v (by omega) (.inr hv), if_pos hs]

theorem rowStep_unboxed (c : Charset) (s : RowSt) (v : Nat) (hv : 0x10 ≤ v) (hs : s.started = false) :
    rowStep c s v = s := by
  rw [rowStep_inert c s v (by omega) (.inr hv), hs]; rfl

theorem foldl_plain (c : Charset) : ∀ (cs : List Nat) (s : RowSt), (∀ v ∈ cs, 0x10 ≤ v) → s.started = true →
    cs.foldl (rowStep c) s = { s with text := s.text ++ cs.flatMap (decodeChar c) }
  | [], s, _, _ => by simp
  | v :: cs, s, h, hs => by
    have hv : 0x10 ≤ v := h v (by simp)
    rw [List.foldl_cons, rowStep_plain c s v hv hs, foldl_plain c cs _ (fun w hw => h w (by simp [hw])) (by simpa using hs)]
    simp [List.append_assoc]

theorem foldl_unboxed (c : Charset) : ∀ (cs : List Nat) (s : RowSt), (∀ v ∈ cs, 0x10 ≤ v) → s.started = false →
    cs.foldl (rowStep c) s = s
  | [], s, _, _ => by simp
  | v :: cs, s, h, hs => by
    have hv : 0x10 ≤ v := h v (by simp)
    rw [List.foldl_cons, rowStep_unboxed c s v hv hs, foldl_unboxed c cs s (fun w hw => h w (by simp [hw])) hs]

theorem rowStep_startBox (c : Charset) (s : RowSt) : rowStep c s 0xb = { s with started := true } := by
  simp [rowStep, decodeChar]

/-- row text law: characters before the start box contribute nothing; the boxed characters form one run holding
    the decoded text, trimmed, with the blanks around it counted -/
theorem C06_row_text (c : Charset) (pre cs : List Nat) (hp : ∀ v ∈ pre, 0x10 ≤ v) (hc : ∀ v ∈ cs, 0x10 ≤ v) :
    parseRow c (pre ++ 0xb :: cs) =
      (let text := cs.flatMap (decodeChar c)
       let items := appendItem [] text {}
       if items.isEmpty then none else some { items := items }) := by
  unfold parseRow
  rw [List.foldl_append, foldl_unboxed c pre _ hp rfl, List.foldl_cons, rowStep_startBox, foldl_plain c cs _ hc rfl]
  simp

theorem C06_invalid_inert (c : Charset) (s : RowSt) : rowStep c s invalidChar = s := by
  cases hs : s.started
  · exact rowStep_unboxed c s _ (by decide) hs
  · rw [rowStep_plain c s _ (by decide) hs]; simp [decodeChar, invalidChar]

theorem C06_unit_not_subtitle (b : Buf) (i : List Nat) (id : Nat) (t : Int) (h : id ≠ 3) : parseDataUnit b i id t = b := by
  simp [parseDataUnit, h]

theorem C06_unit_short (b : Buf) (i : List Nat) (id : Nat) (t : Int) (h : i.length < 44) : parseDataUnit b i id t = b := by
  unfold parseDataUnit; split <;> simp [h]

theorem C06_unit_framing (b : Buf) (i : List Nat) (id : Nat) (t : Int) (h : nth i 1 ≠ 0xe4) : parseDataUnit b i id t = b := by
  unfold parseDataUnit; split <;> simp [h]

theorem C06_other_magazine (b : Buf) (i : List Nat) (mag y : Nat) (t : Int) (hy : y ≠ 0) (hm : mag ≠ b.mag) :
    parsePacket b i mag y t = b := by
  unfold parsePacket
  simp [hy, hm]
  cases hammingDecode (nth i 0) <;> simp

theorem C06_not_receiving (b : Buf) (i : List Nat) (mag y : Nat) (t : Int) (hy : y ≠ 0) (hy' : y ≠ 29) (hr : b.receiving = false) :
    parsePacket b i mag y t = b := by
  unfold parsePacket
  simp [hy, hy', hr]
  cases hammingDecode (nth i 0) <;> simp

theorem C06_not_ebu (b : Buf) (ident : Nat) (rest : List Nat) (t : Int) (h : ident < 0x10 ∨ 0x1f < ident) :
    process b (ident :: rest) t = (b, []) := by
  unfold process
  have : (decide (0x10 ≤ ident) && decide (ident ≤ 0x1f)) = false := by
    rcases h with h | h <;> simp <;> omega
  simp [this]

theorem C06_stuffing (n : Nat) (b : Buf) (id len : Nat) (rest : List Nat) (t : Int) (hid : id ≠ 3) (hl : len ≤ rest.length) :
    unitLoop (n + 1) b (id :: len :: rest) t = unitLoop n b (rest.drop len) t := by
  have : ¬ len > rest.length := by omega
  simp [unitLoop, this, C06_unit_not_subtitle b _ id t hid]

/-- a header of another page (other number, hexadecimal number or other magazine) met while no page is being received and
    a page is selected changes nothing -/
theorem C06_other_page_header (b : Buf) (i : List Nat) (mag : Nat) (t : Int) (units tens : Nat)
    (hsel : ¬ (b.mag = 0 ∧ b.page = 0)) (hr : b.receiving = false)
    (hu : hammingDecode (nth i 0) = some units) (ht : hammingDecode (nth i 1) = some tens)
    (hother : tens > 9 ∨ units > 9 ∨ tens * 10 + units ≠ b.page ∨ mag ≠ b.mag) :
    parseHeader b i mag t = b := by
  unfold parseHeader
  rw [hu, ht]
  cases h7 : hammingDecode (nth i 7) <;> simp [hsel, hr]
  omega

/-- a header of the selected page closes the instance being built at the header's time and opens a new one with the
    header's national option code -/
theorem C06_selected_header (b : Buf) (i : List Nat) (t : Int) (units tens cb : Nat)
    (hsel : ¬ (b.mag = 0 ∧ b.page = 0))
    (hu : hammingDecode (nth i 0) = some units) (ht : hammingDecode (nth i 1) = some tens)
    (h7 : hammingDecode (nth i 7) = some cb)
    (hd : tens ≤ 9 ∧ units ≤ 9) (hp : tens * 10 + units = b.page) :
    parseHeader b i b.mag t =
      { b with done := (match b.current with | some p => b.done ++ [{ p with end_ := t }] | none => b.done),
               receiving := true, current := some { charsetCode := cb >>> 1, start := t } } := by
  unfold parseHeader
  rw [hu, ht]
  have h9 : tens ≠ 15 ∧ ¬ 9 < tens ∧ ¬ 9 < units := by omega
  simp [hsel, h9, h7, hp]
  cases b.current <;> rfl

end C06
end Astisub
