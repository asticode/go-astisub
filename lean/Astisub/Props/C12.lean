import Astisub.Model.Ops
import Astisub.Model.Graph
import Astisub.Spec.OpsSpec

/-!
# C12 — Order is a stable sort by start; Merge is an ordered union, receiver wins

`Ops.order` models `Subtitles.Order` (`sort.SliceStable` on `StartAt`), `Ops.mergeItems` and
`Graph.mergeDefs` model `Subtitles.Merge`.  All statements hold for lists and maps of any size.
-/

namespace Astisub
namespace C12
open Ops List

theorem leStart_trans (a b c : Item) : leStart a b → leStart b c → leStart a c := by
  simp only [leStart, decide_eq_true_eq]; omega

theorem leStart_total (a b : Item) : (leStart a b || leStart b a) = true := by
  simp only [leStart, Bool.or_eq_true, decide_eq_true_eq]; omega

/-- ordering rearranges the same cues: nothing lost, nothing duplicated -/
theorem order_perm (xs : List Item) : order xs ~ xs := mergeSort_perm xs leStart

/-- starts are non-decreasing afterwards -/
theorem order_sorted (xs : List Item) : (order xs).Pairwise (fun a b => a.startAt ≤ b.startAt) := by
  have := pairwise_mergeSort leStart_trans leStart_total xs
  exact this.imp (by intro a b h; simpa [leStart] using h)

/-- cues with equal starts (more generally: any pair already in order) keep their relative order -/
theorem order_stable (xs : List Item) (a b : Item) (hab : a.startAt ≤ b.startAt)
    (h : [a, b] <+ xs) : [a, b] <+ order xs :=
  pair_sublist_mergeSort leStart_trans leStart_total (by simpa [leStart] using hab) h

/-- every already-sorted sub-sequence of the input survives in order (full stability) -/
theorem order_stable_sublist (xs c : List Item) (hc : c.Pairwise (fun a b => a.startAt ≤ b.startAt))
    (h : c <+ xs) : c <+ order xs :=
  sublist_mergeSort leStart_trans leStart_total (hc.imp (by intro a b h; simpa [leStart] using h)) h

theorem order_of_sorted (xs : List Item) (h : xs.Pairwise (fun a b => a.startAt ≤ b.startAt)) :
    order xs = xs :=
  mergeSort_of_pairwise (h.imp (by intro a b h; simpa [leStart] using h))

theorem order_idem (xs : List Item) : order (order xs) = order xs :=
  order_of_sorted _ (order_sorted xs)

/-- merging: exactly the cues of A and of B -/
theorem merge_perm (a b : List Item) : mergeItems a b ~ a ++ b := order_perm _

theorem merge_sorted (a b : List Item) :
    (mergeItems a b).Pairwise (fun x y => x.startAt ≤ y.startAt) := order_sorted _

/-- on equal starts A's cue comes ahead of B's -/
theorem merge_receiver_first (a b : List Item) (x y : Item) (hx : x ∈ a) (hy : y ∈ b)
    (h : x.startAt = y.startAt) : [x, y] <+ mergeItems a b := by
  apply order_stable _ x y (by omega)
  have h1 : [x] <+ a := singleton_sublist.mpr hx
  have h2 : [y] <+ b := singleton_sublist.mpr hy
  exact h1.append h2

/-- … and the relative order inside A (and inside B) on equal starts is kept -/
theorem merge_stable_left (a b : List Item) (x y : Item) (hxy : [x, y] <+ a)
    (h : x.startAt ≤ y.startAt) : [x, y] <+ mergeItems a b :=
  order_stable _ x y h (hxy.trans (sublist_append_left a b))

theorem merge_stable_right (a b : List Item) (x y : Item) (hxy : [x, y] <+ b)
    (h : x.startAt ≤ y.startAt) : [x, y] <+ mergeItems a b :=
  order_stable _ x y h (hxy.trans (sublist_append_right a b))

open Graph

/-- `other`'s keys equal its definitions' identifiers (what every reader and `NewSubtitles`
    user produces) -/
def IdKeyed {D : Type} (idOf : D → String) (m : List (String × D)) : Prop := ∀ kd ∈ m, kd.1 = idOf kd.2

theorem lookup_append_singleton {D : Type} (acc : List (String × D)) (k : String) (d : D) (q : String) :
    (acc ++ [(k, d)]).lookup q = (acc.lookup q <|> if q = k then some d else none) := by
  rw [lookup_append, lookup_cons, lookup_nil]
  by_cases h : q = k
  · rw [if_pos h, beq_iff_eq.mpr h]; cases acc.lookup q <;> rfl
  · rw [if_neg h, beq_eq_false_iff_ne.mpr h]; cases acc.lookup q <;> rfl

/-- one iteration of the loop of `Merge`: a definition whose identifier the receiver already has
    is skipped, any other is added at the end -/
theorem lookup_mergeStep {D : Type} (idOf : D → String) (acc : List (String × D)) (d : D) (q : String) :
    (if (acc.lookup (idOf d)).isSome then acc else acc ++ [(idOf d, d)]).lookup q
      = (acc.lookup q <|> if q = idOf d then some d else none) := by
  split
  · rename_i h
    by_cases hq : q = idOf d
    · obtain ⟨v, hv⟩ := Option.isSome_iff_exists.mp h
      rw [hq, hv]; rfl
    · rw [if_neg hq]; cases acc.lookup q <;> rfl
  · exact lookup_append_singleton acc _ d q

/-- Merge: the receiver's definition wins on an identifier clash, otherwise the argument's
    (first listed) definition is added: `lookup id (merge A B) = lookup id A <|> lookup id B`. -/
theorem mergeDefs_lookup {D : Type} (idOf : D → String) (mine other : List (String × D))
    (hk : IdKeyed idOf other) (q : String) :
    (mergeDefs idOf mine other).lookup q = (mine.lookup q <|> other.lookup q) := by
  unfold mergeDefs
  induction other generalizing mine with
  | nil => rw [foldl_nil, lookup_nil]; cases mine.lookup q <;> rfl
  | cons kd rest ih =>
    obtain ⟨k, d⟩ := kd
    have hkd : k = idOf d := hk _ mem_cons_self
    rw [foldl_cons, ih _ (fun x hx => hk x (mem_cons_of_mem _ hx)), lookup_mergeStep, lookup_cons, hkd]
    cases mine.lookup q with
    | some v => rfl
    | none =>
      by_cases hq : q = idOf d
      · rw [if_pos hq, beq_iff_eq.mpr hq]; rfl
      · rw [if_neg hq, beq_eq_false_iff_ne.mpr hq]; rfl

/-- the receiver's own definitions are never replaced or removed, whatever the argument -/
theorem mergeDefs_prefix {D : Type} (idOf : D → String) (mine other : List (String × D)) :
    mine <+: mergeDefs idOf mine other := by
  unfold mergeDefs
  induction other generalizing mine with
  | nil => exact prefix_refl _
  | cons kd rest ih =>
    rw [foldl_cons]
    split
    · exact ih mine
    · exact (prefix_append mine _).trans (ih _)
end C12
end Astisub
