import Astisub.Model.SSA
import Astisub.Lemmas.EvalLit
import Astisub.Lemmas.StrList
import Astisub.Lemmas.ListFacts
import Astisub.Props.C16

/-!
# C04 — SSA / ASS codec fidelity

`SSA.read` / `SSA.write` model `ReadFromSSA` / `WriteToSSA` of the repaired `ssa.go` (the repairs — D9 to D12 of
DESIGN.md, fix-5 and fix-6 — are listed at the head of `Model/SSA`).  This file
proves, for **all** inputs, the component laws the property is made of:

* the Format line decides: every column name the writer can emit is understood by the reader as
  the same attribute, `TertiaryColour` is the v4 spelling of `OutlineColour`, the writer's columns
  are pairwise distinct;
* booleans: what the writer emits for `true` / `false` is read back as `true` / `false`
  ("true booleans stay true"), and `-1` is true;
* rows: splitting at `,` inverts joining with `,` for comma-free cells, and the last Format column
  takes the rest of the row — commas in the event text are preserved, whatever the columns are;
* colours: the `&Haabbggrr` text written for any 32-bit colour is read back as the same colour;
* event times: the written `HH:MM:SS.cc` is read back as the instant truncated to the centisecond;
* ignored input: a line without `:` changes nothing, nothing of an unknown section is looked at,
  events other than `Dialogue` are not even parsed;
* `*`-prefixed style references resolve to the style without the `*`;
* an empty cue list is refused.

The whole-document clauses (read of every rendering = what `Spec.SSA.decode` says; write → own
reader and → independent decoder = same cues / styles / script info; write ∘ read ∘ write = write)
are decided on every run by the `ssa.read` / `ssa.write` streams with the specification predicate
evaluated on every case.  They are proved elsewhere: write → own reader and the rewrite fixpoint in
`Props/C04doc2` (`write_read`, `rewrite_fixpoint`), read = decoder in `Props/C04read` (`read_view`), write →
independent decoder in `Props/C04w2` (`decode_write`).
-/

namespace Astisub
namespace C04
open Go SSA List

theorem fld_all_complete (f : Fld) : f ∈ Fld.all := by cases f <;> decide

theorem fld_all_nodup : Fld.all.Nodup := by decide +kernel

/-- every column the writer can put in a styles Format line is read as the same attribute -/
theorem col_roundtrip (f : Fld) : colOfName f.col.toList = some (.fld f) :=
  (by decide +kernel : ∀ f ∈ Fld.all, colOfName f.col.toList = some (.fld f)) f (fld_all_complete f)

/-- `TertiaryColour` (v4) and `OutlineColour` (v4+) are the same attribute -/
theorem tertiary_is_outline : colOfName "TertiaryColour".toList = colOfName "OutlineColour".toList :=
  (by decide_vector : colOfName "TertiaryColour".toList = some (.fld .outlineColour)).trans (col_roundtrip .outlineColour).symm

/-- `Name` is the style's name -/
theorem name_col : colOfName "Name".toList = some .name := by decide +kernel

theorem fld_keys_pairwise : (Fld.all.map Fld.key).Pairwise (· ≠ ·) := by decide +kernel

/-- no two attributes share a column name (the reader inverts `Fld.col`) -/
theorem col_injective (f g : Fld) (h : f.col = g.col) : f = g :=
  Col.fld.inj (Option.some.inj ((col_roundtrip f).symm.trans (h ▸ col_roundtrip g)))

/-- … nor a `StyleAttributes` field -/
theorem key_injective (f g : Fld) (h : f.key = g.key) : f = g :=
  eq_of_nodup_map fld_keys_pairwise (fld_all_complete f) (fld_all_complete g) h

theorem si_all_complete (f : SI) : f ∈ SI.all := by cases f <;> decide

/-- script info: every header the writer emits is understood by the reader as the same field -/
theorem info_roundtrip (f : SI) : siOfHeader f.header.toList = some f :=
  (by decide +kernel : ∀ f ∈ SI.all, siOfHeader f.header.toList = some f) f (si_all_complete f)

/-- what the writer emits for a boolean is read back as that boolean: true stays true -/
theorem bool_roundtrip (b : Bool) : (Val.ssa (.b b)).map (parseVal .bool) = some (.ok (.b b)) := by
  cases b <;> decide

/-- the value the format specification uses for true -/
theorem bool_minus_one : parseVal .bool "-1".toList = .ok (.b true) := by decide

theorem bool_zero : parseVal .bool "0".toList = .ok (.b false) := by decide

/-- an empty field leaves the attribute unset instead of failing the row (D12) -/
theorem empty_field_unset (st : Style) (attr : Str) : styleField st attr [] = .ok st := by
  simp [styleField]

theorem splitC_row (pre : List Str) (last : Str) (h : ∀ p ∈ pre, ',' ∉ p) :
    splitC ',' (join [','] (pre ++ [last])) = pre ++ splitC ',' last := by
  induction pre with
  | nil => simp [join]
  | cons p ps ih =>
    have hp : ',' ∉ p := h p (by simp)
    have ih' := ih (fun q hq => h q (by simp [hq]))
    cases hps : ps ++ [last] with
    | nil => simp at hps
    | cons b t =>
      rw [hps] at ih'
      show splitC ',' (join [','] (p :: (ps ++ [last]))) = p :: ps ++ splitC ',' last
      rw [hps]
      simp only [join]
      rw [show p ++ [','] ++ join [','] (b :: t) = p ++ ',' :: join [','] (b :: t) by simp]
      rw [splitC_append _ hp, ih']
      simp

/-- **Commas in the text are preserved.** Whatever the (non-empty) Format is, the last column takes
    the rest of the row: cells without commas followed by any text come back as they were. -/
theorem row_cells (pre : List Str) (last : Str) (h : ∀ p ∈ pre, ',' ∉ p) :
    absorb (pre.length + 1) (splitC ',' (join [','] (pre ++ [last]))) = pre ++ [last] := by
  rw [splitC_row pre last h]
  unfold absorb
  simp [Go.join_splitC]

/-- the `HH:MM:SS.cc` written for any instant below 100 h is read back truncated to the centisecond -/
theorem event_time (t : Int) (h0 : 0 ≤ t) (h1 : t < 360000000000000) :
    Duration.parseSSA (Duration.formatSSA t) = some (t - t % 10000000) := C16.ssa_roundtrip t h0 h1

/-- nothing of an unknown section is looked at: any line that is not a section header leaves the
    reader's state as it is -/
theorem unknown_section_ignored (st : St) (raw : Str) (hs : st.sec = .unknown) (hf : st.first = false)
    (hh : (hasPrefix ['['] (trimSpace raw) && hasSuffix [']'] (trimSpace raw)) = false) :
    step st raw = .ok st := by
  unfold step
  simp only [hf, hs]
  by_cases he : (trimSpace raw).isEmpty
  · simp [he]
    cases st; simp_all
  · simp [he, hh]
    cases st; simp_all

/-- a line without `:` (that is not a section header or a comment) contributes nothing -/
theorem junk_line_ignored (st : St) (raw : Str) (hf : st.first = false)
    (hh : (hasPrefix ['['] (trimSpace raw) && hasSuffix [']'] (trimSpace raw)) = false)
    (hc : (trimSpace raw).head? ≠ some ';') (hcolon : ':' ∉ trimSpace raw) :
    step st raw = .ok st := by
  unfold step
  simp only [hf]
  have hsplit := splitC_not_mem hcolon
  by_cases he : (trimSpace raw).isEmpty
  · simp [he]
    cases st; simp_all
  · by_cases hu : st.sec = .unknown
    · simp [he, hh, hu]
      cases st; simp_all
    · simp [he, hh, hu, hc, hsplit]
      cases st; simp_all

/-- in `[Events]` an event other than `Dialogue` is skipped without being parsed, whatever its fields (fix-5) -/
theorem other_event_ignored (st : St) (header content : Str)
    (hfmt : st.format ≠ []) (hd : header ≠ "Dialogue".toList) (hF : header ≠ "Format".toList) :
    eventsLine st header content = .ok st := by
  have he : ¬ (st.format.isEmpty = true) := by
    cases hf : st.format with
    | nil => exact absurd hf hfmt
    | cons a t => simp
  unfold eventsLine
  rw [if_neg hF, if_neg he, if_pos hd]

/-- in a styles section only `Style:` lines are style rows (fix-6) -/
theorem other_style_line_ignored (st : St) (header content : Str)
    (hfmt : st.format ≠ []) (hd : header ≠ "Style".toList) (hF : header ≠ "Format".toList) :
    stylesLine st header content = .ok st := by
  have he : ¬ (st.format.isEmpty = true) := by
    cases hf : st.format with
    | nil => exact absurd hf hfmt
    | cons a t => simp
  unfold stylesLine
  rw [if_neg hF, if_neg he, if_pos hd]

/-- only `Dialogue` events become cues -/
theorem only_dialogues (lines : List Str) (s : Subs) (h : SSA.read lines = .ok s) :
    ∃ st, run {} lines = .ok st ∧
      s.items.length = (st.events.filter fun e => e.category = "Dialogue".toList).length := by
  unfold SSA.read at h
  split at h
  · rename_i st hst
    refine ⟨st, hst, ?_⟩
    cases h
    simp
  · cases h
  · cases h

/-- a `*`-prefixed style name refers to the style without the `*` -/
theorem star_style (ids : List Str) (n : Str) (h1 : n ∈ ids) (h2 : ('*' :: n) ∉ ids) :
    resolveStyle ids ('*' :: n) = some n := by
  simp [resolveStyle, trimPrefix, dropPrefix?, h1, h2]

/-- a style name that is defined refers to itself -/
theorem plain_style (ids : List Str) (n : Str) (h0 : n ≠ []) (h1 : n ∈ ids) :
    resolveStyle ids n = some n := by
  simp [resolveStyle, h0, h1]

/-- an undefined style name refers to nothing -/
theorem missing_style (ids : List Str) (n : Str) (h1 : n ∉ ids) (h2 : trimPrefix ['*'] n ∉ ids) :
    resolveStyle ids n = none := by
  simp [resolveStyle, h1, h2]

/-- an empty cue list is refused (`ErrNoSubtitlesToWrite`) -/
theorem write_empty (s : Subs) (h : s.items = []) : write s = .err := by
  simp [write, h]

/-- the writer's fixed events Format ends with `Text`, the column that may contain commas -/
theorem event_format_text_last (v : Bool) : (eventFormat v).getLast? = some "Text".toList := by
  cases v <;> simp [eventFormat]

/-- v4 writes `Marked`, v4+ writes `Layer` -/
theorem event_format_head (v : Bool) :
    (eventFormat v).head? = some (if v then "Layer".toList else "Marked".toList) := by
  cases v <;> simp [eventFormat]

theorem digitValBase_hexFin : ∀ d : Fin 16, digitValBase (hexDigitLower d.val) = some d.val := by decide
theorem hex_not_signFin : ∀ d : Fin 16, hexDigitLower d.val ≠ '-' ∧ hexDigitLower d.val ≠ '+' := by decide

theorem digitValBase_hex {n : Nat} (h : n < 16) : digitValBase (hexDigitLower n) = some n := digitValBase_hexFin ⟨n, h⟩
theorem hex_ne_minus {n : Nat} (h : n < 16) : hexDigitLower n ≠ '-' := (hex_not_signFin ⟨n, h⟩).1
theorem hex_ne_plus {n : Nat} (h : n < 16) : hexDigitLower n ≠ '+' := (hex_not_signFin ⟨n, h⟩).2

theorem mod16_lt (n : Nat) : n % 16 < 16 := Nat.mod_lt _ (by decide)

theorem digitValBase_hex16 (n : Nat) : digitValBase (hexDigitLower (n % 16)) = some (n % 16) :=
  digitValBase_hex (mod16_lt n)

/-- the eight hexadecimal digits of a 32-bit number spell it (Horner form, as the digit loops compute it) -/
theorem hex8_value (c : Nat) (h : c < 4294967296) :
    (((((((0 * 16 + c / 0x10000000 % 16) * 16 + c / 0x1000000 % 16) * 16 + c / 0x100000 % 16) * 16 + c / 0x10000 % 16) * 16
      + c / 0x1000 % 16) * 16 + c / 0x100 % 16) * 16 + c / 0x10 % 16) * 16 + c % 16 = c := by
  -- linking each quotient to the previous one keeps `omega`'s problem small
  have e1 : c / 16 / 16 = c / 256 := Nat.div_div_eq_div_mul ..
  have e2 : c / 256 / 16 = c / 4096 := Nat.div_div_eq_div_mul ..
  have e3 : c / 4096 / 16 = c / 65536 := Nat.div_div_eq_div_mul ..
  have e4 : c / 65536 / 16 = c / 1048576 := Nat.div_div_eq_div_mul ..
  have e5 : c / 1048576 / 16 = c / 16777216 := Nat.div_div_eq_div_mul ..
  have e6 : c / 16777216 / 16 = c / 268435456 := Nat.div_div_eq_div_mul ..
  omega

theorem parseInt_hex8 (c : Nat) (h : c < 4294967296) : parseIntBase 16 (hex8 c) = some (c : Int) := by
  unfold parseIntBase hex8
  split
  rename_i x neg body heq
  split at heq
  · rename_i r heq2; exact absurd (List.cons.inj heq2).1 (hex_ne_minus (mod16_lt _))
  · rename_i r heq2; exact absurd (List.cons.inj heq2).1 (hex_ne_plus (mod16_lt _))
  · obtain ⟨rfl, rfl⟩ := Prod.mk.inj heq
    simp only [List.isEmpty_cons, Bool.false_eq_true, ↓reduceIte, digitsBase, digitValBase_hex16, mod16_lt]
    rw [hex8_value c h, if_pos (show c ≤ int64Max by unfold int64Max; omega)]

/-- **Colours.** the `&Haabbggrr` the writer emits for any 32-bit colour is read back as that colour -/
theorem colour_roundtrip (c : Nat) (h : c < 4294967296) : parseColour (colourString c) = some c := by
  have e : "&H".toList = ['&', 'H'] := by rw [String.toList_ofList]
  unfold parseColour colourString
  rw [e]
  simp only [List.cons_append, List.nil_append, dropPrefix?, ↓reduceIte]
  rw [parseInt_hex8 c h]
  simp [colourOfInt]
  omega

end C04
end Astisub
