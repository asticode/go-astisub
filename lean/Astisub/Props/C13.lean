import Astisub.Model.Graph
import Astisub.Spec.Reach
import Astisub.Lemmas.MarkChain

/-!
# C13 — Optimize drops only unreachable definitions; RemoveStyling drops only styling

`Graph.optimize` models `Subtitles.Optimize` / `removeUnusedRegionsAndStyles` loop by loop,
including the visited-set early exit of the inheritance walk added by the `fix:` commit;
`Spec.optimizeSpec` is the declarative closure (no visited set, whole chains).
Loop model = closure is proved for any invariant of the marked set that makes the early exit harmless
(`optimize_spec_of`); `optimize_spec` and what rests on it instantiate it for every reference graph in which
one identifier names one definition (`Consistent`): any number of cues, runs, regions, styles, any
inheritance depth, shared parents, unused and shared definitions, dangling references, keys that differ
from identifiers.  The facts about `optimizeSpec` itself and about `removeStyling` need no hypothesis.
-/

namespace Astisub
namespace C13
open Graph Spec List

/-- `used` contains, with every identifier, all its ancestors (w.r.t. the chains of `g`) -/
def Closed (g : Graph) (used : List String) : Prop :=
  ∀ c ∈ allChains g, ∀ (id : String) (r : IdChain), (id :: r) <:+ c → id ∈ used → ∀ x ∈ r, x ∈ used

theorem consistent_nodup (g : Graph) (hc : Consistent g) : ∀ c ∈ allChains g, c.Nodup := by
  intro c hcm
  -- strengthen: every suffix of c is Nodup
  suffices h : ∀ s, s <:+ c → s.Nodup from h c (suffix_refl c)
  intro s
  induction s with
  | nil => intro _; exact nodup_nil
  | cons i q ih =>
    intro hs
    have hq : q <:+ c := (suffix_cons i q).trans hs
    refine nodup_cons.mpr ⟨?_, ih hq⟩
    intro hmem
    obtain ⟨q1, q2, rfl⟩ := append_of_mem hmem
    have h2 : (i :: q2) <:+ c := (suffix_append q1 (i :: q2)).trans hq
    have := hc c hcm c hcm i _ _ hs h2
    have hl := congrArg List.length this
    simp at hl; omega

/-- the marking loop with early exit adds exactly the identifiers of the chain -/
theorem markChain_mem (g : Graph) (hc : Consistent g) (used₀ : List String) (hcl : Closed g used₀)
    (pre c : IdChain) (hm : pre ++ c ∈ allChains g) (acc : List String)
    (hacc : ∀ x, x ∈ acc ↔ x ∈ used₀ ∨ x ∈ pre) :
    ∀ x, x ∈ markChain acc c ↔ x ∈ used₀ ∨ x ∈ pre ∨ x ∈ c := by
  have hnd := nodup_append.mp (consistent_nodup g hc _ hm)
  intro x
  rw [markChain_iff c acc hnd.2.1 ?_ x, hacc, or_assoc]
  intro id r hs hid y hy
  rcases (hacc id).mp hid with h | h
  · exact (hacc y).mpr (Or.inl (hcl _ hm id r (hs.trans (suffix_append pre c)) h y hy))
  · exact absurd rfl (hnd.2.2 id h id (hs.subset (mem_cons_self ..)))

theorem markChain_spec (g : Graph) (hc : Consistent g) (used : List String) (hcl : Closed g used)
    (c : IdChain) (hm : c ∈ allChains g) :
    (∀ x, x ∈ markChain used c ↔ x ∈ used ∨ x ∈ c) ∧ Closed g (markChain used c) := by
  have hmem : ∀ x, x ∈ markChain used c ↔ x ∈ used ∨ x ∈ c :=
    markChain_iff c used (consistent_nodup g hc c hm) (hcl c hm)
  refine ⟨hmem, ?_⟩
  intro c' hc' id r hsuf hid x hx
  rw [hmem] at hid ⊢
  rcases hid with hid | hid
  · exact Or.inl (hcl c' hc' id r hsuf hid x hx)
  · obtain ⟨p, q, rfl⟩ := append_of_mem hid
    have h2 : (id :: q) <:+ (p ++ id :: q) := suffix_append p _
    have := hc c' hc' _ hm id r q hsuf h2
    subst this
    exact Or.inr (by simp [hx])

theorem foldl_markChain_spec (g : Graph) (hc : Consistent g) (cs : List IdChain)
    (hcs : ∀ c ∈ cs, c ∈ allChains g) (used : List String) (hcl : Closed g used) :
    (∀ x, x ∈ cs.foldl markChain used ↔ x ∈ used ∨ ∃ c ∈ cs, x ∈ c) ∧ Closed g (cs.foldl markChain used) := by
  exact foldl_markChain_iff (Closed g) cs (fun u hu c hc' => markChain_spec g hc u hu c (hcs c hc')) used hcl

def itemChains (items : List GItem) : List IdChain := items.flatMap (fun it => it.style :: it.runs)

theorem markItems_eq (items : List GItem) (ur us : List String) :
    items.foldl markStep (ur, us)
    = ((items.filterMap (·.region)).reverse ++ ur, (itemChains items).foldl markChain us) := by
  induction items generalizing ur us with
  | nil => simp [itemChains]
  | cons it rest ih =>
    simp only [foldl_cons, markStep, ih, itemChains, flatMap_cons, foldl_append, filterMap_cons]
    cases it.region <;> simp

theorem markItems_spec (items : List GItem) :
    markItems items = ((items.filterMap (·.region)).reverse, (itemChains items).foldl markChain []) := by
  unfold markItems
  rw [markItems_eq]; simp

theorem sweepRegions_eq (usedR : List String) (regions accR : List (String × RegionDef)) (accS : List String) :
    regions.foldl (sweepStep usedR) (accR, accS)
    = (accR ++ regions.filter (fun kr => kr.2.id ∈ usedR),
       ((regions.filter (fun kr => kr.2.id ∈ usedR)).map (·.2.style)).foldl markChain accS) := by
  induction regions generalizing accR accS with
  | nil => simp
  | cons kr rest ih =>
    simp only [foldl_cons, sweepStep]
    by_cases h : kr.2.id ∈ usedR
    · simp [h, ih]
    · simp [h, ih]

theorem mem_allChains_of_item (g : Graph) : ∀ c ∈ itemChains g.items, c ∈ allChains g := by
  intro c hc; unfold allChains; exact mem_append_left _ hc

theorem mem_allChains_of_region (g : Graph) (rs : List (String × RegionDef)) (h : rs ⊆ g.regions) :
    ∀ c ∈ rs.map (·.2.style), c ∈ allChains g := by
  intro c hc
  obtain ⟨kr, hkr, rfl⟩ := mem_map.mp hc
  unfold allChains
  exact mem_append_right _ (mem_map.mpr ⟨kr, h hkr, rfl⟩)

/-- **Loop model = declarative closure, for any invariant that makes the early exit harmless**: `Cl` holds of
    the empty set, and from an accumulator with `Cl` one walk along a chain of `g` marks exactly that chain
    and keeps `Cl`.  (`Closed g` on consistent graphs; `C13WR.ClosedG` on the graph of a cue list.) -/
theorem optimize_spec_of (g : Graph) (Cl : List String → Prop) (h0 : Cl [])
    (step : ∀ used, Cl used → ∀ c ∈ allChains g,
      (∀ x, x ∈ markChain used c ↔ x ∈ used ∨ x ∈ c) ∧ Cl (markChain used c)) :
    optimize g = optimizeSpec g := by
  unfold optimize optimizeSpec
  by_cases he : g.items.isEmpty
  · simp [he]
  · simp only [he, Bool.false_eq_true, ↓reduceIte]
    rw [markItems_spec]
    simp only
    unfold sweepRegions
    rw [sweepRegions_eq]
    simp only [nil_append]
    have hR : ∀ r, r ∈ (g.items.filterMap (·.region)).reverse ↔ r ∈ usedRegionIds g := by
      intro r; simp [usedRegionIds]
    have hfilt : g.regions.filter (fun kr => kr.2.id ∈ (g.items.filterMap (·.region)).reverse) = usedRegions g := by
      unfold usedRegions
      apply filter_congr
      intro kr _
      simp only [decide_eq_decide]
      exact hR _
    rw [hfilt]
    -- membership in the final used-style set = reachability
    have ⟨h1, h2⟩ := foldl_markChain_iff Cl (itemChains g.items)
      (fun u hu c hc' => step u hu c (mem_allChains_of_item g c hc')) [] h0
    have ⟨h3, _⟩ := foldl_markChain_iff Cl ((usedRegions g).map (·.2.style))
      (fun u hu c hc' => step u hu c (mem_allChains_of_region g _
        (by unfold usedRegions; exact fun x hx => (mem_filter.mp hx).1) c hc')) _ h2
    have hS : ∀ x, x ∈ ((usedRegions g).map (·.2.style)).foldl markChain ((itemChains g.items).foldl markChain [])
        ↔ Reach g x := by
      intro x
      rw [h3, h1]
      unfold Reach roots
      simp only [not_mem_nil, false_or, mem_append, itemChains, or_and_right, exists_or]
    congr 1
    apply filter_congr
    intro ks _
    simp only [decide_eq_decide]
    exact hS _

/-- On a list with at least one cue, the code keeps exactly the region
    definitions some cue refers to and exactly the style definitions that are reachable —
    directly, through a run, through a used region, or through inheritance — and leaves the
    cues and the kept definitions untouched. On an empty list it does nothing. -/
theorem optimize_spec (g : Graph) (hc : Consistent g) : optimize g = optimizeSpec g :=
  optimize_spec_of g (Closed g) (fun _ _ _ _ _ hid => nomatch hid) (fun u hu c hm => markChain_spec g hc u hu c hm)

theorem optimize_items (g : Graph) : (optimize g).items = g.items := by
  unfold optimize
  split
  · rfl
  · rfl

/-- an empty list is left alone -/
theorem optimize_empty (g : Graph) (h : g.items = []) : optimize g = g := by
  simp [optimize, h]

/-- **`optimizeSpec` as two filters**, with or without cues (a list without cues keeps everything) -/
theorem optimizeSpec_eq (g : Graph) :
    optimizeSpec g = { g with
      regions := g.regions.filter fun kr => g.items.isEmpty || decide (kr.2.id ∈ usedRegionIds g),
      styles := g.styles.filter fun ks => g.items.isEmpty || decide (Reach g ks.2.id) } := by
  unfold optimizeSpec usedRegions
  cases h : g.items.isEmpty
  · simp
  · simp only [Bool.true_or, if_true]
    rw [filter_eq_self.mpr fun _ _ => rfl, filter_eq_self.mpr fun _ _ => rfl]

/-- the cues, and with them what is referred to, are those of `g`: the reason a definition is kept for does not go away
    with the definitions that are dropped -/
theorem keep_optimizeSpec (g : Graph) :
    (optimizeSpec g).items = g.items ∧ usedRegionIds (optimizeSpec g) = usedRegionIds g ∧
      roots (optimizeSpec g) = roots g := by
  have hi : (optimizeSpec g).items = g.items := by rw [optimizeSpec_eq]
  have hu : usedRegionIds (optimizeSpec g) = usedRegionIds g := by unfold usedRegionIds; rw [hi]
  refine ⟨hi, hu, ?_⟩
  unfold roots usedRegions
  rw [hu, hi, optimizeSpec_eq]
  simp only [filter_filter]
  congr 2
  apply filter_congr
  intro kr _
  cases decide (kr.2.id ∈ usedRegionIds g) <;> simp

/-- a style definition survives iff it was there and is reachable (keyed by its identifier) -/
theorem styles_exact (g : Graph) (hc : Consistent g) (hne : g.items ≠ []) (ks : String × StyleDef) :
    ks ∈ (optimize g).styles ↔ ks ∈ g.styles ∧ Reach g ks.2.id := by
  rw [optimize_spec g hc, optimizeSpec_eq]; simp [mem_filter, hne]

/-- a region definition survives iff it was there and some cue refers to it -/
theorem regions_exact (g : Graph) (hc : Consistent g) (hne : g.items ≠ []) (kr : String × RegionDef) :
    kr ∈ (optimize g).regions ↔ kr ∈ g.regions ∧ kr.2.id ∈ usedRegionIds g := by
  rw [optimize_spec g hc, optimizeSpec_eq]; simp [mem_filter, hne]

theorem usedRegionIds_optimizeSpec (g : Graph) : usedRegionIds (optimizeSpec g) = usedRegionIds g :=
  (keep_optimizeSpec g).2.1

theorem roots_optimizeSpec (g : Graph) : roots (optimizeSpec g) = roots g := (keep_optimizeSpec g).2.2

/-- every reference left in the list still resolves -/
theorem refs_resolve (g : Graph) (hc : Consistent g) (h : RefsResolve g) : RefsResolve (optimize g) := by
  obtain ⟨hs, hrg⟩ := h
  unfold RefsResolve
  rw [optimize_spec g hc, roots_optimizeSpec, usedRegionIds_optimizeSpec, optimizeSpec_eq]
  refine ⟨fun c hcr id hid => ?_, fun r hrm => ?_⟩
  · obtain ⟨ks, hks, hidk⟩ := mem_map.mp (hs c hcr id hid)
    exact mem_map.mpr ⟨ks, mem_filter.mpr ⟨hks, by simp; exact Or.inr ⟨c, hcr, hidk ▸ hid⟩⟩, hidk⟩
  · obtain ⟨kr, hkr, hidk⟩ := mem_map.mp (hrg r hrm)
    exact mem_map.mpr ⟨kr, mem_filter.mpr ⟨hkr, by simp; exact Or.inr (hidk ▸ hrm)⟩, hidk⟩

theorem reach_optimizeSpec (g : Graph) (id : String) : Reach (optimizeSpec g) id ↔ Reach g id := by
  unfold Reach; rw [roots_optimizeSpec]

/-- doing it twice changes nothing more -/
theorem optimizeSpec_idem (g : Graph) : optimizeSpec (optimizeSpec g) = optimizeSpec g := by
  obtain ⟨hi, hu, _⟩ := keep_optimizeSpec g
  rw [optimizeSpec_eq (optimizeSpec g), hi, hu]
  simp only [reach_optimizeSpec]
  rw [optimizeSpec_eq g]
  simp only [filter_filter, Bool.and_self]

theorem allChains_optimizeSpec_subset (g : Graph) : allChains (optimizeSpec g) ⊆ allChains g := by
  rw [optimizeSpec_eq]
  unfold allChains
  intro c hc
  rcases mem_append.mp hc with h | h
  · exact mem_append_left _ h
  · obtain ⟨kr, hkr, rfl⟩ := mem_map.mp h
    exact mem_append_right _ (mem_map.mpr ⟨kr, (mem_filter.mp hkr).1, rfl⟩)

theorem optimize_idem (g : Graph) (hc : Consistent g) : optimize (optimize g) = optimize g := by
  have hc' : Consistent (optimizeSpec g) := by
    intro c₁ h₁ c₂ h₂
    exact hc c₁ (allChains_optimizeSpec_subset g h₁) c₂ (allChains_optimizeSpec_subset g h₂)
  rw [optimize_spec g hc, optimize_spec _ hc', optimizeSpec_idem]

/-- no region, style or style reference is left anywhere -/
theorem removeStyling_clean (g : Graph) :
    (removeStyling g).regions = [] ∧ (removeStyling g).styles = [] ∧
      ∀ it ∈ (removeStyling g).items, it.style = [] ∧ it.region = none ∧ ∀ r ∈ it.runs, r = [] := by
  refine ⟨rfl, rfl, ?_⟩
  intro it hit
  obtain ⟨a, _, rfl⟩ := mem_map.mp hit
  refine ⟨rfl, rfl, ?_⟩
  intro r hr
  obtain ⟨_, _, rfl⟩ := mem_map.mp hr
  rfl

/-- the number of cues and of runs per cue (hence order, timing, text and voices, which the
    operation does not address at all) is untouched -/
theorem removeStyling_shape (g : Graph) :
    (removeStyling g).items.map (·.runs.length) = g.items.map (·.runs.length) := by
  simp [removeStyling]

end C13
end Astisub
