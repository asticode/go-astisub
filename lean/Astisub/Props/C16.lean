import Astisub.Lemmas.Clock
import Astisub.Model.Duration

/-!
# C16 — Timestamp codec: truncating, canonical, monotone, self-inverse per format

`Duration.format` / `Duration.parse` model `formatDuration` / `parseDuration` (`subtitles.go`) and
the per-format wrappers; `formatSTL*` / `parseSTL*` model the STL timecodes (`stl.go`, after the
`fix:` commit that rounds frames up).  Each statement holds for **every** instant of its range at nanosecond
resolution: `0 ≤ t < 100 h` for the canonical forms with two-digit hours, every non-negative `int64` instant for the
round trips, `< 24 h` for STL.

The file begins with `Ovf.msPart`, `Ovf.hmsPart`, `Ovf.combine`: `Duration.parse` as two string stages and one
sum, and what the stages return on a clock text (`Lemmas/Clock`: `[h:]m:s`, fields of any width, then `.` or `,` and one
to three digits, white space around): `Ovf.parse_clock_frac`, `Ovf.parse_clock`.  Every codec's lemma about a time text
under `parseDuration` is an instance of these, and so are the canonical-rendering lemmas below; `Lemmas/OvfDuration`
re-evaluates the same stages in `int64`, which is where the namespace comes from.  The writer prints a clock text for
every instant (`format_eq`), so the round trips hold for every non-negative `int64` instant (`parse_format3_int64`,
`parse_format2_int64`); the statements with `t < 100 h` are their instances on two-digit hours.
-/

namespace Astisub
namespace Ovf
open Go Duration

/-! `Duration.parse` split into its string stages (`msPart`, `hmsPart`: no arithmetic) and the final
arithmetic `combine`; `parse_eq` proves this formulation equal to `Duration.parse`. -/

/-- the fraction stage: `((ms, k), rest)` — the fraction as read, the exponent of its scale `10^k`, and the text before the
    last separator (no fraction: `((0, 0), i)`) -/
def msPart (i : Str) (sep : Char) (digits : Nat) : Option ((Int × Nat) × Str) :=
  let parts := splitC sep i
  if parts.length ≥ 2 then
    let s := trimSpace (parts.getLast?.getD [])
    if s.length > 3 then none else
    match atoi s with
    | none => none
    | some ms => some ((ms, digits - s.length), join [sep] parts.dropLast)
  else some ((0, 0), i)

/-- the clock stage: `(seconds, minutes, hours)`, in the order `parseDuration` converts them — the reverse of the text and of
    `Clock.HMS x H M S`; hours `0` when the text has two fields -/
def hmsPart (s : Str) : Option (Int × Int × Int) :=
  let hms := splitC ':' (trimSpace s)
  let fieldsOf : Option (Str × Str × Str) :=
    match hms with
    | [pm, ps] => some ([], pm, ps)
    | [ph, pm, ps] => some (ph, pm, ps)
    | _ => none
  match fieldsOf with
  | none => none
  | some (ph, pm, ps) =>
    match atoi (trimSpace ps), atoi (trimSpace pm) with
    | some sec, some min =>
      let hours : Option Int := if ph.length > 0 then atoi (trimSpace ph) else some 0
      match hours with
      | some h => some (sec, min, h)
      | none => none
    | _, _ => none

def combine (ms sec min h : Int) : Int := ms * nsPerMs + sec * nsPerS + min * nsPerMin + h * nsPerH

/-- the part of `parse` after the milliseconds have been split off -/
def tailOf (ms : Int) (s : Str) : Option Int :=
    let hms := splitC ':' (trimSpace s)
    let fieldsOf : Option (Str × Str × Str) :=
      match hms with
      | [pm, ps] => some ([], pm, ps)
      | [ph, pm, ps] => some (ph, pm, ps)
      | _ => none
    match fieldsOf with
    | none => none
    | some (ph, pm, ps) =>
      match atoi (trimSpace ps), atoi (trimSpace pm) with
      | some sec, some min =>
        let hours : Option Int := if ph.length > 0 then atoi (trimSpace ph) else some 0
        match hours with
        | some h => some (ms * nsPerMs + sec * nsPerS + min * nsPerMin + h * nsPerH)
        | none => none
      | _, _ => none

theorem tailOf_eq (ms : Int) (s : Str) :
    tailOf ms s = (hmsPart s).map fun q => combine ms q.1 q.2.1 q.2.2 := by
  unfold tailOf hmsPart combine
  dsimp only
  split
  · rfl
  · split
    · split
      · rfl
      · rfl
    · rfl

theorem parse_eq (i : Str) (sep : Char) (digits : Nat) :
    parse i sep digits =
      (msPart i sep digits).bind fun p =>
        (hmsPart p.2).map fun q => combine (p.1.1 * (10 : Int) ^ p.1.2) q.1 q.2.1 q.2.2 := by
  have h0 : parse i sep digits =
      match (msPart i sep digits).map (fun p => (p.1.1 * (10 : Int) ^ p.1.2, p.2)) with
      | none => none
      | some (ms, s) => tailOf ms s := by
    unfold parse msPart tailOf
    dsimp only
    by_cases h1 : (splitC sep i).length ≥ 2
    · rw [if_pos h1, if_pos h1]
      by_cases h2 : (trimSpace ((splitC sep i).getLast?.getD [])).length > 3
      · rw [if_pos h2, if_pos h2]; rfl
      · rw [if_neg h2, if_neg h2]
        cases atoi (trimSpace ((splitC sep i).getLast?.getD [])) <;> rfl
    · rw [if_neg h1, if_neg h1]
      rfl
  rw [h0]
  cases msPart i sep digits with
  | none => rfl
  | some p => simp only [Option.map_some, Option.bind_some, tailOf_eq]

/-! ### the stages on clock texts (`Lemmas/Clock`): any field widths, `.` or `,`, white space around -/

section clock
open Clock List
variable {x f w1 w2 : Str} {H M S F : Nat} {sep : Char}

/-- the `hh:mm:ss` stage reads the fields of a clock text, hours `0` when there are two -/
theorem hmsPart_pad (hx : HMS x H M S) (hH : H ≤ int64Max) (hM : M ≤ int64Max) (hS : S ≤ int64Max)
    (h1 : ∀ c ∈ w1, isSpace c = true) (h2 : ∀ c ∈ w2, isSpace c = true) :
    hmsPart (w1 ++ x ++ w2) = some ((S : Int), (M : Int), (H : Int)) := by
  unfold hmsPart
  rw [hx.trim_pad h1 h2]
  rcases hx.fields with ⟨h, m, s, e, a, b, c⟩ | ⟨m, s, e, rfl, b, c⟩
  · simp only [e, a.trim, b.trim, c.trim, a.atoi hH, b.atoi hM, c.atoi hS, length_pos_iff.mpr a.ne_nil, if_true]
  · simp only [e, b.trim, c.trim, b.atoi hM, c.atoi hS, length_nil, Nat.lt_irrefl, if_false]
    rfl

/-- the fraction stage cuts off `<sep>F` with one to three digits `F`, whatever stands before -/
theorem msPart_frac (hsep : sep = '.' ∨ sep = ',') (hx : sep ∉ x) (hf : Numeral f F) (hl : f.length ≤ 3)
    (h2 : ∀ c ∈ w2, isSpace c = true) (d : Nat) :
    msPart (x ++ sep :: (f ++ w2)) sep d = some (((F : Int), d - f.length), x) := by
  have hs : splitC sep (x ++ sep :: (f ++ w2)) = [x, f ++ w2] :=
    splitC_two_mk hx fun hc => (mem_append.mp hc).elim (hf.digitStr.not_mem (sep_toNat hsep)) (space_ne_sep h2 hsep)
  have ht : trimSpace (f ++ w2) = f := by
    simpa using trimSpace_sandwich (w1 := []) (fun _ h => nomatch h) h2 hf.trim
  unfold msPart
  rw [hs]
  simp only [length_cons, length_nil, ge_iff_le, Nat.le_refl, ↓reduceIte, getLast?_cons_cons,
    getLast?_singleton, Option.getD_some, dropLast_cons_cons, dropLast_singleton, join]
  rw [ht, hf.atoi_short (by omega), if_neg (by omega)]

theorem msPart_plain {i : Str} (h : sep ∉ i) (d : Nat) : msPart i sep d = some ((0, 0), i) := by
  unfold msPart
  rw [splitC_not_mem h]
  rfl

theorem sep_not_mem_pad (hsep : sep = '.' ∨ sep = ',') (hx : HMS x H M S) (h1 : ∀ c ∈ w1, isSpace c = true) :
    sep ∉ w1 ++ x :=
  fun hc => (mem_append.mp hc).elim (space_ne_sep h1 hsep) (hx.not_mem_sep hsep)

/-- **`parseDuration` on a clock text with fraction**: `[h:]m:s<sep>F`, fields of any width that fit `int`, one to
    three fraction digits, white space around -/
theorem parse_clock_frac (hsep : sep = '.' ∨ sep = ',') (hx : HMS x H M S) (hH : H ≤ int64Max) (hM : M ≤ int64Max)
    (hS : S ≤ int64Max) (hf : Numeral f F) (hl : f.length ≤ 3) (h1 : ∀ c ∈ w1, isSpace c = true)
    (h2 : ∀ c ∈ w2, isSpace c = true) (d : Nat) :
    parse (w1 ++ x ++ sep :: (f ++ w2)) sep d
      = some ((F : Int) * (10 : Int) ^ (d - f.length) * nsPerMs + (S : Int) * nsPerS + (M : Int) * nsPerMin
          + (H : Int) * nsPerH) := by
  have := hmsPart_pad hx hH hM hS h1 (w2 := []) (fun _ h => nomatch h)
  rw [append_nil] at this
  rw [parse_eq, msPart_frac hsep (sep_not_mem_pad hsep hx h1) hf hl h2 d, Option.bind_some, this]
  rfl

/-- … and without fraction -/
theorem parse_clock (hsep : sep = '.' ∨ sep = ',') (hx : HMS x H M S) (hH : H ≤ int64Max) (hM : M ≤ int64Max)
    (hS : S ≤ int64Max) (h1 : ∀ c ∈ w1, isSpace c = true) (h2 : ∀ c ∈ w2, isSpace c = true) (d : Nat) :
    parse (w1 ++ x ++ w2) sep d = some ((S : Int) * nsPerS + (M : Int) * nsPerMin + (H : Int) * nsPerH) := by
  have hn : sep ∉ w1 ++ x ++ w2 :=
    fun hc => (mem_append.mp hc).elim (sep_not_mem_pad hsep hx h1) (space_ne_sep h2 hsep)
  rw [parse_eq, msPart_plain hn d, Option.bind_some, hmsPart_pad hx hH hM hS h1 h2]
  simp [combine]

end clock

end Ovf
end Astisub

namespace Astisub
namespace C16
open Go Duration List

/-- canonical text of an instant: `HH:MM:SS<sep>F…` with two-digit fields -/
def canon3 (h m s f : Nat) (sep : Char) : Str := dd h ++ ':' :: dd m ++ ':' :: dd s ++ sep :: ddd f
def canon2 (h m s f : Nat) (sep : Char) : Str := dd h ++ ':' :: dd m ++ ':' :: dd s ++ sep :: dd f

theorem pad2_eq_dd {v : Nat} (h : v < 100) : pad2 v = dd v := by
  unfold pad2
  by_cases h1 : v < 10
  · have e1 : v / 10 = 0 := by omega
    have e2 : v % 10 = v := by omega
    simp [h1, itoaNat_lt10 h1, dd, e1, e2]; rfl
  · simp [h1, itoaNat_lt100 (by omega) h, dd]

theorem fields_lt {n : Nat} (h : n < 360000000000000) :
    n / 3600000000000 < 100 ∧ n % 3600000000000 / 60000000000 < 60 ∧
      n % 60000000000 / 1000000000 < 60 ∧ n % 1000000000 / 1000000 < 1000 :=
  ⟨Nat.div_lt_of_lt_mul h, Nat.div_lt_of_lt_mul (Nat.mod_lt n (by decide)),
    Nat.div_lt_of_lt_mul (Nat.mod_lt n (by decide)), Nat.div_lt_of_lt_mul (Nat.mod_lt n (by decide))⟩

/-- the fields the writer prints add up to the instant truncated to the last digit printed -/
theorem fields_sum (n : Nat) :
    ((n % 1000000000 / 1000000 : Nat) : Int) * nsPerMs + ((n % 60000000000 / 1000000000 : Nat) : Int) * nsPerS
      + ((n % 3600000000000 / 60000000000 : Nat) : Int) * nsPerMin + ((n / 3600000000000 : Nat) : Int) * nsPerH
      = (n : Int) - (n : Int) % 1000000 := by
  unfold nsPerMs nsPerS nsPerMin nsPerH; omega

theorem fields_sum_cs (n : Nat) :
    ((n % 1000000000 / 1000000 / 10 : Nat) : Int) * 10 * nsPerMs + ((n % 60000000000 / 1000000000 : Nat) : Int) * nsPerS
      + ((n % 3600000000000 / 60000000000 : Nat) : Int) * nsPerMin + ((n / 3600000000000 : Nat) : Int) * nsPerH
      = (n : Int) - (n : Int) % 10000000 := by
  unfold nsPerMs nsPerS nsPerMin nsPerH; omega

/-- **Shape.** For `0 ≤ t < 100 h` the writer's rendering is exactly `HH:MM:SS<sep>FFF` with
    `HH < 100`, `MM, SS < 60` in two digits and a fraction of exactly three digits (ms). -/
theorem format_shape3 (t : Int) (sep : Char) (h0 : 0 ≤ t) (h1 : t < 360000000000000) :
    ∃ h m s f : Nat, h < 100 ∧ m < 60 ∧ s < 60 ∧ f < 1000 ∧
      Duration.format t sep 3 = canon3 h m s f sep ∧
      (f : Int) * nsPerMs + (s : Int) * nsPerS + (m : Int) * nsPerMin + (h : Int) * nsPerH = t - t % 1000000 := by
  obtain ⟨n, rfl⟩ : ∃ n : Nat, t = (n : Int) := ⟨t.toNat, by omega⟩
  obtain ⟨bh, bm, bs, bf⟩ := fields_lt (n := n) (by omega)
  refine ⟨_, _, _, _, bh, bm, bs, bf, ?_, ?_⟩
  · unfold Duration.format canon3
    simp only [Int.toNat_natCast, Nat.sub_self, Nat.pow_zero, Nat.div_one]
    rw [pad2_eq_dd (by omega), pad2_eq_dd (by omega), pad2_eq_dd (by omega), padLeft0_3 bf]
  · exact fields_sum n

/-- … and exactly two fraction digits (cs) for the SSA writer. -/
theorem format_shape2 (t : Int) (sep : Char) (h0 : 0 ≤ t) (h1 : t < 360000000000000) :
    ∃ h m s f : Nat, h < 100 ∧ m < 60 ∧ s < 60 ∧ f < 100 ∧
      Duration.format t sep 2 = canon2 h m s f sep ∧
      (f : Int) * 10 * nsPerMs + (s : Int) * nsPerS + (m : Int) * nsPerMin + (h : Int) * nsPerH = t - t % 10000000 := by
  obtain ⟨n, rfl⟩ : ∃ n : Nat, t = (n : Int) := ⟨t.toNat, by omega⟩
  obtain ⟨bh, bm, bs, bf⟩ := fields_lt (n := n) (by omega)
  have bf' : n % 1000000000 / 1000000 / 10 < 100 := Nat.div_lt_of_lt_mul bf
  refine ⟨_, _, _, _, bh, bm, bs, bf', ?_, ?_⟩
  · unfold Duration.format canon2
    simp only [Int.toNat_natCast]
    rw [pad2_eq_dd (by omega), pad2_eq_dd (by omega), pad2_eq_dd (by omega),
      show (3 - 2 : Nat) = 1 from rfl, Nat.pow_one, padLeft0_2 bf']
  · exact fields_sum_cs n

theorem hms_split_digits {h m s : Str} (hh : DigitStr h) (hm : DigitStr m) (hs : DigitStr s) :
    splitC ':' (h ++ ':' :: (m ++ ':' :: s)) = [h, m, s] :=
  splitC_three_mk (hh.not_mem (by decide)) (hm.not_mem (by decide)) (hs.not_mem (by decide))

theorem hms_noSpace_digits {h m s : Str} (hh : DigitStr h) (hm : DigitStr m) (hs : DigitStr s) :
    ∀ c ∈ h ++ ':' :: (m ++ ':' :: s), isSpace c = false := by
  intro c hc
  simp only [mem_append, mem_cons] at hc
  rcases hc with hc | rfl | hc | rfl | hc
  · exact hh.noSpace c hc
  · decide
  · exact hm.noSpace c hc
  · decide
  · exact hs.noSpace c hc

theorem hms_not_mem_digits {h m s : Str} (hh : DigitStr h) (hm : DigitStr m) (hs : DigitStr s) {sep : Char}
    (hsep : sep = '.' ∨ sep = ',') : sep ∉ h ++ ':' :: (m ++ ':' :: s) := by
  have hsep' := Clock.sep_toNat hsep
  have hne : sep ≠ ':' := by rcases hsep with e | e <;> subst e <;> decide
  intro hc
  simp only [mem_append, mem_cons] at hc
  rcases hc with hc | e | hc | e | hc
  · exact hh.not_mem hsep' hc
  · exact hne e
  · exact hm.not_mem hsep' hc
  · exact hne e
  · exact hs.not_mem hsep' hc

theorem hms_assoc (h m s : Str) : h ++ ':' :: m ++ ':' :: s = h ++ ':' :: (m ++ ':' :: s) := by simp

theorem hms_split (h m s : Nat) (hh : h < 100) (hm : m < 100) (hs : s < 100) :
    splitC ':' (dd h ++ ':' :: dd m ++ ':' :: dd s) = [dd h, dd m, dd s] := by
  rw [hms_assoc]; exact hms_split_digits (digitStr_dd hh) (digitStr_dd hm) (digitStr_dd hs)

theorem hms_noSpace (h m s : Nat) (hh : h < 100) (hm : m < 100) (hs : s < 100) :
    ∀ c ∈ dd h ++ ':' :: dd m ++ ':' :: dd s, isSpace c = false := by
  rw [hms_assoc]; exact hms_noSpace_digits (digitStr_dd hh) (digitStr_dd hm) (digitStr_dd hs)

theorem hms_not_mem (h m s : Nat) (hh : h < 100) (hm : m < 100) (hs : s < 100) (sep : Char)
    (hsep : sep = '.' ∨ sep = ',') : sep ∉ dd h ++ ':' :: dd m ++ ':' :: dd s := by
  rw [hms_assoc]; exact hms_not_mem_digits (digitStr_dd hh) (digitStr_dd hm) (digitStr_dd hs) hsep

theorem le64 {v : Nat} (h : v < 1000) : v ≤ int64Max := by unfold int64Max; omega

theorem hms_dd {h m s : Nat} (hh : h < 100) (hm : m < 100) (hs : s < 100) :
    Clock.HMS (dd h ++ ':' :: dd m ++ ':' :: dd s) h m s := by
  rw [hms_assoc]; exact .three (.dd hh) (.dd hm) (.dd hs)

theorem msPart_canon (h m s : Nat) (hh : h < 100) (hm : m < 100) (hs : s < 100) {fr : Str} {v : Int}
    (hfr : DigitStr fr) (hl : fr.length ≤ 3) (ha : atoi fr = some v) (sep : Char) (hsep : sep = '.' ∨ sep = ',') :
    Ovf.msPart (dd h ++ ':' :: dd m ++ ':' :: dd s ++ sep :: fr) sep 3
      = some ((v, 3 - fr.length), dd h ++ ':' :: dd m ++ ':' :: dd s) := by
  obtain ⟨F, hF⟩ := Numeral.of_digitStr hfr (by rintro rfl; cases ha)
  have hv := hF.atoi_short (by omega)
  rw [ha] at hv
  cases hv
  have := Ovf.msPart_frac (w2 := []) hsep ((hms_dd hh hm hs).not_mem_sep hsep) hF hl (fun _ h => nomatch h) 3
  rwa [append_nil] at this

theorem hmsPart_canon (h m s : Nat) (hh : h < 100) (hm : m < 100) (hs : s < 100) :
    Ovf.hmsPart (dd h ++ ':' :: dd m ++ ':' :: dd s) = some ((s : Int), (m : Int), (h : Int)) := by
  have := Ovf.hmsPart_pad (w1 := []) (w2 := []) (hms_dd hh hm hs) (le64 (by omega)) (le64 (by omega))
    (le64 (by omega)) (fun _ h => nomatch h) (fun _ h => nomatch h)
  rwa [append_nil] at this

theorem parse_canon3 (h m s f : Nat) (hh : h < 100) (hm : m < 100) (hs : s < 100) (hf : f < 1000)
    (sep : Char) (hsep : sep = '.' ∨ sep = ',') :
    parse (canon3 h m s f sep) sep 3
      = some ((f : Int) * nsPerMs + (s : Int) * nsPerS + (m : Int) * nsPerMin + (h : Int) * nsPerH) := by
  have := Ovf.parse_clock_frac (w1 := []) (w2 := []) hsep (hms_dd hh hm hs) (le64 (by omega)) (le64 (by omega))
    (le64 (by omega)) (.ddd hf) (Nat.le_refl 3) (fun _ h => nomatch h) (fun _ h => nomatch h) 3
  rwa [append_nil, show 3 - (ddd f).length = 0 from rfl, Int.pow_zero, Int.mul_one] at this

theorem parse_canon2 (h m s f : Nat) (hh : h < 100) (hm : m < 100) (hs : s < 100) (hf : f < 100)
    (sep : Char) (hsep : sep = '.' ∨ sep = ',') :
    parse (canon2 h m s f sep) sep 3
      = some ((f : Int) * 10 * nsPerMs + (s : Int) * nsPerS + (m : Int) * nsPerMin + (h : Int) * nsPerH) := by
  have := Ovf.parse_clock_frac (w1 := []) (w2 := []) hsep (hms_dd hh hm hs) (le64 (by omega)) (le64 (by omega))
    (le64 (by omega)) (.dd hf) (Nat.le_succ 2) (fun _ h => nomatch h) (fun _ h => nomatch h) 3
  rwa [append_nil, show 3 - (dd f).length = 1 from rfl, Int.pow_one] at this

/-- the hour field of the writer, any width: `Itoa`, padded to two digits -/
theorem num_pad2 (v : Nat) : Numeral (pad2 v) v := by
  by_cases h : v < 100
  · rw [pad2_eq_dd h]; exact .dd h
  · rw [pad2, if_neg (by omega)]; exact .itoaNat v

theorem hms_pad2 (H : Nat) {M S : Nat} (hM : M < 100) (hS : S < 100) :
    Clock.HMS (pad2 H ++ ':' :: (dd M ++ ':' :: dd S)) H M S :=
  .three (num_pad2 H) (.dd hM) (.dd hS)

/-- **Shape, any instant.** the writer prints a clock text (hours of any width) and a padded fraction -/
theorem format_eq (n : Nat) (sep : Char) (d : Nat) :
    Duration.format (n : Int) sep d
      = pad2 (n / 3600000000000) ++ ':' :: (dd (n % 3600000000000 / 60000000000) ++ ':' :: dd (n % 60000000000 / 1000000000))
          ++ sep :: padLeft0 d (itoaNat (n % 1000000000 / 1000000 / 10 ^ (3 - d))) := by
  unfold Duration.format
  simp only [Int.toNat_natCast]
  rw [pad2_eq_dd (by omega : n % 3600000000000 / 60000000000 < 100),
    pad2_eq_dd (by omega : n % 60000000000 / 1000000000 < 100)]
  simp

/-- **Round trip, any instant**: parse ∘ format truncates to the last digit printed, for every `0 ≤ t` whose hours fit
    `int` (every `int64` instant); `fr` is the printed fraction as a field of `d ≤ 3` digits -/
theorem parse_format_any (n : Nat) (sep : Char) (hsep : sep = '.' ∨ sep = ',') (d : Nat) {fr : Str}
    (hfr : Numeral fr (n % 1000000000 / 1000000 / 10 ^ (3 - d))) (hl : fr.length = d) (hd : d ≤ 3)
    (he : padLeft0 d (itoaNat (n % 1000000000 / 1000000 / 10 ^ (3 - d))) = fr)
    (h1 : n / 3600000000000 ≤ int64Max) :
    parse (Duration.format (n : Int) sep d) sep 3
      = some (((n % 1000000000 / 1000000 / 10 ^ (3 - d) : Nat) : Int) * (10 : Int) ^ (3 - d) * nsPerMs
          + ((n % 60000000000 / 1000000000 : Nat) : Int) * nsPerS + ((n % 3600000000000 / 60000000000 : Nat) : Int) * nsPerMin
          + ((n / 3600000000000 : Nat) : Int) * nsPerH) := by
  have := Ovf.parse_clock_frac (w1 := []) (w2 := []) hsep
    (hms_pad2 (n / 3600000000000) (M := n % 3600000000000 / 60000000000) (S := n % 60000000000 / 1000000000)
      (by omega) (by omega)) h1
    (le64 (by omega)) (le64 (by omega)) hfr (by omega) (fun _ h => nomatch h) (fun _ h => nomatch h) 3
  rwa [append_nil, hl, ← he, nil_append, ← format_eq] at this

/-- parse ∘ format = truncation to the millisecond, for every non-negative `int64` instant -/
theorem parse_format3_int64 (t : Int) (sep : Char) (hsep : sep = '.' ∨ sep = ',')
    (h0 : 0 ≤ t) (h1 : t ≤ 9223372036854775807) :
    parse (Duration.format t sep 3) sep 3 = some (t - t % 1000000) := by
  obtain ⟨n, rfl⟩ : ∃ n : Nat, t = (n : Int) := ⟨t.toNat, by omega⟩
  have bf : n % 1000000000 / 1000000 / 10 ^ (3 - 3) < 1000 := by simp; omega
  rw [parse_format_any n sep hsep 3 (.ddd bf) rfl (Nat.le_refl 3) (padLeft0_3 bf) (by unfold int64Max; omega)]
  simp only [Nat.sub_self, Nat.pow_zero, Nat.div_one, Int.pow_zero, Int.mul_one, fields_sum]

/-- **Round trip**, `0 ≤ t < 100 h`: parse ∘ format = truncation to the millisecond (the instance of `parse_format3_int64` on two-digit hours). -/
theorem parse_format3 (t : Int) (sep : Char) (hsep : sep = '.' ∨ sep = ',')
    (h0 : 0 ≤ t) (h1 : t < 360000000000000) :
    parse (Duration.format t sep 3) sep 3 = some (t - t % 1000000) :=
  parse_format3_int64 t sep hsep h0 (by omega)

theorem parse_format2_int64 (t : Int) (sep : Char) (hsep : sep = '.' ∨ sep = ',')
    (h0 : 0 ≤ t) (h1 : t ≤ 9223372036854775807) :
    parse (Duration.format t sep 2) sep 3 = some (t - t % 10000000) := by
  obtain ⟨n, rfl⟩ : ∃ n : Nat, t = (n : Int) := ⟨t.toNat, by omega⟩
  have bf : n % 1000000000 / 1000000 / 10 ^ (3 - 2) < 100 := by simp; omega
  rw [parse_format_any n sep hsep 2 (.dd bf) rfl (by decide) (padLeft0_2 bf) (by unfold int64Max; omega)]
  simp only [show (3 - 2 : Nat) = 1 from rfl, Nat.pow_one, Int.pow_one, fields_sum_cs]

theorem parse_format2 (t : Int) (sep : Char) (hsep : sep = '.' ∨ sep = ',')
    (h0 : 0 ≤ t) (h1 : t < 360000000000000) :
    parse (Duration.format t sep 2) sep 3 = some (t - t % 10000000) :=
  parse_format2_int64 t sep hsep h0 (by omega)

theorem srt_roundtrip (t : Int) (h0 : 0 ≤ t) (h1 : t < 360000000000000) :
    parseSRT (formatSRT t) = some (t - t % 1000000) := by
  unfold parseSRT formatSRT
  rw [parse_format3 t ',' (Or.inr rfl) h0 h1]

theorem vtt_roundtrip (t : Int) (h0 : 0 ≤ t) (h1 : t < 360000000000000) :
    parseVTT (formatVTT t) = some (t - t % 1000000) :=
  parse_format3 t '.' (Or.inl rfl) h0 h1

theorem ttml_clock_roundtrip (t : Int) (h0 : 0 ≤ t) (h1 : t < 360000000000000) :
    parse (formatTTML t) '.' 3 = some (t - t % 1000000) :=
  parse_format3 t '.' (Or.inl rfl) h0 h1

theorem ssa_roundtrip (t : Int) (h0 : 0 ≤ t) (h1 : t < 360000000000000) :
    parseSSA (formatSSA t) = some (t - t % 10000000) :=
  parse_format2 t '.' (Or.inl rfl) h0 h1

/-- **Floor.** the value read back is the latest representable instant not after `t` -/
theorem floor_ms (t : Int) (h0 : 0 ≤ t) :
    t - t % 1000000 ≤ t ∧ t < t - t % 1000000 + 1000000 ∧ (t - t % 1000000) % 1000000 = 0 := by omega

theorem floor_cs (t : Int) (h0 : 0 ≤ t) :
    t - t % 10000000 ≤ t ∧ t < t - t % 10000000 + 10000000 ∧ (t - t % 10000000) % 10000000 = 0 := by omega

/-- **Monotone.** later instants never render as (read back as) earlier timestamps -/
theorem monotone_ms (t t' : Int) (h : t ≤ t') : t - t % 1000000 ≤ t' - t' % 1000000 := by omega
theorem monotone_cs (t t' : Int) (h : t ≤ t') : t - t % 10000000 ≤ t' - t' % 10000000 := by omega

/-- truncating `n` to a multiple of `u` changes no quotient by a multiple of `u`, even after a
    remainder by a multiple of `u`: both sides are `n / u % k / l` -/
theorem trunc_mod_div (n u k l : Nat) : (n - n % u) % (u * k) / (u * l) = n % (u * k) / (u * l) := by
  rcases Nat.eq_zero_or_pos u with rfl | hu
  · simp
  · rw [Nat.sub_eq_of_eq_add (Nat.div_add_mod n u).symm, Nat.mul_mod_mul_left, Nat.mul_div_mul_left _ _ hu,
      ← Nat.div_div_eq_div_mul, Nat.mod_mul_right_div_self]

theorem trunc_div (n u l : Nat) : (n - n % u) / (u * l) = n / (u * l) := by
  simpa using trunc_mod_div n u 0 l

/-- The rendering sees only `t / u` for every unit `u` that divides an hour, a minute, a second and
    the unit of the last fraction digit. -/
theorem format_trunc (t : Int) (sep : Char) (digits u a b c d : Nat) (ha : 3600000000000 = u * a)
    (hb : 60000000000 = u * b) (hc : 1000000000 = u * c) (hd : 1000000 * 10 ^ (3 - digits) = u * d)
    (h0 : 0 ≤ t) : Duration.format (t - t % u) sep digits = Duration.format t sep digits := by
  obtain ⟨n, rfl⟩ : ∃ n : Nat, t = (n : Int) := ⟨t.toNat, by omega⟩
  have e : ((n : Int) - (n : Int) % (u : Int)).toNat = n - n % u := by
    have := Nat.mod_le n u
    rw [← Int.natCast_emod]; omega
  unfold Duration.format
  simp only [e, Int.toNat_natCast, Nat.div_div_eq_div_mul]
  rw [hd, hc, hb, ha, trunc_div, trunc_mod_div, trunc_mod_div, trunc_mod_div]

/-- **Self-inverse.** writing what was read back gives the identical rendering -/
theorem format_idem3 (t : Int) (sep : Char) (h0 : 0 ≤ t) :
    Duration.format (t - t % 1000000) sep 3 = Duration.format t sep 3 :=
  format_trunc t sep 3 1000000 3600000 60000 1000 1 rfl rfl rfl rfl h0

theorem format_idem2 (t : Int) (sep : Char) (h0 : 0 ≤ t) :
    Duration.format (t - t % 10000000) sep 2 = Duration.format t sep 2 :=
  format_trunc t sep 2 10000000 360000 6000 100 1 rfl rfl rfl rfl h0

/-- the frame count the writer emits for instant `t` -/
def frameOf (n fr : Nat) : Nat := n % 1000000000 * fr / 1000000000

theorem framesToNs_nat (f fr : Nat) (hfr : 0 < fr) :
    framesToNs true (f : Int) (fr : Int) = (((1000000000 * f + fr - 1) / fr : Nat) : Int) := by
  unfold framesToNs
  simp only [↓reduceIte]
  rw [Int.tdiv_eq_ediv_of_nonneg (by omega)]
  have h1 : 1 ≤ 1000000000 * f + fr := by omega
  have : (1000000000 * (f : Int) + (fr : Int) - 1) = ((1000000000 * f + fr - 1 : Nat) : Int) := by
    rw [Int.natCast_sub h1]; simp
  rw [this]; rfl

/-- reading a frame count and writing it again gives the same frame count (the statement that
    was false before the `fix:` commit at 30 fps: frame 1 came back as frame 0), and the value `k`
    read is within one nanosecond of the frame instant: `f·10⁹/fr ≤ k < f·10⁹/fr + 1`. Holds for
    every rate up to 10⁹ frames per second: `k·fr` lies in `[10⁹f, 10⁹f + fr)`. -/
theorem frames_stable (f fr : Nat) (hfr : 0 < fr) (hfr' : fr ≤ 1000000000) (hf : f < fr) :
    (1000000000 * f + fr - 1) / fr < 1000000000 ∧
    (1000000000 * f + fr - 1) / fr * fr / 1000000000 = f ∧
    (1000000000 * f + fr - 1) / fr * fr < 1000000000 * f + fr ∧
    1000000000 * f ≤ (1000000000 * f + fr - 1) / fr * fr := by
  have h1 := Nat.div_mul_le_self (1000000000 * f + fr - 1) fr
  have h2 := Nat.lt_mul_div_succ (1000000000 * f + fr - 1) hfr
  rw [Nat.mul_succ, Nat.mul_comm fr] at h2
  refine ⟨Nat.lt_of_mul_lt_mul_right (a := fr) ?_, ?_, ?_, ?_⟩ <;> omega

theorem mul_add_div_mod (x : Nat) {y c : Nat} (hy : y < c) : (x * c + y) / c = x ∧ (x * c + y) % c = y := by
  rw [Nat.mul_comm, Nat.mul_add_div (by omega), Nat.mul_add_mod, Nat.div_eq_of_lt hy, Nat.mod_eq_of_lt hy]
  exact ⟨rfl, rfl⟩

theorem fields_rewrite (H M S k fr : Nat) (hH : H < 256) (hM : M < 60) (hS : S < 60) (hk : k < 1000000000) :
    formatSTLBytes ((H * 3600000000000 + M * 60000000000 + S * 1000000000 + k : Nat) : Int) fr
      = [H, M, S, k * fr / 1000000000] := by
  have q1 := mul_add_div_mod ((H * 60 + M) * 60 + S) hk
  have q2 := mul_add_div_mod (H * 60 + M) hS
  have q3 := mul_add_div_mod H hM
  unfold formatSTLBytes
  simp only [Int.toNat_natCast]
  rw [show H * 3600000000000 + M * 60000000000 + S * 1000000000 + k
      = ((H * 60 + M) * 60 + S) * 1000000000 + k by omega,
    show (3600000000000 : Nat) = 1000000000 * 60 * 60 from rfl, show (60000000000 : Nat) = 1000000000 * 60 from rfl,
    Nat.mod_mul_right_div_self, Nat.mod_mul_right_div_self, ← Nat.div_div_eq_div_mul, ← Nat.div_div_eq_div_mul,
    q1.1, q1.2, q2.1, q2.2, q3.1, q3.2, Nat.mod_eq_of_lt hH]

/-- binary timecodes, any rate up to 10⁹ frames per second: fields in range, and read-then-write changes no field -/
theorem stl_bytes_rewrite_any (t : Int) (fr : Nat) (hfrpos : 0 < fr) (hfr : fr ≤ 1000000000) (h0 : 0 ≤ t)
    (h1 : t < 86400000000000) :
    formatSTLBytes (parseSTLBytes true (formatSTLBytes t fr) fr) fr = formatSTLBytes t fr ∧
    (∃ h m s f, formatSTLBytes t fr = [h, m, s, f] ∧ h < 24 ∧ m < 60 ∧ s < 60 ∧ f < fr) := by
  obtain ⟨n, rfl⟩ : ∃ n : Nat, t = (n : Int) := ⟨t.toNat, by omega⟩
  have hf : n % 1000000000 * fr / 1000000000 < fr :=
    Nat.div_lt_of_lt_mul (Nat.mul_lt_mul_of_pos_right (Nat.mod_lt n (by decide)) hfrpos)
  obtain ⟨_, hM, hS, _⟩ := fields_lt (n := n) (by omega)
  obtain ⟨hk, hst, _, _⟩ := frames_stable (n % 1000000000 * fr / 1000000000) fr hfrpos hfr hf
  refine ⟨?_, ⟨_, _, _, _, rfl, Nat.lt_of_le_of_lt (Nat.mod_le _ _) (Nat.div_lt_of_lt_mul (by omega)), hM, hS, hf⟩⟩
  have hfmt : formatSTLBytes (n : Int) fr = [n / 3600000000000 % 256, n % 3600000000000 / 60000000000,
      n % 60000000000 / 1000000000, n % 1000000000 * fr / 1000000000] := by
    unfold formatSTLBytes; simp only [Int.toNat_natCast]
  rw [hfmt]
  unfold parseSTLBytes
  simp only
  rw [framesToNs_nat _ _ hfrpos]
  unfold nsPerH nsPerMin nsPerS
  generalize hK : (1000000000 * (n % 1000000000 * fr / 1000000000) + fr - 1) / fr = K at hk hst
  have hH : n / 3600000000000 % 256 < 256 := Nat.mod_lt _ (by decide)
  generalize n / 3600000000000 % 256 = H at hH ⊢
  generalize n % 3600000000000 / 60000000000 = M at hM ⊢
  generalize n % 60000000000 / 1000000000 = S at hS ⊢
  have e : ((H : Int) * 3600000000000 + (M : Int) * 60000000000 + (S : Int) * 1000000000 + (K : Int))
      = ((H * 3600000000000 + M * 60000000000 + S * 1000000000 + K : Nat) : Int) := by omega
  rw [e, fields_rewrite H M S K fr hH hM hS hk, hst]

/-- binary timecodes: fields in range, and read-then-write changes no field -/
theorem stl_bytes_rewrite (t : Int) (fr : Nat) (hfr : fr = 25 ∨ fr = 30) (h0 : 0 ≤ t) (h1 : t < 86400000000000) :
    formatSTLBytes (parseSTLBytes true (formatSTLBytes t fr) fr) fr = formatSTLBytes t fr ∧
    (∃ h m s f, formatSTLBytes t fr = [h, m, s, f] ∧ h < 24 ∧ m < 60 ∧ s < 60 ∧ f < fr) :=
  stl_bytes_rewrite_any t fr (by omega) (by omega) h0 h1

/-- the STL timecode of instant `t`, counted in frames, is `⌊t·fr / 10⁹⌋` -/
theorem stl_count (t fr : Nat) : t / 1000000000 * fr + frameOf t fr = t * fr / 1000000000 := by
  unfold frameOf
  conv => rhs; rw [← Nat.div_add_mod t 1000000000, Nat.add_mul, Nat.mul_assoc, Nat.mul_add_div (by decide)]

/-- … hence monotone in `t` at every frame rate -/
theorem stl_monotone_any (t t' fr : Nat) (h : t ≤ t') :
    t / 1000000000 * fr + frameOf t fr ≤ t' / 1000000000 * fr + frameOf t' fr := by
  rw [stl_count, stl_count]; exact Nat.div_le_div_right (Nat.mul_le_mul_right fr h)

/-- later instants never get an earlier STL timecode (lexicographic order of the fields =
    numeric order of `h·3600·fr + m·60·fr + s·fr + f`) -/
theorem stl_monotone (t t' : Nat) (fr : Nat) (hfr : fr = 25 ∨ fr = 30) (h : t ≤ t') :
    t / 1000000000 * fr + frameOf t fr ≤ t' / 1000000000 * fr + frameOf t' fr :=
  stl_monotone_any t t' fr h

end C16
end Astisub
