import Astisub.Model.SSAStyleKeys
import Astisub.Props.C19

/-!
# Props/C19c — style entries sharing an identifier under different map keys (D32)

`C19.ssa_deterministic` needs distinct identifiers (`Nodup`), which a Go map guarantees for its *keys* only.  At the
excluded point — two keys, one `Style.ID` — the unrepaired `WriteToSSA` was not deterministic: which of the two styles it
wrote (twice) followed the map's iteration order (`pinned_depends_on_map_order`, replayed on the library by the
stream `det.dupid`).  After the repair (entries visited in sorted key order) the emitted style lines are a function
of the map (`emitted_perm_invariant`), and the entry with the greatest key is the one written (`winner`).
-/

namespace Astisub
namespace C19c
open List SSAKeys Go

theorem leKey_trans (a b c : Entry) : leKey a b → leKey b c → leKey a c := C19.not_strLt_trans

theorem leKey_total (a b : Entry) : (leKey a b || leKey b a) = true := C19.not_strLt_total a.key b.key

theorem leKey_antisymm (a b : Entry) : leKey a b → leKey b a → a.key = b.key := C19.not_strLt_antisymm

/-- two enumerations of one map (keys distinct, identifiers arbitrary) are visited in the same order -/
theorem byKey_perm_invariant (l₁ l₂ : List Entry) (hp : l₁ ~ l₂) (hn : (l₁.map (·.key)).Nodup) :
    byKey l₁ = byKey l₂ :=
  C19.mergeSort_perm_invariant leKey leKey_trans leKey_total hp fun a ha b hb hab hba =>
    eq_of_nodup_map hn ha hb (leKey_antisymm a b hab hba)

/-- **the repaired writer is deterministic without any hypothesis on the identifiers**: the style lines do not depend
    on the order in which the runtime enumerates the map, even when several entries carry the same `Style.ID` -/
theorem emitted_perm_invariant (l₁ l₂ : List Entry) (hp : l₁ ~ l₂) (hn : (l₁.map (·.key)).Nodup) :
    emitted l₁ = emitted l₂ ∧ table l₁ = table l₂ := by
  unfold emitted table
  rw [byKey_perm_invariant l₁ l₂ hp hn]
  exact ⟨rfl, rfl⟩

private def wA : Entry := ⟨['a'], { id := ['x'], attrs := some [(['f'], ['A'])] }⟩
private def wB : Entry := ⟨['b'], { id := ['x'], attrs := some [(['f'], ['B'])] }⟩

/-- **the unrepaired writer was not** (the negation, with the witness the library is replayed on): the same two-entry map
    enumerated in its two orders holds different styles under the emitted name `x` -/
theorem pinned_depends_on_map_order :
    ∃ (l₁ l₂ : List Entry) (n : Str), l₁ ~ l₂ ∧ (l₁.map (·.key)).Nodup ∧ n ∈ names l₁ ∧
      (tableIn l₁).lookup n ≠ (tableIn l₂).lookup n := by
  refine ⟨[wA, wB], [wB, wA], ['x'], Perm.swap _ _ _, by decide, ?_, by decide⟩
  unfold names; rw [mem_mergeSort]; decide

theorem lookup_tableIn_aux (l : List Entry) (t : List (Str × Def)) (n : Str) :
    (l.foldl (fun t e => (e.d.id, e.d) :: t) t).lookup n =
      match (l.filter (fun e => n == e.d.id)).getLast? with
      | some e => some e.d
      | none => t.lookup n := by
  induction l generalizing t with
  | nil => simp
  | cons e es ih =>
    rw [foldl_cons, ih]
    by_cases hne : (n == e.d.id) = true
    · simp only [filter_cons, hne, if_true]
      cases hf : (es.filter (fun e => n == e.d.id)) with
      | nil => simp [lookup_cons, hne]
      | cons y ys => rw [getLast?_cons_cons, getLast?_cons]
    · have hne' : (n == e.d.id) = false := by simpa using hne
      simp only [filter_cons, hne', Bool.false_eq_true, if_false]
      cases hf : (es.filter (fun e => n == e.d.id)).getLast? with
      | some y => rfl
      | none => simp [lookup_cons, hne']

/-- **which entry is written**: under a name, the style of the last entry in key order that carries it, i.e. the one
    with the greatest key -/
theorem winner (es : List Entry) (n : Str) :
    (table es).lookup n = (((byKey es).filter (fun e => n == e.d.id)).getLast?).map (·.d) := by
  unfold table tableIn
  rw [lookup_tableIn_aux]
  cases ((byKey es).filter (fun e => n == e.d.id)).getLast? <;> simp

/-- `byKey` really is sorted by key (so "last" above means "greatest key") and holds the same entries -/
theorem byKey_sorted (es : List Entry) : (byKey es).Pairwise (fun a b => leKey a b = true) ∧ byKey es ~ es :=
  ⟨pairwise_mergeSort leKey_trans leKey_total es, mergeSort_perm es leKey⟩

/-- one `Style:` line per stored entry (a shared name is written as often as it is stored) -/
theorem emitted_length (es : List Entry) : (emitted es).length = es.length := by
  unfold emitted emittedIn names byKey
  simp [length_mergeSort]

/-- every line written is a stored style carrying the name it is written under -/
theorem emitted_stored (es : List Entry) (o : Option Def) (h : o ∈ emitted es) :
    ∃ e ∈ es, o = some e.d := by
  unfold emitted emittedIn at h
  obtain ⟨n, hn, rfl⟩ := mem_map.mp h
  obtain ⟨e0, he0, rfl⟩ := mem_map.mp (mem_mergeSort.mp hn)
  rw [show tableIn (byKey es) = table es from rfl, winner]
  cases hl : ((byKey es).filter (fun e => e0.d.id == e.d.id)).getLast? with
  | none =>
    have : e0 ∈ (byKey es).filter (fun e => e0.d.id == e.d.id) :=
      mem_filter.mpr ⟨he0, beq_self_eq_true e0.d.id⟩
    rw [getLast?_eq_none_iff.mp hl] at this
    cases this
  | some e1 =>
    exact ⟨e1, (mergeSort_perm es leKey).mem_iff.mp (mem_filter.mp (mem_of_getLast? hl)).1, rfl⟩

/-- non-vacuity of `winner`: with keys `a`, `b` sharing the name `x`, visiting in key order leaves `b`'s style -/
example : (tableIn [wA, wB]).lookup ['x'] = some wB.d := by decide

end C19c
end Astisub
