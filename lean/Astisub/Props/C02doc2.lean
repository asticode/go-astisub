import Astisub.Lemmas.VTT2View

/-!
# C02 (write → read, complete document) — comments, regions, STYLE block, timestamp map

Continuation of `Props/C02doc.lean`.  All statements are about the models `VTT.write` /
`VTT.read` / `VTT.step` (`Model/VTT.lean`) and hold for **all** cue lists satisfying the decidable
proviso `DocOk` (each conjunct has a concrete example next to its definition in
`Lemmas/VTT2*.lean`; `VTT.exDoc` satisfies all of them at once: `docOk_example`).

* `written_lines` — the exact lines of ANY written document (no proviso besides a non-empty list).
* `comment_block_roundtrip`, `write_read_comments` — NOTE blocks; the statement `C02doc` states.
* `region_roundtrip`, `readRegion_fields`, `region_defined_before_use` — region definitions.
* `style_block_roundtrip`, `tsmap_roundtrip` — the CSS block and the `X-TIMESTAMP-MAP` header line.
* `write_read_doc`, `write_read_doc_bytes` — the final theorem, on text lines and on bytes as the
  `vtt.write` stream computes it; `wanted_fields`, `wanted_items_vs_check`,
  `wanted_regions_vs_check` say what `wanted2` is and how it relates to `Driver.vttWanted`.

`Spec.VTT.decode ∘ write` (the independent decoder) is stated here (`decode_write_Statement`) and treated in
`Props/C02read2.lean`.
-/

namespace Astisub
namespace C02doc2
open Go VTT

/-- **Layout (any document).**  Whatever the cue list carries, the written text is the lines of
    `docLines2 s`, each terminated by a line feed: `WEBVTT`; the `X-TIMESTAMP-MAP` line if the
    metadata has a two-part value; blank + `STYLE` + the CSS lines if there are any; blank + one
    `Region: id=…` line per region in identifier order if there are regions; then for every cue a
    blank line, its `NOTE` block (`NOTE first`, the other lines, a blank line) if it has comments,
    its number, its timing line and its text lines. -/
theorem written_lines (s : Subs) (hne : s.items ≠ []) : write s = some (unlines (docLines2 s)) :=
  write_lines2 s hne

/-- the shape of `docLines2`, spelled out -/
theorem written_lines_shape (s : Subs) :
    docLines2 s = ("WEBVTT".toList :: tsmapLines s) ++ styleBlock s ++ regionBlock s ++ cuesLines2 s 0 s.items ∧
    (∀ k it rest, cuesLines2 s k (it :: rest)
        = ([] :: (commentLines it.comments ++ ([itoaNat (k + 1), cueTiming s it] ++ it.lines.map lineBody)))
          ++ cuesLines2 s (k + 1) rest) ∧
    (∀ c cs, commentLines (c :: cs) = ("NOTE ".toList ++ c) :: cs ++ [[]]) :=
  ⟨rfl, fun _ _ _ => rfl, fun _ _ => rfl⟩

/-- **Comment block.**  Outside a cue, the reader given the lines of a written comment block
    (`commentsOk`: every line non-empty, trimmed, without line break; lines after the first
    moreover without `-->`, not `NOTE` and not starting with `NOTE `; they MAY start with `STYLE`,
    `Region: ` or `X-TIMESTAMP-MAP`) appends exactly those lines to the pending comments and is
    outside any block again. -/
theorem comment_block_roundtrip (cs : List Str) (hok : commentsOk cs = true) (more : List (Option Str))
    (st : St) (hb : st.block = .none) :
    run st ((commentLines cs).map some ++ more)
      = run { st with comments := st.comments ++ cs, tags := if cs = [] then st.tags else [] } more :=
  run_commentLines cs hok more st hb

/-- **Write → read with comments.**  The statement `C02doc.write_read_comments_Statement`
    (cue lists whose cues carry NOTE blocks; no regions, STYLE block, timestamp map) holds. -/
theorem write_read_comments : C02doc.write_read_comments_Statement := write_read_comments_proof

/-- **Region definition.**  Outside any block the written definition line of a region
    (`regionOk`: identifier and values non-empty without white space and `=`; `lines` the decimal
    of a non-zero `int`) defines the region with exactly the attributes written
    (`readRegion`: own attribute, else the referenced style's). -/
theorem region_roundtrip (s : Subs) (d : Def) (hok : regionOk s d = true) (st : St) (hb : st.block = .none) :
    step st (some (regionLine s d)) = .ok { st with regions := setDef st.regions (readRegion s d) } :=
  step_region s d hok st hb

/-- what `readRegion` is, field by field -/
theorem readRegion_fields (s : Subs) (d : Def) :
    (readRegion s d).id = d.id ∧ (readRegion s d).ref = none ∧
    (readRegion s d).attrs = some (mkAttrs [
      ("WebVTTLines", fallback d.attrs (styleAttrs s d.ref) "WebVTTLines"),
      ("WebVTTRegionAnchor", fallback d.attrs (styleAttrs s d.ref) "WebVTTRegionAnchor"),
      ("WebVTTScroll", fallback d.attrs (styleAttrs s d.ref) "WebVTTScroll"),
      ("WebVTTViewportAnchor", fallback d.attrs (styleAttrs s d.ref) "WebVTTViewportAnchor"),
      ("WebVTTWidth", fallback d.attrs (styleAttrs s d.ref) "WebVTTWidth")]) :=
  ⟨rfl, rfl, rfl⟩

/-- **Defined before use.**  In a `DocOk` document a cue that refers to a region `r` finds it
    defined earlier: the written lines are `pre ++ regionBlock ++ cue lines`, the region block holds
    the line `Region: id=r …` of a region of the list, and the cue's timing line is among the cue
    lines. -/
theorem region_defined_before_use (s : Subs) (hok : DocOk s = true) (it : CItem) (hit : it ∈ s.items)
    (r : Str) (hr : it.region = some r) :
    ∃ d ∈ s.regions, d.id = r ∧ ("Region: id=".toList ++ r) <+: regionLine s d ∧
      ∃ pre, docLines2 s = pre ++ regionBlock s ++ cuesLines2 s 0 s.items ∧
        regionLine s d ∈ regionBlock s ∧ cueTiming s it ∈ cuesLines2 s 0 s.items :=
  VTT.region_defined_before_use s hok it hit r hr

/-- **STYLE block.**  Outside any block and before any other STYLE block: blank line, `STYLE`, the
    CSS lines (`styleLineOk`: non-empty, trimmed, no `-->`, not the start of another block) — the
    reader is inside the style block holding exactly those lines. -/
theorem style_block_roundtrip (ls : List Str) (hls : ∀ l ∈ ls, styleLineOk l = true) (more : List (Option Str))
    (st : St) (hb : st.block = .none) (hs : st.styleSeen = false) :
    run st ((([] : Str) :: "STYLE".toList :: ls).map some ++ more)
      = run { st with block := .style, styleSeen := true, tags := [], styles := ls } more :=
  run_styleBlock ls hls more st hb hs

/-- **Timestamp map.**  The header line written for `LOCAL = l` (`0 ≤ l < 100 h`) and a tick count
    `m` that `Atoi` accepts parses back to `l` truncated to the millisecond and the value of `m`. -/
theorem tsmap_roundtrip (l : Int) (h0 : 0 ≤ l) (h1 : l < 360000000000000) (m : Str) (mv : Int)
    (ha : atoi m = some mv) :
    parseTsMap ("X-TIMESTAMP-MAP=LOCAL:".toList ++ Duration.formatVTT l ++ ",MPEGTS:".toList ++ m)
      = .ok (l - l % 1000000, mv) :=
  parseTsMap_tsLine _ m _ mv (format_facts l h0 h1).1 (atoi_signDig (by rw [ha]; rfl)) (format_facts l h0 h1).2.1
    (format_facts l h0 h1).2.2 ha

/-- `DocOk` is satisfiable by a document that uses everything at once -/
theorem docOk_example : DocOk exDoc = true := exDoc_ok

/-- **Write → read, complete document.**  Every cue list satisfying `DocOk` is written; the text
    has no carriage return; the reader, given the text cut at its line feeds, returns `wanted2 s`. -/
theorem write_read_doc (s : Subs) (hok : DocOk s = true) :
    ∃ doc, write s = some doc ∧ '\r' ∉ doc ∧ read (textLines doc) = .ok (wanted2 s) :=
  read_write2 s hok

/-- **… on bytes**, exactly as the model side of the `vtt.write` stream computes it
    (`Driver.handleVTT`): UTF-8 encode, scanner model, decode each line, read. -/
theorem write_read_doc_bytes (s : Subs) (hok : DocOk s = true) (doc : Str) (hw : write s = some doc) :
    read (Driver.docLines (Driver.utf8 doc)) = .ok (wanted2 s) :=
  read_write_bytes2 s hok doc hw

/-- `wanted2`, field by field: cues numbered from 1 with instants truncated to the millisecond,
    the settings the writer resolved, the region reference and the comments kept, lines as
    `C02doc.line_roundtrip` describes; regions in identifier order, each `readRegion`; the CSS
    lines joined as `WebVTTStyles` of the default style; the timestamp map with `LOCAL` truncated. -/
theorem wanted_fields (s : Subs) :
    (wanted2 s).items = s.items.zipIdx.map (fun x =>
      { index := (x.2 : Int) + 1, startAt := x.1.startAt - x.1.startAt % 1000000,
        endAt := x.1.endAt - x.1.endAt % 1000000, region := x.1.region, comments := x.1.comments,
        lines := x.1.lines.map fun l => { voice := l.voice, items := l.items.map (readItem []) },
        attrs := some (mkAttrs [("WebVTTAlign", fallback x.1.attrs (styleAttrs s x.1.style) "WebVTTAlign"),
          ("WebVTTLine", fallback x.1.attrs (styleAttrs s x.1.style) "WebVTTLine"),
          ("WebVTTPosition", fallback x.1.attrs (styleAttrs s x.1.style) "WebVTTPosition"),
          ("WebVTTSize", fallback x.1.attrs (styleAttrs s x.1.style) "WebVTTSize"),
          ("WebVTTVertical", fallback x.1.attrs (styleAttrs s x.1.style) "WebVTTVertical")]) }) ∧
    (wanted2 s).regions = (VTT.sortDefs s.regions).map (readRegion s) ∧
    (wanted2 s).styles = (if (styleLines s).isEmpty then [] else
      [{ id := defaultStyleID,
         attrs := some (mkAttrs [("WebVTTStyles", some (join ['\n'] (styleLines s))), ("WebVTTTags", none)]) }]) ∧
    (wanted2 s).metadata = (tsmapVal s).map fun (l, m) => [("WebVTTTimestampMap".toList, itoa l ++ ',' :: itoa m)] :=
  ⟨rfl, rfl, rfl, rfl⟩

/-- **`wanted2` against the check.**  The cues of `wanted2 s` are the cues of `Driver.vttWanted s`
    (what the `vtt.write` stream expects back) in which the style references are dropped and each
    run's attributes are reduced to its tag stack — the two things WebVTT does not carry
    (`normCue`, `normRun`). -/
theorem wanted_items_vs_check (s : Subs) : (wanted2 s).items = (Driver.vttWanted s).items.map normCue :=
  wanted2_items s

/-- … and its regions are those of `Driver.vttWanted s` in identifier order (the check's view
    sorts them too) without their style reference. -/
theorem wanted_regions_vs_check (s : Subs) :
    (wanted2 s).regions = (VTT.sortDefs (Driver.vttWanted s).regions).map fun d => { d with ref := none } :=
  wanted2_regions s

/-- Not proved in full; `C02read2.decode_write_partial` proves it under one further hypothesis
    (`VTT3W.classW2`).  The independent decoder `Spec.VTT.decode` accepts what the writer produces for a cue list without
    comments, regions, STYLE block and timestamp map, and denotes the cues the check expects
    (`Driver.vttView (Driver.vttWanted s)`, both sides normalised as `Driver.handleVTT` does).
    Two hypotheses are needed beyond `C02doc.write_read`: fewer than `2^62` cues (the decoder's
    identifier bound) and no inline timestamp strictly between 0 and 1 ms — the writer emits
    `<00:00:00.000>` for it, which the decoder reports as a timestamp `0` while the check's view of
    the truncated instant `0` is "no timestamp" (counter-example: `startAt := 500`). -/
def decode_write_Statement : Prop :=
  ∀ (s : Subs), s.items ≠ [] → (∀ it ∈ s.items, cueOk s it = true) → s.items.length < 2 ^ 62 →
    s.regions = [] → styleLines s = [] → SRT.kvGet s.metadata "WebVTTTimestampMap" = none →
    (∀ it ∈ s.items, ∀ l ∈ it.lines, ∀ li ∈ l.items, li.startAt = 0 ∨ 1000000 ≤ li.startAt) →
    ∀ doc, write s = some doc →
      (Driver.vttView (Driver.vttWanted s)).isSome = true ∧
      (Spec.VTT.decode doc).map Spec.VTT.norm = (Driver.vttView (Driver.vttWanted s)).map Spec.VTT.norm

end C02doc2
end Astisub
