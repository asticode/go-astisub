import Astisub.Lemmas.VTT3W
import Astisub.Props.C02doc2

/-!
# C02 (read clause with inline timestamps) — WebVTT: inline timestamps on the read side; W2: the independent decoder on
written documents

`Props/C02read.lean` has the judgement of the `vtt.read` case of `Driver/VTT.lean` for the reader model's own
answer on every accepted document of the decidable class `InClass`, which excludes every line with an inline
timestamp (`<` + digit) wholesale.  Here the class has no such exclusion:

* `InClass2` is `InClass` with cue-text lines containing inline timestamps `<mm:ss.ttt>` / `<hh…:mm:ss.ttt>` in
  any position (before or after tags, several per line, before white space, at the end of the line) —
  `inClass_sub`: every document of `InClass` is in `InClass2`;
* `read_view2` — from the bytes, exactly as the driver compares:
  `(Spec.VTT.decode text).map Driver.zeroTs` against the reader's view, both under `Spec.VTT.norm`
  (`zeroTs`: an inline timestamp of zero is "no timestamp" to the library);
* `read_view2_chars`, `read_not_err2`, `read_ok2` — on character lines, and spelled out;
* `text_line2` — the cue-text layer on its own, for a line with inline timestamps: the reader's items are the
  decoder's runs up to white-space-only runs (which `norm` drops) and zero timestamps;
* `inline_ts_match`, `inline_ts_parse` — every inline timestamp the decoder accepts is one match of the
  library's expression `<((?:\d{2,}:)?\d{2}:\d{2}\.\d{3})>` and is parsed to the same instant.

One real difference lives among the lines with inline timestamps, and is kept out of the class
explicitly (`lineOK2`: on a line with an inline timestamp no piece of text — between two `<…>`s — that is blank only
after decoding the character references, i.e. white space with at least one `&nbsp;`; `chunkOK`):

Finding 8 (findings 1–7: `Props/C02read.lean`).  `<00:01.000>&nbsp;<b>x</b>`: the library decides whether a piece of text is blank on the RAW text
   (`strings.TrimSpace` before `unescapeHTML`: `&nbsp;` is not blank), the decoder on the decoded text
   (U+00A0 is white space for `strings.TrimSpace`).  The library therefore attaches the pending timestamp to the
   run `U+00A0` (which `norm` then drops as white space only, with the timestamp) and the decoder to the next
   run `x`.  Witness: `findingNbsp…` below.  Without a pending timestamp the two readings agree; the class
   keeps such pieces on lines without inline timestamp, and `&nbsp;` next to other text everywhere
   (`lineOK2_of_noNbsp`: in particular every line without `&nbsp;` whose tags are in the class).

The known difference `<00:00.000>text` (decoder: `ts = some 0`, library: no timestamp) is resolved by `zeroTs`
as in the driver.  That no other difference exists inside the class is what `read_view2` proves; outside the class
nothing is claimed.

Second part (W2, section "the independent decoder on written documents" below): `decode_write` — for every cue
list satisfying `DocOk` (C02doc2) and the decidable extra proviso `VTT3W.DocW2`, the independent decoder accepts
what the writer model produces and denotes the view the `vtt.write` check expects
(`(Spec.VTT.decode text).map norm == want`); `written_accepted`, `written_text_accepted`, `written_in_class` are its
three ingredients on their own; `decode_write_partial` is `C02doc2.decode_write_Statement` with one further
hypothesis (`classW2`), the statement itself stays open (`decode_write_Statement_of_class` names the gap).
Lemmas: `VTTInlineTs.lean` (written numbers and instants), `VTT3WText*.lean` (the decoder on a written cue-text line), `VTT3WDoc*.lean` (on the block structure of a
written document), `VTT3WView.lean` (view of `wanted2` = view of `vttWanted`), `VTT3W.lean` (assembly).

Proof of the first part: `Lemmas/VTTInlineTs.lean` (inline timestamps; the reader's text token `pre <t1> x1 … <tn> xn`:
`tsSplit`, `textToken`), `VTT3Tok.lean` (blank before decoding = blank after; the flush of such a token), `VTT3Text.lean`
(simulation along the decoder's run: an inline timestamp does not end the reader's text token —
`Rel2` relates the decoder's state with the reader's state at the START of the open token), `VTT3Layer.lean`
(document level: the relation `R` of `Lemmas/VTTRead2Sim.lean` up to `norm ∘ zeroTs` on the cues; the layer for `lineOK2`).
-/

namespace Astisub
namespace C02read2
open Go Spec.VTT VTTRead

/-- `InClass2` is decidable and not empty: timestamps before text, after a tag, before white space and a tag,
    with hours, a zero timestamp, at the end of a line; a voice, a character reference -/
def exampleDoc : Str :=
  "WEBVTT\n\n00:01 --> 00:09\n<v B><00:01.000>a &amp; <c.b><00:00:02.500> <i>b</i></c><00:00.000>c\nd<00:03.000>".toList

theorem inClass2_example : InClass2 exampleDoc = true := by unfold exampleDoc; decide_vector

theorem decode_example : (decode exampleDoc).isSome = true := by unfold exampleDoc; decide_vector

/-- … and it is outside the class `InClass` of `Props/C02read.lean` -/
theorem example_not_inClass : InClass exampleDoc = false := by unfold exampleDoc; decide_vector

/-- the class is wider than `InClass` of `Props/C02read.lean` -/
theorem inClass_sub (doc : Str) (h : InClass doc = true) : InClass2 doc = true :=
  inClass2_of_inClass doc h

/-- **Read clause with inline timestamps, from the bytes — exactly the `vtt.read` predicate.**  For every byte
    string `doc` that is UTF-8 text `text`, in the class `InClass2`, well-formed for the independent decoder with
    denotation `g'` after `zeroTs` (`(decode text).map Driver.zeroTs = some g'`: an inline timestamp of zero
    counts as no timestamp): the reader model run on the scanner lines of the bytes either is not covered by
    the tokenizer / overflow model (`unmodelled`: the driver does not judge such a case) or succeeds with a cue
    list whose normalised WebVTT view is the normalised `g'`. -/
theorem read_view2 (doc : List UInt8) (text : Str) (g' : GDoc)
    (hdec : Driver.decodeLine doc = some text) (hin : InClass2 text = true)
    (h : (decode text).map Driver.zeroTs = some g') :
    Good (VTT.read (Driver.docLines doc)) g' := by
  cases hd : decode text with
  | none => rw [hd] at h; cases h
  | some g =>
    rw [hd] at h
    simp only [Option.map_some, Option.some.injEq] at h
    subst h
    exact read_bytes2 doc text g hdec hin hd

/-- The same on the character lines of the text (LF, CRLF, lone CR each end a line). -/
theorem read_view2_chars (text : Str) (g : GDoc) (hin : InClass2 text = true) (h : decode text = some g) :
    Good (VTT.read ((splitLines text []).map some)) (Driver.zeroTs g) :=
  read_chars2 text g hin h

/-- Spelled out (1): on such a document the reader model never answers with an error. -/
theorem read_not_err2 (doc : List UInt8) (text : Str) (g : GDoc)
    (hdec : Driver.decodeLine doc = some text) (hin : InClass2 text = true) (h : decode text = some g) :
    VTT.read (Driver.docLines doc) ≠ .err := by
  intro e
  rcases read_bytes2 doc text g hdec hin h with h1 | ⟨s, h1, _⟩ <;> rw [e] at h1 <;> cases h1

/-- Spelled out (2): whatever cue list the reader model returns, its normalised view is the normalised
    denotation of the document with zero inline timestamps erased. -/
theorem read_ok2 (doc : List UInt8) (text : Str) (g : GDoc) (s : Subs)
    (hdec : Driver.decodeLine doc = some text) (hin : InClass2 text = true) (h : decode text = some g)
    (hr : VTT.read (Driver.docLines doc) = .ok s) :
    (Driver.vttView s).map norm = some (norm (Driver.zeroTs g)) := by
  rcases read_bytes2 doc text g hdec hin h with h1 | ⟨s', h1, h2⟩
  · rw [hr] at h1; cases h1
  · rw [hr] at h1; cases h1; exact h2

/-- The cue-text layer on its own: a line of cue text the decoder accepts, in the class `lineOK2` (inline
    timestamps anywhere), is parsed by the reader model (tokenizer, tag expression, inline-timestamp
    expression, text tokens) into the same tag stack and voice and into items `rs.map runItem2`, where the
    runs `rs` are the decoder's runs up to white-space-only runs (`nb`: `Spec.VTT.norm` drops them) and each item
    is viewed by the driver as its run with a zero timestamp erased — for any stack of tags left open by the
    previous lines of the cue. -/
theorem text_line2 (l : Str) (stack : List GTag) (st : TextSt) (hok : lineOK2 l = true)
    (hstack : (∀ t ∈ stack, goodName t.name = true) ∧ (∀ t ∈ stack, tagOK t = true))
    (h : textLine (l.length + 2) l { stack := stack } = some st) :
    VTT.parseText l (stack.map modelTag) = .unmodelled ∨
    ∃ rs : List GRun,
      VTT.parseText l (stack.map modelTag) =
        .ok (st.stack.map modelTag, { voice := st.voice.getD [], items := rs.map runItem2 }) ∧
      rs.filter nb = st.runs.filter nb ∧
      ∀ r ∈ rs, runView (runItem2 r) = some (zeroTsRun r) :=
  (textLayer2.agree l stack st hok hstack h).2

/-- Every inline timestamp the decoder accepts (`(\d{2,6}:)?\d\d:\d\d\.\d{3}` with minutes and seconds below 60)
    is one match of the library's inline-timestamp expression: the capture is the timestamp, the match ends at
    its `>`. -/
theorem inline_ts_match (body : Str) (t : Nat) (h : inlineTs body = some t) (rest : Str) :
    tsAt (body ++ '>' :: rest) = some (body, rest) :=
  tsAt_inline h rest

/-- … is within the number range of the model, and the library's `parseDuration` gives the same instant. -/
theorem inline_ts_parse (body : Str) (t : Nat) (h : inlineTs body = some t) :
    VTT.smallNumbers body = true ∧ Duration.parseVTT body = some ((t : Int) * 1000000) :=
  ⟨small_inline h, parse_inline h⟩

/-- Finding 8: an inline timestamp followed by `&nbsp;` and a tag -/
def findingNbsp : Str := "WEBVTT\n\n00:01.000 --> 00:02.000\n<00:01.000>&nbsp;<b>x</b>".toList

theorem findingNbsp_decoded : (decode findingNbsp).isSome = true := by unfold findingNbsp; decide_vector
theorem findingNbsp_outside : InClass2 findingNbsp = false := by unfold findingNbsp; decide_vector

/-- the decoder gives the timestamp to `x` (the white space `U+00A0` before the tag is dropped) … -/
theorem findingNbsp_decoder :
    (textLine 40 "<00:01.000>&nbsp;<b>x</b>".toList {}).map (·.runs) =
      some [{ text := "x".toList, tags := [{ name := "b".toList, classes := [], annotation := [] }], ts := some 1000 }] := by
  decide_vector

/-- … the reader model gives it to the run `U+00A0` (dropped by `norm` as white space only, with the timestamp):
    `x` has no timestamp -/
theorem findingNbsp_reader :
    (match VTT.parseText "<00:01.000>&nbsp;<b>x</b>".toList [] with
     | .ok (_, l) => some l.items
     | _ => none) =
      some [{ text := [Char.ofNat 0xA0], startAt := 1000000000, attrs := none },
            { text := "x".toList, startAt := 0, attrs := VTT.tagsAttrs [{ name := "b".toList }] }] := by
  decide_vector

/-- both provisos are satisfiable at once: `VTT3W.exWritten` has a timestamp map, a STYLE block, two regions (one
    inheriting from a style), a comment block whose lines look like block starts, a voice, a cue referring to a
    region, settings and escaped text -/
theorem exWritten_docOk : VTT.DocOk VTT3W.exWritten = true := VTT3W.exWritten_ok
theorem exWritten_docW2 : VTT3W.DocW2 VTT3W.exWritten = true := VTT3W.exWritten_w2

/-- **W2 — decoder acceptance.**  For every cue list satisfying `DocOk` (the proviso of the document-level
    write → read theorem `C02doc2.write_read_doc`) and the decidable extra proviso `VTT3W.docW2` (fewer than 2^62
    cues; no `-->` in the first line of a comment and no `NOTE<tab>` at the start of a later one; CSS lines not
    starting with `NOTE<tab>`; region `lines` values of at most 18 digits without sign; MPEGTS an unsigned
    decimal below 2^62 — why each is asked is told at the end of `Lemmas/VTT3WDoc.lean`; none of them has a
    proved witness, only `metaTextW2` of `written_in_class` has), given that the decoder accepts the
    text lines of every cue (`written_text_accepted`): the independent decoder accepts the written document, and
    the lines of its cues are what `cueText` makes of the written text lines. -/
theorem written_accepted (s : Subs) (hok : VTT.DocOk s = true) (hx : VTT3W.docW2 s = true)
    (ht : ∀ it ∈ s.items, (cueText (it.lines.map VTT.lineBody) []).isSome = true) :
    ∃ g, decode (VTT.unlines (VTT.docLines2 s)) = some g ∧ g.cues.map (·.lines) = s.items.map VTT3W.glOf :=
  VTT3W.decode_docLines2 s hok hx ht

/-- **W2 — the text lines.**  The decoder accepts every written cue-text line (`lineFit`: what `DocOk` asks of a
    line; `lineW2`: every inline instant is 0 or at least 1 ms, no `|` / form feed in the voice, no form feed in a
    tag annotation), ends with every tag closed, gives no run the timestamp 0, and the line is in the class of the
    read theorem. -/
theorem written_text_accepted (l : Line) (hfit : VTT.lineFit l = true) (hx : VTT3W.lineW2 l = true) :
    (∃ st, textLine ((VTT.lineBody l).length + 2) (VTT.lineBody l) { stack := [] } = some st ∧
      st.stack = [] ∧ (∀ r ∈ st.runs, r.ts ≠ some 0)) ∧
    lineOK2 (VTT.lineBody l) = true :=
  ⟨VTT3W.textLine_lineBody l hfit hx, VTT3W.lineOK2_lineBody l hfit hx⟩

/-- **W2 — the class.**  The written document lies in `InClass2` (given the lines that the class predicate takes
    for cue text in the STYLE and region blocks are in the class: `metaTextW2`). -/
theorem written_in_class (s : Subs) (hok : VTT.DocOk s = true) (hx : VTT3W.docW2 s = true)
    (hl : ∀ it ∈ s.items, ∀ l ∈ it.lines, lineOK2 (VTT.lineBody l) = true)
    (hm : VTT3W.metaTextW2 lineOK2 s = true) :
    InClass2 (VTT.unlines (VTT.docLines2 s)) = true :=
  VTT3W.inClass_docLines2 lineOK2 s hok hx hl hm

/-- **W2 — agreement (the first conjunct of the `vtt.write` predicate), whole documents.**  For every cue list
    satisfying `DocOk` and `VTT3W.DocW2` (= `docW2`, `viewW2`: LOCAL of the timestamp map a whole number of
    milliseconds, every text line `lineW2`, `metaTextW2`): the view the check expects exists, the independent
    decoder accepts the written document, and what it denotes is that view, both normalised — as
    `Driver.handleVTT` compares `(Spec.VTT.decode text).map norm == want`.
    Proof: `written_accepted` + `written_in_class` + `read_view2` + `C02doc2.write_read_doc_bytes` + the view of
    `wanted2 s` is the view of `Driver.vttWanted s` (`VTT3W.view_wanted2`). -/
theorem decode_write (s : Subs) (hok : VTT.DocOk s = true) (hx : VTT3W.DocW2 s = true) (doc : Str)
    (hw : VTT.write s = some doc) :
    (Driver.vttView (Driver.vttWanted s)).isSome = true ∧
    (∃ g, decode doc = some g) ∧
    (decode doc).map norm = (Driver.vttView (Driver.vttWanted s)).map norm :=
  VTT3W.decode_write s hok hx doc hw

/-- **W2 — `C02doc2.decode_write_Statement` under the class provisos.**  The statement `C02doc2.decode_write_Statement`
    (cue lists without comments, regions, STYLE block and timestamp map; fewer than 2^62 cues; no inline
    instant strictly between 0 and 1 ms), with ONE further hypothesis `VTT3W.classW2`: no `|` / form feed in a
    voice, no form feed in a tag annotation, no text line that reads as a region definition with a `lines` value of
    more than 18 digits.  These come from the class of the read theorem (`InClass2`), through which the
    agreement is concluded; no counterexample to the full statement is known. -/
theorem decode_write_partial (s : Subs) (hne : s.items ≠ []) (hok : ∀ it ∈ s.items, VTT.cueOk s it = true)
    (hlen : s.items.length < 2 ^ 62) (hreg : s.regions = []) (hsty : VTT.styleLines s = [])
    (hmeta : SRT.kvGet s.metadata "WebVTTTimestampMap" = none)
    (hts : ∀ it ∈ s.items, ∀ l ∈ it.lines, ∀ li ∈ l.items, li.startAt = 0 ∨ 1000000 ≤ li.startAt)
    (hcl : VTT3W.classW2 s = true) (doc : Str) (hw : VTT.write s = some doc) :
    (Driver.vttView (Driver.vttWanted s)).isSome = true ∧
    (decode doc).map norm = (Driver.vttView (Driver.vttWanted s)).map norm :=
  VTT3W.decode_write_plain s hne hok hlen hreg hsty hmeta hts hcl doc hw

/-- What separates `decode_write_partial` from `C02doc2.decode_write_Statement`: were every `cueOk` cue list in the
    class, the statement would follow.  The hypothesis does not hold as it stands (a voice `a|b` is `cueOk` and outside
    `classW2`: `VTT3W.wBar`), so this records the gap and proves nothing about the statement. -/
theorem decode_write_Statement_of_class
    (hall : ∀ s : Subs, (∀ it ∈ s.items, VTT.cueOk s it = true) → VTT3W.classW2 s = true) :
    C02doc2.decode_write_Statement := by
  intro s hne hok hlen hreg hsty hmeta hts doc hw
  exact decode_write_partial s hne hok hlen hreg hsty hmeta hts (hall s hok) doc hw

end C02read2
end Astisub
