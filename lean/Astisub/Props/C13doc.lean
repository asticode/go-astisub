import Astisub.Lemmas.C13WRDoc

/-!
# C13 (write → read) — what is written after `Optimize` / `RemoveStyling` still reads back

`Props/C13.lean` proves `Optimize` on the *graph* model (`Model/Graph.lean`: references are identifier
chains).  The codecs work on the cue model `Subs` (`Model/Subs.lean`: references are identifiers, the
definitions carry a parent reference).  This file connects the two and proves the clause C13 left to
the streams: *the optimized list can still be written and read back with the same cues as before.*

`graphOf` is the abstraction `Subs → Graph` the `ops.optimize` stream implicitly uses (harness
`observeGraph`); `Optimize` / `RemoveStyling` on `Subs` (`optimizeSubs`, `removeStylingSubs`) commute with it,
with no consistency hypothesis: dangling references and cyclic parent links included.  One proviso is
**not** preserved by `Optimize`: the CSS block of a WebVTT document (`vtt_css_block_can_break`); and the
cues read back from SSA can differ for a cue styled `*Default` (`ssa_star_default_corner`).

Not here: STL (its document theorems are stated on the STL types, not on `Subs`); `RemoveStyling` followed
by the SSA writer.

Provisos and a value satisfying each: `refsOk`, `styleIdsDistinct`, `TTMLDoc.rep`, `TTMLDoc.xmlCarries`
(`TTMLDoc.sample`); `VTT.DocOk` (`VTT.exDoc`); `ttmlPlainOk` (`TTMLDoc.sample`), `vttPlainOk` (`VTT.exDoc`).
-/

namespace Astisub
namespace C13doc
open Go List C13WR

example : refsOk TTMLDoc.sample = true := by decide +kernel
example : styleIdsDistinct TTMLDoc.sample = true := by decide +kernel
example : refsOk VTT.exDoc = true := by decide +kernel
example : ttmlPlainOk TTMLDoc.sample = true := by decide +kernel
example : vttPlainOk VTT.exDoc = true := by decide +kernel
example : refsOk { items := [{ startAt := 0, endAt := 1, style := some "nowhere".toList, lines := [] }] } = false := by decide +kernel

/-- a list in which something goes and something stays only through inheritance: cue → `c` → `b` → `a`,
    its run → `e`, its region `r` → `f`; `d` (a sibling under `a`), region `q` and its style `g` are unused -/
def exGraph : Subs :=
  { items := [{ startAt := 0, endAt := 1000000000, style := some "c".toList, region := some "r".toList,
                lines := [{ items := [{ text := "x".toList, style := some "e".toList }] }] }],
    regions := [{ id := "r".toList, ref := some "f".toList }, { id := "q".toList, ref := some "g".toList }],
    styles := [{ id := "a".toList }, { id := "b".toList, ref := some "a".toList }, { id := "c".toList, ref := some "b".toList },
               { id := "d".toList, ref := some "a".toList }, { id := "e".toList }, { id := "f".toList }, { id := "g".toList }] }

example : optimizeSubs exGraph
    = { exGraph with
        regions := [{ id := "r".toList, ref := some "f".toList }],
        styles := [{ id := "a".toList }, { id := "b".toList, ref := some "a".toList }, { id := "c".toList, ref := some "b".toList },
                   { id := "e".toList }, { id := "f".toList }] } := by decide +kernel

/-- **What `graphOf` is.**  Every cue becomes: the identifier chain read through its style reference
    (`chainOf`: the identifier referred to, then the parent of the style it names, … cut at the first
    identifier met twice; a reference that names no definition is a chain of length one), its region
    identifier, and the chain of every run in reading order.  Every region / style definition becomes a
    map entry keyed by its identifier, holding the chain of its style / parent reference; attributes
    are forgotten. -/
theorem graphOf_fields (s : Subs) :
    (graphOf s).items = s.items.map (fun it =>
      { style := (chainOf s.styles it.style).map sid, region := it.region.map sid,
        runs := (it.lines.flatMap fun l => l.items.map (·.style)).map fun r => (chainOf s.styles r).map sid }) ∧
    (graphOf s).regions = s.regions.map (fun d =>
      (sid d.id, { id := sid d.id, style := (chainOf s.styles d.ref).map sid, tag := 0 })) ∧
    (graphOf s).styles = s.styles.map (fun d =>
      (sid d.id, { id := sid d.id, parent := (chainOf s.styles d.ref).map sid, tag := 0 })) :=
  ⟨rfl, rfl, rfl⟩

/-- the chain of a reference: nothing for no reference; otherwise the identifier referred to, followed
    by what is read through the parent reference of the (first) definition carrying it — never twice
    the same identifier -/
theorem chainOf_shape (st : List Def) :
    chainOf st none = [] ∧
    (∀ id, ∃ rest, chainOf st (some id) = id :: rest) ∧
    (∀ x, (chainOf st x).Nodup) ∧
    (∀ x id p, id ∈ chainOf st x → parentRef st id = some p → p ∈ chainOf st x) :=
  ⟨chainOf_none st, fun id => ⟨_, chainOf_some st id⟩, fun x => (walk_chainOf st x).nodup.1,
   fun x id p h hp => chainOf_parent st x id h p hp⟩

/-- **What `optimizeSubs` is.**  An empty list is left alone.  Otherwise the cues and the metadata are
    untouched; the regions kept are those whose identifier some cue refers to; the styles kept are
    those whose identifier lies on the chain of a reference made by a cue, a run or a kept region. -/
theorem optimizeSubs_fields (s : Subs) :
    (s.items = [] → optimizeSubs s = s) ∧
    (optimizeSubs s).items = s.items ∧ (optimizeSubs s).metadata = s.metadata ∧
    (s.items ≠ [] →
      (optimizeSubs s).regions = s.regions.filter (fun d => decide (d.id ∈ s.items.filterMap (·.region))) ∧
      (optimizeSubs s).styles = s.styles.filter (fun d => decide (d.id ∈ usedStyleIds s))) ∧
    (∀ y, y ∈ usedStyleIds s ↔ ∃ r ∈ rootRefs s, y ∈ chainOf s.styles r) := by
  refine ⟨fun h => optimizeSubs_of_empty s (by simp [h]), optimizeSubs_items s, optimizeSubs_metadata s, ?_,
    fun y => mem_usedStyleIds⟩
  intro hne
  have he : s.items.isEmpty = false := by cases h : s.items <;> simp_all
  rw [optimizeSubs_of_ne s he]
  exact ⟨rfl, rfl⟩

/-- **Bridge (Optimize).**  Abstracting the optimized cue list gives exactly what the loop-faithful
    graph model of `Subtitles.Optimize` returns on the abstracted cue list — for every cue list with
    pairwise distinct style identifiers: any references (dangling ones too), any parent links
    (cycles too: no `Consistent` hypothesis is needed on the image of `graphOf`). -/
theorem optimize_commutes (s : Subs) (hnd : styleIdsDistinct s = true) :
    Graph.optimize (graphOf s) = graphOf (optimizeSubs s) :=
  optimize_graphOf s (by simpa [styleIdsDistinct] using hnd)

/-- **Model = specification on the image.**  On every graph that comes from a cue list the loop model
    equals the declarative closure `Spec.optimizeSpec` — with no hypothesis at all.  `C13.optimize_spec`
    needs `Consistent`; the chains of `graphOf exCycle` (two styles that are each other's parent) are not
    consistent, yet the equality holds there too. -/
theorem optimize_meets_spec (s : Subs) : Graph.optimize (graphOf s) = Spec.optimizeSpec (graphOf s) :=
  optimize_spec_graphOf s

/-- a cue styled `a`, its run styled `b`, `a` and `b` each other's parent, `c` unused -/
def exCycle : Subs :=
  { items := [{ startAt := 0, endAt := 1, style := some "a".toList,
                lines := [{ items := [{ text := "x".toList, style := some "b".toList }] }] }],
    styles := [{ id := "a".toList, ref := some "b".toList }, { id := "b".toList, ref := some "a".toList }, { id := "c".toList }] }

example : Spec.consistentB (graphOf exCycle) = false := by decide +kernel
example : (graphOf exCycle).items = [{ style := ["a", "b"], region := none, runs := [["b", "a"]] }] := by decide +kernel
example : (optimizeSubs exCycle).styles = [{ id := "a".toList, ref := some "b".toList }, { id := "b".toList, ref := some "a".toList }] := by
  decide +kernel

/-- **Bridge (RemoveStyling).**  The same for `RemoveStyling`, for every cue list. -/
theorem removeStyling_commutes (s : Subs) : Graph.removeStyling (graphOf s) = graphOf (removeStylingSubs s) :=
  removeStyling_graphOf s

/-- cues are untouched — in particular everything the harness snapshots (`same=`): instants, numbers,
    voices, run texts and in-cue instants -/
theorem optimize_cues_untouched (s : Subs) :
    (optimizeSubs s).items = s.items ∧ cueShot (optimizeSubs s) = cueShot s :=
  ⟨optimizeSubs_items s, cueShot_optimizeSubs s⟩

/-- **Only definitions go, and only unused ones.**  The definition lists after `Optimize` are sublists
    of those before (same order, every kept definition unchanged); on a list with at least one cue a
    style is kept iff its identifier is reachable, a region iff some cue refers to it. -/
theorem optimize_keeps (s : Subs) :
    (optimizeSubs s).styles <+ s.styles ∧ (optimizeSubs s).regions <+ s.regions ∧
    (s.items.isEmpty = false → ∀ d,
      (d ∈ (optimizeSubs s).styles ↔ d ∈ s.styles ∧ d.id ∈ usedStyleIds s) ∧
      (d ∈ (optimizeSubs s).regions ↔ d ∈ s.regions ∧ d.id ∈ usedRegionIds s)) :=
  ⟨optimizeSubs_styles_sublist s, optimizeSubs_regions_sublist s,
   fun he d => ⟨mem_optimizeSubs_styles s he d, mem_optimizeSubs_regions s he d⟩⟩

/-- **Every reference still resolves.**  If every reference made in the list names a definition
    (`refsOk`: style of a cue / run / region, parent of a style, region of a cue) and style identifiers
    are pairwise distinct, the same holds after `Optimize`. -/
theorem optimize_refs_resolve (s : Subs) (hnd : styleIdsDistinct s = true) (h : refsOk s = true) :
    refsOk (optimizeSubs s) = true ∧ styleIdsDistinct (optimizeSubs s) = true := by
  refine ⟨refsOk_optimizeSubs s hnd h, ?_⟩
  simp only [styleIdsDistinct, decide_eq_true_eq] at hnd ⊢
  exact hnd.sublist ((optimizeSubs_styles_sublist s).map _)

/-- … reference by reference, without asking anything of the other references: a style that was
    defined and is referred to by a cue, by a run, by a kept region, or (identifiers distinct) as the
    parent of a kept style is still defined; so is a region a cue refers to. -/
theorem optimize_ref_kept (s : Subs) :
    (∀ it ∈ s.items, ∀ v, some v ∈ itemRefs it → v ∈ s.styles.map (·.id) → v ∈ (optimizeSubs s).styles.map (·.id)) ∧
    (∀ it ∈ s.items, ∀ v, it.region = some v → v ∈ s.regions.map (·.id) → v ∈ (optimizeSubs s).regions.map (·.id)) ∧
    (∀ d ∈ (optimizeSubs s).regions, ∀ v, d.ref = some v → v ∈ s.styles.map (·.id) → v ∈ (optimizeSubs s).styles.map (·.id)) ∧
    ((s.styles.map (·.id)).Nodup →
      ∀ d ∈ (optimizeSubs s).styles, ∀ v, d.ref = some v → v ∈ s.styles.map (·.id) → v ∈ (optimizeSubs s).styles.map (·.id)) :=
  ⟨fun it hit v hr hv => itemRef_kept s it hit v hr hv, fun it hit v hr hv => itemRegion_kept s it hit v hr hv,
   fun d hd v hr hv => regionRef_kept s d hd v hr hv, fun hnd d hd v hr hv => styleRef_kept s hnd d hd v hr hv⟩

/-- doing it twice changes nothing more (every cue list) -/
theorem optimize_twice (s : Subs) : optimizeSubs (optimizeSubs s) = optimizeSubs s := optimizeSubs_idem s

/-- the two TTML provisos survive `Optimize` -/
theorem ttml_proviso_kept (s : Subs) :
    (TTMLDoc.rep s = true → TTMLDoc.rep (optimizeSubs s) = true) ∧
    (TTMLDoc.xmlCarries s = true → TTMLDoc.xmlCarries (optimizeSubs s) = true) :=
  ⟨rep_optimizeSubs s, xmlCarries_optimizeSubs s⟩

/-- **TTML.**  For every cue list TTML can carry (`TTMLDoc.rep`: at least one cue, distinct identifiers,
    references empty or defined, instants in `[0, 100 h)`, …; XML-legal character data): the optimized
    list is written by `WriteToTTML`, `ReadFromTTML` of what `encoding/xml` delivers for it (the
    contract of `C03doc`, any inner-XML bytes `ix`) returns `norm (optimizeSubs s)`, the un-optimized
    list reads back as `norm s`, and the two results have the same cues and the same metadata; the
    styles / regions read back are the read-back forms of exactly the kept definitions. -/
theorem ttml_optimized_reads_back (ix : List TTML.XTok → Str) (s : Subs) (h : TTMLDoc.rep s = true)
    (hl : TTMLDoc.xmlCarries s = true) :
    (∃ w, TTML.write (optimizeSubs s) = some w ∧
      TTML.read (TTMLDoc.unmarshal ix w) = .ok (TTMLDoc.norm (optimizeSubs s))) ∧
    (∃ w₀, TTML.write s = some w₀ ∧ TTML.read (TTMLDoc.unmarshal ix w₀) = .ok (TTMLDoc.norm s)) ∧
    (TTMLDoc.norm (optimizeSubs s)).items = (TTMLDoc.norm s).items ∧
    (TTMLDoc.norm (optimizeSubs s)).metadata = (TTMLDoc.norm s).metadata ∧
    (∀ d, d ∈ (TTMLDoc.norm (optimizeSubs s)).styles ↔
      ∃ d₀ ∈ s.styles, d₀.id ∈ usedStyleIds s ∧ TTMLDoc.normDef d₀ = d) ∧
    (∀ d, d ∈ (TTMLDoc.norm (optimizeSubs s)).regions ↔
      ∃ d₀ ∈ s.regions, d₀.id ∈ usedRegionIds s ∧ TTMLDoc.normDef d₀ = d) := by
  have he : s.items.isEmpty = false := (C03doc.rep_attrsOkAll s h).1
  refine ⟨C03doc.write_read ix _ (rep_optimizeSubs s h) (xmlCarries_optimizeSubs s hl),
    C03doc.write_read ix s h hl, ?_, ?_, ?_, ?_⟩
  · simp only [TTMLDoc.norm, optimizeSubs_items]
  · simp only [TTMLDoc.norm, optimizeSubs_metadata]
  · intro d
    simp only [TTMLDoc.norm, mem_map]
    constructor
    · rintro ⟨d₀, hd₀, rfl⟩
      have := (mem_optimizeSubs_styles s he d₀).mp ((mergeSort_perm _ _).mem_iff.mp hd₀)
      exact ⟨d₀, this.1, this.2, rfl⟩
    · rintro ⟨d₀, h1, h2, rfl⟩
      exact ⟨d₀, (mergeSort_perm _ _).mem_iff.mpr ((mem_optimizeSubs_styles s he d₀).mpr ⟨h1, h2⟩), rfl⟩
  · intro d
    simp only [TTMLDoc.norm, mem_map]
    constructor
    · rintro ⟨d₀, hd₀, rfl⟩
      have := (mem_optimizeSubs_regions s he d₀).mp ((mergeSort_perm _ _).mem_iff.mp hd₀)
      exact ⟨d₀, this.1, this.2, rfl⟩
    · rintro ⟨d₀, h1, h2, rfl⟩
      exact ⟨d₀, (mergeSort_perm _ _).mem_iff.mpr ((mem_optimizeSubs_regions s he d₀).mpr ⟨h1, h2⟩), rfl⟩

/-- **WebVTT.**  For every cue list WebVTT can carry (`VTT.DocOk`) whose CSS block can still be closed
    after `Optimize` (`styleEndOk (optimizeSubs s)`: the last CSS line that is left ends with `}` — see
    `vtt_css_block_can_break`): the optimized list is written, the text has no carriage return, the
    reader returns `wanted2 (optimizeSubs s)`; the cues in it are exactly those read back from the
    un-optimized list (every setting was resolved through a style that is kept), and every kept region
    is read back with the attributes it had before. -/
theorem vtt_optimized_reads_back (s : Subs) (hok : VTT.DocOk s = true)
    (hend : VTT.styleEndOk (optimizeSubs s) = true) :
    (∃ doc, VTT.write (optimizeSubs s) = some doc ∧ '\r' ∉ doc ∧
      VTT.read (VTT.textLines doc) = .ok (VTT.wanted2 (optimizeSubs s))) ∧
    (∃ doc₀, VTT.write s = some doc₀ ∧ VTT.read (VTT.textLines doc₀) = .ok (VTT.wanted2 s)) ∧
    (VTT.wanted2 (optimizeSubs s)).items = (VTT.wanted2 s).items ∧
    (VTT.wanted2 (optimizeSubs s)).metadata = (VTT.wanted2 s).metadata ∧
    (VTT.wanted2 (optimizeSubs s)).regions = (VTT.sortDefs (optimizeSubs s).regions).map (VTT.readRegion s) := by
  refine ⟨C02doc2.write_read_doc _ (docOk_optimizeSubs s hok hend), ?_, wanted2_items_optimizeSubs s, ?_,
    wanted2_regions_optimizeSubs s⟩
  · obtain ⟨doc, h1, _, h3⟩ := C02doc2.write_read_doc s hok
    exact ⟨doc, h1, h3⟩
  · simp only [VTT.wanted2, VTT.tsmapVal, optimizeSubs_metadata]

/-- the region a cue refers to is still defined before it is used in the written WebVTT document
    (the reader's "Unknown region" error cannot occur) -/
theorem vtt_optimized_region_defined (s : Subs) (hok : VTT.DocOk s = true)
    (hend : VTT.styleEndOk (optimizeSubs s) = true) (it : CItem) (hit : it ∈ s.items) (r : Str)
    (hr : it.region = some r) :
    ∃ d ∈ (optimizeSubs s).regions, d.id = r ∧ VTT.regionLine (optimizeSubs s) d ∈ VTT.regionBlock (optimizeSubs s) := by
  obtain ⟨d, hd, hid, _, _, _, hin, _⟩ := C02doc2.region_defined_before_use _ (docOk_optimizeSubs s hok hend) it
    (by rw [optimizeSubs_items]; exact hit) r hr
  exact ⟨d, hd, hid, hin⟩

/-- **`DocOk` alone is not preserved.**  `cssSplit` (one cue referring to style `a` whose CSS is
    `::cue {`; the closing `}` is the CSS of style `b`, which nothing refers to) satisfies `DocOk`;
    `Optimize` deletes `b`, the CSS block that is left cannot be closed, `DocOk` fails: in the reader
    model a `STYLE` block whose last line does not end with `}` is not ended by the blank line after it. -/
theorem vtt_css_block_can_break :
    VTT.DocOk cssSplit = true ∧ VTT.styleEndOk (optimizeSubs cssSplit) = false ∧
    VTT.DocOk (optimizeSubs cssSplit) = false ∧
    VTT.styleLines cssSplit = ["::cue {".toList, "}".toList] ∧
    VTT.styleLines (optimizeSubs cssSplit) = ["::cue {".toList] :=
  ⟨docOk_not_preserved.1, docOk_not_preserved.2.1, docOk_not_preserved.2.2, cssSplit_styleLines, cssSplit_styleLines_opt⟩

/-- **SubRip** does not look at definitions: the optimized list is written to the very same document
    (so `C01doc.read_write` applies unchanged) -/
theorem srt_optimized_same_document (s : Subs) :
    SRT.write (optimizeSubs s) = SRT.write s ∧ SRTDoc.Rep (optimizeSubs s) = SRTDoc.Rep s ∧
    SRTDoc.norm (optimizeSubs s) = SRTDoc.norm s := by
  simp only [SRT.write, SRTDoc.Rep, SRTDoc.norm, optimizeSubs_items, and_self]

/-- **Clean.**  No region, no style; no cue has a style reference, a region reference or inline
    attributes; no run has a style reference or inline attributes. -/
theorem removeStyling_clean (s : Subs) :
    (removeStylingSubs s).regions = [] ∧ (removeStylingSubs s).styles = [] ∧
    ∀ it ∈ (removeStylingSubs s).items, it.style = none ∧ it.region = none ∧ it.attrs = none ∧
      ∀ l ∈ it.lines, ∀ li ∈ l.items, li.style = none ∧ li.attrs = none := by
  refine ⟨rfl, rfl, ?_⟩
  intro it hit
  obtain ⟨it0, _, rfl⟩ := mem_map.mp hit
  refine ⟨rfl, rfl, rfl, ?_⟩
  intro l hl li hli
  obtain ⟨l0, _, rfl⟩ := mem_map.mp hl
  obtain ⟨li0, _, rfl⟩ := mem_map.mp hli
  exact ⟨rfl, rfl⟩

/-- **Same.**  Cue by cue, in order: number, instants and comments; line by line the voice; run by run the
    text and the in-cue instant — all as before (the harness's `same=` snapshot is `cueShot`); the
    metadata too. -/
theorem removeStyling_same (s : Subs) :
    cueShot (removeStylingSubs s) = cueShot s ∧
    (removeStylingSubs s).items.map (·.comments) = s.items.map (·.comments) ∧
    (removeStylingSubs s).metadata = s.metadata := by
  refine ⟨cueShot_removeStylingSubs s, ?_, rfl⟩
  simp [removeStylingSubs, stripItem, Function.comp_def]

/-- a list without references trivially has all its references resolved -/
theorem removeStyling_refs_resolve (s : Subs) : refsOk (removeStylingSubs s) = true := by
  simp only [refsOk, removeStylingSubs, Bool.and_eq_true, all_eq_true, all_nil, and_true, map_nil]
  intro it hit
  obtain ⟨it0, _, rfl⟩ := mem_map.mp hit
  refine ⟨?_, rfl⟩
  intro r hr
  have : r = none := by
    simp only [itemRefs, runRefs_stripItem, mem_cons, mem_map] at hr
    rcases hr with h | ⟨_, _, h⟩
    · exact h
    · exact h.symm
  subst this; rfl

/-- **Representable whenever times and text are (TTML).**  After `RemoveStyling` the TTML proviso is
    exactly `ttmlPlainOk`: at least one cue, instants in `[0, 100 h)`, no line feed inside a run.  In
    particular a list TTML could carry with its styling can be carried without. -/
theorem removeStyling_ttml_representable (s : Subs) :
    TTMLDoc.rep (removeStylingSubs s) = ttmlPlainOk s ∧
    (TTMLDoc.rep s = true → TTMLDoc.rep (removeStylingSubs s) = true) ∧
    (TTMLDoc.xmlCarries s = true → TTMLDoc.xmlCarries (removeStylingSubs s) = true) :=
  ⟨rep_removeStylingSubs s, rep_removeStylingSubs_of_rep s, xmlCarries_removeStylingSubs s⟩

/-- … and it is written and read back -/
theorem removeStyling_ttml_reads_back (ix : List TTML.XTok → Str) (s : Subs) (h : ttmlPlainOk s = true)
    (hl : TTMLDoc.xmlCarries s = true) :
    ∃ w, TTML.write (removeStylingSubs s) = some w ∧
      TTML.read (TTMLDoc.unmarshal ix w) = .ok (TTMLDoc.norm (removeStylingSubs s)) :=
  C03doc.write_read ix _ (by rw [rep_removeStylingSubs]; exact h) (xmlCarries_removeStylingSubs s hl)

/-- **Representable whenever times and text are (WebVTT).**  After `RemoveStyling` the WebVTT proviso
    `DocOk` is exactly `vttPlainOk`: at least one and at most `int64` cues; per cue the comment block,
    the instants and — on the lines stripped of their attributes — voice and text; the timestamp map
    of the metadata.  No condition on regions, styles, settings or tags is left. -/
theorem removeStyling_vtt_representable (s : Subs) : VTT.DocOk (removeStylingSubs s) = vttPlainOk s :=
  docOk_removeStylingSubs s

/-- … and it is written and read back -/
theorem removeStyling_vtt_reads_back (s : Subs) (h : vttPlainOk s = true) :
    ∃ doc, VTT.write (removeStylingSubs s) = some doc ∧ '\r' ∉ doc ∧
      VTT.read (VTT.textLines doc) = .ok (VTT.wanted2 (removeStylingSubs s)) :=
  C02doc2.write_read_doc _ (by rw [docOk_removeStylingSubs]; exact h)

/-- **Representable whenever times and text are (SubRip).**  `SRTDoc.Rep` only looks at the cues: after
    `RemoveStyling` it is the proviso of the stripped cues. -/
theorem removeStyling_srt_representable (s : Subs) :
    SRTDoc.Rep (removeStylingSubs s)
      = (!s.items.isEmpty && decide (s.items.length ≤ int64Max) && s.items.all fun it => SRTDoc.RepItem (stripItem it)) :=
  srtRep_removeStylingSubs s

/-- the SSA proviso survives `Optimize` -/
theorem ssa_proviso_kept (s : Subs) (h : SSA.RepRead s) : SSA.RepRead (optimizeSubs s) := repRead_optimizeSubs s h

example : SSA.RepRead C04doc2.exDoc := C04doc2.exDoc_repFix.1

/-- **SSA / ASS.**  For every cue list SSA can carry (`SSA.RepRead`): whatever `WriteToSSA` answers for the
    optimized list is read back as `SSA.norm (optimizeSubs s)`.  If moreover the style every cue names
    is defined and no cue is styled `*Default`, the cues read back are those read back from the
    un-optimized list. -/
theorem ssa_optimized_reads_back (s : Subs) (out : Str) (hr : SSA.RepRead s)
    (hw : SSA.write (optimizeSubs s) = .ok out) :
    SSA.read (splitC '\n' out) = .ok (SSA.norm (optimizeSubs s)) ∧
    ((∀ it ∈ s.items, ∀ v, it.style = some v → v ∈ s.styles.map (·.id)) →
     (∀ it ∈ s.items, it.style ≠ some "*Default".toList) →
      (SSA.norm (optimizeSubs s)).items = (SSA.norm s).items) :=
  ⟨C04doc2.write_read _ out (repRead_optimizeSubs s hr) hw, ssaNorm_items_optimizeSubs s⟩

/-- **The `*Default` corner.**  `ssaEvent` renames the style `*Default` to `Default` when a cue is written.
    `starDefault` has a cue styled `*Default` and an unused style `Default`: read back from SSA the cue
    names `Default` before `Optimize`; `Optimize` deletes `Default` and the cue read back names no
    style.  Hence the hypothesis above. -/
theorem ssa_star_default_corner :
    (SSA.norm starDefault).items.map (·.style) = [some "Default".toList] ∧
    (SSA.norm (optimizeSubs starDefault)).items.map (·.style) = [none] := ssa_star_default_differs

end C13doc
end Astisub
