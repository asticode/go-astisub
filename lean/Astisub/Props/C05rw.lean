import Astisub.Lemmas.STLRWFile
import Astisub.Props.C05doc2

/-!
# C05 (rewrite) — EBU STL: reading a written file and writing it again gives the same file

`Props/C05doc2.lean` proves that a rewrite keeps every timecode and leaves the byte equality of the whole TTI
blocks as a statement (`rewrite_tti_blocks_Statement`).  This file proves that statement and the rest of the
fixpoint, for display standard 0 (open subtitling) and for **all** inputs of an explicit decidable class
(`RewriteOK`):

* `out`    = the file the writer model produces for metadata `m` and cues `cs` on day `now`;
* `(m2, items2)` = what the reader model returns for `out` (with or without `IgnoreTimecodeStartOfProgramme`);
* `again`  = the file the writer model produces on day `now2` for `m2` and the cues
  `items2.map Driver.STLD.cueOf` — the view of the read-back cues the `stl.write` stream hands to the writer.
-/

namespace Astisub
namespace C05
open Go STL

/-- **the inputs the rewrite theorems speak about** (decidable): the class of `C05.stl_roundtrip_multirun` — at least
    one cue; metadata the format can carry under display standard 0 (`MetaOK`: frame rate 25 / 30, display standard
    0, text values that fit, existing dates, numbers within 0–99, programme start and first cue below 100 h);
    programme start not negative; every cue well-formed (`MCue.ok`: every row has a run, every run is repertoire text
    that is not empty and has no white space at its ends, the encoded text fits the 112 bytes) — with the instants
    (cue time plus programme start) inside a day, as a TTI timecode requires (`InDay`, instead of `MTimesOK` = not
    negative).  Nothing is assumed about justification and vertical position. -/
def RewriteOK (now : Date) (m : Meta) (cs : List MCue) : Prop :=
  cs ≠ [] ∧ MetaOK now m (firstStart (cs.map MCue.toW)) ∧ 0 ≤ m.tcp ∧ (∀ c ∈ cs, c.ok) ∧
  (∀ c ∈ cs, InDay (c.startAt + m.tcp) ∧ InDay (c.endAt + m.tcp))

instance (now : Date) (m : Meta) (cs : List MCue) : Decidable (RewriteOK now m cs) := by
  unfold RewriteOK; infer_instance

/-- the class is inside the class of `stl_roundtrip_multirun`: the first write answers and the file reads back -/
theorem RewriteOK.roundtrip {now : Date} {m : Meta} {cs : List MCue} (h : RewriteOK now m cs) (ig : Bool) :
    ∃ b, write now (some m) (cs.map MCue.toW) = .ok b ∧
      STL.read ig b
        = .ok (readMeta ig (gsiBack (newGSI now (some m) (cs.map MCue.toW))),
               cs.map fun c => ttiCueM (gsiBack (newGSI now (some m) (cs.map MCue.toW))) (newGSI now (some m) (cs.map MCue.toW))
                 (readMeta ig (gsiBack (newGSI now (some m) (cs.map MCue.toW)))).tcp c) := by
  obtain ⟨hne, hm, htcp, hok, hday⟩ := h
  exact stl_roundtrip_multirun ig now m cs hne hm htcp hok (fun c hc => ⟨(hday c hc).1.1, (hday c hc).2.1⟩)

/-- **A row after one read, and why the second write emits the same bytes for it.**  For a row of runs that are
    carried as they are (`okT`): `backRow l` is, in the view (text, italics, underline, boxing), the row written with
    adjacent unstyled runs joined (what both readers return, `C05.row_read_back`); its runs are carried as they are
    again and there is at least one; and **its bytes in the text field are the bytes of `l`** — the blank inside a
    joined run is the blank the writer had put between the runs. -/
theorem row_rewrite (l : List RRun) (hne : l ≠ []) (h : ∀ r ∈ l, r.okT) :
    (backRow l).map wv = mergePlain (l.map wv) ∧ backRow l ≠ [] ∧ (∀ r ∈ backRow l, r.okT) ∧
      lineBytes (backRow l) = lineBytes l :=
  ⟨backRow_wv l (fun r hr => (h r hr).ne), backRow_ne_nil l hne (fun r hr => (h r hr).ne), backRow_okT l h,
    backRow_bytes l (fun r hr => (h r hr).ne)⟩

/-- `backCue`, field by field (its definition) -/
theorem backCue_fields (G : WGSI) (off : Int) (c : MCue) :
    backCue G off c =
      { startAt := frameInstant G.m.framerate (c.startAt + G.m.tcp) - off,
        endAt := frameInstant G.m.framerate (c.endAt + G.m.tcp) - off,
        just := some ((justOf (justCode c.just) : Nat) : Int),
        vp := some ((vpByte (c.vp.getD 20) G.m.dsc : Nat) : Int),
        rows := c.rows.map backRow } := rfl

/-- **What the check's `cueOf` makes of a cue that was read back.**  For the cue the reader returns for the block of
    a cue `c` whose runs are carried as they are: the times are the reader's, `STLJustification` parses
    (`String.toInt?`) to the justification the block's code stands for, the first component of `STLPosition` parses
    to the vertical position byte, and the runs — text as code points, effective style flags — are `backRow` of the
    rows written.  In short: `cueOf` of it is the writer's view of `backCue`. -/
theorem reread_cue (R : GSI) (G : WGSI) (off : Int) (c : MCue) (h : ∀ l ∈ c.rows, ∀ r ∈ l, r.okT) :
    Driver.STLD.cueOf (ttiCueM R G off c) = (backCue G off c).toW :=
  cueOf_ttiCueM R G off c h

/-- the cue read back is well-formed again, and its encoded text is the encoded text of the cue written -/
theorem reread_cue_ok (G : WGSI) (off : Int) (c : MCue) (hok : c.ok) :
    (backCue G off c).ok ∧ encodeText (cueString (backCue G off c).toW) = encodeText (cueString c.toW) :=
  ⟨backCue_ok G off c hok, backCue_text G off c hok⟩

/-- **Justification and vertical position survive a rewrite, whatever was given** (absent, out of range, …): the
    justification read back is written as the same code, and under display standard 0 the vertical position byte
    read back is written as the same byte. -/
theorem just_vp_stable (j : Option Int) (vp : Int) :
    justCode (some ((justOf (justCode j) : Nat) : Int)) = justCode j ∧
    vpByte ((vpByte vp [0x30] : Nat) : Int) [0x30] = vpByte vp [0x30] :=
  ⟨justCode_back j, vpByte_back vp⟩

/-- **One TTI block.**  `G` the GSI block of the first write, `G2` that of the second: same frame rate (25 / 30), both
    display standard 0, and the programme start of `G2` is the one the reader subtracted.  For a well-formed cue `c`
    with both instants within a day, the 128 bytes written from the cue read back are the 128 bytes written from
    `c`: subtitle number, cumulative status, timecode in / out, vertical position, justification, comment flag,
    text field. -/
theorem block_rewrite (G G2 : WGSI) (off : Int) (fr : Nat) (idx : Nat) (c : MCue)
    (hfr : fr = 25 ∨ fr = 30) (hg : G.m.framerate = (fr : Int)) (hg2 : G2.m.framerate = (fr : Int))
    (hdsc : G.m.dsc = [0x30]) (hdsc2 : G2.m.dsc = [0x30]) (htcp : G2.m.tcp = off) (hok : c.ok)
    (hs : InDay (c.startAt + G.m.tcp)) (he : InDay (c.endAt + G.m.tcp)) :
    ttiBytes G2 idx (backCue G off c).toW = ttiBytes G idx c.toW :=
  ttiBytes_back G G2 off fr idx c hfr hg hg2 hdsc hdsc2 htcp hok hs he

/-- **The two files side by side** (`Rewritten` of `Lemmas/STLRWFile.lean`, spelled out).  For input of the class `RewriteOK`, `out`
    the first file and `(m2, items2)` what the reader returned: the second write answers with a file
    `H ++ (M' ++ (T ++ B))` where `out = H ++ (M ++ (T ++ B))`: the same 256 bytes `H`, the same 760 bytes `T`, the
    same TTI blocks `B` (128 bytes per cue); the programme-start fields `M'`, `M` (8 bytes) are equal when the
    programme start was not ignored and lies within a day, and `M'` is `00000000` when it was ignored. -/
theorem rewrite_files (ig : Bool) (now now2 : Date) (m : Meta) (cs : List MCue) (h : RewriteOK now m cs)
    (out : Bytes) (m2 : Meta) (items2 : List CItem)
    (hw : write now (some m) (cs.map MCue.toW) = .ok out) (hr : STL.read ig out = .ok (m2, items2)) :
    ∃ H M M' T B, write now2 (some m2) (items2.map Driver.STLD.cueOf) = .ok (H ++ (M' ++ (T ++ B))) ∧
      out = H ++ (M ++ (T ++ B)) ∧ H.length = 256 ∧ M.length = 8 ∧ M'.length = 8 ∧ T.length = 760 ∧
      B.length = 128 * cs.length ∧
      (ig = false → InDay m.tcp → M' = M) ∧ (ig = true → M' = lit "00000000") := by
  obtain ⟨H, M, M', T, B, r⟩ := rewrite_shape ig now now2 m cs h out m2 items2 hw hr
  exact ⟨H, M, M', T, B, r.again, r.first, r.head, r.tcpF, r.tcpF', r.tail, r.blocks, r.same, r.zero⟩

/-- **The TTI blocks are byte-identical, and the second write always answers** (with or without
    `IgnoreTimecodeStartOfProgramme`, on whatever day).  For input of the class `RewriteOK`, `out` the file written
    and `(m2, items2)` what the reader returns for it: the writer model produces a file `again` for `m2` and
    `items2.map cueOf`, of the same length, and everything after the GSI block is unchanged —
    `again.drop 1024 = out.drop 1024`: per cue the subtitle number, cumulative status, both timecodes, vertical
    position, justification and the 112-byte text field (style codes, blanks and padding included). -/
theorem rewrite_tti_blocks_any (ig : Bool) (now now2 : Date) (m : Meta) (cs : List MCue) (h : RewriteOK now m cs)
    (out : Bytes) (m2 : Meta) (items2 : List CItem)
    (hw : write now (some m) (cs.map MCue.toW) = .ok out) (hr : STL.read ig out = .ok (m2, items2)) :
    ∃ again, write now2 (some m2) (items2.map Driver.STLD.cueOf) = .ok again ∧
      again.drop 1024 = out.drop 1024 ∧ again.length = out.length := by
  obtain ⟨H, M, M', T, B, r⟩ := rewrite_shape ig now now2 m cs h out m2 items2 hw hr
  refine ⟨_, r.again, ?_, ?_⟩
  · rw [r.first, drop_append3 H M' T B (by rw [r.head, r.tcpF', r.tail]), drop_append3 H M T B (by rw [r.head, r.tcpF, r.tail])]
  · rw [r.first, length_append3 H M' T B (by rw [r.head, r.tcpF', r.tail]), length_append3 H M T B (by rw [r.head, r.tcpF, r.tail])]

/-- **`rewrite_tti_blocks_Statement` of `Props/C05doc2.lean` holds.**  (Its hypotheses "every cue has a row",
    "justification within 1–4", "vertical position within a byte" and "programme start below a day" are not needed;
    `InDay m.tcp` is used only for `0 ≤ m.tcp`.) -/
theorem rewrite_tti_blocks : rewrite_tti_blocks_Statement := by
  intro now now2 m cs hne hm hok hday htcp _
  have h : RewriteOK now m cs := ⟨hne, hm, htcp.1, fun c hc => (hok c hc).1, hday⟩
  obtain ⟨out, hw, hr⟩ := h.roundtrip false
  obtain ⟨again, hw2, hd, _⟩ := rewrite_tti_blocks_any false now now2 m cs h out _ _ hw hr
  exact ⟨out, _, _, again, hw, hr, hw2, hd⟩

/-- **The GSI block on rewrite.**  Under the hypotheses of `rewrite_tti_blocks_any`, for the second file
    `again` (written on whatever day `now2`):
    * bytes 0–255 are unchanged (`written_gsi_layout`: code page number, disk format code = frame rate, display
      standard, character code table, language code, original / translated programme and episode titles,
      translator's name and contact, subtitle list reference code, **creation date, revision date**, revision
      number, TNB, TNS, TNG (the counts: same number of cues), maximum characters / rows, time code status);
    * bytes 264–1023 and all TTI blocks are unchanged (first in-cue TCF, number of disks, disk sequence number,
      country of origin, publisher, editor's name and contact, spare bytes);
    * bytes 256–263, the programme start TCP: unchanged — hence the **whole file** — when the programme start was
      not ignored and lies within a day; `00000000` when the reader was told to ignore it.
    The clock plays no part: the dates of `again` come from the file (the reader always
    supplies them, `read_supplies_options`), never from `now2`. -/
theorem rewrite_gsi (ig : Bool) (now now2 : Date) (m : Meta) (cs : List MCue) (h : RewriteOK now m cs)
    (out : Bytes) (m2 : Meta) (items2 : List CItem)
    (hw : write now (some m) (cs.map MCue.toW) = .ok out) (hr : STL.read ig out = .ok (m2, items2)) :
    ∃ again, write now2 (some m2) (items2.map Driver.STLD.cueOf) = .ok again ∧
      again.take 256 = out.take 256 ∧ again.drop 264 = out.drop 264 ∧
      (ig = false → InDay m.tcp → again = out) ∧
      (ig = true → (again.drop 256).take 8 = lit "00000000") := by
  obtain ⟨H, M, M', T, B, r⟩ := rewrite_shape ig now now2 m cs h out m2 items2 hw hr
  refine ⟨_, r.again, ?_, ?_, ?_, ?_⟩
  · rw [r.first, List.take_left' r.head, List.take_left' r.head]
  · rw [r.first, drop_append_append H M' _ (by rw [r.head, r.tcpF']), drop_append_append H M _ (by rw [r.head, r.tcpF])]
  · intro hig hd
    rw [r.first, r.same hig hd]
  · intro hig
    rw [drop_take_append H M' _ r.head r.tcpF', r.zero hig]

/-- which fields lie in the three parts of the GSI block of a written file: `gsiHead` (bytes 0–255), `gsiTcpField`
    (256–263), `gsiTail` (264–1023) of the writer's GSI value — see their definitions in `Lemmas/STLRWFile.lean` -/
theorem written_gsi_layout (now : Date) (md : Option Meta) (cs : List MCue) :
    (writeBody now md (cs.map MCue.toW)).take 256 = gsiHead (newGSI now md (cs.map MCue.toW)) ∧
    ((writeBody now md (cs.map MCue.toW)).drop 256).take 8 = gsiTcpField (newGSI now md (cs.map MCue.toW)) ∧
    ((writeBody now md (cs.map MCue.toW)).drop 264).take 760 = gsiTail (newGSI now md (cs.map MCue.toW)) :=
  written_parts now md cs

/-- the three parts, spelled out (definitions): every field of `gsiBytes` is in exactly one of them -/
theorem gsi_parts (g : WGSI) :
    gsiBytes g = gsiHead g ++ (gsiTcpField g ++ gsiTail g) ∧
    gsiHead g =
      [0x38, 0x35, 0x30] ++ padR 0x20 8 ((dfcOf g.m.framerate).getD []) ++ padR 0x20 1 g.m.dsc ++ [0x30, 0x30]
        ++ padR 0x20 2 g.langCode ++ padR 0x20 32 g.m.title ++ padR 0x20 32 g.m.origEpisode ++ padR 0x20 32 g.m.translProgram
        ++ padR 0x20 32 g.m.translEpisode ++ padR 0x20 32 g.m.translName ++ padR 0x20 32 g.m.translContact
        ++ padR 0x20 16 g.m.slr ++ padR 0x20 6 (formatDate (g.m.creation.getD zeroDate))
        ++ padR 0x20 6 (formatDate (g.m.revisionDate.getD zeroDate))
        ++ num 2 g.m.revisionNumber ++ num 5 (g.n : Int) ++ num 5 (g.n : Int) ++ num 3 1 ++ num 2 (g.m.maxChars.getD 0)
        ++ num 2 (g.m.maxRows.getD 0) ++ [0x31] ∧
    gsiTcpField g = padR 0x20 8 (ascii (Duration.formatSTL g.m.tcp g.m.framerate.toNat)) ∧
    gsiTail g =
      padR 0x20 8 (ascii (Duration.formatSTL g.tcf g.m.framerate.toNat))
        ++ [0x31, 0x31] ++ padR 0x20 3 g.m.country ++ padR 0x20 32 g.m.publisher ++ padR 0x20 32 g.m.editorName
        ++ padR 0x20 32 g.m.editorContact ++ List.replicate 651 0x20 :=
  ⟨gsi_split g, rfl, rfl, rfl⟩

/-- **The reader always supplies the optional metadata** — for *every* file it accepts, written by the library or
    not: creation date, revision date (a blank field is the zero time), maximum characters and rows are set. -/
theorem read_supplies_options (ig : Bool) (doc : Bytes) (m2 : Meta) (items : List CItem)
    (h : STL.read ig doc = .ok (m2, items)) :
    m2.creation.isSome ∧ m2.revisionDate.isSome ∧ m2.maxChars.isSome ∧ m2.maxRows.isSome :=
  read_options ig doc m2 items h

/-- **… so writing what was read never looks at the clock**: for metadata returned by the reader (any file, any
    cues) the writer model gives the same answer on any two days. -/
theorem rewrite_ignores_clock (ig : Bool) (doc : Bytes) (m2 : Meta) (items : List CItem) (now now' : Date)
    (cues : List WCue) (h : STL.read ig doc = .ok (m2, items)) :
    write now (some m2) cues = write now' (some m2) cues :=
  write_clock now now' m2 cues (read_options ig doc m2 items h).1 (read_options ig doc m2 items h).2.1

/-- **`write (read (write s)) = write s`, on bytes.**  For input of the class `RewriteOK` with the
    programme start within a day, read without `IgnoreTimecodeStartOfProgramme`: writing — on whatever day — the
    metadata and the cues that were read back from the written file gives the written file again, byte for byte
    (the STL analogue of `C04doc2.rewrite_fixpoint` / `C01doc.norm_stable`). -/
theorem rewrite_fixpoint (now now2 : Date) (m : Meta) (cs : List MCue) (h : RewriteOK now m cs) (htcp : InDay m.tcp)
    (out : Bytes) (m2 : Meta) (items2 : List CItem)
    (hw : write now (some m) (cs.map MCue.toW) = .ok out) (hr : STL.read false out = .ok (m2, items2)) :
    write now2 (some m2) (items2.map Driver.STLD.cueOf) = .ok out := by
  obtain ⟨again, hw2, _, _, hsame, _⟩ := rewrite_gsi false now now2 m cs h out m2 items2 hw hr
  rw [hw2, hsame rfl htcp]

/-- … end to end: the first write answers, the file is read back, and the second write is the first -/
theorem write_read_write (now now2 : Date) (m : Meta) (cs : List MCue) (h : RewriteOK now m cs) (htcp : InDay m.tcp) :
    ∃ out m2 items2, write now (some m) (cs.map MCue.toW) = .ok out ∧ STL.read false out = .ok (m2, items2) ∧
      write now2 (some m2) (items2.map Driver.STLD.cueOf) = .ok out := by
  obtain ⟨out, hw, hr⟩ := h.roundtrip false
  exact ⟨out, _, _, hw, hr, rewrite_fixpoint now now2 m cs h htcp out _ _ hw hr⟩

/-- … as one function: `rewriteOf` (write, read, write again through `cueOf`) answers and returns the same file twice -/
theorem rewrite_function (now now2 : Date) (m : Meta) (cs : List MCue) (h : RewriteOK now m cs) (htcp : InDay m.tcp) :
    ∃ out, rewriteOf now now2 m (cs.map MCue.toW) = some (out, out) := by
  obtain ⟨out, m2, items2, hw, hr, hw2⟩ := write_read_write now now2 m cs h htcp
  exact ⟨out, rewriteOf_eq now now2 m _ out out m2 items2 hw hr hw2⟩

/-- **With the programme start ignored** the second file is the first one with the programme-start field zeroed
    (the cue times read are then absolute, and are written back as they are) -/
theorem rewrite_ignored_tcp (now now2 : Date) (m : Meta) (cs : List MCue) (h : RewriteOK now m cs)
    (out : Bytes) (m2 : Meta) (items2 : List CItem)
    (hw : write now (some m) (cs.map MCue.toW) = .ok out) (hr : STL.read true out = .ok (m2, items2)) :
    write now2 (some m2) (items2.map Driver.STLD.cueOf) = .ok (out.take 256 ++ (lit "00000000" ++ out.drop 264)) := by
  obtain ⟨H, M, M', T, B, r⟩ := rewrite_shape true now now2 m cs h out m2 items2 hw hr
  rw [r.again, r.first, List.take_left' r.head, drop_append_append H M _ (by rw [r.head, r.tcpF]), r.zero rfl]

/-- … and once more: the file is a fixpoint of read-then-write, so every further generation is the same file -/
theorem rewrite_fixpoint_again (now now2 now3 : Date) (m : Meta) (cs : List MCue) (h : RewriteOK now m cs) (htcp : InDay m.tcp)
    (out again : Bytes) (m2 m3 : Meta) (items2 items3 : List CItem)
    (hw : write now (some m) (cs.map MCue.toW) = .ok out) (hr : STL.read false out = .ok (m2, items2))
    (hw2 : write now2 (some m2) (items2.map Driver.STLD.cueOf) = .ok again) (hr2 : STL.read false again = .ok (m3, items3)) :
    write now3 (some m3) (items3.map Driver.STLD.cueOf) = .ok again := by
  have e := rewrite_fixpoint now now2 m cs h htcp out m2 items2 hw hr
  rw [hw2] at e
  have e' : again = out := Res.ok.inj e
  subst e'
  rw [hr] at hr2
  obtain ⟨rfl, rfl⟩ := Prod.mk.inj (Res.ok.inj hr2)
  exact rewrite_fixpoint now now3 m cs h htcp again m2 items2 hw hr

namespace Example3
open Example2

theorem cue1_ok : cue1.ok := MCue.ok_of_bytes _ (by decide +kernel) (by decide +kernel)
theorem cue2_ok : cue2.ok := MCue.ok_of_bytes _ (by decide +kernel) (by decide +kernel)
theorem meta_ok : MetaOK Example.day Example.meta1 (firstStart ([cue1, cue2].map MCue.toW)) := by decide +kernel

/-- the two cues of `C05.Example2` (four runs on one row, two of them adjacent and unstyled; justification 3 and
    vertical position 20 in the first cue, none in the second) with the metadata of `C05.Example` (programme start
    10 h) are in the class -/
example : RewriteOK Example.day Example.meta1 [cue1, cue2] :=
  ⟨by decide, meta_ok, by decide, by
    intro c hc
    simp only [List.mem_cons, List.not_mem_nil, or_false] at hc
    rcases hc with rfl | rfl
    · exact cue1_ok
    · exact cue2_ok, by decide⟩

example : InDay Example.meta1.tcp := by decide

/-- the lemmas' hypothesis on the first GSI block (`Gsi1`: frame rate 25 / 30, display standard 0, options set, stable
    language code) holds of the block written for this input -/
example : Gsi1 (newGSI Example.day (some Example.meta1) ([cue1, cue2].map MCue.toW)) :=
  newGSI_gsi1 _ _ _ meta_ok

/-- the first row after one read: "N" (italics), "a b" (one unstyled run: the units of "a", the blank unit, the units
    of "b"), "x" (underline) -/
example : (backRow [rA, rB, rC, rD]).map (fun r => (r.units.map (·.bytes), r.flags))
    = [([[0x4E]], (true, false, false)), ([[0x61], [0x20], [0x62]], (false, false, false)), ([[0x78]], (false, true, false))] := by
  decide +kernel

/-- … and it is written as the same bytes -/
example : lineBytes (backRow [rA, rB, rC, rD]) = [0x80, 0x4E, 0x81, 0x20, 0x61, 0x20, 0x62, 0x20, 0x82, 0x78, 0x83] := by
  decide +kernel
example : lineBytes [rA, rB, rC, rD] = [0x80, 0x4E, 0x81, 0x20, 0x61, 0x20, 0x62, 0x20, 0x82, 0x78, 0x83] := by
  decide +kernel

/-- justification: absent is written as code 1 and read as 2 (left), which is written as code 1 again; 7 likewise -/
example : justCode none = 1 ∧ justOf 1 = 2 ∧ justCode (some 2) = 1 ∧ justCode (some 7) = 1 := by decide

/-- the run " a": a blank unit, then "a" -/
def rU : RRun := { units := [spaceU, charUnit (0x61, [0x61])] }
def cueU : MCue := { startAt := 1000000000, endAt := 2000000000, rows := [[rU]] }

example : ∀ l ∈ cueU.rows, l ≠ [] ∧ ∀ r ∈ l, (∀ u ∈ r.units, RepUnit u) ∧ trimSpace (str r.text) ≠ [] := by decide +kernel
example : ¬ rU.okT := by decide +kernel

/-- **"no white space at the ends of a run" is necessary.**  A run " a" is repertoire text and not blank — everything
    `MCue.ok` asks except that — and the writer emits `20 61`; the reader trims it, so the second write emits `61`
    and the TTI block changes (bytes 16–19 of the first block: `20 61 8F 8F` before, `61 8F 8F 8F` after). -/
theorem trimmed_runs_needed :
    (rewriteOf Example.day Example.day Example.meta1 [cueU.toW]).map
        (fun p => ((p.1.drop 1040).take 4, (p.2.drop 1040).take 4))
      = some ([0x20, 0x61, 0x8F, 0x8F], [0x61, 0x8F, 0x8F, 0x8F]) := by decide +kernel

end Example3

end C05
end Astisub
