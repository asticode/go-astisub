import Astisub.Lemmas.Scan
import Astisub.Model.IO

/-!
# C17 — Parse result does not depend on how the reader delivers the bytes

`Go.scan` models `bufio.Scanner` with the split function of `newScanner` (repaired: a buffer that
ends in CR before EOF asks for more data; a line of more than `maxLineSize = 65535` bytes is
refused by the split function itself, and the scanner's buffer of `maxLineSize + 2` bytes is never
the limit — so that the too-long outcome is a function of the bytes, not of the line terminator or
of whether the last bytes come together with `io.EOF`); `IO.readFull`/`IO.stlBlocks` model `readNBytes`
(repaired: `io.ReadFull`) and the block loop of `ReadFromSTL`.  A *schedule* is any list of
chunks (one per `Read` call, `[]` = zero-length read).  Statements hold for every schedule and
every byte string.  TTML and teletext readers hand the stream to `encoding/xml` / `go-astits`:
for those two the property is checked by the `io.sched` correspondence stream only.
-/

namespace Astisub
namespace C17
open Go IO List

/-- **The result of a scan is a function of the bytes.** For every schedule `cs` and every end `e`
    whose run hits neither the empty-read limit nor a bad read count (a well-behaved reader never
    does: `noStall_bytewise`, `noStall_one_read`):
    * the tokens are the lines of the bytes before the first line of more than 65535 bytes;
    * the error is `finalErr e (firstLong bytes)`: nil / the reader's error when no line is too
      long; `bufio.ErrTooLong` when one is and the stream ends with `io.EOF`; the reader's error
      when one is and the stream ends with that error (`Scanner.setErr` keeps the first error
      that is not `io.EOF`) —
    * or, in that last case only (`e = fault`, a line too long), `bufio.ErrTooLong` if the split
      function saw the long line before the reader reported its error.
    For `e = eof` the two alternatives coincide: `scan_bytes_eof`. -/
theorem scan_bytes (cs : List (List UInt8)) (e : End) (h : NoStall (scan true [] cs e 0).2) :
    (scan true [] cs e 0).1 = linesBefore cs.flatten ∧
    ((scan true [] cs e 0).2 = finalErr e (firstLong cs.flatten) ∨
      (firstLong cs.flatten = true ∧ (scan true [] cs e 0).2 = some .tooLong)) := by
  simpa using scan_bytes_gen [] cs e 0 h

/-- Stream ending with `io.EOF`: tokens *and* error are determined by the bytes alone. -/
theorem scan_bytes_eof (cs : List (List UInt8)) (h : NoStall (scan true [] cs .eof 0).2) :
    scan true [] cs .eof 0 =
      (linesBefore cs.flatten, if firstLong cs.flatten then some .tooLong else none) := by
  simpa using Go.scan_bytes_eof [] cs 0 h

/-- Stream ending with a read error: the tokens are determined by the bytes; the error is never
    nil, and it is the reader's own unless a line is too long. -/
theorem scan_bytes_fault (cs : List (List UInt8)) (h : NoStall (scan true [] cs .fault 0).2) :
    (scan true [] cs .fault 0).1 = linesBefore cs.flatten ∧
    ((scan true [] cs .fault 0).2 = some .io ∨
      (firstLong cs.flatten = true ∧ (scan true [] cs .fault 0).2 = some .tooLong)) := by
  simpa [finalErr] using scan_bytes cs .fault h

/-- **Two deliveries of the same bytes give the same result — with no exception for long lines.**
    (The unrepaired upstream code — `pinned` in theorem names, `fixed = false` in the model — does not satisfy the statement: `pinned_long_line_depends_on_delivery`.) -/
theorem schedule_independent_full (cs₁ cs₂ : List (List UInt8)) (hb : cs₁.flatten = cs₂.flatten)
    (h₁ : NoStall (scan true [] cs₁ .eof 0).2) (h₂ : NoStall (scan true [] cs₂ .eof 0).2) :
    scan true [] cs₁ .eof 0 = scan true [] cs₂ .eof 0 := by
  rw [scan_bytes_eof cs₁ h₁, scan_bytes_eof cs₂ h₂, hb]

/-- Hence every line-based reader (SRT, WebVTT, SSA — any function of the scanned lines and the
    scanner's error, including the failing cases and the too-long case) returns the same result
    for both deliveries. -/
theorem line_reader_independent_full {β : Type} (reader : List (List UInt8) × Option ScanErr → β)
    (cs₁ cs₂ : List (List UInt8)) (hb : cs₁.flatten = cs₂.flatten)
    (h₁ : NoStall (scan true [] cs₁ .eof 0).2) (h₂ : NoStall (scan true [] cs₂ .eof 0).2) :
    reader (scan true [] cs₁ .eof 0) = reader (scan true [] cs₂ .eof 0) := by
  rw [schedule_independent_full cs₁ cs₂ hb h₁ h₂]

/-- Under a read error the tokens are still schedule independent (the error is `io` or `tooLong`,
    never nil: `C18`). -/
theorem schedule_independent_fault_tokens (cs₁ cs₂ : List (List UInt8)) (hb : cs₁.flatten = cs₂.flatten)
    (h₁ : NoStall (scan true [] cs₁ .fault 0).2) (h₂ : NoStall (scan true [] cs₂ .fault 0).2) :
    (scan true [] cs₁ .fault 0).1 = (scan true [] cs₂ .fault 0).1 := by
  rw [(scan_bytes cs₁ .fault h₁).1, (scan_bytes cs₂ .fault h₂).1, hb]

/-- The hypothesis is satisfiable for every byte string: deliver it one byte per `Read`. The
    result is then *the* result of that byte string under every well-behaved delivery. -/
theorem bytewise (bs : List UInt8) :
    scan true [] (bs.map fun b => [b]) .eof 0 =
      (linesBefore bs, if firstLong bs then some .tooLong else none) := by
  have h := scan_bytes_eof (bs.map fun b => [b]) (noStall_bytewise _ _ _ _ (by simp))
  rwa [← flatMap_def, flatMap_singleton'] at h

/-- "returns its last bytes together with end-of-file" is the same schedule followed by EOF:
    the model has no separate case for it (a `Read` returning `(n, io.EOF)` is a chunk of `n`
    bytes and then the end marker; a `Read` returning `(n, nil)` and the next one `(0, io.EOF)`
    behaves like the chunk, an empty chunk, and the end marker). The one-read delivery: -/
theorem one_read_full (bs : List UInt8) (hlen : bs.length ≤ bufSize true) :
    scan true [] [bs] .eof 0 = (linesBefore bs, if firstLong bs then some .tooLong else none) := by
  simpa using scan_bytes_eof [bs] (noStall_one_read bs .eof hlen)

/-- … and the same bytes with the end-of-file in a `Read` of its own -/
theorem one_read_then_eof (bs : List UInt8)
    (h : NoStall (scan true [] [bs, []] .eof 0).2) :
    scan true [] [bs, []] .eof 0 = (linesBefore bs, if firstLong bs then some .tooLong else none) := by
  simpa using scan_bytes_eof [bs, []] h

/-! ### under the stronger hypothesis `LimitFree` (no `bufio.ErrTooLong` either): corollaries -/

/-- The scanner's tokens are the lines of the bytes, whatever the schedule — as long as the run
    hits none of the scanner's limits (line length, 100 empty reads, bad read count). When the
    stream ends with a read error a final over-long line is not delivered and its
    `bufio.ErrTooLong` is masked by the read error: hence `linesBefore` (`= linesOf` when the
    stream ends with `io.EOF`: `tokens_are_lines_eof`). -/
theorem tokens_are_lines (cs : List (List UInt8)) (e : End) (h : LimitFree (scan true [] cs e 0).2) :
    (scan true [] cs e 0).1 = linesBefore cs.flatten ∧ (scan true [] cs e 0).2 = endErr e := by
  have := scan_spec [] cs e 0 h
  rw [this]; simp

theorem tokens_are_lines_eof (cs : List (List UInt8)) (h : LimitFree (scan true [] cs .eof 0).2) :
    (scan true [] cs .eof 0).1 = linesOf cs.flatten ∧ (scan true [] cs .eof 0).2 = none := by
  have := scan_spec_eof [] cs 0 h
  rw [this]; simp [linesOf]

/-- no error at all: every line of every byte was delivered, and the stream ended with `io.EOF` -/
theorem no_error_all_lines (cs : List (List UInt8)) (e : End) (h : (scan true [] cs e 0).2 = none) :
    e = .eof ∧ (scan true [] cs e 0).1 = linesOf cs.flatten := by
  have hlf : LimitFree (scan true [] cs e 0).2 := by
    rw [h]; exact ⟨by simp, by simp, by simp⟩
  cases e with
  | fault => exact absurd h (scan_fault true [] cs 0)
  | eof => exact ⟨rfl, (tokens_are_lines_eof cs hlf).1⟩

/-- Two deliveries of the same bytes give the same tokens and the same (absent) error. -/
theorem schedule_independent (cs₁ cs₂ : List (List UInt8)) (hb : cs₁.flatten = cs₂.flatten)
    (h₁ : LimitFree (scan true [] cs₁ .eof 0).2) (h₂ : LimitFree (scan true [] cs₂ .eof 0).2) :
    scan true [] cs₁ .eof 0 = scan true [] cs₂ .eof 0 :=
  schedule_independent_full cs₁ cs₂ hb h₁.noStall h₂.noStall

theorem line_reader_independent {β : Type} (reader : List (List UInt8) × Option ScanErr → β)
    (cs₁ cs₂ : List (List UInt8)) (hb : cs₁.flatten = cs₂.flatten)
    (h₁ : LimitFree (scan true [] cs₁ .eof 0).2) (h₂ : LimitFree (scan true [] cs₂ .eof 0).2) :
    reader (scan true [] cs₁ .eof 0) = reader (scan true [] cs₂ .eof 0) := by
  rw [schedule_independent cs₁ cs₂ hb h₁ h₂]

theorem one_read (bs : List UInt8) (h : LimitFree (scan true [] [bs] .eof 0).2) :
    (scan true [] [bs] .eof 0).1 = linesOf bs := by
  have := (tokens_are_lines_eof [bs] h).1
  simpa using this

/-! ### the longest line: 65535 bytes pass, 65536 fail — whatever ends the line, however it is delivered

`L` is any run of bytes without CR/LF (`NoEOL`), e.g. `List.replicate n 97`
(`noEOL_replicate`). Nothing here evaluates a 65536-element list. -/

/-- a final unterminated line of exactly 65536 bytes, delivered together with the end-of-file … -/
theorem long_final_line_with_eof (L : List UInt8) (h : NoEOL L) (hlen : L.length = maxLineSize + 1) :
    scan true [] [L] .eof 0 = ([], some .tooLong) := by
  have hl := lineTooLong_of_noEOL h (by omega)
  rw [scan_one_read true (ne_nil_of_length_pos (by omega)) (by show _ ≤ maxLineSize + 2; omega),
    drainL_long hl]; rfl

/-- … and with the end-of-file in a `Read` of its own: the same (the unrepaired code differs here: `pinned_long_line_depends_on_delivery`) -/
theorem long_final_line_then_eof (L : List UInt8) (h : NoEOL L) (hlen : L.length = maxLineSize + 1) :
    scan true [] [L, []] .eof 0 = ([], some .tooLong) := by
  have hl := lineTooLong_of_noEOL h (by omega)
  rw [scan_read_then_end true (ne_nil_of_length_pos (by omega)) (by show _ ≤ maxLineSize + 2; omega),
    scan_long hl]

/-- the unrepaired code: the first delivery passed, the second failed -/
theorem pinned_long_line_depends_on_delivery (L : List UInt8) (h : NoEOL L) (hlen : L.length = maxLineSize + 1) :
    scan false [] [L] .eof 0 = ([L], none) ∧ scan false [] [L, []] .eof 0 = ([], some .tooLong) := by
  have hne : L ≠ [] := ne_nil_of_length_pos (by omega)
  constructor
  · rw [scan_one_read false hne (Nat.le_of_eq hlen), drainL_one_line false h hne rfl]; rfl
  · -- 65536 bytes are pending when the next `Read` is due: the unrepaired 65536-byte buffer is full
    rw [scan_read_then_end false hne (Nat.le_of_eq hlen), scan_more rfl (splitLine_noEOL_more false h),
      if_pos (show L.length ≥ bufSize false from Nat.le_of_eq hlen.symm)]

/-- non-vacuity: such an `L` exists -/
theorem long_final_line_example :
    scan true [] [List.replicate (maxLineSize + 1) 97] .eof 0 = ([], some .tooLong) ∧
    scan true [] [List.replicate (maxLineSize + 1) 97, []] .eof 0 = ([], some .tooLong) :=
  ⟨long_final_line_with_eof _ (noEOL_replicate _ rfl) List.length_replicate,
   long_final_line_then_eof _ (noEOL_replicate _ rfl) List.length_replicate⟩

/-- one byte fewer passes, under both deliveries, and is delivered as the one line it is -/
theorem longest_line_passes (L : List UInt8) (h : NoEOL L) (hlen : L.length = maxLineSize) :
    scan true [] [L] .eof 0 = ([L], none) ∧ scan true [] [L, []] .eof 0 = ([L], none) := by
  have hne : L ≠ [] := ne_nil_of_length_pos (by rw [hlen]; decide)
  have hbuf : L.length ≤ bufSize true := by show _ ≤ maxLineSize + 2; omega
  have hl : (true && lineTooLong L) = false := by rw [lineTooLong_noEOL_false h (Nat.le_of_eq hlen)]; rfl
  have hd := drainL_noEOL true h hne (Nat.le_of_eq hlen)
  constructor
  · rw [scan_one_read true hne hbuf, hd]; rfl
  · rw [scan_read_then_end true hne hbuf,
      scan_empty_read hl (splitLine_noEOL_more true h) (by show _ < maxLineSize + 2; omega) (by decide),
      scan_nil, hd]; rfl

/-- under a read error both outcomes of `scan_bytes_fault` occur: the reader's error when the
    long line comes together with it, `bufio.ErrTooLong` when the split function saw the line
    first -/
theorem long_line_fault_both (L : List UInt8) (h : NoEOL L) (hlen : L.length = maxLineSize + 1) :
    scan true [] [L] .fault 0 = ([], some .io) ∧ scan true [] [L, []] .fault 0 = ([], some .tooLong) := by
  have hl := lineTooLong_of_noEOL h (by omega)
  have hne : L ≠ [] := ne_nil_of_length_pos (by omega)
  have hbuf : L.length ≤ bufSize true := by show _ ≤ maxLineSize + 2; omega
  constructor
  · rw [scan_one_read true hne hbuf, drainL_long hl]; rfl
  · rw [scan_read_then_end true hne hbuf, scan_long hl]

/-! ### defect D1 on the bytes `h i CR | LF x`: the split function on a buffer that ends in CR, and on what the next read brings -/

/-- where the two test buffers break: `hi` before the CR; nothing before the LF -/
theorem breakEOL_hi_cr : breakEOL [104, 105, 13] = ([104, 105], [13]) := by decide
theorem breakEOL_lf_x : breakEOL [10, 120] = ([], [10, 120]) := by decide

/-- repaired split function: a buffer ending in CR before EOF asks for more data -/
theorem cr_at_end_waits : splitLine true [104, 105, 13] false = .more := by decide

/-- unrepaired split function: it emitted the line at once — and the LF of the next read then
    produced a second, empty line (defect D1) -/
theorem cr_at_end_pinned : splitLine false [104, 105, 13] false = .tok 3 [104, 105] := by decide
theorem lf_alone_is_a_line : splitLine false [10, 120] false = .tok 1 [] := by decide

/-- with the repaired function the pair is one line break: once the LF is there, the token
    consumes both bytes -/
theorem crlf_one_break : splitLine true [104, 105, 13, 10, 120] false = .tok 4 [104, 105] := by decide

theorem readFull_spec (need : Nat) (cs : List (List UInt8)) :
    (readFull need cs).1 = cs.flatten.take need ∧ (readFull need cs).2.flatten = cs.flatten.drop need := by
  induction cs generalizing need with
  | nil => simp [readFull]
  | cons c cs ih =>
    unfold readFull
    by_cases h0 : need = 0
    · simp [h0]
    · simp only [h0, ↓reduceIte]
      by_cases hc : c.length ≤ need
      · simp only [hc, ↓reduceIte]
        obtain ⟨h1, h2⟩ := ih (need - c.length)
        constructor
        · rw [h1]; simp [List.take_append, List.take_of_length_le hc]
        · rw [h2]; simp [List.drop_append, List.drop_eq_nil_of_le hc]
      · simp only [hc, ↓reduceIte]
        have hlt : need < c.length := by omega
        constructor
        · simp [List.take_append_of_le_length (Nat.le_of_lt hlt)]
        · simp [List.drop_append_of_le_length (Nat.le_of_lt hlt)]

/-- a block split across several reads is still one block: what `readNBytes` returns, and
    what is left for the next block, depend on the bytes only -/
theorem block_independent (need : Nat) (cs₁ cs₂ : List (List UInt8)) (hb : cs₁.flatten = cs₂.flatten) :
    (readFull need cs₁).1 = (readFull need cs₂).1 ∧
      (readFull need cs₁).2.flatten = (readFull need cs₂).2.flatten := by
  rw [(readFull_spec need cs₁).1, (readFull_spec need cs₂).1, (readFull_spec need cs₁).2,
    (readFull_spec need cs₂).2, hb]
  exact ⟨rfl, rfl⟩

theorem ttiBlocks_independent (e : End) (fuel : Nat) (cs₁ cs₂ : List (List UInt8))
    (hb : cs₁.flatten = cs₂.flatten) : ttiBlocks e fuel cs₁ = ttiBlocks e fuel cs₂ := by
  induction fuel generalizing cs₁ cs₂ with
  | zero => rfl
  | succ fuel ih =>
    obtain ⟨h1, h2⟩ := block_independent 128 cs₁ cs₂ hb
    unfold ttiBlocks
    simp only [h1]
    rw [ih _ _ h2]

/-- the whole block structure of an STL file (GSI block, TTI blocks, how the stream ended) is a
    function of the byte sequence alone -/
theorem stl_blocks_independent (e : End) (cs₁ cs₂ : List (List UInt8)) (hb : cs₁.flatten = cs₂.flatten) :
    stlBlocks e cs₁ = stlBlocks e cs₂ := by
  obtain ⟨h1, h2⟩ := block_independent 1024 cs₁ cs₂ hb
  unfold stlBlocks
  simp only [h1, hb]
  rw [ttiBlocks_independent e _ _ _ h2]

end C17
end Astisub
