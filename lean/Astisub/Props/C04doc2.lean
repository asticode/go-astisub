import Astisub.Lemmas.SSA2Spec
import Astisub.Lemmas.SSA2Fixpoint

/-!
# C04 (document level) — SSA / ASS: write → read and the rewrite fixpoint, for whole documents

`Props/C04doc.lean` proves the round trips of rows, texts and of the styles / events sections, and
states the two document-level clauses (`write_read_Statement`, `rewrite_fixpoint_Statement`).  This file
proves both, for the model `SSA.write` / `SSA.read` of the repaired `ssa.go`, for **all** cue lists
satisfying the explicit decidable predicates `RepRead` / `RepFix`, with the explicit normal form
`SSA.norm`:

* `write_read`        : `read (lines (write s)) = norm s`                         (`RepRead s`)
* `rewrite_fixpoint`  : `write (norm s) = write s`                                (`RepFix s`)
* `write_read_write`  : reading the written text and writing the result gives the same text again
* `norm_stable`       : the normal form is what reading its own written text gives
* `writer_answers`, `norm_representable`, `norm_idem` : the writer answers on every `RepRead` cue list with
  a cue; the normal form is representable; normalising twice is normalising once

and the pieces they are made of: the invariant `first = false` of the scan loop, the script-info
block (all 15 keys, comments, `Timer` through `,`/`.`), `read`'s post-processing, `ofCanon ∘ canon`,
`newSSAScriptInfo ∘ metadata`, `newSSAStyleFromStyle ∘ style`, `newSSAEventFromItem ∘ ssaEvent.item`,
and "the runs of a line concatenate to the line" for every line.

`Timer` (like the style floats in `C04doc`) is covered through a decidable
predicate (`timerOK`: the double survives `FormatFloat(-1)` / `ParseFloat` in the `Numconv` model),
not through a general theorem about shortest formatting.  For the independent decoder
(`Spec.SSA.decode`) this file has the cell-level facts and the statement `decode_write_Statement`; `Props/C04w2`
refutes that statement as it stands (`decode_write_Statement_false`) and proves it for cue lists with `RepRead` and `Extra` (`decode_write`).
-/

namespace Astisub
namespace C04doc2
open Go SSA List

/-- **Invariant of the scan loop.** Whatever the state and the line, a successful iteration of
    `ReadFromSSA`'s loop leaves `first = false`: the byte-order mark is only looked for once. -/
theorem step_leaves_first_false (st st' : St) (l : Str) (h : step st l = .ok st') : st'.first = false :=
  step_first st st' l h

/-- … hence after any non-empty sequence of lines that is scanned without error. -/
theorem run_leaves_first_false (ls : List Str) (st st' : St) (h : run st ls = .ok st') (hne : ls ≠ []) :
    st'.first = false := run_first ls st st' h hne

/-- **`Timer`: `,` → `.` undoes `.` → `,`.** On a text without comma (such as a formatted number),
    the replacement `ssaScriptInfo.parse` applies undoes the one `ssaScriptInfo.bytes` applied. -/
theorem timer_separator_roundtrip (s : Str) (h : ',' ∉ s) :
    replaceAll [','] ['.'] (replaceAll ['.'] [','] s) = s := replaceAll_comma_dot s h

/-- `FormatFloat(f,'f',-1,64)` only emits digits, `-` and `.` (so no comma, no space, no line feed) -/
theorem shortest_float_chars (bits : Nat) (str : Str) (h : formatFloatShortest bits = some str) :
    ∀ c ∈ str, numChar c = true := formatFloatShortest_numChar bits str h

/-- **One key.** For each of the 15 keys and every good value (`SIOK`: of the key's type; 64-bit
    integer; `Timer` surviving shortest formatting; non-empty string that needs no trimming and has no
    line feed), the text written after `Header: ` needs no trimming, has no line feed, and
    `ssaScriptInfo.parse` reads it back as exactly this value. -/
theorem script_info_value_roundtrip (b : Info) (f : SI) (v : Val) (h : SIOK f v) :
    ∃ t, siText v = some t ∧ Trimmed t ∧ '\n' ∉ t ∧
      b.parse f.header.toList t = .ok { b with vals := b.vals.set f v } := parse_written b f v h

/-- **The block.** Whenever `ssaScriptInfo.bytes` succeeds on a good script info (`InfoOK`), its text
    is the line `[Script Info]` followed by lines without line feeds, and the scan loop, started in the
    reader's initial state, reads them without error into: section `[Script Info]`, `first = false`,
    the same comments, and the same value for every key (tabulated in the writer's key order). -/
theorem script_info_block_roundtrip (b : Info) (txt : Str) (hb : InfoOK b) (h : b.bytes = some txt) :
    ∃ infoLines, txt = unlines ("[Script Info]".toList :: infoLines) ∧ (∀ l ∈ infoLines, '\n' ∉ l) ∧
      run {} ("[Script Info]".toList :: infoLines)
        = .ok { sec := .scriptInfo, first := false, info := { comments := b.comments, vals := tabulate b SI.all } } :=
  ⟨SSAW.infoRaw b, SSAW.bytes_lines b txt h, SSAW.infoRaw_not_mem nl_lineBreak b (fun _ hx => (hb.comment hx).2)
    (fun _ _ hg => (hb.value hg).2.2.2), SSAW.run_infoRaw b hb⟩

/-- every key of the tabulated values has the value it had -/
theorem script_info_values_kept (b : Info) (f : SI) : (tabulate b SI.all).get f = b.vals.get f :=
  Tab.pick_get_covering b.vals SI.all (fun f _ => C04.si_all_complete f) f

/-- non-vacuity: a script info with comments, a string with a colon, an integer, a `Timer`, the script type -/
def exInfo : Info :=
  { comments := ["made by hand".toList, "second comment".toList],
    vals := [(.playResX, .i 384), (.scriptType, .s "v4.00+".toList), (.timer, .f 0x4059000000000000),
             (.title, .s "An example: with colon".toList)] }

example : InfoOK exInfo := by unfold exInfo; decide_vector
/-- `Timer` values: 100, 0.1 and 1/3 all survive shortest formatting … -/
example : timerOK 0x4059000000000000 = true := by decide +kernel
example : timerOK 0x3FB999999999999A = true := by decide +kernel
example : timerOK 0x3FD5555555555555 = true := by decide +kernel
/-- … an infinity does not (the predicate excludes something) -/
example : timerOK 0x7FF0000000000000 = false := by decide +kernel
/-- an empty string value is not good: the reader takes it for "unset" -/
example : ¬ SIOK .title (.s []) := by decide

/-- **The scan loop over the whole written document.** For a representable cue list, the lines of
    the written text take the reader from its initial state to: section `[Events]` with the writer's
    event Format, the script info, the sorted styles with their attributes in the Format's columns,
    and one normalised event per cue. -/
theorem scan_written_document (s : Subs) (out : Str) (hr : RepRead s) (h : write s = .ok out) :
    run {} (splitC '\n' out) = .ok
      { sec := .events, format := eventFormat (isV4plus s), first := false,
        info := { comments := (infoOfMeta s.metadata).comments, vals := tabulate (infoOfMeta s.metadata) SI.all },
        styles := (writerStyles s).map (fun st => { name := st.name, vals := pick st (formatFlds (writerStyles s)) }),
        events := (s.items.map eventOfItem).map (Event.norm "Dialogue".toList (isV4plus s)) } :=
  run_document s out hr h

/-- with distinct names `o.Styles[st.ID] = st` keeps every style -/
theorem style_map_keeps_distinct (l : List Style) (h : (l.map (·.name)).Nodup) : styleMap l = l := styleMap_nodup l h

/-- **Write → read (document level).** For every representable cue list (`RepRead`: good script info,
    good style cells, good event cells, texts and names that need no trimming and have no line feed,
    distinct style identifiers), if `WriteToSSA` answers `out` then `ReadFromSSA` on the lines of `out`
    answers exactly the normal form `norm s`: the cues rebuilt from the normalised events against the
    written style names, the sorted styles with their attributes, the metadata of the script info.
    This is `write_read_Statement` of `C04doc` for `Rep := RepRead`, `norm := SSA.norm`. -/
theorem write_read : C04doc.write_read_Statement RepRead norm :=
  fun s out hr h => SSA.write_read s out hr h

/-- **`ofCanon ∘ canon = id`** on every value whose colour fits 32 bits and whose integer fits 64 bits -/
theorem ofCanon_canon_id (v : Val) (h : CanonOK v) : Val.ofCanon v.kind v.canon = v := ofCanon_canon v h

/-- looking a key up in the sorted attribute list `mkAttrs l` gives the value listed for it (keys distinct):
    the look-up goes through the merge sort -/
theorem lookup_through_sort (l : List (String × Option Str)) (hd : l.Pairwise (fun a b => a.1 ≠ b.1)) (k : String)
    (o : Option Str) (hm : (k, o) ∈ l) : kvGet (some (mkAttrs l)) k = o := kvGet_mkAttrs_mem l hd k o hm

/-- **Script info.** `newSSAScriptInfo (b.metadata()) = b` for the script info `b` of any metadata, when `b` is good -/
theorem script_info_of_metadata (m : Attrs) (h : InfoOK (infoOfMeta m)) :
    infoOfMeta (infoOfMeta m).metadata = infoOfMeta m := infoOfMeta_metadata m h

/-- **Styles.** `newSSAStyleFromStyle (st.style()) = st` for the style `st` of any definition, when its cells are good -/
theorem style_of_definition (d : Def) (h : StyleOK (styleOfDef d)) :
    styleOfDef (styleOfDef d).toDef = styleOfDef d := styleOfDef_toDef d h

/-- **Runs (all lines).** Whatever the line — stray braces included — the runs `ssaEvent.item` cuts it
    into (override blocks and the texts that follow them), concatenated the way the writer
    concatenates them, give the line back. -/
theorem runs_concatenate_to_line (L : Str) : flatRuns (lineRuns L) = L := flat_lineRuns L

/-- **Event → cue → event.** For an event of category `Dialogue` whose style is empty or names a
    style of the list (not `*Default`), whose set integers fit 64 bits and whose text is unchanged by
    the reader's line splitting, `newSSAEventFromItem (e.item()) = e`: all twelve fields. -/
theorem event_item_event (ids : List Str) (x : Event) (h : EventBack ids x) : eventOfItem (eventItem ids x) = x :=
  eventOfItem_eventItem ids x h

/-- a text made of lines without `\n` / `\N` that need no trimming is unchanged by the reader's line splitting -/
theorem textFix_of_lines (ls : List Str) (hne : ls ≠ []) (h : ∀ L ∈ ls, LineOK L) : TextFix (join "\\n".toList ls) := by
  unfold TextFix
  rw [textLines_join ls hne h]

/-- **Rewrite fixpoint.** For every cue list representable in the stronger sense `RepFix` (`RepRead`,
    and every cue names no style or a style of the list other than `*Default`, and its text is
    unchanged by the reader's line splitting), writing the normal form gives the same result as writing
    the cue list.  This is `rewrite_fixpoint_Statement` of `C04doc` for `Rep := RepFix`, `norm := SSA.norm`. -/
theorem rewrite_fixpoint : C04doc.rewrite_fixpoint_Statement RepFix norm :=
  fun s h => write_norm s h

/-- **write ∘ read ∘ write = write.** If `WriteToSSA` answers `out` for a `RepFix` cue list, then
    `ReadFromSSA` on the lines of `out` answers a cue list for which `WriteToSSA` answers `out` again
    (what the `ssa.write` check compares byte for byte). -/
theorem write_read_write (s : Subs) (out : Str) (h : RepFix s) (hw : write s = .ok out) :
    ∃ back, read (splitC '\n' out) = .ok back ∧ write back = .ok out :=
  ⟨norm s, SSA.write_read s out h.1 hw, by rw [write_norm s h, hw]⟩

/-- **The normal form is stable**: reading what is written for `norm s` gives `norm s` again. -/
theorem norm_stable (s : Subs) (out : Str) (h : RepFix s) (hw : write s = .ok out) :
    write (norm s) = .ok out ∧ read (splitC '\n' out) = .ok (norm s) :=
  ⟨by rw [write_norm s h, hw], SSA.write_read s out h.1 hw⟩

/-- **The writer answers.** For every `RepRead` cue list with at least one cue, `WriteToSSA` answers a
    text: the hypothesis `write s = .ok out` of the theorems above can always be met. -/
theorem writer_answers (s : Subs) (hr : RepRead s) (hne : s.items ≠ []) : ∃ out, write s = .ok out :=
  write_ok_of_rep s hr hne

/-- **What is read back is representable**: the normal form of a `RepFix` cue list is `RepRead`. -/
theorem norm_representable (s : Subs) (h : RepFix s) : RepRead (norm s) := repRead_norm s h

/-- **The normal form is a normal form**: `norm (norm s) = norm s` (at least one cue). -/
theorem norm_idem (s : Subs) (h : RepFix s) (hne : s.items ≠ []) : norm (norm s) = norm s := SSA.norm_idem s h hne

/-- a cue list with comments, five script-info keys (string with a colon, integer, `Timer`, script type),
    two styles out of order (boolean, font name with a space, float, colour, negative integer), two cues
    (style reference, effect with `;`, margin, two lines, an override block, commas and a colon in the text;
    a cue with nothing set and an end after 1 h) -/
def exDoc : Subs :=
  { items := [{ startAt := 1000000000, endAt := 2500000000, style := some "Top".toList,
                attrs := some [("SSAEffect".toList, "Scroll up;20".toList), ("SSAMarginLeft".toList, "12".toList)],
                lines := [{ voice := "Bob".toList, items := [mkRun (none, "Hello, ".toList), mkRun (some "{\\i1}".toList, "world".toList)] },
                          { voice := "Bob".toList, items := [mkRun (none, "bye: now".toList)] }] },
              { startAt := 3000000000, endAt := 3723450000000,
                lines := [{ items := [mkRun (none, "second cue".toList)] }] }],
    styles := [{ id := "Top".toList, attrs := some [("SSABold".toList, "true".toList), ("SSAFontName".toList, "Arial Black".toList),
                                                     ("SSAFontSize".toList, "f4626322717216342016".toList),
                                                     ("SSAPrimaryColour".toList, "00ffffff".toList)] },
               { id := "Base".toList, attrs := some [("SSAMarginVertical".toList, "-5".toList)] }],
    metadata := some [("Comments".toList, "made by hand\nsecond comment".toList),
                      ("SSAPlayResX".toList, "384".toList),
                      ("SSAScriptType".toList, "v4.00+".toList),
                      ("SSATimer".toList, "f4636737291354636288".toList),
                      ("Title".toList, "An example: with colon".toList)] }

theorem exDoc_styles :
    writerStyles exDoc = [styleOfDef (exDoc.styles.getD 1 default), styleOfDef (exDoc.styles.getD 0 default)] := by
  simp [writerStyles, exDoc, mergeSort, strLt]

theorem exDoc_info : InfoOK (infoOfMeta exDoc.metadata) := by decide +kernel

theorem exDoc_stylesOK : ∀ st ∈ [styleOfDef (exDoc.styles.getD 1 default), styleOfDef (exDoc.styles.getD 0 default)],
    StyleOK st ∧ StyleTrimmed st ∧ StyleNL st := by decide +kernel

theorem exDoc_events : ∀ e ∈ exDoc.items.map eventOfItem, EventCells e ∧ Trimmed e.text ∧ EventNL e := by decide +kernel

theorem exDoc_fix : ∀ e ∈ exDoc.items.map eventOfItem,
    StyleRef ([styleOfDef (exDoc.styles.getD 1 default), styleOfDef (exDoc.styles.getD 0 default)].map (·.name)) e.style
      ∧ TextFix e.text := by decide +kernel

theorem exDoc_repFix : RepFix exDoc := by
  unfold RepFix RepRead styleIds
  rw [exDoc_styles]
  exact ⟨⟨exDoc_info, exDoc_stylesOK, exDoc_events, by decide⟩, exDoc_fix⟩

example : RepRead exDoc := exDoc_repFix.1

/-- the writer does answer a text for it (so the theorems above say something about it) -/
example : (match write exDoc with | .ok _ => true | _ => false) = true := by
  obtain ⟨out, h⟩ := writer_answers exDoc exDoc_repFix.1 (cons_ne_nil _ _)
  rw [h]

/-- the predicates exclude something: a cue naming a style that is not in the list is `RepRead` but not `RepFix`
    (the reader drops the reference, so the rewritten row differs) -/
example : ¬ StyleRef ["Top".toList] "Bottom".toList := by decide_vector
example : ¬ TextFix "a \\N b".toList := by decide_vector

/-- the independent decoder reads every integer cell the writer emits (`strconv.Itoa`, any integer) as that integer -/
theorem decoder_reads_integers (v : Int) : Spec.SSA.intOf (itoa v) = some v := spec_intOf_itoa v

/-- the independent decoder reads every colour cell `&Haabbggrr` the writer emits as that 32-bit colour -/
theorem decoder_reads_colours (c : Nat) (h : c < 4294967296) : Spec.SSA.colourOf (colourString c) = some c :=
  spec_colourOf_colourString c h

/-- the independent decoder reads the boolean cells `1` / `0` the writer emits as true / false -/
theorem decoder_reads_booleans (b : Bool) : Spec.SSA.boolOf (if b then ['1'] else ['0']) = some b := spec_boolOf_cell b

/-- the independent decoder reads every `H:MM:SS.cc` the writer emits (instants below 100 h) as the
    instant in centiseconds, rounded down — the same instant `Event.norm` keeps -/
theorem decoder_reads_times (t : Int) (h : TimeOK t) : Spec.SSA.timeOf (Duration.formatSSA t) = some (t / 10000000) :=
  spec_timeOf_formatSSA t h

/-- the independent decoder splits a (trimmed) `Header: content` line of the writer into exactly this
    header and this content, as the model's reader does (`step_kv`) -/
theorem decoder_splits_key_value (hdr content : Str) (hh : HeaderOK hdr) (hc : Trimmed content) :
    Spec.SSA.keyValue (kvTrim hdr content) = some (hdr, content) := spec_keyValue_kvTrim hdr content hh hc

/-- As a statement: the independent decoder accepts what the writer produces and gives it
    the denotation the check expects: for a cue list with `Spec.SSA.denote s = some want`, the text
    `WriteToSSA` answers decodes (`Spec.SSA.decode`) to `want`, and the view of what the reader
    answers (`Spec.SSA.view (norm s)`) is `want` too.  Decided on every run by the `ssa.write`
    stream (`Driver.SSAD.writeOk`).  False without a hypothesis on `s` (`C04w2.decode_write_Statement_false`);
    `C04w2.decode_write` proves it for `RepRead s` and `Extra s want`. -/
def decode_write_Statement : Prop :=
  ∀ s out want, Spec.SSA.denote s = some want → write s = .ok out →
    Spec.SSA.decode out = some want ∧ Spec.SSA.view (norm s) = some want

end C04doc2
end Astisub
