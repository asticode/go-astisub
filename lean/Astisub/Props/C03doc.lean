import Astisub.Lemmas.TTMLDocRead

/-!
# C03 (write → read) — what the TTML reader makes of what the TTML writer emitted

Statements about the models `TTML.write` / `TTML.read` (`Model/TTML.lean`) for **all** cue lists
satisfying the decidable proviso `TTMLDoc.rep` (a concrete non-trivial value satisfying it:
`TTMLDoc.sample`, checked by `decide` next to the definition in `Lemmas/TTMLDocRead.lean`).

**Interface.**  The two models do not meet at a token list.  `TTML.write` ends at the element tree
handed to `xml.Encoder` (`List WTok`); `TTML.read` starts at the `TTMLIn` value `xml.Decoder.Decode`
filled (`TIn`: the attribute fields, and for every `<p>` the tokens of `"<p>" + stripIndent(innerxml) +
"</p>"`).  `encoding/xml` in both directions is an **assumed contract**, written down as the function
`TTMLDoc.unmarshal ix : List WTok → Option TIn` in `Lemmas/TTMLDocXml.lean` (a path-tracking decoder:
fields found by local name, last attribute wins, `begin` / `end` collected, style attributes decoded
by the reader model's own `itemOfStart`, indentation absent, the inner XML *bytes* of a paragraph an
arbitrary function `ix` of its tokens — every statement is for all `ix`).  The contract is claimed
for XML-legal character data only (`TTMLDoc.xmlCarries`; no proof needs it).
-/

namespace Astisub
namespace C03doc
open Go TTML TTMLDoc

/-- **Time.**  For every instant `0 ≤ t < 100 h` the text `WriteToTTML` prints
    (`hh:mm:ss.mmm`) is read by `TTMLInDuration.UnmarshalText` as a clock time without frames or ticks
    and resolved — whatever the document's frame rate and tick rate — to `t` truncated to the
    millisecond: the latest millisecond not after `t`. -/
theorem time_roundtrip (t : Int) (h0 : 0 ≤ t) (h1 : t < 360000000000000) (fr tr : Int) :
    timeExpr (Duration.formatTTML t) = some { d := t - t % 1000000 } ∧
    instant (Duration.formatTTML t) fr tr = some (t - t % 1000000) ∧
    t - t % 1000000 ≤ t ∧ t < t - t % 1000000 + 1000000 ∧ (t - t % 1000000) % 1000000 = 0 :=
  ⟨timeExpr_formatTTML_int64 t h0 (by omega), instant_formatTTML t h0 h1 fr tr, by omega, by omega, by omega⟩

/-- **Attributes of an element.**  The attribute list the writer puts on a `span`, `p`,
    `style` or `region` — optional `style` reference, then the `tts:*` attributes of the table in
    struct order — is decoded (as the tokenizer reports it, prefixes unresolved) into: the reference
    (`""` when absent or empty) and the fields `inKV a` of `TTMLInStyleAttributes`.  Proviso: `zIndex`,
    if set, is an integer (`attrsOk`). -/
theorem attrs_roundtrip (name : Str) (r : Option Str) (a : Attrs) (hok : attrsOk a = true) :
    itemOfStart name ((optAttr "style" r ++ outAttrs a).map rawAttr) {}
      = some { name := name, style := (normRef r).getD [], text := [], attrs := inKV a } :=
  itemOfStart_written name r a hok

/-- … and `inKV a` holds, for every row `(Field, localName)` of `attrTable`, under `Field` exactly the
    value of `TTML<Field>` in `a` (nothing when it is not set); `ZIndex` is the integer printed canonically. -/
theorem attr_field_roundtrip (a : Attrs) (p : String × String) (hp : p ∈ attrTable) :
    (p.1 ≠ "ZIndex" → TTML.get (inKV a) p.1 = kvGet a ("TTML" ++ p.1)) ∧
    (p.1 = "ZIndex" → TTML.get (inKV a) p.1 = (kvGet a "TTMLZIndex").bind fun v => (parseIntAttr v).map itoa) := by
  refine ⟨inKV_get_str a hp, fun hz => ?_⟩
  rw [inKV_get a hp, hz]
  rw [zindex_key]
  cases kvGet a "TTMLZIndex" with
  | none => rfl
  | some v => simp [inVal]

/-- **Cue body.**  Let `ls` be the lines of a cue, every run representable (`runOk`: no
    line feed in the text, `zIndex` an integer, style reference empty or in `styleIds`).  The
    tokens of the re-tokenised paragraph (`pToks ls`: `<p>`, one `<span>` per run, one `<br/>`
    between two lines, `</p>`) are decoded — `"\n"` before every `br`, `TTMLInItems.UnmarshalXML` —
    into one item per span and per `br`, and the line splitter returns the same lines with the same
    runs: same text, same style reference, attributes `styleAttributes (inKV attrs)`, no time
    stamp.  A cue without lines comes back with one empty line (`normLines`). -/
theorem body_roundtrip (styleIds : List Str) (ls : List Line)
    (h : ∀ l ∈ ls, ∀ li ∈ l.items, runOk styleIds li = true) :
    decodeItems (pToks ls) true = .ok (itemsOf ls) ∧
    linesLoop styleIds (itemsOf ls) [] [] = some (normLines ls) :=
  ⟨decodeItems_runs styleIds ls h, linesLoop_itemsOf styleIds ls h⟩

/-- what `normLines` is: for a cue with at least one line, line by line and run by run -/
theorem normLines_fields (l : Line) (ls : List Line) :
    normLines (l :: ls) = (l :: ls).map fun l => ({ voice := [], items := l.items.map fun li =>
      { text := li.text, startAt := 0, style := normRef li.style, attrs := some (styleAttributes (inKV li.attrs)) } } : Line) :=
  rfl

/-- **Definitions.**  A `style` / `region` start tag is decoded into identifier, parent
    reference and attributes; and with pairwise distinct identifiers the reader's "a later definition
    replaces an earlier one" keeps every definition: the map it builds is the written list (identifier order). -/
theorem defs_roundtrip (l : List Def) (hnd : (l.map (·.id)).Nodup) :
    (∀ d ∈ l, attrsOk d.attrs = true → mkDef (headerAttrs d) = some (inDef d)) ∧
    lastWins (((sortDefs l).map inDef).map defOfIn) = (sortDefs l).map normDef :=
  ⟨fun d _ hok => mkDef_header d hok, lastWins_written l hnd⟩

/-- **The contract applied to the writer's output.**  For a non-empty cue list whose `zIndex` values are
    integers, `WriteToTTML` succeeds and `encoding/xml` hands `ReadFromTTML` the value `tinOfSubs ix s`:
    no frame / tick rate, the language code, title, copyright, the styles and regions in identifier
    order, and per cue the raw `begin` / `end`, `region`, `style`, attributes and paragraph tokens. -/
theorem unmarshal_written (ix : List XTok → Str) (s : Subs) (hne : s.items.isEmpty = false)
    (hok : attrsOkAll s = true) :
    ∃ w, write s = some w ∧ unmarshal ix w = some (tinOfSubs ix s) :=
  unmarshal_write ix s hne hok

theorem rep_attrsOkAll (s : Subs) (h : rep s = true) : s.items.isEmpty = false ∧ attrsOkAll s = true := by
  have h := rep_iff.mp h
  refine ⟨h.nonempty, ?_⟩
  simp only [attrsOkAll, Bool.and_eq_true, List.all_eq_true]
  exact ⟨⟨fun d hd => (defOk_iff.mp (h.styles d hd)).attrs, fun d hd => (defOk_iff.mp (h.regions d hd)).attrs⟩,
    fun it hi => (cueOk_iff.mp (h.cues it hi)).attrs⟩

/-- **Document: write → read.**  For every representable cue list `s` (`rep`: at least one
    cue, distinct style / region identifiers, references empty or defined, instants in `[0, 100 h)`,
    `zIndex` integers, no line feed in a run's text) whose character data XML can carry, `WriteToTTML`
    succeeds and `ReadFromTTML` of what `encoding/xml` delivers for the written tree — whatever the
    bytes of the paragraphs' inner XML are (`ix`) — returns `norm s`: the same cues (instants truncated
    to the millisecond, lines and runs kept, attributes through `styleAttributes`), the styles and
    regions in identifier order, title, copyright and language. -/
theorem write_read (ix : List XTok → Str) (s : Subs) (h : rep s = true) (_hlegal : xmlCarries s = true) :
    ∃ w, write s = some w ∧ TTML.read (unmarshal ix w) = .ok (norm s) := by
  obtain ⟨hne, hok⟩ := rep_attrsOkAll s h
  obtain ⟨w, hw, hu⟩ := unmarshal_write ix s hne hok
  exact ⟨w, hw, by rw [hu]; exact read_tinOfSubs ix s h⟩

/-- the number of cues, and per cue the number of lines and of runs per line, survive (cues without lines get one empty line) -/
theorem norm_shape (s : Subs) :
    (norm s).items.length = s.items.length ∧
    ∀ it ∈ s.items, it.lines ≠ [] →
      (normItem it).lines.map (fun l => l.items.map (·.text)) = it.lines.map (fun l => l.items.map (·.text)) := by
  refine ⟨by simp [norm], fun it _ hne => ?_⟩
  cases hl : it.lines with
  | nil => exact absurd hl hne
  | cons l ls =>
    simp [normItem, hl, normLines, normLine, normLItem, Function.comp_def]

/-- the written language comes back when it is one of the five the library knows -/
theorem language_roundtrip : ∀ p ∈ languages,
    languageOf (langIn (some [("Language".toList, p.2)])) = some p.2 := by decide +kernel

/-- the canonical attribute list the reader returns carries under `TTML<Field>` exactly the decoded field (a statement
    about `TTMLInStyleAttributes.styleAttributes()` alone); proved as `TTMLR.styleAttributes_field` in
    `Lemmas/TTMLRead2SAttr.lean` and restated as `C03read.styleAttributes_field` -/
def styleAttributes_field_Statement : Prop :=
  ∀ (kv : KV) (p : String × String), p ∈ attrTable →
    kvGet (some (styleAttributes kv)) ("TTML" ++ p.1) = TTML.get kv p.1

end C03doc
end Astisub
