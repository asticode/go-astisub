import Astisub.Lemmas.STL2Tti
import Astisub.Driver.STL
import Astisub.Lemmas.EvalLit

/-!
# C05 (documents) — EBU STL: block and whole-file round trips of the model, for all inputs

`Props/C05.lean` proves the component laws (tables, text, fields, timecodes).  This file composes them into
statements about whole blocks and whole files of `Model/STL.lean`:

* `tti_roundtrip` — the 128 bytes the writer emits for a cue are parsed back into that cue;
* `gsi_roundtrip` — the 1024 bytes the writer emits for the metadata are parsed back into that metadata;
* `stl_roundtrip` (end to end), `file_roundtrip`, `write_read`, `write_read_meta` — the writer answers, and
  reading the written file (display standard 0) returns the metadata and the cues, in a normal form that is
  spelled out (`gsiBack`, `ttiCue`);
* what the normal form does to the values: `frame_floor`, `frame_idempotent`, `times_exact`, `tti_cue_exact`,
  `stl_roundtrip_times`, `gsi_roundtrip_exact`, `vp_open`, `row_line_trimmed`;
* `tti_roundtrip_multirun_Statement` (lines made of several runs) is stated here and proved in `Props/C05doc2.lean`.
-/

namespace Astisub
namespace C05
open Go STL

/-- **TTI block round trip.**  For every cue whose lines are repertoire rows (one run per line, any of the
    three style flags, text not blank) and whose encoded text fits the 112-byte text field, whatever the
    times, justification, vertical position and subtitle number: the open-subtitling reader (display standard
    0, same frame rate as the writer, fresh decoder state) parses the 128 bytes the writer emits into exactly
    one cue — `ttiCue`:
    the two times are the frame instants of the written times minus the reader's programme start,
    the attributes are those of the written justification code and vertical position byte with the number of
    rows, and the lines are the rows' lines (text trimmed, style attributes set iff switched on);
    no diacritic is left pending for the next block. -/
theorem tti_roundtrip (R : GSI) (G : WGSI) (off : Int) (idx : Nat) (c : RCue)
    (hfr : R.m.framerate = G.m.framerate) (hdsc : R.m.dsc = [0x30]) (hok : c.ok) :
    ttiItem R off none (ttiBytes G idx c.toW) = some (some (ttiCue R G off c.toW c.rows), none) :=
  ttiItem_ttiBytes R G off idx c hfr hdsc hok

/-- the cue read back, field by field (this is the definition of `ttiCue`, restated so that the statement
    above can be read without opening the lemma files) -/
theorem ttiCue_fields (R : GSI) (G : WGSI) (off : Int) (c : RCue) :
    ttiCue R G off c.toW c.rows =
      { startAt := frameInstant G.m.framerate (c.startAt + G.m.tcp) - off,
        endAt := frameInstant G.m.framerate (c.endAt + G.m.tcp) - off,
        attrs := itemAttrs (justCode c.just) (vpByte (c.vp.getD 20) G.m.dsc) (R.m.maxRows.getD 0) (max 1 c.rows.length),
        lines := c.rows.map fun r =>
          { items := [{ text := trimSpace (str r.text), attrs := some (mkAttrs (stlAttrs r.sty)) }] } } := rfl

/-- the text of a row that has no blank at either end comes back unchanged -/
theorem row_line_trimmed (r : RRun) (h : trimSpace (str r.text) = str r.text) :
    r.line = { items := [{ text := str r.text, attrs := some (mkAttrs (stlAttrs r.sty)) }] } := by
  unfold RRun.line; rw [h]

/-- **frame floor.**  The instant read back from a written timecode is the start of the frame the written
    instant lies in: not later, and at most `10⁹ / fr` ns earlier (both frame rates, every instant below 256 h) -/
theorem frame_floor (T : Int) (fr : Nat) (hfr : fr = 25 ∨ fr = 30) (h0 : 0 ≤ T) (h1 : T < 921600000000000) :
    frameInstant (fr : Int) T ≤ T ∧ T - frameInstant (fr : Int) T ≤ 1000000000 / (fr : Int) :=
  frameInstant_floor T fr hfr h0 h1

/-- **reading is idempotent on timecodes**: an instant that was read back is written and read back as itself
    (this is `C05.rewrite_timecode` seen from the reader's side) -/
theorem frame_idempotent (T : Int) (fr : Nat) (hfr : fr = 25 ∨ fr = 30) (h0 : 0 ≤ T) (h1 : T < 86400000000000) :
    FrameAligned (fr : Int) (frameInstant (fr : Int) T) :=
  frameInstant_idem T fr hfr h0 h1

/-- **exact times.**  When the written instants (cue time + programme start) are frame-aligned and the reader
    subtracts the programme start the writer added, the cue times come back exactly -/
theorem times_exact (R : GSI) (G : WGSI) (c : RCue)
    (hs : FrameAligned G.m.framerate (c.startAt + G.m.tcp)) (he : FrameAligned G.m.framerate (c.endAt + G.m.tcp)) :
    (ttiCue R G G.m.tcp c.toW c.rows).startAt = c.startAt ∧ (ttiCue R G G.m.tcp c.toW c.rows).endAt = c.endAt := by
  unfold FrameAligned at hs he
  unfold ttiCue
  simp only [RCue.toW, hs, he]
  omega

/-- under display standard 0 a vertical position within a byte is written as it is -/
theorem vp_open (vp : Int) (h0 : 0 ≤ vp) (h1 : vp < 256) : vpByte vp [0x30] = vp.toNat := by
  rw [vpByte_open]; omega

/-- **the cue comes back.**  Display standard 0, justification 1–4, vertical position within a byte, frame-aligned
    times, reader subtracting the programme start the writer added: the cue read back has exactly the written
    times, the written vertical position, a justification code that denotes the written justification, and the
    rows' lines -/
theorem tti_cue_exact (R : GSI) (G : WGSI) (c : RCue) (j vp : Int) (hdsc : G.m.dsc = [0x30])
    (hj : c.just = some j) (hj1 : 1 ≤ j) (hj4 : j ≤ 4) (hvp : c.vp = some vp) (hv0 : 0 ≤ vp) (hv1 : vp < 256)
    (hs : FrameAligned G.m.framerate (c.startAt + G.m.tcp)) (he : FrameAligned G.m.framerate (c.endAt + G.m.tcp)) :
    ttiCue R G G.m.tcp c.toW c.rows =
      { startAt := c.startAt, endAt := c.endAt,
        attrs := itemAttrs (justCode (some j)) vp.toNat (R.m.maxRows.getD 0) (max 1 c.rows.length),
        lines := c.rows.map RRun.line } ∧
    (justOf (justCode (some j)) : Int) = j := by
  constructor
  · obtain ⟨h1, h2⟩ := times_exact R G c hs he
    unfold ttiCue at h1 h2 ⊢
    simp only at h1 h2
    simp only [h1, h2]
    simp only [RCue.toW, hj, hvp, Option.getD_some, hdsc, vp_open vp hv0 hv1]
  · have : j = 1 ∨ j = 2 ∨ j = 3 ∨ j = 4 := by omega
    rcases this with rfl | rfl | rfl | rfl <;> decide

/-- **GSI block round trip.**  For every `gsiBlock` value whose fields the format can carry (`GsiOK`: frame rate
    25 / 30, text values that fit and start and end with a graphic ASCII character, existing dates, numbers
    within 0–99, timecodes below 100 h), the reader parses the 1024 bytes the writer emits into `gsiBack g`:
    character table 12336, the language code, and the metadata as given — except that the language is the
    name the library knows for the code, unset options show the defaults that were written, and the programme
    start is the instant of its frame. -/
theorem gsi_roundtrip (g : WGSI) (h : GsiOK g) : parseGSI (gsiBytes g) = some (gsiBack g) :=
  parseGSI_gsiBytes g h

/-- the value read back, field by field (definition of `gsiBack`) -/
theorem gsiBack_fields (g : WGSI) :
    gsiBack g =
      { cct := 12336, langCode := g.langCode, tcpFull := frameInstant g.m.framerate g.m.tcp,
        m := { g.m with language := (languageOf g.langCode).getD [],
                        creation := some (g.m.creation.getD zeroDate), revisionDate := some (g.m.revisionDate.getD zeroDate),
                        maxChars := some (g.m.maxChars.getD 0), maxRows := some (g.m.maxRows.getD 0),
                        tcp := frameInstant g.m.framerate g.m.tcp } } := rfl

/-- **GSI block round trip, exact.**  If moreover all optional values are set, the language is the one the
    language code stands for and the programme start is frame-aligned, the metadata comes back identical:
    `parseGSI (gsiBytes g) = g` -/
theorem gsi_roundtrip_exact (g : WGSI) (h : GsiOK g)
    (hc : g.m.creation.isSome) (hr : g.m.revisionDate.isSome) (hmc : g.m.maxChars.isSome) (hmr : g.m.maxRows.isSome)
    (hl : g.m.language = (languageOf g.langCode).getD []) (ht : FrameAligned g.m.framerate g.m.tcp) :
    parseGSI (gsiBytes g) = some { m := g.m, cct := 12336, langCode := g.langCode, tcpFull := g.m.tcp } := by
  rw [gsi_roundtrip g h]
  unfold gsiBack
  unfold FrameAligned at ht
  obtain ⟨m, lc, n, tcf⟩ := g
  obtain ⟨cd, hcd⟩ := Option.isSome_iff_exists.mp hc
  obtain ⟨rd, hrd⟩ := Option.isSome_iff_exists.mp hr
  obtain ⟨mc, hmcd⟩ := Option.isSome_iff_exists.mp hmc
  obtain ⟨mr, hmrd⟩ := Option.isSome_iff_exists.mp hmr
  simp only at hcd hrd hmcd hmrd hl ht ⊢
  cases m
  simp_all

/-- **File round trip.**  For every list of well-formed cues (`RCue.ok`) and metadata for which the writer's
    GSI block is well-formed and says "open subtitling", reading the written bytes — with or without
    `IgnoreTimecodeStartOfProgramme` — succeeds and returns the normal form: the metadata `gsiBack`
    (programme start zeroed on request) and, cue by cue, `ttiCue` with the programme start subtracted. -/
theorem file_roundtrip (ig : Bool) (now : Date) (md : Option Meta) (cs : List RCue)
    (hG : GsiOK (newGSI now md (cs.map RCue.toW))) (hdsc : (newGSI now md (cs.map RCue.toW)).m.dsc = [0x30])
    (hok : ∀ c ∈ cs, c.ok) :
    STL.read ig (writeBody now md (cs.map RCue.toW))
      = .ok (readMeta ig (gsiBack (newGSI now md (cs.map RCue.toW))),
             cs.map fun c => ttiCue (gsiBack (newGSI now md (cs.map RCue.toW))) (newGSI now md (cs.map RCue.toW))
               (readMeta ig (gsiBack (newGSI now md (cs.map RCue.toW)))).tcp c.toW c.rows) :=
  read_writeBody ig now md cs hG hdsc hok

/-- **write → read.**  The same through `WriteToSTL`: whenever the writer model produces a file `b` for such
    input, `ReadFromSTL` on `b` returns the normal form -/
theorem write_read (ig : Bool) (now : Date) (md : Option Meta) (cs : List RCue) (b : Bytes)
    (hG : GsiOK (newGSI now md (cs.map RCue.toW))) (hdsc : (newGSI now md (cs.map RCue.toW)).m.dsc = [0x30])
    (hok : ∀ c ∈ cs, c.ok) (hw : write now md (cs.map RCue.toW) = .ok b) :
    STL.read ig b
      = .ok (readMeta ig (gsiBack (newGSI now md (cs.map RCue.toW))),
             cs.map fun c => ttiCue (gsiBack (newGSI now md (cs.map RCue.toW))) (newGSI now md (cs.map RCue.toW))
               (readMeta ig (gsiBack (newGSI now md (cs.map RCue.toW)))).tcp c.toW c.rows) := by
  rw [write_body_of_ok hw]
  exact file_roundtrip ig now md cs hG hdsc hok

/-- **write → read, from the caller's metadata.**  The hypotheses on the GSI block follow from a decidable
    condition on the metadata passed to the writer (`MetaOK`: display standard 0, frame rate 25 / 30, values
    that fit their fields, …): the writer's defaults keep it well-formed -/
theorem write_read_meta (ig : Bool) (now : Date) (m : Meta) (cs : List RCue) (b : Bytes)
    (hm : MetaOK now m (firstStart (cs.map RCue.toW))) (hok : ∀ c ∈ cs, c.ok)
    (hw : write now (some m) (cs.map RCue.toW) = .ok b) :
    STL.read ig b
      = .ok (readMeta ig (gsiBack (newGSI now (some m) (cs.map RCue.toW))),
             cs.map fun c => ttiCue (gsiBack (newGSI now (some m) (cs.map RCue.toW))) (newGSI now (some m) (cs.map RCue.toW))
               (readMeta ig (gsiBack (newGSI now (some m) (cs.map RCue.toW)))).tcp c.toW c.rows) :=
  write_read ig now (some m) cs b (newGSI_ok now m _ hm).1 (newGSI_ok now m _ hm).2 hok hw

/-- **EBU STL round trip, display standard 0 (end to end).**  For every non-empty list of well-formed cues
    (`RCue.ok`) with non-negative times and every well-formed metadata (`MetaOK`, programme start ≥ 0): the
    writer model produces a file, and the reader model — with or without `IgnoreTimecodeStartOfProgramme` —
    reads that file back into the normal form: metadata `gsiBack`, cues `ttiCue`. -/
theorem stl_roundtrip (ig : Bool) (now : Date) (m : Meta) (cs : List RCue) (hne : cs ≠ [])
    (hm : MetaOK now m (firstStart (cs.map RCue.toW))) (htcp : 0 ≤ m.tcp)
    (hok : ∀ c ∈ cs, c.ok) (ht : ∀ c ∈ cs, TimesOK m.tcp c) :
    ∃ b, write now (some m) (cs.map RCue.toW) = .ok b ∧
      STL.read ig b
        = .ok (readMeta ig (gsiBack (newGSI now (some m) (cs.map RCue.toW))),
               cs.map fun c => ttiCue (gsiBack (newGSI now (some m) (cs.map RCue.toW))) (newGSI now (some m) (cs.map RCue.toW))
                 (readMeta ig (gsiBack (newGSI now (some m) (cs.map RCue.toW)))).tcp c.toW c.rows) :=
  ⟨_, write_ok now m cs hne htcp hok ht, write_read_meta ig now m cs _ hm hok (write_ok now m cs hne htcp hok ht)⟩

/-- **… and the times are exact when they are frame-aligned.**  If the programme start and every cue time
    (plus programme start) are instants the format carries exactly, the cues read back (programme start not
    ignored) have exactly the times that were written -/
theorem stl_roundtrip_times (now : Date) (m : Meta) (cs : List RCue) (b : Bytes)
    (hm : MetaOK now m (firstStart (cs.map RCue.toW))) (hok : ∀ c ∈ cs, c.ok)
    (hw : write now (some m) (cs.map RCue.toW) = .ok b)
    (ha : FrameAligned m.framerate m.tcp)
    (hc : ∀ c ∈ cs, FrameAligned m.framerate (c.startAt + m.tcp) ∧ FrameAligned m.framerate (c.endAt + m.tcp)) :
    ∃ md items, STL.read false b = .ok (md, items) ∧
      items.map (fun it => (it.startAt, it.endAt)) = cs.map fun c => (c.startAt, c.endAt) := by
  refine ⟨_, _, write_read_meta false now m cs b hm hok hw, ?_⟩
  have hfr := newGSI_framerate now m (cs.map RCue.toW) hm.1
  have htcp : (newGSI now (some m) (cs.map RCue.toW)).m.tcp = m.tcp := rfl
  rw [List.map_map]
  apply List.map_congr_left
  intro c hcm
  obtain ⟨h1, h2⟩ := hc c hcm
  unfold FrameAligned at ha h1 h2
  simp only [Function.comp, ttiCue, readMeta, gsiBack, Bool.false_eq_true, if_false, hfr, htcp, RCue.toW, ha, h1, h2]
  congr 1 <;> omega

/-- the number of cues read is the number of cues written -/
theorem write_read_count (ig : Bool) (now : Date) (m : Meta) (cs : List RCue) (b : Bytes)
    (hm : MetaOK now m (firstStart (cs.map RCue.toW))) (hok : ∀ c ∈ cs, c.ok)
    (hw : write now (some m) (cs.map RCue.toW) = .ok b) :
    ∃ md items, STL.read ig b = .ok (md, items) ∧ items.length = cs.length ∧
      items.map (·.lines) = cs.map fun c => c.rows.map RRun.line :=
  ⟨_, _, write_read_meta ig now m cs b hm hok hw, by simp, by simp [ttiCue]⟩

/-- **Statement; proved as `tti_roundtrip_multirun` in `Props/C05doc2.lean`.**  The general form of `tti_roundtrip` for lines made of *several* runs (the
    writer separates runs by a blank; the reader starts a new run at every style code, so adjacent runs of
    the same style come back as one): the block is parsed into one cue whose lines, with adjacent runs of equal
    effective style merged (`Driver.STLD.mergeRuns`, the view the `stl.write` stream compares on every run in
    its clause "text read back"), are the written lines under the same view.
    `tti_roundtrip` is the case of one run per line, where no merging is involved. -/
def tti_roundtrip_multirun_Statement : Prop :=
  ∀ (R : GSI) (G : WGSI) (off : Int) (idx : Nat) (c : WCue),
    R.m.framerate = G.m.framerate → R.m.dsc = [0x30] →
    (∀ l ∈ c.lines, l ≠ [] ∧ ∀ r ∈ l, RepText r.text ∧ trimSpace (str r.text) = str r.text ∧ r.text ≠ [] ∧
        ¬ Go.contains "  ".toList (str r.text) = true) →
    (encodeText (cueString c)).length ≤ 112 →
    ∃ it : CItem, ttiItem R off none (ttiBytes G idx c) = some (some it, none) ∧
      it.lines.map (fun l => Driver.STLD.mergeRuns (l.items.map fun li => (li.text, Driver.STLD.effSty li)))
        = c.lines.map (fun l => Driver.STLD.mergeRuns (l.map fun r => (str r.text, (r.italics, r.underline, r.boxing))))

namespace Example

/-- "Café" in italics, then "½ Ω" plain, on two rows -/
def row1 : RRun :=
  { units := [charUnit (0x43, [0x43]), charUnit (0x61, [0x61]), charUnit (0x66, [0x66]), accentUnit 0xC2 0x65], italics := true }
def row2 : RRun := { units := [charUnit (0xBD, [0xBD]), charUnit (0x20, [0x20]), charUnit (0xE0, [0x3A9])] }

def cue1 : RCue := { startAt := 1000000000, endAt := 2040000000, just := some 3, vp := some 20, rows := [row1, row2] }
def cue2 : RCue := { startAt := 3000000000, endAt := 4000000000, rows := [row2] }

def meta1 : Meta :=
  { framerate := 25, dsc := [0x30], title := lit "A title", country := lit "FRA", language := lit "french",
    revisionNumber := 3, tcp := 36000000000000 }

def day : Date := { yy := 26, mm := 9, dd := 27 }

def gsi1 : WGSI := newGSI day (some meta1) [cue1.toW, cue2.toW]

example : row1.text = [0x43, 0x61, 0x66, 0xE9] := by decide +kernel
example : row1.ok := by decide +kernel
example : row2.ok := by decide +kernel
theorem cues_ok : ∀ c ∈ [cue1, cue2], c.ok := by
  intro c hc
  simp only [List.mem_cons, List.not_mem_nil, or_false] at hc
  rcases hc with rfl | rfl <;> exact RCue.ok_of_bytes _ (by decide +kernel) (by decide +kernel)

example : cue1.ok := cues_ok _ (by simp)
example : cue2.ok := cues_ok _ (by simp)
example : MetaOK day meta1 (firstStart [cue1.toW, cue2.toW]) := by decide +kernel
example : GsiOK gsi1 := by decide +kernel
example : gsi1.m.dsc = [0x30] := by decide +kernel
example : FrameAligned 25 (cue1.endAt + meta1.tcp) := by decide +kernel
example : dateOK day = true := by decide
example : fieldOK 32 (lit "A title") = true := by unfold lit; decide_vector
/-- the writer model does produce a file for this input, so `write_read_meta` applies to it -/
example : writeUnmodelled (some meta1) [cue1.toW, cue2.toW] = false :=
  (write_answers day meta1 _ (by simp) (by decide) (write_dom meta1 [cue1, cue2] cues_ok (by decide))).1
example : ∀ c ∈ [cue1, cue2], TimesOK meta1.tcp c := by decide
example : FrameAligned meta1.framerate meta1.tcp := by decide +kernel

end Example

end C05
end Astisub
