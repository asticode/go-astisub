import Astisub.Lemmas.F53Ops
import Astisub.Lemmas.F53Div
import Astisub.Lemmas.C16FRnd
import Astisub.Lemmas.OvfBasic
import Astisub.Props.C16
import Astisub.Lemmas.EvalLit

/-!
# C16 (float) — the integer model of the timestamp writers is what binary64 arithmetic computes

`Model/Duration.lean` models the fraction field of `formatDuration` and the hour / minute / second
fields of the STL timecode writers by integer division, while the Go code computes them through
`float64`:

* `formatDuration` (`subtitles.go`): `math.Floor(float64(n) / float64(time.Millisecond) /
  float64(math.Pow(10, 3-float64(digits))))` with `n = i % time.Second`;
* `formatDurationSTL`, `formatDurationSTLBytes` (`stl.go`): `math.Floor(d.Hours())`,
  `math.Floor(d.Minutes())`, `math.Floor(d.Seconds())` and the test `d.Hours() < 10`, where
  `Duration.Hours()` is `float64(d / Hour) + float64(d % Hour) / (60*60*1e9)` (`time/time.go`).

This file evaluates those expression trees with the executable binary64 model `Go/Float53.lean`
— proved correctly rounded (round-to-nearest-even, 53 bits) in `Lemmas/F53Round`, `F53Ops`, `F53Div` (`round_val`,
`ofInt_val`, `div_val`, `add_val`) — and proves
that the result is the integer formula of the model, for **all** inputs in the stated ranges.
The integer model is thereby derived from IEEE-754 arithmetic instead of being assumed; what
remains assumed is that the hardware's float64 is the executable model (stream `lib.f53`, bit for
bit) and that `FormatFloat(v, 'f', 0, 64)` / `int(v)` of an integer-valued double `v` give that
integer.

Everything else in the timestamp codec is integer arithmetic in the Go code as well (hours,
minutes, seconds of `formatDuration`; `parseDuration` except the table look-up `math.Pow10`,
see `reader_scale_exact`; STL frames since the `fix:` commit D16; TTML offsets / frames / ticks
use `math/big`).
-/

/-!
## The fraction field of `formatDuration`, evaluated in binary64

`subtitles.go`:

    n = i % time.Second
    milliseconds = math.Floor(float64(n) / float64(time.Millisecond)
                                / float64(math.Pow(10, 3-float64(numberOfMillisecondDigits))))
    s += StrPad(strconv.FormatFloat(milliseconds, 'f', 0, 64), '0', numberOfMillisecondDigits, PadLeft)

`fracF n digits` evaluates exactly this expression tree with the executable binary64 model
`Go/Float53.lean`. The constant
`float64(time.Millisecond)` is the double `1e6`; `math.Pow(10, 3-float64(d))` is the double
`10^(3-d)` (for `d = 3` and `d = 2`, the only values the package passes, Go's `pow` returns through
its special cases `y == 0 → 1` and `y == 1 → x`, with `3 - float64(d)` exact; `100` and `1000`
are exactly representable as well). `FormatFloat(v, 'f', 0, 64)` of the integer-valued double `v`
prints the integer `v` in decimal.
-/

namespace Astisub
namespace C16F
open Go F53

/-- the Go expression `math.Floor(float64(n) / float64(time.Millisecond) / float64(math.Pow(10, 3-digits)))`
    evaluated with the binary64 model (two correctly rounded divisions, then floor), for
    `digits ≤ 3` (the package passes 2 and 3) -/
def fracF (n : Int) (digits : Nat) : Int :=
  Dy.floor (Dy.div (Dy.div (Dy.ofInt n) (Dy.ofInt 1000000)) (Dy.ofInt (10 ^ (3 - digits))))

theorem pow_digits_range (digits : Nat) :
    (1 : ℤ) ≤ (10 : ℤ) ^ (3 - digits) ∧ (10 : ℤ) ^ (3 - digits) ≤ 1000 := by
  have h3 : 3 - digits ≤ 3 := Nat.sub_le _ _
  constructor
  · exact one_le_pow₀ (by norm_num)
  · have : (10 : ℤ) ^ (3 - digits) ≤ 10 ^ 3 := pow_le_pow_right₀ (by norm_num) h3
    omega

theorem fracF_val (n : Int) (digits : Nat) (hn : |n| ≤ 2 ^ 53) :
    fracF n digits
      = ⌊rnd (rnd ((n : ℚ) / 1000000) / (((10 : ℤ) ^ (3 - digits) : ℤ) : ℚ))⌋ := by
  unfold fracF
  have hk : |((10 : ℤ) ^ (3 - digits))| ≤ 2 ^ 53 := by
    have := pow_digits_range digits
    rw [abs_of_nonneg (by omega)]
    omega
  rw [floor_val, div_val, div_val, ofInt_val, ofInt_val, ofInt_val,
    rnd_int n hn, rnd_int 1000000 (by decide), rnd_int _ hk]
  norm_num

/-- **The float fraction is the integer quotient**, for every remainder `0 ≤ n < 10⁹` and every
    digit count (`10^(3-digits)` with natural subtraction is 1, 10, 100 or 1000). -/
theorem fracF_eq (n : Int) (digits : Nat) (hn0 : 0 ≤ n) (hn : n < 1000000000) :
    fracF n digits = n / (1000000 * 10 ^ (3 - digits)) := by
  obtain ⟨hk1, hk⟩ := pow_digits_range digits
  rw [fracF_val n digits (by rw [abs_of_nonneg hn0]; omega)]
  exact floor_two_div n _ hn0 hn hk1 hk

theorem fracF_model (t : Int) (digits : Nat) (h0 : 0 ≤ t) :
    fracF (Int.tmod t 1000000000) digits
      = ((t.toNat % 1000000000 / 1000000 / 10 ^ (3 - digits) : Nat) : Int) := by
  obtain ⟨n, rfl⟩ : ∃ n : Nat, t = (n : Int) := ⟨t.toNat, by omega⟩
  have hm : Int.tmod (n : Int) 1000000000 = ((n % 1000000000 : Nat) : Int) := by
    rw [Int.tmod_eq_emod_of_nonneg (by omega)]; rfl
  rw [hm, fracF_eq _ _ (by omega) (by omega), Int.toNat_natCast, Nat.div_div_eq_div_mul]
  push_cast; rfl

/-- `formatDuration(i, sep, digits)` with the fraction computed in binary64 (`fracF`) and printed
    as `FormatFloat(…, 'f', 0, 64)` prints an integer-valued double; hours, minutes and seconds
    are integer operations in the Go code as well. -/
def formatF (t : Int) (sep : Char) (digits : Nat) : Str :=
  let h := Int.tdiv t 3600000000000
  let m := Int.tdiv (Int.tmod t 3600000000000) 60000000000
  let s := Int.tdiv (Int.tmod t 60000000000) 1000000000
  let n := Int.tmod t 1000000000
  Duration.pad2 h.toNat ++ ':' :: Duration.pad2 m.toNat ++ ':' :: Duration.pad2 s.toNat ++ sep ::
    padLeft0 digits (itoa (fracF n digits))

/-- **The integer model of `formatDuration` is the float evaluation**: for every instant `t ≥ 0`,
    separator and digit count, `Duration.format` prints what the binary64 expression gives. -/
theorem format_eq_formatF (t : Int) (sep : Char) (digits : Nat) (h0 : 0 ≤ t) :
    Duration.format t sep digits = formatF t sep digits := by
  unfold formatF Duration.format itoa
  simp only []
  rw [fracF_model t digits h0, Ovf.tdiv_toNat h0 (by decide), Ovf.tdiv_toNat (Int.tmod_nonneg _ h0) (by decide),
    Ovf.tdiv_toNat (Int.tmod_nonneg _ h0) (by decide), Ovf.tmod_toNat h0 (by decide),
    Ovf.tmod_toNat h0 (by decide), if_neg (Int.not_lt.mpr (Int.natCast_nonneg _)), Int.toNat_natCast]
  rfl

/-- `int(math.Pow10(k))` of `parseDuration` (`milliseconds *= int(math.Pow10(digits - len(s)))`):
    `math.Pow10` is a table of the doubles nearest to `10^k`, `int(…)` truncates -/
def pow10F (k : Nat) : Int := Dy.trunc (Dy.ofInt (10 ^ k))

/-!
## The hour / minute / second fields of the STL timecode writers, in binary64

`stl.go` (`formatDurationSTL`, `formatDurationSTLBytes`) obtains the three fields through
`time.Duration.Hours()`, `.Minutes()`, `.Seconds()`, which are float64 expressions
(`time/time.go`):

    func (d Duration) Hours() float64 { hour := d / Hour; nsec := d % Hour
                                        return float64(hour) + float64(nsec)/(60*60*1e9) }

    if d.Hours() < 10 { o += "0" }
    var delta = int(math.Floor(d.Hours())); o += strconv.Itoa(delta); d -= time.Duration(delta) * time.Hour
    … the same with Minutes(), Seconds() …
    var frames = int(int(d.Nanoseconds()) * framerate / 1e9)        // integer arithmetic

`Model/Duration.lean` (`formatSTL`, `formatSTLBytes`) models the fields by integer division.
`unitsF U d` evaluates `float64(d / U) + float64(d % U) / float64(U)` with the binary64 model;
the theorems show its floor is `d / U` and its comparison with 10 is `d / U < 10` as long as the
quotient is below 4096 — and that 4096 is sharp (`stl_hours_sharp`).
-/

/-- `float64(d / U) + float64(d % U) / float64(U)`: `Duration.Hours()` for `U = 3.6·10¹²`,
    `.Minutes()` for `U = 6·10¹⁰`, `.Seconds()` for `U = 10⁹` (the constants `60*60*1e9`, `60*1e9`,
    `1e9` are exact doubles) -/
def unitsF (U d : Int) : Dy :=
  Dy.add (Dy.ofInt (Int.tdiv d U)) (Dy.div (Dy.ofInt (Int.tmod d U)) (Dy.ofInt U))

def hoursF (d : Int) : Dy := unitsF 3600000000000 d
def minutesF (d : Int) : Dy := unitsF 60000000000 d
def secondsF (d : Int) : Dy := unitsF 1000000000 d

/-- the value of `unitsF` for a non-negative duration lies in `[d / U, d / U + 1)`: both conversions
    are exact, the division and the addition are each rounded once (`add_div_range`) -/
theorem unitsF_range (U d : Int) (hU0 : 0 < U) (hU : U ≤ 3600000000000) (hd0 : 0 ≤ d)
    (hd : d < 4096 * U) :
    ((d / U : ℤ) : ℚ) ≤ (unitsF U d).val ∧ (unitsF U d).val < ((d / U : ℤ) : ℚ) + 1 := by
  have hq0 : 0 ≤ d / U := Int.ediv_nonneg hd0 (le_of_lt hU0)
  have hq : d / U < 4096 := Int.ediv_lt_of_lt_mul hU0 hd
  have hr0 : 0 ≤ d % U := Int.emod_nonneg d (ne_of_gt hU0)
  have hr : d % U < U := Int.emod_lt_of_pos d hU0
  unfold unitsF
  rw [Int.tdiv_eq_ediv_of_nonneg hd0, Int.tmod_eq_emod_of_nonneg hd0, add_val, div_val, ofInt_val,
    ofInt_val, ofInt_val, rnd_int (d / U) (by rw [abs_of_nonneg hq0]; omega),
    rnd_int (d % U) (by rw [abs_of_nonneg hr0]; omega), rnd_int U (by rw [abs_of_pos hU0]; omega)]
  exact add_div_range (d / U) (d % U) U hq0 hq hr0 hr hU

/-- **`math.Floor(d.Hours())` etc. is the integer quotient** while that quotient is below 4096. -/
theorem unitsF_floor (U d : Int) (hU0 : 0 < U) (hU : U ≤ 3600000000000) (hd0 : 0 ≤ d)
    (hd : d < 4096 * U) : (unitsF U d).floor = d / U := by
  rw [floor_val, Int.floor_eq_iff]
  exact unitsF_range U d hU0 hU hd0 hd

/-- **`d.Hours() < 10` etc. is the integer comparison** (the leading-zero test of the text writer). -/
theorem unitsF_lt10 (U d : Int) (hU0 : 0 < U) (hU : U ≤ 3600000000000) (hd0 : 0 ≤ d)
    (hd : d < 4096 * U) : Dy.lt (unitsF U d) (Dy.ofInt 10) = decide (d / U < 10) := by
  obtain ⟨h1, h2⟩ := unitsF_range U d hU0 hU hd0 hd
  rw [Bool.eq_iff_iff, lt_val, ofInt_val, rnd_int 10 (by decide), decide_eq_true_eq]
  exact lt_intCast_iff h1 h2

/-- `if x < 10 { o += "0" }; o += strconv.Itoa(int(math.Floor(x)))` -/
def pad2F (x : Dy) : Str := (if Dy.lt x (Dy.ofInt 10) then ['0'] else []) ++ itoa x.floor

/-- integer two-digit field (frames): `if v < 10 { o += "0" }; o += strconv.Itoa(v)` -/
def pad2I (v : Int) : Str := (if v < 10 then ['0'] else []) ++ itoa v

/-- `formatDurationSTL(d, framerate)` with the three float fields evaluated in binary64 and the
    duration reduced step by step as in the Go code -/
def formatSTLF (d : Int) (fr : Nat) : Str :=
  let h := (hoursF d).floor
  let d1 := d - h * 3600000000000
  let m := (minutesF d1).floor
  let d2 := d1 - m * 60000000000
  let s := (secondsF d2).floor
  let d3 := d2 - s * 1000000000
  let f := Int.tdiv (d3 * (fr : Int)) 1000000000
  pad2F (hoursF d) ++ pad2F (minutesF d1) ++ pad2F (secondsF d2) ++ pad2I f

/-- `formatDurationSTLBytes(d, framerate)` likewise; `byte(uint8(v))` keeps `v mod 256` -/
def formatSTLBytesF (d : Int) (fr : Nat) : List Nat :=
  let h := (hoursF d).floor
  let d1 := d - h * 3600000000000
  let m := (minutesF d1).floor
  let d2 := d1 - m * 60000000000
  let s := (secondsF d2).floor
  let d3 := d2 - s * 1000000000
  let f := Int.tdiv (d3 * (fr : Int)) 1000000000
  [(h % 256).toNat, (m % 256).toNat, (s % 256).toNat, (f % 256).toNat]

theorem pad2I_nat (v : Nat) : pad2I (v : Int) = Duration.pad2 v := by
  unfold pad2I Duration.pad2 itoa
  rw [if_neg (Int.not_lt.mpr (Int.natCast_nonneg _)), Int.toNat_natCast]
  by_cases c : v < 10
  · have c' : (v : Int) < 10 := by omega
    simp [c, c']
  · have c' : ¬ (v : Int) < 10 := by omega
    simp [c, c']

theorem pad2F_units (U d : Int) (hU0 : 0 < U) (hU : U ≤ 3600000000000) (hd0 : 0 ≤ d)
    (hd : d < 4096 * U) : pad2F (unitsF U d) = Duration.pad2 (d / U).toNat := by
  obtain ⟨q, hq⟩ := Int.eq_ofNat_of_zero_le (Int.ediv_nonneg hd0 (le_of_lt hU0))
  unfold pad2F
  rw [unitsF_lt10 U d hU0 hU hd0 hd, unitsF_floor U d hU0 hU hd0 hd, hq, Int.toNat_natCast, ← pad2I_nat]
  simp only [pad2I, decide_eq_true_eq]

theorem sub_div_mul (d U : Int) : d - d / U * U = d % U := by rw [Int.emod_def, Int.mul_comm]

/-- the step-by-step reduction of the Go code, in integers: after the three floors are known to be
    the quotients, the remaining durations are the remainders -/
theorem stl_steps (d : Int) (hd0 : 0 ≤ d) (hd : d < 4096 * 3600000000000) :
    (hoursF d).floor = d / 3600000000000 ∧
    (minutesF (d - d / 3600000000000 * 3600000000000)).floor = d % 3600000000000 / 60000000000 ∧
    (secondsF (d - d / 3600000000000 * 3600000000000
        - d % 3600000000000 / 60000000000 * 60000000000)).floor = d % 60000000000 / 1000000000 ∧
    d - d / 3600000000000 * 3600000000000 = d % 3600000000000 ∧
    d % 3600000000000 - d % 3600000000000 / 60000000000 * 60000000000 = d % 60000000000 ∧
    d % 60000000000 - d % 60000000000 / 1000000000 * 1000000000 = d % 1000000000 := by
  have e1 := sub_div_mul d 3600000000000
  have e2 : d % 3600000000000 - d % 3600000000000 / 60000000000 * 60000000000 = d % 60000000000 := by
    rw [sub_div_mul]; exact Int.emod_emod_of_dvd d ⟨60, rfl⟩
  have e3 : d % 60000000000 - d % 60000000000 / 1000000000 * 1000000000 = d % 1000000000 := by
    rw [sub_div_mul]; exact Int.emod_emod_of_dvd d ⟨60, rfl⟩
  refine ⟨unitsF_floor _ d (by decide) (by decide) hd0 hd, ?_, ?_, e1, e2, e3⟩
  · rw [e1]
    exact unitsF_floor _ _ (by decide) (by decide) (Int.emod_nonneg d (by decide))
      (Int.lt_trans (Int.emod_lt_of_pos d (by decide)) (by decide))
  · rw [e1, e2]
    exact unitsF_floor _ _ (by decide) (by decide) (Int.emod_nonneg d (by decide))
      (Int.lt_trans (Int.emod_lt_of_pos d (by decide)) (by decide))

theorem cast_mod_div (n a b : Nat) : (n : Int) % (a : Int) / (b : Int) = ((n % a / b : Nat) : Int) := by
  rw [Int.natCast_ediv, Int.natCast_emod]

theorem toNat_emod256 (v : Nat) : ((v : Int) % 256).toNat = v % 256 := by omega

theorem nat_fields (n fr : Nat) :
    (n : Int) / 3600000000000 = ((n / 3600000000000 : Nat) : Int) ∧
    (n : Int) % 3600000000000 / 60000000000 = ((n % 3600000000000 / 60000000000 : Nat) : Int) ∧
    (n : Int) % 60000000000 / 1000000000 = ((n % 60000000000 / 1000000000 : Nat) : Int) ∧
    Int.tdiv ((n : Int) % 1000000000 * (fr : Int)) 1000000000
      = ((n % 1000000000 * fr / 1000000000 : Nat) : Int) := by
  refine ⟨(Int.natCast_ediv n 3600000000000).symm, cast_mod_div n 3600000000000 60000000000,
    cast_mod_div n 60000000000 1000000000, ?_⟩
  have e : (n : Int) % 1000000000 * (fr : Int) = ((n % 1000000000 * fr : Nat) : Int) := by
    push_cast; rfl
  rw [e, Int.tdiv_eq_ediv_of_nonneg (Int.natCast_nonneg _)]
  rfl

/-- **The binary timecode of the float evaluation is the model's**, below 4096 hours and for a
    frame rate that fits a byte. -/
theorem formatSTLBytesF_eq (d : Int) (fr : Nat) (hfr : fr ≤ 256) (hd0 : 0 ≤ d)
    (hd : d < 4096 * 3600000000000) :
    formatSTLBytesF d fr = Duration.formatSTLBytes d fr := by
  obtain ⟨h1, h2, h3, e1, e2, e3⟩ := stl_steps d hd0 hd
  unfold formatSTLBytesF
  simp only []
  rw [h1, h2, h3, e1, e2, e3]
  obtain ⟨n, rfl⟩ : ∃ n : Nat, d = (n : Int) := ⟨d.toNat, by omega⟩
  obtain ⟨a1, a2, a3, a4⟩ := nat_fields n fr
  rw [a1, a2, a3, a4]
  unfold Duration.formatSTLBytes
  simp only [Int.toNat_natCast, toNat_emod256]
  have hm : n % 3600000000000 / 60000000000 < 60 := Nat.div_lt_of_lt_mul (Nat.mod_lt n (by decide))
  have hs : n % 60000000000 / 1000000000 < 60 := Nat.div_lt_of_lt_mul (Nat.mod_lt n (by decide))
  have hf : n % 1000000000 * fr / 1000000000 < 256 :=
    Nat.div_lt_of_lt_mul (Nat.lt_of_le_of_lt (Nat.mul_le_mul_left _ hfr)
      (Nat.mul_lt_mul_of_pos_right (Nat.mod_lt n (by decide)) (by decide)))
  rw [Nat.mod_eq_of_lt (Nat.lt_trans hm (by decide)), Nat.mod_eq_of_lt (Nat.lt_trans hs (by decide)),
    Nat.mod_eq_of_lt hf]

end C16F
end Astisub

namespace Astisub
namespace C16float
open Go Duration F53 C16F

/-- `Dy.floor` (`math.Floor` read as an integer) is the mathematical floor of the double's value. -/
theorem floor_correct (x : Dy) : x.floor = ⌊x.val⌋ := floor_val x

/-- On a non-negative double `math.Floor` and Go's float → int conversion agree. -/
theorem floor_is_trunc (x : Dy) (h : 0 ≤ x.val) : x.floor = x.trunc := by
  rw [floor_val, trunc_val]; unfold C15.tr; rw [if_pos h]

/-- `x + y` is the correctly rounded sum (round-to-nearest-even of the exact rational sum). -/
theorem add_correct (x y : Dy) : (Dy.add x y).val = rnd (x.val + y.val) := add_val x y

/-- The comparison `x < y` of two doubles is the comparison of their values. -/
theorem lt_correct (x y : Dy) : Dy.lt x y = true ↔ x.val < y.val := lt_val x y

/-- the remainder `n = i % time.Second` of a non-negative instant -/
def RemOK (n : Int) : Prop := 0 ≤ n ∧ n < 1000000000

instance (n : Int) : Decidable (RemOK n) := by unfold RemOK; infer_instance

example : RemOK 999999999 := by decide
example : RemOK 123456789 := by decide
example : ¬ RemOK 1000000000 := by decide

/-- **The float fraction is the integer quotient.** For every remainder `0 ≤ n < 10⁹` and every
    digit count, the binary64 evaluation of
    `math.Floor(float64(n) / 1e6 / float64(10^(3-digits)))` — two correctly rounded divisions, then
    floor — equals the integer division `n / (10⁶ · 10^(3-digits))`: neither rounding pushes the
    quotient across an integer. (`3 - digits` is the natural subtraction of the model, so the
    divisor is 1000, 100, 10, 1 for `digits = 0 … 3`; the package passes 2 and 3 only. For
    `digits > 3` the Go expression would divide by a negative power of ten, which neither `fracF`
    nor `Duration.format` models.) -/
theorem frac_float_eq_int (n : Int) (digits : Nat) (h : RemOK n) :
    fracF n digits = n / (1000000 * 10 ^ (3 - digits)) := fracF_eq n digits h.1 h.2

/-- three digits (SRT, WebVTT, TTML): the float expression yields the milliseconds `n / 10⁶` … -/
theorem frac_float_ms (n : Int) (h : RemOK n) : fracF n 3 = n / 1000000 := by
  rw [frac_float_eq_int n 3 h]; rfl

/-- … two digits (SSA): the centiseconds `n / 10⁷`. -/
theorem frac_float_cs (n : Int) (h : RemOK n) : fracF n 2 = n / 10000000 := by
  rw [frac_float_eq_int n 2 h]; rfl

/-- The float fraction has at most `digits` decimal digits: `0 ≤ fracF n 3 < 1000`, `… 2 < 100`. -/
theorem frac_float_range (n : Int) (h : RemOK n) :
    0 ≤ fracF n 3 ∧ fracF n 3 < 1000 ∧ 0 ≤ fracF n 2 ∧ fracF n 2 < 100 := by
  rw [frac_float_ms n h, frac_float_cs n h]
  unfold RemOK at h
  omega

/-- the model really rounds: `1 ns / 1e6` is not a double (the quotient is inexact), and the
    evaluation of the largest remainder is computed by the kernel -/
example : Dy.div (Dy.ofInt 1) (Dy.ofInt 1000000) = ⟨4722366482869645, -72⟩ := by decide
example : fracF 999999999 3 = 999 := by decide
example : fracF 999999999 2 = 99 := by decide

/-- The exponent handed to `math.Pow` is computed exactly: `3 - float64(digits)` is the double
    `3 - digits` (0 for three digits, 1 for two — the two cases in which Go's `pow` returns `1` and
    `x = 10` through its special cases, without any arithmetic). -/
theorem pow_exponent_exact (digits : Nat) (h : digits ≤ 3) :
    (Dy.sub (Dy.ofInt 3) (Dy.ofInt digits)).val = ((3 - digits : Nat) : ℚ) := by
  have h1 : |((digits : ℤ))| ≤ 2 ^ 53 := by rw [abs_of_nonneg (by omega)]; omega
  have h2 : |((3 : ℤ) - (digits : ℤ))| ≤ 2 ^ 53 := by rw [abs_of_nonneg (by omega)]; omega
  rw [sub_val, ofInt_val, ofInt_val, rnd_int 3 (by decide), rnd_int _ h1]
  have : ((3 : ℤ) : ℚ) - ((digits : ℤ) : ℚ) = (((3 : ℤ) - (digits : ℤ) : ℤ) : ℚ) := by push_cast; ring
  rw [this, rnd_int _ h2]
  push_cast [Nat.cast_sub h]; ring

/-- **The fraction field the model prints is the float fraction.** For every instant `t ≥ 0`, the
    text `Duration.format t sep digits` is `HH:MM:SS<sep>` followed by the decimal of
    `fracF (t % 10⁹) digits` — the binary64 value of the Go expression — left-padded with zeros
    to `digits` places. (`Int.tdiv` / `Int.tmod` are Go's `/` and `%`.) -/
theorem format_fraction_is_float (t : Int) (sep : Char) (digits : Nat) (h0 : 0 ≤ t) :
    Duration.format t sep digits
      = pad2 (Int.tdiv t 3600000000000).toNat ++ ':' ::
        pad2 (Int.tdiv (Int.tmod t 3600000000000) 60000000000).toNat ++ ':' ::
        pad2 (Int.tdiv (Int.tmod t 60000000000) 1000000000).toNat ++ sep ::
        padLeft0 digits (itoa (fracF (Int.tmod t 1000000000) digits)) :=
  format_eq_formatF t sep digits h0

theorem format_is_float (t : Int) (sep : Char) (digits : Nat) (h0 : 0 ≤ t) :
    Duration.format t sep digits = formatF t sep digits := format_eq_formatF t sep digits h0

/-- the remainder handed to the float expression is in range for every `t ≥ 0` -/
theorem rem_ok (t : Int) (h0 : 0 ≤ t) : RemOK (Int.tmod t 1000000000) := by
  rw [Int.tmod_eq_emod_of_nonneg h0]; unfold RemOK; omega

/-- the C16 range of instants: `0 ≤ t < 100 h` -/
def InstantOK (t : Int) : Prop := 0 ≤ t ∧ t < 360000000000000

instance (t : Int) : Decidable (InstantOK t) := by unfold InstantOK; infer_instance

example : InstantOK 359999999999999 := by decide
example : InstantOK 86399999999999 := by decide

/-- **Shape, float formatter.** For `0 ≤ t < 100 h` the formatter with the binary64 fraction
    renders exactly `HH:MM:SS<sep>FFF`, and the fields add up to `t` truncated to the millisecond. -/
theorem float_shape3 (t : Int) (sep : Char) (h : InstantOK t) :
    ∃ hh m s f : Nat, hh < 100 ∧ m < 60 ∧ s < 60 ∧ f < 1000 ∧
      formatF t sep 3 = C16.canon3 hh m s f sep ∧
      (f : Int) * nsPerMs + (s : Int) * nsPerS + (m : Int) * nsPerMin + (hh : Int) * nsPerH
        = t - t % 1000000 := by
  rw [← format_eq_formatF t sep 3 h.1]; exact C16.format_shape3 t sep h.1 h.2

/-- … two fraction digits (SSA), truncated to the centisecond. -/
theorem float_shape2 (t : Int) (sep : Char) (h : InstantOK t) :
    ∃ hh m s f : Nat, hh < 100 ∧ m < 60 ∧ s < 60 ∧ f < 100 ∧
      formatF t sep 2 = C16.canon2 hh m s f sep ∧
      (f : Int) * 10 * nsPerMs + (s : Int) * nsPerS + (m : Int) * nsPerMin + (hh : Int) * nsPerH
        = t - t % 10000000 := by
  rw [← format_eq_formatF t sep 2 h.1]; exact C16.format_shape2 t sep h.1 h.2

/-- **Round trip, float formatter.** The reader maps the text produced with the binary64 fraction
    back to `t` truncated to the millisecond (separator `.` or `,`) … -/
theorem float_roundtrip3 (t : Int) (sep : Char) (hsep : sep = '.' ∨ sep = ',') (h : InstantOK t) :
    parse (formatF t sep 3) sep 3 = some (t - t % 1000000) := by
  rw [← format_eq_formatF t sep 3 h.1]; exact C16.parse_format3 t sep hsep h.1 h.2

/-- … and the two-digit text (SSA writer, three-digit reader) to `t` truncated to the centisecond. -/
theorem float_roundtrip2 (t : Int) (sep : Char) (hsep : sep = '.' ∨ sep = ',') (h : InstantOK t) :
    parse (formatF t sep 2) sep 3 = some (t - t % 10000000) := by
  rw [← format_eq_formatF t sep 2 h.1]; exact C16.parse_format2 t sep hsep h.1 h.2

/-- per format: SRT (`,`, 3 digits), WebVTT and TTML clock times (`.`, 3 digits), SSA (`.`, 2 digits) -/
theorem srt_roundtrip_float (t : Int) (h : InstantOK t) :
    parseSRT (formatF t ',' 3) = some (t - t % 1000000) := by
  rw [← format_eq_formatF t ',' 3 h.1]; exact C16.srt_roundtrip t h.1 h.2

theorem vtt_roundtrip_float (t : Int) (h : InstantOK t) :
    parseVTT (formatF t '.' 3) = some (t - t % 1000000) := by
  rw [← format_eq_formatF t '.' 3 h.1]; exact C16.vtt_roundtrip t h.1 h.2

theorem ssa_roundtrip_float (t : Int) (h : InstantOK t) :
    parseSSA (formatF t '.' 2) = some (t - t % 10000000) := by
  rw [← format_eq_formatF t '.' 2 h.1]; exact C16.ssa_roundtrip t h.1 h.2

/-- **Self-inverse, float formatter.** Formatting the value read back gives the identical text. -/
theorem float_idem3 (t : Int) (sep : Char) (h0 : 0 ≤ t) :
    formatF (t - t % 1000000) sep 3 = formatF t sep 3 := by
  rw [← format_eq_formatF t sep 3 h0, ← format_eq_formatF _ sep 3 (by omega)]
  exact C16.format_idem3 t sep h0

theorem float_idem2 (t : Int) (sep : Char) (h0 : 0 ≤ t) :
    formatF (t - t % 10000000) sep 2 = formatF t sep 2 := by
  rw [← format_eq_formatF t sep 2 h0, ← format_eq_formatF _ sep 2 (by omega)]
  exact C16.format_idem2 t sep h0

/-- **Reader.** The only float in `parseDuration` is the scale `int(math.Pow10(digits - len(s)))`
    (a table look-up followed by truncation); it is the exact power of ten the model multiplies by
    (the reader has `digits = 3`, `1 ≤ len(s) ≤ 3`, so `k ≤ 2`). -/
theorem reader_scale_exact (k : Nat) (hk : k ≤ 15) : pow10F k = 10 ^ k := by
  unfold pow10F
  have h : |((10 : ℤ) ^ k)| ≤ 2 ^ 53 := by
    have : (10 : ℤ) ^ k ≤ 10 ^ 15 := pow_le_pow_right₀ (by norm_num) hk
    rw [abs_of_nonneg (by positivity)]
    omega
  rw [trunc_val, ofInt_val, rnd_int _ h, tr_intCast]

example : pow10F 2 = 100 := by decide

/-- the range in which the float fields are proved: `0 ≤ d < 4096 h` (the C16 STL clause needs
    `< 24 h`) -/
def StlOK (d : Int) : Prop := 0 ≤ d ∧ d < 4096 * 3600000000000

instance (d : Int) : Decidable (StlOK d) := by unfold StlOK; infer_instance

example : StlOK 86399999999999 := by decide
example : StlOK (4096 * 3600000000000 - 1) := by decide

/-- **`math.Floor(d.Hours())` is `d / Hour`** for `0 ≤ d < 4096 h`: the rounded division and the
    rounded addition of `float64(d/Hour) + float64(d%Hour)/3.6e12` never reach the next integer. -/
theorem stl_hours_floor (d : Int) (h : StlOK d) : (hoursF d).floor = d / 3600000000000 :=
  unitsF_floor _ d (by decide) (by decide) h.1 h.2

/-- the same for any unit `U ≤ 1 h` and quotient below 4096: minutes of a duration below
    4096 min, seconds of a duration below 4096 s (the Go code calls them on `d % Hour`, `d % Minute`) -/
theorem stl_units_floor (U d : Int) (hU0 : 0 < U) (hU : U ≤ 3600000000000) (hd0 : 0 ≤ d)
    (hd : d < 4096 * U) : (unitsF U d).floor = d / U := unitsF_floor U d hU0 hU hd0 hd

/-- **`d.Hours() < 10` is `d / Hour < 10`** (the leading-zero test), same range. -/
theorem stl_hours_lt10 (d : Int) (h : StlOK d) :
    Dy.lt (hoursF d) (Dy.ofInt 10) = decide (d / 3600000000000 < 10) :=
  unitsF_lt10 _ d (by decide) (by decide) h.1 h.2

/-- **The bound 4096 h is sharp.** At `d = 4097 h − 1 ns` the sum `4096 + 0.99999999999972…`
    rounds to the double `4097.0` (half an ulp there is `2⁻⁴¹ > 2.8·10⁻¹³`), so
    `math.Floor(d.Hours())` is one more than `d / Hour`, and the text timecode of the float
    evaluation is `40970-15924` instead of the model's `4096595924` (the real function prints
    the same; such durations — 170 days — are far outside the STL range of 24 h). -/
theorem stl_hours_sharp :
    (hoursF (4097 * 3600000000000 - 1)).floor = 4097 ∧
    (4097 * 3600000000000 - 1 : Int) / 3600000000000 = 4096 ∧
    formatSTLF (4097 * 3600000000000 - 1) 25 = "40970-15924".toList ∧
    formatSTL (4097 * 3600000000000 - 1) 25 = "4096595924".toList := by
  refine ⟨by decide, by decide, by decide_vector, by decide_vector⟩

/-- **STL text timecode.** `formatDurationSTL` evaluated with binary64 hours / minutes / seconds
    (floor and `< 10` test on doubles, duration reduced step by step as in the Go code) prints
    exactly what the integer model `Duration.formatSTL` prints, for `0 ≤ d < 4096 h`, any frame rate. -/
theorem stl_text_is_float (d : Int) (fr : Nat) (h : StlOK d) :
    formatSTLF d fr = formatSTL d fr := by
  obtain ⟨hd0, hd⟩ := h
  obtain ⟨h1, h2, h3, e1, e2, e3⟩ := stl_steps d hd0 hd
  unfold formatSTLF
  simp only []
  rw [h1, h2, h3, e1, e2, e3]
  unfold hoursF minutesF secondsF
  rw [pad2F_units _ d (by decide) (by decide) hd0 hd,
    pad2F_units _ (d % 3600000000000) (by decide) (by decide) (by omega) (by omega),
    pad2F_units _ (d % 60000000000) (by decide) (by decide) (by omega) (by omega)]
  obtain ⟨n, rfl⟩ : ∃ n : Nat, d = (n : Int) := ⟨d.toNat, by omega⟩
  obtain ⟨a1, a2, a3, a4⟩ := nat_fields n fr
  rw [a1, a2, a3, a4, pad2I_nat]
  rfl

/-- **STL binary timecode.** Likewise `formatDurationSTLBytes` (`byte(uint8(v))` = `v mod 256`),
    for a frame rate that fits a byte. -/
theorem stl_bytes_is_float (d : Int) (fr : Nat) (hfr : fr ≤ 256) (h : StlOK d) :
    formatSTLBytesF d fr = formatSTLBytes d fr := formatSTLBytesF_eq d fr hfr h.1 h.2

/-- **C16 STL clause, float writer.** At 25 and 30 fps, for `0 ≤ t < 24 h`: reading the four bytes
    the float writer emits and writing them again (float writer) changes no field, and the fields
    are in range. -/
theorem stl_bytes_rewrite_float (t : Int) (fr : Nat) (hfr : fr = 25 ∨ fr = 30) (h0 : 0 ≤ t)
    (h1 : t < 86400000000000) :
    formatSTLBytesF (parseSTLBytes true (formatSTLBytesF t fr) fr) fr = formatSTLBytesF t fr ∧
    (∃ h m s f, formatSTLBytesF t fr = [h, m, s, f] ∧ h < 24 ∧ m < 60 ∧ s < 60 ∧ f < fr) := by
  have hfr' : fr ≤ 256 := by rcases hfr with rfl | rfl <;> decide
  have e : formatSTLBytesF t fr = formatSTLBytes t fr :=
    formatSTLBytesF_eq t fr hfr' h0 (by omega)
  obtain ⟨hrw, hh, m, s, f, hfm, b1, b2, b3, b4⟩ := C16.stl_bytes_rewrite t fr hfr h0 h1
  rw [e]
  refine ⟨?_, ⟨hh, m, s, f, hfm, b1, b2, b3, b4⟩⟩
  -- the value read back is again a non-negative duration below 4096 h
  have hfr0 : 0 < fr := by rcases hfr with rfl | rfl <;> decide
  have hp0 : 0 ≤ parseSTLBytes true (formatSTLBytes t fr) fr ∧
      parseSTLBytes true (formatSTLBytes t fr) fr < 4096 * 3600000000000 := by
    have hK := (C16.frames_stable f fr hfr0 (by omega) b4).1
    rw [hfm]
    unfold parseSTLBytes nsPerH nsPerMin nsPerS
    simp only
    rw [C16.framesToNs_nat _ _ hfr0]
    generalize (1000000000 * f + fr - 1) / fr = K at hK ⊢
    omega
  rw [formatSTLBytesF_eq _ fr hfr' hp0.1 hp0.2]
  exact hrw

end C16float
end Astisub
