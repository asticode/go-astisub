import Astisub.Lemmas.SRTRead2Doc

/-!
# C01 (read clause) — SubRip: the reader model returns what the independent decoder says the document denotes

`Props/C01doc.lean` proves the *write* clause at document level (reading what the writer wrote).  This
file proves the *read* clause for **all** documents, written or not: whenever the independent decoder
`Spec.SRT.decode` (written from the format description; `none` outside its class of well-formed
documents) accepts a document as the cues `cues`, the model of `ReadFromSRT` succeeds on the same bytes
and the view of its result (`Driver.srtView`, the comparison the `srt.read` stream makes on every case —
no normalisation, no merging of runs) is exactly `cues`.

Two explicit, decidable provisos:

* `Modelled doc` — the reader model answers (`ok` or `err`, not `unmodelled`).  It answers `unmodelled`
  only where the partial model of the HTML tokenizer (`Go.tokenize`) does: a NUL character outside a tag,
  `<!…`, a raw-text element (`<script>` …), `&` in an attribute value — inside the decoder's class this can
  only happen on an *index line* (any text is allowed there) or through a NUL; the `srt.read` stream
  gives the verdict `unmodelled` for exactly these cases.  `InClass text` is a syntactic
  condition that implies it: no NUL on a line without `-->`, and no markup other than the emphasis tags
  (`read_clause_inClass`).
* `InRange cues` — the hours field of every time stamp fits Go's `int` (`hours ≤ 2⁶³−1`).  This one is a
  **finding**: the decoder reads hours with unbounded arithmetic, `strconv.Atoi` fails beyond 2⁶³−1, so
  for `99999999999999999999:00:00,000 --> …` the decoder answers and the reader fails
  (`inRange_needed`).  The unrestricted statement is `read_clause_Statement`; `read_clause_Statement_false` refutes it.

Vocabulary (`Lemmas/SRTRead2*.lean`): `stepG st line` — the loop body of `ReadFromSRT` on a line that has
been trimmed already (`step_is_stepG`); `runG` iterates it; `Good st cues n X` — the loop state holds the
cues `cues` (all but the last in `st.done`, the last being filled), followed by `n` place holders of
empty lines and by what an index line left (`X`); `TimingOK m s e` — the reader's timing-line branch
starts the cue `[s ms, e ms)` on line `m`; `HeadRel d m` — decoder's / reader's view of a first line;
`styOf` — a running style of the reader as a style of the decoder; `drvRun` — the run `Driver.srtView`
shows for an item.
-/

namespace Astisub
namespace C01read
open Go SRT SRTDoc SRTRead2
open Spec.SRT (GRun GCue Sty runsOf tagAt cueLines timing timeMs decodeBlock)

def isUnmodelled {α} : Res α → Bool
  | .unmodelled => true
  | _ => false

theorem ne_unmodelled {α} {r : Res α} (h : isUnmodelled r = false) : r ≠ .unmodelled := by
  intro e; rw [e] at h; cases h

/-- the reader model answers on this document (the `srt.read` stream's verdict is not `unmodelled`) -/
def Modelled (doc : List UInt8) : Bool := !isUnmodelled (SRT.read (Driver.docLines doc))

/-- the same for a text cut into lines by the decoder's splitter -/
def ModelledText (text : Str) : Bool := !isUnmodelled (SRT.read ((Spec.SRT.splitLines text []).map some))

/-- every hours field fits Go's `int`: `strconv.Atoi` accepts it -/
def InRange (cues : List GCue) : Bool :=
  cues.all fun c => decide (c.startMs / 3600000 ≤ int64Max) && decide (c.endMs / 3600000 ≤ int64Max)

theorem inRange_iff (cues : List GCue) : InRange cues = true ↔ ∀ c ∈ cues, InRangeCue c := by
  simp [InRange, InRangeCue, List.all_eq_true]

/-- instants below 2⁶³ ns (what a Go `time.Duration` can hold at all) are in range -/
theorem inRange_of_duration (cues : List GCue)
    (h : ∀ c ∈ cues, c.startMs * 1000000 ≤ int64Max ∧ c.endMs * 1000000 ≤ int64Max) : InRange cues = true := by
  rw [inRange_iff]
  intro c hc
  obtain ⟨h1, h2⟩ := h c hc
  unfold InRangeCue
  unfold int64Max at *
  omega

/-- a document with a byte order mark, a garbage index line, CRLF / lone CR line ends, `.` and short
    fractions, the `mm:ss` form, trailing coordinates, tags in both cases left open across lines, a colour -/
def exampleA : Str := "﻿ x\r\n0:01.5 --> 0:2.25 X1\r<b>a\nb</B><font color=\"red\">c\n".toList

/-- blank-line padding, an index line made of markup, no spaces around `-->`, a stray `<`, an entity -/
def exampleB : Str := "\n<i>\n1:2:3,4-->5:6:7.891\nd <3 &amp;\n\n".toList

/-- what they denote -/
def cuesA : List GCue :=
  [{ startMs := 1500, endMs := 2250,
     lines := [[{ text := "a".toList, bold := true, italic := false, underline := false, color := none }],
               [{ text := "b".toList, bold := true, italic := false, underline := false, color := none },
                { text := "c".toList, bold := false, italic := false, underline := false, color := some "red".toList }]] }]
def cuesB : List GCue :=
  [{ startMs := 3723400, endMs := 18367891,
     lines := [[{ text := "d <3 &".toList, bold := false, italic := false, underline := false, color := none }]] }]

set_option maxRecDepth 8192 in
example : Spec.SRT.decode exampleA = some cuesA := by unfold exampleA cuesA; decide_vector
set_option maxRecDepth 8192 in
example : Spec.SRT.decode exampleB = some cuesB := by unfold exampleB cuesB; decide_vector
example : InRange cuesA = true ∧ InRange cuesB = true := by decide +kernel

/-- **Bytes to lines.**  For every byte string that is valid UTF-8 (decoding to `text`), cutting the bytes
    into lines with the scanner model (`bufio.Scanner` with the package's split function: LF, CRLF and lone
    CR end a line) and decoding each line gives exactly the lines the decoder's own splitter cuts `text`
    into; no line fails to decode -/
theorem bytes_to_lines (doc : List UInt8) (text : Str) (h : Driver.decodeLine doc = some text) :
    Driver.docLines doc = (Spec.SRT.splitLines text []).map some :=
  Driver.docLines_of_decodeLine h

/-- the `Modelled` proviso can be checked on the text -/
theorem modelled_text (doc : List UInt8) (text : Str) (h : Driver.decodeLine doc = some text) :
    Modelled doc = ModelledText text := by
  unfold Modelled ModelledText
  rw [bytes_to_lines doc text h]

/-- **Time stamps.**  Every string the decoder reads as a time stamp of `ms` milliseconds (`,` or `.`,
    one to three fraction digits, `hh:mm:ss` or `mm:ss`, any number of hour digits, white space around) is
    parsed by the reader model (`parseDurationSRT`) as `ms` milliseconds, in nanoseconds — provided the
    hours fit Go's `int` -/
theorem timestamp_agrees (s : Str) (ms : Nat) (h : timeMs s = some ms) (hb : ms / 3600000 ≤ int64Max) :
    Duration.parseSRT s = some ((ms : Int) * 1000000) :=
  parseSRT_of_timeMs s ms h hb

/-- the loop body of `ReadFromSRT` is `stepG` on the prepared line: trimmed, and on the first line
    without a leading byte order mark -/
theorem step_is_stepG (st : St) (raw : Str) : step st (some raw) = stepG st (prepLine st.lineNum raw) :=
  step_eq st raw

/-- **Timing lines.**  On every line the decoder accepts as the timing line `[s ms, e ms)` (spacing around
    `-->`, trailing coordinates, all time stamp variants), from any state, the reader model starts a new
    cue with these instants, no lines and an empty running style -/
theorem timing_line_agrees (st : St) (line : Str) (s e : Nat) (h : timing line = some (s, e))
    (hs : s / 3600000 ≤ int64Max) (he : e / 3600000 ≤ int64Max) :
    ∃ st', stepG st line = .ok st' ∧ st'.cur.startAt = (s : Int) * 1000000 ∧ st'.cur.endAt = (e : Int) * 1000000 ∧
      st'.cur.lines = [] ∧ st'.curListed = true ∧ st'.sa = {} := by
  exact ⟨_, (timingOK_of_timing h hs he).stepG st, rfl, rfl, rfl, rfl, rfl⟩

/-- **Tags.**  Every tag the decoder recognises at the head of `'<' :: c :: tl` (`<b> <i> <u> </b> </i> </u>
    </font> <font color="v">`, letters in either case) is exactly one token of the tokenizer model, after
    which both scans resume at the same place; and the reader's `stepTok` changes its running style the way
    the decoder does, emitting nothing -/
theorem tag_agrees (c : Char) (tl : Str) (f : Sty → Sty) (after : Str)
    (h : Spec.SRT.tagAt ('<' :: c :: tl) = some (f, after)) (acc : Str) (out : List Tok) :
    ∃ t : Tok, tokStep ('<' :: c :: tl) acc out = .next after [] (t :: flushText acc out) ∧
      ∀ (r : Run) (items : List LItem),
        (stepTok (r, items) t).2 = items ∧ styOf (stepTok (r, items) t).1 = f (styOf r) :=
  tag_sim _ f after h acc out

/-- **One text line.**  A non-blank line that the decoder turns into the runs `res.2`, starting from the
    running style `styOf sa` and ending in `res.1`, is parsed by the reader model (unless the tokenizer
    model is undefined on it) into items whose view is these runs, with the same running style afterwards:
    unterminated and multi-line tags are carried the same way -/
theorem text_line_agrees (l : Str) (sa : Run) (res : Sty × List GRun) (hne : trimSpace l ≠ [])
    (h : runsOf (l.length + 2) l (styOf sa) [] [] = some res) (hm : parseText l sa ≠ .unmodelled) :
    ∃ sa' items, parseText l sa = .ok (sa', { items := items }) ∧ styOf sa' = res.1 ∧ items.map drvRun = res.2 :=
  parseText_sim l sa res hne h hm

/-- **The text lines of a cue.**  While the reader is filling a cue (`AtCue`), text lines that the decoder
    turns into `ls` are appended as lines whose view is `ls`; nothing else of the state changes -/
theorem cue_text_agrees (text : List Str) (st : St) (cues : List GCue) (s e : Nat) (L : List Line)
    (ls : List (List GRun)) (h : AtCue st cues s e L) (hc : cueLines text (styOf st.sa) = some ls)
    (ht : ∀ t ∈ text, trimSpace t ≠ [] ∧ contains arrow t = false) (hm : runG st text ≠ .unmodelled) :
    ∃ st' L', runG st text = .ok st' ∧ AtCue st' cues s e (L ++ L') ∧ linesView L' = ls ∧ ∀ l ∈ L', Solid l :=
  text_sim text st cues s e L ls h hc ht hm

/-- **One block.**  From a loop state that holds the cues `cues` followed by `n` empty lines (`n ≥ 1` unless
    there is no cue yet), a block `d1 :: tl` of non-blank lines that the decoder turns into the cue `c`
    (optional index line — any text without `-->` —, timing line, text lines) takes the reader model to a
    state that holds `cues ++ [c]`.  (`m1` is the reader's view of the block's first line: `d1` itself,
    except on the first line of a document.) -/
theorem block_agrees {st : St} {cues : List GCue} {n : Nat} (hg : Good st cues n []) (hn : cues = [] ∨ 1 ≤ n)
    (d1 m1 : Str) (tl : List Str) (hrel : HeadRel d1 m1) (c : GCue) (hdec : decodeBlock (d1 :: tl) = some c)
    (hrange : InRangeCue c) (htl : ∀ l ∈ tl, trimSpace l ≠ []) (hm : runG st (m1 :: tl) ≠ .unmodelled) :
    ∃ st', runG st (m1 :: tl) = .ok st' ∧ Good st' (cues ++ [c]) 0 [] :=
  block_sim hg hn d1 m1 tl hrel c hdec hrange htl hm

/-- an empty line keeps the cues and adds a place holder; the final state's cue list (what `read`
    returns) is viewed as the cues the state holds -/
theorem blank_and_end {st : St} {cues : List GCue} {n : Nat} (hg : Good st cues n []) :
    (∃ st', stepG st [] = .ok st' ∧ Good st' cues (n + 1) []) ∧ Driver.srtView (finish st) = some cues :=
  ⟨good_blank hg, good_finish hg⟩

-- the invariant holds initially, and every line is related to itself
example : Good {} [] 0 [] := good_init
example : HeadRel "7".toList "7".toList := headRel_refl _

/-- a document that begins with a byte order mark: the decoder drops the mark and trims the first line,
    the reader trims first and then drops the mark — the line keeps its leading white space; both views
    are related as the block theorem needs -/
theorem first_line_bom (l : Str) : HeadRel (trimSpace l) (prepLine 0 (bomC :: l)) :=
  headRel_bom l

/-- a document that does not begin with a byte order mark: a mark that heads the first line after
    trimming is dropped by the reader only; such a line is an index line either way -/
theorem first_line_late_bom (l : Str) : HeadRel (trimSpace l) (prepLine 0 l) :=
  headRel_strip (trimSpace l)

/-- **Read clause, on text.**  For every text the decoder accepts as `cues` (hours in range), on whose
    lines the reader model is defined: the reader model succeeds and the view of its result is `cues` -/
theorem read_clause_text (text : Str) (cues : List GCue) (h : Spec.SRT.decode text = some cues)
    (hr : InRange cues = true) (hm : ModelledText text = true) :
    ∃ s, SRT.read ((Spec.SRT.splitLines text []).map some) = .ok s ∧ Driver.srtView s = some cues :=
  read_decode_text text cues h ((inRange_iff cues).mp hr)
    (ne_unmodelled (by unfold ModelledText at hm; simpa using hm))

/-- **The read clause, on bytes, as the `srt.read` stream evaluates it.**  For every byte string `doc`
    that is valid UTF-8 and that the independent decoder accepts as the cues `cues` (hours in range), if
    the reader model is defined on `doc`, then it succeeds — `ReadFromSRT` through the scanner model,
    line by line — and the view of the cue list it returns is exactly `cues` -/
theorem read_clause (doc : List UInt8) (text : Str) (cues : List GCue) (hd : Driver.decodeLine doc = some text)
    (h : Spec.SRT.decode text = some cues) (hr : InRange cues = true) (hm : Modelled doc = true) :
    ∃ s, SRT.read (Driver.docLines doc) = .ok s ∧ Driver.srtView s = some cues := by
  rw [modelled_text doc text hd] at hm
  rw [bytes_to_lines doc text hd]
  exact read_clause_text text cues h hr hm

/-- the predicate of the `srt.read` case of `Driver.handleSRT`, with the model's answer in place of the
    implementation's (the stream compares the two on every case) -/
def readSpec (doc : List UInt8) (r : Res Subs) : Bool :=
  match Driver.decodeLine doc with
  | none => true
  | some text =>
    match Spec.SRT.decode text with
    | none => true
    | some cues =>
      match r with
      | .ok s => Driver.srtView s == some cues
      | _ => false

/-- the hours proviso, on the document -/
def InRangeDoc (doc : List UInt8) : Bool :=
  match Driver.decodeLine doc with
  | none => true
  | some text => match Spec.SRT.decode text with
    | none => true
    | some cues => InRange cues

/-- **The stream's predicate holds for the model's answer** on every document on which the model answers
    and whose hours are in range -/
theorem read_spec_holds (doc : List UInt8) (hm : Modelled doc = true) (hr : InRangeDoc doc = true) :
    readSpec doc (SRT.read (Driver.docLines doc)) = true := by
  unfold readSpec
  unfold InRangeDoc at hr
  cases hd : Driver.decodeLine doc with
  | none => rfl
  | some text =>
    rw [hd] at hr
    simp only at hr ⊢
    cases hc : Spec.SRT.decode text with
    | none => rfl
    | some cues =>
      rw [hc] at hr
      simp only at hr ⊢
      obtain ⟨s, h1, h2⟩ := read_clause doc text cues hd hc hr hm
      rw [h1]
      simp [h2]

/-- **The explicit class.**  Every line as the reader prepares it (`readerLines`: cut at LF / CRLF / CR,
    trimmed, a byte order mark removed from the first) either contains `-->`, or has no NUL and — if it
    contains `<` at all — is made of text, stray `<` and the eight emphasis tags only (`LineClass`: judged by
    the decoder's own run scanner).  Relative to the decoder's class this excludes exactly: NUL characters
    on lines without `-->`, and index lines with other markup (`<x>`, `<!-- -->`, `<script>`, `</>` …) -/
def InClass (text : Str) : Bool := (readerLines text).all LineClass

/-- on the class the reader model is defined -/
theorem inClass_modelled (text : Str) (h : InClass text = true) : ModelledText text = true := by
  have := read_lineClass text (by simpa [InClass, List.all_eq_true] using h)
  unfold ModelledText
  cases hr : SRT.read ((Spec.SRT.splitLines text []).map some) with
  | ok s => rfl
  | err => rfl
  | unmodelled => exact absurd hr this

/-- **The read clause on the explicit class.**  For every valid UTF-8 byte string whose text is in the class and is
    accepted by the decoder as `cues` (hours in range): the reader model succeeds on the bytes and the
    view of its result is `cues` -/
theorem read_clause_inClass (doc : List UInt8) (text : Str) (cues : List GCue)
    (hd : Driver.decodeLine doc = some text) (h : Spec.SRT.decode text = some cues) (hr : InRange cues = true)
    (hc : InClass text = true) :
    ∃ s, SRT.read (Driver.docLines doc) = .ok s ∧ Driver.srtView s = some cues :=
  read_clause doc text cues hd h hr (by rw [modelled_text doc text hd]; exact inClass_modelled text hc)

theorem inClass_exampleA : InClass exampleA = true := by unfold exampleA; decide_vector
theorem inClass_exampleB : InClass exampleB = true := by unfold exampleB; decide_vector

set_option maxRecDepth 8192 in
example : InClass exampleA = true := inClass_exampleA
set_option maxRecDepth 8192 in
example : InClass exampleB = true := inClass_exampleB
set_option maxRecDepth 8192 in
example : ModelledText exampleA = true := inClass_modelled _ inClass_exampleA
set_option maxRecDepth 8192 in
example : ModelledText exampleB = true := inClass_modelled _ inClass_exampleB
set_option maxRecDepth 8192 in
example : Modelled (Driver.utf8 exampleA) = true := by
  rw [modelled_text _ exampleA (Driver.decodeLine_utf8 exampleA)]
  exact inClass_modelled _ inClass_exampleA

/-- an index line with other markup: accepted by the decoder, outside `InClass`, still inside the model -/
def exampleC : Str := "<x>\n0:1,0 --> 0:2,0\ny".toList
/-- an index line that leaves the tokenizer model: accepted by the decoder, `unmodelled` for the reader -/
def exampleD : Str := "<!--\n0:1,0 --> 0:2,0\ny".toList

set_option maxRecDepth 8192 in
example : (Spec.SRT.decode exampleC).isSome = true ∧ InClass exampleC = false ∧ ModelledText exampleC = true := by
  unfold exampleC; decide_vector
set_option maxRecDepth 8192 in
example : (Spec.SRT.decode exampleD).isSome = true ∧ InClass exampleD = false ∧ ModelledText exampleD = false := by
  unfold exampleD; decide_vector

/-- the read clause without the hours proviso -/
def read_clause_Statement : Prop :=
  ∀ (doc : List UInt8) (text : Str) (cues : List GCue), Driver.decodeLine doc = some text →
    Spec.SRT.decode text = some cues → Modelled doc = true →
    ∃ s, SRT.read (Driver.docLines doc) = .ok s ∧ Driver.srtView s = some cues

/-- twenty digits of hours -/
def bigHours : Str := "99999999999999999999:00:00,000 --> 0:2,0\nx".toList

def isErr {α} : Res α → Bool
  | .err => true
  | _ => false

/-- the decoder accepts `bigHours` (as a cue that starts after about 10¹⁶ years), the reader model
    answers `err` (`strconv.Atoi: value out of range`) -/
theorem inRange_needed : (Spec.SRT.decode bigHours).isSome = true ∧
    isErr (SRT.read ((Spec.SRT.splitLines bigHours []).map some)) = true := by
  unfold bigHours; decide_vector

/-- **Finding.** the unrestricted statement is false -/
theorem read_clause_Statement_false : ¬ read_clause_Statement := by
  intro hst
  obtain ⟨h1, h2⟩ := inRange_needed
  cases hc : Spec.SRT.decode bigHours with
  | none => rw [hc] at h1; cases h1
  | some cues =>
    have hd := Driver.decodeLine_utf8 bigHours
    have hl := bytes_to_lines _ _ hd
    have hm : Modelled (Driver.utf8 bigHours) = true := by
      unfold Modelled
      rw [hl]
      cases hr : SRT.read ((Spec.SRT.splitLines bigHours []).map some) with
      | err => rfl
      | ok s => rfl
      | unmodelled => rw [hr] at h2; cases h2
    obtain ⟨s, hs, _⟩ := hst _ _ _ hd hc hm
    rw [hl] at hs
    rw [hs] at h2
    cases h2

end C01read
end Astisub
