import Astisub.Props.C07doc
import Astisub.Lemmas.ConvSTL
import Astisub.Lemmas.ConvSSA

/-!
# C07 (document level) — conversion to SSA / ASS and to EBU STL preserves the cues

`ssa_conv_Statement` and `stl_conv_Statement` of `Props/C07doc.lean` hold (`ssa_conv`, `stl_conv`), for
explicit decidable plainness predicates.

## SSA / ASS

`C07doc.ssa_conv_Statement` holds for the predicate `Conv2SSA.PlainSSA`: for **every** cue list `s` — whatever its source format
left in it — that is in range (`Driver.inRange "ssa"`, the check's own clause) and plain, writing `s`
with the SSA writer model and reading the bytes with the driver's byte-level SSA reader model
(`C07doc.viaSSA`: `SSA.write`, UTF-8, the 64 KiB line limit, the line scanner, decoding,
`SSA.read`, the 2⁶² instant limit — exactly what the `conv.pair` stream computes) succeeds and
returns `back` with

    Driver.convOk strict "ssa" s back = true      and      viewOf back = truncView 10000000 (viewOf s)

(same cues, same order, instants truncated to the centisecond, same text lines).

`Conv2SSA.PlainSSA s` (`Lemmas/ConvSSA.lean`) asks for
* at least one cue; every cue has at least one line (a cue without text comes back with one empty line);
* every line plain: no run carries an SSA override block (`SSAEffect` absent or empty) and the line's
  text (runs concatenated) is `simpleText`, not empty, without a blank at either end — so no `{`, `}`,
  `\N`, `\n`;
* good cells: the cue's style name, voice and `SSAEffect` have no comma and no line feed, its
  `SSAMargin…` / `SSALayer` fit 64 bits;
* writable SSA tables: the script info the writer reads from the metadata (`Title`, `Comments`,
  `SSA…`) and the `SSA…` attributes of the styles are good in the sense of `Props/C04doc2.lean`, style
  identifiers are distinct;
* the written document passes the scanner: no carriage return, no line of 64 KiB or more (`docFit`).
Everything else is free: attributes of other formats anywhere, inline style references, start
offsets, comments, regions, indexes, how a line is cut into runs, voices, the cue's own SSA attributes.

## EBU STL, display standard 0

`truncSTL` of the check is related to the frame floor of C05 (`truncSTL_is_floorFrame`,
`truncSTL_is_frameInstant`); for every cue list in range (`[0, 24 h)`), plain (`Conv2STL.PlainSTL`: every
run `simpleText`, not empty, no blank at either end; every line with a run; at most 112 encoded bytes per
cue) and with fitting metadata (`Conv2STL.stlMetaOK`), the writer model answers a file on the cues and
metadata the stream hands it, the reader model reads it, and `convOk` holds in both modes (`stl_conv_on`);
`stl_conv` is `C07doc.stl_conv_Statement` literally, for `Conv2STL.PlainSTLdoc`.  The other display
standards are the recorded known finding (D23).
-/

namespace Astisub
namespace C07doc2
open Go Spec.Conv Driver ConvView C07doc

/-- **The SSA writer accepts plain cue lists with foreign attributes**: a plain cue list in range is
    representable in the sense of the SSA document round trip (`C04doc2.write_read`), and the writer
    answers a text -/
theorem ssa_plain_representable (s : Subs) (hr : inRange "ssa" s = true) (hp : Conv2SSA.PlainSSA s = true) :
    SSA.RepRead s ∧ ∃ out, SSA.write s = .ok out :=
  ⟨Conv2SSA.repRead_of_plain s hr hp, Conv2SSA.write_plain s hr hp⟩

/-- **The SSA writer ignores foreign attributes.**  `eraseSSA s` keeps of every run its text and
    `SSAEffect`; of every line its voice; of every cue its instants, style reference and the six cue-level
    `SSA…` attributes (`SSAEffect`, `SSALayer`, `SSAMarginLeft/Right/Vertical`, `SSAMarked`); of every style
    its identifier and the 23 `SSA…` style attributes; of the metadata `Comments`, `Title` and the `SSA…`
    keys — and drops everything else (`TTMLColor`, `WebVTT…`, `STL…`, `SRT…`, `Teletext…`, inline style
    references, start offsets, comments, regions, indexes, style parents …).  What `WriteToSSA` answers is
    the same, for EVERY cue list. -/
theorem ssa_write_ignores_foreign (s : Subs) : SSA.write (Conv2Erase.eraseSSA s) = SSA.write s :=
  Conv2Erase.ssa_write_erase s

/-- hence the whole conversion does not see them either, and neither does the view -/
theorem viaSSA_ignores_foreign (s : Subs) :
    viaSSA (Conv2Erase.eraseSSA s) = viaSSA s ∧ viewOf (Conv2Erase.eraseSSA s) = viewOf s := by
  refine ⟨?_, Conv2Erase.view_eraseSSA s⟩
  simp only [viaSSA, Conv2Erase.ssa_write_erase]

/-- what the conversion returns, explicitly: the normal form `SSA.norm s` of `Props/C04doc2.lean`
    (centisecond instants, every line one run, the cue's SSA cells made explicit, sorted styles, script info) -/
theorem ssa_conv_back (s : Subs) (hr : inRange "ssa" s = true) (hp : Conv2SSA.PlainSSA s = true) :
    viaSSA s = some (SSA.norm s) := by
  obtain ⟨out, hw⟩ := Conv2SSA.write_plain s hr hp
  simp only [viaSSA, hw, Conv2SSA.readBytes_written s out hr hp hw]

/-- the view of what comes back: the source's cues at centisecond resolution -/
theorem ssa_view (s : Subs) (hp : Conv2SSA.PlainSSA s = true) :
    viewOf (SSA.norm s) = truncView 10000000 (viewOf s) := Conv2SSA.view_norm s hp

/-- SSA as a destination: what comes back is the normal form `SSA.norm s` -/
def ssaDest : Dest where
  dst := "ssa"
  unit := 10000000
  via := viaSSA
  Plain := Conv2SSA.PlainSSA
  back := SSA.norm
  ne_stl := by decide
  unit_eq := by decide
  via_back := ssa_conv_back
  view_back s _ hp := Conv2SSA.view_norm s hp

/-- the same codec under the extension `ass` -/
def assDest : Dest :=
  { ssaDest with
    dst := "ass"
    ne_stl := by decide
    unit_eq := by decide
    via_back := fun s hr hp => ssa_conv_back s (by rw [inRange_congr (d' := "ass") (by decide) (by decide)]; exact hr) hp }

/-- **C07, destination `ssa`.** For EVERY cue list in range and plain — whatever attributes other
    formats left in it — the conversion succeeds, and the check's predicate holds on (the cue list,
    the SSA file read back): same number of cues, same order, instants truncated to the centisecond,
    same text lines.  This is `ssa_conv_Statement` of `Props/C07doc.lean` for `Plain := PlainSSA`. -/
theorem ssa_conv : ssa_conv_Statement Conv2SSA.PlainSSA :=
  fun strict s hr hp => (ssaDest.conv strict s hr hp).ex

/-- **C07, destination `ass`**: same codec, same unit -/
theorem ass_conv (strict : Bool) (s : Subs) (hr : inRange "ass" s = true) (hp : Conv2SSA.PlainSSA s = true) :
    ∃ back, viaSSA s = some back ∧ convOk strict "ass" s back = true ∧
      viewOf back = truncView (unitOfDst "ass") (viewOf s) := by
  rw [show unitOfDst "ass" = 10000000 from assDest.unit_eq]
  exact (assDest.conv strict s hr hp).ex

example : Conv2SSA.PlainSSA Conv2SSA.exampleForeign = true ∧ inRange "ssa" Conv2SSA.exampleForeign = true :=
  ⟨Conv2SSA.exampleForeign_plain, Conv2SSA.exampleForeign_range⟩

/-- **The clause read on the model's cues, destination SSA**: as `C07doc.srt_conv_ops` (the hypothesis on
    `applyOps` is not used; the operations enter through the correspondence clause `hcorr`) -/
theorem ssa_conv_ops (strict : Bool) (src : Subs) (margs : List Subs) (ops : List String) (expected : List Item)
    (opsS : Subs) (_hops : applyOps (itemsOf src) (margs.map itemsOf) ops = some expected)
    (hcorr : vOfItems expected = viewOf opsS)
    (hr : inRange "ssa" opsS = true) (hp : Conv2SSA.PlainSSA opsS = true) :
    ∃ back, viaSSA opsS = some back ∧ convOk strict "ssa" opsS back = true ∧
      viewOf back = truncView 10000000 (vOfItems expected) :=
  ssaDest.conv_ops strict _ opsS hcorr hr hp

/-- as `C07doc.ops_then_convert`, destination SSA -/
theorem ops_then_ssa (xs : List Item) (args : List (List Item)) (ops : List String) (ys : List Item)
    (_hops : applyOps xs args ops = some ys)
    (hr : inRange "ssa" (subsOfItems ys) = true) (hp : Conv2SSA.PlainSSA (subsOfItems ys) = true) :
    ∃ back, viaSSA (subsOfItems ys) = some back ∧ viewOf back = truncView 10000000 (vOfItems ys) :=
  ops_then ssaDest ys hr hp

/-- **SubRip, then SSA.** what SubRip returned for a plain cue list in range, every cue of which has
    text, converts to SSA (when the SSA document passes the scanner), and the SSA file read back shows
    the original cues at centisecond resolution -/
theorem srt_then_ssa (s : Subs) (hr : inRange "srt" s = true) (hp : ConvSRT.PlainSRT s = true)
    (hl : ∀ it ∈ s.items, it.lines ≠ [])
    (hfit : Conv2SSA.docFit (SRTDoc.norm (SRTDoc.mergeS s)) = true) :
    ∃ b1 b2, viaSRT s = some b1 ∧ viaSSA b1 = some b2 ∧
      convOk false "ssa" b1 b2 = true ∧ viewOf b2 = truncView 10000000 (viewOf s) :=
  have h1 := srtDest.conv false s hr hp
  have h2 := h1.next false ssaDest C07.trunc_chain_ms_cs (ConvChain.plainSSA_norm_srt s hp hl hfit)
  ⟨_, _, h1.via, h2.via, h2.ok, h2.view⟩

/-- **SubRip → SSA → SubRip loses only what centiseconds lose.** three conversions in a row succeed
    and the last file shows the original cues with instants truncated to the centisecond — exactly the
    view of the SSA file in the middle -/
theorem srt_ssa_srt (s : Subs) (hr : inRange "srt" s = true) (hp : ConvSRT.PlainSRT s = true)
    (hl : ∀ it ∈ s.items, it.lines ≠ [])
    (hfit : Conv2SSA.docFit (SRTDoc.norm (SRTDoc.mergeS s)) = true) :
    ∃ b1 b2 b3, viaSRT s = some b1 ∧ viaSSA b1 = some b2 ∧ viaSRT b2 = some b3 ∧
      viewOf b3 = truncView 10000000 (viewOf s) ∧ viewOf b3 = viewOf b2 := by
  have p2 := ConvChain.plainSSA_norm_srt s hp hl hfit
  have hlen : (SRTDoc.norm (SRTDoc.mergeS s)).items.length ≤ int64Max := by
    rw [ConvChain.norm_length]
    exact (ConvSRT.plainSRT_parts hp).2.1
  have h1 := srtDest.conv false s hr hp
  have h2 := h1.next false ssaDest C07.trunc_chain_ms_cs p2
  have h3 := h2.next false srtDest C07.trunc_chain_cs_ms (ConvChain.plainSRT_norm_ssa _ p2 hlen)
  exact ⟨_, _, _, h1.via, h2.via, h3.via, h3.view, h3.view.trans h2.view.symm⟩

/-! ## SSA: which provisos are needed (witnesses)

Evaluated on the lines of the written text (`splitC '\n'`; the kernel does not evaluate the UTF-8 layer of
`viaSSA`) for cue lists without styles (`writeBare`, equal to `SSA.write` by `write_bare`: the kernel does
not evaluate the merge sort of the style table either). -/

/-- `WriteToSSA` on a cue list without style table -/
def writeBare (s : Subs) : SSA.Res Str :=
  SSA.writeCore (SSA.infoOfMeta s.metadata) (SSA.isV4plus s) [] (s.items.map fun it => (SSA.eventOfItem it).row (SSA.isV4plus s))

theorem write_bare (s : Subs) (hs : s.styles = []) (hne : s.items ≠ [])
    (hpos : ∀ it ∈ s.items, 0 ≤ it.startAt ∧ 0 ≤ it.endAt) : SSA.write s = writeBare s := by
  have hw : SSA.writerStyles s = [] := by simp [SSA.writerStyles, hs]
  have he : s.items.isEmpty = false := by cases h : s.items with
    | nil => exact absurd h hne
    | cons a r => rfl
  rw [SSA.write_eq, he, SSA.any_neg_false s.items hpos, hw]
  rfl

/-- `some b`: written and read; `b` = `convOk` holds and the view is the source's at centisecond resolution -/
def ssaOkL (s : Subs) : Option Bool :=
  match writeBare s with
  | .ok out => (match SSA.read (splitC '\n' out) with
    | .ok back => some (convOk false "ssa" s back && (viewOf back == truncView 10000000 (viewOf s)))
    | _ => none)
  | _ => none

/-- the same with `convOk` alone -/
def ssaOkC (s : Subs) : Option Bool :=
  match writeBare s with
  | .ok out => (match SSA.read (splitC '\n' out) with
    | .ok back => some (convOk false "ssa" s back)
    | _ => none)
  | _ => none

-- plain lines pass
example : ssaOkL (oneLine [{ text := "a".toList }, { text := " b".toList }]) = some true := by decide +kernel
-- needed: a comma in the style name shifts the columns of the Dialogue row, the reader fails
example : ssaOkL { items := [{ startAt := 0, endAt := 1000000000, style := some "a,b".toList,
                               lines := [{ items := [{ text := "a".toList }] }] }] } = none := by decide +kernel
-- needed: a line feed in the voice cuts the Dialogue line in two, the reader fails
example : ssaOkL { items := [{ startAt := 0, endAt := 1000000000,
                               lines := [{ voice := "x\ny".toList, items := [{ text := "a".toList }] }] }] } = none := by decide +kernel
-- needed for the view equality, not for `convOk`: a cue without text comes back with one empty line
example : ssaOkC { items := [{ startAt := 0, endAt := 1000000000, lines := [] }] } = some true ∧
          ssaOkL { items := [{ startAt := 0, endAt := 1000000000, lines := [] }] } = some false := by decide +kernel
-- needed for the view equality: `\N` in a text is a line break for the reader (`convOk` says nothing about
-- text that is not simple)
example : ssaOkL (oneLine [{ text := "a\\Nb".toList }]) = some false := by decide +kernel
-- provisos of the round-trip theorem only: a blank at the edge of a line is trimmed (the view disregards
-- white space); a run-level override block comes back as the run's `SSAEffect`
example : ssaOkL (oneLine [{ text := " a ".toList }]) = some true := by decide +kernel
example : ssaOkL (oneLine [{ text := "a".toList, attrs := some [("SSAEffect".toList, "{\\i1}".toList)] }]) = some true := by decide +kernel

/-- **`truncSTL` is the frame floor of C05.**  On instants that are not negative once the programme start
    is added, the truncation `Driver.convOk` expects of an STL destination is the frame floor the
    `stl.write` check expects (`Driver.STLD.floorFrame`, equal to the reader's `C05.frameInstant` by
    `C05.floorFrame_is_frameInstant`), shifted by the programme start -/
theorem truncSTL_is_floorFrame (fr : Nat) (hfr : fr = 25 ∨ fr = 30) (tcp t : Int) (h0 : 0 ≤ t + tcp) :
    truncSTL (fr : Int) tcp t = STLD.floorFrame fr (t + tcp) - tcp :=
  Conv2STL.truncSTL_floorFrame fr hfr tcp t h0

/-- **… and what the reader model computes**: the instant read back from the timecode written for
    `t + tcp`, minus the programme start read back from the GSI block, is `truncSTL fr tcp t` — when the
    programme start is frame-aligned (`frameInstant fr tcp = tcp`: it is when it was read from an STL file,
    and when it is 0).  For a programme start that is not frame-aligned the reader subtracts its frame
    floor while `truncSTL` subtracts `tcp` itself: the two differ by `tcp - frameInstant fr tcp`. -/
theorem truncSTL_is_frameInstant (fr : Nat) (hfr : fr = 25 ∨ fr = 30) (tcp t : Int) (h0 : 0 ≤ t + tcp)
    (h1 : t + tcp < 921600000000000) (ha : C05.frameInstant (fr : Int) tcp = tcp) :
    C05.frameInstant (fr : Int) (t + tcp) - C05.frameInstant (fr : Int) tcp = truncSTL (fr : Int) tcp t :=
  Conv2STL.truncSTL_frameInstant fr hfr tcp t h0 h1 ha

/-- the proviso is needed: with a programme start of 1 ns at 25 fps, the reader model returns 0 for a cue
    starting at 0 (both timecodes are `00:00:00:00`), while `truncSTL 25 1 0 = -1` -/
example : C05.frameInstant 25 (0 + 1) - C05.frameInstant 25 1 = 0 ∧ truncSTL 25 1 0 = -1 := by decide +kernel

/-- **What `convOk` needs for an STL destination**: the file read back shows the source's cues with
    instants at frame resolution (both modes of the check) -/
theorem convOk_of_view_stl (strict : Bool) (s back : Subs) (h : viewOf back = Conv2STL.truncViewSTL s) :
    convOk strict "stl" s back = true :=
  Conv2STL.convOk_of_view_stl strict s back h

/-- **C07, destination `stl`, display standard 0, written on day `now`.**  For EVERY cue list in range
    (instants in `[0, 24 h)`) and plain (`Conv2STL.PlainSTL`: every run simple text without a blank at either
    end, every line with a run, at most 112 encoded bytes per cue) — whatever attributes other formats left
    in it — whose metadata says display standard 0 and fits (`Conv2STL.stlMetaOK now`: the GSI block is
    well-formed, the programme start is not negative and frame-aligned, the writer's frame rate is the one
    the check derives): the writer model answers a file for the cues and metadata the stream hands it
    (`Driver.STLD.cueOf`, `metaOf`), the reader model reads the file, and the check's predicate holds on
    (the cue list, the cues read back), in both modes: same number of cues, same order, instants at frame
    resolution (`truncSTL`), same text lines -/
theorem stl_conv_on (now : STL.Date) (strict : Bool) (s : Subs) (hr : inRange "stl" s = true)
    (hp : Conv2STL.PlainSTL s = true)
    (hd : SRT.kvGet s.metadata "STLDisplayStandardCode" = some "0".toList)
    (hm : Conv2STL.stlMetaOK now s = true) :
    ∃ out md items, STL.write now (STLD.metaOf s.metadata) (s.items.map STLD.cueOf) = .ok out ∧
      STL.read false out = .ok (md, items) ∧ convOk strict "stl" s { items := items } = true ∧
      viewOf { items := items } = Conv2STL.truncViewSTL s := by
  obtain ⟨out, md, items, hw, hrd, hv⟩ := Conv2STL.stl_read_write now s hr hp hd hm
  exact ⟨out, md, items, hw, hrd, Conv2STL.convOk_of_view_stl strict s _ hv, hv⟩

/-- **C07, destination `stl`: `stl_conv_Statement` of `Props/C07doc.lean`** for `Plain := PlainSTLdoc`
    (plain, metadata that fits and carries both dates, so that the day of writing does not matter) -/
theorem stl_conv : stl_conv_Statement Conv2STL.PlainSTLdoc := by
  intro now s hr hp hd
  simp only [Conv2STL.PlainSTLdoc, Bool.and_eq_true] at hp
  obtain ⟨⟨hp1, hp2⟩, hp3⟩ := hp
  obtain ⟨out, md, items, hw, hrd, hc, _⟩ :=
    stl_conv_on now false s hr hp1 hd (Conv2STL.stlMetaOK_day STL.zeroDate now s hp2 hp3)
  exact ⟨out, md, items, hw, hrd, hc⟩

/-- what the view equality says cue by cue -/
theorem stl_view_facts (s back : Subs) (h : viewOf back = Conv2STL.truncViewSTL s) :
    back.items.length = s.items.length ∧
    ∀ (k : Nat) (a b : CItem), s.items[k]? = some a → back.items[k]? = some b →
      b.startAt = truncSTL (stlParams s).1 (stlParams s).2 a.startAt ∧
      b.endAt = truncSTL (stlParams s).1 (stlParams s).2 a.endAt ∧ (cueView b).lines = (cueView a).lines :=
  view_facts_of (truncSTL (stlParams s).1 (stlParams s).2) s back h

example : Conv2STL.PlainSTLdoc Conv2STL.exampleSTL = true ∧ inRange "stl" Conv2STL.exampleSTL = true ∧
    SRT.kvGet Conv2STL.exampleSTL.metadata "STLDisplayStandardCode" = some "0".toList :=
  ⟨Conv2STL.exampleSTL_doc, Conv2STL.exampleSTL_range, Conv2STL.exampleSTL_dsc⟩

/-- as `C07doc.srt_conv_ops`, destination STL -/
theorem stl_conv_ops (now : STL.Date) (strict : Bool) (src : Subs) (margs : List Subs) (ops : List String)
    (expected : List Item) (opsS : Subs)
    (_hops : applyOps (itemsOf src) (margs.map itemsOf) ops = some expected)
    (hcorr : vOfItems expected = viewOf opsS)
    (hr : inRange "stl" opsS = true) (hp : Conv2STL.PlainSTL opsS = true)
    (hd : SRT.kvGet opsS.metadata "STLDisplayStandardCode" = some "0".toList)
    (hm : Conv2STL.stlMetaOK now opsS = true) :
    ∃ out md items, STL.write now (STLD.metaOf opsS.metadata) (opsS.items.map STLD.cueOf) = .ok out ∧
      STL.read false out = .ok (md, items) ∧ convOk strict "stl" opsS { items := items } = true ∧
      viewOf { items := items } = (vOfItems expected).map (Conv2STL.truncCueSTL (stlParams opsS).1 (stlParams opsS).2) := by
  obtain ⟨out, md, items, hw, hrd, hc, hv⟩ := stl_conv_on now strict opsS hr hp hd hm
  refine ⟨out, md, items, hw, hrd, hc, ?_⟩
  rw [hv, Conv2STL.truncViewSTL, hcorr]

end C07doc2
end Astisub
