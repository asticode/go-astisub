import Astisub.Lemmas.SSAW2Final
import Astisub.Props.C04doc2
import Astisub.Driver.SSA

/-!
# C04 (W2) — SSA / ASS: the independent decoder accepts what the writer produces

`C04doc2.decode_write_Statement` says: for every cue list with `Spec.SSA.denote s = some want`, the text `WriteToSSA`
answers decodes (`Spec.SSA.decode`, the decoder written from the format description) to exactly `want`, and the view
of what the reader answers on that text is `want` too.  This file

* **refutes** the statement without a class (`decode_write_Statement_false`) — `denote` accepts cue lists the
  round trip cannot carry; six kernel-checked counterexamples, one per missing proviso (`needs_*`);
* **proves** it, both conjuncts, for **all** cue lists of the explicit decidable class
  `denote s = some want ∧ RepRead s ∧ Extra s want` (`decode_write`);
* restates it as the predicate the `ssa.write` stream evaluates (`Driver.SSAD.writeOk`) for the model's answer
  (`writeOk_model`, `writeOk_tokens`);
* gives the layers the proof is made of, each for all inputs of its own class: lines (`decoder_lines`), sections
  (`decoder_sections`), script info (`decoder_script_info`), a style cell / row / section (`decoder_style_cell`,
  `decoder_style_row`, `decoder_styles_section`), event text (`decoder_runs`, `decoder_text`), a `Dialogue:` row and the
  events section (`decoder_dialogue_row`, `decoder_events_section`), the document (`decoder_document`), and the bridge
  from `denote` to the writer's typed values (`denote_is_docG`).

The class.  `RepRead` (`Lemmas/SSA2Read.lean`) is the representability predicate of the write → read theorem
(`C04doc2.write_read`).  `Extra` (`Lemmas/SSAW2Defs.lean`) adds what only the *decoder* needs: 64-bit integers in the
denotation, floats that survive the decoder's float reader (`decFloat3`, `decTimer`: like `floatOK` / `timerOK` but
through `Spec.SSA.floatOf`, which refuses more than 40 characters), no `\n` / `\N` / CR inside a written line
(override blocks included) and no reference to a style whose identifier is empty.  `denote s = some want` does *not*
imply `RepRead s` (`needs_repRead`: an empty `Title` is representable for `denote`, and is read back as unset).

Floats: as in `C04doc` / `C04doc2` no general theorem about `FormatFloat` / `ParseFloat` is proved; the decidable
predicates `decFloat3` / `decTimer` are hypotheses (they imply `floatOK` / `timerOK`: `decFloat3_floatOK`,
`decTimer_timerOK`).
-/

namespace Astisub
namespace C04w2
open Go SSA SSAR SSAW
open Spec.SSA (decode view denote GDoc GRun)

/-- on `s`: `denote` answers, the writer answers, and the decoder does **not** return the denotation -/
def refutes (s : Subs) : Bool :=
  match denote s, write s with
  | some want, .ok out => decide (decode out ≠ some want)
  | _, _ => false

theorem refutes_spec {s : Subs} (h : refutes s = true) :
    ∃ out want, denote s = some want ∧ write s = .ok out ∧ decode out ≠ some want := by
  unfold refutes at h
  cases hd : denote s with
  | none => simp [hd] at h
  | some want =>
    cases hw : write s with
    | ok out =>
      simp only [hd, hw, decide_eq_true_eq] at h
      exact ⟨out, want, rfl, rfl, h⟩
    | err => simp [hd, hw] at h
    | unmodelled => simp [hd, hw] at h

/-- a cue with one plain run -/
def plainCue : CItem := { startAt := 0, endAt := 10000000, lines := [{ items := [mkRun (none, "x".toList)] }] }

/-- `\n` inside an override block: `denote` only looks at the texts; the decoder cuts the line there -/
def cexBreak : Subs :=
  { items := [{ startAt := 0, endAt := 10000000, lines := [{ items := [mkRun (some "{\\n}".toList, "x".toList)] }] }] }
/-- a carriage return inside an override block: the decoder ends the line there -/
def cexCR : Subs :=
  { items := [{ startAt := 0, endAt := 10000000, lines := [{ items := [mkRun (some "{\r}".toList, "x".toList)] }] }] }
/-- an empty `Title`: set for `denote`, unset for every reader -/
def cexTitle : Subs := { items := [plainCue], metadata := some [("Title".toList, [])] }
/-- `Timer` = 1e100: 101 characters when written; the decoder refuses floats of more than 40 characters -/
def cexTimer : Subs := { items := [plainCue], metadata := some [("SSATimer".toList, "f6103021453049119613".toList)] }
/-- `PlayResX` beyond 64 bits: `denote` counts in unbounded arithmetic -/
def cexInt : Subs := { items := [plainCue], metadata := some [("SSAPlayResX".toList, "99999999999999999999".toList)] }
/-- a cue referring to a style whose identifier is the empty string: the empty `Style` cell means "no style" -/
def cexRef : Subs :=
  { items := [{ plainCue with style := some [] }], styles := [{ id := [], attrs := some [("SSABold".toList, "true".toList)] }] }

/-- `denote` answers and `Extra` holds of its answer, as a `Bool` (for kernel evaluation on concrete cue lists) -/
def extraB (s : Subs) : Bool :=
  match denote s with
  | some want => decide (Extra s want)
  | none => false

theorem extraB_spec {s : Subs} (h : extraB s = true) : ∃ want, denote s = some want ∧ Extra s want := by
  unfold extraB at h
  cases hd : denote s with
  | none => simp [hd] at h
  | some want =>
    simp only [hd, decide_eq_true_eq] at h
    exact ⟨want, rfl, h⟩

/-- a cue list with comments, five script-info keys (a string with a colon, an integer, `Timer`, the script type), a
    style (boolean, font name with a space, float, colour, negative integer) and two cues (style reference, effect with
    `;`, margin, two lines, an override block, commas and a colon in the text; a cue with nothing set, ending after 1 h) -/
def exW2 : Subs :=
  { items := [{ startAt := 1000000000, endAt := 2500000000, style := some "Top".toList,
                attrs := some [("SSAEffect".toList, "Scroll up;20".toList), ("SSAMarginLeft".toList, "12".toList)],
                lines := [{ voice := "Bob".toList, items := [mkRun (none, "Hello, ".toList), mkRun (some "{\\i1}".toList, "world".toList)] },
                          { voice := "Bob".toList, items := [mkRun (none, "bye: now".toList)] }] },
              { startAt := 3000000000, endAt := 3723450000000,
                lines := [{ items := [mkRun (none, "second cue".toList)] }] }],
    styles := [{ id := "Top".toList, attrs := some [("SSABold".toList, "true".toList), ("SSAFontName".toList, "Arial Black".toList),
                                                     ("SSAFontSize".toList, "f4626322717216342016".toList),
                                                     ("SSAMarginVertical".toList, "-5".toList),
                                                     ("SSAPrimaryColour".toList, "00ffffff".toList)] }],
    metadata := some [("Comments".toList, "made by hand\nsecond comment".toList),
                      ("SSAPlayResX".toList, "384".toList),
                      ("SSAScriptType".toList, "v4.00+".toList),
                      ("SSATimer".toList, "f4636737291354636288".toList),
                      ("Title".toList, "An example: with colon".toList)] }

set_option maxRecDepth 100000 in
/-- what evaluation says of the six counterexamples and of `exW2` -/
theorem evaluated :
    ((refutes cexBreak = true ∧ RepFix cexBreak) ∧ (refutes cexCR = true ∧ RepRead cexCR) ∧
     (refutes cexTitle = true ∧ ¬ RepRead cexTitle) ∧ (refutes cexTimer = true ∧ RepFix cexTimer) ∧
     (refutes cexInt = true ∧ RepFix cexInt) ∧ (refutes cexRef = true ∧ RepFix cexRef)) ∧
    RepRead exW2 ∧ extraB exW2 = true := by
  unfold cexBreak cexCR cexTitle cexTimer cexInt cexRef exW2 plainCue
  decide_vector

/-- `Extra.breaks` is needed … -/
theorem needs_breaks : refutes cexBreak = true :=
  let ⟨⟨⟨h, _⟩, _, _, _, _, _⟩, _⟩ := evaluated; h
/-- … even `RepFix` does not exclude it -/
theorem needs_breaks_rep : RepFix cexBreak :=
  let ⟨⟨⟨_, h⟩, _, _, _, _, _⟩, _⟩ := evaluated; h
/-- `Extra.cr` is needed … -/
theorem needs_cr : refutes cexCR = true :=
  let ⟨⟨_, ⟨h, _⟩, _, _, _, _⟩, _⟩ := evaluated; h
/-- … `RepRead` only excludes line feeds -/
theorem needs_cr_rep : RepRead cexCR :=
  let ⟨⟨_, ⟨_, h⟩, _, _, _, _⟩, _⟩ := evaluated; h
/-- `RepRead` is needed … -/
theorem needs_repRead : refutes cexTitle = true :=
  let ⟨⟨_, _, ⟨h, _⟩, _, _, _⟩, _⟩ := evaluated; h
/-- … and does not follow from `denote` -/
theorem needs_repRead_rep : (denote cexTitle).isSome = true ∧ ¬ RepRead cexTitle := by
  obtain ⟨_, want, hd, _⟩ := refutes_spec needs_repRead
  exact ⟨by rw [hd]; rfl, (let ⟨⟨_, _, ⟨_, h⟩, _, _, _⟩, _⟩ := evaluated; h)⟩
/-- `Extra.timer` is needed … -/
theorem needs_timer : refutes cexTimer = true :=
  let ⟨⟨_, _, _, ⟨h, _⟩, _, _⟩, _⟩ := evaluated; h
/-- … `timerOK` (hence `RepFix`) holds of 1e100 -/
theorem needs_timer_rep : RepFix cexTimer :=
  let ⟨⟨_, _, _, ⟨_, h⟩, _, _⟩, _⟩ := evaluated; h
/-- `Extra.ints` is needed … -/
theorem needs_ints : refutes cexInt = true :=
  let ⟨⟨_, _, _, _, ⟨h, _⟩, _⟩, _⟩ := evaluated; h
/-- … `RepFix` holds (the model's `Atoi` clamps) -/
theorem needs_ints_rep : RepFix cexInt :=
  let ⟨⟨_, _, _, _, ⟨_, h⟩, _⟩, _⟩ := evaluated; h
/-- `Extra.styleRef` is needed … -/
theorem needs_styleRef : refutes cexRef = true :=
  let ⟨⟨_, _, _, _, _, ⟨h, _⟩⟩, _⟩ := evaluated; h
/-- … `RepFix` holds -/
theorem needs_styleRef_rep : RepFix cexRef :=
  let ⟨⟨_, _, _, _, _, ⟨_, h⟩⟩, _⟩ := evaluated; h

/-- **`C04doc2.decode_write_Statement` is false without a class.** -/
theorem decode_write_Statement_false : ¬ C04doc2.decode_write_Statement := by
  intro h
  obtain ⟨out, want, hd, hw, hne⟩ := refutes_spec needs_breaks
  exact hne (h cexBreak out want hd hw).1

/-- **W2.** For every cue list in the class — `denote s = some want`, `RepRead s`, `Extra s want` — if `WriteToSSA`
    answers `out` then the independent decoder, run on `out`, returns exactly `want`, and the view of the normal
    form `norm s` (what `ReadFromSSA` answers on `out`, `C04doc2.write_read`) is `want` too.
    This is `C04doc2.decode_write_Statement` with the two provisos made explicit. -/
theorem decode_write (s : Subs) (out : Str) (want : GDoc) (hd : denote s = some want) (hr : RepRead s)
    (hx : Extra s want) (hw : write s = .ok out) :
    decode out = some want ∧ view (norm s) = some want :=
  decode_write_both s out want hd hr hx hw

/-- the decoder accepts the written text (first conjunct alone) -/
theorem decoder_accepts_written (s : Subs) (out : Str) (want : GDoc) (hd : denote s = some want) (hr : RepRead s)
    (hx : Extra s want) (hw : write s = .ok out) : decode out = some want :=
  (decode_write s out want hd hr hx hw).1

/-- the written text contains no carriage return -/
theorem written_without_cr (s : Subs) (out : Str) (want : GDoc) (hd : denote s = some want) (hr : RepRead s)
    (hx : Extra s want) (hw : write s = .ok out) : '\r' ∉ out :=
  out_no_cr_extra s out want hd hr hx hw

/-- the written text is in the class `InClass` of the read clause (`C04read.read_view`) -/
theorem written_in_class (s : Subs) (out : Str) (want : GDoc) (hd : denote s = some want) (hr : RepRead s)
    (hx : Extra s want) (hw : write s = .ok out) : InClass out = true :=
  written_inClass s out want hd hr hx hw

/-- the writer does answer on every `RepRead` cue list with at least one cue: the hypothesis `write s = .ok out`
    can always be met -/
theorem writer_answers (s : Subs) (hr : RepRead s) (hne : s.items ≠ []) : ∃ out, write s = .ok out :=
  C04doc2.writer_answers s hr hne

/-- it is representable (so is `C04doc2.exDoc`, with two styles: `C04doc2.exDoc_repFix`) … -/
theorem exW2_rep : RepRead exW2 := let ⟨_, h, _⟩ := evaluated; h

/-- … `denote` answers on it and `Extra` holds -/
theorem exW2_extra : extraB exW2 = true := let ⟨_, _, h⟩ := evaluated; h

/-- the class is inhabited by a non-trivial cue list on which the writer answers -/
theorem class_nonempty : ∃ s want out, denote s = some want ∧ RepRead s ∧ Extra s want ∧ write s = .ok out := by
  obtain ⟨want, hd, hx⟩ := extraB_spec exW2_extra
  obtain ⟨out, hw⟩ := C04doc2.writer_answers exW2 exW2_rep (by decide)
  exact ⟨exW2, want, out, hd, exW2_rep, hx, hw⟩

set_option maxRecDepth 100000 in
/-- the float predicates hold of 20, 0.1, 100 and 1/3 (`Timer`), and exclude something: 1/3 as a style float
    (not exact to three decimals), 1e100 as `Timer` -/
example : decFloat3 0x4034000000000000 = true ∧ decFloat3 0x3FB999999999999A = true ∧ decFloat3 0x3FD5555555555555 = false ∧
    decTimer 0x4059000000000000 = true ∧ decTimer 0x3FD5555555555555 = true ∧ decTimer 0x54B249AD2594C37D = false := by
  decide +kernel

/-- the decoder's float predicates imply the model's -/
theorem decFloat3_floatOK (bits : Nat) (h : decFloat3 bits = true) : floatOK bits = true := floatOK_of_decFloat3 bits h

/-- likewise for `Timer` -/
theorem decTimer_timerOK (bits : Nat) (h : decTimer bits = true) : timerOK bits = true := timerOK_of_decTimer bits h

/-- `Driver.SSAD.writeOk` after the answer tokens have been parsed: `bytes` the written bytes, `back` what the
    library read from them, `bytes2` what it wrote for `back` -/
def writeOkModel (s : Subs) (bytes : List UInt8) (back : Subs) (bytes2 : List UInt8) : Bool :=
  match denote s with
  | none => true
  | some want =>
    (match Driver.decodeLine bytes with
     | some text => decode text == some want
     | none => false) &&
    view back == some want &&
    bytes2 == bytes

/-- **The model's answer to the `ssa.write` stream.** For a cue list of the class with `RepFix` (so that writing
    twice is defined): whenever the driver's model of `ReadFromSSA` is defined on the written bytes (`readBytes … =
    some r`: no line of 64 KiB, durations in range), it answers the normal form, writing the normal form gives the
    same text, and the three clauses of the predicate hold of these three values. -/
theorem writeOk_model (s : Subs) (out : Str) (want : GDoc) (hd : denote s = some want) (hf : RepFix s)
    (hx : Extra s want) (hw : write s = .ok out) (r : Res Subs)
    (hrb : Driver.SSAD.readBytes (Driver.utf8 out) = some r) :
    r = .ok (norm s) ∧ write (norm s) = .ok out ∧
      writeOkModel s (Driver.utf8 out) (norm s) (Driver.utf8 out) = true := by
  obtain ⟨h1, h2⟩ := decode_write s out want hd hf.1 hx hw
  refine ⟨readBytes_written s out want hd hf.1 hx hw r hrb, by rw [C04doc2.rewrite_fixpoint s hf, hw], ?_⟩
  unfold writeOkModel
  simp only [hd, Driver.decodeLine_utf8, h1, h2, beq_self_eq_true, Bool.and_self]

/-- **The driver's predicate itself.** `Driver.SSAD.writeOk s impl = true` for every answer `impl` whose tokens
    parse (`Proto.decBytes`, `Proto.decSubs`: the print / parse round trip of the line protocol is outside this
    file) into the model's answer: the bytes of `out`, the normal form, the same bytes again. -/
theorem writeOk_tokens (s : Subs) (out : Str) (want : GDoc) (hd : denote s = some want) (hf : RepFix s)
    (hx : Extra s want) (hw : write s = .ok out) (bytes : String) (rest : List String)
    (hb : Proto.decBytes bytes = some (Driver.utf8 out)) (hs : Proto.decSubs rest = some (norm s, [bytes])) :
    Driver.SSAD.writeOk s ("ok" :: bytes :: "ok" :: rest) = true := by
  obtain ⟨h1, h2⟩ := decode_write s out want hd hf.1 hx hw
  have hne : s.items.isEmpty = false := by
    cases hi : s.items with
    | nil => unfold write at hw; simp [hi] at hw
    | cons _ _ => rfl
  unfold Driver.SSAD.writeOk
  simp only [hne, Bool.false_eq_true, ↓reduceIte, hd, hb, hs, Driver.decodeLine_utf8, h1, h2, beq_self_eq_true,
    Bool.and_self]
  -- the driver first asks whether the cue list is outside the representable class (`ssaWriteOutside`): either way
  split <;> rfl

/-- **Lines.** The decoder's splitter cuts lines without LF / CR, each followed by LF, back into these lines. -/
theorem decoder_lines (ls : List Str) (h : ∀ l ∈ ls, '\n' ∉ l ∧ '\r' ∉ l) :
    Spec.SSA.splitLines (unlines ls) [] = ls := splitLines_unlines ls h

/-- **Shape.** Every line of the written document: `[Script Info]`, one `; c` per comment, one `Header: text` per
    set key, then the styles block (absent without styles) and the events block. -/
theorem written_document_lines (s : Subs) (out : Str) (h : write s = .ok out) :
    ∃ rows, allSome ((writerStyles s).map fun st => st.row (formatOf (formatFlds (writerStyles s)))) = some rows ∧
      out = unlines (docLinesW s rows) := written_lines s out h

/-- **Sections.** The trimmed non-blank lines of the written document are grouped into script info, styles
    (absent without styles) and events, each with exactly its body lines. -/
theorem decoder_sections (s : Subs) (rows : List Str) (hr : ∀ r ∈ rows, Trimmed r)
    (he : ∀ e ∈ s.items.map eventOfItem, Trimmed e.text) :
    Spec.SSA.sections (docLinesT s rows) =
      some (if rows = [] then
              [(.info, infoBody (infoOfMeta s.metadata)), (.events, eventsBodyT (isV4plus s) (s.items.map eventOfItem))]
            else
              [(.info, infoBody (infoOfMeta s.metadata)), (.styles, stylesBodyT (formatFlds (writerStyles s)) rows),
               (.events, eventsBodyT (isV4plus s) (s.items.map eventOfItem))]) :=
  sections_written s rows hr he

/-- **Script info.** On the body of the written block of a good script info (`InfoOK`, `Timer` surviving the
    decoder) the decoder collects exactly the comments and returns every set key, in table order, with the writer's
    typed value (integers through `Itoa`, `Timer` through `,`, strings as they are). -/
theorem decoder_script_info (b : Info) (h : InfoDec b) :
    Spec.SSA.commentsOf (infoBody b) = b.comments ∧ Spec.SSA.infoOf (infoBody b) = some (infoG b) :=
  infoOf_written b h

/-- **Style cell.** The decoder reads every good cell the writer emits (boolean `1`/`0`, colour `&Haabbggrr`,
    three-decimal float, integer, font name) as the writer's typed value; the cell is not empty. -/
theorem decoder_style_cell (f : Fld) (v : Val) (cell : Str) (h : CellOK f v) (hf : valFloat3 v = true)
    (hc : v.ssa = some cell) : Spec.SSA.valOf (gk f.kind) cell = some (gval v) ∧ cell ≠ [] :=
  valOf_cell f v cell h hf hc

/-- **Style row.** Under the Format `Name, <distinct columns covering the style's attributes>` the decoder reads the
    row `ssaStyle.string` writes as the style's name and exactly its set attributes (unset ones are empty cells). -/
theorem decoder_style_row (s : Style) (fs : List Fld) (row : Str) (hs : StyleOK s) (hnd : fs.Nodup)
    (hfl : ∀ f ∈ Fld.all, ∀ v, s.vals.get f = some v → valFloat3 v = true)
    (hcov : ∀ f, (s.vals.get f).isSome → f ∈ fs) (hrow : s.row (formatOf fs) = some row) :
    specStyleRow ((formatOf fs).map Spec.SSA.normCol) row = some (styleG s) :=
  specStyleRow_row s fs row hs hfl hcov hrow

/-- **Styles section.** `Format:` line and `Style:` rows of the writer → the styles, in order. -/
theorem decoder_styles_section (fs : List Fld) (hnd : fs.Nodup) (ss : List Style) (rows : List Str)
    (h : ∀ s ∈ ss, StyleOK s ∧ StyleTrimmed s ∧ (∀ f ∈ Fld.all, ∀ v, s.vals.get f = some v → valFloat3 v = true) ∧
      (∀ f, (s.vals.get f).isSome → f ∈ fs))
    (hrows : allSome (ss.map fun s => s.row (formatOf fs)) = some rows) :
    Spec.SSA.stylesOf (stylesBodyT fs rows) none = some (ss.map styleG) :=
  stylesOf_block fs hnd ss rows h hrows

/-- **Runs.** The decoder's override-block scanner cuts the concatenation of the runs of a good line (an optional
    plain first run, then `{…}` + brace-free text) back into these runs. -/
theorem decoder_runs (runs : List Run) (h : GoodLine runs) :
    Spec.SSA.runsOf ((SSA.lineStr runs).length + 2) (SSA.lineStr runs) none [] [] = some (runs.map grun) :=
  runsOf_goodLine runs h

/-- **Event text.** Lines (no `\n` / `\N`, nothing to trim) of good runs, joined with `\n`, are decoded into these
    lines of these runs. -/
theorem decoder_text (ls : List (List Run)) (hne : ls ≠ []) (hg : ∀ l ∈ ls, GoodLine l)
    (hl : ∀ l ∈ ls, LineOK (SSA.lineStr l)) :
    Spec.SSA.textOf (join "\\n".toList (ls.map SSA.lineStr)) = some (ls.map fun l => l.map grun) :=
  textOf_written ls hne hg hl

/-- **Dialogue row.** Under the writer's Format (v4 or v4+) the decoder reads the row `ssaEvent.string` writes for an
    event with good cells as: both instants in centiseconds, `Layer` (v4+) or `Marked` (v4), the three margins
    explicit, effect, name, style name, and the lines it decodes from the text. -/
theorem decoder_dialogue_row (v : Bool) (e : Event) (lines : List (List GRun)) (h : EventCells e)
    (ht : Spec.SSA.textOf e.text = some lines) :
    Spec.SSA.eventOf ((eventFormat v).map String.ofList) (e.row v) = some (eventR v e lines) :=
  eventOf_row v e lines h ht

/-- **Events section.** `Format:` line and `Dialogue:` rows of the writer → one raw event per row, in order. -/
theorem decoder_events_section (v : Bool) (es : List Event) (tl : Event → List (List GRun))
    (h : ∀ e ∈ es, EventCells e ∧ Trimmed e.text ∧ Spec.SSA.textOf e.text = some (tl e)) :
    Spec.SSA.eventsOf (eventsBodyT v es) none = some (es.map fun e => eventR v e (tl e)) :=
  eventsOf_block v es tl h

/-- **Document.** On the written text (without CR) the decoder returns `docG s`: comments, script info, styles
    sorted by name, one event per cue with its style reference resolved — all spelled out from the writer's typed
    values. -/
theorem decoder_document (s : Subs) (out : Str) (want : GDoc) (hd : denote s = some want) (hr : RepRead s)
    (hx : Extra s want) (hw : write s = .ok out) (hcr : '\r' ∉ out) : decode out = some (docG s) :=
  decode_docG s out want hd hr hx hw hcr

/-- **Bridge.** What `denote` says of a cue list of the class is that same document `docG s`: canonical texts and
    typed values agree (`true`/`false`, 8 hexadecimal digits, `f` + bits, decimal integers of 64 bits), the two sort
    orders give the same list, style references resolve to themselves. -/
theorem denote_is_docG (s : Subs) (want : GDoc) (hd : denote s = some want) (hr : RepRead s) (hx : Extra s want) :
    want = docG s := bridge s want hd hr hx

end C04w2
end Astisub
