import Astisub.Model.VTT
import Astisub.Lemmas.VTTRead2Step
import Astisub.Props.C01
import Astisub.Props.C16

/-!
# C02 — WebVTT codec fidelity

`VTT.read` / `VTT.write` model `ReadFromWebVTT` / `WriteToWebVTT` (`webvtt.go`, with the repairs D14 and
those of the reader named at the theorems below).  This file proves, for **all** inputs, the component laws the property
is made of:

* tag emission (the repair of D14): what one run leaves open is exactly what the next run
  assumes open, so the written tags are properly nested whatever the two stacks are;
* escaping: `&`, `<`, U+00A0 survive write → read, and written text contains no `<` (it can be
  taken neither for a tag nor for an inline timestamp);
* cue timing and the timestamp map's `LOCAL` value written for any `0 ≤ t < 100 h` read back as
  the instant truncated to the millisecond;
* numbering, empty list refused, every region is written (in identifier order) ahead of the cues;
* the block state machine: a blank line clears the tag stack and — outside an unfinished CSS
  block — ends the block; inside a cue every non-blank line without `-->` is cue text, whatever
  it starts with (the repair of the `NOTE`/`STYLE`/`Region:`/`X-TIMESTAMP-MAP` dispatch);
* the `cssColor` table and recogniser examples of the two regular expressions, by evaluation.

The whole-document statements are in `Props/C02doc.lean`, `Props/C02doc2.lean` (`read ∘ write`) and
`Props/C02read.lean`, `Props/C02read2.lean` (`read` against `Spec.VTT.decode`, `decode ∘ write`); the
`vtt.read` / `vtt.write` correspondence streams evaluate them on every generated case (partial: the
`x/net/html` tokenizer and the two regular expressions are hand-written models validated by `lib.html`,
`vtt.tagre`, `vtt.texttok`).
-/

namespace Astisub
namespace C02
open Go VTT List

theorem commonTags_le_left (a b : List Tag) : commonTags a b ≤ a.length := by
  fun_induction commonTags a b <;> simp <;> omega

theorem commonTags_comm (a b : List Tag) : commonTags a b = commonTags b a := by
  induction a generalizing b with
  | nil => cases b <;> simp [commonTags]
  | cons x xs ih =>
    cases b with
    | nil => simp [commonTags]
    | cons y ys =>
      unfold commonTags
      by_cases h : x = y
      · subst h; simp [ih ys]
      · have h' : ¬ y = x := fun e => h e.symm
        simp [h, h']

theorem commonTags_le_right (a b : List Tag) : commonTags a b ≤ b.length := by
  rw [commonTags_comm]; exact commonTags_le_left b a

theorem commonTags_self (a : List Tag) : commonTags a a = a.length := by
  induction a with
  | nil => simp [commonTags]
  | cons x xs ih => simp [commonTags, ih]

/-- the shared tags are the same tags (name, classes and annotation) in both stacks -/
theorem take_commonTags (a b : List Tag) : a.take (commonTags a b) = b.take (commonTags a b) := by
  fun_induction commonTags a b <;> simp_all

/-- **Tag emission.** After a run with stack `a` has closed the tags beyond what it shares with
    the next run (stack `b`), the tags still open are a prefix of `b`, and opening the tags of `b`
    beyond the shared ones yields exactly `b`: the stack the reader rebuilds for the next run. -/
theorem emission_nesting (a b : List Tag) :
    a.take (commonTags a b) ++ b.drop (commonTags b a) = b := by
  rw [take_commonTags, commonTags_comm b a, take_append_drop]

/-- two runs under the same stack are written without any tag between them -/
theorem emission_same (a : List Tag) : a.drop (commonTags a a) = [] := by
  rw [commonTags_self]; simp

/-- the first differing tag — same name or not — is closed and reopened (before the repair the writer compared
    names only: `[c.red]`,`[c.blue]` gave `<c.red>AB</c>`) -/
theorem emission_differ (x y : Tag) (xs ys : List Tag) (h : x ≠ y) : commonTags (x :: xs) (y :: ys) = 0 := by
  simp [commonTags, h]

/-- **Escaping round trip.** `&`, `<`, U+00A0 — and every other character — survive unchanged -/
theorem text_roundtrip (t : Str) : SRT.unescapeHTML (SRT.escapeHTML t) = t := C01.unescape_escape t

/-- written text contains no `<`: it opens neither a tag nor an inline timestamp -/
theorem text_no_lt (t : Str) : '<' ∉ SRT.escapeHTML t := C01.escape_no_lt t

/-- cue boundaries, inline timestamps and the `LOCAL` value of the timestamp map are all written
    with `formatVTT` and read with `parseVTT` -/
theorem instant_roundtrip (t : Int) (h0 : 0 ≤ t) (h1 : t < 360000000000000) :
    Duration.parseVTT (Duration.formatVTT t) = some (t - t % 1000000) := C16.vtt_roundtrip t h0 h1

/-- `Offset` arithmetic of the timestamp map: 90 kHz ticks to nanoseconds (no remainder lost on
    whole multiples of 9 ticks = 100 µs) -/
theorem offset_exact (k : Int) : Int.tdiv (9 * k * 1000000000) 90000 = k * 100000 := by
  have : 9 * k * 1000000000 = 90000 * (k * 100000) := by omega
  rw [this, Int.mul_tdiv_cancel_left]; decide

/-- **Numbering.** a cue without comments starts with its 1-based position in the list … -/
theorem cueBytes_number (s : Subs) (k : Nat) (it : CItem) (h : it.comments = []) :
    itoaNat (k + 1) <+: cueBytes s k it := by
  unfold cueBytes
  simp only [h, List.isEmpty_nil, if_true, nil_append, append_assoc]
  exact prefix_append _ _

/-- … and a cue with comments starts with its `NOTE` block, then a blank line, then the number -/
theorem cueBytes_comments (s : Subs) (k : Nat) (it : CItem) (h : it.comments ≠ []) :
    ("NOTE ".toList ++ (it.comments.map (· ++ ['\n'])).flatten ++ ['\n'] ++ itoaNat (k + 1)) <+: cueBytes s k it := by
  unfold cueBytes
  have : it.comments.isEmpty = false := by cases hc : it.comments <;> simp_all
  simp only [this, append_assoc]
  simp

/-- **Regions are defined.** every region of the cue list has its `Region: id=…` line in the
    regions block, which `write` places ahead of every cue -/
theorem region_written (s : Subs) (d : Def) (h : d ∈ s.regions) :
    regionBytes s d ∈ (VTT.sortDefs s.regions).map (regionBytes s) := by
  apply mem_map_of_mem
  unfold VTT.sortDefs
  exact (mergeSort_perm _ _).mem_iff.mpr h

theorem region_line_shape (s : Subs) (d : Def) : ("Region: id=".toList ++ d.id) <+: regionBytes s d := by
  unfold regionBytes
  simp only [append_assoc]
  exact (prefix_append_right_inj _).2 (prefix_append _ _)

/-- the layout of the written document: header (with the timestamp map), STYLE block, regions,
    blank line, cues — regions strictly before the first cue -/
theorem write_layout (s : Subs) (h : s.items ≠ []) :
    write s = some ((header s
      ++ (if (styleLines s).isEmpty then [] else "STYLE\n".toList ++ join ['\n'] (styleLines s) ++ "\n\n".toList)
      ++ ((VTT.sortDefs s.regions).map (regionBytes s)).flatten
      ++ (if s.regions.isEmpty then [] else ['\n'])
      ++ (s.items.zipIdx.map fun (it, k) => cueBytes s k it).flatten).dropLast) := by
  unfold write
  exact if_neg (mt List.isEmpty_iff.1 h)

/-- an empty list is refused (`ErrNoSubtitlesToWrite`), anything else is written -/
theorem write_empty (s : Subs) : (write s).isNone ↔ s.items = [] := by
  by_cases h : s.items = []
  · exact iff_of_true (by unfold write; rw [if_pos (List.isEmpty_iff.2 h)]; rfl) h
  · rw [write_layout s h]; exact iff_of_false Bool.false_ne_true h

/-- the state after a blank line -/
def blankStep (st : St) : St :=
  { st with block := if (st.block = .style && !st.styles.isEmpty && !(hasSuffix ['}'] (st.styles.getLast?.getD []))) = true then st.block else .none,
            tags := [] }

theorem step_blank (st : St) : step st (some []) = .ok (blankStep st) :=
  VTTRead.step_blank st [] rfl

/-- **Blank line.** the tag stack is cleared, no cue, comment or definition is lost -/
theorem blank_clears_tags (st : St) :
    (blankStep st).tags = [] ∧ flush (blankStep st) = flush st ∧ (blankStep st).comments = st.comments ∧
    (blankStep st).regions = st.regions ∧ (blankStep st).index = st.index := by
  simp [blankStep, flush]

/-- a blank line ends a cue, a comment and the no-block state; a CSS block ends when its last
    line ends with `}` (or when it is empty) -/
theorem blank_ends_block (st : St) (h : st.block ≠ .style ∨ st.styles = [] ∨ hasSuffix ['}'] (st.styles.getLast?.getD []) = true) :
    (blankStep st).block = .none := by
  unfold blankStep
  rcases h with h | h | h
  · simp [h]
  · simp [h]
  · simp [h]

/-- **Cue text.** inside a cue, a non-blank line without `-->` is parsed as text whatever it
    starts with (`NOTE `, `STYLE`, `Region: `, `X-TIMESTAMP-MAP` included) -/
theorem text_in_cue (st : St) (raw : Str) (hb : st.block = .text) (hne : trimSpace raw ≠ [])
    (harrow : contains arrow (trimSpace raw) = false) :
    step st (some raw) =
      match parseText (trimSpace raw) st.tags with
      | .ok (tags, l) =>
        .ok { st with tags := tags, cur := if l.items.isEmpty then st.cur else { st.cur with lines := st.cur.lines ++ [l] } }
      | .err => .err
      | .unmodelled => .unmodelled := by
  rw [VTTRead.step_trim]
  exact VTTRead.step_text st _ (trimSpace_idem raw) hne hb harrow

/-- outside a cue a comment line opens a comment block and is recorded -/
theorem note_opens_comment (st : St) (c : Str) (hb : st.block ≠ .text) (hc : trimSpace ("NOTE ".toList ++ c) = "NOTE ".toList ++ c) :
    step st (some ("NOTE ".toList ++ c)) = .ok { st with block := .comment, comments := st.comments ++ [c] } := by
  have hn : ¬ "NOTE ".toList ++ c = "NOTE".toList := by simp
  rw [VTTRead.step_note st _ hc hb (by unfold VTTRead.noteTest; rw [hasPrefix_append, Bool.or_true]), if_neg hn,
    trimPrefix, dropPrefix?_append, Option.getD_some]

theorem cssColor_table :
    cssColor "#00ffff".toList = "cyan".toList ∧ cssColor "#ffff00".toList = "yellow".toList ∧
    cssColor "#ff0000".toList = "red".toList ∧ cssColor "#ff00ff".toList = "magenta".toList ∧
    cssColor "#00ff00".toList = "lime".toList ∧ cssColor "#FF0000".toList = "red".toList ∧
    cssColor "#123456".toList = [] ∧ cssColor "red".toList = [] := by decide_vector

theorem tagRe_examples :
    tagRe "<c.red.big note>".toList = some ("c".toList, ".red.big".toList, "note".toList) ∧
    tagRe "<v Roger Bingham>".toList = some ("v".toList, [], "Roger Bingham".toList) ∧
    tagRe "<b>".toList = some ("b".toList, [], []) ∧
    tagRe "<a/b>".toList = some ("a/b".toList, [], []) ∧
    tagRe "<b x=\"1/2\">".toList = none := by decide_vector

theorem tsAt_examples :
    tsAt "00:01.500>x".toList = some ("00:01.500".toList, ['x']) ∧
    tsAt "100:00:01.500>".toList = some ("100:00:01.500".toList, []) ∧
    tsAt "0:00:01.500>".toList = none ∧ tsAt "00:01.50>".toList = none := by decide_vector

def lineOf (r : SRT.Res (List Tag × Line)) : Option Line :=
  match r with
  | .ok (_, l) => some l
  | _ => none

/-- a timestamp separated from its text by a tag is kept for that text (the repair of the reader) -/
theorem pending_timestamp :
    (lineOf (parseText "<00:01.500><b>x</b>".toList [])).map (fun l => l.items.map (·.startAt)) = some [1500000000] := by
  decide_vector

/-- the end of a voice span leaves the tag stack alone (the repair of `</v>`) -/
theorem voice_end_keeps_stack :
    (lineOf (parseText "<b><v Bob>x</v> y</b>".toList [])).map (fun l => l.voice) = some "Bob".toList ∧
    (lineOf (parseText "<b><v Bob>x</v> y</b>".toList [])).map
      (fun l => l.items.map fun it => (it.text, (tagsOfAttrs it.attrs).map (·.name))) = some [(['x'], [['b']]), ([' ', 'y'], [['b']])] := by
  decide_vector

end C02
end Astisub
