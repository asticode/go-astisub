import Astisub.Lemmas.OPSCut
import Astisub.Props.C12

/-!
# C10 — Fragment: cuts at every multiple of the period and preserves the timeline

`Ops.fragment` models `Subtitles.Fragment` (as repaired by the `fix:` commit): every cue is cut
by `Ops.cut` (the inner loop), then the list is ordered.  Statements hold for every list
(overlaps, nesting, duplicates, the cue that starts last not ending last, any length) and
every period `f > 0`.
-/

namespace Astisub
namespace C10
open Ops Spec List

/-- Per cue: the pieces are consecutive (`[s,b₁),[b₁,b₂),…,[b_k,e)`), carry the cue's content,
    contain no multiple of `f`, every cut point is a multiple of `f` strictly inside the cue,
    the original pointer is the last piece and the others are fresh copies. -/
theorem cut_spec (f : Int) (hf : 0 < f) (it : Item) : Pieces f it (cut f it) := OPS.cut_pieces f hf it

/-- … and the cue is cut at *every* multiple of `f` strictly inside it. -/
theorem cut_at_every_multiple (f : Int) (hf : 0 < f) (it : Item) (m : Int) (hm : isMultiple f m)
    (h1 : it.startAt < m) (h2 : m < it.endAt) : ∃ p ∈ (cut f it).dropLast, p.endAt = m := by
  have hm' := (OPS.mem_multiplesIn f hf it.startAt it.endAt m).mpr ⟨hm, h1, h2⟩
  rw [← OPS.cutAt_dropLast_ends it (multiplesIn f it.startAt it.endAt), ← OPS.cut_eq_cutAt f hf] at hm'
  obtain ⟨p, hp, rfl⟩ := mem_map.mp hm'
  exact ⟨p, hp, rfl⟩

/-- cues containing no multiple of `f` are left as they were -/
theorem cut_noop (f : Int) (hf : 0 < f) (it : Item) (h : NoMult f it) : cut f it = [it] := by
  have ⟨⟨k, hk⟩, _, h2⟩ := firstBoundary_spec f it.startAt hf
  exact cutLoop_ge f _ fun hlt => h ⟨k, hk ▸ h2, hk ▸ hlt⟩

/-- Timeline: the result is exactly (a rearrangement of) the pieces of every original cue —
    nothing lost, nothing invented. -/
theorem fragment_perm (f : Int) (hf : 0 < f) (xs : List Item) :
    fragment f xs ~ xs.flatMap (cut f) := by
  rw [fragment_eq f hf]; exact C12.order_perm _

/-- cues are ordered by start afterwards, whatever their order before -/
theorem fragment_ordered (f : Int) (hf : 0 < f) (xs : List Item) :
    (fragment f xs).Pairwise (fun a b => a.startAt ≤ b.startAt) := by
  rw [fragment_eq f hf]; exact C12.order_sorted _

/-- in particular when they were ordered before -/
theorem fragment_sorted (f : Int) (hf : 0 < f) (xs : List Item)
    (hs : xs.Pairwise (fun a b => a.startAt ≤ b.startAt)) :
    (fragment f xs).Pairwise (fun a b => a.startAt ≤ b.startAt) :=
  fragment_ordered f hf xs

/-- afterwards no cue strictly contains a multiple of `f` -/
theorem fragment_no_strict_multiple (f : Int) (hf : 0 < f) (xs : List Item) :
    ∀ p ∈ fragment f xs, ¬ ∃ k : Int, p.startAt < k * f ∧ k * f < p.endAt := by
  intro p hp
  have hp' := (fragment_perm f hf xs).mem_iff.mp hp
  obtain ⟨it, _, hpit⟩ := mem_flatMap.mp hp'
  exact (OPS.cut_pieces f hf it).noMult p hpit

/-- every cue of the result is a piece of an original cue and every piece of every original cue
    is in the result (with `cut_spec`: it carries that cue's text, style and region) -/
theorem fragment_pieces (f : Int) (hf : 0 < f) (xs : List Item) (p : Item) :
    p ∈ fragment f xs ↔ ∃ it ∈ xs, p ∈ cut f it := by
  rw [(fragment_perm f hf xs).mem_iff]
  exact mem_flatMap

/-- the number of cues afterwards: one per original cue plus one per cut point -/
theorem fragment_length (f : Int) (hf : 0 < f) (xs : List Item) :
    (fragment f xs).length = (xs.map (fun it => (cut f it).length)).sum := by
  rw [(fragment_perm f hf xs).length_eq, length_flatMap]

/-- a list in which no cue contains a multiple of `f` is only reordered (here: already ordered ⇒ unchanged) -/
theorem fragment_noop (f : Int) (hf : 0 < f) (xs : List Item)
    (hs : xs.Pairwise (fun a b => a.startAt ≤ b.startAt)) (hn : ∀ it ∈ xs, NoMult f it) :
    fragment f xs = xs := by
  have hfm : xs.flatMap (cut f) = xs := by
    clear hs
    induction xs with
    | nil => rfl
    | cons a rest ih =>
      rw [flatMap_cons, cut_noop f hf a (hn a mem_cons_self),
        ih fun it hit => hn it (mem_cons_of_mem _ hit)]
      rfl
  rw [fragment_eq f hf, hfm]
  exact C12.order_of_sorted xs hs

/-- a non-positive period or an empty list changes nothing (the repaired code returns early) -/
theorem fragment_guard (f : Int) (xs : List Item) (h : xs = [] ∨ f ≤ 0) : fragment f xs = xs := by
  simp [fragment, h]

end C10
end Astisub
