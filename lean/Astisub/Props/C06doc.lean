import Astisub.Lemmas.TeleFinal

/-!
# C06 (documents) — Teletext: the reader model agrees with the independent decoder, from data units to cues

`Props/C06.lean` proves the component laws (Hamming 8/4, parity, tables, one boxed row, immunity).  This file
composes them, for **all** inputs of the stated classes, into statements that relate the model of `teletext.go`
(`Teletext.*`, `Model/Teletext.lean`) to the independent decoder (`Spec.Teletext.*`, `Spec/Teletext.lean`):

1. **Framing** — `framing`, `framing_spec`, `framing_units`: the data-unit loop of `process` visits exactly the units the
   specification cuts out of the PES data field, in order, and only subtitle units reach the packet parser.
2. **Packet address** — `packet_address`: magazine and packet number of model and specification are equal.
3. **Packets** — `packet_header` (page number digits, subtitle flag (control bit C6, bit 3 of the byte at offset 5), serial flag, national option code),
   `packet_agree` (every packet kind): `parseDataUnit` on 44 bytes = `applyPacket` on the packet the specification
   decodes; `pes_agree`: the same for a whole PES payload.
4. **Rows** — `row_runs`: the raw runs of the model's row parser are the specification's runs (same attributes, text
   = codes decoded in the character set), for every row; `row_line` / `row_views`: the model's line and the
   specification's line of a row are built from the same non-blank raw runs; `row_item_text`: an item and its
   `VRun` carry the same text; `row_boxed`: the simplest rows, explicitly; `charset_solid`, `charset_agrees`: what is
   needed of the tables holds for every table the character decoder can build.
5. **Page life cycle** — `page_life` (model: start = time of the opening header, end = time of the next one),
   `page_step` / `stream_simulation` (model's page buffer and the specification's automaton stay related packet by
   packet and PES by PES), `stream_pages`, `stream_times`, `stream_key`.
6. **End to end from the PES level** — `stream`: for every stream in the specification's class (`inClass`,
   decidable), `runPES` and `Spec.Teletext.decode` are both determined by the same list of instances, and cue by
   cue, row by row by the same non-blank raw runs: the model turns each into a line item (`itemOf`), the
   specification into a `VRun` (`denote ∘ viewM`).
7. **What the driver judges** — `view_item`: the driver's `viewItem` reads the item of a raw run back as that run's
   `VRun`; `stream_view`: for every stream in the class, `Driver.TT.viewSubs (runPES page pes) = decode page pes`
   — the first conjunct of the driver's `specOk` for `teletext.pes`, with the model's answer in place of the
   implementation's; `read_view`: the same for `teletext.read` (`readLoop` on what the demultiplexer delivered).

Outside this file's reach (and decided on every run by the streams):
that the implementation's printed answer is the model's (`compareS`), the canonical print / parse round trip of
`Proto`, the demultiplexer, and the comparison with the harness' ground truth.

Vocabulary (all in `Lemmas/Tele*.lean`; the predicates a stream or a row is tested with — `Bytes`, `CellsOK`, `Plain`, `PacketOK`,
`PacketCells`, `RowsOK`, `Printable`, `Agrees` — are decidable, `Solid` through `solidB`; the simulation relations are not):
`Bytes l` — all elements below 256; `encodeUnits us` — the bytes `id, len, data…` of data units;
`isSubtitleUnit u` — id 3, at least 44 bytes, framing code 0xe4; `applyPacket t b p` — the model's page buffer after a
packet, written on the fields of the *specification's* packet `p`; `storedCell` — the value `parsePacketData` stores
for a received cell (`0xff` for a parity failure); `CellsOK` — cells are 7-bit values; `modelRuns c row` — the raw runs
(style, untrimmed text) the model hands to `appendTeletextLineItem`; `specRuns cells` — the specification's runs
before blank ones are dropped; `viewM` / `viewS c` — both as (attributes, text); `nonblank`, `itemOf`, `denote`;
`Solid c`, `Agrees key code c`; `PRel P b s`, `ARel a s` — the simulation relations; `pageOf`, `finalInsts`;
`cueRaw` — the non-blank raw runs of an instance, row by row; `modelOf` / `specOf` — the cue each side makes of them.
-/

namespace Astisub
namespace C06
open Go Teletext Generated.Teletext

/-- **Framing (specification side).**  The specification cuts the bytes of any list of complete data units
    (`id, len, len bytes` each) back into exactly that list; and whatever it cuts out of a data field is a list of
    units whose bytes are the field. -/
theorem framing_spec (us : List DUnit) :
    Spec.Teletext.dataUnits (encodeUnits us).length (encodeUnits us) = some us ∧
    ∀ (data : List Nat) (vs : List DUnit), Spec.Teletext.dataUnits data.length data = some vs → data = encodeUnits vs :=
  ⟨dataUnits_encodeUnits us _ (Nat.le_refl _), fun data vs h => dataUnits_some _ data vs h⟩

/-- **Framing (loop).**  Whenever the specification can cut a data field into units `us`, the model's data-unit loop
    hands exactly these units to `parseDataUnit`, in order (`feedUnits` is that left fold). -/
theorem framing_units (fuel : Nat) (b : Buf) (data : List Nat) (t : Int) (us : List DUnit)
    (h : Spec.Teletext.dataUnits fuel data = some us) :
    unitLoop fuel b data t = feedUnits t b us :=
  unitLoop_dataUnits fuel b data t us h

/-- **Framing.**  For a PES payload made of an EBU data identifier (0x10..0x1f) followed by complete data units `us`:
    `process` is the left fold of `parseDataUnit` over the *subtitle* units of `us` only (id 3, at least 44 bytes,
    framing code 0xe4) — units with other ids, short units, stuffing and units with another framing code are
    skipped — and it hands over the pages finished on the way. -/
theorem framing (b : Buf) (ident : Nat) (us : List DUnit) (t : Int) (hid : 0x10 ≤ ident ∧ ident ≤ 0x1f) :
    process b (ident :: encodeUnits us) t =
      ({ feedUnits t b (us.filter isSubtitleUnit) with done := [] }, (feedUnits t b (us.filter isSubtitleUnit)).done) := by
  rw [process_dataUnits b ident _ t us hid (dataUnits_encodeUnits us _ (Nat.le_refl _)), ← feedUnits_filter]

/-- non-vacuity: a subtitle unit and a stuffing unit -/
example : isSubtitleUnit (3, 0x02 :: 0xe4 :: List.replicate 42 0) = true ∧ isSubtitleUnit (0xff, [0xff, 0xff]) = false := by
  decide

/-- **Packet address.**  For every subtitle unit (all bytes, at least 44 of them, framing code 0xe4) whose two address
    bytes are error-free Hamming 8/4 codewords for the specification (values `a`, `b`): the model runs its packet
    parser on the 40 bytes after the address with the magazine `a mod 8` (0 ↦ 8) and the packet number
    `a div 8 + 2·b` — the specification's `specAddress a b`, which is what `decodePacket` uses. -/
theorem packet_address (b : Buf) (f : List Nat) (t : Int) (a b2 : Nat) (hb : Bytes f) (hlen : 44 ≤ f.length)
    (hfc : f.getD 1 0 = 0xe4)
    (ha : Spec.Teletext.hammingExact (f.getD 2 0) = some a) (hb2 : Spec.Teletext.hammingExact (f.getD 3 0) = some b2) :
    parseDataUnit b f 3 t = parsePacket b (f.drop 4) (specAddress a b2).1 (specAddress a b2).2 t ∧
    specAddress a b2 = (if a % 8 = 0 then 8 else a % 8, a / 8 + b2 * 2) := by
  refine ⟨?_, rfl⟩
  rw [parseDataUnit_address b f t a b2 hlen hfc (hamming_of_exact f hb 2 a ha) (hamming_of_exact f hb 3 b2 hb2),
    address_eq a b2 (hammingExact_lt _ _ ha) (hammingExact_lt _ _ hb2)]

/-- non-vacuity: a byte list and a valid codeword -/
example : Bytes [0x02, 0xe4, 0x0b] ∧ Spec.Teletext.hammingExact 0x0b = some 8 := by decide

/-- **Page header.**  For the 40 data bytes `d` of a header packet whose page-units, page-tens, and the control bytes
    at offsets 5 and 7 are error-free codewords for the specification (`u`, `tn`, `c5`, `c7`): the model's
    `parsePacketHeader` is `headerStep` on the specification's header fields — tens, units, subtitle flag
    `c5 div 8 mod 2`, magazine-serial flag `c7 mod 2`, national option code `c7 div 2`. -/
theorem packet_header (b : Buf) (d : List Nat) (mag : Nat) (t : Int) (u tn c5 c7 : Nat) (hb : Bytes d)
    (h0 : Spec.Teletext.hammingExact (d.getD 0 0) = some u) (h1 : Spec.Teletext.hammingExact (d.getD 1 0) = some tn)
    (h5 : Spec.Teletext.hammingExact (d.getD 5 0) = some c5) (h7 : Spec.Teletext.hammingExact (d.getD 7 0) = some c7) :
    parseHeader b d mag t = headerStep b t mag tn u (decide (c5 / 8 % 2 = 1)) (decide (c7 % 2 = 1)) (c7 / 2) :=
  parseHeader_eq b d mag t u tn c5 c7 (hamming_of_exact d hb 0 u h0) (hamming_of_exact d hb 1 tn h1)
    (hamming_of_exact d hb 5 c5 h5) (hamming_of_exact d hb 7 c7 h7)

/-- **Packet agreement.**  For every 44-byte data field (all bytes) that the specification decodes into a packet `p` —
    a page header, a row with its parity-checked cells, an X/28 or M/29 designation packet, or another packet — the
    model's `parseDataUnit` changes the page buffer exactly as `applyPacket` prescribes for `p`: the model's reaction
    depends on the 44 bytes only through the specification's reading of them. -/
theorem packet_agree (b : Buf) (f : List Nat) (t : Int) (p : Spec.Teletext.Packet) (hb : Bytes f)
    (h : Spec.Teletext.decodePacket f = some p) :
    parseDataUnit b f 3 t = applyPacket t b p :=
  parseDataUnit_decodePacket b f t p hb h

/-- what `decodePacket` returns is well formed: magazine 1..8, rows 1..25, designation packets 28/29, 7-bit cells -/
theorem packet_wellformed (f : List Nat) (p : Spec.Teletext.Packet) (h : Spec.Teletext.decodePacket f = some p) :
    PacketOK p ∧ PacketCells p :=
  ⟨decodePacket_ok f p h, decodePacket_cells f p h⟩

/-- **PES agreement.**  For every PES payload (all bytes) that the specification cuts into data units and decodes into
    the packets `ps`: `process` leaves the page buffer where `applyPacket` leaves it after `ps` (finished pages handed
    over). -/
theorem pes_agree (b : Buf) (payload : List Nat) (t : Int) (ps : List Spec.Teletext.Packet) (hb : Bytes payload)
    (hdone : b.done = []) (h : Spec.Teletext.pesPackets payload = some ps) :
    process b payload t = ({ ps.foldl (applyPacket t) b with done := [] }, (ps.foldl (applyPacket t) b).done) :=
  process_pesPackets b payload t ps hb hdone h

/-- **Run agreement.**  For every row of received cells (7-bit values or parity failures) and every character table
    `c`: the raw runs of the model's row parser on the stored row (`0xff` for a parity failure) are the
    specification's runs on the cells — same number of runs, same colour / double height / width / size, and each
    text is the run's character codes decoded in `c`.  Spacing attributes (colours, sizes, start / end box), text
    outside the box, control codes and parity failures are covered. -/
theorem row_runs (c : Charset) (cells : List (Option Nat)) (hx : CellsOK cells) :
    (modelRuns c (cells.map storedCell)).map viewM = (specRuns cells).map (viewS c) ∧
    Spec.Teletext.rowRuns cells = some ((specRuns cells).filter fun r => r.codes.any (· != 0x20)) :=
  ⟨modelRuns_specRuns c cells hx, rowRuns_specRuns cells⟩

/-- **The model's line.**  `parseTeletextRow` returns one item (`itemOf`) per non-blank raw run, and no line when
    there is none. -/
theorem row_line (c : Charset) (row : List Nat) :
    parseRow c row =
      (let items := ((modelRuns c row).filter fun r => nonblank (viewM r)).map itemOf
       if items.isEmpty then none else some { items := items }) :=
  parseRow_items c row

/-- **The specification's line.**  For a solid table `c` that agrees with the specification's look-up for
    (key, code): the runs the specification views for a row are the denotations of the model's non-blank raw runs —
    the same list `row_line` makes items of. -/
theorem row_views (key code : Nat) (c : Charset) (cells : List (Option Nat)) (hs : Solid c) (ha : Agrees key code c)
    (hx : CellsOK cells) :
    (Spec.Teletext.rowRuns cells).bind (fun runs => Spec.Teletext.mapM (Spec.Teletext.viewRun key code) runs) =
      some ((((modelRuns c (cells.map storedCell)).filter fun r => nonblank (viewM r)).map viewM).map denote) :=
  Teletext.row_views key code c cells hs ha hx

/-- **Item and `VRun` of a raw run.**  For every raw run of a row: the item's text (Go's `TrimSpace`) is the `VRun`'s
    text (blanks stripped), the `VRun`'s attributes are those the style denotes, and its blank counts are the numbers
    the item records in `TeletextSpacesBefore` / `TeletextSpacesAfter`. -/
theorem row_item_text (c : Charset) (hs : Solid c) (cells : List (Option Nat)) (hx : CellsOK cells) :
    ∀ r ∈ modelRuns c (cells.map storedCell),
      (itemOf r).text = (denote (viewM r)).text ∧ (denote (viewM r)).attr = attrOf r.1 ∧
      (denote (viewM r)).before = countLeading r.2 ∧ (denote (viewM r)).after = countLeading r.2.reverse := by
  intro r hr
  obtain ⟨codes, hp, he⟩ := modelRuns_decoded c cells hx r hr
  exact item_denote c hs r codes hp he

/-- **Boxed rows (`C06_row_text` on both sides).**  A row with one start box and otherwise only plain cells
    (parity failures or values from 0x10 on): the specification sees one run with default attributes holding the
    character codes after the start box (`textCodes`), the model one item holding these codes decoded. -/
theorem row_boxed (c : Charset) (pre cs : List (Option Nat)) (hp : ∀ x ∈ pre, Plain x) (hc : ∀ x ∈ cs, Plain x)
    (hx : CellsOK cs) :
    Spec.Teletext.rowRuns (pre ++ some 0xb :: cs) =
      some (if (textCodes cs).any (· != 0x20) then [{ attr := {}, codes := textCodes cs }] else []) ∧
    parseRow c ((pre ++ some 0xb :: cs).map storedCell) =
      (let items := appendItem [] (dec c (textCodes cs)) {}
       if items.isEmpty then none else some { items := items }) :=
  ⟨rowRuns_boxed pre cs hp hc, parseRow_boxed c pre cs hp hc hx⟩

/-- **Every table the character decoder can build is solid**: code 0x20 is the blank and every other code
    0x21..0x7f is one character that is not white space — so `TrimSpace` strips exactly the blanks and a decoded text
    is blank exactly when all its codes are 0x20. -/
theorem charset_solid (triplet code : Nat) : Solid (computeCharset triplet code) :=
  computeCharset_solid triplet code

/-- **Table agreement for any triplet.**  For every designation the package knows, whatever the other bits of the
    X/28 – M/29 triplet: the table `updateCharset` builds and the specification's look-up give the same characters on
    0x20..0x7f. -/
theorem charset_agrees (triplet code : Nat) (hk : (lookupCharset (keyOf triplet) code).isSome = true) :
    Agrees (keyOf triplet) code (computeCharset triplet code) :=
  computeCharset_agrees triplet code hk

/-- non-vacuity: a row with colour, box and a parity failure; the default table is solid and agrees -/
example : CellsOK [some 0x03, some 0x0b, some 0x48, none, some 0x49, some 0x0a] := by decide
example : Solid latinG0 ∧ Agrees 0 0 (computeCharset 0 0) := ⟨solid_latin, computeCharset_agrees 0 0 (by decide)⟩
example : Plain none ∧ Plain (some 0x41) ∧ ¬ Plain (some 0x03) := by decide
example : PacketOK (.row 8 20 [some 0x48, none]) ∧ PacketCells (.row 8 20 [some 0x48, none]) ∧
    RowsOK [(20, [some 0x48]), (22, [none, some 0x7f])] ∧ Printable [0x20, 0x48, 0x7f] := by decide

/-- **Life of a page instance (model).**  With a page selected: a header of that page at `t1`, then any row packets,
    then the next header of that page at `t2`.  Exactly one more page is finished than after the first header; it
    started at `t1`, ends at `t2` and has the first header's national option code; a new instance with the second
    header's code is open from `t2`. -/
theorem page_life (b : Buf) (t1 t t2 : Int) (tens units : Nat) (sub1 ser1 sub2 ser2 : Bool) (code1 code2 : Nat)
    (rows : List Spec.Teletext.Packet)
    (hsel : ¬ (b.mag = 0 ∧ b.page = 0)) (ht : tens ≤ 9) (hu : units ≤ 9) (hp : tens * 10 + units = b.page)
    (hrows : ∀ p ∈ rows, isRow p = true) :
    let b1 := applyPacket t1 b (.header b.mag tens units sub1 ser1 code1)
    let b2 := rows.foldl (applyPacket t) b1
    let b3 := applyPacket t2 b2 (.header b.mag tens units sub2 ser2 code2)
    ∃ p, b3.done = b1.done ++ [p] ∧ p.start = t1 ∧ p.end_ = t2 ∧ p.charsetCode = code1 ∧
      b3.current = some { charsetCode := code2, start := t2 } ∧ b3.receiving = true :=
  two_headers b t1 t t2 tens units sub1 ser1 sub2 ser2 code1 code2 rows hsel ht hu hp hrows

/-- **One packet keeps model and specification together.**  If the page buffer `b` and the automaton state `s` are
    related (`PRel`: same selected page, same open flag, the page under construction is the open instance, finished
    pages = closed instances with their ends, remembered triplets carry designations the specification met), then
    after any well-formed packet they still are — unless the specification leaves its class (a row sent twice in
    one instance). -/
theorem page_step (P : List Page) (b : Buf) (s : Spec.Teletext.St) (h : PRel P b s) (t : Int)
    (p : Spec.Teletext.Packet) (hp : PacketOK p) :
    (Spec.Teletext.step t s p).bad = true ∨ PRel P (applyPacket t b p) (Spec.Teletext.step t s p) :=
  h.packet t p hp

/-- **Stream simulation.**  From the initial states for a page option below 25600 (0 = automatic), after any list of
    PES packets (all bytes) that the specification can cut and decode, the model's accumulator and the
    specification's automaton are related (`ARel`), unless the specification has left its class. -/
theorem stream_simulation (page : Nat) (pes : List (Int × List Nat)) (pk : List (Int × List Spec.Teletext.Packet))
    (hpage : page < 25600) (hb : ∀ p ∈ pes, Bytes p.2) (hpk : specPackets pes = some pk) :
    (runSpec { sel := Spec.Teletext.selOf page } pk).bad = true ∨
      ARel (runAcc { buf := newBuf page } pes) (runSpec { sel := Spec.Teletext.selOf page } pk) :=
  stream_sim pes pk _ _ (ARel.init page hpage) hb hpk

/-- **The pages the model parses are the specification's instances**: finished pages with the times of the closing
    headers, then the open one ending at the last presentation time. -/
theorem stream_pages (a : Acc) (s : Spec.Teletext.St) (h : ARel a s) :
    finalPages a = (finalInsts s (a.last.getD 0)).map fun ie => pageOf ie.1 ie.2 :=
  finish_pages a s h

/-- **Time origin and last time** are the minimum and the maximum presentation time, as the specification
    computes them. -/
theorem stream_times (page : Nat) (t0 : Int) (d0 : List Nat) (pes : List (Int × List Nat)) :
    (runAcc { buf := newBuf page } ((t0, d0) :: pes)).first = some ((pes.map (·.1)).foldl min t0) ∧
    (runAcc { buf := newBuf page } ((t0, d0) :: pes)).last = some ((pes.map (·.1)).foldl max t0) :=
  first_last page t0 d0 pes

/-- **Character set designation.**  When the designations the specification met do not contradict each other, the
    table key `updateCharset` derives from the remembered X/28 – M/29 triplets is the specification's. -/
theorem stream_key (a : Acc) (s : Spec.Teletext.St) (h : ARel a s) (hk : s.keys.any (· != s.keys.headD 0) = false) :
    keyOf (tripletOf a.buf.x28 a.buf.m29) = s.keys.headD 0 :=
  key_agrees a s h hk

/-- The specification's class of streams, decidable: the page option is below 25600, payloads are bytes, every payload
    is cut into complete data units whose subtitle units decode (no Hamming errors in protected bytes), no row is
    sent twice in an instance, the character set designations do not contradict each other, and the package knows
    the designation of every instance that has rows. -/
def inClass (page : Nat) (pes : List (Int × List Nat)) : Bool :=
  decide (page < 25600) && pes.all (fun p => decide (Bytes p.2)) &&
  match specPackets pes, pes with
  | some pk, (t0, _) :: rest =>
    let s := runSpec { sel := Spec.Teletext.selOf page } pk
    !s.bad && !s.keys.any (· != s.keys.headD 0) &&
    ((finalInsts s ((rest.map (·.1)).foldl max t0)).filter fun ie => !ie.1.rows.isEmpty).all fun ie =>
      (lookupCharset (s.keys.headD 0) ie.1.code).isSome
  | _, _ => false

theorem inClass_elim {page : Nat} {t0 : Int} {d0 : List Nat} {pes : List (Int × List Nat)}
    (h : inClass page ((t0, d0) :: pes) = true) : ∃ pk, InClass page t0 d0 pes pk := by
  unfold inClass at h
  cases hpk : specPackets ((t0, d0) :: pes) with
  | none => simp [hpk] at h
  | some pk =>
    simp only [hpk, Bool.and_eq_true, decide_eq_true_eq, List.all_eq_true, Bool.not_eq_true'] at h
    obtain ⟨⟨hpage, hb⟩, ⟨hbad, hkeys⟩, hknown⟩ := h
    exact ⟨pk, hpage, hb, hpk, hbad, hkeys, hknown⟩

/-- **End to end.**  For every non-empty stream of PES packets in the specification's class, with `s` the final state
    of the specification's automaton, `first` / `last` the minimum / maximum presentation time, `key` the
    designation, and `L` the instances that have rows (finished ones with the time of their closing header, the
    open one with `last`):

    * the model returns one cue per instance of `L`, in order: start and end are the instance's relative to `first`,
      and the lines are, row by row in row order, the items (`itemOf`) of the row's non-blank raw runs
      (`modelOf`, `cueRaw`);
    * the specification denotes one cue per instance of `L`: the same times, and the lines are the `VRun`s
      (`denote ∘ viewM`) of *the same* raw runs (`specOf`), normalised.

    By `row_item_text` an item and the `VRun` of a raw run carry the same text; by `view_item` the attributes and blank counts
    the driver reads out of the item are the `VRun`'s. -/
theorem stream (page : Nat) (t0 : Int) (d0 : List Nat) (pes : List (Int × List Nat))
    (h : inClass page ((t0, d0) :: pes) = true) :
    ∃ pk, specPackets ((t0, d0) :: pes) = some pk ∧
      let s := runSpec { sel := Spec.Teletext.selOf page } pk
      let first := (pes.map (·.1)).foldl min t0
      let last := (pes.map (·.1)).foldl max t0
      let key := s.keys.headD 0
      let L := (finalInsts s last).filter fun ie => !ie.1.rows.isEmpty
      runPES page ((t0, d0) :: pes) = { items := L.map (modelOf key first) } ∧
      Spec.Teletext.decode page ((t0, d0) :: pes) = some (L.map (specOf key first)) := by
  obtain ⟨pk, hc⟩ := inClass_elim h
  exact ⟨pk, hc.packets, stream_agree hc⟩

theorem stream_empty (page : Nat) : runPES page [] = { items := [] } ∧ Spec.Teletext.decode page [] = some [] :=
  Teletext.stream_empty page

/-- a stream byte carrying a Hamming 8/4 protected nibble / an odd-parity character (the specification's encoders) -/
def ham (n : Nat) : Nat := Spec.Teletext.reverseBits (Spec.Teletext.hammingEncode n)
def par (c : Nat) : Nat := Spec.Teletext.parityEncode c

/-- a subtitle data unit: magazine (1..8), packet number, 40 data bytes -/
def unitOf (mag y : Nat) (d : List Nat) : DUnit := (3, [0x02, 0xe4, ham (mag % 8 + y % 2 * 8), ham (y / 2)] ++ d)

def headerData (tens units c5 c7 : Nat) : List Nat :=
  [ham units, ham tens, ham 0, ham 0, ham 0, ham c5, ham 0, ham c7] ++ List.replicate 32 (par 0x20)

def rowData (cs : List Nat) : List Nat := (cs ++ List.replicate (40 - cs.length) 0x20).map par

/-- page 888 with the subtitle flag at 1000 ns, a stuffing unit, row 20 "yellow, start box, HI, end box"; the next header
    of page 888 at 3000 ns -/
def exampleStream : List (Int × List Nat) :=
  [ (1000, 0x10 :: encodeUnits [unitOf 8 0 (headerData 8 8 8 0), (0xff, [0xff, 0xff]),
                                unitOf 8 20 (rowData [0x0b, 0x0b, 0x03, 0x48, 0x49, 0x0a])]),
    (3000, 0x10 :: encodeUnits [unitOf 8 0 (headerData 8 8 8 0)]) ]

example : inClass 888 exampleStream = true ∧ inClass 0 exampleStream = true := by decide +kernel

/-- **`viewItem ∘ itemOf`.**  For a raw run whose colour (if any) is one of the eight teletext colours, the driver reads
    the line item `appendTeletextLineItem` builds back as: the attributes the style denotes, the item's trimmed text,
    and the blank counts — through the sorted key/value list, the colour table and `toString` / `String.toNat?`. -/
theorem view_item (r : MRun) (h : ∀ col, r.1.color = some col → col < 8) :
    Driver.TT.viewItem (itemOf r) =
      some { attr := attrOf r.1, text := Go.trimSpace r.2, before := countLeading r.2, after := countLeading r.2.reverse } :=
  viewItem_itemOf r h

/-- **The driver's view of the model's answer is what the stream denotes.**  For every non-empty stream in the
    specification's class, the cues the driver reads out of the model's answer (`viewSubs`) are exactly the cues of
    the independent decoder, which exist. -/
theorem stream_view (page : Nat) (t0 : Int) (d0 : List Nat) (pes : List (Int × List Nat))
    (h : inClass page ((t0, d0) :: pes) = true) :
    Driver.TT.viewSubs (runPES page ((t0, d0) :: pes)) = Spec.Teletext.decode page ((t0, d0) :: pes) ∧
    (Spec.Teletext.decode page ((t0, d0) :: pes)).isSome = true := by
  obtain ⟨pk, hc⟩ := inClass_elim h
  exact ⟨viewSubs_runPES hc, by rw [(stream_agree hc).2]; rfl⟩

theorem stream_view_empty (page : Nat) : Driver.TT.viewSubs (runPES page []) = Spec.Teletext.decode page [] := rfl

/-- **`teletext.read`.**  On what the demultiplexer delivered in the reading pass (ended by `ErrNoMorePackets`), the
    reader's data loop is `runPES` on the PES packets of the chosen PID with stream id 0xbd and a time stamp (the
    driver's `pesOf`); so for every such record whose PES packets are in the specification's class, the driver's view
    of the model's answer is what the stream denotes. -/
theorem read_view (page pid : Nat) (pass : List Data) :
    readLoop page pid pass true = .ok (runPES page (Driver.TT.pesOf pid pass)) ∧
    ∀ t0 d0 pes, Driver.TT.pesOf pid pass = (t0, d0) :: pes → inClass page ((t0, d0) :: pes) = true →
      Driver.TT.viewSubs (runPES page (Driver.TT.pesOf pid pass)) = Spec.Teletext.decode page (Driver.TT.pesOf pid pass) := by
  refine ⟨readLoop_runPES page pid pass, ?_⟩
  intro t0 d0 pes he h
  rw [he]
  exact (stream_view page t0 d0 pes h).1

end C06
end Astisub
