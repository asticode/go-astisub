import Mathlib.Tactic.Linarith
import Mathlib.Tactic.Positivity
import Mathlib.Tactic.NormNum
import Mathlib.Algebra.Order.Floor.Ring
import Mathlib.Data.Rat.Floor
import Astisub.Model.LinCorr

/-!
# C15 — Linear correction is the affine map through the two reference points

`LinCorr.apply` (Model/LinCorr.lean) evaluates the Go expression tree of
`Subtitles.ApplyLinearCorrection` with the executable binary64 model `Go.Float53`, which the
`lib.f53` / `ops.lincorr` streams compare bit for bit with the hardware.

The error analysis below is done over an *abstract* rounding function satisfying the standard
model of floating-point arithmetic (`FloatModel`: monotone, relative error ≤ 2⁻⁵³, exact on
integers up to 2⁵³) — it therefore holds for IEEE-754 binary64 round-to-nearest-even and for any
other rounding with these properties. That `Go.Float53` is such a function, and the same bounds
for the executable tree `LinCorr.apply1` itself, are proved in `Props/C15float.lean`
(`binary64`, `close_exec`, `monotone_exec`, `length_scaled_exec`); what remains assumed is that
the hardware's float64 equals the executable model (bit-for-bit correspondence, `lib.f53`).
-/

namespace Astisub
namespace C15

/-- unit round-off of binary64 -/
def u : ℚ := 1 / 2 ^ 53

structure FloatModel where
  fl : ℚ → ℚ
  mono : ∀ x y, x ≤ y → fl x ≤ fl y
  err : ∀ x, |fl x - x| ≤ |x| * u
  exactInt : ∀ n : ℤ, |n| ≤ 2 ^ 53 → fl n = n

/-- non-vacuity: exact arithmetic is a `FloatModel` (so is IEEE-754 round-to-nearest-even) -/
def exactModel : FloatModel where
  fl := id
  mono := fun _ _ h => h
  err := fun x => by simp only [id, sub_self, abs_zero]; exact mul_nonneg (abs_nonneg _) (by unfold u; positivity)
  exactInt := fun _ _ => rfl

/-- Go's float → integer conversion: toward zero -/
def tr (x : ℚ) : ℤ := if 0 ≤ x then ⌊x⌋ else ⌈x⌉

theorem tr_err (x : ℚ) : |(tr x : ℚ) - x| < 1 := by
  unfold tr
  split
  · have h1 := Int.floor_le x
    have h2 := Int.lt_floor_add_one x
    rw [abs_lt]; constructor <;> linarith
  · have h1 := Int.le_ceil x
    have h2 := Int.ceil_lt_add_one x
    rw [abs_lt]; constructor <;> linarith

theorem tr_abs_lt (x : ℚ) : |(tr x : ℚ)| < |x| + 1 := by
  linarith [tr_err x, abs_sub_abs_le_abs_sub (tr x : ℚ) x]

theorem tr_neg (x : ℚ) : tr (-x) = -tr x := by
  unfold tr
  rcases lt_trichotomy x 0 with h | rfl | h
  · rw [if_pos (by linarith), if_neg (by linarith), Int.floor_neg]
  · simp
  · rw [if_neg (by linarith), if_pos (by linarith), Int.ceil_neg]

theorem tr_mono {x y : ℚ} (h : x ≤ y) : tr x ≤ tr y := by
  unfold tr
  by_cases hx : 0 ≤ x
  · have hy : 0 ≤ y := le_trans hx h
    simp only [hx, hy, ↓reduceIte]
    exact Int.floor_le_floor h
  · by_cases hy : 0 ≤ y
    · simp only [hx, hy, ↓reduceIte]
      have h1 : ⌈x⌉ ≤ 0 := Int.ceil_le.mpr (by have := not_le.mp hx; exact_mod_cast le_of_lt this)
      have h2 : 0 ≤ ⌊y⌋ := Int.floor_nonneg.mpr hy
      omega
    · simp only [hx, hy, ↓reduceIte]
      exact Int.ceil_le_ceil h

/-- the Go expression tree over an abstract rounding function (conversions of the integer
    operands are exact below 2⁵³) -/
def slopeA (F : FloatModel) (a1 d1 a2 d2 : ℤ) : ℚ := F.fl (((d2 - d1 : ℤ) : ℚ) / ((a2 - a1 : ℤ) : ℚ))

def interceptA (F : FloatModel) (a1 d1 a2 d2 : ℤ) : ℤ :=
  tr (F.fl ((d1 : ℚ) - F.fl (slopeA F a1 d1 a2 d2 * a1)))

def applyA (F : FloatModel) (a1 d1 a2 d2 : ℤ) (t : ℤ) : ℤ :=
  tr (F.fl (slopeA F a1 d1 a2 d2 * t)) + interceptA F a1 d1 a2 d2

/-- the exact affine map through `(a1, d1)` and `(a2, d2)` -/
def exact (a1 d1 a2 d2 : ℤ) (t : ℤ) : ℚ := d1 + ((t : ℚ) - a1) * (((d2 - d1 : ℤ) : ℚ) / ((a2 - a1 : ℤ) : ℚ))

/-- 24 h in nanoseconds -/
def day : ℚ := 86400000000000

theorem u_pos : (0 : ℚ) < u := by unfold u; positivity

theorem u_small : u ≤ 1 / 1000000000000000 := by unfold u; norm_num

theorem day_mul_u : day * u ≤ 1 / 100 := by unfold day u; norm_num

theorem one_le_day : 1 ≤ day := by unfold day; norm_num

theorem fl_err_le (F : FloatModel) {x B : ℚ} (h : |x| ≤ B) : |F.fl x - x| ≤ B * u :=
  (F.err x).trans (mul_le_mul_of_nonneg_right h u_pos.le)

theorem fl_abs_le (F : FloatModel) (x B : ℚ) (h : |x| ≤ B) : |F.fl x| ≤ B * (1 + u) := by
  have h1 := abs_add_le (F.fl x - x) x
  rw [sub_add_cancel] at h1
  linarith [fl_err_le F h]

/-- two truncations and four roundings of relative size `d * u ≤ 1/100`: below 3 in total -/
theorem sum_six {r₁ r₃ p₁ p₂ p₃ p₄ d u : ℚ} (h₁ : |r₁| < 1) (h₃ : |r₃| < 1)
    (hp₁ : |p₁| ≤ 3 * d * u) (hp₂ : |p₂| ≤ 3 * d * u) (hp₃ : |p₃| ≤ 5 * d * u)
    (hp₄ : |p₄| ≤ 10 * u * (2 * d)) (hdu : d * u ≤ 1 / 100) : |r₁ + r₃ + p₁ + p₃ - p₂ + p₄| ≤ 3 := by
  rw [abs_lt] at h₁ h₃
  rw [abs_le] at hp₁ hp₂ hp₃ hp₄ ⊢
  constructor <;> linarith

theorem operand_bounds (F : FloatModel) {a T A D : ℚ} (ha : |a| ≤ 3) (hT : |T| ≤ day) (hA : |A| ≤ day)
    (hD : |D| ≤ day) : |a * T| ≤ 3 * day ∧ |a * A| ≤ 3 * day ∧ |D - F.fl (a * A)| ≤ 5 * day := by
  have hT3 : |a * T| ≤ 3 * day := by
    rw [abs_mul]; exact mul_le_mul ha hT (abs_nonneg _) (by norm_num)
  have hA3 : |a * A| ≤ 3 * day := by
    rw [abs_mul]; exact mul_le_mul ha hA (abs_nonneg _) (by norm_num)
  refine ⟨hT3, hA3, ?_⟩
  linarith [abs_sub D (F.fl (a * A)), fl_abs_le F _ _ hA3, day_mul_u, one_le_day]

/-- The error analysis for a slope `a` within `10u` of the exact `s`, `|s| ≤ 2`, and instants
    within a day: the two products and the difference are each rounded once (relative error `u`
    of at most 5 days), the two conversions truncate (less than 1 each), and the slope error is
    multiplied by at most 2 days. -/
theorem close_core (F : FloatModel) {s a T A D : ℚ} (hs : |s| ≤ 2) (e0 : |a - s| ≤ 10 * u)
    (hT : |T| ≤ day) (hA : |A| ≤ day) (hD : |D| ≤ day) :
    |((tr (F.fl (a * T)) + tr (F.fl (D - F.fl (a * A))) : ℤ) : ℚ) - (D + (T - A) * s)| ≤ 3 := by
  have ha3 : |a| ≤ 3 := by
    have h := abs_add_le (a - s) s
    rw [sub_add_cancel] at h
    linarith [u_small]
  obtain ⟨hT3, hA3, hD5⟩ := operand_bounds F ha3 hT hA hD
  have e4 : |(a - s) * (T - A)| ≤ 10 * u * (2 * day) := by
    rw [abs_mul]
    refine mul_le_mul e0 ?_ (abs_nonneg _) (by linarith [u_pos])
    linarith [abs_sub T A]
  have key : ((tr (F.fl (a * T)) + tr (F.fl (D - F.fl (a * A))) : ℤ) : ℚ) - (D + (T - A) * s)
      = ((tr (F.fl (a * T)) : ℚ) - F.fl (a * T))
        + ((tr (F.fl (D - F.fl (a * A))) : ℚ) - F.fl (D - F.fl (a * A)))
        + (F.fl (a * T) - a * T) + (F.fl (D - F.fl (a * A)) - (D - F.fl (a * A)))
        - (F.fl (a * A) - a * A) + (a - s) * (T - A) := by
    push_cast; ring
  rw [key]
  exact sum_six (tr_err _) (tr_err _) (fl_err_le F hT3) (fl_err_le F hA3) (fl_err_le F hD5) e4 day_mul_u

/-- **Closeness.** For instants in `[−24 h, 24 h]` and a slope of magnitude at most 2, every cue
    boundary is mapped to within 3 ns (≪ 1 µs) of the exact affine map — in particular `a1` lands on
    `d1` and `a2` on `d2` to within that bound. -/
theorem close (F : FloatModel) (a1 d1 a2 d2 t : ℤ)
    (ht : |(t : ℚ)| ≤ day) (ha1 : |(a1 : ℚ)| ≤ day) (hd1 : |(d1 : ℚ)| ≤ day)
    (hs : |((d2 - d1 : ℤ) : ℚ) / ((a2 - a1 : ℤ) : ℚ)| ≤ 2) :
    |(applyA F a1 d1 a2 d2 t : ℚ) - exact a1 d1 a2 d2 t| ≤ 3 := by
  have e0 : |F.fl (((d2 - d1 : ℤ) : ℚ) / ((a2 - a1 : ℤ) : ℚ)) - ((d2 - d1 : ℤ) : ℚ) / ((a2 - a1 : ℤ) : ℚ)|
      ≤ 10 * u := by
    linarith [fl_err_le F hs, u_pos]
  exact close_core F hs e0 ht ha1 hd1

/-- **Order.** With a non-negative (rounded) slope the map is monotone: the order of cue
    boundaries is preserved. -/
theorem monotone (F : FloatModel) (a1 d1 a2 d2 t t' : ℤ)
    (hpos : 0 ≤ slopeA F a1 d1 a2 d2) (h : t ≤ t') :
    applyA F a1 d1 a2 d2 t ≤ applyA F a1 d1 a2 d2 t' := by
  unfold applyA
  have : slopeA F a1 d1 a2 d2 * (t : ℚ) ≤ slopeA F a1 d1 a2 d2 * (t' : ℚ) :=
    mul_le_mul_of_nonneg_left (by exact_mod_cast h) hpos
  have := tr_mono (F.mono _ _ this)
  omega

/-- the rounded slope of a positive exact slope is non-negative -/
theorem slope_nonneg (F : FloatModel) (a1 d1 a2 d2 : ℤ)
    (h : 0 ≤ ((d2 - d1 : ℤ) : ℚ) / ((a2 - a1 : ℤ) : ℚ)) : 0 ≤ slopeA F a1 d1 a2 d2 := by
  unfold slopeA
  have h0 : F.fl ((0 : ℤ) : ℚ) = ((0 : ℤ) : ℚ) := F.exactInt 0 (by norm_num)
  have := F.mono _ _ h
  simp at h0
  linarith

theorem abs_sub_le_six {p q : ℚ} (hp : |p| ≤ 3) (hq : |q| ≤ 3) : |p - q| ≤ 6 := by
  linarith [abs_sub p q]

/-- **Length.** every cue's length is scaled by the slope to within 6 ns -/
theorem length_scaled (F : FloatModel) (a1 d1 a2 d2 s e : ℤ)
    (hs' : |(s : ℚ)| ≤ day) (he : |(e : ℚ)| ≤ day) (ha1 : |(a1 : ℚ)| ≤ day) (hd1 : |(d1 : ℚ)| ≤ day)
    (hsl : |((d2 - d1 : ℤ) : ℚ) / ((a2 - a1 : ℤ) : ℚ)| ≤ 2) :
    |((applyA F a1 d1 a2 d2 e - applyA F a1 d1 a2 d2 s : ℤ) : ℚ)
        - ((e : ℚ) - s) * (((d2 - d1 : ℤ) : ℚ) / ((a2 - a1 : ℤ) : ℚ))| ≤ 6 := by
  have h := abs_sub_le_six (close F a1 d1 a2 d2 e he ha1 hd1 hsl) (close F a1 d1 a2 d2 s hs' ha1 hd1 hsl)
  convert h using 2
  unfold exact; push_cast; ring

/-- **Frame.** text, style, identity and list order are untouched (executable model) -/
theorem frame (a1 d1 a2 d2 : Int) (xs : List Item) :
    (LinCorr.apply a1 d1 a2 d2 xs).map (fun it => (it.uid, it.content)) = xs.map (fun it => (it.uid, it.content)) := by
  simp [LinCorr.apply, Item.content, Function.comp_def]

/-! When the reference differences are *not* exactly convertible, `float64(d2-d1)` and `float64(a2-a1)` are
rounded as well: the slope then carries three rounding errors instead of one (`slope_err`: at most `5u`
relative), which is inside the `10u` budget of `close_core`. -/

theorem fl_zero (F : FloatModel) : F.fl 0 = 0 := by
  have := F.err 0
  simp only [abs_zero, zero_mul, sub_zero] at this
  exact abs_eq_zero.mp (le_antisymm this (abs_nonneg _))

/-- quotient of two numbers each perturbed by a relative `u ≤ 1/4`: relative error at most `3u`.
    With `s = D / A`: `D' - s A' = (D' - D) - s (A' - A)` is at most `2 |s| |A| u`, and
    `|A'| ≥ |A| (1 - u)`. -/
theorem div_perturb {D A D' A' u : ℚ} (hu0 : 0 ≤ u) (hu : u ≤ 1 / 4) (hA0 : A ≠ 0)
    (hD : |D' - D| ≤ |D| * u) (hA : |A' - A| ≤ |A| * u) :
    |D' / A' - D / A| ≤ |D / A| * (3 * u) := by
  have hApos : 0 < |A| := abs_pos.mpr hA0
  have hA'lb : |A| * (1 - u) ≤ |A'| := by
    have := abs_sub_abs_le_abs_sub A A'
    rw [abs_sub_comm] at this
    linarith
  have hA'pos : 0 < |A'| := lt_of_lt_of_le (mul_pos hApos (by linarith)) hA'lb
  have hA'ne : A' ≠ 0 := abs_pos.mp hA'pos
  obtain ⟨s, hs⟩ : ∃ s, s = D / A := ⟨_, rfl⟩
  have hDs : D = s * A := by rw [hs]; field_simp
  rw [← hs]
  subst hDs
  have hnum : |D' - s * A'| ≤ 2 * (|s| * |A| * u) := by
    have e : D' - s * A' = (D' - s * A) - s * (A' - A) := by ring
    have h1 := abs_sub (D' - s * A) (s * (A' - A))
    have h2 : |s * (A' - A)| ≤ |s| * (|A| * u) := by
      rw [abs_mul]; exact mul_le_mul_of_nonneg_left hA (abs_nonneg _)
    rw [abs_mul] at hD
    rw [e]; linarith
  have hq : (D' / A' - s) * A' = D' - s * A' := by field_simp
  have hprod : |D' / A' - s| * |A'| ≤ 2 * (|s| * |A| * u) := by rw [← abs_mul, hq]; exact hnum
  have hP : 0 ≤ |s| * |A| * u * (1 - 3 * u) :=
    mul_nonneg (mul_nonneg (mul_nonneg (abs_nonneg _) (abs_nonneg _)) hu0) (by linarith)
  have h3 := mul_le_mul_of_nonneg_left hA'lb (mul_nonneg (abs_nonneg s) (by linarith : 0 ≤ 3 * u))
  exact le_of_mul_le_mul_right (by linarith) hA'pos

theorem slope_err (F : FloatModel) (D A : ℚ) :
    |F.fl (F.fl D / F.fl A) - D / A| ≤ |D / A| * (5 * u) := by
  by_cases hA : A = 0
  · subst hA
    simp [fl_zero]
  · have hu := u_small
    have hq := div_perturb u_pos.le (by linarith) hA (F.err D) (F.err A)
    have h3 : |D / A| * (3 * u) ≤ |D / A| * 1 := mul_le_mul_of_nonneg_left (by linarith) (abs_nonneg _)
    have hqabs : |F.fl D / F.fl A| ≤ 2 * |D / A| := by
      have := abs_add_le (F.fl D / F.fl A - D / A) (D / A)
      rw [sub_add_cancel] at this
      linarith
    linarith [abs_sub_le (F.fl (F.fl D / F.fl A)) (F.fl D / F.fl A) (D / A), fl_err_le F hqabs]

end C15
end Astisub
