import Astisub.Lemmas.VTT2Final

/-!
# C02 (write → read) — what the WebVTT reader makes of what the WebVTT writer emitted

Statements about the models `VTT.write` / `VTT.read` / `VTT.parseText` / `VTT.step`
(`Model/VTT.lean`), the tokenizer model `Go.tokenize` and the two regular-expression recognisers,
for **all** inputs satisfying explicit decidable provisos (`Tag.wf`, `voiceOk`, `runOk`, `lineOk`,
`lineFit`, `optOk`, `cueOk`; each has a concrete example next to its definition in `Lemmas/VTT*.lean`).

* `line_roundtrip` — a written line is parsed back run by run: same voice, same texts, instants
  truncated to the millisecond, same tag stacks (under any outer stack), outer stack left as found.
* `timing_roundtrip`, `number_roundtrip` — the timing line with any subset of the six settings,
  and the cue number line.
* `written_lines`, `read_written_lines`, `write_read` — the document level for cue lists without
  comments, regions, style blocks and timestamp map.
* `write_read_comments_Statement` — the same with comment blocks; proved in `Props/C02doc2.lean`
  (`C02doc2.write_read_comments`).

Lines are lists of characters: the UTF-8 / line-scanner layer between `write` and `read`
(`Driver.docLines`) is not part of these statements; `write_read` says that the written text has
no carriage return and is cut at its line feeds.
-/

namespace Astisub
namespace C02doc
open Go VTT

/-- **Tag emission re-parses (line round trip).**  Let `l` be a line whose voice (if any) and
    tags are well formed, whose runs have visible NUL-free text, instants in `[0, 100 h)`, no
    colour class, and in which two neighbouring runs differ in their stacks or are separated by
    an inline timestamp (`lineOk`).  Parsing the written line (its bytes without the final line
    feed) under ANY outer stack `sa` yields: the stack `sa` again, the voice, and for every run
    in order its text, its instant truncated to the millisecond and the stack `sa ++ tags`. -/
theorem line_roundtrip (l : Line) (hok : lineOk l = true) (sa : List Tag) :
    lineBytes l = lineBody l ++ ['\n'] ∧
    parseText (lineBody l) sa = .ok (sa, { voice := l.voice, items := l.items.map (readItem sa) }) :=
  ⟨lineBytes_eq l, parseText_lineBody l hok sa⟩

/-- what `readItem` is, field by field: text kept, instant truncated, the stack is the outer stack
    followed by the run's own tags, nothing else -/
theorem readItem_fields (sa : List Tag) (li : LItem) :
    (readItem sa li).text = li.text ∧ (readItem sa li).startAt = li.startAt - li.startAt % 1000000 ∧
    (readItem sa li).attrs = tagsAttrs (sa ++ tagsOfAttrs li.attrs) ∧ (readItem sa li).style = none :=
  ⟨rfl, rfl, rfl, rfl⟩

/-- single run: `<ts>` + start tags + escaped text + end tags comes back as that one run -/
theorem single_run_roundtrip (li : LItem) (hok : runOk li = true) (sa : List Tag) :
    parseText (runBytes none none li) sa = .ok (sa, { voice := [], items := [readItem sa li] }) := by
  have h := parseText_lineBody { items := [li] } (by simp [lineOk, hok, sepRuns]) sa
  simpa [lineBody, itemsBytes] using h

/-- two runs: the tags they share stay open between them, the others are closed and opened -/
theorem two_runs_roundtrip (a b : LItem) (ha : runOk a = true) (hb : runOk b = true)
    (hsep : tagsOfAttrs a.attrs ≠ tagsOfAttrs b.attrs ∨ 0 < b.startAt) (sa : List Tag) :
    parseText (runBytes none (some b) a ++ runBytes (some a) none b) sa
      = .ok (sa, { voice := [], items := [readItem sa a, readItem sa b] }) := by
  have h := parseText_lineBody { items := [a, b] } (by
    simp only [lineOk, sepRuns, runTags, List.all_cons, List.all_nil, ha, hb]
    rcases hsep with h | h <;> simp [h]) sa
  simpa [lineBody, itemsBytes] using h

/-- **Timing line.**  Whatever the reader's state, the timing line the writer emits for instants
    in `[0, 100 h)` and any subset of the settings align / line / position / region / size /
    vertical (values non-empty, without white space, `:` and `>`; the region defined) lists the
    cue under construction and opens a new one with the instants truncated to the millisecond and
    exactly those settings. -/
theorem timing_roundtrip (st : St) (s e : Int) (hs0 : 0 ≤ s) (hs1 : s < 360000000000000)
    (he0 : 0 ≤ e) (he1 : e < 360000000000000) (al ln po rg sz ve : Option Str)
    (hal : optOk al = true) (hln : optOk ln = true) (hpo : optOk po = true) (hrg : optOk rg = true)
    (hsz : optOk sz = true) (hve : optOk ve = true)
    (hdef : ∀ r, rg = some r → st.regions.any (·.id = r) = true) :
    step st (some (timingLine s e al ln po rg sz ve)) =
      .ok { st with done := flush st,
                    cur := { index := st.index, startAt := s - s % 1000000, endAt := e - e % 1000000,
                             region := rg, comments := st.comments, lines := [],
                             attrs := some (mkAttrs [("WebVTTAlign", al), ("WebVTTLine", ln), ("WebVTTPosition", po),
                                                     ("WebVTTSize", sz), ("WebVTTVertical", ve)]) },
                    curListed := true, block := .text, index := 0, comments := [] } :=
  step_timing st s e hs0 hs1 he0 he1 al ln po rg sz ve hal hln hpo hrg hsz hve hdef

/-- `timingLine` is the timing line of `cueBytes` -/
theorem timing_is_written (s : Subs) (k : Nat) (it : CItem) (hc : it.comments = []) :
    cueBytes s k it = unlines ([itoaNat (k + 1), cueTiming s it] ++ it.lines.map lineBody) ++ ['\n'] :=
  cueBytes_eq s k it hc

/-- **Cue number.**  outside any block the written number line sets the index of the next cue -/
theorem number_roundtrip (st : St) (k : Nat) (hb : st.block = .none) (hk : k + 1 ≤ int64Max) :
    step st (some (itoaNat (k + 1))) = .ok { st with index := (k : Int) + 1 } :=
  step_number st k hb hk

/-- **Layout.**  For a cue list without comments, regions, style blocks and timestamp map the
    written document is: `WEBVTT`, then for every cue a blank line, its number, its timing line
    and its text lines — every line terminated by a line feed. -/
theorem written_lines (s : Subs) (hne : s.items ≠ []) (hc : ∀ it ∈ s.items, it.comments = [])
    (hreg : s.regions = []) (hsty : styleLines s = []) (hmeta : SRT.kvGet s.metadata "WebVTTTimestampMap" = none) :
    write s = some (unlines (docLineList s)) :=
  write_lines s hne hc hreg hsty hmeta

/-- **Reading the written lines.**  every cue comes back with its 1-based number, instants
    truncated to the millisecond, the settings the writer resolved, and its lines run by run -/
theorem read_written_lines (s : Subs) (hok : ∀ it ∈ s.items, cueOk s it = true) (hlen : s.items.length ≤ int64Max) :
    read ((docLineList s).map some) = .ok (readSubs s) :=
  read_docLineList s hok hlen

/-- **Write → read (document level).**  A non-empty cue list without regions, style blocks and
    timestamp map whose cues satisfy `cueOk` (no comments, no region, instants in `[0, 100 h)`,
    plain settings, every line `lineFit`) is written; the text contains no carriage return, and the
    reader, given the text cut at its line feeds, returns `readSubs s`: per cue the number `k+1`,
    the truncated instants, the resolved settings, and every line as `line_roundtrip` describes. -/
theorem write_read (s : Subs) (hne : s.items ≠ []) (hok : ∀ it ∈ s.items, cueOk s it = true)
    (hlen : s.items.length ≤ int64Max)
    (hreg : s.regions = []) (hsty : styleLines s = []) (hmeta : SRT.kvGet s.metadata "WebVTTTimestampMap" = none) :
    ∃ doc, write s = some doc ∧ '\r' ∉ doc ∧ read (textLines doc) = .ok (readSubs s) :=
  read_write s hne hok hlen hreg hsty hmeta

/-- the cues of `readSubs`, field by field -/
theorem readSubs_items (s : Subs) :
    (readSubs s).items = s.items.zipIdx.map fun x =>
      { index := (x.2 : Int) + 1, startAt := x.1.startAt - x.1.startAt % 1000000,
        endAt := x.1.endAt - x.1.endAt % 1000000, region := none, comments := [],
        lines := x.1.lines.map fun l => { voice := l.voice, items := l.items.map (readItem []) },
        attrs := some (mkAttrs [("WebVTTAlign", fallback x.1.attrs (styleAttrs s x.1.style) "WebVTTAlign"),
          ("WebVTTLine", fallback x.1.attrs (styleAttrs s x.1.style) "WebVTTLine"),
          ("WebVTTPosition", fallback x.1.attrs (styleAttrs s x.1.style) "WebVTTPosition"),
          ("WebVTTSize", fallback x.1.attrs (styleAttrs s x.1.style) "WebVTTSize"),
          ("WebVTTVertical", fallback x.1.attrs (styleAttrs s x.1.style) "WebVTTVertical")]) } :=
  rfl

/-- a comment line that survives: trimmed, non-empty, one line, and not mistaken for a block start -/
def commentOk (c : Str) : Bool :=
  c != [] && trimSpace c == c && c.all (fun ch => !(ch == '\n' || ch == '\r')) && !contains arrow c &&
  c != "NOTE".toList && !hasPrefix "NOTE ".toList c && !hasPrefix "Region: ".toList c &&
  !hasPrefix "STYLE".toList c && !hasPrefix "X-TIMESTAMP-MAP".toList c

example : commentOk "translated by hand".toList = true := by decide_vector

/-- `write_read` for cues that also carry comment blocks (proved: `C02doc2.write_read_comments`) -/
def write_read_comments_Statement : Prop :=
  ∀ (s : Subs), s.items ≠ [] →
    (∀ it ∈ s.items, cueOk s { it with comments := [] } = true ∧ it.comments.all commentOk = true) →
    s.items.length ≤ int64Max → s.regions = [] → styleLines s = [] →
    SRT.kvGet s.metadata "WebVTTTimestampMap" = none →
    ∃ doc, write s = some doc ∧ '\r' ∉ doc ∧
      read (textLines doc) = .ok { readSubs s with
        items := s.items.zipIdx.map fun x => { readCue s x.2 x.1 with comments := x.1.comments } }

end C02doc
end Astisub
