import Astisub.Lemmas.TTMLW2Indent
import Astisub.Lemmas.TTMLW2Doc
import Astisub.Props.C03doc

/-!
# C03 (W2) — TTML: the independent decoder reads what the writer wrote

The `ttml.write` case of `Driver.handleTTML` evaluates, for every cue list `s` with `Driver.TTMLD.rep s`:

    toksOk ∧ (decode (specToks toks) = some d ∧ normDoc d = docOf s) ∧ (the reader's answer b: readOk (docOf s) b ∧ …)

where `toks` are the name-space-resolved tokens of the written bytes; the model's answer that is compared with them
(indentation dropped) is `resolve w`, `w = TTML.write s`.  This file proves the **first clause for the model's answer**:
for every cue list of the decidable class `TTMLW2.repW`, the independent decoder `Spec.TTML.decode` (written from the TTML
description) run on `specToks (resolve w)` accepts and returns a document whose normal form is exactly `docOf s`.
It then adds the second clause for the reader model's answer, and carries the first clause over to the indented tokens.

**Route.**  Direct: the decoder's state machine is run over the writer's token sequence — root element,
`metadata`, `styling`, `layout`, every `p` with its `span`s and `br`s — and its final checks are discharged.  **No
contract about `encoding/xml` is used**: the statement is about the two pure functions `TTML.write` and
`Spec.TTML.decode` and the driver's `resolve` / `specToks`.

**The class** `repW s` (`Lemmas/TTMLW2Doc.lean`) = the proviso of the check (`Driver.TTMLD.rep s`) and in addition
* at least one cue (otherwise `WriteToTTML` refuses), style / region identifiers pairwise distinct (map keys in Go; the
  decoder rejects a document that defines an identifier twice);
* `zIndex` in canonical integer form (`*int` in Go: always canonical there), `needs_zcanon`;
* no line feed in the text of a run (known finding `ttml-newline-in-text-becomes-line-break`, `needs_text`), in an
  attribute value, an identifier or a reference (`needs_attr`: the decoder's class excludes a line feed in any
  attribute value).
Instants: any `0 ≤ t` (hour fields of any width), as in `Driver.TTMLD.rep`.
-/

namespace Astisub
namespace C03w2
open Go TTML TTMLW2
open Driver.TTMLD (specToks resolve docOf normDoc ttmlAttrsOf)

/-- two styles (one with a parent, a colour and a `zIndex`), a region, a cue with a style, a region, an inline attribute,
    three lines (the second one empty), an empty run, white space; a cue without lines; language and title -/
def sample : Subs :=
  { items := [{ startAt := 1500000001, endAt := 359999999999999, style := some "b".toList, region := some "r".toList, attrs := some [("TTMLOrigin".toList, "10% 20%".toList)], lines := [{ items := [{ text := "x".toList, style := some "a".toList }, { text := [], attrs := some [("TTMLColor".toList, "blue".toList)] }] }, { items := [] }, { items := [{ text := " y ".toList }] }] }, { startAt := 0, endAt := 1, lines := [] }],
    styles := [{ id := "b".toList, ref := some "a".toList }, { id := "a".toList, attrs := some [("TTMLColor".toList, "red".toList), ("TTMLZIndex".toList, "-7".toList)] }],
    regions := [{ id := "r".toList, ref := some "a".toList }],
    metadata := some [("Language".toList, "french".toList), ("Title".toList, "T".toList)] }

/-- non-vacuity of both classes: `repW`, and `repB` = `repW` + every `zIndex` within 64 bits + instants below 100 h -/
theorem sample_ok : repW sample = true ∧ zFitAll sample = true ∧ timeAll sample = true := by decide +kernel

/-- on `s`: the writer answers and the decoder does **not** return `docOf s` -/
def refutes (s : Subs) : Bool :=
  match write s with
  | some w => decide ((Spec.TTML.decode (specToks (resolve w))).map normDoc ≠ some (docOf s))
  | none => false

def plain : CItem := { startAt := 0, endAt := 1000000, lines := [{ items := [{ text := "x".toList }] }] }

/-- an instant of 100 h and more (three-digit hour field) -/
def sampleLong : Subs := { items := [{ plain with startAt := 360000000000000, endAt := 3600000000000000001 }] }

set_option maxRecDepth 100000 in
example : repW sampleLong = true ∧ timeAll sampleLong = false := by decide +kernel

/-- a line feed in the text of a run (the known finding): the decoder rejects the document -/
def cexText : Subs := { items := [{ plain with lines := [{ items := [{ text := "a\nb".toList }] }] }] }
/-- a line feed in an attribute value: outside the decoder's class -/
def cexAttr : Subs := { items := [{ plain with attrs := some [("TTMLColor".toList, "a\nb".toList)] }] }
/-- a `zIndex` that is an integer but not in canonical form: the decoder answers the canonical form -/
def cexZ : Subs := { items := [{ plain with attrs := some [("TTMLZIndex".toList, "+7".toList)] }] }

/-- the proviso of `repW` about line feeds in a run's text is needed: without it the decoder does not return `docOf s` -/
theorem needs_text : refutes cexText = true := by decide +kernel
/-- … and so is the one about line feeds in attribute values -/
theorem needs_attr : refutes cexAttr = true := by decide +kernel
/-- … and the canonical form of `zIndex` -/
theorem needs_zcanon : refutes cexZ = true := by decide +kernel

/-- the check's own proviso `Driver.TTMLD.rep` excludes the last two (no line feed in attribute values, identifiers and references; canonical `zIndex`; distinct identifiers); a line
    feed in a run's text is the recorded known finding and stays inside `rep` -/
theorem rep_excludes : Driver.TTMLD.rep cexAttr = false ∧ Driver.TTMLD.rep cexZ = false ∧ Driver.TTMLD.rep cexText = true := by
  decide +kernel

/-- the proviso of the write → read theorem (`TTMLDoc.rep`, `C03doc.write_read`) does not exclude the last two either:
    it asks for an integer `zIndex`, not a canonical one, and says nothing about line feeds in attribute values -/
theorem docRep_not_enough : TTMLDoc.rep cexZ = true ∧ TTMLDoc.rep cexAttr = true := by decide +kernel

/-- **W2 for TTML.**  For every cue list `s` of the class `repW`: `WriteToTTML` (model) succeeds with an element tree
    `w`, and the independent decoder, run on the tokens the driver prints for it (`specToks (resolve w)`: names resolved
    to name spaces, no indentation), accepts and returns `docW s` — the cues in order with both instants truncated to
    the millisecond (exact rationals with denominator 1), their style / region references, styling attributes and
    lines of runs (text, style reference, styling attributes; a cue without lines has one empty line); the styles and
    the regions in identifier order; title, copyright and the language code — and the normal form of that document
    is the document `docOf s` the `ttml.write` check expects.  No assumption about `encoding/xml`. -/
theorem decode_write (s : Subs) (h : repW s = true) :
    ∃ w, write s = some w ∧ Spec.TTML.decode (specToks (resolve w)) = some (docW s) ∧ normDoc (docW s) = docOf s := by
  have h := repW_iff.mp h
  refine ⟨_, TTMLDoc.write_eq s h.nonempty, ?_, normDoc_docW s⟩
  obtain ⟨buf, hrun⟩ := run_written s h.styles h.regions h.cues _ (TTMLDoc.write_eq s h.nonempty)
  rw [specToks_resolve]
  exact decode_of_run _ _ hrun rfl (finalOk_docW s h.rep h.stylesNodup h.regionsNodup)

/-- the first clause of the predicate of the `ttml.write` case of `Driver.handleTTML`, on the tokens `toks` -/
def writeFirst (s : Subs) (toks : List XTok) (toksOk : Bool) : Bool :=
  toksOk &&
  (match Spec.TTML.decode (specToks toks) with
   | some d => normDoc d == docOf s
   | none => false)

/-- for every cue list of `repW` the writer model answers `w` and `writeFirst` is true on the model's tokens `resolve w` -/
theorem writeFirst_model (s : Subs) (h : repW s = true) :
    ∃ w, write s = some w ∧ writeFirst s (resolve w) true = true := by
  obtain ⟨w, hw, hd, hn⟩ := decode_write s h
  refine ⟨w, hw, ?_⟩
  simp only [writeFirst, hd, hn, Bool.true_and, beq_self_eq_true]

/-- the predicate of the `ttml.write` case of `Driver.handleTTML` once the answer has been parsed: `toks` / `toksOk` the
    tokens of the written bytes, `back` what the reader answered on them (`none`: not `ok` + a cue list) -/
def writeCheck (s : Subs) (toks : List XTok) (toksOk : Bool) (back : Option Subs) : Bool :=
  if !Driver.TTMLD.rep s then true else
  let want := docOf s
  toksOk &&
  (match Spec.TTML.decode (specToks toks) with
   | some d => normDoc d == want
   | none => false) &&
  (match back with
   | some b => Driver.TTMLD.readOk want b && b.items.length == s.items.length
   | none => false)

/-- non-vacuity of the larger class -/
example : repB sample = true := by
  simp only [repB, sample_ok.1, sample_ok.2.1, sample_ok.2.2, Bool.and_self]

/-- **The classes.**  `repB s` (this file) implies both the proviso of the check (`Driver.TTMLD.rep`) and the proviso of
    the write → read theorem `C03doc.write_read` (`TTMLDoc.rep`); `repW s` is `repB s` without the 64-bit bound. -/
theorem classes (s : Subs) (h : repB s = true) :
    repW s = true ∧ Driver.TTMLD.rep s = true ∧ TTMLDoc.rep s = true := by
  have hb := repB_iff.mp h
  exact ⟨repW_iff.mpr hb.toRepW, hb.rep, rep_of_repB s h⟩

/-- **The second clause for the model's answer**: the cue list `TTMLDoc.norm s` the reader model returns for the
    written document passes `readOk` against `docOf s`, and has as many cues as `s`. -/
theorem read_back (s : Subs) (h : repB s = true) :
    Driver.TTMLD.readOk (docOf s) (TTMLDoc.norm s) = true ∧ (TTMLDoc.norm s).items.length = s.items.length :=
  ⟨readOk_norm s h, by simp [TTMLDoc.norm]⟩

/-- **The `ttml.write` predicate holds for the model's answers.**  For every cue list of the class `repB`: the writer
    model answers `w`; the reader model, fed with what `encoding/xml` delivers for the written tree (the contract
    `TTMLDoc.unmarshal ix`, for every `ix`: the only assumption, and only this conjunct depends on it), answers
    `norm s`; and the predicate of the check, evaluated on the model's tokens `resolve w` and on that answer, is true:
    the independent decoder returns `docOf s` up to the order of definitions, and the re-read cue list passes `readOk`
    against `docOf s` with the same number of cues. -/
theorem writeCheck_model (ix : List XTok → Str) (s : Subs) (h : repB s = true) :
    ∃ w, write s = some w ∧ TTML.read (TTMLDoc.unmarshal ix w) = .ok (TTMLDoc.norm s) ∧
      writeCheck s (resolve w) true (some (TTMLDoc.norm s)) = true := by
  obtain ⟨hw, hrep, hdoc⟩ := classes s h
  obtain ⟨w, hwr, hd, hn⟩ := decode_write s hw
  obtain ⟨hne, hok⟩ := C03doc.rep_attrsOkAll s hdoc
  obtain ⟨w', hw', hu⟩ := TTMLDoc.unmarshal_write ix s hne hok
  have e : w' = w := by rw [hwr] at hw'; exact (Option.some.inj hw').symm
  subst e
  obtain ⟨hb1, hb2⟩ := read_back s h
  refine ⟨w', hwr, by rw [hu]; exact TTMLDoc.read_tinOfSubs ix s hdoc, ?_⟩
  simp only [writeCheck, hrep, Bool.not_true, Bool.false_eq_true, if_false, hd, hn, beq_self_eq_true, hb1, hb2,
    Bool.and_self]

def st (n : String) (a : List TTMLW2.XAttr) : XTok := .start [] n.toList a
def en (n : String) : XTok := .stop [] n.toList
def tx (s : String) : XTok := .text s.toList
def at_ (sp : Str) (n v : String) : TTMLW2.XAttr := (sp, n.toList, v.toList)

/-- a document as `Encoder.Indent` lays it out: a line feed and blanks between elements, none inside `span`, `br` -/
def indented : List XTok :=
  [st "tt" [], tx "\n  ", st "body" [], tx "\n    ", st "div" [], tx "\n      ",
   st "p" [at_ [] "begin" "00:00:01.000", at_ [] "end" "00:00:02.000"], tx "\n        ",
   st "span" [], tx " x ", en "span", tx "\n        ", st "br" [], en "br",
   tx "\n      ", en "p", tx "\n    ", en "div", tx "\n  ", en "body",
   tx "\n", en "tt"]

set_option maxRecDepth 100000 in
/-- non-vacuity: the layout satisfies `indentOk`, `dropIndent` removes the nine layout tokens, the decoder accepts -/
example : indentOk indented [] = true ∧ (Driver.TTMLD.dropIndent indented []).length + 9 = indented.length ∧
    (Spec.TTML.decode (specToks indented)).isSome = true := by decide +kernel

/-- **The decoder does not see the indentation** (for ALL token lists, written or not).  If every character-data token
    that `Driver.TTMLD.dropIndent` removes (white space only, outside `span` / `title` / `copyright`) holds a line feed and
    is not directly inside a `br` (`indentOk`, decidable), the decoder gives the same answer on the tokens and on the
    tokens without them. -/
theorem indentation (toks : List XTok) (h : indentOk toks [] = true) :
    Spec.TTML.decode (specToks toks) = Spec.TTML.decode (specToks (Driver.TTMLD.dropIndent toks [])) :=
  decode_dropIndent toks h

/-- **The first clause on the tokens of the written bytes.**  Whenever those tokens, indentation dropped, are the
    model's answer — the comparison the `ttml.write` case makes — and their layout is `Encoder.Indent`'s (`indentOk`),
    the first clause of the check holds for them (the clause as the driver evaluates it: on the tokens *with* their
    indentation). -/
theorem writeFirst_agree (s : Subs) (h : repW s = true) (toks : List XTok) (w : List WTok) (hw : write s = some w)
    (hag : Driver.TTMLD.dropIndent toks [] = resolve w) (hind : indentOk toks [] = true) :
    writeFirst s toks true = true := by
  obtain ⟨w', hw', hd, hn⟩ := decode_write s h
  have e : w' = w := by rw [hw] at hw'; exact (Option.some.inj hw').symm
  subst e
  simp only [writeFirst, indentation toks hind, hag, hd, hn, Bool.true_and, beq_self_eq_true]

/-- **Tokens.**  What the decoder is fed for a writer token: element names resolved (`ttm:` to the metadata name space,
    everything else to the TTML name space), attribute names resolved (`xmlns[:p]` declarations, `xml:`, `tts:`, no
    prefix = no name space). -/
theorem tokens (w : List WTok) : specToks (resolve w) = w.map sTok := specToks_resolve w

/-- **Time.**  The `begin` / `end` text of any instant `0 ≤ t` (hour field of two or more digits) denotes — under every
    frame and tick rate — exactly `t` truncated to the millisecond, and holds no line feed. -/
theorem time (t : Int) (h0 : 0 ≤ t) (fr tr : Nat) :
    Spec.TTML.denote (Duration.formatTTML t) fr tr = some ((t - t % 1000000).toNat, 1) ∧
    Spec.TTML.hasNL (Duration.formatTTML t) = false :=
  denote_formatTTML_any t h0 fr tr

/-- **Styling attributes.**  On an attribute list `E ++ tts:*` where `E` holds no styling attribute, the decoder reads
    the styling attributes the driver's view `ttmlAttrsOf` shows of `a` (proviso: canonical `zIndex`). -/
theorem styling_attributes (E : List TTMLW2.XAttr) (a : Attrs) (hE : Plain E) (hz : zCanon a = true) :
    Spec.TTML.styling (E ++ outR a) = some (ttmlAttrsOf a) :=
  styling_written E a hE hz

/-- **Definitions.**  The start tag of a `style` / `region` (identifier not empty, parent / style reference not the
    empty string, no line feed) is decoded into identifier, reference and attributes; no attribute value holds a line
    feed. -/
theorem definition (d : Def) (h : defW d = true) :
    Spec.TTML.mkDef ((TTMLDoc.headerAttrs d).map rAttr) = some (toG d) ∧ nlAttr ((TTMLDoc.headerAttrs d).map rAttr) = false :=
  mkDef_header d h

/-- **The start tag of a cue.** `begin`, `end` occur once and denote the truncated instants; `style`, `region` are
    absent or the references; the styling attributes are the cue's. -/
theorem paragraph_start (it : CItem) (h : cueHeadW it = true) (fr tr : Nat) :
    Spec.TTML.attr? ((TTMLDoc.pAttrs it).map rAttr) "begin" = some (some (Duration.formatTTML it.startAt)) ∧
    Spec.TTML.attr? ((TTMLDoc.pAttrs it).map rAttr) "end" = some (some (Duration.formatTTML it.endAt)) ∧
    Spec.TTML.ref? ((TTMLDoc.pAttrs it).map rAttr) "style" = some it.style ∧
    Spec.TTML.ref? ((TTMLDoc.pAttrs it).map rAttr) "region" = some it.region ∧
    Spec.TTML.styling ((TTMLDoc.pAttrs it).map rAttr) = some (ttmlAttrsOf it.attrs) ∧
    Spec.TTML.denote (Duration.formatTTML it.startAt) fr tr = some ((it.startAt - it.startAt % 1000000).toNat, 1) ∧
    Spec.TTML.denote (Duration.formatTTML it.endAt) fr tr = some ((it.endAt - it.endAt % 1000000).toNat, 1) ∧
    nlAttr ((TTMLDoc.pAttrs it).map rAttr) = false :=
  p_fields it h fr tr

/-- on the `span` of a representable run the decoder reads its style reference and its styling attributes; no value holds a line feed -/
theorem span_start (li : LItem) (h : runW li = true) :
    Spec.TTML.ref? (spanAttrs li) "style" = some li.style ∧ Spec.TTML.styling (spanAttrs li) = some (ttmlAttrsOf li.attrs) ∧
    nlAttr (spanAttrs li) = false :=
  span_fields li h

/-- **The root element**: no frame rate, no tick rate (so `0`), `xml:lang` the language code or absent. -/
theorem root (m : Attrs) :
    Spec.TTML.natAttr (rootR m) "frameRate" = some 0 ∧ Spec.TTML.natAttr (rootR m) "tickRate" = some 0 ∧
    Spec.TTML.attr? (rootR m) "lang" = (TTMLDoc.normRef (langOut m)).map some ∧ nlAttr (rootR m) = false :=
  root_fields m

/-- **One cue.**  From the state inside `div`, the tokens of a cue (`<p …>`, one `span` per run, `br` between two
    lines, `</p>`) append exactly the cue `cueG it` to the document. -/
theorem paragraph (doc : Spec.TTML.GDoc) (buf : Str) (it : CItem) (h : cueW it = true) :
    Spec.TTML.run ((subToks it).map sTok) (mkS pDiv doc buf)
      = some (mkS pDiv { doc with cues := doc.cues ++ [cueG it] } buf) :=
  run_sub doc buf it h

/-- **The state machine over the whole document** ends, finished, with the document `docW s`. -/
theorem state_machine (s : Subs) (hst : ∀ d ∈ s.styles, defW d = true) (hrg : ∀ d ∈ s.regions, defW d = true)
    (hit : ∀ it ∈ s.items, cueW it = true) (w : List WTok) (hw : write s = some w) :
    ∃ buf, Spec.TTML.run (w.map sTok) {} = some { mkS [] (docW s) buf with finished := true } :=
  run_written s hst hrg hit w hw

/-- **The decoder's final checks** (identifiers distinct, references defined) pass on `docW s`. -/
theorem final_checks (s : Subs) (hrep : Driver.TTMLD.rep s = true) (hsn : (s.styles.map Def.id).Nodup)
    (hrn : (s.regions.map Def.id).Nodup) : TTMLR.finalOk (docW s) = true :=
  finalOk_docW s hrep hsn hrn

/-- **Normal form** (for all `s`): sorting the definitions of `docW s` by identifier changes nothing, the language code
    the writer emits is the one the specification's table gives; so `normDoc (docW s)` is `docOf s`. -/
theorem normal_form (s : Subs) : normDoc (docW s) = docOf s := normDoc_docW s

end C03w2
end Astisub
