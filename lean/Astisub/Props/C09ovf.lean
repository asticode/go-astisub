import Astisub.Lemmas.OvfOps
import Astisub.Lemmas.OvfDuration
import Astisub.Lemmas.OvfTTML
import Astisub.Lemmas.OvfLinCorr
import Astisub.Props.C09
import Astisub.Props.C10
import Astisub.Props.C14

/-!
# C09–C16 (overflow) — no `int64` wrap-around inside the properties' ranges

The transformation models (`Model/Ops.lean`, `Model/LinCorr.lean`) and the timestamp codecs
(`Model/Duration.lean`, the time expressions of `Model/TTML.lean`) compute in unbounded `Int`; the Go
code computes in `time.Duration` / `int` = `int64`, where `+`, `-`, `*` wrap around silently. The
properties C09 … C16 are stated over ranges inside which none of these operations wraps; this file
proves that.

For every operation `op` there is a *wrapping* evaluation `opW` (`Lemmas/Ovf*.lean`): the same control
flow, every `+`, `-`, `*` and every conversion of an intermediate reduced into `[-2^63, 2^63)`
(`Ovf.wrap`), divisions and remainders Go's truncated ones. Each headline theorem has the form

    RangeOK inputs → opW inputs = op inputs

with `RangeOK` an explicit **decidable** predicate — first the *exact* condition ("these particular
sums are representable"), then a generous symmetric corollary (everything within ±2^61 ns ≈ 73 years;
the properties quantify over `[0, 100 h)` resp. `[0, 24 h]`). Each is accompanied by a concrete value
satisfying the predicate and by a kernel-checked input just outside on which `opW` and `op` differ, so
the hypothesis can be neither vacuous nor dropped. The `…_fits` theorems add that the *results* are
`int64` instants again, so the statements compose along a chain of operations.
-/

namespace Astisub
namespace C09ovf
open Ops Ovf Go

/-- the instants the properties quantify over — `[0, 100 h)` and shifts of at most ±100 h — are far inside
    the ±2^61 ns range of the corollaries below -/
theorem property_range_in61 (x : Int) (h : -360000000000000 ≤ x ∧ x ≤ 360000000000000) : In61 x := by
  unfold In61; omega

/-! ## C09 — `Subtitles.Add` -/

/-- **Add, exact.** If for every cue both shifted boundaries `start + d`, `end + d` are `int64`
    values, the `int64` evaluation of `Add` (two wrapping additions per cue, then comparisons with 0)
    returns exactly what the unbounded model returns. -/
theorem add_no_overflow (d : Int) (xs : List Item) (h : AddOK d xs) : addW d xs = add d xs :=
  addLoopW_eq d [] xs h

/-- **Add, generous range.** A shift within ±2^61 ns of cues within ±2^61 ns never wraps. -/
theorem add_no_overflow_range (d : Int) (xs : List Item) (hd : In61 d) (hx : AllIn61 xs) :
    addW d xs = add d xs :=
  add_no_overflow d xs (addOK_of_in61 hd hx)

/-- … and every boundary of the result is an `int64` again. -/
theorem add_result_fits (d : Int) (xs : List Item) (h : AddOK d xs) : AllFit (add d xs) := by
  rw [add_eq_filterMap]
  intro y hy
  obtain ⟨x, hx, he⟩ := List.mem_filterMap.mp hy
  exact shift1_fits (h x hx) he

/-- Hence the main theorem of C09 holds for the `int64` evaluation: on a well-formed list in range,
    Go's wrapping `Add` returns exactly the surviving cues, shifted and clamped. -/
theorem add_int64_spec (d : Int) (xs : List Item) (hw : Spec.WF xs) (h : AddOK d xs) :
    addW d xs = Spec.addSpec d xs := by
  rw [add_no_overflow d xs h]; exact C09.add_spec d xs hw

/-- The range hypothesis cannot be dropped: there are an `int64` shift and a list of `int64`
    instants on which the `int64` evaluation differs from the model (the end wraps to `MinInt64`,
    the cue is deleted). -/
theorem add_range_needed : ∃ (d : Int) (xs : List Item), fits64 d ∧ AllFit xs ∧ addW d xs ≠ add d xs :=
  ⟨1, [{ uid := 1, startAt := 9223372036854775806, endAt := 9223372036854775807, lines := [], pay := 0 }],
    by decide⟩

/-! ## C10 — `Subtitles.Fragment` -/

/-- **Fragment, per-cue bounds.** If every cue has an `int64` start, `start + f < 2^63` (the first boundary)
    and `end + f ≤ 2^63` (the increment after the last cut), the `int64` evaluation — `s - s%f`, the
    conditional `+= f`, and `boundary += f` on every iteration — equals the unbounded model. -/
theorem fragment_no_overflow (f : Int) (xs : List Item) (h : FragOK f xs) : fragmentW f xs = fragment f xs := by
  unfold fragmentW fragment
  split
  · rfl
  · rename_i hc
    have hf : 0 < f := by omega
    rw [List.flatMap_congr_mem (fun it hit => cutW_eq hf (h it hit))]

/-- **Fragment, generous range.** Fragment length and all instants within ±2^61 ns. -/
theorem fragment_no_overflow_range (f : Int) (xs : List Item) (hf : In61 f) (hx : AllIn61 xs) :
    fragmentW f xs = fragment f xs :=
  fragment_no_overflow f xs (fragOK_of_in61 hf hx)

/-- Hence C10's characterisation holds for the `int64` evaluation: the result consists exactly of the
    pieces of the original cues. -/
theorem fragment_int64_pieces (f : Int) (hf : 0 < f) (xs : List Item) (h : FragOK f xs) (p : Item) :
    p ∈ fragmentW f xs ↔ ∃ it ∈ xs, p ∈ cut f it := by
  rw [fragment_no_overflow f xs h]; exact C10.fragment_pieces f hf xs p

/-- The first boundary alone: `(start / f + 1) * f` is reached without wrapping when `start + f < 2^63`. -/
theorem first_boundary_no_overflow (f s : Int) (hs : fits64 s) (hsf : s + f < 9223372036854775808) (hf : 0 < f) :
    firstBoundaryW f s = firstBoundary f s :=
  firstBoundaryW_eq hs hsf hf

/-- Every piece `Fragment` produces has `int64` boundaries — for **every** list of `int64` instants,
    no range condition (the cut points lie inside the cue). -/
theorem fragment_result_fits (f : Int) (xs : List Item) (h : AllFit xs) : AllFit (fragment f xs) := by
  by_cases hf : 0 < f
  · intro x hx
    obtain ⟨it, hit, hxi⟩ := (C10.fragment_pieces f hf xs x).mp hx
    have hi := h it hit
    rw [OPS.cut_eq_cutAt f hf] at hxi
    have := OPS.cutAt_bounds it _ (OPS.multiplesIn_inside f hf _ _) x hxi
    unfold fits64 at *
    omega
  · rw [C10.fragment_guard f xs (.inr (by omega))]; exact h

/-- The bound `end + f ≤ 2^63` is sharp: at `end + f = 2^63 + 1` the increment after the first cut
    wraps to `MinInt64`, Go cuts again, and the results differ. -/
theorem fragment_range_sharp : ∃ (f : Int) (it : Item), fits64 f ∧ AllFit [it] ∧
    it.endAt + f = 9223372036854775808 + 1 ∧ (cutW f it).length ≠ (cut f it).length :=
  ⟨4611686018427387904, { uid := 1, startAt := 0, endAt := 4611686018427387905, lines := [], pay := 0 },
    by decide⟩

/-! ## C11 / C12 — `Unfragment`, `Order`, `Merge` -/

/-- **Order** only compares start instants: its `int64` evaluation is the model itself. -/
theorem order_no_arithmetic (xs : List Item) : orderW xs = order xs := rfl

/-- **Merge** appends and orders: no arithmetic. -/
theorem merge_no_arithmetic (a b : List Item) : mergeItemsW a b = mergeItems a b := rfl

/-- **Unfragment** orders, compares instants and copies an end (`EndAt = other.EndAt`): no arithmetic. -/
theorem unfragment_no_arithmetic (xs : List Item) : unfragmentW xs = unfragment xs := rfl

/-- `Order` creates no instant that was not in its input: the result is a list of `int64` instants. -/
theorem order_result_fits (xs : List Item) (h : AllFit xs) : AllFit (order xs) :=
  fun it hit => h it ((C12.order_perm xs).mem_iff.mp hit)
/-- The same for `Merge` of two lists of `int64` instants. -/
theorem merge_result_fits (a b : List Item) (ha : AllFit a) (hb : AllFit b) : AllFit (mergeItems a b) :=
  order_result_fits _ (allFit_append.mpr ⟨ha, hb⟩)

/-- The same for `Unfragment`: every start of the result is a start of the input, every end an end of it. -/
theorem unfragment_result_fits (xs : List Item) (h : AllFit xs) : AllFit (unfragment xs) := by
  unfold unfragment
  split
  · exact h
  · exact unfragLoop_fits _ (order_result_fits _ h)

/-! ## C14 — `Subtitles.ForceDuration` -/

/-- **ForceDuration, exact.** Its only arithmetic is the start `d - 1 ms` of the filler cue; if that
    is an `int64`, the `int64` evaluation equals the unbounded model (any list, either flag). -/
theorem forceDuration_no_overflow (d : Int) (addDummy : Bool) (xs : List Item) (h : ForceOK d) :
    forceDurationW d addDummy xs = forceDuration d addDummy xs := by
  unfold forceDurationW forceDuration
  rw [fillerW_eq h]

/-- **ForceDuration, generous range.** Any requested duration within ±2^61 ns. -/
theorem forceDuration_no_overflow_range (d : Int) (addDummy : Bool) (xs : List Item) (hd : In61 d) :
    forceDurationW d addDummy xs = forceDuration d addDummy xs :=
  forceDuration_no_overflow d addDummy xs (forceOK_of_in61 hd)

/-- Hence the main theorem of C14 holds for the `int64` evaluation. -/
theorem forceDuration_int64_spec (d : Int) (b : Bool) (xs : List Item) (ho : Spec.Ordered xs) (hw : Spec.WF xs)
    (h : ForceOK d) : forceDurationW d b xs = Spec.forceDurationSpec d b xs := by
  rw [forceDuration_no_overflow d b xs h]; exact C14.forceDuration_spec d b xs ho hw

/-- The result of `ForceDuration` is a list of `int64` instants again (filler included). -/
theorem forceDuration_result_fits (d : Int) (addDummy : Bool) (xs : List Item) (hd : fits64 d) (h : ForceOK d)
    (hx : AllFit xs) : AllFit (forceDuration d addDummy xs) := by
  unfold forceDuration
  split
  · exact hx
  · have hys : AllFit (if duration xs > d then fdScan d xs else xs) := by
      split
      · exact fdScan_fits hd hx
      · exact hx
    dsimp only
    generalize (if duration xs > d then fdScan d xs else xs) = ys at hys ⊢
    split
    · exact allFit_append.mpr ⟨hys, allFit_cons.mpr ⟨⟨h, hd⟩, allFit_nil⟩⟩
    · exact hys

/-- The hypothesis cannot be dropped: within a millisecond of `MinInt64` the filler's start wraps. -/
theorem forceDuration_range_needed : ∃ (d : Int) (xs : List Item), fits64 d ∧ AllFit xs ∧
    forceDurationW d true xs ≠ forceDuration d true xs :=
  ⟨-9223372036854775807,
    [{ uid := 1, startAt := -9223372036854775808, endAt := -9223372036854775808, lines := [], pay := 0 }],
    by decide⟩

/-! ## C15 — `Subtitles.ApplyLinearCorrection` -/

/-- **The `int64` subtractions fit.** With the four reference instants and `t` within a day,
    `d2 - d1`, `a2 - a1` (computed by the code) and `t - a1` (of the exact formula) are `int64` values. -/
theorem lincorr_differences_fit (a1 d1 a2 d2 t : ℤ)
    (ht : |(t : ℚ)| ≤ C15.day) (ha1 : |(a1 : ℚ)| ≤ C15.day) (hd1 : |(d1 : ℚ)| ≤ C15.day)
    (ha2 : |(a2 : ℚ)| ≤ C15.day) (hd2 : |(d2 : ℚ)| ≤ C15.day) :
    fits64 (d2 - d1) ∧ fits64 (a2 - a1) ∧ fits64 (t - a1) := by
  have h1 := abs_le.mp (F53.int_abs_le_day ht)
  have h2 := abs_le.mp (F53.int_abs_le_day ha1)
  have h3 := abs_le.mp (F53.int_abs_le_day hd1)
  have h4 := abs_le.mp (F53.int_abs_le_day ha2)
  have h5 := abs_le.mp (F53.int_abs_le_day hd2)
  unfold fits64
  refine ⟨⟨?_, ?_⟩, ⟨?_, ?_⟩, ⟨?_, ?_⟩⟩ <;> omega

/-- **The two float → `int64` conversions are in range.** Under the hypotheses of
    `C15float.close_exec` the float `a*float64(t)` truncates to less than 4 days and the intercept to
    less than 6 days of nanoseconds, so `time.Duration(·)` is defined (Go leaves the conversion of an
    out-of-range float implementation-defined). -/
theorem lincorr_conversions_in_range (a1 d1 a2 d2 t : ℤ)
    (ht : |(t : ℚ)| ≤ C15.day) (ha1 : |(a1 : ℚ)| ≤ C15.day) (hd1 : |(d1 : ℚ)| ≤ C15.day)
    (hs : |((d2 - d1 : ℤ) : ℚ) / ((a2 - a1 : ℤ) : ℚ)| ≤ 2) :
    |(Dy.mul (LinCorr.slope a1 d1 a2 d2) (Dy.ofInt t)).trunc| ≤ 345600000000000 ∧
    |LinCorr.intercept a1 d1 a2 d2| ≤ 518400000000000 :=
  trunc_bounds a1 d1 a2 d2 t ht ha1 hd1 hs

/-- **Linear correction, one instant.** Under the hypotheses of `close_exec` and with representable
    reference differences, the `int64` evaluation (wrapping subtractions and addition, conversions
    defined only in range) is defined and equals the unbounded model. -/
theorem lincorr_no_overflow (a1 d1 a2 d2 t : ℤ)
    (ht : |(t : ℚ)| ≤ C15.day) (ha1 : |(a1 : ℚ)| ≤ C15.day) (hd1 : |(d1 : ℚ)| ≤ C15.day)
    (hs : |((d2 - d1 : ℤ) : ℚ) / ((a2 - a1 : ℤ) : ℚ)| ≤ 2)
    (hD : fits64 (d2 - d1)) (hA : fits64 (a2 - a1)) :
    apply1W a1 d1 a2 d2 t = some (LinCorr.apply1 a1 d1 a2 d2 t) :=
  apply1W_eq a1 d1 a2 d2 t ht ha1 hd1 hs hD hA

/-- **Linear correction, whole list, the property's range**: all four reference instants and every
    cue boundary within a day, exact slope of magnitude ≤ 2. -/
theorem lincorr_no_overflow_day (a1 d1 a2 d2 : ℤ) (xs : List Item)
    (hx : ∀ it ∈ xs, |(it.startAt : ℚ)| ≤ C15.day ∧ |(it.endAt : ℚ)| ≤ C15.day)
    (ha1 : |(a1 : ℚ)| ≤ C15.day) (hd1 : |(d1 : ℚ)| ≤ C15.day)
    (ha2 : |(a2 : ℚ)| ≤ C15.day) (hd2 : |(d2 : ℚ)| ≤ C15.day)
    (hs : |((d2 - d1 : ℤ) : ℚ) / ((a2 - a1 : ℤ) : ℚ)| ≤ 2) :
    applyW a1 d1 a2 d2 xs = some (LinCorr.apply a1 d1 a2 d2 xs) := by
  have hf := lincorr_differences_fit a1 d1 a2 d2 0 (by simp [C15.day]) ha1 hd1 ha2 hd2
  exact applyW_eq a1 d1 a2 d2 xs hx ha1 hd1 hs hf.1 hf.2.1

/-- The corrected instant is itself below 10 days in magnitude. -/
theorem lincorr_result_bound (a1 d1 a2 d2 t : ℤ)
    (ht : |(t : ℚ)| ≤ C15.day) (ha1 : |(a1 : ℚ)| ≤ C15.day) (hd1 : |(d1 : ℚ)| ≤ C15.day)
    (hs : |((d2 - d1 : ℤ) : ℚ) / ((a2 - a1 : ℤ) : ℚ)| ≤ 2) :
    |LinCorr.apply1 a1 d1 a2 d2 t| ≤ 864000000000000 := by
  obtain ⟨b1, b2⟩ := trunc_bounds a1 d1 a2 d2 t ht ha1 hd1 hs
  have h1 := abs_le.mp b1
  have h2 := abs_le.mp b2
  unfold LinCorr.apply1
  rw [abs_le]; constructor <;> omega

/-- The slope hypothesis cannot be dropped: with `int64` arguments and a slope of 2^62 a conversion is
    out of range (undefined in Go) while the model returns 2^64. -/
theorem lincorr_range_needed : ∃ (a1 d1 a2 d2 t : Int), fits64 a1 ∧ fits64 d1 ∧ fits64 a2 ∧ fits64 d2 ∧ fits64 t ∧
    apply1W a1 d1 a2 d2 t = none ∧ ¬ fits64 (LinCorr.apply1 a1 d1 a2 d2 t) :=
  ⟨0, 0, 1, 4611686018427387904, 4, by decide⟩

/-! ## C16 — timestamp codecs -/

/-- `strconv.Atoi` hands the parsers `int64` values (the model's range check). -/
theorem atoi_result_fits (s : Str) (x : Int) (h : atoi s = some x) : fits64 x := by
  have := atoi_range h
  unfold fits64; omega

/-- `Duration.parse` is its two string stages followed by
    `ms·10^k·1e6 + sec·1e9 + min·60e9 + h·3600e9` (an equivalent formulation of the model). -/
theorem parse_stages (i : Str) (sep : Char) (digits : Nat) :
    Duration.parse i sep digits =
      (msPart i sep digits).bind fun p =>
        (hmsPart p.2).map fun q => combine (p.1.1 * (10 : Int) ^ p.1.2) q.1 q.2.1 q.2.2 :=
  parse_eq i sep digits

/-- **parseDuration, exact.** If the fields of the text satisfy `CombineOK` (the scale factor, the
    scaled fraction, the four products and the three partial sums are `int64` values) the `int64`
    evaluation equals the unbounded model; a text without fields is an error in both. -/
theorem parse_no_overflow (i : Str) (sep : Char) (digits : Nat) (h : ParseOK i sep digits) :
    parseW i sep digits = Duration.parse i sep digits :=
  parseW_eq i sep digits h

/-- **parseDuration, clock-shaped texts.** With three fraction digits (every caller), whatever the
    fraction field is: seconds and minutes in `[0, 59]` and hours in `[0, 2 562 046]` never wrap. -/
theorem parse_no_overflow_clock (i : Str) (sep : Char)
    (hq : ∀ p q, msPart i sep 3 = some p → hmsPart p.2 = some q →
      (0 ≤ q.1 ∧ q.1 ≤ 59) ∧ (0 ≤ q.2.1 ∧ q.2.1 ≤ 59) ∧ (0 ≤ q.2.2 ∧ q.2.2 ≤ 2562046)) :
    parseW i sep 3 = Duration.parse i sep 3 := by
  refine parseW_eq _ _ _ (parseOK_iff.mpr fun p q hm hh => ?_)
  have b := msPart_bound hm
  have c := hq p q hm hh
  exact combineOK_clock (by omega) b.2 c.1 c.2.1 c.2.2

/-- … also with sloppy fields (`strconv.Atoi` accepts signs and any number of digits): seconds and
    minutes up to ±10^6, hours up to ±2 000 000. -/
theorem fields_no_overflow_wide (ms : Int) (k : Nat) (sec min h : Int)
    (hk : k ≤ 18) (hms : -999 ≤ ms * (10 : Int) ^ k ∧ ms * (10 : Int) ^ k ≤ 999)
    (hsec : -1000000 ≤ sec ∧ sec ≤ 1000000) (hmin : -1000000 ≤ min ∧ min ≤ 1000000)
    (hh : -2000000 ≤ h ∧ h ≤ 2000000) :
    combineW (scaleW ms k) sec min h = combine (ms * (10 : Int) ^ k) sec min h :=
  combineW_eq (combineOK_wide hk hms hsec hmin hh)

/-- **The hour bound is sharp.** `hours × 3600e9` alone fits exactly for `|hours| ≤ 2 562 047`; … -/
theorem hour_product_bound (h : Int) : fits64 (h * 3600000000000) ↔ -2562047 ≤ h ∧ h ≤ 2562047 := by
  unfold fits64; constructor <;> intro hh <;> omega

/-- … `2562046:59:59.999` is parsed without wrapping, `2562047:59:59.999` wraps in the last addition
    and Go returns a negative duration. -/
theorem parse_hours_sharp :
    ParseOK "2562046:59:59.999".toList '.' 3 ∧
    parseW "2562047:59:59.999".toList '.' 3 = some (-9223371273710551616) ∧
    Duration.parse "2562047:59:59.999".toList '.' 3 = some 9223372799999000000 := by decide_vector

/-- The per-format wrappers inherit the statement. -/
theorem parseSRT_no_overflow (i : Str) (h1 : ParseOK i ',' 3) (h2 : ParseOK i '.' 3) :
    parseSRTW i = Duration.parseSRT i := by
  unfold parseSRTW Duration.parseSRT; rw [parseW_eq i ',' 3 h1, parseW_eq i '.' 3 h2]; rfl

theorem parseVTT_no_overflow (i : Str) (h : ParseOK i '.' 3) : parseVTTW i = Duration.parseVTT i :=
  parseW_eq i '.' 3 h

theorem parseSSA_no_overflow (i : Str) (h : ParseOK i '.' 3) : parseSSAW i = Duration.parseSSA i :=
  parseW_eq i '.' 3 h

/-- **formatDuration cannot overflow**: `/` and `%` by the positive constants hour, minute, second
    keep every intermediate inside `int64`, for every `int64` input … -/
theorem format_no_overflow (t : Int) (ht : fits64 t) :
    fits64 (Int.tdiv t Duration.nsPerH) ∧ fits64 (Int.tmod t Duration.nsPerH) ∧
    fits64 (Int.tdiv (Int.tmod t Duration.nsPerH) Duration.nsPerMin) ∧ fits64 (Int.tmod t Duration.nsPerMin) ∧
    fits64 (Int.tdiv (Int.tmod t Duration.nsPerMin) Duration.nsPerS) ∧ fits64 (Int.tmod t Duration.nsPerS) := by
  have c1 : fits64 Duration.nsPerH := by decide
  have c2 : fits64 Duration.nsPerMin := by decide
  have c3 : fits64 Duration.nsPerS := by decide
  have m1 := fits64_tmod (a := t) c1 (by decide)
  have m2 := fits64_tmod (a := t) c2 (by decide)
  have m3 := fits64_tmod (a := t) c3 (by decide)
  exact ⟨fits64_tdiv ht (by decide), m1, fits64_tdiv m1 (by decide), m2, fits64_tdiv m2 (by decide), m3⟩

/-- … and for `t ≥ 0` Go's truncated `/`, `%` on `int64` give the digits of the (natural-number) model. -/
theorem format_int64_eq (t : Int) (sep : Char) (digits : Nat) (ht : fits64 t) (h0 : 0 ≤ t) :
    formatW t sep digits = Duration.format t sep digits := by
  obtain ⟨_, f2, _, f4, _, _⟩ := format_no_overflow t ht
  have n1 : 0 ≤ Int.tmod t Duration.nsPerH := Int.tmod_nonneg _ h0
  have n2 : 0 ≤ Int.tmod t Duration.nsPerMin := Int.tmod_nonneg _ h0
  unfold formatW Duration.format wmod
  dsimp only
  rw [wdiv_eq ht (by decide), wdiv_eq f2 (by decide), wdiv_eq f4 (by decide)]
  rw [tdiv_toNat h0 (by decide), tdiv_toNat n1 (by decide), tdiv_toNat n2 (by decide),
    tmod_toNat h0 (by decide), tmod_toNat h0 (by decide), tmod_toNat h0 (by decide)]
  rfl

/-- **The round trip of C16 holds in `int64` wherever the reader's sum does**: for every instant below 2 562 047 hours
    (`parse_hours_sharp`: one hour more wraps), writing with wrapping `/`, `%` and reading back with wrapping products and sums
    gives the instant truncated to the millisecond … -/
theorem roundtrip_int64_ms_any (t : Int) (sep : Char) (hsep : sep = '.' ∨ sep = ',')
    (h0 : 0 ≤ t) (h1 : t < 2562047 * 3600000000000) :
    parseW (formatW t sep 3) sep 3 = some (t - t % 1000000) := by
  rw [format_int64_eq t sep 3 (by unfold fits64; omega) h0, ← C16.parse_format3_int64 t sep hsep h0 (by omega)]
  obtain ⟨n, rfl⟩ : ∃ n : Nat, t = (n : Int) := ⟨t.toNat, by omega⟩
  have bf : n % 1000000000 / 1000000 / 10 ^ (3 - 3) < 1000 := by simp; omega
  exact parseW_eq _ sep 3 (parseOK_format n sep hsep 3 (.ddd bf) rfl (Nat.le_refl 3) (padLeft0_3 bf) (by omega))

/-- … and, with two digits written, to the centisecond -/
theorem roundtrip_int64_cs_any (t : Int) (sep : Char) (hsep : sep = '.' ∨ sep = ',')
    (h0 : 0 ≤ t) (h1 : t < 2562047 * 3600000000000) :
    parseW (formatW t sep 2) sep 3 = some (t - t % 10000000) := by
  rw [format_int64_eq t sep 2 (by unfold fits64; omega) h0, ← C16.parse_format2_int64 t sep hsep h0 (by omega)]
  obtain ⟨n, rfl⟩ : ∃ n : Nat, t = (n : Int) := ⟨t.toNat, by omega⟩
  have bf : n % 1000000000 / 1000000 / 10 ^ (3 - 2) < 100 := by simp; omega
  exact parseW_eq _ sep 3 (parseOK_format n sep hsep 2 (.dd bf) rfl (by decide) (padLeft0_2 bf) (by omega))

/-- **The round trip of C16 holds in `int64`** (SubRip, WebVTT, TTML clock times): for every instant
    in `[0, 100 h)`, writing with wrapping `/`, `%` and reading back with wrapping products and sums
    gives the instant truncated to the millisecond. -/
theorem roundtrip_int64_ms (t : Int) (sep : Char) (hsep : sep = '.' ∨ sep = ',')
    (h0 : 0 ≤ t) (h1 : t < 360000000000000) :
    parseW (formatW t sep 3) sep 3 = some (t - t % 1000000) :=
  roundtrip_int64_ms_any t sep hsep h0 (by omega)

/-- … and for SSA / ASS (two digits written, read at the three-digit scale): truncated to the centisecond. -/
theorem roundtrip_int64_cs (t : Int) (sep : Char) (hsep : sep = '.' ∨ sep = ',')
    (h0 : 0 ≤ t) (h1 : t < 360000000000000) :
    parseW (formatW t sep 2) sep 3 = some (t - t % 10000000) :=
  roundtrip_int64_cs_any t sep hsep h0 (by omega)

/-- In general `/` by a positive divisor and `%` by any non-zero `int64` divisor cannot overflow
    (the only overflowing quotient is `MinInt64 / -1`). -/
theorem div_mod_no_overflow (a c : Int) (ha : fits64 a) (hc : fits64 c) (hpos : 0 < c) :
    fits64 (Int.tdiv a c) ∧ fits64 (Int.tmod a c) :=
  ⟨fits64_tdiv ha hpos, fits64_tmod hc (by omega)⟩

/-- **STL frames → ns, exact**: `1e9*frames`, `+ framerate`, `- 1` representable, rate positive. -/
theorem stl_frames_no_overflow (ceil : Bool) (f fr : Int) (h : FramesOK f fr) :
    framesToNsW ceil f fr = Duration.framesToNs ceil f fr :=
  framesToNsW_eq ceil h

/-- **parseDurationSTL never wraps**, for every text and every frame rate in `(0, 2^31]`: its four
    fields have two characters, hence lie in `[-9, 255]` (`atoi_take2`). -/
theorem stl_parse_no_overflow (ceil : Bool) (i : Str) (fr : Int) (hr : 0 < fr ∧ fr ≤ 2147483648) :
    parseSTLW ceil i fr = Duration.parseSTL ceil i fr := by
  unfold parseSTLW Duration.parseSTL
  split
  · rename_i h m s f h1 h2 h3 h4
    rw [stlCombineW_eq ceil (atoi_take2 h1) (atoi_take2 h2) (atoi_take2 h3) (atoi_take2 h4) hr, h1, h2, h3, h4]
  · rename_i hne
    split
    · rename_i e1 e2 e3 e4
      exact (hne _ _ _ _ e1 e2 e3 e4).elim
    · rfl

/-- **parseDurationSTLBytes never wraps** on four bytes. -/
theorem stl_bytes_no_overflow (ceil : Bool) (b : List Nat) (fr : Int) (hb : BytesOK b)
    (hr : 0 < fr ∧ fr ≤ 2147483648) : parseSTLBytesW ceil b fr = Duration.parseSTLBytes ceil b fr := by
  unfold parseSTLBytesW Duration.parseSTLBytes
  split
  · rename_i h m s f
    have hh := hb h (by simp)
    have hm := hb m (by simp)
    have hs := hb s (by simp)
    have hf := hb f (by simp)
    exact stlCombineW_eq ceil (by omega) (by omega) (by omega) (by omega) hr
  · rename_i hne
    split
    · exact absurd rfl (hne _ _ _ _)
    · rfl

/-- **The STL formatters never wrap** for `0 ≤ t` and a frame rate up to 2^33: the chain
    `d -= Duration(delta) * unit` and `int(d.Nanoseconds()) * framerate / 1e9` in `int64` give exactly
    the hour, minute, second and frame fields of the integer model. -/
theorem stl_format_no_overflow (t : Int) (fr : Nat) (ht : fits64 t) (h0 : 0 ≤ t) (hr : fr ≤ 8589934592) :
    stlFieldsW t fr = (((stlFields t fr).1 : Int), ((stlFields t fr).2.1 : Int),
      ((stlFields t fr).2.2.1 : Int), ((stlFields t fr).2.2.2 : Int)) := by
  obtain ⟨n, rfl⟩ := Int.eq_ofNat_of_zero_le h0
  obtain ⟨eh, d1, h1, f1⟩ := wstep (U := 3600000000000) h0 ht (by decide)
  obtain ⟨em, d2, h2, f2⟩ := wstep (U := 60000000000) h1 f1 (by decide)
  rw [Int.emod_emod_of_dvd (n : Int) (m := 60000000000) (k := 3600000000000) ⟨60, rfl⟩] at d2 h2 f2
  obtain ⟨es, d3, h3, f3⟩ := wstep (U := 1000000000) h2 f2 (by decide)
  rw [Int.emod_emod_of_dvd (n : Int) (m := 1000000000) (k := 60000000000) ⟨60, rfl⟩] at d3 h3
  have ef := wframe h3 (Int.emod_lt_of_pos _ (by decide)) (Int.natCast_nonneg fr) (by omega)
  unfold stlFieldsW stlFields Duration.nsPerH Duration.nsPerMin Duration.nsPerS
  dsimp only
  rw [d1, eh, d2, em, d3, es, ef, Int.toNat_natCast]
  simp only [Int.natCast_ediv, Int.natCast_emod, Int.natCast_mul]
  rfl

/-- The frame-rate bound cannot be dropped (2^34 frames per second wrap the product). -/
theorem stl_format_range_needed : ∃ (t : Int) (fr : Nat), fits64 t ∧ 0 ≤ t ∧
    (stlFieldsW t fr).2.2.2 ≠ ((stlFields t fr).2.2.2 : Int) :=
  ⟨999999999, 17179869184, by decide⟩

/-- **TTML time expressions, exact**: the big-integer quotient that `v.Int64()` converts fits and so
    does its sum with the clock part. -/
theorem ttml_duration_no_overflow (d : TTML.InDur) (fr tr : Int) (h : DurOK d fr tr) :
    durationW d fr tr = TTML.duration d fr tr := by
  unfold DurOK at h
  unfold durationW TTML.duration unitsDurationW
  split
  · rename_i hc; rw [if_pos hc] at h; exact wrap_of_fits h
  · rename_i hc; rw [if_neg hc] at h
    split
    · rename_i h2; rw [if_pos h2] at h
      rw [wrap_of_fits h.1]; exact wadd_eq h.2
    · rfl

/-- **TTML time expressions, generous range**: clock part within ±2^62 ns, at most 2^32 whole frames
    or ticks, digit fractions; any rates. -/
theorem ttml_duration_no_overflow_range (d : TTML.InDur) (fr tr : Int) (h : DurRange d) :
    durationW d fr tr = TTML.duration d fr tr :=
  ttml_duration_no_overflow d fr tr (durOK_of_range h fr tr)

/-- `ttmlOffsetDuration` (`12.5s`, `3h` …) cannot wrap at all: the product is a big integer and the
    explicit `IsInt64` guard turns anything too large into an error. -/
theorem ttml_offset_guarded (ip fp m : Str) (v : Int) (h : TTML.offsetDuration ip fp (TTML.timebase m) = some v) :
    fits64 v := by
  unfold TTML.offsetDuration at h
  dsimp only at h
  split at h
  · rename_i hle
    cases h
    have htb : (0 : Int) ≤ TTML.timebase m := by
      unfold TTML.timebase; split
      · decide
      · split
        · decide
        · split <;> decide
    have h0 : (0 : Int) ≤ (TTML.natOfDigits (ip ++ fp) : Int) * TTML.timebase m :=
      Int.mul_nonneg (Int.natCast_nonneg _) htb
    have hp : (0 : Int) < (10 : Int) ^ fp.length := Int.pow_pos (by decide)
    have h1 := Int.ediv_nonneg h0 (Int.le_of_lt hp)
    unfold fits64; omega
  · cases h

/-- Outside it the unguarded `v.Int64()` keeps the low 64 bits: 10^10 ticks at 1 tick/s. -/
theorem ttml_duration_range_needed : ∃ (d : TTML.InDur) (fr tr : Int), fits64 d.ticks ∧
    durationW d fr tr ≠ TTML.duration d fr tr :=
  ⟨{ ticks := 10000000000 }, 0, 1, by decide⟩

end C09ovf
end Astisub
