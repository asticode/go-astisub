import Astisub.Props.C07doc2
import Astisub.Lemmas.ConvTTML

/-!
# C07 (document level) — conversion to TTML preserves the cues; all writable destinations at once

The conversion clause for the destination `ttml`, and then once for all six writable destinations
(`conv_all`: `srt`, `vtt` from `Props/C07doc.lean`, `ssa`, `ass`, `stl` under display standard 0 from
`Props/C07doc2.lean`).

## TTML

The TTML writer model ends at the element tree handed to `xml.Encoder`, the reader model starts at the
`TTMLIn` value `xml.Decoder.Decode` filled.  **`encoding/xml` in both directions is the ASSUMED CONTRACT of
`Props/C03doc.lean`**, written down as the function `TTMLDoc.unmarshal ix` (`Lemmas/TTMLDocXml.lean`), in
which the bytes of every paragraph's inner XML are an arbitrary function `ix` of its tokens.  Every statement
below that mentions `viaTTML ix` is **for every `ix`**, and is a statement about

    viaTTML ix s  =  TTML.write s,  then  TTMLDoc.unmarshal ix,  then  TTML.read.

For **every** cue list `s` — whatever its source format left in it — that is in range
(`Driver.inRange "ttml"`, the check's own clause: instants in `[0, 100 h)`) and plain (`Conv3TTML.PlainTTML`,
decidable), the conversion succeeds and returns `back` with

    Driver.convOk strict "ttml" s back = true      and      viewOf back = truncView 1000000 (viewOf s)

(same cues, same order, instants truncated to the millisecond, same text lines).

`Conv3TTML.PlainTTML s` asks for
* at least one cue; every cue has at least one line (a cue without lines comes back with one empty line:
  `convOk` still holds — `ttml_conv_rep` — but the views differ in the `blank` flag);
* every run's text `simpleText` (letters, digits, blanks, `, . ! ?`); it may be empty, and may begin or end
  with a blank.  What this excludes and must be excluded: a line feed in a text, which the reader takes for a
  line break (known finding `ttml-newline-in-text-becomes-line-break`);
* TTML's own parts representable: `TTMLZIndex`, where set (run, cue, style, region), is an integer (`attrsOk`:
  anything else makes `xml.Decode` fail); every style / region reference (run, cue, style parent, region style)
  is empty or the identifier of a defined style / region (the reader answers an error otherwise); style
  identifiers pairwise distinct, region identifiers pairwise distinct (map keys in Go);
* identifiers, references, `TTML…` attribute values, title and copyright XML-legal (the domain on which the
  `encoding/xml` contract is claimed, `TTMLDoc.xmlCarries`; simple text is XML-legal).
Everything else is free: attributes of other formats (`SRT…`, `WebVTT…`, `SSA…`, `STL…`, `Teletext…`)
anywhere, start offsets, voices, comments, indexes, how a line is cut into runs, empty runs, empty lines, all
other metadata.  `TTML…` attributes, styles, regions and references are allowed (they are not foreign).
-/

namespace Astisub
namespace C07doc3
open Go Spec.Conv Driver ConvView C07doc
open Conv3TTML (viaTTML PlainTTML)

/-- **Plain cue lists carrying foreign attributes are representable.** a plain cue list in range satisfies
    the proviso `TTMLDoc.rep` of the TTML document round trip (`C03doc.write_read`) and lies in the domain
    `TTMLDoc.xmlCarries` on which the `encoding/xml` contract is claimed; the writer answers an element tree -/
theorem ttml_plain_representable (s : Subs) (hr : inRange "ttml" s = true) (hp : PlainTTML s = true) :
    TTMLDoc.rep s = true ∧ TTMLDoc.xmlCarries s = true ∧ ∃ w, TTML.write s = some w := by
  obtain ⟨h1, h2, _⟩ := Conv3TTML.rep_of_plain s hr hp
  obtain ⟨w, hw, _⟩ := C03doc.write_read (fun _ => []) s h1 h2
  exact ⟨h1, h2, w, hw⟩

/-- **The TTML writer ignores foreign attributes.**  `eraseTTML s` keeps of every run its text, inline style
    reference and the 24 `TTML…` attributes of `TTML.attrTable`; of every line its runs; of every cue its
    instants, style and region references, `TTML…` attributes and lines; of every style / region its
    identifier, reference and `TTML…` attributes; of the metadata `Language`, `TTMLCopyright`, `Title` — and
    drops everything else (`SRT…`, `WebVTT…`, `SSA…`, `STL…`, `Teletext…` attributes, start offsets, voices,
    comments, indexes, all other metadata).  The element tree `WriteToTTML` hands to `xml.Encoder` is the
    same, for EVERY cue list. -/
theorem ttml_write_ignores_foreign (s : Subs) : TTML.write (Conv3Erase.eraseTTML s) = TTML.write s :=
  Conv3Erase.ttml_write_erase s

/-- hence the whole conversion does not see them either, and neither do the view, the range clause and
    plainness -/
theorem viaTTML_ignores_foreign (ix : List TTML.XTok → Str) (s : Subs) :
    viaTTML ix (Conv3Erase.eraseTTML s) = viaTTML ix s ∧ viewOf (Conv3Erase.eraseTTML s) = viewOf s ∧
    inRange "ttml" (Conv3Erase.eraseTTML s) = inRange "ttml" s ∧
    PlainTTML (Conv3Erase.eraseTTML s) = PlainTTML s := by
  refine ⟨?_, Conv3Erase.view_eraseTTML s, Conv3Erase.inRange_eraseTTML "ttml" s, Conv3Erase.plain_eraseTTML s⟩
  simp only [viaTTML, Conv3Erase.ttml_write_erase]

/-- **Conversion to TTML, for every representable cue list** (`TTMLDoc.rep`, `Props/C03doc.lean`: styles,
    regions, `tts:*` attributes, any text without a line feed are all allowed), under the `encoding/xml`
    contract, for every inner-XML rendering `ix`: the reader returns the normal form `TTMLDoc.norm s`, and
    `convOk` holds on (the cue list, the TTML document read back) — also when some cues have no line.  When
    every cue has a line the view of what comes back is the source's at millisecond resolution. -/
theorem ttml_conv_rep (ix : List TTML.XTok → Str) (strict : Bool) (s : Subs) (hrep : TTMLDoc.rep s = true)
    (hx : TTMLDoc.xmlCarries s = true) :
    viaTTML ix s = some (TTMLDoc.norm s) ∧ convOk strict "ttml" s (TTMLDoc.norm s) = true ∧
    ((∀ it ∈ s.items, it.lines ≠ []) → viewOf (TTMLDoc.norm s) = truncView 1000000 (viewOf s)) :=
  ⟨Conv3TTML.via_rep ix s hrep hx, Conv3TTML.convOk_norm strict s, Conv3TTML.view_norm s⟩

/-- what the conversion returns for a plain cue list, explicitly: the normal form `TTMLDoc.norm s` of
    `Props/C03doc.lean` (instants truncated to the millisecond, lines and runs kept, attributes through
    `TTMLInStyleAttributes.styleAttributes()`, styles and regions in identifier order, title, copyright, language) -/
theorem ttml_conv_back (ix : List TTML.XTok → Str) (s : Subs) (hr : inRange "ttml" s = true) (hp : PlainTTML s = true) :
    viaTTML ix s = some (TTMLDoc.norm s) := by
  obtain ⟨h1, h2, _⟩ := Conv3TTML.rep_of_plain s hr hp
  exact Conv3TTML.via_rep ix s h1 h2

/-- TTML as a destination, behind the `encoding/xml` contract with the inner-XML rendering `ix`: what comes
    back is the normal form `TTMLDoc.norm s` -/
def ttmlDest (ix : List TTML.XTok → Str) : Dest where
  dst := "ttml"
  unit := 1000000
  via := viaTTML ix
  Plain := PlainTTML
  back := TTMLDoc.norm
  ne_stl := by decide
  unit_eq := by decide
  via_back := ttml_conv_back ix
  view_back s hr hp := Conv3TTML.view_norm s (Conv3TTML.rep_of_plain s hr hp).2.2

/-- **C07, destination `ttml`.** For EVERY cue list in range and plain — whatever attributes other formats
    left in it — and every inner-XML rendering `ix` of the assumed `encoding/xml` contract, the conversion
    succeeds, and the check's predicate holds on (the cue list, the TTML document read back): same number of
    cues, same order, instants truncated to the millisecond, same text lines -/
theorem ttml_conv (ix : List TTML.XTok → Str) (strict : Bool) (s : Subs) (hr : inRange "ttml" s = true)
    (hp : PlainTTML s = true) :
    ∃ back, viaTTML ix s = some back ∧ convOk strict "ttml" s back = true ∧
      viewOf back = truncView 1000000 (viewOf s) :=
  ((ttmlDest ix).conv strict s hr hp).ex

example : PlainTTML Conv3TTML.exampleForeign = true ∧ inRange "ttml" Conv3TTML.exampleForeign = true :=
  ⟨Conv3TTML.exampleForeign_plain, Conv3TTML.exampleForeign_range⟩

/-- the rendering of the inner XML does not matter: two contracts that differ in `ix` only return the same cue list -/
theorem ttml_conv_any_ix (ix ix' : List TTML.XTok → Str) (s : Subs) (hr : inRange "ttml" s = true)
    (hp : PlainTTML s = true) : viaTTML ix s = viaTTML ix' s := by
  rw [ttml_conv_back ix s hr hp, ttml_conv_back ix' s hr hp]

/-- **The clause read on the model's cues, destination TTML**: as `C07doc.srt_conv_ops` (the hypothesis on
    `applyOps` is not used; the operations enter through the correspondence clause `hcorr`) -/
theorem ttml_conv_ops (ix : List TTML.XTok → Str) (strict : Bool) (src : Subs) (margs : List Subs) (ops : List String)
    (expected : List Item) (opsS : Subs)
    (_hops : applyOps (itemsOf src) (margs.map itemsOf) ops = some expected)
    (hcorr : vOfItems expected = viewOf opsS)
    (hr : inRange "ttml" opsS = true) (hp : PlainTTML opsS = true) :
    ∃ back, viaTTML ix opsS = some back ∧ convOk strict "ttml" opsS back = true ∧
      viewOf back = truncView 1000000 (vOfItems expected) :=
  (ttmlDest ix).conv_ops strict _ opsS hcorr hr hp

/-- as `C07doc.ops_then_convert`, destination TTML -/
theorem ops_then_ttml (ix : List TTML.XTok → Str) (xs : List Item) (args : List (List Item)) (ops : List String)
    (ys : List Item) (_hops : applyOps xs args ops = some ys)
    (hr : inRange "ttml" (subsOfItems ys) = true) (hp : PlainTTML (subsOfItems ys) = true) :
    ∃ back, viaTTML ix (subsOfItems ys) = some back ∧ viewOf back = truncView 1000000 (vOfItems ys) :=
  ops_then (ttmlDest ix) ys hr hp

/-- non-vacuity: the example of `Props/C07doc.lean` (two cues shifted by a quarter of a millisecond) -/
example : inRange "ttml" (subsOfItems exampleResult) = true ∧ PlainTTML (subsOfItems exampleResult) = true := by
  decide +kernel

/-- **SubRip, then TTML.** what SubRip returned for a plain cue list in range, every cue of which has text,
    converts to TTML, and the TTML document read back shows the original cues at millisecond resolution
    (nothing is lost at the second hop) -/
theorem srt_then_ttml (ix : List TTML.XTok → Str) (s : Subs) (hr : inRange "srt" s = true)
    (hp : ConvSRT.PlainSRT s = true) (hl : ∀ it ∈ s.items, it.lines ≠ []) :
    ∃ b1 b2, viaSRT s = some b1 ∧ viaTTML ix b1 = some b2 ∧
      convOk false "ttml" b1 b2 = true ∧ viewOf b2 = truncView 1000000 (viewOf s) :=
  have h1 := srtDest.conv false s hr hp
  have h2 := h1.next false (ttmlDest ix) (C07.trunc_idem 1000000) (Conv3Chain.plainTTML_norm_srt s hp hl)
  ⟨_, _, h1.via, h2.via, h2.ok, h2.view⟩

/-- **SubRip → TTML → SubRip keeps the view truncated to the millisecond.** three conversions in a row succeed
    and the last file shows the original cues with instants truncated to the millisecond — exactly the view
    of the first SubRip file and of the TTML document in the middle -/
theorem srt_ttml_srt (ix : List TTML.XTok → Str) (s : Subs) (hr : inRange "srt" s = true)
    (hp : ConvSRT.PlainSRT s = true) (hl : ∀ it ∈ s.items, it.lines ≠ []) :
    ∃ b1 b2 b3, viaSRT s = some b1 ∧ viaTTML ix b1 = some b2 ∧ viaSRT b2 = some b3 ∧
      viewOf b3 = truncView 1000000 (viewOf s) ∧ viewOf b3 = viewOf b2 ∧ viewOf b2 = viewOf b1 := by
  have h1 := srtDest.conv false s hr hp
  have h2 := h1.next false (ttmlDest ix) (C07.trunc_idem 1000000) (Conv3Chain.plainTTML_norm_srt s hp hl)
  have h3 := h2.next false srtDest (C07.trunc_idem 1000000) (Conv3Chain.plainSRT_norm_ttml s hp hl)
  exact ⟨_, _, _, h1.via, h2.via, h3.via, h3.view, h3.view.trans h2.view.symm, h2.view.trans h1.view.symm⟩

/-- **WebVTT, then TTML.** what WebVTT returned for a plain cue list in range, every cue of which has text,
    converts to TTML, and the TTML document read back shows the original cues at millisecond resolution -/
theorem vtt_then_ttml (ix : List TTML.XTok → Str) (s : Subs) (hr : inRange "vtt" s = true)
    (hp : ConvVTT.PlainVTT s = true) (hl : ∀ it ∈ s.items, it.lines ≠ []) :
    ∃ b1 b2, viaVTT s = some b1 ∧ viaTTML ix b1 = some b2 ∧
      convOk false "ttml" b1 b2 = true ∧ viewOf b2 = truncView 1000000 (viewOf s) :=
  have h1 := vttDest.conv false s hr hp
  have h2 := h1.next false (ttmlDest ix) (C07.trunc_idem 1000000) (Conv3Chain.plainTTML_read_vtt s hp hl)
  ⟨_, _, h1.via, h2.via, h2.ok, h2.view⟩

/-- **WebVTT → TTML → SSA loses only what centiseconds lose.** three conversions in a row succeed (when the
    SSA document passes the scanner: `docFit`, no carriage return and no line of 64 KiB or more), the check's
    predicate holds at the last hop, and the SSA file shows the original cues with instants truncated to the
    centisecond — the TTML document in the middle loses nothing the WebVTT file had -/
theorem vtt_ttml_ssa (ix : List TTML.XTok → Str) (s : Subs) (hr : inRange "vtt" s = true)
    (hp : ConvVTT.PlainVTT s = true) (hl : ∀ it ∈ s.items, it.lines ≠ [])
    (hfit : Conv2SSA.docFit (TTMLDoc.norm (VTT.readSubs (ConvVTT.flatS s))) = true) :
    ∃ b1 b2 b3, viaVTT s = some b1 ∧ viaTTML ix b1 = some b2 ∧ viaSSA b2 = some b3 ∧
      convOk false "ssa" b2 b3 = true ∧ viewOf b3 = truncView 10000000 (viewOf s) ∧ viewOf b2 = viewOf b1 := by
  have h1 := vttDest.conv false s hr hp
  have h2 := h1.next false (ttmlDest ix) (C07.trunc_idem 1000000) (Conv3Chain.plainTTML_read_vtt s hp hl)
  have h3 := h2.next false C07doc2.ssaDest C07.trunc_chain_ms_cs (Conv3Chain.plainSSA_norm_ttml_vtt s hp hl hfit)
  exact ⟨_, _, _, h1.via, h2.via, h3.via, h3.ok, h3.view, h2.view.trans h1.view.symm⟩

/-- the conversion to EBU STL as the check's model side computes it, written on day `now`: the writer model on
    the cues and metadata the stream hands it, then the reader model -/
def viaSTL (now : STL.Date) (s : Subs) : Option Subs :=
  match STL.write now (STLD.metaOf s.metadata) (s.items.map STLD.cueOf) with
  | .ok out => (match STL.read false out with
    | .ok (_, items) => some { items := items }
    | _ => none)
  | _ => none

/-- **the model pipeline of the conversion to `dst`**, for the six destination formats the library writes
    (teletext is read-only): `ix` is the inner-XML rendering of the assumed `encoding/xml` contract (used by
    `ttml` only), `now` the day of writing (used by `stl` only) -/
def viaDst (ix : List TTML.XTok → Str) (now : STL.Date) (dst : String) (s : Subs) : Option Subs :=
  if dst = "srt" then viaSRT s
  else if dst = "vtt" then viaVTT s
  else if dst = "ssa" ∨ dst = "ass" then viaSSA s
  else if dst = "stl" then viaSTL now s
  else if dst = "ttml" then viaTTML ix s
  else none

/-- **plain for the destination `dst`** (decidable): the plainness predicate of the destination's theorem; for
    `stl` also display standard 0 (the other display standards are the known finding D23) and metadata that fits -/
def PlainDst (now : STL.Date) (dst : String) (s : Subs) : Bool :=
  if dst = "srt" then ConvSRT.PlainSRT s
  else if dst = "vtt" then ConvVTT.PlainVTT s
  else if dst = "ssa" ∨ dst = "ass" then Conv2SSA.PlainSSA s
  else if dst = "stl" then
    Conv2STL.PlainSTL s && decide (SRT.kvGet s.metadata "STLDisplayStandardCode" = some "0".toList) &&
      Conv2STL.stlMetaOK now s
  else if dst = "ttml" then PlainTTML s
  else false

/-- the view the destination must return: the source's cues with every instant at the destination's
    resolution — the millisecond (`srt`, `vtt`, `ttml`), the centisecond (`ssa`, `ass`), the frame (`stl`) -/
def viewAt (dst : String) (s : Subs) : List VCue :=
  if dst = "stl" then Conv2STL.truncViewSTL s else truncView (unitOfDst dst) (viewOf s)

/-- `PlainDst` can only hold for one of the six writable destinations -/
theorem plainDst_writable (now : STL.Date) (dst : String) (s : Subs) (hp : PlainDst now dst s = true) :
    dst ∈ ["srt", "vtt", "ssa", "ass", "stl", "ttml"] := by
  unfold PlainDst at hp
  by_cases h1 : dst = "srt"
  · simp [h1]
  by_cases h2 : dst = "vtt"
  · simp [h2]
  by_cases h3 : dst = "ssa" ∨ dst = "ass"
  · rcases h3 with h | h <;> simp [h]
  by_cases h4 : dst = "stl"
  · simp [h4]
  by_cases h5 : dst = "ttml"
  · simp [h5]
  simp [h1, h2, h3, h4, h5] at hp

/-- the clause at a destination given as a `Dest`, in the vocabulary of `viaDst`, `PlainDst`, `viewAt` -/
theorem conv_at (D : Dest) (ix : List TTML.XTok → Str) (now : STL.Date) (strict : Bool) (s : Subs)
    (hv : viaDst ix now D.dst = D.via) (hP : PlainDst now D.dst = D.Plain)
    (hr : inRange D.dst s = true) (hp : PlainDst now D.dst s = true) :
    ∃ back, viaDst ix now D.dst s = some back ∧ convOk strict D.dst s back = true ∧ viewOf back = viewAt D.dst s := by
  simp only [hv, viewAt, D.ne_stl, if_false, D.unit_eq]
  exact (D.conv strict s hr (hP ▸ hp)).ex

/-- **C07 for every writable destination format.**  For `dst ∈ {srt, vtt, ssa, ass, stl, ttml}` (the
    destinations for which `PlainDst` can hold), EVERY cue list in `dst`'s range (`Driver.inRange`, the check's
    own clause) and plain for `dst` — whatever attributes other formats left in it — both modes of the check,
    every day of writing and every inner-XML rendering of the assumed `encoding/xml` contract: the model
    pipeline of the conversion succeeds, the check's predicate `convOk` holds on (the cue list, the destination
    read back), and the view of what comes back is the source's at the destination's resolution: same number
    of cues, same order, instants truncated, same text lines. -/
theorem conv_all (ix : List TTML.XTok → Str) (now : STL.Date) (strict : Bool) (dst : String) (s : Subs)
    (hr : inRange dst s = true) (hp : PlainDst now dst s = true) :
    ∃ back, viaDst ix now dst s = some back ∧ convOk strict dst s back = true ∧ viewOf back = viewAt dst s := by
  have hw := plainDst_writable now dst s hp
  simp only [List.mem_cons, List.not_mem_nil, or_false] at hw
  rcases hw with rfl | rfl | rfl | rfl | rfl | rfl
  -- `viaDst` and `PlainDst` at a literal extension reduce to the destination's pipeline and predicate
  · exact conv_at srtDest ix now strict s rfl rfl hr hp
  · exact conv_at vttDest ix now strict s rfl rfl hr hp
  · exact conv_at C07doc2.ssaDest ix now strict s rfl rfl hr hp
  · exact conv_at C07doc2.assDest ix now strict s rfl rfl hr hp
  · simp only [PlainDst, String.reduceEq, or_self, if_false, if_true, Bool.and_eq_true, decide_eq_true_eq] at hp
    obtain ⟨out, md, items, hw, hrd, hc, hv⟩ := C07doc2.stl_conv_on now strict s hr hp.1.1 hp.1.2 hp.2
    exact ⟨{ items := items }, by simp [viaDst, viaSTL, hw, hrd], hc, by simp only [viewAt, if_true, hv]⟩
  · exact conv_at (ttmlDest ix) ix now strict s rfl rfl hr hp

/-- `PlainDst` destination by destination -/
theorem plainDst_cases (now : STL.Date) (s : Subs) :
    PlainDst now "srt" s = ConvSRT.PlainSRT s ∧ PlainDst now "vtt" s = ConvVTT.PlainVTT s ∧
    PlainDst now "ssa" s = Conv2SSA.PlainSSA s ∧ PlainDst now "ass" s = Conv2SSA.PlainSSA s ∧
    PlainDst now "ttml" s = PlainTTML s ∧
    PlainDst now "stl" s = (Conv2STL.PlainSTL s &&
      decide (SRT.kvGet s.metadata "STLDisplayStandardCode" = some "0".toList) && Conv2STL.stlMetaOK now s) := by
  refine ⟨?_, ?_, ?_, ?_, ?_, ?_⟩ <;> simp [PlainDst]

/-- non-vacuity of `conv_all`: for each of the six destinations a cue list with foreign attributes that is in
    range and plain -/
example (now : STL.Date) :
    (PlainDst now "srt" ConvSRT.exampleForeign = true ∧ inRange "srt" ConvSRT.exampleForeign = true) ∧
    (PlainDst now "vtt" ConvVTT.exampleForeign = true ∧ inRange "vtt" ConvVTT.exampleForeign = true) ∧
    (PlainDst now "ttml" Conv3TTML.exampleForeign = true ∧ inRange "ttml" Conv3TTML.exampleForeign = true) ∧
    (PlainDst now "ssa" Conv2SSA.exampleForeign = true ∧ inRange "ssa" Conv2SSA.exampleForeign = true) ∧
    (PlainDst now "ass" Conv2SSA.exampleForeign = true ∧ inRange "ass" Conv2SSA.exampleForeign = true) ∧
    (PlainDst now "stl" Conv2STL.exampleSTL = true ∧ inRange "stl" Conv2STL.exampleSTL = true) := by
  have hass : inRange "ass" Conv2SSA.exampleForeign = true :=
    (inRange_congr (by decide) (by decide) _).trans Conv2SSA.exampleForeign_range
  -- `PlainDst` at a literal extension reduces to the destination's predicate
  refine ⟨⟨ConvSRT.exampleForeign_plain.1, ConvSRT.exampleForeign_plain.2⟩,
    ⟨ConvVTT.exampleForeign_plain, ConvVTT.exampleForeign_range⟩,
    ⟨Conv3TTML.exampleForeign_plain, Conv3TTML.exampleForeign_range⟩,
    ⟨Conv2SSA.exampleForeign_plain, Conv2SSA.exampleForeign_range⟩,
    ⟨Conv2SSA.exampleForeign_plain, hass⟩, ⟨?_, Conv2STL.exampleSTL_range⟩⟩
  show (Conv2STL.PlainSTL Conv2STL.exampleSTL &&
    decide (SRT.kvGet Conv2STL.exampleSTL.metadata "STLDisplayStandardCode" = some "0".toList) &&
    Conv2STL.stlMetaOK now Conv2STL.exampleSTL) = true
  rw [Conv2STL.exampleSTL_plain, Conv2STL.exampleSTL_metaOK now, decide_eq_true Conv2STL.exampleSTL_dsc]
  rfl

/-! ## TTML: which provisos are needed (witnesses)

Evaluated through the whole pipeline `viaTTML` (writer model, `encoding/xml` contract, reader model) with the
inner-XML rendering `fun _ => []` (any other gives the same, `ttml_conv_any_ix`). -/

/-- `some b`: written and read; `b` = `convOk` holds and the view is the source's at millisecond resolution -/
def ttmlOkL (s : Subs) : Option Bool :=
  match viaTTML (fun _ => []) s with
  | some back => some (convOk false "ttml" s back && (viewOf back == truncView 1000000 (viewOf s)))
  | none => none

/-- the same with `convOk` alone -/
def ttmlOkC (s : Subs) : Option Bool :=
  match viaTTML (fun _ => []) s with
  | some back => some (convOk false "ttml" s back)
  | none => none

-- plain lines pass, however they are cut into runs and with blanks at the edges
example : ttmlOkL (oneLine [{ text := "a".toList }, { text := " b ".toList }]) = some true := by decide +kernel
-- an empty cue list is not written
example : TTML.write { items := [] } = none := by decide +kernel
-- needed for `convOk` itself: a line feed in a text comes back as a line break, so the cue has two lines instead
-- of one (known finding `ttml-newline-in-text-becomes-line-break`; the view disregards white space, so the
-- source line counts as simple text "ab")
example : ttmlOkC (oneLine [{ text := "a\nb".toList }]) = some false := by decide +kernel
-- needed: a `zIndex` that is not an integer (run or cue) makes `xml.Decode` fail
example : ttmlOkL (oneLine [{ text := "a".toList, attrs := some [("TTMLZIndex".toList, "auto".toList)] }]) = none := by
  decide +kernel
example : ttmlOkL { items := [{ startAt := 0, endAt := 1000000000, attrs := some [("TTMLZIndex".toList, "auto".toList)],
                                lines := [{ items := [{ text := "a".toList }] }] }] } = none := by decide +kernel
-- needed: a reference to a style / region the document does not define is an error of the reader
example : ttmlOkL (oneLine [{ text := "a".toList, style := some "x".toList }]) = none := by decide +kernel
example : ttmlOkL { items := [{ startAt := 0, endAt := 1000000000, region := some "r".toList,
                                lines := [{ items := [{ text := "a".toList }] }] }] } = none := by decide +kernel
example : ttmlOkL { items := [{ startAt := 0, endAt := 1000000000, lines := [{ items := [{ text := "a".toList }] }] }],
                    styles := [{ id := "x".toList, ref := some "y".toList }] } = none := by decide +kernel
-- needed (the check's range clause): a negative instant does not come back
example : ttmlOkL { items := [{ startAt := -1000000, endAt := 1000000000, lines := [{ items := [{ text := "a".toList }] }] }] }
    = some false := by decide +kernel
-- needed for the view equality, not for `convOk`: a cue without lines comes back with one empty line
example : ttmlOkC { items := [{ startAt := 0, endAt := 1000000000, lines := [] }] } = some true ∧
          ttmlOkL { items := [{ startAt := 0, endAt := 1000000000, lines := [] }] } = some false := by decide +kernel
-- proviso of the statement only (`simpleText`; `ttml_conv_rep` does not need it): text that is not simple but has
-- no line feed comes back unchanged
example : ttmlOkL (oneLine [{ text := " a<é> ".toList }]) = some true := by decide +kernel

end C07doc3
end Astisub
