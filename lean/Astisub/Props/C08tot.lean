import Astisub.Lemmas.TotSTL
import Astisub.Lemmas.TotTeletextPage
import Astisub.Lemmas.TotLines
import Astisub.Lemmas.TotSSA
import Astisub.Model.TTML

/-!
# C08 (totality) — the guards of the readers suffice

The reader models totalise Go's indexing: `getD`, `head?`, `take`/`drop`, pattern matches with a
catch-all arm.  A bounds check missing from the Go code is therefore invisible in a theorem about
them.  Here the index obligations are explicit.  For each reader there is a *checked* variant
(`Lemmas/Tot*.lean`) in which every index expression `l[i]`, slice expression `l[lo:hi]`, integer
division and pointer dereference of the corresponding Go function is a primitive that can answer
`.error panic` (`Tot.idx`, `Tot.slc`, `Tot.slcFrom`, `Tot.slcTo`, `Tot.tdivC`, `Tot.deref`), and the
rest of the code — in particular every guard — is copied from the model.

Each headline theorem has the form `checked input = .ok (model input)` for **all** inputs.  It says
two things at once: (a) the checked reader never panics — the guards that are there suffice — and
(b) its value is the value of the totalised model — no default of `getD`/`head?`/`take` and no
catch-all arm is ever used, the model is faithful.  The `…_needs_…` theorems show the other
direction for the guards that were missing in the pinned code: without the guard the checked code
does panic.

For the writer models the theorems here say exactly when the answer is the error
`ErrNoSubtitlesToWrite`; their panic-aware variants are in `Props/C08tot2.lean` (`Lemmas/Tot2*.lean`).
-/

namespace Astisub
namespace C08tot
open Tot

/-- how to read the theorems below: a checked computation that equals `.ok _` did not panic -/
theorem checked_implies_no_panic {α} {c : Chk α} {a : α} (h : c = .ok a) : c.safe = true := safe_of_eq_ok h

/-- **`ReadFromSTL` never panics and is what the model says, for every byte string** (bytes are
    arbitrary naturals, `ignoreTCP` arbitrary).  Checked: the 31 slice/index expressions of
    `parseGSIBlock` on the 1024-byte block, the 11 of `parseTTIBlock` on every 128-byte block, the four
    2-character slices of `parseDurationSTL`, the four indexes of `parseDurationSTLBytes`, and the
    division by the frame rate in both.  Guards used: `readNBytes` delivers exactly 1024 / 128 bytes
    or the reader errors; unknown disk format code ⇒ error (so the frame rate is 25 or 30);
    a GSI time code shorter than 8 characters ⇒ error. -/
theorem stl_read_checked (ignoreTCP : Bool) (doc : List Nat) :
    Tot.STL.readC ignoreTCP doc = .ok (STL.read ignoreTCP doc) :=
  Tot.STL.readC_eq ignoreTCP doc

/-- (a) alone: no panic on any input -/
theorem stl_read_never_panics (ignoreTCP : Bool) (doc : List Nat) : (Tot.STL.readC ignoreTCP doc).safe = true :=
  safe_of_eq_ok (stl_read_checked ignoreTCP doc)

/-- `parseGSIBlock` on any block of exactly 1024 bytes: every fixed offset (the largest is 448) is in range -/
theorem stl_gsi_checked (b : List Nat) (hb : b.length = 1024) : Tot.STL.parseGSIC b = .ok (STL.parseGSI b) :=
  Tot.STL.parseGSIC_eq b hb

example : (List.replicate 1024 0x20).length = 1024 := List.length_replicate

/-- a GSI block that `parseGSIBlock` accepts carries a non-zero frame rate: the divisor of
    `parseDurationSTL` / `parseDurationSTLBytes` is never 0.  The guard is the error for a disk format
    code missing from `stlFramerateMapping`. -/
theorem stl_framerate_nonzero {b : List Nat} {g : STL.GSI} (h : STL.parseGSI b = some g) : g.m.framerate ≠ 0 :=
  Tot.STL.parseGSI_framerate h

/-- `parseTTIBlock` + the loop body on any block of exactly 128 bytes, for any GSI with a non-zero frame rate -/
theorem stl_tti_checked (g : STL.GSI) (off : Int) (acc : Option Nat) (p : List Nat) (hp : p.length = 128)
    (hfr : g.m.framerate ≠ 0) : Tot.STL.ttiItemC g off acc p = .ok (STL.ttiItem g off acc p) :=
  Tot.STL.ttiItemC_eq g off acc p hp hfr

/-- `parseDurationSTL` on any string of at least 8 characters and any non-zero frame rate -/
theorem stl_timecode_checked (ceil : Bool) (i : Go.Str) (fr : Int) (hlen : 8 ≤ i.length) (hfr : fr ≠ 0) :
    Tot.STL.parseSTLC ceil i fr = .ok (Duration.parseSTL ceil i fr) :=
  Tot.STL.parseSTLC_eq ceil i fr hlen hfr

/-- `parseDurationSTLBytes` on any 4 bytes and any non-zero frame rate -/
theorem stl_timecode_bytes_checked (ceil : Bool) (b : List Nat) (fr : Int) (hlen : b.length = 4) (hfr : fr ≠ 0) :
    Tot.STL.parseSTLBytesC ceil b fr = .ok (Duration.parseSTLBytes ceil b fr) :=
  Tot.STL.parseSTLBytesC_eq ceil b fr hlen hfr

/-- the length guard in front of `parseDurationSTL` is necessary: on fewer than 8 characters the slicing panics -/
theorem stl_timecode_needs_length (ceil : Bool) (i : Go.Str) (fr : Int) (hlen : i.length < 8) :
    (Tot.STL.parseSTLC ceil i fr).safe = false := by
  unfold Tot.STL.parseSTLC
  iterate 3 refine bind_not_safe fun _ => ?_
  rw [slc_panics (by omega)]
  rfl

/-- the frame rate guard is necessary: a zero frame rate is a division by zero -/
theorem stl_timecode_needs_framerate (ceil : Bool) (f : Int) : Tot.STL.framesToNsC ceil f 0 = .error .divZero := by
  cases ceil <;> rfl

/-- the block size guard is necessary: `parseTTIBlock` on a block shorter than 128 bytes panics -/
theorem stl_tti_needs_block_size (g : STL.GSI) (off : Int) (acc : Option Nat) (p : List Nat) (hp : p.length < 128) :
    (Tot.STL.ttiItemC g off acc p).safe = false := by
  unfold Tot.STL.ttiItemC
  iterate 10 refine bind_not_safe fun _ => ?_
  rw [slc_panics (by omega)]
  rfl

open Tot.Teletext in
/-- **`teletextPageBuffer.process` never panics and is what the model says, for every payload of
    bytes and every page buffer state in which "receiving" implies "has a current page"** (the state
    `newTeletextPageBuffer` creates satisfies this and `process` preserves it: `teletext_buffer_invariant`).
    Checked: `d.Data[0]`, `d.Data[offset]`, `d.Data[offset+1]`, `d.Data[offset+2:offsetEnd]` of `process`;
    `i[1]`, `i[2]`, `i[3]`, `i[4:]` of `parseDataUnit`; `i[0]`, `i[1:]` of `parsePacket`; `i[0]`, `i[1]`, `i[5]`,
    `i[7]` of `parsePacketHeader`; `i[0]`…`i[39]` and the `currentPage` dereference of `parsePacketData`;
    `i[0]`, `i[1]`, `i[2]` of `parsePacket28And29`; the 256-entry Hamming and parity tables.
    Guards used: empty payload ⇒ return; loop while two bytes are left; `offsetEnd > len` ⇒ break;
    `len(i) < 44` ⇒ skip the data unit; `parsePacketData` only while receiving. -/
theorem teletext_process_checked (b : Teletext.Buf) (data : List Nat) (t : Int) (hb : BufOk b) (hd : Bytes256 data) :
    processC b data t = .ok (Teletext.process b data t) :=
  processC_eq b data t hb hd

open Tot.Teletext in
/-- the page buffer invariant holds initially and after every call of `process` -/
theorem teletext_buffer_invariant :
    (∀ page, BufOk (Teletext.newBuf page)) ∧
    (∀ b data t, BufOk b → BufOk (Teletext.process b data t).1) :=
  ⟨newBuf_ok, process_ok⟩

open Tot.Teletext in
example : Bytes256 [0x10, 0x03, 0x2c, 0x00, 0xe4] ∧ BufOk (Teletext.newBuf 888) := ⟨by decide, newBuf_ok 888⟩

open Tot.Teletext in
/-- `parseDataUnit` on a data unit of **any** length (the `len(i) < 44` guard decides) -/
theorem teletext_data_unit_checked (b : Teletext.Buf) (i : List Nat) (id : Nat) (t : Int) (hb : BufOk b) (hi : Bytes256 i) :
    parseDataUnitC b i id t = .ok (Teletext.parseDataUnit b i id t) :=
  parseDataUnitC_eq b i id t hb hi

open Tot.Teletext in
/-- the invariant is necessary: `parsePacketData` on a buffer without a current page is a nil dereference -/
theorem teletext_data_needs_current_page (b : Teletext.Buf) (i : List Nat) (y : Nat) (hc : b.current = none) :
    parseDataC b i y = .error .nilDeref := by
  unfold parseDataC
  rw [hc]
  rfl

open Tot.Teletext in
/-- `updateCharset`'s table work never panics, for every triplet and every page character set code:
    the `*v2.g0` dereference (every entry of `teletextCharsets` has a G0 set), the G0 / national subset
    references, and the thirteen stores `d.c[positions[k]] = v` (all positions are below 96); the
    resulting table has 96 entries, which is what makes `d.c[b-0x20]` of `decode` safe for `0x20 ≤ b ≤ 0x7f` -/
theorem teletext_charset_checked (triplet code : Nat) :
    computeCharsetC triplet code = .ok (Teletext.computeCharset triplet code) ∧
    (Teletext.computeCharset triplet code).length = 96 :=
  computeCharsetC_eq triplet code

open Tot.Teletext in
/-- **the data loop of `ReadFromTeletext` and the final page parse never panic and are what the model
    says, for every sequence of demultiplexer results whose PES payloads are byte strings**, every page
    number, PID and way the pass ended -/
theorem teletext_read_checked (page pid : Nat) (pass : List Teletext.Data) (endOk : Bool) (h : ∀ d ∈ pass, DataOk d) :
    readLoopC page pid pass endOk = .ok (Teletext.readLoop page pid pass endOk) := by
  refine ite_ok (fun _ => rfl) fun _ => ?_
  -- the model's loop body is read off `readLoop` when the rest of the block is compared
  refine (bind_eq_of_ok (foldlC_inv (g := ?g) AccOk pass ?step { buf := Teletext.newBuf page } (newBuf_ok page)).1 _).trans ?rest
  case rest => rw [finishC_eq]; rfl
  intro a d ha hd
  cases d with
  | pes p sid pts pcr payload =>
    simp only
    split
    · exact ⟨rfl, ha⟩
    · cases pts.orElse fun _ => pcr with
      | none => exact ⟨rfl, ha⟩
      | some t => exact feedC_eq a payload t ha (h _ hd)
  | _ => exact ⟨rfl, ha⟩

open Tot.Teletext in
example : ∀ d ∈ [Teletext.Data.pes 256 (some 189) (some 0) none [0x10, 0x03, 0x01, 0xff], .nil, .other], DataOk d := by
  intro d hd
  simp at hd
  rcases hd with rfl | rfl | rfl
  · show Bytes256 _; decide
  · trivial
  · trivial

open Tot.Teletext in
/-- the same for the hook driver the harness compares with (`VerifTeletextRun`) -/
theorem teletext_run_checked (page : Nat) (pes : List (Int × List Nat)) (h : ∀ p ∈ pes, Bytes256 p.2) :
    runPESC page pes = .ok (Teletext.runPES page pes) := by
  unfold runPESC Teletext.runPES
  rw [bind_eq_of_ok (foldlC_inv (g := fun a p => Teletext.feed a p.2 p.1) AccOk pes
    (fun a p ha hp => feedC_eq a p.2 p.1 ha (h p hp)) { buf := Teletext.newBuf page } (newBuf_ok page)).1]
  exact finishC_eq _

/-- a string that contains the separator splits into at least two parts: `s1[1]` after
    `strings.Contains(line, "-->")` is in range, the catch-all error arm of the models is dead code -/
theorem split_after_contains (sep s : Go.Str) (hsep : sep ≠ []) (hc : Go.contains sep s = true) :
    2 ≤ (Go.splitOn sep s).length :=
  Go.splitOn_two_le hsep s hc

/-- **`ReadFromSRT` never panics and is what the model says, for every list of scanned lines**
    (`none` = a line that is not valid UTF-8).  Checked: `s1[0]`, `s1[1]`, `s2[0]`.  Guards used: the
    branch is entered only when the line contains `-->`; `len(s2) == 0` ⇒ error (repair of D4). -/
theorem srt_read_checked (lines : List (Option Go.Str)) : Tot.SRT.readC lines = .ok (SRT.read lines) :=
  Tot.SRT.readC_eq lines

/-- the `len(s2) == 0` guard is necessary: without it a line with nothing after `-->` panics -/
theorem srt_needs_field_guard : (timingUnguardedC "00:00:01,000 -->".toList).safe = false :=
  timing_unguarded_panics

/-- **`ReadFromWebVTT` never panics and is what the model says, for every list of scanned lines.**
    Checked: `left[0]`, `left[1]`, `right[0]`, `right[1:]` of the timing line; `split[0]`, `split[1]` of every
    cue setting, of every part of a `Region: ` line, of `X-TIMESTAMP-MAP=…` and of each of its parts.
    Guards used: contains `-->`; `len(right) == 0` ⇒ error; `len(split) <= 1` ⇒ error (four places). -/
theorem vtt_read_checked (lines : List (Option Go.Str)) : Tot.VTT.readC lines = .ok (VTT.read lines) :=
  Tot.VTT.readC_eq lines

/-- **`ReadFromSSA` never panics and is what the model says, for every list of scanned lines.**
    Checked: `line[1:len(line)-1]` of a section line, `line[0]` and `line[1:]` of a comment line, `split[0]`
    and `split[1:]` of a `key: value` line, `items[len(format)-1:]`, `items[len(format)-1] = …`,
    `items[:len(format)]` and every `format[idx]` of `newSSAEventFromString`, every `format[idx]` of
    `newSSAStyleFromString`.  Guards used: empty line ⇒ continue; `[` … `]` are two characters;
    `len(split) < 2` ⇒ continue; `len(format) == 0` ⇒ error; `len(items) < len(format)` ⇒ error (events);
    `len(items) != len(format)` ⇒ error (styles). -/
theorem ssa_read_checked (lines : List Go.Str) : Tot.SSA.readC lines = .ok (SSA.read lines) :=
  Tot.SSA.readC_eq lines

/-- `newSSAEventFromString` for every header, content and non-empty Format -/
theorem ssa_event_row_checked (header content : Go.Str) (format : List Go.Str) (hf : format ≠ []) :
    Tot.SSA.eventRowC header content format = .ok (SSA.eventRow header content format) :=
  Tot.SSA.eventRowC_eq header content format hf

example : (["Start".toList, "End".toList, "Text".toList] : List Go.Str) ≠ [] := by simp

/-- the `len(format) == 0` check of the caller is necessary: with an empty Format the row parser slices at -1 -/
theorem ssa_event_row_needs_format (header content : Go.Str) : (Tot.SSA.eventRowC header content []).safe = false := by
  unfold Tot.SSA.eventRowC
  simp only [List.length_nil, Nat.not_lt_zero, if_false]
  rfl

/-- `newSSAStyleFromString` for every content and every Format -/
theorem ssa_style_row_checked (content : Go.Str) (format : List Go.Str) :
    Tot.SSA.styleRowC content format = .ok (SSA.styleRow content format) :=
  Tot.SSA.styleRowC_eq content format

theorem refuses_iff {α β} {l : List α} {e x : β} (hx : x ≠ e) : (if l.isEmpty then e else x) = e ↔ l = [] := by
  cases l with
  | nil => exact ⟨fun _ => rfl, fun _ => rfl⟩
  | cons a as => exact ⟨fun h => absurd h hx, nofun⟩

/-- `WriteToSRT` refuses exactly the empty list (for any metadata, styles, regions, attributes, text) -/
theorem srt_write_refuses_iff (s : Subs) : SRT.write s = none ↔ s.items = [] := refuses_iff nofun

/-- `WriteToWebVTT` refuses exactly the empty list -/
theorem vtt_write_refuses_iff (s : Subs) : VTT.write s = none ↔ s.items = [] := refuses_iff nofun

/-- `WriteToTTML` refuses exactly the empty list -/
theorem ttml_write_refuses_iff (s : Subs) : TTML.write s = none ↔ s.items = [] := refuses_iff nofun

/-- on a non-empty cue list `WriteToSSA` answers bytes, or lies outside the modelled domain (negative times, a float
    the shortest-float model does not cover) -/
theorem ssa_write_answers (s : Subs) (h : s.items ≠ []) : (∃ b, SSA.write s = .ok b) ∨ SSA.write s = .unmodelled := by
  unfold SSA.write
  rw [if_neg (fun e => h (List.isEmpty_iff.mp e))]
  split
  · exact Or.inr rfl
  · simp only
    split
    · exact Or.inl ⟨_, rfl⟩
    · exact Or.inr rfl

/-- `WriteToSSA` refuses exactly the empty list -/
theorem ssa_write_refuses_iff (s : Subs) : SSA.write s = .err ↔ s.items = [] := by
  constructor
  · intro hw
    cases hi : s.items with
    | nil => rfl
    | cons a as =>
      rcases ssa_write_answers s (by rw [hi]; exact List.cons_ne_nil a as) with ⟨b, hb⟩ | hu
      · rw [hb] at hw; cases hw
      · rw [hu] at hw; cases hw
  · intro h
    unfold SSA.write
    rw [h]
    rfl

/-- `WriteToSTL` refuses exactly the empty list (any metadata or none) -/
theorem stl_write_refuses_iff (now : STL.Date) (md : Option STL.Meta) (cues : List STL.WCue) :
    (match STL.write now md cues with | .err => True | _ => False) ↔ cues = [] := by
  unfold STL.write
  cases cues with
  | nil => exact ⟨fun _ => rfl, fun _ => trivial⟩
  | cons c cs => cases hu : STL.writeUnmodelled md (c :: cs) <;> simp

/-- … and inside the modelled domain answers the GSI block followed by one TTI block per cue -/
theorem stl_write_answers (now : STL.Date) (md : Option STL.Meta) (cues : List STL.WCue) (h : cues ≠ [])
    (hu : STL.writeUnmodelled md cues = false) :
    (match STL.write now md cues with | .ok b => b = STL.writeBody now md cues | _ => False) := by
  unfold STL.write
  rw [if_neg (fun e => h (List.isEmpty_iff.mp e)), hu]
  simp

end C08tot
end Astisub
