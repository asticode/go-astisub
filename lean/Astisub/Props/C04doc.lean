import Astisub.Lemmas.SSAText
import Astisub.Lemmas.SSADoc

/-!
# C04 (document part) — SSA / ASS: what the writer emits is read back

`Props/C04.lean` proves the component laws (tables, booleans, colours, commas, event times).  This
file composes them into round trips of whole rows and texts of the model `SSA.write` / `SSA.read`
of the repaired `ssa.go`, for **all** values satisfying explicit decidable predicates:

* `event_row_roundtrip`: a `Dialogue` row written by `ssaEvent.string` for the writer's fixed
  Format (v4 and v4+) is parsed by `newSSAEventFromString` into the event it was written from,
  up to the normalisation `Event.norm` (centisecond times, explicit zero margins, …);
  `event_row_fixpoint`: events in normal form come back unchanged;
* `text_lines_roundtrip`, `line_runs_roundtrip`, `event_text_roundtrip`, `item_lines_roundtrip`:
  lines joined with `\n` and runs (override block + text) concatenated are cut back into the same
  lines and runs;
* `writer_format_shape`, `style_row_roundtrip`, `style_attrs_roundtrip`: for the Format the
  writer builds with `updateFormat` over any list of styles, every style's row is read back as
  the style's name and all of its attributes;
* `document_shape`, `document_body_roundtrip`: the written document is the script-info text, the styles
  block and the events block, and for `BodyOK` cue lists the two blocks are read back; the two
  document-level clauses are stated (`write_read_Statement`, `rewrite_fixpoint_Statement`).

The predicates (`EventCells`, `LineOK`, `GoodLine`, `StyleOK`, `CellOK`) are decidable; after each
group an `example` shows a non-trivial value satisfying them.
-/

namespace Astisub
namespace C04doc
open Go SSA List

/-- **Event row round trip.** For every event whose `Style`, `Name`, `Effect` contain no comma, whose
    times are below 100 h and whose integers fit 64 bits — the text may contain anything — the row
    the writer emits (`ssaEvent.string`, v4 or v4+) is parsed with the writer's Format into the same
    event in normal form: times truncated to the centisecond, margins explicit, `Layer` (v4+) or
    `Marked` (v4) explicit, `*Default` renamed `Default`, text trimmed.  Nothing else changes, whatever
    commas the text contains. -/
theorem event_row_roundtrip (e : Event) (v4plus : Bool) (hdr : Str) (h : EventCells e) :
    eventRow hdr (e.row v4plus) (eventFormat v4plus) = some (e.norm hdr v4plus) := eventRow_row e v4plus hdr h

/-- what was read back is in normal form: normalising again changes nothing -/
theorem event_norm_idem (e : Event) (v4plus : Bool) (hdr : Str) :
    (e.norm hdr v4plus).norm hdr v4plus = e.norm hdr v4plus := SSA.event_norm_idem e v4plus hdr

/-- **Event row fixpoint.** An event that is in normal form (e.g. one that was read) is parsed back
    from its row exactly: `parse (format, render row) = row`, all ten columns. -/
theorem event_row_fixpoint (e : Event) (v4plus : Bool) (h : EventCells e) (hn : e.norm e.category v4plus = e) :
    eventRow e.category (e.row v4plus) (eventFormat v4plus) = some e := by
  rw [event_row_roundtrip e v4plus e.category h, hn]

/-- … and writing what was read from a row gives the row again (write ∘ read ∘ write = write on rows):
    the normalisation does not show in the written row, provided the text needs no trimming. -/
theorem event_row_rewrite (e : Event) (v4plus : Bool) (hdr : Str) (h : EventCells e) (ht : Trimmed e.text)
    (hs : e.style ≠ "*Default".toList) :
    (e.norm hdr v4plus).row v4plus = e.row v4plus := by
  have hfmt : ∀ t : Int, TimeOK t → Duration.formatSSA (t - t % 10000000) = Duration.formatSSA t :=
    fun t ht => C16.format_idem2 t '.' ht.1
  unfold Event.row Event.norm
  cases v4plus
  · simp only [Bool.false_eq_true, ↓reduceIte, hfmt _ h.start, hfmt _ h.stop, Option.getD_some, hs,
      trimSpace_of_trimmed ht, Option.some.injEq, decide_eq_true_eq]
  · simp only [↓reduceIte, hfmt _ h.start, hfmt _ h.stop, Option.getD_some, hs, trimSpace_of_trimmed ht]

/-- non-vacuity: an event with commas and an override block in the text, a negative margin, a `;` in the effect -/
def exEvent : Event :=
  { category := "Dialogue".toList, startAt := 3723450000000, endAt := 3725000000000, layer := some 3,
    marginL := some (-20), style := "Top".toList, name := "Bob".toList, effect := "Scroll up;20".toList,
    text := "{\\an8}Hello, world\\nbye".toList }

example : EventCells exEvent := by unfold exEvent; decide_vector

/-- **Lines.** Lines that contain neither `\n` nor `\N` and need no trimming, joined with `\n` by the
    writer, are split by the reader (`\N` → `\n`, split at `\n`, trim) into exactly these lines. -/
theorem text_lines_roundtrip (ls : List Str) (hne : ls ≠ []) (h : ∀ L ∈ ls, LineOK L) :
    textLines (join "\\n".toList ls) = ls := textLines_join ls hne h

/-- **Runs.** The runs of a line — an optional plain first run, then runs that each start with an
    override block `{…}` (at least one character, no brace inside) followed by brace-free text,
    possibly empty — concatenated by the writer are cut by the reader's scanner
    (`ssaRegexpEffect`) into exactly these runs, override block and text of each. -/
theorem line_runs_roundtrip (runs : List Run) (h : GoodLine runs) :
    lineRuns (lineStr runs) = runs.map mkRun := lineRuns_lineStr runs h

/-- **Text.** Both together: the text the writer emits for lines of runs is read back as the same
    lines of the same runs. -/
theorem event_text_roundtrip (ls : List (List Run)) (hne : ls ≠ []) (hg : ∀ l ∈ ls, GoodLine l)
    (hl : ∀ l ∈ ls, LineOK (lineStr l)) :
    (textLines (join "\\n".toList (ls.map lineStr))).map lineRuns = ls.map fun l => l.map mkRun := by
  rw [textLines_join (ls.map lineStr) (by simpa using hne) (by
    intro L hL
    obtain ⟨l, hl', rfl⟩ := mem_map.mp hL
    exact hl l hl')]
  rw [map_map]
  apply map_congr_left
  intro l hl'
  exact lineRuns_lineStr l (hg l hl')

theorem writer_run (r : Run) :
    (kvGet (mkRun r).attrs "SSAEffect").getD [] ++ (mkRun r).text = runStr r := by
  obtain ⟨eo, t⟩ := r
  cases eo <;> simp [mkRun, runStr, kvGet]

/-- the text `newSSAEventFromItem` builds for a cue whose lines are these lines of runs -/
theorem writer_text (it : CItem) (voice : Str) (ls : List (List Run))
    (h : it.lines = ls.map fun l => { voice := voice, items := l.map mkRun }) :
    (eventOfItem it).text = join "\\n".toList (ls.map lineStr) := by
  unfold eventOfItem
  simp only [h, map_map]
  congr 1
  apply map_congr_left
  intro l _
  simp only [Function.comp, lineStr, map_map]
  congr 1
  apply map_congr_left
  intro r _
  exact writer_run r

/-- **Cue lines.** A cue whose lines are lines of such runs is written to a text from which
    `ssaEvent.item` rebuilds the same lines and runs (the voice of every line is the event's `Name`). -/
theorem item_lines_roundtrip (ids : List Str) (e : Event) (ls : List (List Run)) (hne : ls ≠ [])
    (hg : ∀ l ∈ ls, GoodLine l) (hl : ∀ l ∈ ls, LineOK (lineStr l))
    (ht : e.text = join "\\n".toList (ls.map lineStr)) :
    (eventItem ids e).lines = ls.map fun l => { voice := e.name, items := l.map mkRun } := by
  have := event_text_roundtrip ls hne hg hl
  unfold eventItem
  simp only [ht]
  have h2 := congrArg (map fun its => ({ voice := e.name, items := its } : Line)) this
  rw [map_map, map_map] at h2
  exact h2

/-- non-vacuity: a line with a plain first run, two override blocks, an empty last text; commas allowed -/
example : GoodLine [(none, "Hello, ".toList), (some "{\\i1}".toList, "world".toList), (some "{\\i0}".toList, [])] := by
  decide_vector
example : LineOK (lineStr [(none, "Hello, ".toList), (some "{\\i1}".toList, "world".toList), (some "{\\i0}".toList, [])]) := by
  decide_vector
/-- the predicates do exclude something: a `\N` inside a line, an empty plain run in front of a block -/
example : ¬ LineOK "a\\Nb".toList := by decide_vector
example : ¬ GoodLine [(none, []), (some "{\\i1}".toList, "world".toList)] := by decide_vector

/-- **The writer's Format.** Whatever the styles are, the Format `WriteToSSA` builds with
    `updateFormat` is `Name` followed by pairwise distinct attribute columns, among them every
    attribute any of the styles has. -/
theorem writer_format_shape (styles : List Style) :
    styles.foldl (fun fmt st => updateFormat st fmt) ["Name".toList] = formatOf (formatFlds styles)
    ∧ (formatFlds styles).Nodup
    ∧ ∀ st ∈ styles, ∀ f, (st.vals.get f).isSome → f ∈ formatFlds styles :=
  ⟨writer_format styles, formatFlds_nodup styles, fun st h f hf => formatFlds_covering styles st h f hf⟩

/-- **Style row round trip.** For any Format `Name, <distinct attribute columns>` and any style
    whose values are good cells (booleans; 32-bit colours; 64-bit integers; doubles that survive
    `FormatFloat(·,'f',3)`/`ParseFloat` in the `Numconv` model; a non-empty comma-free font name),
    the row `ssaStyle.string` writes exists and `newSSAStyleFromString` reads it back as the
    style's name and exactly its attributes in these columns (any subset of the 23: an attribute
    the style does not have is written as an empty cell and stays unset). -/
theorem style_row_roundtrip (s : Style) (fs : List Fld) (hs : StyleOK s) (hnd : fs.Nodup) :
    ∃ row, s.row (formatOf fs) = some row ∧
      styleRow row (formatOf fs) = .ok { name := s.name, vals := pick s fs } := by
  obtain ⟨row, hrow⟩ := row_exists s fs hs
  exact ⟨row, hrow, styleRow_row s fs hs hnd row hrow⟩

/-- **Style attributes round trip.** With the Format the writer builds for a list of styles, each
    of these styles is written to a row that is read back as a style with the same name and,
    attribute by attribute (all 23), the same value or the same absence. -/
theorem style_attrs_roundtrip (styles : List Style) (s : Style) (hmem : s ∈ styles) (hs : StyleOK s) :
    ∃ row back, s.row (styles.foldl (fun fmt st => updateFormat st fmt) ["Name".toList]) = some row ∧
      styleRow row (styles.foldl (fun fmt st => updateFormat st fmt) ["Name".toList]) = .ok back ∧
      back.name = s.name ∧ (∀ f, back.vals.get f = s.vals.get f) ∧ back.toDef = s.toDef := by
  obtain ⟨hfmt, hnd, hcov⟩ := writer_format_shape styles
  rw [hfmt]
  obtain ⟨row, hrow, hback⟩ := style_row_roundtrip s (formatFlds styles) hs hnd
  have hget : ∀ f, (pick s (formatFlds styles)).get f = s.vals.get f :=
    Tab.pick_get_covering s.vals _ (hcov s hmem)
  refine ⟨row, _, hrow, hback, rfl, hget, ?_⟩
  unfold Style.toDef
  simp only [hget]

/-- non-vacuity: a style with a boolean, a font name with a space, a float, a colour, a negative integer -/
def exStyle : Style :=
  { name := "Top".toList,
    vals := [(.bold, .b true), (.fontName, .s "Arial Black".toList), (.fontSize, .f 0x4034000000000000),
             (.primaryColour, .c 0x00FFFFFF), (.marginV, .i (-5))] }

example : StyleOK exStyle := by unfold exStyle; decide_vector
/-- doubles that are not multiples of 1/1000 are covered too when they survive three decimals: 0.1 -/
example : floatOK 0x3FB999999999999A = true := by decide +kernel
/-- … and 1/3 is not -/
example : floatOK 0x3FD5555555555555 = false := by decide +kernel

/-- the styles and cues of a cue list can be written and read back: every style (sorted, as the
    writer sees it) is made of good cells and needs no trimming, every cue's event has good cells
    and a text that needs no trimming -/
def BodyOK (s : Subs) : Prop :=
  (∀ st ∈ writerStyles s, StyleOK st ∧ StyleTrimmed st) ∧
  (∀ e ∈ s.items.map eventOfItem, EventCells e ∧ Trimmed e.text)

instance (s : Subs) : Decidable (BodyOK s) :=
  inferInstanceAs (Decidable ((∀ st ∈ writerStyles s, StyleOK st ∧ StyleTrimmed st) ∧
    (∀ e ∈ s.items.map eventOfItem, EventCells e ∧ Trimmed e.text)))

/-- **Shape of the written document.** Whenever `WriteToSSA` succeeds its output is the script-info
    text followed by the lines of the styles block (absent without styles) and of the events block:
    section header, `Format:` line, one `Style:` / `Dialogue:` line per style / cue. -/
theorem document_shape (s : Subs) (out : Str) (h : write s = .ok out) :
    ∃ infoLines rows,
      allSome ((writerStyles s).map fun st => st.row (formatOf (formatFlds (writerStyles s)))) = some rows ∧
      out = unlines ("[Script Info]".toList :: infoLines
              ++ stylesBlock (isV4plus s) (formatFlds (writerStyles s)) rows
              ++ eventsBlock (isV4plus s) (s.items.map eventOfItem)) := by
  obtain ⟨infoTxt, rows, hi, hrows, rfl⟩ := write_ok_lines s out h
  obtain ⟨ls, rfl⟩ := info_bytes_lines _ _ hi
  exact ⟨ls, rows, hrows, by rw [unlines_append, unlines_append]⟩

/-- **Write → read, styles and events sections.** Let the script-info lines of the written document
    take the reader to a state `st0` (hypothesis; `C04doc2.script_info_block_roundtrip` discharges it).  Then
    for every cue list with `BodyOK` the rest of the document — styles block and events block — is
    scanned without error and the reader ends with exactly: the writer's styles, each with its
    name and its attributes in the Format's columns, and one event per cue, in normal form. -/
theorem document_body_roundtrip (s : Subs) (infoLines rows : List Str) (st0 : St) (hb : BodyOK s)
    (hrows : allSome ((writerStyles s).map fun st => st.row (formatOf (formatFlds (writerStyles s)))) = some rows)
    (hinfo : run {} ("[Script Info]".toList :: infoLines) = .ok st0) (hf : st0.first = false) :
    run {} ("[Script Info]".toList :: infoLines
            ++ stylesBlock (isV4plus s) (formatFlds (writerStyles s)) rows
            ++ eventsBlock (isV4plus s) (s.items.map eventOfItem))
      = .ok { st0 with
          sec := .events, format := eventFormat (isV4plus s),
          styles := st0.styles ++ (writerStyles s).map (fun st => { name := st.name, vals := pick st (formatFlds (writerStyles s)) }),
          events := st0.events ++ (s.items.map eventOfItem).map (Event.norm "Dialogue".toList (isV4plus s)) } := by
  rw [append_assoc, run_append_ok hinfo]
  exact run_body (isV4plus s) _ (formatFlds_nodup _) (writerStyles s) rows _ st0 hf hb.1 hrows hb.2

/-- non-vacuity of `BodyOK`: a style with a boolean, a font name and a font size; a cue with two lines, an override block, a comma -/
def exSubs : Subs :=
  { items := [{ startAt := 1000000000, endAt := 2500000000, style := some "Top".toList,
                attrs := some [("SSAMarginLeft".toList, "12".toList)],
                lines := [{ voice := "Bob".toList, items := [mkRun (none, "Hello, ".toList), mkRun (some "{\\i1}".toList, "world".toList)] },
                          { voice := "Bob".toList, items := [mkRun (none, "bye".toList)] }] }],
    styles := [{ id := "Top".toList, attrs := some [("SSABold".toList, "true".toList), ("SSAFontName".toList, "Arial Black".toList),
                                                     ("SSAFontSize".toList, "f4626322717216342016".toList)] }],
    metadata := some [("SSAScriptType".toList, "v4.00+".toList)] }

example : BodyOK exSubs := by
  have h : writerStyles exSubs = exSubs.styles.map styleOfDef := by
    simp [writerStyles, exSubs]
  unfold BodyOK
  rw [h]
  decide +kernel

/-- Document-level write → read, as a statement (proved in `C04doc2.write_read` for `RepRead` and `SSA.norm`): for a representable cue list the reader,
    given the lines of the written text, answers `norm s` — the cues rebuilt from the normalised
    events against the written style names, the styles with their attributes, the metadata of the
    script info.  `Rep` is the representability predicate (at least `BodyOK`, a script info whose
    strings need no trimming and whose `Timer` survives `FormatFloat(-1)`/`ParseFloat`, distinct
    style names) and `norm` the normal form; both are parameters because they are not fixed here. -/
def write_read_Statement (Rep : Subs → Prop) (norm : Subs → Subs) : Prop :=
  ∀ s out, Rep s → write s = .ok out → SSA.read (splitC '\n' out) = .ok (norm s)

/-- The rewrite fixpoint, as a statement (proved in `C04doc2.rewrite_fixpoint` for `RepFix` and `SSA.norm`): writing what was read back gives the same text,
    so write ∘ read ∘ write = write. -/
def rewrite_fixpoint_Statement (Rep : Subs → Prop) (norm : Subs → Subs) : Prop :=
  ∀ s, Rep s → write (norm s) = write s

end C04doc
end Astisub
