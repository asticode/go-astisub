import Astisub.Lemmas.F53Ops
import Astisub.Lemmas.F53Div

/-!
# C15 (float) — the executable binary64 model is an instance of the abstract float model

`Props/C15.lean` proves the 3 ns bound, monotonicity and length scaling of linear correction over an
abstract `FloatModel`. This file closes the gap to the executable model `Go/Float53.lean` (the one
the `lib.f53` / `ops.lincorr` streams compare bit for bit with the hardware). The first three steps are proved in
`Lemmas/F53Rnd`, `F53Round`, `F53Ops`, `F53Div` and stated here under the property's names; the last is this file's own:

* `Dy.val d = m · 2^e` is the rational a dyadic stands for; `F53.rnd : ℚ → ℚ` is round-to-nearest,
  ties-to-even, 53 significant bits, defined mathematically (floor, `Int.log`) for every rational;
* `Dy.round`, `Dy.ofInt`, `Dy.mul`, `Dy.sub`, `Dy.div` compute exactly `rnd` of the exact result
  (for `div` this is the sticky-bit argument), `Dy.trunc` is `C15.tr`;
* `rnd` is monotone, has relative error ≤ 2⁻⁵³ and fixes integers up to 2⁵³: it is a `FloatModel`
  (`binary64`);
* `LinCorr.apply1` *is* `C15.applyA binary64` when the five integer → float conversions are exact (`apply1_eq_applyA`).
  The executable clauses do not go through it: `close_exec` is `C15.close_core` with the computed slope (`slope_close`:
  within `10u` of the exact one), `length_scaled_exec` is `close_exec` twice, and `monotone_exec`, `slope_nonneg_exec` use
  only that `rnd` is monotone, so they need no range at all.

The model has no exponent bounds (no overflow, no subnormals), so none of the statements about
`Dy` needs a range hypothesis; the only hypotheses are the ones on integer operands (|n| ≤ 2⁵³).
-/

namespace Astisub
namespace F53
open Go

theorem exact_eq (a1 d1 a2 d2 t : ℤ) : LinCorr.exact a1 d1 a2 d2 t = C15.exact a1 d1 a2 d2 t := by
  unfold LinCorr.exact C15.exact
  push_cast; ring

theorem int_abs_le_day {n : ℤ} (h : |(n : ℚ)| ≤ C15.day) : |n| ≤ 86400000000000 := by
  have : ((|n| : ℤ) : ℚ) ≤ ((86400000000000 : ℤ) : ℚ) := by
    rw [Int.cast_abs]; unfold C15.day at h; exact_mod_cast h
  exact_mod_cast this

theorem int_le_of_day {n : ℤ} (h : |(n : ℚ)| ≤ C15.day) : |n| ≤ 2 ^ 53 :=
  (int_abs_le_day h).trans (by norm_num)

theorem rnd_nonpos {x : ℚ} (hx : x ≤ 0) : rnd x ≤ 0 := by
  have := rnd_mono hx
  rwa [rnd_zero] at this

theorem slope_val_rnd (a1 d1 a2 d2 : ℤ) :
    (LinCorr.slope a1 d1 a2 d2).val = rnd (rnd ((d2 - d1 : ℤ) : ℚ) / rnd ((a2 - a1 : ℤ) : ℚ)) := by
  unfold LinCorr.slope
  rw [div_val, ofInt_val, ofInt_val]

theorem apply1_unfold (a1 d1 a2 d2 t : ℤ) :
    LinCorr.apply1 a1 d1 a2 d2 t
      = C15.tr (rnd ((LinCorr.slope a1 d1 a2 d2).val * rnd (t : ℚ)))
        + C15.tr (rnd (rnd (d1 : ℚ) - rnd ((LinCorr.slope a1 d1 a2 d2).val * rnd (a1 : ℚ)))) := by
  unfold LinCorr.apply1 LinCorr.intercept
  rw [trunc_val, trunc_val, mul_val, sub_val, mul_val, ofInt_val, ofInt_val, ofInt_val]

end F53

namespace C15float
open Go F53

/-- `Dy.round` computes round-to-nearest-even to 53 bits: its value is `rnd` of the input's value. -/
theorem round_eq_rnd (d : Dy) : d.round.val = rnd d.val := round_val d

/-- Rounding changes a value by at most 2⁻⁵³ of its magnitude. -/
theorem round_rel_error (d : Dy) : |d.round.val - d.val| ≤ |d.val| / 2 ^ 53 := by
  rw [round_val]
  have := rnd_err d.val
  rwa [mul_one_div] at this

/-- … more precisely by at most half a unit in the last place (`2^ex` is the spacing of doubles
    around the value). -/
theorem round_half_ulp (d : Dy) : |d.round.val - d.val| ≤ 2 ^ ex d.val / 2 := by
  rw [round_val]; exact rnd_err_ulp d.val

/-- the significand already fits in 53 bits -/
def Fits53 (d : Dy) : Prop := d.m.natAbs < 2 ^ 53

instance (d : Dy) : Decidable (Fits53 d) := by unfold Fits53; infer_instance

example : Fits53 ⟨-6004799503160661, -52⟩ := by decide
example : ¬ Fits53 ⟨2 ^ 60 + 1, 0⟩ := by decide

/-- A dyadic whose significand fits in 53 bits is returned unchanged (the same record, not just
    the same value). -/
theorem round_id (d : Dy) (h : Fits53 d) : d.round = d :=
  round_small d ((bitlen_le_iff _ _).mpr h)

theorem round_monotone (d₁ d₂ : Dy) (h : d₁.val ≤ d₂.val) : d₁.round.val ≤ d₂.round.val := by
  rw [round_val, round_val]; exact rnd_mono h

/-- Rounding depends only on the value, not on how it is written as `m · 2^e`. -/
theorem round_repr_indep (d₁ d₂ : Dy) (h : d₁.val = d₂.val) : d₁.round.val = d₂.round.val := by
  rw [round_val, round_val, h]

/-- The result is a binary64 significand: at most 53 bits, or exactly 2⁵³ (rounding carried out of
    the top bit; that is the double 1.0 · 2^(e+53)). -/
theorem round_fits (d : Dy) : d.round.m.natAbs ≤ 2 ^ 53 := round_m_le d

/-- Rounding twice is rounding once. -/
theorem round_idempotent (d : Dy) : d.round.round.val = d.round.val := by
  rw [round_val d.round]
  have h := round_m_le d
  have hi : |d.round.m| ≤ 2 ^ 53 := by
    have : (2 : ℤ) ^ 53 = ((2 ^ 53 : ℕ) : ℤ) := by norm_num
    rw [this]; exact abs_le.mpr ⟨by omega, by omega⟩
  unfold Dy.val
  rw [rnd_scale, rnd_int _ hi]

/-- sanity of `rnd` on concrete numbers: a tie goes to the even neighbour, 3/4 ulp goes up, and
    1/3 is the familiar `0x3FD5555555555555`. -/
example : rnd (2 ^ 53 + 1) = 2 ^ 53 := by
  have h := round_val ⟨2 ^ 53 + 1, 0⟩
  rw [show Dy.round ⟨2 ^ 53 + 1, 0⟩ = ⟨2 ^ 52, 1⟩ by decide] at h
  norm_num [Dy.val] at h
  norm_num; exact h.symm

example : rnd (2 ^ 53 + 3) = 2 ^ 53 + 4 := by
  have h := round_val ⟨2 ^ 53 + 3, 0⟩
  rw [show Dy.round ⟨2 ^ 53 + 3, 0⟩ = ⟨2 ^ 52 + 2, 1⟩ by decide] at h
  norm_num [Dy.val] at h
  norm_num; exact h.symm

example : rnd (1 / 3) = 6004799503160661 / 2 ^ 54 := by
  have h := div_val ⟨1, 0⟩ ⟨3, 0⟩
  rw [show Dy.div ⟨1, 0⟩ ⟨3, 0⟩ = ⟨6004799503160661, -54⟩ by decide] at h
  norm_num [Dy.val] at h
  rw [← h]; norm_num

/-- `float64(n)` is `rnd n` … -/
theorem ofInt_eq_rnd (n : ℤ) : (Dy.ofInt n).val = rnd n := ofInt_val n

/-- … and exact for |n| ≤ 2⁵³. -/
theorem ofInt_exact (n : ℤ) (h : |n| ≤ 2 ^ 53) : (Dy.ofInt n).val = n := by
  rw [ofInt_val, rnd_int n h]

example : |(86400000000000 : ℤ)| ≤ 2 ^ 53 := by decide
example : |(-(2 : ℤ) ^ 53)| ≤ 2 ^ 53 := by decide

/-- `x * y` is the correctly rounded product. -/
theorem mul_correct (x y : Dy) : (Dy.mul x y).val = rnd (x.val * y.val) := mul_val x y

/-- `x - y` is the correctly rounded difference. -/
theorem sub_correct (x y : Dy) : (Dy.sub x y).val = rnd (x.val - y.val) := sub_val x y

/-- `x / y` is the correctly rounded quotient (guard bits + sticky bit lose nothing). For `y = 0`
    the model returns 0, which is also what `/` on ℚ gives. -/
theorem div_correct (x y : Dy) : (Dy.div x y).val = rnd (x.val / y.val) := div_val x y

/-- `x / y` is within relative error 2⁻⁵³ of the exact quotient. -/
theorem div_rel_error (x y : Dy) :
    |(Dy.div x y).val - x.val / y.val| ≤ |x.val / y.val| / 2 ^ 53 := by
  rw [div_val]
  have := rnd_err (x.val / y.val)
  rwa [mul_one_div] at this

/-- Go's float → integer conversion in the model is truncation toward zero of the value. -/
theorem trunc_eq_tr (x : Dy) : x.trunc = C15.tr x.val := trunc_val x

/-- binary64 round-to-nearest-even (unbounded exponent) satisfies the abstract float model of
    `Props/C15.lean`: monotone, relative error ≤ 2⁻⁵³, exact on integers up to 2⁵³. -/
def binary64 : C15.FloatModel where
  fl := rnd
  mono := fun _ _ h => rnd_mono h
  err := fun x => by unfold C15.u; exact rnd_err x
  exactInt := fun n h => rnd_int n h

/-- **The executable linear correction is the abstract expression tree instantiated with
    binary64**, whenever the five integer → float conversions are exact (all operands at most 2⁵³
    in magnitude: about 104 days in nanoseconds). Every theorem of `Props/C15.lean` about
    `applyA F` therefore speaks about `LinCorr.apply1` in that range. -/
theorem apply1_eq_applyA (a1 d1 a2 d2 t : ℤ)
    (hD : |d2 - d1| ≤ 2 ^ 53) (hA : |a2 - a1| ≤ 2 ^ 53)
    (ha1 : |a1| ≤ 2 ^ 53) (hd1 : |d1| ≤ 2 ^ 53) (ht : |t| ≤ 2 ^ 53) :
    LinCorr.apply1 a1 d1 a2 d2 t = C15.applyA binary64 a1 d1 a2 d2 t := by
  rw [apply1_unfold, slope_val_rnd, rnd_int _ hD, rnd_int _ hA, rnd_int _ ht, rnd_int _ ha1, rnd_int _ hd1]
  rfl

example : |(3604099000000 : ℤ) - 1500000000| ≤ 2 ^ 53 ∧ |(3600000000000 : ℤ) - 1000000000| ≤ 2 ^ 53
    ∧ |(1000000000 : ℤ)| ≤ 2 ^ 53 ∧ |(1500000000 : ℤ)| ≤ 2 ^ 53 ∧ |(1800000000000 : ℤ)| ≤ 2 ^ 53 := by
  decide

theorem slope_close (a1 d1 a2 d2 : ℤ) (hs : |((d2 - d1 : ℤ) : ℚ) / ((a2 - a1 : ℤ) : ℚ)| ≤ 2) :
    |(LinCorr.slope a1 d1 a2 d2).val - ((d2 - d1 : ℤ) : ℚ) / ((a2 - a1 : ℤ) : ℚ)| ≤ 10 * C15.u := by
  rw [slope_val_rnd]
  refine (C15.slope_err binary64 _ _).trans ?_
  linarith [mul_le_mul_of_nonneg_right hs (by linarith [C15.u_pos] : 0 ≤ 5 * C15.u)]

/-- **Closeness, executable model, under exactly the hypotheses of `C15.close`.** For instants in
    `[−24 h, 24 h]` and an exact slope of magnitude at most 2, `LinCorr.apply1` — the function the
    streams compare with the Go code — lands within 3 ns of the exact affine map of
    `Model/LinCorr.lean`. The reference differences `d2 − d1`, `a2 − a1` may be arbitrarily large
    (their conversion to float is then inexact, a case the abstract tree `applyA` does not model);
    the bound still holds. -/
theorem close_exec (a1 d1 a2 d2 t : ℤ)
    (ht : |(t : ℚ)| ≤ C15.day) (ha1 : |(a1 : ℚ)| ≤ C15.day) (hd1 : |(d1 : ℚ)| ≤ C15.day)
    (hs : |((d2 - d1 : ℤ) : ℚ) / ((a2 - a1 : ℤ) : ℚ)| ≤ 2) :
    |(LinCorr.apply1 a1 d1 a2 d2 t : ℚ) - LinCorr.exact a1 d1 a2 d2 t| ≤ 3 := by
  have h := C15.close_core binary64 hs (slope_close a1 d1 a2 d2 hs) ht ha1 hd1
  rw [apply1_unfold, rnd_int _ (int_le_of_day ht), rnd_int _ (int_le_of_day ha1),
    rnd_int _ (int_le_of_day hd1), exact_eq]
  exact h

/-- non-vacuity: a correction by +0.1 % anchored at 1 s and 1 h satisfies every hypothesis -/
example :
    let a1 : ℤ := 1000000000; let d1 : ℤ := 1500000000
    let a2 : ℤ := 3600000000000; let d2 : ℤ := 3604099000000; let t : ℤ := 1800000000000
    |(t : ℚ)| ≤ C15.day ∧ |(a1 : ℚ)| ≤ C15.day ∧
      |(d1 : ℚ)| ≤ C15.day ∧ |((d2 - d1 : ℤ) : ℚ) / ((a2 - a1 : ℤ) : ℚ)| ≤ 2 := by
  refine ⟨?_, ?_, ?_, ?_⟩ <;> norm_num [C15.day, abs_le]

/-- the computed slope is non-negative when the exact one is (no range condition) -/
theorem slope_nonneg_exec (a1 d1 a2 d2 : ℤ)
    (h : 0 ≤ ((d2 - d1 : ℤ) : ℚ) / ((a2 - a1 : ℤ) : ℚ)) : 0 ≤ (LinCorr.slope a1 d1 a2 d2).val := by
  rw [slope_val_rnd]
  apply rnd_nonneg
  rcases div_nonneg_iff.mp h with ⟨h1, h2⟩ | ⟨h1, h2⟩
  · exact div_nonneg (rnd_nonneg h1) (rnd_nonneg h2)
  · exact div_nonneg_of_nonpos (rnd_nonpos h1) (rnd_nonpos h2)

/-- **Order, executable model.** With a non-negative computed slope, `apply1` preserves the order
    of instants — for all integers, no range condition. -/
theorem monotone_exec (a1 d1 a2 d2 t t' : ℤ)
    (hpos : 0 ≤ (LinCorr.slope a1 d1 a2 d2).val) (h : t ≤ t') :
    LinCorr.apply1 a1 d1 a2 d2 t ≤ LinCorr.apply1 a1 d1 a2 d2 t' := by
  rw [apply1_unfold, apply1_unfold]
  have h1 : rnd (t : ℚ) ≤ rnd (t' : ℚ) := rnd_mono (by exact_mod_cast h)
  have h2 := C15.tr_mono (rnd_mono (mul_le_mul_of_nonneg_left h1 hpos))
  omega

/-- **Length, executable model.** every cue's length is scaled by the exact slope to within 6 ns -/
theorem length_scaled_exec (a1 d1 a2 d2 s e : ℤ)
    (hs' : |(s : ℚ)| ≤ C15.day) (he : |(e : ℚ)| ≤ C15.day) (ha1 : |(a1 : ℚ)| ≤ C15.day)
    (hd1 : |(d1 : ℚ)| ≤ C15.day)
    (hsl : |((d2 - d1 : ℤ) : ℚ) / ((a2 - a1 : ℤ) : ℚ)| ≤ 2) :
    |((LinCorr.apply1 a1 d1 a2 d2 e - LinCorr.apply1 a1 d1 a2 d2 s : ℤ) : ℚ)
        - ((e : ℚ) - s) * (((d2 - d1 : ℤ) : ℚ) / ((a2 - a1 : ℤ) : ℚ))| ≤ 6 := by
  have h := C15.abs_sub_le_six (close_exec a1 d1 a2 d2 e he ha1 hd1 hsl)
    (close_exec a1 d1 a2 d2 s hs' ha1 hd1 hsl)
  convert h using 2
  unfold LinCorr.exact; push_cast; ring

end C15float
end Astisub
